import TempestVerif.Model.CtorPath
import TempestVerif.Lemmas.ConfigSpec
/-
  Facts about the abstract interpretation of `Model/CtorPath.lean` (no generated table is mentioned): rule induction on "the
  value has the shape" (`Shape.has_elim`), and by it the soundness of the closed check `useSafe` (`useSafe_sound`).  Core Lean only.
-/
namespace Model.CtorPath
open Model.ConfigSpec

/-! ### three-valued logic and interval comparisons -/

/-- `and3` is monotone in the information order: what the abstract operands decide, the concrete ones decide alike -/
theorem and3_sound {x y x' y' : Option Bool} (hx : ∀ b, x = some b → x' = some b) (hy : ∀ b, y = some b → y' = some b)
    (r : Bool) (h : and3 x y = some r) : and3 x' y' = some r := by
  rcases x with _ | a <;> rcases y with _ | b
  · cases h
  · rw [hy b rfl]
    cases b
    · rcases x' with _ | _ | _ <;> exact h
    · cases h
  · rw [hx a rfl]
    cases a
    · exact h
    · cases h
  · rw [hx a rfl, hy b rfl]
    exact h

theorem or3_sound {x y x' y' : Option Bool} (hx : ∀ b, x = some b → x' = some b) (hy : ∀ b, y = some b → y' = some b)
    (r : Bool) (h : or3 x y = some r) : or3 x' y' = some r := by
  rcases x with _ | a <;> rcases y with _ | b
  · cases h
  · rw [hy b rfl]
    cases b
    · cases h
    · rcases x' with _ | _ | _ <;> exact h
  · rw [hx a rfl]
    cases a
    · cases h
    · exact h
  · rw [hx a rfl, hy b rfl]
    exact h

theorem geOpt_le {lo hi : Option Int} {k n : Int} (h : geOpt lo k = true) (hb : inBounds lo hi n = true) : k ≤ n := by
  cases lo <;> simp [geOpt] at h
  cases hi <;> simp [inBounds] at hb <;> omega

theorem leOpt_le {lo hi : Option Int} {k n : Int} (h : leOpt hi k = true) (hb : inBounds lo hi n = true) : n ≤ k := by
  cases hi <;> simp [leOpt] at h
  cases lo <;> simp [inBounds] at hb <;> omega

theorem cmpAbs_sound (op : Cmp) (lo hi : Option Int) (k n : Int) (b : Bool) (hb : inBounds lo hi n = true)
    (h : cmpAbs op lo hi k = some b) : op.int n k = b := by
  -- each of the eight answers of `cmpAbs` rests on one end of the interval: `leOpt_le` or `geOpt_le`, then linear arithmetic
  cases op <;> simp only [cmpAbs] at h <;> split at h <;> (try split at h) <;> cases h <;>
    simp only [Cmp.int, decide_eq_true_eq, decide_eq_false_iff_not] <;>
    first | (have := leOpt_le (by assumption) hb; omega) | (have := geOpt_le (by assumption) hb; omega)

/-! ### what a value of a given shape looks like, and how a type given as a list of shapes is taken apart -/

section
variable {e : Ext} {c : Cfg} {v : V}

/-- rule induction on "value `v` has shape `s`": the sixteen ways `Shape.has` can be true -/
theorem Shape.has_elim {motive : Shape → V → Prop}
    (none : motive .none .none)
    (int : ∀ lo hi n, inBounds lo hi n = true → motive (.int lo hi) (.int n))
    (boolTrue : motive .boolTrue (.bool true))
    (boolAny : ∀ b, motive .boolAny (.bool b))
    (floatPosFin : ∀ q : Rat, 0 < q → motive .floatPosFin (.float (.fin q)))
    (floatNotLe0 : ∀ f, FV.le f (.fin 0) = false → motive .floatNotLe0 (.float f))
    (floatAny : ∀ f, motive .floatAny (.float f))
    (strIn : ∀ l s, l.contains s = true → motive (.strIn l) (.str s))
    (strAny : ∀ s, motive .strAny (.str s))
    (idxList : ∀ l, idxAll c idxItem l = true → motive .idxList (.list l))
    (idxIter : ∀ v l, v.iter? = some l → idxAll c idxItemB l = true → motive .idxIter v)
    (listAny : ∀ l, motive .listAny (.list l))
    (path : motive .path .path)
    (callable : motive .callable .callable)
    (otherMap : e.otherHasMap = true → motive .otherMap .other)
    (any : ∀ v, motive .any v)
    {s : Shape} (h : s.has e c v = true) : motive s v := by
  cases s with
  | none => cases v <;> first | (cases h; done) | exact none
  | int lo hi => cases v <;> first | (cases h; done) | exact int _ _ _ h
  | boolTrue => cases v <;> first | (cases h; exact boolTrue) | cases h
  | boolAny => cases v <;> first | (cases h; done) | exact boolAny _
  | floatPosFin =>
    cases v with
    | float f => cases f <;> first | (cases h; done) | exact floatPosFin _ (of_decide_eq_true h)
    | _ => cases h
  | floatNotLe0 => cases v <;> first | (cases h; done) | exact floatNotLe0 _ (by simpa [Shape.has] using h)
  | floatAny => cases v <;> first | (cases h; done) | exact floatAny _
  | strIn l => cases v <;> first | (cases h; done) | exact strIn _ _ h
  | strAny => cases v <;> first | (cases h; done) | exact strAny _
  | idxList => cases v <;> first | (cases h; done) | exact idxList _ h
  | idxIter =>
    cases hi : v.iter? with
    | none => simp [Shape.has, hi] at h
    | some l => exact idxIter v l hi (by simpa [Shape.has, hi] using h)
  | listAny => cases v <;> first | (cases h; done) | exact listAny _
  | path => cases v <;> first | (cases h; done) | exact path
  | callable => cases v <;> first | (cases h; done) | exact callable
  | otherMap => cases v <;> first | (cases h; done) | exact otherMap h
  | any => exact any v

theorem Shape.int_has {lo hi : Option Int} (h : Shape.has e c (.int lo hi) v = true) :
    ∃ n, v = .int n ∧ inBounds lo hi n = true := by
  cases v <;> first | (cases h; done) | exact ⟨_, rfl, h⟩

theorem Shape.floatPosFin_has (h : Shape.has e c .floatPosFin v = true) : ∃ q, v = .float (.fin q) ∧ 0 < q := by
  cases v with
  | float f => cases f <;> first | (cases h; done) | exact ⟨_, rfl, of_decide_eq_true h⟩
  | _ => cases h

theorem Shape.idxList_has (h : Shape.has e c .idxList v = true) : ∃ l, v = .list l ∧ idxAll c idxItem l = true := by
  cases v <;> first | (cases h; done) | exact ⟨_, rfl, h⟩

theorem idxAll_elim {p : Int → V → Bool} {l : List V} (h : idxAll c p l = true) :
    ∃ d, (c .n_dim).intVal? = some d ∧ ∀ x ∈ l, p d x = true := by
  unfold idxAll at h
  cases hd : (c .n_dim).intVal? with
  | none => simp [hd] at h
  | some d => exact ⟨d, rfl, by simpa [hd] using h⟩

theorem Ty.has_one {s : Shape} (h : Ty.has e c [s] v = true) : s.has e c v = true := by
  simpa [Ty.has] using h

theorem Ty.has_cons {s : Shape} {t : Ty} (h : Ty.has e c (s :: t) v = true) : s.has e c v = true ∨ Ty.has e c t v = true := by
  simpa [Ty.has] using h

theorem Ty.of_head {s : Shape} {t : Ty} (h : s.has e c v = true) : Ty.has e c (s :: t) v = true := by
  simp [Ty.has, h]

theorem Ty.of_tail (s : Shape) {t : Ty} (h : Ty.has e c t v = true) : Ty.has e c (s :: t) v = true := by
  simp only [Ty.has, List.any_cons, Bool.or_eq_true] at h ⊢
  exact Or.inr h

theorem Ty.int_ge {l n : Int} {t : Ty} (h : l ≤ n) : Ty.has e c (.int (some l) none :: t) (.int n) = true := by
  simp [Ty.has, Shape.has, inBounds, h]

end

theorem Shape.has_congr_ndim (e : Ext) (c c' : Cfg) (h : c .n_dim = c' .n_dim) (s : Shape) (v : V) :
    s.has e c v = s.has e c' v := by
  have hi : ∀ p l, idxAll c p l = idxAll c' p l := fun p l => by simp only [idxAll, h]
  cases s <;> first | rfl | (cases v <;> first | rfl | exact hi _ _ | (rename_i f; cases f <;> rfl))

theorem Ty.has_congr_ndim (e : Ext) (c c' : Cfg) (h : c .n_dim = c' .n_dim) (t : Ty) (v : V) :
    Ty.has e c t v = Ty.has e c' t v := by
  simp only [Ty.has]
  congr 1
  funext s
  exact Shape.has_congr_ndim e c c' h s v

/-! ### guards: what the abstract evaluation decides, the concrete one decides alike -/

theorem G.eval_not (e : Ext) (c : Cfg) (g : G) (hg : ∀ n, g ≠ .fact n) : G.eval e c (.not g) = (G.eval e c g).map (!·) := by
  cases g <;> simp [G.eval] at hg ⊢

/-- a guard on the option `f` itself: abstractly `a` (read off the shape of `f`), concretely `p (c f)` -/
theorem atom_sound {e : Ext} {c : Cfg} {f g : Field} {s : Shape} (hs : s.has e c (c f) = true) {a : Option Bool}
    {p : V → Bool} {b : Bool} (h : (if g = f then a else none) = some b)
    (H : ∀ {v}, s.has e c v = true → a = some b → p v = b) : some (p (c g)) = some b := by
  by_cases hg : g = f
  · subst hg
    rw [if_pos rfl] at h
    exact congrArg some (H hs h)
  · rw [if_neg hg] at h
    cases h

theorem aeval_sound (e : Ext) (c : Cfg) (f : Field) (s : Shape) (hs : s.has e c (c f) = true) :
    ∀ (g : G) (b : Bool), G.aeval f s g = some b → G.eval e c g = some b := by
  intro g
  induction g
  case tt => intro b h; exact h
  case unknown | fact | truthy => intro b h; cases h
  -- the two type tests: by the rule that gives the value its shape; the table and the test both compute
  case isNone g | isInt g =>
    intro b h
    simp only [G.aeval] at h
    refine atom_sound hs h fun hs' => ?_
    apply Shape.has_elim (h := hs') <;> intros <;> rename_i h <;> first | (cases h; rfl) | (cases h; done) | skip
    case idxIter v l hi _ => cases h; cases v <;> first | rfl | cases hi
  case cmpK op g k =>
    intro b h
    simp only [G.aeval] at h
    by_cases hg : g = f
    · subst hg
      simp only [if_true] at h
      cases s <;> try cases h
      rename_i lo hi
      obtain ⟨n, hv, hb⟩ := Shape.int_has hs
      simp [G.eval, hv, V.cmpNum, V.intVal?, cmpAbs_sound op lo hi k n b hb h]
    · simp [hg] at h
  case eqStr g t =>
    intro b h
    simp only [G.aeval] at h
    refine atom_sound (p := fun v => match v with | .str u => u == t | _ => false) hs h fun hs' => ?_
    apply Shape.has_elim (h := hs') <;> intros <;> rename_i h <;> first | (cases h; rfl) | (cases h; done) | skip
    case strIn l u hu =>
      replace h : (if l.contains t = true then none else some false) = some b := h
      by_cases ht : l.contains t = true
      · rw [if_pos ht] at h; cases h
      · rw [if_neg ht] at h
        cases h
        have : u ≠ t := fun he => ht (he ▸ hu)
        simp [this]
  case not g ih =>
    intro b h
    simp only [G.aeval] at h
    cases hg : G.aeval f s g with
    | none => simp [hg] at h
    | some x =>
      simp [hg] at h
      have hx := ih x hg
      have hnf : ∀ n, g ≠ .fact n := by
        intro n hn; subst hn; simp [G.aeval] at hg
      rw [G.eval_not e c g hnf, hx]; simp [h]
  case and a b iha ihb => exact fun r h => and3_sound iha ihb r h
  case or a b iha ihb => exact fun r h => or3_sound iha ihb r h

/-! ### contexts: safe for a shape means defined for every value of the shape -/

theorem finiteNum_toFV (e : Ext) (c : Cfg) (s : Shape) (v : V) (hf : s.finiteNum = true) (hs : s.has e c v = true) :
    ∃ q, v.toFV? = some (.fin q) := by
  revert hf
  apply Shape.has_elim (h := hs) <;> intros <;> rename_i hf <;> first | exact ⟨_, rfl⟩ | cases hf

theorem ty_finite (e : Ext) (c : Cfg) (t : Ty) (v : V) (hf : t.all Shape.finiteNum = true) (hs : Ty.has e c t v = true) :
    ∃ q, v.toFV? = some (.fin q) := by
  simp only [Ty.has, List.any_eq_true] at hs
  obtain ⟨s, hmem, hhas⟩ := hs
  exact finiteNum_toFV e c s v (List.all_eq_true.mp hf s hmem) hhas

theorem firstBad_ok (f : V → R) (l : List V) (h : ∀ x ∈ l, f x = .ok) : firstBad f l = .ok := by
  induction l with
  | nil => rfl
  | cons x xs ih =>
    simp only [firstBad, h x (List.mem_cons_self ..)]
    exact ih fun y hy => h y (List.mem_cons_of_mem _ hy)

theorem idxItem_idxItemB {d : Int} {x : V} (h : idxItem d x = true) : idxItemB d x = true := by
  cases x <;> first | exact h | cases h

theorem elemSem_idxItemB (d : Int) (x : V) (h : idxItemB d x = true) : elemSem d x = .ok := by
  cases x <;> simp [idxItemB, V.intVal?] at h <;> simp [elemSem]
  omega

theorem hashable_idxItemB (d : Int) (x : V) (h : idxItemB d x = true) : x.hashable = true := by
  unfold idxItemB at h
  cases hi : x.intVal? with
  | none => rw [hi] at h; cases h
  | some i => exact hashable_of_intVal hi

theorem intOfMul_ok {e : Ext} {c : Cfg} {tyOf : Field → Ty} (hty : ∀ f, Ty.has e c (tyOf f) (c f) = true) {other : Field}
    {v : V} {q : Rat} (hq : v.toFV? = some (.fin q)) (hfin : (tyOf other).all Shape.finiteNum = true) :
    sem e c (.intOfMul other) v = .ok := by
  obtain ⟨r, hr⟩ := ty_finite e c (tyOf other) (c other) hfin (hty other)
  simp [sem, hq, hr, FV.mul]

theorem toSet_ok {l : List V} {v : V} (hi : v.iter? = some l) (hl : ∀ x ∈ l, x.hashable = true) : ∃ x, v.toSet = .ok x := by
  simp [V.toSet, hi, List.all_eq_true.mpr hl]

theorem ctxSafe_sound (e : Ext) (c : Cfg) (tyOf : Field → Ty) (hty : ∀ f, Ty.has e c (tyOf f) (c f) = true)
    (ctx : Ctx) (s : Shape) (v : V) (hsafe : ctxSafe tyOf ctx s = true) (hs : s.has e c v = true) :
    sem e c ctx v = .ok := by
  revert hsafe
  -- by the rule that gives `v` its shape, then by context: in most combinations `ctxSafe` is `false` or `sem` computes to `ok`
  apply Shape.has_elim (h := hs) <;> intros <;> rename_i hsafe <;> cases ctx <;> first | (cases hsafe; done) | rfl | skip
  case int.modRight lo hi n hb =>
    have : n ≠ 0 := by
      rcases (Bool.or_eq_true _ _).mp hsafe with h | h
      · have := geOpt_le h hb; omega
      · have := leOpt_le h hb; omega
    simp [sem, this]
  case int.intOfMul | boolTrue.intOfMul | boolAny.intOfMul | floatPosFin.intOfMul => exact intOfMul_ok hty rfl hsafe
  case int.shape lo hi n hb | int.poolCount lo hi n hb =>
    have := geOpt_le hsafe hb
    simp [sem]; omega
  case int.seed lo hi n hb =>
    obtain ⟨h1, h2⟩ := (Bool.and_eq_true _ _).mp hsafe
    have := geOpt_le h1 hb
    have := leOpt_le h2 hb
    simp [sem]; omega
  case floatPosFin.modRight q hq =>
    have : q ≠ 0 := fun h => by rw [h] at hq; exact absurd hq (by decide)
    simp [sem, this]
  case floatNotLe0.modRight f hf =>
    cases f <;> simp [FV.le] at hf ⊢ <;> simp [sem]
    rintro rfl; simp at hf
  case strIn.setUpdate | strAny.setUpdate => simp [sem, V.toSet, V.iter?, V.hashable]
  case strIn.dtype l s hs =>
    have : s ∈ goodDtypes := by simpa using List.all_eq_true.mp hsafe s (by simpa using hs)
    simp [sem, this]
  case idxList.elemIndex l hl =>
    obtain ⟨d, hd, hl⟩ := idxAll_elim hl
    simp only [sem, V.iter?, hd]
    exact firstBad_ok _ _ fun x hx => elemSem_idxItemB d x (idxItem_idxItemB (hl x hx))
  case idxList.setUpdate l hl =>
    obtain ⟨d, hd, hl⟩ := idxAll_elim hl
    obtain ⟨x, hx⟩ := toSet_ok (v := .list l) rfl fun x hx => hashable_idxItemB d x (idxItem_idxItemB (hl x hx))
    simp [sem, hx]
  case idxIter.iter v l hi hl | idxIter.star v l hi hl => simp [sem, hi]
  case idxIter.elemIndex v l hi hl =>
    obtain ⟨d, hd, hl⟩ := idxAll_elim hl
    simp only [sem, hi, hd]
    exact firstBad_ok _ _ fun x hx => elemSem_idxItemB d x (hl x hx)
  case idxIter.setUpdate v l hi hl =>
    obtain ⟨d, hd, hl⟩ := idxAll_elim hl
    obtain ⟨x, hx⟩ := toSet_ok hi fun x hx => hashable_idxItemB d x (hl x hx)
    simp [sem, hx]
  case otherMap.attrMap h => simp [sem, h]

/-! ### the closed check on one table entry -/

theorem splitInt_covers (e : Ext) (c : Cfg) (lo hi : Option Int) (k : Int) (v : V) (h : (Shape.int lo hi).has e c v = true) :
    ∃ s' ∈ splitInt lo hi k, s'.has e c v = true := by
  cases v <;> simp [Shape.has] at h
  rename_i n
  by_cases hn : n ≤ k
  · refine ⟨_, List.mem_cons_self .., ?_⟩
    cases lo <;> cases hi <;> simp [Shape.has, inBounds] at h ⊢ <;> omega
  · refine ⟨_, List.mem_cons_of_mem _ (List.mem_cons_self ..), ?_⟩
    cases lo <;> cases hi <;> simp [Shape.has, inBounds] at h ⊢ <;> omega

theorem refine_covers (e : Ext) (c : Cfg) (g : G) (s : Shape) (v : V) (h : s.has e c v = true) :
    ∃ s' ∈ refineShape g s, s'.has e c v = true := by
  cases s <;> try exact ⟨_, List.mem_cons_self .., h⟩
  rename_i lo hi
  simp only [refineShape]
  cases cmpConsts g with
  | nil => exact ⟨_, List.mem_cons_self .., h⟩
  | cons k _ => exact splitInt_covers e c lo hi k v h

theorem emptyInt_not_has (e : Ext) (c : Cfg) (s : Shape) (v : V) (h : emptyInt s = true) : s.has e c v = false := by
  cases s <;> simp [emptyInt] at h
  rename_i lo hi
  cases lo <;> cases hi <;> simp at h
  cases v <;> simp [Shape.has, inBounds]
  omega

/-- **soundness of the closed check**: an entry that passes `useSafe` is defined (or unreachable) in every configuration
    whose options have the declared types -/
theorem useSafe_sound (e : Ext) (c : Cfg) (tyOf : Field → Ty) (hty : ∀ f, Ty.has e c (tyOf f) (c f) = true) (u : Use)
    (h : useSafe tyOf u = true) : useOK e c u = true := by
  have hv := hty u.opt
  simp only [Ty.has, List.any_eq_true] at hv
  obtain ⟨s, hmem, hhas⟩ := hv
  obtain ⟨s', hmem', hhas'⟩ := refine_covers e c u.guard s (c u.opt) hhas
  simp only [useSafe, List.all_eq_true] at h
  have h' := h s hmem s' hmem'
  simp only [Bool.or_eq_true] at h'
  simp only [useOK, Bool.or_eq_true]
  rcases h' with (h1 | h2) | h3
  · rw [emptyInt_not_has e c s' _ h1] at hhas'; cases hhas'
  · left
    have := aeval_sound e c u.opt s' hhas' u.guard false (by simpa using h2)
    simp [this]
  · right
    simp [useSem, ctxSafe_sound e c tyOf hty _ s' _ h3 hhas']

theorem glueTotal_of_safe (e : Ext) (c : Cfg) (tyOf : Field → Ty) (hty : ∀ f, Ty.has e c (tyOf f) (c f) = true) (uses : List Use)
    (h : uses.all (useSafe tyOf) = true) : glueTotal e uses c = true := by
  simp only [glueTotal, List.all_eq_true] at h ⊢
  exact fun u hu => useSafe_sound e c tyOf hty u (h u hu)

/-! ### the names a rule table accepts for an option -/

theorem acceptedNames_mem (rules : List Rule) (f : Field) (lits : List String) (h : acceptedNames rules f = some lits) :
    ∃ r ∈ rules, r.cond = .notIn f lits := by
  unfold acceptedNames at h
  obtain ⟨r, hr, hx⟩ := List.exists_of_findSome?_eq_some h
  refine ⟨r, hr, ?_⟩
  cases hc : r.cond <;> simp [hc] at hx
  obtain ⟨h1, h2⟩ := hx
  subst h1; subst h2; rfl

theorem accepted_name_of_validate (rules : List Rule) (c : Cfg) (f : Field) (lits : List String)
    (hn : acceptedNames rules f = some lits) (h : validate rules c = .accept) : (c f).notIn lits = false := by
  obtain ⟨r, hr, hc⟩ := acceptedNames_mem rules f lits hn
  have := (validate_accept_iff _ _).mp h r hr
  rw [hc] at this
  simpa [eval_notIn] using this

end Model.CtorPath
