import Mathlib.LinearAlgebra.Matrix.PosDef
import Mathlib.Analysis.Matrix.Order
import Mathlib.Algebra.Order.Star.Real
import Mathlib.LinearAlgebra.Matrix.DotProduct
import Mathlib.LinearAlgebra.Matrix.Trace
/-
  The weighted scatter matrix `Σᵢ wᵢ · cᵢ cᵢᵀ` of vectors `cᵢ` with weights `wᵢ`: the covariance of `volume_variation` (C20, `cᵢ = xᵢ − mean`),
  the scale update of `fit_mvstud` (C19, `cᵢ = xᵢ − μ`, divided by `n`).  Its quadratic form is `Σ wᵢ (cᵢ·v)²`; for weights `≥ 0` it is
  positive semi-definite with kernel `{v | cᵢ·v = 0 where wᵢ ≠ 0}`; its trace is `Σ wᵢ |cᵢ|²`; under `cᵢ ↦ A cᵢ` it becomes `A S Aᵀ`.
  Last, for any positive semi-definite `S` (a scatter matrix or not): `S + r·1`, `r > 0`, is invertible — the regularised covariance.
  (The list-of-rows covariance of `GaussianMixture`, C15, is the same matrix in the vocabulary of `Lemmas/CholList.lean`; there is no bridge.)
-/
namespace Lemmas.Scatter
open Matrix
variable {ι κ : Type} [Fintype ι] [Fintype κ]

def scatter (w : ι → ℝ) (c : ι → κ → ℝ) : Matrix κ κ ℝ := ∑ i, w i • vecMulVec (c i) (c i)

theorem scatter_map_mulVec (A : Matrix κ κ ℝ) (w : ι → ℝ) (c : ι → κ → ℝ) :
    scatter w (fun i => A *ᵥ c i) = A * scatter w c * Aᵀ := by
  unfold scatter
  rw [Matrix.mul_sum, Matrix.sum_mul]
  refine Finset.sum_congr rfl fun i _ => ?_
  rw [Matrix.mul_smul, Matrix.smul_mul, mul_vecMulVec, vecMulVec_mul, vecMul_transpose]

theorem scatter_mulVec (w : ι → ℝ) (c : ι → κ → ℝ) (v : κ → ℝ) :
    scatter w c *ᵥ v = ∑ i, (w i * (c i ⬝ᵥ v)) • c i := by
  unfold scatter
  rw [sum_mulVec]
  refine Finset.sum_congr rfl fun i _ => ?_
  rw [smul_mulVec, vecMulVec_mulVec, op_smul_eq_smul, smul_smul]

theorem scatter_quadForm (w : ι → ℝ) (c : ι → κ → ℝ) (v : κ → ℝ) :
    v ⬝ᵥ (scatter w c *ᵥ v) = ∑ i, w i * (c i ⬝ᵥ v) ^ 2 := by
  rw [scatter_mulVec, dotProduct_sum]
  refine Finset.sum_congr rfl fun i _ => ?_
  rw [dotProduct_smul, dotProduct_comm v, smul_eq_mul, sq, mul_assoc]

theorem scatter_trace (w : ι → ℝ) (c : ι → κ → ℝ) : trace (scatter w c) = ∑ i, w i * (c i ⬝ᵥ c i) := by
  unfold scatter
  rw [trace_sum]
  refine Finset.sum_congr rfl fun i _ => ?_
  rw [trace_smul, trace_vecMulVec, smul_eq_mul]

theorem scatter_posSemidef (w : ι → ℝ) (c : ι → κ → ℝ) (hw : ∀ i, 0 ≤ w i) : (scatter w c).PosSemidef :=
  posSemidef_sum _ fun i _ => (posSemidef_vecMulVec_self_star (c i)).smul (hw i)

omit [Fintype κ] in
theorem sum_mul_eq_zero_iff (w q : ι → ℝ) (hw : ∀ i, 0 ≤ w i) (hq : ∀ i, 0 ≤ q i) :
    ∑ i, w i * q i = 0 ↔ ∀ i, w i ≠ 0 → q i = 0 := by
  rw [Finset.sum_eq_zero_iff_of_nonneg fun i _ => mul_nonneg (hw i) (hq i)]
  simp only [Finset.mem_univ, forall_true_left, mul_eq_zero, or_iff_not_imp_left]

theorem scatter_mulVec_eq_zero_iff (w : ι → ℝ) (c : ι → κ → ℝ) (hw : ∀ i, 0 ≤ w i) (v : κ → ℝ) :
    scatter w c *ᵥ v = 0 ↔ ∀ i, w i ≠ 0 → c i ⬝ᵥ v = 0 := by
  rw [← (scatter_posSemidef w c hw).dotProduct_mulVec_zero_iff, star_trivial, scatter_quadForm,
    sum_mul_eq_zero_iff w _ hw fun i => sq_nonneg _]
  simp only [pow_eq_zero_iff two_ne_zero]

theorem scatter_trace_eq_zero_iff (w : ι → ℝ) (c : ι → κ → ℝ) (hw : ∀ i, 0 ≤ w i) :
    trace (scatter w c) = 0 ↔ ∀ i, w i ≠ 0 → c i = 0 := by
  rw [scatter_trace, sum_mul_eq_zero_iff w (fun i => c i ⬝ᵥ c i) hw fun i => Finset.sum_nonneg fun k _ => mul_self_nonneg (c i k)]
  simp only [dotProduct_self_eq_zero]

variable [DecidableEq κ]

theorem posSemidef_add_smul_one_isUnit_det {S : Matrix κ κ ℝ} (hS : S.PosSemidef) {r : ℝ} (hr : 0 < r) :
    IsUnit (S + r • (1 : Matrix κ κ ℝ)).det :=
  (Matrix.isUnit_iff_isUnit_det _).mp (PosDef.posSemidef_add hS (PosDef.one.smul hr)).isUnit

end Lemmas.Scatter
