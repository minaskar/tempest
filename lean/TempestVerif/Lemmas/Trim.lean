import TempestVerif.Model.Trim
import TempestVerif.Lemmas.Ess
import TempestVerif.Lemmas.SortReal
/-
  `Model.Trim` (`trim_weights` and the numpy routines it calls).  numpy's percentile enters through its case form `percentile_cases`, the
  grid through its closed form; the loop is inverted once at every scalar type and read at `ℝ` (`trimStop_spec`, `trim_spec`).  On valid
  weights a pass is the upper set of a threshold (`PassValid`), which is what `trim_spec_valid` and `trim_valid` say of the call.
-/
namespace Model.Trim
open Model.Ess

/-! ### the sorted array -/

theorem sortAsc_perm (w : List ℝ) : (sortAsc w).Perm w := Lemmas.SortReal.sort_perm w

theorem sortAsc_sorted (w : List ℝ) : (sortAsc w).Pairwise (· ≤ ·) := Lemmas.SortReal.sort_sorted w

theorem sortAsc_ne_nil {w : List ℝ} (h : w ≠ []) : sortAsc w ≠ [] :=
  fun e => h (e ▸ (sortAsc_perm w).symm).eq_nil

theorem sortAsc_eq {w s : List ℝ} (hp : w.Perm s) (hs : s.Pairwise (· ≤ ·)) : sortAsc w = s :=
  Lemmas.SortReal.sort_eq hp hs

theorem sorted_mono (sorted : List ℝ) (hs : sorted.Pairwise (· ≤ ·)) (i j : ℕ) (hij : i ≤ j) (hj : j < sorted.length) :
    sorted[i]'(lt_of_le_of_lt hij hj) ≤ sorted[j]'hj := by
  by_cases h : i = j
  · subst h; exact le_refl _
  · exact (List.pairwise_iff_getElem.mp hs) i j (by omega) hj (by omega)

theorem sorted_le_getLast (sorted : List ℝ) (hs : sorted.Pairwise (· ≤ ·)) (hne : sorted ≠ []) :
    ∀ x ∈ sorted, x ≤ sorted.getLast hne := by
  intro x hx
  obtain ⟨i, hi, rfl⟩ := List.getElem_of_mem hx
  rw [List.getLast_eq_getElem]
  exact sorted_mono sorted hs i _ (by omega) (by omega)

/-! ### boolean-mask indexing `a[mask]` -/
section Mask
variable {σ τ : Type}

theorem filterMask_nil (m : List Bool) : filterMask ([] : List σ) m = [] := rfl
theorem filterMask_cons_true (x : σ) (xs : List σ) (bs : List Bool) :
    filterMask (x :: xs) (true :: bs) = x :: filterMask xs bs := rfl
theorem filterMask_cons_false (x : σ) (xs : List σ) (bs : List Bool) :
    filterMask (x :: xs) (false :: bs) = filterMask xs bs := rfl

theorem filterMask_map (f : σ → τ) (l : List σ) (m : List Bool) :
    filterMask (l.map f) m = (filterMask l m).map f := by
  induction l generalizing m with
  | nil => rfl
  | cons a l ih =>
    cases m with
    | nil => rfl
    | cons b m =>
      cases b
      · rw [List.map_cons, filterMask_cons_false, filterMask_cons_false, ih]
      · rw [List.map_cons, filterMask_cons_true, filterMask_cons_true, List.map_cons, ih]

theorem filterMask_map_eq_filter (l : List σ) (f : σ → Bool) :
    filterMask l (l.map f) = l.filter f := by
  induction l with
  | nil => rfl
  | cons a l ih =>
    rw [List.map_cons, List.filter_cons, ← ih]
    cases f a <;> rfl

theorem filterMask_all_true (l : List σ) : filterMask l (l.map fun _ => true) = l := by
  rw [filterMask_map_eq_filter, List.filter_true]

theorem filterMask_sublist (l : List σ) (m : List Bool) : (filterMask l m).Sublist l := by
  induction l generalizing m with
  | nil => exact List.Sublist.refl _
  | cons a l ih =>
    cases m with
    | nil => exact List.nil_sublist _
    | cons b m =>
      cases b
      · exact (ih m).cons a
      · exact (ih m).cons_cons a

theorem filterMask_zip (a : List σ) (b : List τ) (m : List Bool) :
    (filterMask a m).zip (filterMask b m) = filterMask (a.zip b) m := by
  induction a generalizing b m with
  | nil => rfl
  | cons x a ih =>
    cases b with
    | nil => rw [filterMask_nil, List.zip_nil_right, List.zip_nil_right, filterMask_nil]
    | cons y b =>
      cases m with
      | nil => rfl
      | cons c m =>
        cases c
        · exact ih b m
        · exact congrArg ((x, y) :: ·) (ih b m)

theorem filterMask_length_eq (a : List σ) (b : List τ) (m : List Bool)
    (h : a.length = b.length) : (filterMask a m).length = (filterMask b m).length := by
  have key : ∀ {ρ : Type} (l : List ρ), (filterMask l m).length = (filterMask (List.replicate l.length ()) m).length := by
    intro ρ l
    rw [← List.map_const', filterMask_map, List.length_map]
  rw [key a, key b, h]

theorem filterMask_forall (P : σ → Prop) (l : List σ) (m : List Bool) (h : ∀ x ∈ l, P x) :
    ∀ x ∈ filterMask l m, P x :=
  fun x hx => h x ((filterMask_sublist l m).subset hx)

end Mask

/-! ### a weighted sum of values: dividing the weights by a constant, splitting along a mask -/

theorem zipWith_div_sum (W fs : List ℝ) (S : ℝ) :
    (List.zipWith (· * ·) (W.map fun x => x / S) fs).sum = (List.zipWith (· * ·) W fs).sum / S := by
  induction W generalizing fs with
  | nil => simp
  | cons x xs ih =>
    cases fs with
    | nil => simp
    | cons f fs => simp only [List.map_cons, List.zipWith_cons_cons, List.sum_cons, ih fs]; ring

theorem dot_split (w f : List ℝ) (m : List Bool) (hw : w.length = m.length) (hf : f.length = m.length) :
    (List.zipWith (· * ·) w f).sum
      = (List.zipWith (· * ·) (filterMask w m) (filterMask f m)).sum
        + (List.zipWith (· * ·) (filterMask w (m.map (!·))) (filterMask f (m.map (!·)))).sum ∧
    w.sum = (filterMask w m).sum + (filterMask w (m.map (!·))).sum := by
  induction m generalizing w f with
  | nil =>
    rw [List.length_eq_zero_iff.mp hw]
    exact ⟨(add_zero _).symm, (add_zero _).symm⟩
  | cons b bs ih =>
    obtain ⟨x, xs, rfl⟩ := List.exists_cons_of_length_eq_add_one hw
    obtain ⟨y, ys, rfl⟩ := List.exists_cons_of_length_eq_add_one hf
    obtain ⟨i1, i2⟩ := ih xs ys (Nat.succ.inj hw) (Nat.succ.inj hf)
    cases b
    · simp only [filterMask, List.map_cons, Bool.not_false, Bool.false_eq_true, if_false, if_true,
        List.zipWith_cons_cons, List.sum_cons]
      exact ⟨by rw [i1, add_left_comm], by rw [i2, add_left_comm]⟩
    · simp only [filterMask, List.map_cons, Bool.not_true, Bool.false_eq_true, if_false, if_true,
        List.zipWith_cons_cons, List.sum_cons]
      exact ⟨by rw [i1, add_assoc], by rw [i2, add_assoc]⟩

/-! ### `np.percentile`, linear method: floor index, interpolation, virtual index -/

theorem floorIdx_succ_of_le {v : ℝ} {k : ℕ} (h : ((k + 1 : ℕ) : ℝ) ≤ v) : floorIdx v (k + 1) = k + 1 :=
  if_pos ((ScReal.le_def _ _).mpr h)

theorem floorIdx_succ_of_not_le {v : ℝ} {k : ℕ} (h : ¬ ((k + 1 : ℕ) : ℝ) ≤ v) : floorIdx v (k + 1) = floorIdx v k :=
  if_neg fun e => h ((ScReal.le_def _ _).mp e)

theorem floorIdx_spec (v : ℝ) (hv : 0 ≤ v) (k : Nat) :
    (floorIdx v k : ℝ) ≤ v ∧ floorIdx v k ≤ k ∧ (v < (floorIdx v k : ℝ) + 1 ∨ floorIdx v k = k) := by
  induction k with
  | zero => exact ⟨by rw [floorIdx, Nat.cast_zero]; exact hv, le_refl _, Or.inr rfl⟩
  | succ k ih =>
    by_cases h : ((k + 1 : ℕ) : ℝ) ≤ v
    · rw [floorIdx_succ_of_le h]
      exact ⟨h, le_refl _, Or.inr rfl⟩
    · rw [floorIdx_succ_of_not_le h]
      obtain ⟨h1, h2, h3⟩ := ih
      refine ⟨h1, Nat.le_succ_of_le h2, Or.inl ?_⟩
      rcases h3 with h3 | h3
      · exact h3
      · rw [h3, ← Nat.cast_succ]; exact not_le.mp h

/-- over ℝ both forms of numpy's `_lerp` are the same affine interpolation -/
theorem lerp_def (a b t : ℝ) : lerp a b t = a + (b - a) * t := by
  unfold lerp
  by_cases h : (5 : ℝ) / 10 ≤ t
  · simp [h]; ring
  · simp [h]

theorem le_lerp {a b t : ℝ} (hab : a ≤ b) (ht : 0 ≤ t) : a ≤ a + (b - a) * t :=
  le_add_of_nonneg_right (mul_nonneg (sub_nonneg.mpr hab) ht)

theorem lerp_le {a b t : ℝ} (hab : a ≤ b) (ht : t ≤ 1) : a + (b - a) * t ≤ b :=
  le_sub_iff_add_le'.mp (mul_le_of_le_one_right (sub_nonneg.mpr hab) ht)

theorem lerp_mono {a b t₁ t₂ : ℝ} (hab : a ≤ b) (ht : t₁ ≤ t₂) : a + (b - a) * t₁ ≤ a + (b - a) * t₂ :=
  (add_le_add_iff_left a).mpr (mul_le_mul_of_nonneg_left ht (sub_nonneg.mpr hab))

/-- numpy's virtual index of the percentile `p` in an array of length `n` -/
noncomputable def vindex (n : ℕ) (p : ℝ) : ℝ := ((n - 1 : ℕ) : ℝ) * (p / 100)

theorem vindex_nonneg (n : ℕ) {p : ℝ} (hp : 0 ≤ p) : 0 ≤ vindex n p :=
  mul_nonneg (Nat.cast_nonneg _) (div_nonneg hp (by norm_num))

theorem vindex_zero (n : ℕ) : vindex n 0 = 0 := by rw [vindex, zero_div, mul_zero]

theorem vindex_mono (n : ℕ) {p q : ℝ} (h : p ≤ q) : vindex n p ≤ vindex n q :=
  mul_le_mul_of_nonneg_left (div_le_div_of_nonneg_right h (by norm_num)) (Nat.cast_nonneg _)

/-- at or beyond the last index the last entry, otherwise the interpolant between the two entries around the virtual index -/
theorem percentile_cases (sorted : List ℝ) (hne : sorted ≠ []) (p : ℝ) (hp0 : 0 ≤ p) :
    (((sorted.length - 1 : ℕ) : ℝ) ≤ vindex sorted.length p ∧
        percentileLinear sorted p = some (sorted.getLast hne)) ∨
    (∃ (lo : ℕ) (h1 : lo + 1 < sorted.length),
        (lo : ℝ) ≤ vindex sorted.length p ∧ vindex sorted.length p < (lo : ℝ) + 1 ∧
        percentileLinear sorted p = some (sorted[lo]'(Nat.lt_of_succ_lt h1) +
          (sorted[lo + 1]'h1 - sorted[lo]'(Nat.lt_of_succ_lt h1)) * (vindex sorted.length p - lo))) := by
  have hv0 := vindex_nonneg sorted.length hp0
  unfold percentileLinear vindex at *
  simp only [sc_real, Nat.cast_ofNat]
  generalize ((sorted.length - 1 : ℕ) : ℝ) * (p / 100) = v at hv0 ⊢
  by_cases hcase : ((sorted.length - 1 : ℕ) : ℝ) ≤ v
  · left
    rw [if_pos hcase]
    exact ⟨hcase, List.getLast?_eq_some_getLast hne⟩
  · right
    rw [if_neg hcase]
    obtain ⟨h1, h2, h3⟩ := floorIdx_spec v hv0 (sorted.length - 1)
    generalize floorIdx v (sorted.length - 1) = lo at h1 h2 h3 ⊢
    have hlt : lo < sorted.length - 1 := Nat.cast_lt.mp (lt_of_le_of_lt h1 (not_le.mp hcase))
    have hlo1 : lo + 1 < sorted.length := Nat.lt_sub_iff_add_lt.mp hlt
    refine ⟨lo, hlo1, h1, h3.resolve_right hlt.ne, ?_⟩
    rw [List.getElem?_eq_getElem (Nat.lt_of_succ_lt hlo1), List.getElem?_eq_getElem hlo1]
    simp only [lerp_def]

theorem percentile_spec (sorted : List ℝ) (hs : sorted.Pairwise (· ≤ ·)) (hne : sorted ≠ [])
    (p : ℝ) (hp0 : 0 ≤ p) :
    ∃ θ, percentileLinear sorted p = some θ ∧ ∃ x ∈ sorted, θ ≤ x := by
  rcases percentile_cases sorted hne p hp0 with ⟨_, e⟩ | ⟨lo, hlo, _, hu, e⟩
  · exact ⟨_, e, _, List.getLast_mem hne, le_refl _⟩
  · exact ⟨_, e, sorted[lo + 1]'hlo, List.getElem_mem _,
      lerp_le (sorted_mono sorted hs lo (lo + 1) (by omega) hlo) (sub_le_iff_le_add'.mpr hu.le)⟩

theorem percentile_zero (sorted : List ℝ) (hs : sorted.Pairwise (· ≤ ·)) (hne : sorted ≠ []) :
    ∃ θ, percentileLinear sorted 0 = some θ ∧ ∀ x ∈ sorted, θ ≤ x := by
  have hmin : ∀ x ∈ sorted, sorted[0]'(List.length_pos_iff.mpr hne) ≤ x := by
    intro x hx
    obtain ⟨i, hi, rfl⟩ := List.getElem_of_mem hx
    exact sorted_mono sorted hs 0 i (Nat.zero_le _) hi
  rcases percentile_cases sorted hne 0 (le_refl _) with ⟨htop, e⟩ | ⟨lo, hlo, hl, _, e⟩
  · -- one entry only
    rw [vindex_zero] at htop
    have h1 : sorted.length - 1 = 0 := Nat.cast_eq_zero.mp (le_antisymm htop (Nat.cast_nonneg _))
    refine ⟨_, e, ?_⟩
    rw [List.getLast_eq_getElem]
    simpa only [h1] using hmin
  · rw [vindex_zero] at hl e
    have h0 : lo = 0 := Nat.cast_eq_zero.mp (le_antisymm hl (Nat.cast_nonneg _))
    subst h0
    rw [Nat.cast_zero, sub_zero, mul_zero, add_zero] at e
    exact ⟨_, e, hmin⟩


/-- within one cell the interpolant is monotone, across cells it passes through the entries of the sorted array -/
theorem percentile_mono (sorted : List ℝ) (hs : sorted.Pairwise (· ≤ ·)) (hne : sorted ≠ [])
    (p1 p2 : ℝ) (hp1 : 0 ≤ p1) (h12 : p1 ≤ p2) (θ1 θ2 : ℝ)
    (h1 : percentileLinear sorted p1 = some θ1) (h2 : percentileLinear sorted p2 = some θ2) : θ1 ≤ θ2 := by
  have hv12 := vindex_mono sorted.length h12
  rcases percentile_cases sorted hne p2 (le_trans hp1 h12) with ⟨_, e2⟩ | ⟨lo2, hlo2, hl2, hu2, e2⟩
  · -- p2 is at the top: the result is the maximum
    obtain ⟨θ, hθ, x, hx, hle⟩ := percentile_spec sorted hs hne p1 hp1
    rw [h2] at e2; rw [h1] at hθ
    rw [Option.some.inj e2, Option.some.inj hθ]
    exact le_trans hle (sorted_le_getLast sorted hs hne x hx)
  · rcases percentile_cases sorted hne p1 hp1 with ⟨htop, _⟩ | ⟨lo1, hlo1, hl1, hu1, e1⟩
    · -- impossible: v1 ≥ n-1 ≥ lo2 + 1 > v2 ≥ v1
      have : (lo2 : ℝ) + 1 ≤ ((sorted.length - 1 : ℕ) : ℝ) := by exact_mod_cast (show lo2 + 1 ≤ sorted.length - 1 by omega)
      exact absurd (htop.trans hv12) (not_le.mpr (hu2.trans_le this))
    · rw [h2] at e2; rw [h1] at e1
      rw [Option.some.inj e1, Option.some.inj e2]
      have hlo12 : lo1 ≤ lo2 := Nat.lt_succ_iff.mp (by exact_mod_cast lt_of_le_of_lt (hl1.trans hv12) hu2)
      have ha1 := sorted_mono sorted hs lo1 (lo1 + 1) (by omega) hlo1
      have ha2 := sorted_mono sorted hs lo2 (lo2 + 1) (by omega) hlo2
      rcases hlo12.eq_or_lt with rfl | hlt
      · exact lerp_mono ha1 (sub_le_sub_right hv12 _)
      · exact (lerp_le ha1 (sub_le_iff_le_add'.mpr hu1.le)).trans
          ((sorted_mono sorted hs (lo1 + 1) lo2 hlt (by omega)).trans (le_lerp ha2 (sub_nonneg.mpr hl2)))


/-! ### the grid `np.linspace(0, 99, bins)` -/

/-- over ℝ the forced last entry and the one-point grid are not special -/
theorem linspace0_99_eq (bins i : Nat) : (linspace0_99 bins i : ℝ) = i * (99 / ((bins - 1 : ℕ) : ℝ)) := by
  unfold linspace0_99
  by_cases h1 : bins ≤ 1
  · have : bins - 1 = 0 := by omega
    simp [h1, this]
  · have hb : ((bins - 1 : ℕ) : ℝ) ≠ 0 := Nat.cast_ne_zero.mpr (by omega)
    by_cases h2 : i + 1 = bins
    · have : i = bins - 1 := by omega
      rw [if_neg h1, if_pos h2, this, ScReal.ofNat_def, mul_div_cancel₀ _ hb, Nat.cast_ofNat]
    · rw [if_neg h1, if_neg h2]
      simp only [ScReal.mul_def, ScReal.div_def, ScReal.ofNat_def, Nat.cast_ofNat]

theorem linspace0_99_zero (bins : Nat) : (linspace0_99 bins 0 : ℝ) = 0 := by
  rw [linspace0_99_eq, Nat.cast_zero, zero_mul]

theorem linspace0_99_mono (bins j k : Nat) (hjk : j ≤ k) : (linspace0_99 bins j : ℝ) ≤ linspace0_99 bins k := by
  rw [linspace0_99_eq, linspace0_99_eq]
  exact mul_le_mul_of_nonneg_right (Nat.cast_le.mpr hjk) (div_nonneg (by norm_num) (Nat.cast_nonneg _))

theorem linspace0_99_range (bins i : Nat) (hi : i < bins) :
    0 ≤ (linspace0_99 bins i : ℝ) ∧ (linspace0_99 bins i : ℝ) ≤ 99 := by
  rw [linspace0_99_eq]
  refine ⟨mul_nonneg (Nat.cast_nonneg _) (div_nonneg (by norm_num) (Nat.cast_nonneg _)), ?_⟩
  have hib : (i : ℝ) ≤ ((bins - 1 : ℕ) : ℝ) := Nat.cast_le.mpr (by omega)
  rw [← mul_div_assoc]
  exact div_le_of_le_mul₀ (Nat.cast_nonneg _) (by norm_num) (by rw [mul_comm]; exact mul_le_mul_of_nonneg_left hib (by norm_num))


/-! ### the trimming loop, at every scalar type -/
section Generic
variable {α : Type} [Sc α]

theorem step_spec_generic (wn sorted : List α) (eT p : α) (s : Step α) (h : step wn sorted eT p = some s) :
    percentileLinear sorted p = some s.thr ∧
    s.mask = wn.map (fun x => Sc.le s.thr x) ∧
    s.wt = normalise (filterMask wn s.mask) ∧
    s.ratio = Sc.div (Sc.div Sc.one (sumSq s.wt)) eT := by
  unfold step at h
  cases hp : percentileLinear sorted p with
  | none => rw [hp] at h; exact absurd h (by simp)
  | some θ =>
    rw [hp, Option.map_some, Option.some.injEq] at h
    subst h
    exact ⟨rfl, rfl, rfl, rfl⟩

theorem search_zero (wn sorted : List α) (eT e : α) (bins : Nat) :
    search wn sorted eT e bins 0 = (step wn sorted eT (linspace0_99 bins 0)).map fun s => (0, s) := by
  rw [search]; cases step wn sorted eT (linspace0_99 bins 0) <;> rfl

theorem search_succ (wn sorted : List α) (eT e : α) (bins i : Nat) :
    search wn sorted eT e bins (i + 1) = (step wn sorted eT (linspace0_99 bins (i + 1))).bind fun s =>
      if Sc.le e s.ratio then some (i + 1, s) else search wn sorted eT e bins i := by
  rw [search]; cases step wn sorted eT (linspace0_99 bins (i + 1)) <;> rfl

theorem search_spec_generic (wn sorted : List α) (eT e : α) (bins i j : Nat) (s : Step α)
    (h : search wn sorted eT e bins i = some (j, s)) :
    j ≤ i ∧ step wn sorted eT (linspace0_99 bins j) = some s ∧ (Sc.le e s.ratio = true ∨ j = 0) ∧
    ∀ k, j < k → k ≤ i → ∃ s', step wn sorted eT (linspace0_99 bins k) = some s' ∧ Sc.le e s'.ratio = false := by
  induction i with
  | zero =>
    rw [search_zero] at h
    obtain ⟨s0, hs, heq⟩ := Option.map_eq_some_iff.mp h
    obtain ⟨rfl, rfl⟩ := Prod.mk.inj heq
    exact ⟨le_refl _, hs, Or.inr rfl, fun k hk1 hk2 => by omega⟩
  | succ i ih =>
    rw [search_succ] at h
    obtain ⟨s0, hs, h⟩ := Option.bind_eq_some_iff.mp h
    cases hr : Sc.le e s0.ratio
    · rw [hr, if_neg Bool.false_ne_true] at h
      obtain ⟨h1, h2, h3, h4⟩ := ih h
      refine ⟨Nat.le_succ_of_le h1, h2, h3, fun k hk1 hk2 => ?_⟩
      rcases Nat.of_le_succ hk2 with hk | rfl
      · exact h4 k hk1 hk
      · exact ⟨s0, hs, hr⟩
    · rw [hr, if_pos rfl] at h
      obtain ⟨rfl, rfl⟩ := Prod.mk.inj (Option.some.inj h)
      exact ⟨le_refl _, hs, Or.inl hr, fun k hk1 hk2 => by omega⟩

theorem search_total (wn sorted : List α) (eT e : α) (bins i : Nat)
    (hdef : ∀ k, k ≤ i → ∃ s, step wn sorted eT (linspace0_99 bins k) = some s) :
    ∃ r, search wn sorted eT e bins i = some r := by
  induction i with
  | zero =>
    obtain ⟨s, hs⟩ := hdef 0 (le_refl _)
    exact ⟨(0, s), by rw [search_zero, hs]; rfl⟩
  | succ i ih =>
    obtain ⟨s, hs⟩ := hdef (i + 1) (le_refl _)
    rw [search_succ, hs, Option.bind_some]
    split_ifs
    · exact ⟨_, rfl⟩
    · exact ih fun k hk => hdef k (Nat.le_succ_of_le hk)

theorem trimStop_pos (w : List α) (e : α) {bins : Nat} (hb : 0 < bins) :
    trimStop w e bins = search (normalise w) (sortAsc (normalise w)) (ess w) e bins (bins - 1) :=
  if_neg hb.ne'

theorem trimStop_spec_generic (w : List α) (e : α) (bins j : Nat) (st : Step α) (h : trimStop w e bins = some (j, st)) :
    j < bins ∧ step (normalise w) (sortAsc (normalise w)) (ess w) (linspace0_99 bins j) = some st ∧
      (Sc.le e st.ratio = true ∨ j = 0) ∧
      ∀ k, j < k → k < bins →
        ∃ st', step (normalise w) (sortAsc (normalise w)) (ess w) (linspace0_99 bins k) = some st' ∧ Sc.le e st'.ratio = false := by
  have hb : 0 < bins := Nat.pos_of_ne_zero fun hb => by subst hb; cases h
  rw [trimStop_pos w e hb] at h
  obtain ⟨_, hstep, hr, hmax⟩ := search_spec_generic _ _ _ _ _ _ _ _ h
  exact ⟨by omega, hstep, hr, fun k hk1 hk2 => hmax k hk1 (by omega)⟩

end Generic

/-! ### the trimming loop at `ℝ` -/

theorem step_spec (wn sorted : List ℝ) (eT p : ℝ) (s : Step ℝ) (h : step wn sorted eT p = some s) :
    percentileLinear sorted p = some s.thr ∧
    s.mask = wn.map (fun x => Sc.le s.thr x) ∧
    s.wt = normalise (filterMask wn s.mask) ∧
    s.ratio = 1 / sumSq s.wt / eT := by
  have := step_spec_generic wn sorted eT p s h
  simpa only [ScReal.div_def, ScReal.one_def] using this

theorem mask_le_eq_filter (wn : List ℝ) (θ : ℝ) :
    filterMask wn (wn.map fun x => Sc.le θ x) = wn.filter fun x => decide (θ ≤ x) :=
  filterMask_map_eq_filter wn _

/-- the threshold never exceeds the largest weight -/
theorem kept_sum_pos (wn : List ℝ) (h1 : wn.sum = 1) (h0 : ∀ x ∈ wn, 0 ≤ x)
    (p θ : ℝ) (hp0 : 0 ≤ p) (hp : percentileLinear (sortAsc wn) p = some θ) :
    0 < (wn.filter (fun x => decide (θ ≤ x))).sum := by
  by_cases hθ : θ ≤ 0
  · have : wn.filter (fun x => decide (θ ≤ x)) = wn := by
      rw [List.filter_eq_self]
      intro x hx; simpa using le_trans hθ (h0 x hx)
    rw [this, h1]; exact one_pos
  · have hne : wn ≠ [] := ScReal.ne_nil_of_sum_pos (h1 ▸ one_pos)
    obtain ⟨θ', hθ', x, hx, hle⟩ := percentile_spec (sortAsc wn) (sortAsc_sorted wn) (sortAsc_ne_nil hne) p hp0
    rw [hp] at hθ'; injection hθ' with hθ'; subst hθ'
    have hxw : x ∈ wn := (sortAsc_perm wn).mem_iff.mp hx
    have hxf : x ∈ wn.filter (fun x => decide (θ ≤ x)) := by
      rw [List.mem_filter]; exact ⟨hxw, by simpa using hle⟩
    have hnn : ∀ y ∈ wn.filter (fun x => decide (θ ≤ x)), 0 ≤ y :=
      fun y hy => h0 y (List.mem_filter.mp hy).1
    exact ((not_le.mp hθ).trans_le hle).trans_le (List.single_le_sum hnn x hxf)

structure PassValid (wn : List ℝ) (eT p : ℝ) (s : Step ℝ) : Prop where
  thr : percentileLinear (sortAsc wn) p = some s.thr
  mask : s.mask = wn.map fun x => Sc.le s.thr x
  kept : filterMask wn s.mask = wn.filter fun x => decide (s.thr ≤ x)
  kept_pos : 0 < (wn.filter fun x => decide (s.thr ≤ x)).sum
  wt : s.wt = normalise (wn.filter fun x => decide (s.thr ≤ x))
  wt_sum : s.wt.sum = 1
  ratio : s.ratio = ess (wn.filter fun x => decide (s.thr ≤ x)) / eT

theorem step_valid (wn : List ℝ) (h1 : wn.sum = 1) (hnn : ∀ x ∈ wn, 0 ≤ x) (eT p : ℝ) (hp0 : 0 ≤ p) (s : Step ℝ)
    (h : step wn (sortAsc wn) eT p = some s) : PassValid wn eT p s := by
  obtain ⟨hp, hm, hw, hratio⟩ := step_spec _ _ _ _ _ h
  have hkept : filterMask wn s.mask = wn.filter (fun x => decide (s.thr ≤ x)) := hm ▸ mask_le_eq_filter _ _
  have hpos := kept_sum_pos wn h1 hnn p s.thr hp0 hp
  rw [hkept] at hw
  have hsum : s.wt.sum = 1 := hw ▸ sum_normalise _ hpos.ne'
  refine ⟨hp, hm, hkept, hpos, hw, hsum, ?_⟩
  rw [hratio, ← ess_of_sum_one _ hsum, hw, ess_normalise _ hpos.ne']

/-- percentile 0 is the minimum, so the mask keeps everything -/
theorem step_zero (w : List ℝ) (h0 : ∀ x ∈ w, 0 ≤ x) (hs : 0 < w.sum) (bins : Nat) (s : Step ℝ)
    (hstep : step (normalise w) (sortAsc (normalise w)) (ess w) (linspace0_99 bins 0) = some s) :
    s.mask = (normalise w).map (fun _ => true) ∧ s.wt = normalise w ∧ s.ratio = 1 := by
  obtain ⟨h1, hnn, hq, hne⟩ := wn_facts w h0 hs
  obtain ⟨hp, hm, hw, hratio⟩ := step_spec _ _ _ _ _ hstep
  rw [linspace0_99_zero] at hp
  obtain ⟨θ, hθ, hmin⟩ := percentile_zero _ (sortAsc_sorted (normalise w)) (sortAsc_ne_nil hne)
  rw [hp] at hθ; injection hθ with hθ
  have hmask : s.mask = (normalise w).map (fun _ => true) := by
    rw [hm]
    apply List.map_congr_left
    intro x hx
    rw [ScReal.le_def, hθ]
    exact hmin x ((sortAsc_perm _).mem_iff.mpr hx)
  rw [hmask, filterMask_all_true, normalise_of_sum_one _ h1] at hw
  refine ⟨hmask, hw, ?_⟩
  rw [hratio, hw, ← ess_normalise w hs.ne', ess_of_sum_one _ h1, div_self (div_pos one_pos hq).ne']

theorem stop_pass_meets_test (w : List ℝ) (h0 : ∀ x ∈ w, 0 ≤ x) (hs : 0 < w.sum) {e : ℝ} (he : e ≤ 1) (bins j : Nat)
    (st : Step ℝ) (hstep : step (normalise w) (sortAsc (normalise w)) (ess w) (linspace0_99 bins j) = some st)
    (hr : e ≤ st.ratio ∨ j = 0) : e ≤ st.ratio := by
  rcases hr with hr | rfl
  · exact hr
  · rw [(step_zero w h0 hs bins st hstep).2.2]; exact he

theorem trimStop_spec (w : List ℝ) (e : ℝ) (bins j : Nat) (st : Step ℝ) (h : trimStop w e bins = some (j, st)) :
    j < bins ∧ step (normalise w) (sortAsc (normalise w)) (ess w) (linspace0_99 bins j) = some st ∧ (e ≤ st.ratio ∨ j = 0) ∧
      ∀ k, j < k → k < bins →
        ∃ st', step (normalise w) (sortAsc (normalise w)) (ess w) (linspace0_99 bins k) = some st' ∧ st'.ratio < e := by
  simpa only [ScReal.le_def, ScReal.le_false] using trimStop_spec_generic w e bins j st h

/-- the loop breaks at grid index 0 at the latest (`or i == 0`), and the percentile of a non-empty array exists -/
theorem trimStop_total (w : List ℝ) (e : ℝ) (bins : Nat) (h0 : ∀ x ∈ w, 0 ≤ x) (hs : 0 < w.sum) (hb : 0 < bins) :
    ∃ r, trimStop w e bins = some r := by
  obtain ⟨_, _, _, hne⟩ := wn_facts w h0 hs
  rw [trimStop_pos w e hb]
  refine search_total _ _ _ e bins (bins - 1) fun k hk => ?_
  obtain ⟨θ, hθ, _⟩ := percentile_spec _ (sortAsc_sorted (normalise w)) (sortAsc_ne_nil hne) (linspace0_99 bins k)
    (linspace0_99_range bins k (by omega)).1
  unfold step; rw [hθ]; exact ⟨_, rfl⟩

theorem trim_spec {σ : Type} (samples : List σ) (w : List ℝ) (e : ℝ) (bins : Nat)
    (s' : List σ) (w' : List ℝ) (h : trim samples w e bins = some (s', w')) :
    ∃ j st, j < bins ∧
      step (normalise w) (sortAsc (normalise w)) (ess w) (linspace0_99 bins j) = some st ∧
      s' = filterMask samples st.mask ∧ w' = st.wt ∧ (e ≤ st.ratio ∨ j = 0) ∧
      ∀ k, j < k → k < bins →
        ∃ st', step (normalise w) (sortAsc (normalise w)) (ess w) (linspace0_99 bins k) = some st' ∧ st'.ratio < e := by
  obtain ⟨⟨j, st⟩, hts, heq⟩ := Option.map_eq_some_iff.mp h
  obtain ⟨hj, hstep, hr, hmax⟩ := trimStop_spec w e bins j st hts
  exact ⟨j, st, hj, hstep, (Prod.mk.inj heq).1.symm, (Prod.mk.inj heq).2.symm, hr, hmax⟩

/-- for `e ≤ 1` the test is met at the bottom of the grid too: the ratio there is 1 -/
theorem trim_spec_valid {σ : Type} (samples : List σ) (w : List ℝ) (e : ℝ) (bins : Nat)
    (h0 : ∀ x ∈ w, 0 ≤ x) (hs : 0 < w.sum) (s' : List σ) (w' : List ℝ) (h : trim samples w e bins = some (s', w')) :
    ∃ j st, j < bins ∧ s' = filterMask samples st.mask ∧ w' = st.wt ∧
      PassValid (normalise w) (ess w) (linspace0_99 bins j) st ∧ (e ≤ 1 → e ≤ st.ratio) := by
  obtain ⟨j, st, hj, hstep, hs', hw', hr, _⟩ := trim_spec samples w e bins s' w' h
  obtain ⟨h1, hnn, _⟩ := wn_facts w h0 hs
  exact ⟨j, st, hj, hs', hw', step_valid _ h1 hnn _ _ (linspace0_99_range bins j hj).1 st hstep,
    fun he => stop_pass_meets_test w h0 hs he bins j st hstep hr⟩

theorem trim_valid {σ : Type} (samples : List σ) (w : List ℝ) (e : ℝ) (bins : Nat)
    (h0 : ∀ x ∈ w, 0 ≤ x) (hs : 0 < w.sum) (hb : 0 < bins) :
    ∃ θ : ℝ, 0 < ((normalise w).filter fun x => decide (θ ≤ x)).sum ∧
      trim samples w e bins = some (filterMask samples ((normalise w).map fun x => Sc.le θ x),
        normalise ((normalise w).filter fun x => decide (θ ≤ x))) ∧
      (e ≤ 1 → e * ess w ≤ ess ((normalise w).filter fun x => decide (θ ≤ x))) := by
  obtain ⟨r, hr⟩ := trimStop_total w e bins h0 hs hb
  have h : trim samples w e bins = some (filterMask samples r.2.mask, r.2.wt) := by rw [trim, hr]; rfl
  obtain ⟨j, st, _, hs', hw', hv, htest⟩ := trim_spec_valid samples w e bins h0 hs _ _ h
  refine ⟨st.thr, hv.kept_pos, by rw [h, hs', hw', hv.mask, hv.wt], fun he => ?_⟩
  have := htest he
  rwa [hv.ratio, le_div_iff₀ (ess_pos w hs)] at this

theorem trim_bottom {σ : Type} (samples : List σ) (w : List ℝ) (e : ℝ) (bins : Nat)
    (h0 : ∀ x ∈ w, 0 ≤ x) (hs : 0 < w.sum) (hl : samples.length = w.length)
    (s' : List σ) (w' : List ℝ) (h : trim samples w e bins = some (s', w'))
    (hfail : ∀ k, 0 < k → k < bins → ∀ st, step (normalise w) (sortAsc (normalise w)) (ess w) (linspace0_99 bins k) = some st →
      st.ratio < e) : s' = samples ∧ w' = normalise w := by
  obtain ⟨j, st, hj, hstep, hs', hw', hr, _⟩ := trim_spec samples w e bins s' w' h
  by_cases hj0 : j = 0
  · subst hj0
    obtain ⟨hm, hwt, _⟩ := step_zero w h0 hs bins st hstep
    refine ⟨?_, by rw [hw', hwt]⟩
    rw [hs', hm]
    have hlen : (normalise w).length = samples.length := (length_normalise w).trans hl.symm
    have : (normalise w).map (fun _ => true) = samples.map (fun _ => true) := by
      simp only [List.map_const', hlen]
    rw [this, filterMask_all_true]
  · exfalso
    rcases hr with hr | hr
    · exact absurd (hfail j (by omega) hj st hstep) (not_lt.mpr hr)
    · exact hj0 hr

/-- `bins = 1`: the grid is `[0.]`, the only pass keeps everything -/
theorem trim_bins_one {σ : Type} (samples : List σ) (w : List ℝ) (e : ℝ)
    (h0 : ∀ x ∈ w, 0 ≤ x) (hs : 0 < w.sum) (hl : samples.length = w.length) :
    trim samples w e 1 = some (samples, normalise w) := by
  obtain ⟨_, _, h, _⟩ := trim_valid samples w e 1 h0 hs one_pos
  obtain ⟨h1, h2⟩ := trim_bottom samples w e 1 h0 hs hl _ _ h (by intro k hk0 hk1; omega)
  rw [h, h1, h2]

end Model.Trim
