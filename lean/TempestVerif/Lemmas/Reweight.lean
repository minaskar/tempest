import TempestVerif.Model.Reweight
import TempestVerif.Lemmas.ScReal
/-
  Equations and inversion lemmas of `Model.Reweight`, for any scalar type and whatever the comparisons return (`_any`): one equation
  per outcome of the tests of `upLoop`, `upperLimit`, `bisect`, `runEss`, `runDyn`; `Lands`: a `run` on a non-empty history is
  `_finalize_iteration` at ONE temperature, with the metric oracle's answer there, and consults the evidence oracle there only —
  same temperature, congruence in the evidence oracle and the shift of the evidence are read off it.
-/
namespace Model.Reweight
variable {α : Type} [Sc α] {W : Type}

/-! ### `_find_beta_upper_limit` -/

theorem upLoop_stop_any (M : α → W × α × α) (target tol : α) (n : Nat) (lo hi : α)
    (hw : Sc.gt (Sc.sub hi lo) tol = false) : upLoop M target tol (n+1) lo hi = ⟨lo, hi, 0, Branch.upLoop, []⟩ :=
  if_neg (ne_true_of_eq_false hw)

theorem upLoop_up_any (M : α → W × α × α) (target tol : α) (n : Nat) (lo hi : α)
    (hw : Sc.gt (Sc.sub hi lo) tol = true) (he : Sc.ge (M (mid hi lo)).2.1 target = true) :
    upLoop M target tol (n+1) lo hi =
      { upLoop M target tol n (mid hi lo) hi with
        steps := (upLoop M target tol n (mid hi lo) hi).steps + 1,
        calls := mid hi lo :: (upLoop M target tol n (mid hi lo) hi).calls } := by
  simp only [upLoop, hw, he, if_true]

theorem upLoop_down_any (M : α → W × α × α) (target tol : α) (n : Nat) (lo hi : α)
    (hw : Sc.gt (Sc.sub hi lo) tol = true) (he : Sc.ge (M (mid hi lo)).2.1 target = false) :
    upLoop M target tol (n+1) lo hi =
      { upLoop M target tol n lo (mid hi lo) with
        steps := (upLoop M target tol n lo (mid hi lo)).steps + 1,
        calls := mid hi lo :: (upLoop M target tol n lo (mid hi lo)).calls } := by
  simp only [upLoop, hw, he, if_true, Bool.false_eq_true, if_false]

theorem upperLimit_cases_any (M : α → W × α × α) (target tol : α) (fuel : Nat) (prev : α) :
    (Sc.lt (M prev).2.1 target = true ∧ upperLimit M target tol fuel prev = ⟨prev, Sc.one, 0, Branch.upStay, [prev]⟩) ∨
    (Sc.lt (M prev).2.1 target = false ∧ Sc.ge (M Sc.one).2.1 target = true ∧
      upperLimit M target tol fuel prev = ⟨Sc.one, Sc.one, 0, Branch.upOne, [prev, Sc.one]⟩) ∨
    (Sc.lt (M prev).2.1 target = false ∧ Sc.ge (M Sc.one).2.1 target = false ∧
      upperLimit M target tol fuel prev =
        { upLoop M target tol fuel prev Sc.one with
          calls := prev :: Sc.one :: (upLoop M target tol fuel prev Sc.one).calls }) := by
  cases h1 : Sc.lt (M prev).2.1 target with
  | true => exact Or.inl ⟨rfl, if_pos h1⟩
  | false =>
    have n1 := ne_true_of_eq_false h1
    cases h2 : Sc.ge (M Sc.one).2.1 target with
    | true => exact Or.inr (Or.inl ⟨rfl, rfl, (if_neg n1).trans (if_pos h2)⟩)
    | false => exact Or.inr (Or.inr ⟨rfl, rfl, (if_neg n1).trans (if_neg (ne_true_of_eq_false h2))⟩)

/-! ### `_find_beta_bisection` -/

/-- the tag conjuncts: the tags of both searches end up in one list, `RunOut.sub` -/
theorem bisStop_cases (m target tolE tolB bmin bmax b : α) :
    (∃ t, bisStop m target tolE tolB bmin bmax b = some t ∧ t ≠ Branch.bisFuel ∧ t ≠ Branch.upFuel) ∨
    (bisStop m target tolE tolB bmin bmax b = none ∧ Sc.lt (Sc.sub bmax bmin) tolB = false) := by
  cases h1 : Sc.lt (Sc.abs (Sc.sub m target)) (Sc.mul tolE target) with
  | true => exact Or.inl ⟨_, if_pos h1, by decide, by decide⟩
  | false =>
    have n1 := ne_true_of_eq_false h1
    cases h2 : Sc.lt (Sc.sub bmax bmin) tolB with
    | true => exact Or.inl ⟨_, (if_neg n1).trans (if_pos h2), by decide, by decide⟩
    | false =>
      have n2 := ne_true_of_eq_false h2
      cases h3 : eqv b Sc.one with
      | true => exact Or.inl ⟨_, (if_neg n1).trans ((if_neg n2).trans (if_pos h3)), by decide, by decide⟩
      | false => exact Or.inr ⟨(if_neg n1).trans ((if_neg n2).trans (if_neg (ne_true_of_eq_false h3))), rfl⟩

/-- one pass through the `while True:` body: stop under one of the source's three tests, stop out of fuel under the model's
    `bisFuel`, or recurse on a half -/
theorem bisect_unfold_any (M : α → W × α × α) (fin : α → Bool) (dyn : Bool) (target tolE tolB : α)
    (n : Nat) (bmin bmax : α) :
    (∃ t, t ≠ Branch.bisFuel ∧ t ≠ Branch.upFuel ∧ bisect M fin dyn target tolE tolB n bmin bmax =
        ⟨mid bmax bmin, (M (mid bmax bmin)).1, (M (mid bmax bmin)).2.1, 0, t, [mid bmax bmin]⟩) ∨
    (n = 0 ∧ Sc.lt (Sc.sub bmax bmin) tolB = false ∧ bisect M fin dyn target tolE tolB n bmin bmax =
        ⟨mid bmax bmin, (M (mid bmax bmin)).1, (M (mid bmax bmin)).2.1, 0, Branch.bisFuel, [mid bmax bmin]⟩) ∨
    (∃ k lo hi, n = k + 1 ∧ Sc.lt (Sc.sub bmax bmin) tolB = false ∧
        ((lo = mid bmax bmin ∧ hi = bmax) ∨ (lo = bmin ∧ hi = mid bmax bmin)) ∧
        bisect M fin dyn target tolE tolB n bmin bmax =
          { bisect M fin dyn target tolE tolB k lo hi with
            steps := (bisect M fin dyn target tolE tolB k lo hi).steps + 1,
            calls := mid bmax bmin :: (bisect M fin dyn target tolE tolB k lo hi).calls }) := by
  rcases bisStop_cases (bisVal M fin dyn (mid bmax bmin)) target tolE tolB bmin bmax (mid bmax bmin) with
    ⟨t, hs, t1, t2⟩ | ⟨hs, hb⟩
  · exact Or.inl ⟨t, t1, t2, by cases n <;> simp only [bisect, hs]⟩
  · cases n with
    | zero => exact Or.inr (Or.inl ⟨rfl, hb, by simp only [bisect, hs]⟩)
    | succ k =>
      cases hr : bisRaise dyn (bisVal M fin dyn (mid bmax bmin)) target with
      | true => exact Or.inr (Or.inr ⟨k, _, _, rfl, hb, Or.inl ⟨rfl, rfl⟩, by simp only [bisect, hs, hr, if_true]⟩)
      | false =>
        exact Or.inr (Or.inr ⟨k, _, _, rfl, hb, Or.inr ⟨rfl, rfl⟩,
          by simp only [bisect, hs, hr, Bool.false_eq_true, if_false]⟩)

theorem bisect_out (M : α → W × α × α) (fin : α → Bool) (dyn : Bool) (target tolE tolB : α) : ∀ (n : Nat) (bmin bmax : α),
    (bisect M fin dyn target tolE tolB n bmin bmax).w = (M (bisect M fin dyn target tolE tolB n bmin bmax).beta).1 ∧
    (bisect M fin dyn target tolE tolB n bmin bmax).ess = (M (bisect M fin dyn target tolE tolB n bmin bmax).beta).2.1 ∧
    (bisect M fin dyn target tolE tolB n bmin bmax).branch ≠ Branch.upFuel := by
  intro n
  induction n with
  | zero =>
    intro bmin bmax
    rcases bisect_unfold_any M fin dyn target tolE tolB 0 bmin bmax with ⟨t, _, ht, e⟩ | ⟨_, _, e⟩ | ⟨k, _, _, hk, _⟩
    · rw [e]; exact ⟨rfl, rfl, ht⟩
    · rw [e]; exact ⟨rfl, rfl, nofun⟩
    · exact absurd hk (Nat.succ_ne_zero k).symm
  | succ n ih =>
    intro bmin bmax
    rcases bisect_unfold_any M fin dyn target tolE tolB (n+1) bmin bmax with ⟨t, _, ht, e⟩ | ⟨hk, _⟩ | ⟨k, lo, hi, hk, _, _, e⟩
    · rw [e]; exact ⟨rfl, rfl, ht⟩
    · exact absurd hk (Nat.succ_ne_zero n)
    · cases Nat.succ.inj hk
      rw [e]; exact ih lo hi

/-! ### `run` -/

theorem runEss_cases_any (M : α → W × α × α) (fin : α → Bool) (target tolE tolB : α) (fuel : Nat) (prev : α) :
    let up := upperLimit M target tolB fuel prev
    let b := bisect M fin false target tolE tolB fuel prev up.beta
    (Sc.le (M prev).2.1 target = true ∧ ∀ Z, runEss M Z fin target tolE tolB fuel prev =
        finalize prev (M prev).1 (M prev).2.1 (Z prev) Branch.essStay [up.branch] (up.calls ++ [prev, up.beta])) ∨
    (Sc.le (M prev).2.1 target = false ∧ Sc.ge (M up.beta).2.1 target = true ∧
      ∀ Z, runEss M Z fin target tolE tolB fuel prev =
        finalize up.beta (M up.beta).1 (M up.beta).2.1 (Z up.beta) Branch.essUpper [up.branch]
          (up.calls ++ [prev, up.beta])) ∨
    (Sc.le (M prev).2.1 target = false ∧ Sc.ge (M up.beta).2.1 target = false ∧
      ∀ Z, runEss M Z fin target tolE tolB fuel prev =
        finalize b.beta b.w b.ess (Z b.beta) Branch.essBisect [up.branch, b.branch]
          (up.calls ++ [prev, up.beta] ++ b.calls)) := by
  intro up b
  cases h1 : Sc.le (M prev).2.1 target with
  | true => exact Or.inl ⟨rfl, fun _ => if_pos h1⟩
  | false =>
    have n1 := ne_true_of_eq_false h1
    cases h2 : Sc.ge (M (upperLimit M target tolB fuel prev).beta).2.1 target with
    | true => exact Or.inr (Or.inl ⟨rfl, rfl, fun _ => (if_neg n1).trans (if_pos h2)⟩)
    | false => exact Or.inr (Or.inr ⟨rfl, rfl, fun _ => (if_neg n1).trans (if_neg (ne_true_of_eq_false h2))⟩)

theorem runDyn_cases_any (M : α → W × α × α) (fin : α → Bool) (target vv tolE tolB : α) (fuel : Nat) (prev : α) :
    let up := upperLimit M target tolB fuel prev
    let b := bisect M fin true vv tolE tolB fuel prev up.beta
    (eqv up.beta prev = true ∧ ∀ Z, runDyn M Z fin target vv tolE tolB fuel prev =
        finalize prev (M prev).1 (M prev).2.1 (Z prev) Branch.dynStuck [up.branch] (up.calls ++ [prev])) ∨
    (eqv up.beta prev = false ∧ Sc.ge vv (M up.beta).2.2 = true ∧ ∀ Z, runDyn M Z fin target vv tolE tolB fuel prev =
        finalize up.beta (M up.beta).1 (M up.beta).2.1 (Z up.beta) Branch.dynUpper [up.branch]
          (up.calls ++ [prev, up.beta, up.beta])) ∨
    (eqv up.beta prev = false ∧ Sc.ge vv (M up.beta).2.2 = false ∧ Sc.le vv (M prev).2.2 = true ∧
      ∀ Z, runDyn M Z fin target vv tolE tolB fuel prev =
        finalize prev (M prev).1 (M prev).2.1 (Z prev) Branch.dynStay [up.branch] (up.calls ++ [prev, up.beta, prev])) ∨
    (eqv up.beta prev = false ∧ Sc.ge vv (M up.beta).2.2 = false ∧ Sc.le vv (M prev).2.2 = false ∧
      ∀ Z, runDyn M Z fin target vv tolE tolB fuel prev =
        finalize b.beta b.w b.ess (Z b.beta) Branch.dynBisect [up.branch, b.branch]
          (up.calls ++ [prev, up.beta] ++ b.calls)) := by
  intro up b
  cases h0 : eqv (upperLimit M target tolB fuel prev).beta prev with
  | true => exact Or.inl ⟨rfl, fun _ => if_pos h0⟩
  | false =>
    have n0 := ne_true_of_eq_false h0
    cases h1 : Sc.ge vv (M (upperLimit M target tolB fuel prev).beta).2.2 with
    | true => exact Or.inr (Or.inl ⟨rfl, rfl, fun _ => (if_neg n0).trans (if_pos h1)⟩)
    | false =>
      have n1 := ne_true_of_eq_false h1
      cases h2 : Sc.le vv (M prev).2.2 with
      | true => exact Or.inr (Or.inr (Or.inl ⟨rfl, rfl, rfl, fun _ => (if_neg n0).trans ((if_neg n1).trans (if_pos h2))⟩))
      | false =>
        exact Or.inr (Or.inr (Or.inr ⟨rfl, rfl, rfl,
          fun _ => (if_neg n0).trans ((if_neg n1).trans (if_neg (ne_true_of_eq_false h2)))⟩))

theorem run_ess (c : Cfg α) (M : α → W × α × α) (Z : α → α) (fin : α → Bool) (prev : α) (hv : c.vv = none) :
    run c false M Z fin prev = runEss M Z fin c.target c.tolE c.tolB c.fuel prev := by
  simp only [run, hv, Bool.false_eq_true, if_false]

theorem run_dyn (c : Cfg α) (M : α → W × α × α) (Z : α → α) (fin : α → Bool) (prev : α) (v : α) (hv : c.vv = some v) :
    run c false M Z fin prev = runDyn M Z fin c.target v c.tolE c.tolB c.fuel prev := by
  simp only [run, hv, Bool.false_eq_true, if_false]

/-- Where a `run` on a non-empty history lands, `f` being the run as a function of the evidence oracle: `_finalize_iteration` at
    ONE temperature β with the metric oracle's answer there, the evidence oracle consulted there only; β is β_prev or the upper
    limit (then `sub` reports that search only) or the bisection's result (then it reports both).  `dyn` / `tg`: the mode and the
    target of the bisection (the ESS target in ESS mode, `volume_variation` otherwise). -/
def Lands (M : α → W × α × α) (fin : α → Bool) (dyn : Bool) (target tg tolE tolB : α) (fuel : Nat) (prev : α)
    (f : (α → α) → RunOut α W) : Prop :=
  let up := upperLimit M target tolB fuel prev
  let b := bisect M fin dyn tg tolE tolB fuel prev up.beta
  ∃ β br sub calls, (∀ Z, f Z = finalize β (M β).1 (M β).2.1 (Z β) br sub calls) ∧
    ((β = prev ∨ β = up.beta) ∧ sub = [up.branch] ∨ β = b.beta ∧ sub = [up.branch, b.branch])

theorem lands_bisect (M : α → W × α × α) (fin : α → Bool) (dyn : Bool) (target tg tolE tolB : α) (fuel : Nat)
    (prev : α) (br : Branch) (calls : List α) :
    let up := upperLimit M target tolB fuel prev
    let b := bisect M fin dyn tg tolE tolB fuel prev up.beta
    Lands M fin dyn target tg tolE tolB fuel prev
      fun Z => finalize b.beta b.w b.ess (Z b.beta) br [up.branch, b.branch] calls := by
  intro up b
  obtain ⟨b3, b4, _⟩ := bisect_out M fin dyn tg tolE tolB fuel prev up.beta
  exact ⟨_, br, _, calls, fun Z => by rw [b3, b4], Or.inr ⟨rfl, rfl⟩⟩

theorem runEss_lands (M : α → W × α × α) (fin : α → Bool) (target tolE tolB : α) (fuel : Nat) (prev : α) :
    Lands M fin false target target tolE tolB fuel prev fun Z => runEss M Z fin target tolE tolB fuel prev := by
  rcases runEss_cases_any M fin target tolE tolB fuel prev with ⟨_, e⟩ | ⟨_, _, e⟩ | ⟨_, _, e⟩
  · exact ⟨_, _, _, _, e, Or.inl ⟨Or.inl rfl, rfl⟩⟩
  · exact ⟨_, _, _, _, e, Or.inl ⟨Or.inr rfl, rfl⟩⟩
  · simp only [e]; exact lands_bisect M fin false target target tolE tolB fuel prev _ _

theorem runDyn_lands (M : α → W × α × α) (fin : α → Bool) (target vv tolE tolB : α) (fuel : Nat) (prev : α) :
    Lands M fin true target vv tolE tolB fuel prev fun Z => runDyn M Z fin target vv tolE tolB fuel prev := by
  rcases runDyn_cases_any M fin target vv tolE tolB fuel prev with ⟨_, e⟩ | ⟨_, _, e⟩ | ⟨_, _, _, e⟩ | ⟨_, _, _, e⟩
  · exact ⟨_, _, _, _, e, Or.inl ⟨Or.inl rfl, rfl⟩⟩
  · exact ⟨_, _, _, _, e, Or.inl ⟨Or.inr rfl, rfl⟩⟩
  · exact ⟨_, _, _, _, e, Or.inl ⟨Or.inl rfl, rfl⟩⟩
  · simp only [e]; exact lands_bisect M fin true target vv tolE tolB fuel prev _ _

theorem run_lands (c : Cfg α) (M : α → W × α × α) (fin : α → Bool) (prev : α) :
    Lands M fin c.vv.isSome c.target (c.vv.getD c.target) c.tolE c.tolB c.fuel prev fun Z => run c false M Z fin prev := by
  cases hv : c.vv with
  | none => simp only [run_ess c M _ fin prev hv]; exact runEss_lands M fin c.target c.tolE c.tolB c.fuel prev
  | some v => simp only [run_dyn c M _ fin prev v hv]; exact runDyn_lands M fin c.target v c.tolE c.tolB c.fuel prev

section
variable {M : α → W × α × α} {fin : α → Bool} {dyn : Bool} {target tg tolE tolB : α} {fuel : Nat} {prev : α}
  {f : (α → α) → RunOut α W} (h : Lands M fin dyn target tg tolE tolB fuel prev f) (Z : α → α)
include h

theorem Lands.congr_Z (Z' : α → α) : f Z' = { f Z with logz := Z' (f Z).beta } := by
  obtain ⟨β, br, sub, calls, e, _⟩ := h
  rw [e Z, e Z']; rfl

theorem Lands.coherent : (f Z).weightsTag = WTag.of (M (f Z).beta).1 ∧ (f Z).ess = (M (f Z).beta).2.1 ∧ (f Z).logz = Z (f Z).beta ∧
    (f Z).zcalls = [(f Z).beta] := by
  obtain ⟨β, br, sub, calls, e, _⟩ := h
  rw [e Z]; exact ⟨rfl, rfl, rfl, rfl⟩

theorem Lands.sub : (f Z).sub = [(upperLimit M target tolB fuel prev).branch] ∨
    (f Z).sub = [(upperLimit M target tolB fuel prev).branch,
      (bisect M fin dyn tg tolE tolB fuel prev (upperLimit M target tolB fuel prev).beta).branch] := by
  obtain ⟨β, br, sub, calls, e, hβ⟩ := h
  rw [e Z]
  exact hβ.imp And.right And.right

end

theorem run_Z_congr (c : Cfg α) (M : α → W × α × α) (Z Z' : α → α) (fin : α → Bool) (prev : α) :
    run c false M Z' fin prev = { run c false M Z fin prev with logz := Z' (run c false M Z fin prev).beta } :=
  (run_lands c M fin prev).congr_Z Z Z'


/-! ### at ℝ -/

theorem eqv_real (a b : ℝ) : eqv a b = true ↔ a = b := by
  simp only [eqv, Bool.and_eq_true, ScReal.le_def]; exact le_antisymm_iff.symm


theorem target_real (c : Cfg ℝ) : c.target = c.essRatio * c.nPart := by
  simp only [Cfg.target, ScReal.mul_def, ScReal.ofNat_def]

theorem eqv_zero {β : ℝ} : eqv β Sc.zero = true ↔ β = 0 := ScReal.zero_def ▸ eqv_real β 0

theorem reweight_shift_gen (cfg : Cfg ℝ) (emp : Bool) (M M' : ℝ → W × ℝ × ℝ) (Z Z' : ℝ → ℝ) (c : ℝ)
    (hM : emp = false → M' = M) (hZ : emp = false → ∀ β, Z' β = Z β + β * c) (fin : ℝ → Bool) (prev : ℝ) :
    run cfg emp M' Z' fin prev
      = { run cfg emp M Z fin prev with logz := (run cfg emp M Z fin prev).logz + (run cfg emp M Z fin prev).beta * c } := by
  cases emp with
  | true => simp [run]
  | false =>
    rw [hM rfl, run_Z_congr cfg M Z Z' fin prev, hZ rfl, ← ((run_lands cfg M fin prev).coherent Z).2.2.1]

end Model.Reweight
