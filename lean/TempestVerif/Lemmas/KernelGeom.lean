import TempestVerif.Lemmas.Maha
import Mathlib.LinearAlgebra.Matrix.Symmetric
/-
  Geometry of the Gaussian part of the mutation kernels (C03):
  with `Σ = L Lᵀ` (what `ModeStatistics` precomputes: `chol_covariances`, `inv_covariances = Σ⁻¹`) the Mahalanobis form of the
  noise term `c · L z` is `c² · zᵀz` and it is non-negative; for any symmetric `S` it expands bilinearly (Crank–Nicolson exponent).
-/
namespace Lemmas.KernelGeom
open Matrix Lemmas.Maha
variable {d : Type} [Fintype d] [DecidableEq d]

theorem maha_smul (S : Matrix d d ℝ) (c : ℝ) (v : d → ℝ) : maha S (c • v) = c ^ 2 * maha S v := by
  unfold maha
  rw [mulVec_smul, smul_dotProduct, dotProduct_smul]
  simp only [smul_eq_mul]; ring

theorem maha_chol (L : Matrix d d ℝ) (hL : IsUnit L.det) (z : d → ℝ) :
    maha (L * Lᵀ) (L *ᵥ z) = z ⬝ᵥ z := by
  have h := maha_affine L 1 z hL
  rw [Matrix.mul_one] at h
  rw [h]; unfold maha; simp

theorem maha_chol_noise (L : Matrix d d ℝ) (hL : IsUnit L.det) (c : ℝ) (z : d → ℝ) :
    maha (L * Lᵀ) (c • (L *ᵥ z)) = c ^ 2 * (z ⬝ᵥ z) := by
  rw [maha_smul, maha_chol L hL]

/-- the exponent of the Gaussian density of `L z` is the Mahalanobis form of `Σ = L Lᵀ` -/
theorem dotProduct_inv_mulVec_self (L : Matrix d d ℝ) (hL : IsUnit L.det) (v : d → ℝ) :
    (L⁻¹ *ᵥ v) ⬝ᵥ (L⁻¹ *ᵥ v) = maha (L * Lᵀ) v := by
  have hv : L *ᵥ (L⁻¹ *ᵥ v) = v := by rw [mulVec_mulVec, mul_nonsing_inv L hL, one_mulVec]
  rw [← maha_chol L hL (L⁻¹ *ᵥ v), hv]

/-- the quadratic form the code calls `dot_product` is non-negative when `inv_cov = (L Lᵀ)⁻¹` -/
theorem maha_chol_nonneg (L : Matrix d d ℝ) (hL : IsUnit L.det) (v : d → ℝ) : 0 ≤ maha (L * Lᵀ) v := by
  rw [← dotProduct_inv_mulVec_self L hL]
  exact Finset.sum_nonneg fun i _ => mul_self_nonneg _

noncomputable def mahaCross (S : Matrix d d ℝ) (v w : d → ℝ) : ℝ := v ⬝ᵥ (S⁻¹ *ᵥ w)

theorem mahaCross_comm (S : Matrix d d ℝ) (hS : S.IsSymm) (v w : d → ℝ) : mahaCross S v w = mahaCross S w v := by
  unfold mahaCross
  have hinv : (S⁻¹)ᵀ = S⁻¹ := by rw [transpose_nonsing_inv, hS.eq]
  rw [dotProduct_mulVec, ← hinv, vecMul_transpose, dotProduct_comm, hinv]

theorem maha_cn_expand (S : Matrix d d ℝ) (hS : S.IsSymm) (a : ℝ) (v w : d → ℝ) :
    maha S (w - a • v) = maha S w - 2 * a * mahaCross S v w + a ^ 2 * maha S v := by
  have hc := mahaCross_comm S hS v w
  unfold maha mahaCross at *
  rw [mulVec_sub, mulVec_smul, sub_dotProduct, dotProduct_sub, dotProduct_sub, smul_dotProduct, smul_dotProduct,
    dotProduct_smul, dotProduct_smul]
  simp only [smul_eq_mul]
  rw [← hc]; ring

end Lemmas.KernelGeom
