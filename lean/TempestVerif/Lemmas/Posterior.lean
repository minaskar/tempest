import TempestVerif.Model.Run
import TempestVerif.Model.Posterior
import TempestVerif.Lemmas.Ess
/-
  `Model.Run` (the loop of `run_sampling`, its guard `_not_termination`) and `Model.Posterior` (`weights0`, the untrimmed `posterior`).
  At `ℝ` the guard takes its effective sample size from the un-normalised `exp(logw − max)`; normalising changes no ESS, so what it
  tests is the ESS of the weights `posterior()` returns without trimming.
-/
namespace Model
open Model.Run Model.Posterior

theorem Run.loop_post {S : Type} (cont : S → Bool) (iter : S → S) (n : Nat) (s s' : S)
    (h : loop cont iter n s = some s') : cont s' = false ∧ ∃ k, k ≤ n ∧ s' = iter^[k] s := by
  induction n generalizing s with
  | zero =>
    rw [loop] at h
    split at h
    · cases h
    · cases h; exact ⟨Bool.eq_false_iff.2 ‹_›, 0, Nat.le_refl _, rfl⟩
  | succ n ih =>
    rw [loop] at h
    split at h
    · obtain ⟨hc, k, hk, e⟩ := ih _ h
      exact ⟨hc, k + 1, Nat.succ_le_succ hk, e⟩
    · cases h; exact ⟨Bool.eq_false_iff.2 ‹_›, 0, Nat.zero_le _, rfl⟩

theorem Run.notTermination_nil {α : Type} [ScT α] (tol β nT : α) : notTermination tol β [] nT = true := rfl

theorem Posterior.weights0_nil {α : Type} [ScT α] : weights0 ([] : List α) = none := rfl

/-- `posterior(trim_importance_weights=False, resample=False)`: the stored arrays with the untrimmed weights -/
theorem Posterior.posterior_plain {X L B α : Type} [ScT α] (tf rf : List String) (e : α) (bins : Nat) (u0 : α) (o : Opts)
    (a : Arrs X L B α α) (ht : o.trim = false) (hr : o.resample = false) :
    posterior tf rf e bins u0 o a = (weights0 a.lw).map fun w0 => { a with w := w0 } := by
  unfold posterior body
  rw [ht, hr]
  cases weights0 a.lw <;> rfl

theorem Posterior.weights0_facts (logw : List ℝ) (hne : logw ≠ []) :
    ∃ w0, weights0 logw = some w0 ∧ w0.length = logw.length ∧ (∀ y ∈ w0, 0 ≤ y) ∧ w0.sum = 1 := by
  cases logw with
  | nil => exact absurd rfl hne
  | cons x xs =>
    obtain ⟨hp, _, hs, hl⟩ := Model.Ess.expShift_valid x xs
    obtain ⟨h1, h2, _, _⟩ := Model.Ess.wn_facts (expShift x xs) (fun y hy => (hp y hy).1.le) (one_pos.trans_le hs)
    exact ⟨_, rfl, (Model.Ess.length_normalise _).trans hl, h2, h1⟩

theorem Posterior.weights0_eq (x : ℝ) (xs : List ℝ) :
    weights0 (x :: xs) = some ((x :: xs).map fun l => Real.exp l / ((x :: xs).map Real.exp).sum) := by
  have h := Model.Ess.normalise_map_exp_add (x :: xs) (-(Model.Ess.maxOf x xs))
  rw [Model.Ess.normalise_def (List.map Real.exp _), List.map_map] at h
  refine Eq.trans ?_ (congrArg some h)
  simp only [weights0, expShift, sc_real, sub_eq_add_neg]

theorem Posterior.weights0_of_normalised (lw : List ℝ) (hne : lw ≠ []) (hs : (lw.map Real.exp).sum = 1) :
    weights0 lw = some (lw.map Real.exp) := by
  cases lw with
  | nil => exact absurd rfl hne
  | cons x xs => rw [weights0_eq, hs]; simp only [div_one]

theorem Posterior.ess_weights_eq_guard (x : ℝ) (xs : List ℝ) :
    Model.Ess.ess (Model.Ess.normalise (expShift x xs)) = Model.Ess.ess (expShift x xs) :=
  Model.Ess.ess_normalise _ (one_pos.trans_le (Model.Ess.expShift_valid x xs).2.2.1).ne'

theorem Run.notTerm_false_iff (tol beta ess nTotal : ℝ) :
    notTerm tol beta ess nTotal = false ↔ 1 - beta < tol ∧ nTotal ≤ ess := by
  simp [notTerm, Bool.or_eq_false_iff]

theorem Run.notTermination_eq_false_iff (tol β nT : ℝ) (lw : List ℝ) :
    notTermination tol β lw nT = false ↔ 1 - β < tol ∧ ∃ w0, weights0 lw = some w0 ∧ nT ≤ Model.Ess.ess w0 := by
  cases lw with
  | nil => exact ⟨fun h => (nomatch h), fun ⟨_, _, h, _⟩ => (nomatch h)⟩
  | cons x xs =>
    rw [show notTermination tol β (x :: xs) nT = notTerm tol β (Model.Ess.ess (expShift x xs)) nT from rfl,
      notTerm_false_iff, ← ess_weights_eq_guard]
    exact ⟨fun h => ⟨h.1, _, rfl, h.2⟩, fun ⟨h1, _, h2, h3⟩ => ⟨h1, Option.some.inj h2 ▸ h3⟩⟩

theorem Run.notTermination_false (tol β nT : ℝ) (lw : List ℝ) (h : notTermination tol β lw nT = false) :
    lw ≠ [] ∧ 1 - β < tol ∧ ∃ w0, weights0 lw = some w0 ∧ w0.length = lw.length ∧ (∀ y ∈ w0, 0 ≤ y) ∧ w0.sum = 1 ∧
      nT ≤ Model.Ess.ess w0 ∧ 1 ≤ Model.Ess.ess w0 ∧ Model.Ess.ess w0 ≤ w0.length := by
  obtain ⟨hβ, w0, hw0, hess⟩ := (notTermination_eq_false_iff tol β nT lw).1 h
  have hne : lw ≠ [] := by rintro rfl; cases hw0
  obtain ⟨w, hw, hlen, hnn, hsum⟩ := weights0_facts lw hne
  cases hw0.symm.trans hw
  have hb := Model.Ess.ess_bounds w0 hnn (by rw [hsum]; exact one_pos)
  exact ⟨hne, hβ, w0, hw0, hlen, hnn, hsum, hess, hb.1, hb.2⟩

end Model
