import TempestVerif.Model.Resample
import TempestVerif.Lemmas.ScReal
/-
  Lemmas of `Model.Resample`: what `renorm`, the cap `lastPositive`, `systematicWith` and `resamplerRun` do for every scalar type, and over
  `ℝ` the equations of `sqrtEps`, `renorm`, `position`, `systematic` and `npSum` (numpy's pairwise sum is the sum).  The loop (`advance`,
  `run`) is specified in `Props/C06Loop.lean` through the definitions `cum` and `LoopSpec` of `C06_syst_loop_spec`; `multinomial` is read
  over `ℝ` in `Props/C06.lean` through its prefix sums `P`.
-/
namespace Model.Resample

section generic
variable {α : Type} [Sc α]

theorem renorm_length (s : α) (w : List α) : (renorm s w).length = w.length := by
  unfold renorm; split <;> simp

theorem mem_renorm {s : α} {w : List α} {x : α} (hx : x ∈ renorm s w) : x ∈ w ∨ ∃ y ∈ w, x = Sc.div y s := by
  unfold renorm at hx
  split at hx
  · obtain ⟨y, hy, rfl⟩ := List.mem_map.mp hx
    exact .inr ⟨y, hy, rfl⟩
  · exact .inl hx

/-! ### the cap `j_max` -/

theorem lastPos?_spec (v : List α) :
    match lastPos? v with
    | some k => k < v.length ∧ (∃ x, v[k]? = some x ∧ Sc.gt x Sc.zero = true) ∧
        ∀ j, k < j → ∀ x, v[j]? = some x → Sc.gt x Sc.zero = false
    | none => ∀ z ∈ v, Sc.gt z Sc.zero = false := by
  induction v with
  | nil => simp [lastPos?]
  | cons a l ih =>
    cases hl : lastPos? l with
    | some m =>
      simp only [hl] at ih
      obtain ⟨h1, ⟨x, hx, hpos⟩, h3⟩ := ih
      simp only [lastPos?, hl]
      refine ⟨Nat.succ_lt_succ h1, ⟨x, by simpa using hx, hpos⟩, fun j hj y hy => ?_⟩
      obtain ⟨j, rfl⟩ := Nat.exists_eq_succ_of_ne_zero (Nat.ne_zero_of_lt hj)
      exact h3 j (Nat.lt_of_succ_lt_succ hj) y (by simpa using hy)
    | none =>
      simp only [hl] at ih
      by_cases hpos : Sc.gt a Sc.zero = true
      · simp only [lastPos?, hl, hpos, if_true]
        refine ⟨Nat.succ_pos _, ⟨a, rfl, hpos⟩, fun j hj y hy => ?_⟩
        obtain ⟨j, rfl⟩ := Nat.exists_eq_succ_of_ne_zero (Nat.ne_zero_of_lt hj)
        exact ih y (List.mem_of_getElem? (by simpa using hy))
      · simp only [lastPos?, hl, hpos]
        intro z hz
        rcases List.mem_cons.mp hz with rfl | hz
        · simpa using hpos
        · exact ih z hz

theorem lastPositive_spec (v : List α) (hne : v ≠ []) :
    ∃ h : lastPositive v < v.length,
      (∀ j, lastPositive v < j → ∀ x, v[j]? = some x → Sc.gt x Sc.zero = false) ∧
      ((∃ x ∈ v, Sc.gt x Sc.zero = true) → Sc.gt v[lastPositive v] Sc.zero = true) := by
  have hs := lastPos?_spec v
  have hlen : 0 < v.length := List.length_pos_iff.mpr hne
  unfold lastPositive
  cases h : lastPos? v with
  | none =>
    rw [h] at hs
    refine ⟨by simp; omega, fun j _ x hx => hs x (List.mem_of_getElem? hx), fun ⟨x, hx, hx0⟩ => ?_⟩
    rw [hs x hx] at hx0; cases hx0
  | some k =>
    rw [h] at hs
    obtain ⟨h1, ⟨y, hy, hy0⟩, h3⟩ := hs
    refine ⟨h1, fun j hj => h3 j hj, fun _ => ?_⟩
    rw [List.getElem?_eq_getElem h1, Option.some.injEq] at hy
    simp only [Option.getD_some, hy, hy0]
theorem lastPositive_lt (v : List α) (hne : v ≠ []) : lastPositive v < v.length := (lastPositive_spec v hne).fst

theorem after_lastPositive (v : List α) (j : Nat) (hj : lastPositive v < j) (x : α) (hx : v[j]? = some x) :
    Sc.gt x Sc.zero = false :=
  (lastPositive_spec v fun e => by simp [e] at hx).snd.1 j hj x hx

theorem lastPositive_gt (v : List α) (hpos : ∃ x ∈ v, Sc.gt x Sc.zero = true) :
    ∃ h : lastPositive v < v.length, Sc.gt v[lastPositive v] Sc.zero = true :=
  have ⟨h, _, hgt⟩ := lastPositive_spec v (List.ne_nil_of_mem hpos.choose_spec.1)
  ⟨h, hgt hpos⟩

/-! ### the routine fails exactly on the empty vector -/

theorem systematicWith_some (s : α) (n : Nat) (w : List α) (u0 : α) (hw : w ≠ []) :
    ∃ c0 t, renorm s w = c0 :: t ∧
      systematicWith s n w u0 =
        some (run (c0 :: t) (lastPositive (c0 :: t)) (position n u0) (List.range n) 0 c0) := by
  have hl := renorm_length s w
  unfold systematicWith
  cases hv : renorm s w with
  | nil =>
    rw [hv] at hl
    exact absurd (List.length_eq_zero_iff.mp hl.symm) hw
  | cons c0 t => exact ⟨c0, t, rfl, rfl⟩

theorem systematicWith_none_iff (s : α) (n : Nat) (w : List α) (u0 : α) :
    systematicWith s n w u0 = none ↔ w = [] := by
  constructor
  · intro h
    by_contra hw
    obtain ⟨c0, t, _, h2⟩ := systematicWith_some s n w u0 hw
    rw [h2] at h; cases h
  · rintro rfl
    unfold systematicWith renorm; split <;> simp

/-! ### `Resampler.run` -/

theorem resamplerRun_syst_iff (n : ℕ) (w : List α) (u0 : α) (us : List α) (idx : List ℕ) :
    resamplerRun false Scheme.syst n w u0 us = RunResult.indices idx ↔ systematicNp n w u0 = some idx := by
  simp only [resamplerRun, Bool.false_eq_true, if_false]
  cases systematicNp n w u0 <;> simp

theorem resamplerRun_mult_iff (n : ℕ) (w : List α) (u0 : α) (us : List α) (idx : List ℕ) :
    resamplerRun false Scheme.mult n w u0 us = RunResult.indices idx ↔ multinomial w us = some idx := by
  simp only [resamplerRun, Bool.false_eq_true, if_false]
  cases multinomial w us <;> simp

end generic

/-! ### the equations of the model over `ℝ` -/

theorem sqrtEps_real : (sqrtEps : ℝ) = 1 / 2 ^ 26 := by
  simp [sqrtEps]; norm_num

theorem renorm_id (s : ℝ) (w : List ℝ) (hs : |s - 1| ≤ 1 / 2 ^ 26) : renorm s w = w := by
  unfold renorm
  have : ¬ (sqrtEps : ℝ) < |s - 1| := by rw [sqrtEps_real]; exact not_lt.mpr hs
  simp [ScReal.abs_def, this]

theorem renorm_of_sum_one {w : List ℝ} (hw1 : w.sum = 1) : renorm w.sum w = w :=
  renorm_id _ w (by rw [hw1]; norm_num)

theorem renorm_div (s : ℝ) (w : List ℝ) (hs : 1 / 2 ^ 26 < |s - 1|) :
    renorm s w = w.map (fun x => x / s) := by
  unfold renorm
  have : (sqrtEps : ℝ) < |s - 1| := by rw [sqrtEps_real]; exact hs
  simp [ScReal.abs_def, this]

theorem systematic_real (n : ℕ) (w : List ℝ) (u0 : ℝ) : systematic n w u0 = systematicWith w.sum n w u0 := by
  rw [systematic, ScReal.sum_def]

theorem position_real (n : ℕ) (u0 : ℝ) (i : ℕ) : position n u0 i = (u0 + i) / n := by
  simp [position]

theorem position_mono (n : ℕ) (u0 : ℝ) {a b : ℕ} (h : a ≤ b) : position n u0 a ≤ position n u0 b := by
  rw [position_real, position_real]
  have : (a : ℝ) ≤ b := by exact_mod_cast h
  exact div_le_div_of_nonneg_right (by linarith) (Nat.cast_nonneg n)


/-! ### `np.sum` (numpy's pairwise summation) is the sum at exact arithmetic -/

theorem zipWith_add_sum (a b : List ℝ) (h : a.length = b.length) :
    (List.zipWith Sc.add a b).sum = a.sum + b.sum := by
  induction a generalizing b with
  | nil => cases b with
    | nil => simp
    | cons y b => simp at h
  | cons x a ih => cases b with
    | nil => simp at h
    | cons y b =>
      simp only [List.zipWith_cons_cons, List.sum_cons, ScReal.add_def]
      rw [ih b (by simpa using h)]; ring

theorem fold8_spec (fuel : ℕ) (r rest : List ℝ) (q : ℕ) (hr : r.length = 8) (hq : rest.length = 8 * q)
    (hf : q ≤ fuel) : (fold8 r rest fuel).length = 8 ∧ (fold8 r rest fuel).sum = r.sum + rest.sum := by
  induction fuel generalizing r rest q with
  | zero =>
    obtain rfl : q = 0 := Nat.le_zero.mp hf
    obtain rfl := List.length_eq_zero_iff.mp hq
    exact ⟨hr, by rw [fold8, List.sum_nil, add_zero]⟩
  | succ fuel ih =>
    rw [fold8]
    split
    · obtain rfl : q = 0 := by omega
      obtain rfl := List.length_eq_zero_iff.mp hq
      exact ⟨hr, by rw [List.sum_nil, add_zero]⟩
    · have htk : (rest.take 8).length = 8 := by rw [List.length_take]; omega
      obtain ⟨h1, h2⟩ := ih (List.zipWith Sc.add r (rest.take 8)) (rest.drop 8) (q - 1)
        (by rw [List.length_zipWith, hr, htk]; rfl) (by rw [List.length_drop, hq]; omega) (by omega)
      exact ⟨h1, by rw [h2, zipWith_add_sum r _ (hr.trans htk.symm), add_assoc, List.sum_take_add_sum_drop]⟩

theorem tree8_real (r : List ℝ) (hr : r.length = 8) : tree8 r = r.sum := by
  match r, hr with
  | [a, b, c, d, e, f, g, h], _ =>
    simp only [tree8, ScReal.add_def, List.sum_cons, List.sum_nil]; ring

theorem pwBlock_real (l : List ℝ) (h8 : 8 ≤ l.length) : pwBlock l = l.sum := by
  have hm8 : 8 ≤ l.length - l.length % 8 := by omega
  have hml : l.length - l.length % 8 ≤ l.length := Nat.sub_le _ _
  have hrest : ((l.take (l.length - l.length % 8)).drop 8).length = 8 * ((l.length - l.length % 8 - 8) / 8) := by
    rw [List.length_drop, List.length_take, min_eq_left hml]; omega
  have htk : (l.take 8).length = 8 := by rw [List.length_take, min_eq_left h8]
  obtain ⟨h1, h2⟩ := fold8_spec l.length (l.take 8) _ _ htk hrest (by omega)
  have e : l.take 8 = (l.take (l.length - l.length % 8)).take 8 := by rw [List.take_take, min_eq_left hm8]
  rw [pwBlock, ScReal.foldl_add, tree8_real _ h1, h2, e, List.sum_take_add_sum_drop, List.sum_take_add_sum_drop]

theorem pairwiseSum_real (fuel : ℕ) (l : List ℝ) : pairwiseSum fuel l = l.sum := by
  induction fuel generalizing l with
  | zero => simp [pairwiseSum, ScReal.foldl_add]
  | succ fuel ih =>
    unfold pairwiseSum
    split
    · simp [ScReal.foldl_add]
    · rename_i h
      split
      · exact pwBlock_real l (by omega)
      · simp only [ih, ScReal.add_def, List.sum_take_add_sum_drop]

theorem npSum_real (w : List ℝ) : npSum w = w.sum := by
  simp [npSum, pairwiseSum_real]

theorem systematicNp_real (n : ℕ) (w : List ℝ) (u0 : ℝ) : systematicNp n w u0 = systematic n w u0 := by
  rw [systematic_real, systematicNp, npSum_real]

theorem posteriorResample_real (w : List ℝ) (u0 : ℝ) : posteriorResample w u0 = systematic w.length w u0 :=
  systematicNp_real _ w u0

end Model.Resample
