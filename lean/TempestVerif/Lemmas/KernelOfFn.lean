import TempestVerif.Model.Kernel
import TempestVerif.Lemmas.GaussJordan
import TempestVerif.Lemmas.VecOfFn
/-
  The list linear algebra of `Model/Kernel.lean` at `ℝ` on the list forms `List.ofFn v`, `matOf M` of Mathlib vectors and matrices:
  each operation is the list form of the Mathlib expression; and on one-element lists.  `dotv` and `vadd` are `Model.Student.dot` and
  `Model.Student.vadd` written again, so their lemmas are those of `Lemmas/VecOfFn.lean`.
-/
namespace Lemmas.KernelOfFn
open Matrix Model.Kernel
open Lemmas.GaussJordan (matOf)
open Lemmas.VecOfFn (zipWith_ofFn dot_ofFn)
variable {d : ℕ}

theorem dotv_ofFn {n : ℕ} (a b : Fin n → ℝ) : dotv (List.ofFn a) (List.ofFn b) = a ⬝ᵥ b := dot_ofFn a b

theorem vsub_ofFn {n : ℕ} (a b : Fin n → ℝ) : vsub (List.ofFn a) (List.ofFn b) = List.ofFn (a - b) :=
  zipWith_ofFn _ a b

theorem vadd_ofFn {n : ℕ} (a b : Fin n → ℝ) : vadd (List.ofFn a) (List.ofFn b) = List.ofFn (a + b) :=
  zipWith_ofFn _ a b

theorem matVec_matOf (M : Matrix (Fin d) (Fin d) ℝ) (v : Fin d → ℝ) :
    matVec (matOf M) (List.ofFn v) = List.ofFn (M *ᵥ v) := by
  rw [matVec, matOf, List.map_ofFn]
  exact congrArg List.ofFn (funext fun a => dotv_ofFn _ _)

theorem columns_ofFn {n : ℕ} : ∀ (m : ℕ) (R : Fin (m + 1) → Fin n → ℝ),
    columns (List.ofFn fun a => List.ofFn (R a)) = List.ofFn fun b => List.ofFn fun a => R a b := by
  intro m
  induction m with
  | zero =>
    intro R
    simp [columns, List.map_ofFn, Function.comp_def]
  | succ m ih =>
    intro R
    have h1 : (List.ofFn fun a => List.ofFn (R a))
        = List.ofFn (R 0) :: List.ofFn (R 1) :: List.ofFn fun a : Fin m => List.ofFn (R a.succ.succ) := by
      rw [List.ofFn_succ, List.ofFn_succ]; rfl
    rw [h1, columns]
    swap
    · simp
    have h2 : (List.ofFn (R 1) :: List.ofFn fun a : Fin m => List.ofFn (R a.succ.succ))
        = List.ofFn fun a : Fin (m + 1) => List.ofFn (R a.succ) := by
      rw [List.ofFn_succ]; rfl
    rw [h2, ih (fun a => R a.succ), zipWith_ofFn]
    exact List.ofFn_inj.mpr (funext fun b => (List.ofFn_succ (f := fun a => R a b)).symm)

theorem vecMat_matOf (v : Fin d → ℝ) (M : Matrix (Fin d) (Fin d) ℝ) :
    vecMat (List.ofFn v) (matOf M) = List.ofFn (v ᵥ* M) := by
  unfold vecMat matOf
  cases d with
  | zero => simp [columns]
  | succ n =>
    rw [columns_ofFn n (fun a b => M a b), List.map_ofFn]
    exact congrArg List.ofFn (funext fun b => dotv_ofFn v fun a => M a b)

theorem qform_matOf (v : Fin d → ℝ) (M : Matrix (Fin d) (Fin d) ℝ) :
    qform (List.ofFn v) (matOf M) = v ⬝ᵥ (M *ᵥ v) := by
  rw [qform, vecMat_matOf, dotv_ofFn, Matrix.dotProduct_mulVec]

theorem scaleMat_matOf (c : ℝ) (M : Matrix (Fin d) (Fin d) ℝ) : scaleMat c (matOf M) = matOf (c • M) := by
  unfold scaleMat matOf
  rw [List.map_ofFn]
  exact congrArg List.ofFn (funext fun a => List.map_ofFn)

/-- `mu + sqrt(1 - sigma**2) * diff + sigma * sqrt(s) * chol @ z` on lists = the vector expression of the theorems -/
theorem tpcnProposal_ofFn (μ diff z : Fin d → ℝ) (L : Matrix (Fin d) (Fin d) ℝ) (σ s : ℝ) :
    tpcnProposal (List.ofFn μ) (List.ofFn diff) (matOf L) σ s (List.ofFn z)
      = List.ofFn (μ + diffCoef σ • diff + noiseScale σ s • (L *ᵥ z)) := by
  rw [tpcnProposal, scaleMat_matOf, matVec_matOf, List.map_ofFn, vadd_ofFn, vadd_ofFn, Matrix.smul_mulVec]
  rfl

theorem rwmProposal_ofFn (u z : Fin d → ℝ) (L : Matrix (Fin d) (Fin d) ℝ) (σ : ℝ) :
    rwmProposal (List.ofFn u) (matOf L) σ (List.ofFn z) = List.ofFn (u + σ • (L *ᵥ z)) := by
  rw [rwmProposal, scaleMat_matOf, matVec_matOf, vadd_ofFn, Matrix.smul_mulVec]

theorem vsub_single (a b : ℝ) : vsub [a] [b] = [a - b] := by simp [vsub]

theorem qform_single (a ic : ℝ) : qform [a] [[ic]] = a * ic * a := by
  simp [qform, vecMat, columns, dotv, Sc.sum]

theorem tpcnProposal_single (m diff L σ s z : ℝ) :
    tpcnProposal [m] [diff] [[L]] σ s [z] = [m + diffCoef σ * diff + noiseScale σ s * L * z] := by
  simp [tpcnProposal, vadd, matVec, scaleMat, dotv, Sc.sum]

end Lemmas.KernelOfFn
