import TempestVerif.Model.Student
import TempestVerif.Lemmas.ScReal
import Mathlib.Algebra.BigOperators.Fin
/-
  The list vectors of `Model.Student` (`vadd`, `vmul`, `dot`, `lincomb`, at `ℝ`) on lists built by `List.ofFn`:
  each operation is the `List.ofFn` of the corresponding `Finset` expression.
  The list forms themselves are not here: `vecOf`, `matOf`, `colsOf` stand in `Props/C19Twin.lean`, `rowsOf` in
  `Props/C19Modes.lean` (`Props/C20VolVar.lean` has its own `vecOf` / `matOf`, `Lemmas/GaussJordan.lean` its own `matOf`, equal by `rfl`).
-/
namespace Lemmas.VecOfFn
open Model.Student

theorem zipWith_ofFn {β γ δ : Type} (g : β → γ → δ) {m : ℕ} (f : Fin m → β) (h : Fin m → γ) :
    List.zipWith g (List.ofFn f) (List.ofFn h) = List.ofFn fun i => g (f i) (h i) := by
  apply List.ext_getElem <;> simp

theorem zipIdx_ofFn {β : Type} {m : ℕ} (f : Fin m → β) :
    (List.ofFn f).zipIdx = List.ofFn fun i => (f i, i.val) := by
  apply List.ext_getElem
  · simp
  · intro k h1 h2
    simp

theorem sc_sum_ofFn {m : ℕ} (f : Fin m → ℝ) : Sc.sum (List.ofFn f) = ∑ i, f i := by
  rw [ScReal.sum_def, List.sum_ofFn]

theorem dot_ofFn {m : ℕ} (f g : Fin m → ℝ) : dot (List.ofFn f) (List.ofFn g) = ∑ i, f i * g i := by
  rw [dot, vmul, zipWith_ofFn, sc_sum_ofFn]; rfl

theorem foldl_vadd_ofFn {m k : ℕ} (f : Fin k → Fin m → ℝ) (g : Fin m → ℝ) :
    (List.ofFn fun j => List.ofFn (f j)).foldl vadd (List.ofFn g) = List.ofFn fun i => g i + ∑ j, f j i := by
  induction k generalizing g with
  | zero => simp
  | succ k ih =>
    rw [List.ofFn_succ, List.foldl_cons, vadd, zipWith_ofFn, ih (fun j => f j.succ)]
    refine congrArg _ (funext fun i => ?_)
    rw [Fin.sum_univ_succ, ScReal.add_def, add_assoc]

theorem foldl_vadd_zero_ofFn {m k : ℕ} (f : Fin k → Fin m → ℝ) :
    (List.ofFn fun j => List.ofFn (f j)).foldl vadd (List.replicate m Sc.zero) = List.ofFn fun i => ∑ j, f j i := by
  rw [← List.ofFn_const, foldl_vadd_ofFn]
  exact congrArg _ (funext fun i => by rw [ScReal.zero_def, zero_add])

theorem lincomb_ofFn {k m : ℕ} (c : Fin k → ℝ) (V : Fin k → Fin m → ℝ) :
    lincomb m (List.ofFn c) (List.ofFn fun j => List.ofFn (V j)) = List.ofFn fun i => ∑ j, c j * V j i := by
  have h1 : (fun j => Model.Student.smul (c j) (List.ofFn (V j))) = fun j => List.ofFn fun i => c j * V j i :=
    funext fun j => List.map_ofFn
  rw [lincomb, zipWith_ofFn, h1, foldl_vadd_zero_ofFn]

end Lemmas.VecOfFn
