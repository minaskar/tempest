import TempestVerif.Model.Weights
import Mathlib.Algebra.Order.BigOperators.Group.List
import Mathlib.Algebra.BigOperators.Ring.Finset
import Mathlib.Tactic.Ring
/-
  The history that `Model.Weights.logw` reads, as a list of batches of any scalar type: how the particle count `nTotal` and the flat
  log-likelihood array `flatLogl` behave when the history is empty, grows by a batch, is joined or is mapped batch by batch, and that
  there is one log-weight per stored particle (`length_logw`), whatever the history and the `normalize` flag; `finish` by its two cases.
-/
namespace Model.Weights
variable {α β : Type}

theorem nTotal_nil : nTotal ([] : List (Batch α)) = 0 := rfl

theorem nTotal_cons (b : Batch α) (bs : List (Batch α)) : nTotal (b :: bs) = b.logl.length + nTotal bs := by
  simp [nTotal]

theorem nTotal_append (a b : List (Batch α)) : nTotal (a ++ b) = nTotal a + nTotal b := by
  simp [nTotal]

theorem nTotal_map (g : Batch α → Batch β) (hg : ∀ b, (g b).logl.length = b.logl.length) (h : List (Batch α)) :
    nTotal (h.map g) = nTotal h := by
  simp [nTotal, List.map_map, Function.comp_def, hg]

theorem nTotal_perm {h h' : List (Batch α)} (p : h.Perm h') : nTotal h = nTotal h' :=
  (p.map _).sum_eq

theorem nTotal_cast {R : Type} [AddMonoidWithOne R] (h : List (Batch α)) :
    (nTotal h : R) = (h.map fun b => (b.logl.length : R)).sum := by
  simp [nTotal, Nat.cast_list_sum, List.map_map, Function.comp_def]

theorem nTotal_eq_length_mul (h : List (Batch α)) (n : Nat) (hl : ∀ b ∈ h, b.logl.length = n) :
    nTotal h = h.length * n := by
  induction h with
  | nil => simp [nTotal_nil]
  | cons b h ih =>
    rw [nTotal_cons, hl b List.mem_cons_self, ih fun x hx => hl x (List.mem_cons_of_mem _ hx), List.length_cons]
    ring

theorem length_le_nTotal (h : List (Batch α)) (b : Batch α) (hb : b ∈ h) : b.logl.length ≤ nTotal h :=
  List.single_le_sum (fun x _ => Nat.zero_le x) _ (List.mem_map_of_mem hb)

theorem length_le_nTotal_of_pos (h : List (Batch α)) (hn : ∀ b ∈ h, 1 ≤ b.logl.length) : h.length ≤ nTotal h := by
  induction h with
  | nil => exact Nat.zero_le _
  | cons b bs ih =>
    have h1 := hn b List.mem_cons_self
    have h2 := ih fun b' hb' => hn b' (List.mem_cons_of_mem _ hb')
    rw [nTotal_cons, List.length_cons]
    omega

theorem one_le_nTotal {h : List (Batch α)} (hne : h ≠ []) (hn : ∀ b ∈ h, 1 ≤ b.logl.length) : 1 ≤ nTotal h := by
  obtain ⟨b0, hb0⟩ := List.exists_mem_of_ne_nil h hne
  exact (hn b0 hb0).trans (length_le_nTotal h b0 hb0)

theorem flatLogl_nil : flatLogl ([] : List (Batch α)) = [] := rfl

theorem flatLogl_cons (b : Batch α) (bs : List (Batch α)) : flatLogl (b :: bs) = b.logl ++ flatLogl bs := rfl

theorem flatLogl_append (a b : List (Batch α)) : flatLogl (a ++ b) = flatLogl a ++ flatLogl b :=
  List.flatMap_append

theorem flatLogl_split (pre post : List (Batch α)) (b : Batch α) :
    flatLogl (pre ++ b :: post) = flatLogl pre ++ (b.logl ++ flatLogl post) :=
  flatLogl_append pre (b :: post)

theorem flatLogl_singleton (b : Batch α) : flatLogl [b] = b.logl := List.append_nil _

theorem flatLogl_map (g : Batch α → Batch β) (f : α → β) (hg : ∀ b, (g b).logl = b.logl.map f) (h : List (Batch α)) :
    flatLogl (h.map g) = (flatLogl h).map f := by
  induction h with
  | nil => rfl
  | cons b bs ih => rw [List.map_cons, flatLogl_cons, flatLogl_cons, List.map_append, ih, hg]

theorem length_flatLogl (h : List (Batch α)) : (flatLogl h).length = nTotal h := by
  simp [flatLogl, nTotal, List.length_flatMap]

theorem mem_flatLogl {h : List (Batch α)} {l : α} : l ∈ flatLogl h ↔ ∃ b ∈ h, l ∈ b.logl := List.mem_flatMap

theorem length_rawLogw [ScT α] (b0 : Batch α) (bs : List (Batch α)) (beta : α) :
    (rawLogw b0 bs beta).length = nTotal (b0 :: bs) := by
  rw [rawLogw, List.length_map, length_flatLogl]

theorem finish_nil [ScT α] (normalize : Bool) : finish ([] : List α) normalize = ([], none) := rfl

theorem finish_fst_false [ScT α] (w : List α) : (finish w false).1 = w := by
  cases w <;> rfl

theorem finish_cons_fst_true [ScT α] (w0 : α) (ws : List α) :
    (finish (w0 :: ws) true).1 = (w0 :: ws).map fun x => Sc.sub x (logaddexpReduce1 w0 ws) := rfl

theorem finish_cons_snd [ScT α] (w0 : α) (ws : List α) (normalize : Bool) :
    (finish (w0 :: ws) normalize).2
      = some (Sc.sub (logaddexpReduce1 w0 ws) (ScT.log (Sc.ofNat (w0 :: ws).length))) := rfl

theorem length_finish [ScT α] (w : List α) (normalize : Bool) : (finish w normalize).1.length = w.length := by
  cases normalize with
  | false => rw [finish_fst_false]
  | true => cases w with
    | nil => rfl
    | cons w0 ws => rw [finish_cons_fst_true, List.length_map]

@[simp] theorem logw_nil [ScT α] (beta : α) (normalize : Bool) : logw ([] : List (Batch α)) beta normalize = ([], none) := rfl

theorem length_logw [ScT α] (h : List (Batch α)) (beta : α) (normalize : Bool) : (logw h beta normalize).1.length = nTotal h := by
  cases h with
  | nil => rfl
  | cons b0 bs => exact (length_finish _ _).trans (length_rawLogw b0 bs beta)

end Model.Weights
