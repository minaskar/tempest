import TempestVerif.Model.Ess
import TempestVerif.Lemmas.ScReal
import Mathlib.Analysis.SpecialFunctions.Exp
/-
  `Model.Ess` at `ℝ` (exact arithmetic).  The effective sample size is handled through `S = Σw` and `Q = Σw²` (`ess_eq_kish`): its bounds
  are `Q ≤ S²` and Cauchy–Schwarz `S² ≤ N·Q`, rescaling the weights changes neither ratio, and cutting a weight vector at a threshold
  leaves the part with the larger `Q/S` above (`upper_cross`, the inequality behind `trim_weights`).
-/
namespace Model.Ess

/-! ### the model's sums at `ℝ` -/

theorem normalise_def (w : List ℝ) : normalise w = w.map (fun x => x / w.sum) := by
  simp [normalise, ScReal.sum_def]

theorem sumSq_def (w : List ℝ) : sumSq w = (w.map (fun x => x * x)).sum := by
  simp [sumSq, ScReal.sum_def]

theorem ess_def (w : List ℝ) : ess w = 1 / (( w.map (fun x => x / w.sum)).map (fun x => x * x)).sum := by
  simp [ess, normalise_def, sumSq_def]

theorem sum_sq_map_div (l : List ℝ) (c : ℝ) :
    ((l.map (fun x => x / c)).map (fun x => x * x)).sum = (l.map (fun x => x * x)).sum / (c * c) := by
  induction l with
  | nil => simp
  | cons a l ih =>
    simp only [List.map_cons, List.sum_cons, ih]
    rw [add_div, div_mul_div_comm]

theorem sum_map_mul_left (l : List ℝ) (c : ℝ) : (l.map (fun x => c * x)).sum = c * l.sum := by
  rw [List.sum_map_mul_left, List.map_id']

theorem ess_eq_kish (w : List ℝ) : ess w = w.sum * w.sum / (w.map fun x => x * x).sum := by
  rw [ess_def, sum_sq_map_div, one_div_div]

/-! ### normalisation and rescaling -/

theorem normalise_smul (c : ℝ) (hc : c ≠ 0) (w : List ℝ) : normalise (w.map (fun y => c * y)) = normalise w := by
  rw [normalise_def, normalise_def, List.map_map, sum_map_mul_left]
  apply List.map_congr_left
  intro y _
  exact mul_div_mul_left _ _ hc

theorem sum_normalise (w : List ℝ) (hs : w.sum ≠ 0) : (normalise w).sum = 1 := by
  rw [normalise_def]; exact ScReal.sum_map_div_self hs

theorem normalise_of_sum_one (l : List ℝ) (h : l.sum = 1) : normalise l = l := by
  rw [normalise_def, h]; simp

theorem length_normalise {α : Type} [Sc α] (l : List α) : (normalise l).length = l.length := List.length_map _

theorem ess_smul (c : ℝ) (hc : c ≠ 0) (w : List ℝ) : ess (w.map (fun x => c * x)) = ess w := by
  unfold ess; rw [normalise_smul c hc]

theorem ess_normalise (w : List ℝ) (hs : w.sum ≠ 0) : ess (normalise w) = ess w := by
  unfold ess; rw [normalise_of_sum_one _ (sum_normalise w hs)]

theorem ess_of_sum_one (l : List ℝ) (h : l.sum = 1) : ess l = 1 / sumSq l := by
  unfold ess; rw [normalise_of_sum_one _ h]; simp

/-! ### inequalities between `S = Σw`, `Q = Σw²` and `N`: `Q ≤ S²`, `S² ≤ N·Q`, `0 < Q` -/

theorem sum_sq_nonneg (l : List ℝ) : 0 ≤ (l.map (fun x => x * x)).sum :=
  List.sum_nonneg fun y hy => by obtain ⟨z, _, rfl⟩ := List.mem_map.mp hy; exact mul_self_nonneg z

theorem sum_sq_le_mul_sum (M : List ℝ) (b : ℝ) (hM : ∀ x ∈ M, 0 ≤ x ∧ x ≤ b) :
    (M.map (fun x => x * x)).sum ≤ b * M.sum := by
  rw [← sum_map_mul_left]
  exact List.sum_le_sum fun x hx => mul_le_mul_of_nonneg_right (hM x hx).2 (hM x hx).1

theorem mul_sum_le_sum_sq (K : List ℝ) (b : ℝ) (hK : ∀ x ∈ K, 0 ≤ x ∧ b ≤ x) :
    b * K.sum ≤ (K.map (fun x => x * x)).sum := by
  rw [← sum_map_mul_left]
  exact List.sum_le_sum fun x hx => mul_le_mul_of_nonneg_right (hK x hx).2 (hK x hx).1

theorem sum_sq_le_sq_sum (l : List ℝ) (h : ∀ x ∈ l, 0 ≤ x) :
    (l.map (fun x => x * x)).sum ≤ l.sum * l.sum :=
  sum_sq_le_mul_sum l l.sum fun x hx => ⟨h x hx, List.single_le_sum h x hx⟩

theorem sum_sq_dev (l : List ℝ) (m : ℝ) :
    (l.map (fun x => (x - m) * (x - m))).sum
      = (l.map (fun x => x * x)).sum - 2 * m * l.sum + l.length * (m * m) := by
  induction l with
  | nil => simp
  | cons a l ih =>
    simp only [List.map_cons, List.sum_cons, List.length_cons, ih]
    push_cast; ring

/-- Cauchy–Schwarz `S² ≤ N·Q` is the sign of this sum, its equality case the vanishing -/
theorem sum_sq_dev_mean (l : List ℝ) (hne : l ≠ []) :
    (l.map (fun x => (x - l.sum / l.length) * (x - l.sum / l.length))).sum
      = (l.map (fun x => x * x)).sum - l.sum * l.sum / l.length := by
  have hN : (l.length : ℝ) ≠ 0 := Nat.cast_ne_zero.mpr (List.length_pos_iff.mpr hne).ne'
  rw [sum_sq_dev]; field_simp; ring

theorem sq_sum_le_length_mul (l : List ℝ) :
    l.sum * l.sum ≤ l.length * (l.map (fun x => x * x)).sum := by
  by_cases hne : l = []
  · simp [hne]
  · have hN : (0 : ℝ) < l.length := Nat.cast_pos.mpr (List.length_pos_iff.mpr hne)
    have h := sum_sq_nonneg (l.map fun x => x - l.sum / l.length)
    rw [List.map_map] at h
    rw [← div_le_iff₀' hN, ← sub_nonneg, ← sum_sq_dev_mean l hne]
    exact h

theorem sum_sq_pos_of_sum_pos (K : List ℝ) (hs : 0 < K.sum) : 0 < (K.map (fun x => x * x)).sum :=
  pos_of_mul_pos_right ((mul_pos hs hs).trans_le (sq_sum_le_length_mul K)) (Nat.cast_nonneg _)

theorem ess_pos (w : List ℝ) (hs : 0 < w.sum) : 0 < ess w := by
  rw [ess_eq_kish]
  exact div_pos (mul_pos hs hs) (sum_sq_pos_of_sum_pos w hs)

theorem ess_bounds (w : List ℝ) (h0 : ∀ x ∈ w, 0 ≤ x) (hs : 0 < w.sum) : 1 ≤ ess w ∧ ess w ≤ w.length := by
  have hq := sum_sq_pos_of_sum_pos w hs
  rw [ess_eq_kish, le_div_iff₀ hq, div_le_iff₀ hq, one_mul]
  exact ⟨sum_sq_le_sq_sum w h0, sq_sum_le_length_mul w⟩

theorem wn_facts (w : List ℝ) (h0 : ∀ x ∈ w, 0 ≤ x) (hs : 0 < w.sum) :
    (normalise w).sum = 1 ∧ (∀ x ∈ normalise w, 0 ≤ x) ∧ 0 < sumSq (normalise w) ∧ normalise w ≠ [] := by
  have h1 := sum_normalise w hs.ne'
  refine ⟨h1, normalise_def w ▸ ScReal.div_sum_nonneg h0 hs.le, ?_, ScReal.ne_nil_of_sum_pos (h1 ▸ one_pos)⟩
  rw [sumSq_def]
  exact sum_sq_pos_of_sum_pos _ (h1 ▸ one_pos)

/-! ### cutting at a threshold -/

/-- an upper set `K` (all `≥ b`) against the rest `M` (all in `[0, b]`): the dropped part has the smaller ratio `Σx²/Σx` -/
theorem upper_cross (K M : List ℝ) (b : ℝ) (hK : ∀ x ∈ K, 0 ≤ x ∧ b ≤ x) (hM : ∀ x ∈ M, 0 ≤ x ∧ x ≤ b) :
    K.sum * (M.map fun x => x * x).sum ≤ M.sum * (K.map fun x => x * x).sum :=
  calc K.sum * (M.map fun x => x * x).sum ≤ K.sum * (b * M.sum) :=
        mul_le_mul_of_nonneg_left (sum_sq_le_mul_sum M b hM) (List.sum_nonneg fun x hx => (hK x hx).1)
    _ = M.sum * (b * K.sum) := by ring
    _ ≤ M.sum * (K.map fun x => x * x).sum :=
        mul_le_mul_of_nonneg_left (mul_sum_le_sum_sq K b hK) (List.sum_nonneg fun x hx => (hM x hx).1)

/-- the upper set has at most its share of the mass, `S/(S+s)`, of the ESS of the whole: with `S, Q` of `K` and `s, q` of `M` the claim
    is `S·(Q+q) ≤ (S+s)·Q`, which is `upper_cross` -/
theorem kish_upper_mass (K M : List ℝ) (b : ℝ)
    (hK : ∀ x ∈ K, 0 ≤ x ∧ b ≤ x) (hM : ∀ x ∈ M, 0 ≤ x ∧ x ≤ b) (hKpos : 0 < K.sum) :
    ess K * (K.sum + M.sum) ≤ K.sum * ess (K ++ M) := by
  have hQ := sum_sq_pos_of_sum_pos K hKpos
  have hs : 0 ≤ M.sum := List.sum_nonneg fun x hx => (hM x hx).1
  have hc := upper_cross K M b hK hM
  rw [ess_eq_kish, ess_eq_kish, List.map_append, List.sum_append, List.sum_append,
    div_mul_eq_mul_div, ← mul_div_assoc, div_le_div_iff₀ hQ (add_pos_of_pos_of_nonneg hQ (sum_sq_nonneg M))]
  generalize K.sum = S, (K.map fun x => x * x).sum = Q, M.sum = s, (M.map fun x => x * x).sum = q at *
  calc S * S * (S + s) * (Q + q) = S * (S + s) * (S * Q + S * q) := by ring
    _ ≤ S * (S + s) * (S * Q + s * Q) :=
        mul_le_mul_of_nonneg_left ((add_le_add_iff_left _).mpr hc) (mul_nonneg hKpos.le (add_nonneg hKpos.le hs))
    _ = S * ((S + s) * (S + s)) * Q := by ring

theorem ess_perm (l1 l2 : List ℝ) (h : l1.Perm l2) : ess l1 = ess l2 := by
  rw [ess_eq_kish, ess_eq_kish, h.sum_eq, (h.map (fun x => x * x)).sum_eq]

theorem upper_set_ess_mass (w : List ℝ) (h0 : ∀ x ∈ w, 0 ≤ x) (θ : ℝ)
    (hpos : 0 < (w.filter (fun x => decide (θ ≤ x))).sum) :
    ess (w.filter (fun x => decide (θ ≤ x))) * w.sum ≤ (w.filter (fun x => decide (θ ≤ x))).sum * ess w := by
  have hperm := List.filter_append_perm (fun x => decide (θ ≤ x)) w
  rw [← ess_perm _ _ hperm, ← hperm.sum_eq, List.sum_append]
  refine kish_upper_mass _ _ θ (fun x hx => ?_) (fun x hx => ?_) hpos
  · exact ⟨h0 x (List.mem_filter.mp hx).1, by simpa using (List.mem_filter.mp hx).2⟩
  · exact ⟨h0 x (List.mem_filter.mp hx).1, le_of_lt (by simpa using (List.mem_filter.mp hx).2)⟩

theorem upper_set_ess_le (w : List ℝ) (h0 : ∀ x ∈ w, 0 ≤ x) (θ : ℝ)
    (hpos : 0 < (w.filter (fun x => decide (θ ≤ x))).sum) :
    ess (w.filter (fun x => decide (θ ≤ x))) ≤ ess w := by
  have hle : (w.filter (fun x => decide (θ ≤ x))).sum ≤ w.sum := List.filter_sublist.sum_le_sum fun x hx => h0 x hx
  have hs : 0 < w.sum := hpos.trans_le hle
  refine le_of_mul_le_mul_right ((upper_set_ess_mass w h0 θ hpos).trans ?_) hs
  rw [mul_comm]
  exact mul_le_mul_of_nonneg_left hle (ess_pos w hs).le

/-! ### log-weights: `exp(logw − c)` -/

theorem map_exp_add (l : List ℝ) (c : ℝ) :
    (l.map fun x => Real.exp (x + c)) = (l.map Real.exp).map (fun y => Real.exp c * y) := by
  rw [List.map_map]
  exact List.map_congr_left fun x _ => (Real.exp_add x c).trans (mul_comm _ _)

theorem ess_map_exp_add (l : List ℝ) (c : ℝ) :
    ess (l.map fun x => Real.exp (x + c)) = ess (l.map Real.exp) := by
  rw [map_exp_add, ess_smul _ (Real.exp_pos c).ne']

theorem normalise_map_exp_add (l : List ℝ) (c : ℝ) :
    normalise (l.map fun x => Real.exp (x + c)) = normalise (l.map Real.exp) := by
  rw [map_exp_add, normalise_smul _ (Real.exp_pos c).ne']

theorem maxOf_nil {α : Type} [Sc α] (x : α) : maxOf x [] = x := rfl

theorem maxOf_spec (x : ℝ) (xs : List ℝ) : (∀ y ∈ x :: xs, y ≤ maxOf x xs) ∧ maxOf x xs ∈ x :: xs := by
  have h : (x :: xs).max? = some (maxOf x xs) := by
    rw [List.max?_cons', maxOf, funext₂ ScReal.max_def]
  exact (List.max?_eq_some_iff.mp h).symm

/-- stated on the expression itself: it is the body of `Model.TrimSites.expShift`, of `Model.Posterior.expShift` and of
    `Model.EM.shiftExp` -/
theorem expShift_valid (x : ℝ) (xs : List ℝ) :
    let w := (x :: xs).map fun l => ScT.exp (Sc.sub l (maxOf x xs))
    (∀ y ∈ w, 0 < y ∧ y ≤ 1) ∧ (1 : ℝ) ∈ w ∧ 1 ≤ w.sum ∧ w.length = xs.length + 1 := by
  intro w
  obtain ⟨hub, hmem⟩ := maxOf_spec x xs
  have hent : ∀ y ∈ w, 0 < y ∧ y ≤ 1 := by
    intro y hy
    obtain ⟨l, hl, rfl⟩ := List.mem_map.mp hy
    refine ⟨Real.exp_pos _, ?_⟩
    simp only [ScReal.exp_def, ScReal.sub_def]
    rw [← Real.exp_zero]
    exact Real.exp_le_exp.mpr (sub_nonpos.mpr (hub l hl))
  have hone : (1 : ℝ) ∈ w := List.mem_map.mpr ⟨maxOf x xs, hmem, by simp⟩
  exact ⟨hent, hone, List.single_le_sum (fun y hy => (hent y hy).1.le) 1 hone, by simp [w]⟩

theorem ess_expShift_bounds (x : ℝ) (xs : List ℝ) :
    let w := (x :: xs).map fun l => ScT.exp (Sc.sub l (maxOf x xs))
    1 ≤ ess w ∧ ess w ≤ (xs.length + 1 : ℕ) := by
  intro w
  obtain ⟨hent, _, hsum, hlen⟩ := expShift_valid x xs
  have := ess_bounds w (fun y hy => (hent y hy).1.le) (one_pos.trans_le hsum)
  rwa [hlen] at this

end Model.Ess
