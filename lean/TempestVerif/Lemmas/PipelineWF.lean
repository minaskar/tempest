import TempestVerif.Model.Pipeline
import TempestVerif.Lemmas.Pipeline
import TempestVerif.Props.C04
import TempestVerif.Props.C06Loop
/-
  The tape model `Model.Pipeline` over ℝ: every stored batch is non-empty (`WFS`) is an invariant of `iterate` on a tape that
  supplies at least one draw and one resampled particle (`TapeOK`), and it is the hypothesis `Props.C04.WF` of C04's theorems
  about the evidence (`WF_batches`, `oracleZ_eq`).  The namespace is `Lemmas.PipelineShift`: `WFS` and `TapeOK` are the
  hypotheses of C10's shift theorems (`Lemmas/PipelineShift.lean`, `Props/C10.lean`), whose statements name them so.
-/
namespace Lemmas.PipelineShift
open Model.Pipeline Model.Weights Model.Reweight Model.Records Model.Resample
open Lemmas.Pipeline

def WFS (s : PState ℝ) : Prop := ∀ pb ∈ s.hist, 1 ≤ pb.b.logl.length

theorem WF_map {X : Type} (f : X → Batch ℝ) (l : List X) (h : ∀ x ∈ l, 1 ≤ (f x).logl.length) :
    l.map f = [] ∨ Props.C04.WF (l.map f) := by
  by_cases hl : l = []
  · exact .inl (hl ▸ rfl)
  · exact .inr ⟨mt List.map_eq_nil_iff.mp hl, List.forall_mem_map.mpr h⟩

theorem WF_batches (s : PState ℝ) (hs : WFS s) : batches s.hist = [] ∨ Props.C04.WF (batches s.hist) :=
  WF_map PBatch.b s.hist hs

theorem WF_of_WFS (s : PState ℝ) (hs : WFS s) (hne : s.hist ≠ []) : Props.C04.WF (batches s.hist) :=
  (WF_batches s hs).resolve_left (mt List.map_eq_nil_iff.mp hne)

theorem oracleZ_eq (h : List (Batch ℝ)) (hwf : Props.C04.WF h) (β : ℝ) : oracleZ h β = Props.C04.specLogz h β :=
  oracleZ_of_some (Props.C04.C04_logz h hwf β true)

theorem iterate_size (cfg : PCfg ℝ) (s : PState ℝ) (t : Tape ℝ) (s1 : PState ℝ) (o : IterOut ℝ)
    (h : iterate cfg s t = some (s1, o)) :
    s1.curL.length = t.drawL.length ∨
      s1.curL.length = (if cfg.syst then cfg.rw.nPart else t.resU.length) := by
  obtain ⟨-, l, hl, rfl, -⟩ | ⟨-, idx, tg, l, hidx, -, hl, rfl, -⟩ := iterate_some h _ rfl
  · exact .inl ((allSome_length hl).trans (warmup_length t _))
  · refine .inr ((mcmcSteps_length _ _ _ _).trans ((gather?_length hl).trans ?_))
    obtain ⟨hsy, u0, -, hidx⟩ | ⟨hsy, hidx⟩ := resampleIdx_some hidx
    · rw [if_pos hsy]
      exact Props.C06.C06_syst_length _ _ _ _ _ hidx
    · rw [hsy, if_neg Bool.false_ne_true]
      exact Props.C06.C06_mult_length _ _ _ hidx

/-- the tape supplies at least one prior draw and at least one resampled particle -/
def TapeOK (cfg : PCfg ℝ) (t : Tape ℝ) : Prop :=
  1 ≤ t.drawL.length ∧ 1 ≤ (if cfg.syst then cfg.rw.nPart else t.resU.length)

theorem iterate_WFS (cfg : PCfg ℝ) (s : PState ℝ) (t : Tape ℝ) (s1 : PState ℝ) (o : IterOut ℝ)
    (hs : WFS s) (ht : TapeOK cfg t) (h : iterate cfg s t = some (s1, o)) : WFS s1 := by
  obtain ⟨hh, _, _⟩ := iterate_commit cfg s t s1 o h
  intro pb hpb
  rw [hh, List.mem_append] at hpb
  rcases hpb with hpb | hpb
  · exact hs pb hpb
  · simp only [List.mem_singleton] at hpb
    subst hpb
    simp only
    rcases iterate_size cfg s t s1 o h with e | e <;> rw [e]
    · exact ht.1
    · exact ht.2

theorem WFS_init : WFS (init : PState ℝ) := by intro pb hpb; simp [init] at hpb

theorem runIters_WFS (cfg : PCfg ℝ) (ts : List (Tape ℝ)) (s sf : PState ℝ) (os : List (IterOut ℝ)) (hs : WFS s)
    (ht : ∀ t ∈ ts, TapeOK cfg t) (h : runIters cfg s ts = some (sf, os)) : WFS sf :=
  (runIters_iff_steps.mp h).inv_mem (fun s t s1 o htm hs hi => iterate_WFS cfg s t s1 o hs (ht t htm) hi) hs

end Lemmas.PipelineShift
