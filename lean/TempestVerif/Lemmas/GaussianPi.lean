import Mathlib.Probability.Distributions.Gaussian.Real
import Mathlib.MeasureTheory.Constructions.Pi
import Mathlib.MeasureTheory.Integral.Pi
import Mathlib.MeasureTheory.Measure.Lebesgue.Basic
import Mathlib.MeasureTheory.Measure.WithDensity
import Mathlib.LinearAlgebra.Matrix.NonsingularInverse
/-
  The standard normal vector `np.random.randn(d)` as `Measure.pi (fun _ : ι => gaussianReal 0 1)` on `ι → ℝ`:
  its Lebesgue density, the density of its image under an invertible affine map `z ↦ b + M *ᵥ z`
  (and under `z ↦ b + c • (M *ᵥ z)`, the form used by the tpCN / RWM proposals), symmetry under negation,
  and joint measurability of the resulting proposal density.
-/
namespace Lemmas.GaussianPi
open Real MeasureTheory ProbabilityTheory Set Matrix
open scoped ENNReal NNReal

variable {ι : Type*} [Fintype ι] [DecidableEq ι]

omit [DecidableEq ι] in
theorem pi_withDensity_ofReal (f : ι → ℝ → ℝ) (h0 : ∀ i x, 0 ≤ f i x)
    (hi : ∀ i, Integrable (f i) volume) :
    Measure.pi (fun i => (volume : Measure ℝ).withDensity (fun x => ENNReal.ofReal (f i x)))
      = (volume : Measure (ι → ℝ)).withDensity (fun x => ENNReal.ofReal (∏ i, f i (x i))) := by
  have hfin : ∀ i, IsFiniteMeasure ((volume : Measure ℝ).withDensity (fun x => ENNReal.ofReal (f i x))) :=
    fun i => isFiniteMeasure_withDensity_ofReal (hi i).2
  refine Measure.pi_eq fun s hs => ?_
  rw [withDensity_apply _ (MeasurableSet.univ_pi hs), volume_pi, Measure.restrict_pi_pi]
  have hint : Integrable (fun x : ι → ℝ => ∏ i, f i (x i))
      (Measure.pi (fun i => (volume : Measure ℝ).restrict (s i))) :=
    Integrable.fintype_prod (fun i => (hi i).restrict)
  rw [← ofReal_integral_eq_lintegral_ofReal hint
      (Filter.Eventually.of_forall fun x => Finset.prod_nonneg fun i _ => h0 i (x i)),
    integral_fintype_prod_eq_prod (𝕜 := ℝ) (f := f),
    ENNReal.ofReal_prod_of_nonneg (fun i _ => integral_nonneg (h0 i))]
  refine Finset.prod_congr rfl fun i _ => ?_
  rw [withDensity_apply _ (hs i),
    ofReal_integral_eq_lintegral_ofReal (hi i).restrict (Filter.Eventually.of_forall (h0 i))]

/-! ## the standard normal vector has density `(2π)^{-d/2} exp(-|z|²/2)` -/

noncomputable def stdGaussDensity (z : ι → ℝ) : ℝ :=
  (√(2 * π))⁻¹ ^ Fintype.card ι * Real.exp (-(∑ i, z i ^ 2) / 2)

set_option linter.unusedSectionVars false in
theorem stdGaussDensity_pos (z : ι → ℝ) : 0 < stdGaussDensity z := by
  unfold stdGaussDensity; positivity

omit [DecidableEq ι] in
theorem prod_gaussianPDFReal (z : ι → ℝ) :
    ∏ i, gaussianPDFReal 0 1 (z i) = stdGaussDensity z := by
  unfold stdGaussDensity gaussianPDFReal
  rw [Finset.prod_mul_distrib, Finset.prod_const, ← Real.exp_sum, Finset.card_univ]
  congr 2
  · simp
  · rw [neg_div, Finset.sum_div, ← Finset.sum_neg_distrib]
    refine Finset.sum_congr rfl fun i _ => ?_
    simp [neg_div]

omit [DecidableEq ι] in
theorem pi_gaussian_eq_withDensity :
    Measure.pi (fun _ : ι => gaussianReal 0 1)
      = (volume : Measure (ι → ℝ)).withDensity (fun z =>
          ENNReal.ofReal ((√(2 * π))⁻¹ ^ Fintype.card ι * Real.exp (-(∑ i, z i ^ 2) / 2))) := by
  have h1 : gaussianReal 0 1 = (volume : Measure ℝ).withDensity (fun x => ENNReal.ofReal (gaussianPDFReal 0 1 x)) := by
    rw [gaussianReal_of_var_ne_zero 0 one_ne_zero]; rfl
  rw [h1, pi_withDensity_ofReal (fun _ : ι => gaussianPDFReal 0 1) (fun _ x => gaussianPDFReal_nonneg 0 1 x)
    fun _ => integrable_gaussianPDFReal 0 1]
  congr 1; funext z
  rw [prod_gaussianPDFReal]; rfl

omit [DecidableEq ι] in
theorem sum_sq_eq_dotProduct (w : ι → ℝ) : ∑ i, w i ^ 2 = w ⬝ᵥ w :=
  Finset.sum_congr rfl fun i _ => sq (w i)

/-! ## invertible affine images of measures with a Lebesgue density -/

theorem map_withDensity_of_leftInverse {α β : Type*} [MeasurableSpace α] [MeasurableSpace β] (μ : Measure α)
    (T : α → β) (S : β → α) (hT : Measurable T) (hS : Measurable S) (hST : ∀ z, S (T z) = z)
    (φ : α → ℝ≥0∞) (hφ : Measurable φ) :
    (μ.withDensity φ).map T = (μ.map T).withDensity (fun y => φ (S y)) := by
  ext s hs
  rw [Measure.map_apply hT hs, withDensity_apply _ (hT hs), withDensity_apply _ hs,
    setLIntegral_map (f := fun y => φ (S y)) hs (hφ.comp hS) hT]
  simp only [hST]

omit [DecidableEq ι] in
theorem measurable_mulVec (M : Matrix ι ι ℝ) : Measurable (fun z : ι → ℝ => M *ᵥ z) :=
  (Continuous.matrix_mulVec continuous_const continuous_id).measurable

theorem map_affine_volume (M : Matrix ι ι ℝ) (hM : M.det ≠ 0) (b : ι → ℝ) :
    (volume : Measure (ι → ℝ)).map (fun z => b + M *ᵥ z) = ENNReal.ofReal |M.det|⁻¹ • (volume : Measure (ι → ℝ)) := by
  have hcomp : (fun z : ι → ℝ => b + M *ᵥ z) = (fun y => b + y) ∘ (Matrix.toLin' M) := rfl
  have hlin : Measurable (⇑(Matrix.toLin' M) : (ι → ℝ) → (ι → ℝ)) := measurable_mulVec M
  rw [hcomp, ← Measure.map_map (measurable_const_add b) hlin,
    Real.map_matrix_volume_pi_eq_smul_volume_pi hM, Measure.map_smul, map_add_left_eq_self, abs_inv]

theorem map_affine_withDensity (M : Matrix ι ι ℝ) (hM : M.det ≠ 0) (b : ι → ℝ) (φ : (ι → ℝ) → ℝ≥0∞)
    (hφ : Measurable φ) :
    ((volume : Measure (ι → ℝ)).withDensity φ).map (fun z => b + M *ᵥ z)
      = (volume : Measure (ι → ℝ)).withDensity (fun y => ENNReal.ofReal |M.det|⁻¹ * φ (M⁻¹ *ᵥ (y - b))) := by
  have hinv : Measurable fun y : ι → ℝ => M⁻¹ *ᵥ (y - b) := (measurable_mulVec M⁻¹).comp (measurable_id.sub measurable_const)
  have hleft : ∀ z : ι → ℝ, M⁻¹ *ᵥ ((b + M *ᵥ z) - b) = z := fun z => by
    rw [add_sub_cancel_left, Matrix.mulVec_mulVec, Matrix.nonsing_inv_mul _ (isUnit_iff_ne_zero.mpr hM), Matrix.one_mulVec]
  have haff : Measurable fun z : ι → ℝ => b + M *ᵥ z := measurable_const.add (measurable_mulVec M)
  rw [map_withDensity_of_leftInverse volume _ _ haff hinv hleft φ hφ,
    map_affine_volume M hM b, withDensity_smul_measure]
  exact (withDensity_smul _ (hφ.comp hinv)).symm

theorem map_affine_pi_gaussian (M : Matrix ι ι ℝ) (hM : M.det ≠ 0) (b : ι → ℝ) :
    (Measure.pi (fun _ : ι => gaussianReal 0 1)).map (fun z => b + M *ᵥ z)
      = (volume : Measure (ι → ℝ)).withDensity (fun y => ENNReal.ofReal (|M.det|⁻¹ *
          ((√(2 * π))⁻¹ ^ Fintype.card ι * Real.exp (-((M⁻¹ *ᵥ (y - b)) ⬝ᵥ (M⁻¹ *ᵥ (y - b))) / 2)))) := by
  rw [pi_gaussian_eq_withDensity, map_affine_withDensity M hM b _ (by fun_prop)]
  congr 1; funext y
  rw [sum_sq_eq_dotProduct, ← ENNReal.ofReal_mul (by positivity)]

set_option linter.unusedSectionVars false in
theorem pi_gaussian_map_neg :
    (Measure.pi (fun _ : ι => gaussianReal 0 1)).map (fun z => -z) = Measure.pi (fun _ : ι => gaussianReal 0 1) := by
  have h := Measure.pi_map_pi (μ := fun _ : ι => gaussianReal 0 1) (f := fun _ x => -x)
    (hμ := fun i => by rw [gaussianReal_map_neg]; infer_instance) (fun _ => measurable_neg.aemeasurable)
  simp only [gaussianReal_map_neg, neg_zero] at h
  exact h

example : IsProbabilityMeasure (Measure.pi (fun _ : ι => gaussianReal 0 1)) := inferInstance

/-! ## the scaled form used by the proposals, and joint measurability of its density -/

/-- density at `y` of `b + c • (M z)`, `z ~ randn(d)` -/
noncomputable def affineGaussDensity (M : Matrix ι ι ℝ) (c : ℝ) (b y : ι → ℝ) : ℝ :=
  |c|⁻¹ ^ Fintype.card ι * |M.det|⁻¹ * ((√(2 * π))⁻¹ ^ Fintype.card ι *
    Real.exp (-((M⁻¹ *ᵥ (y - b)) ⬝ᵥ (M⁻¹ *ᵥ (y - b))) / (2 * c ^ 2)))

theorem affineGaussDensity_nonneg (M : Matrix ι ι ℝ) (c : ℝ) (b y : ι → ℝ) : 0 ≤ affineGaussDensity M c b y := by
  unfold affineGaussDensity; positivity

theorem affineGaussDensity_pos (M : Matrix ι ι ℝ) (hM : M.det ≠ 0) (c : ℝ) (hc : c ≠ 0) (b y : ι → ℝ) :
    0 < affineGaussDensity M c b y := by
  unfold affineGaussDensity
  have h1 : 0 < |c| := abs_pos.mpr hc
  have h2 : 0 < |M.det| := abs_pos.mpr hM
  positivity

theorem affineGaussDensity_scaled (M : Matrix ι ι ℝ) (hM : M.det ≠ 0) (c : ℝ) (hc : c ≠ 0) (b y : ι → ℝ) :
    |(c • M).det|⁻¹ * ((√(2 * π))⁻¹ ^ Fintype.card ι *
        Real.exp (-(((c • M)⁻¹ *ᵥ (y - b)) ⬝ᵥ ((c • M)⁻¹ *ᵥ (y - b))) / 2))
      = affineGaussDensity M c b y := by
  unfold affineGaussDensity
  have hinv : (c • M)⁻¹ = c⁻¹ • M⁻¹ := by
    refine Matrix.inv_eq_left_inv ?_
    rw [Matrix.smul_mul, Matrix.mul_smul, smul_smul, inv_mul_cancel₀ hc, one_smul,
      Matrix.nonsing_inv_mul _ (isUnit_iff_ne_zero.mpr hM)]
  rw [hinv, Matrix.det_smul, abs_mul, abs_pow, mul_inv, Matrix.smul_mulVec, dotProduct_smul, smul_dotProduct]
  congr 3
  · exact (inv_pow _ _).symm
  · rw [smul_eq_mul, smul_eq_mul, ← mul_assoc, ← sq, inv_pow, inv_mul_eq_div, neg_div, neg_div, div_div, mul_comm]

/-- the law of `b + c • (M z)`, `z ~ randn(d)` (`c = σ√(1/g)` for tpCN, `c = σ` for RWM, `M` = Cholesky factor). -/
theorem map_scaled_affine_pi_gaussian (M : Matrix ι ι ℝ) (hM : M.det ≠ 0) (c : ℝ) (hc : c ≠ 0) (b : ι → ℝ) :
    (Measure.pi (fun _ : ι => gaussianReal 0 1)).map (fun z => b + c • (M *ᵥ z))
      = (volume : Measure (ι → ℝ)).withDensity (fun y => ENNReal.ofReal (affineGaussDensity M c b y)) := by
  have hdet : (c • M).det ≠ 0 := by
    rw [Matrix.det_smul]; exact mul_ne_zero (pow_ne_zero _ hc) hM
  have hfun : (fun z : ι → ℝ => b + c • (M *ᵥ z)) = fun z => b + (c • M) *ᵥ z := by
    funext z; rw [Matrix.smul_mulVec]
  rw [hfun, map_affine_pi_gaussian (c • M) hdet b]
  congr 1; funext y
  rw [affineGaussDensity_scaled M hM c hc b y]

theorem affineGaussDensity_of_sub_eq_neg (M : Matrix ι ι ℝ) (c : ℝ) {b y b' y' : ι → ℝ} (h : y - b = -(y' - b')) :
    affineGaussDensity M c b y = affineGaussDensity M c b' y' := by
  unfold affineGaussDensity
  rw [h, Matrix.mulVec_neg, neg_dotProduct_neg]

theorem measurable_affineGaussDensity (M : Matrix ι ι ℝ) :
    Measurable (fun p : ℝ × (ι → ℝ) × (ι → ℝ) => affineGaussDensity M p.1 p.2.1 p.2.2) := by
  unfold affineGaussDensity
  have hw : Measurable (fun p : ℝ × (ι → ℝ) × (ι → ℝ) => M⁻¹ *ᵥ (p.2.2 - p.2.1)) :=
    (measurable_mulVec M⁻¹).comp (measurable_snd.snd.sub measurable_snd.fst)
  have hq : Measurable (fun p : ℝ × (ι → ℝ) × (ι → ℝ) => (M⁻¹ *ᵥ (p.2.2 - p.2.1)) ⬝ᵥ (M⁻¹ *ᵥ (p.2.2 - p.2.1))) := by
    simp only [dotProduct]
    exact Finset.measurable_sum _ fun i _ => ((measurable_pi_apply i).comp hw).mul ((measurable_pi_apply i).comp hw)
  have hc : Measurable (fun p : ℝ × (ι → ℝ) × (ι → ℝ) => p.1) := measurable_fst
  exact (((continuous_abs.measurable.comp hc).inv.pow_const _).mul measurable_const).mul
    (measurable_const.mul (Real.measurable_exp.comp (hq.neg.div (measurable_const.mul (hc.pow_const 2)))))

theorem measurable_ofReal_affineGaussDensity (M : Matrix ι ι ℝ) :
    Measurable (fun p : ℝ × (ι → ℝ) × (ι → ℝ) => ENNReal.ofReal (affineGaussDensity M p.1 p.2.1 p.2.2)) :=
  ENNReal.measurable_ofReal.comp (measurable_affineGaussDensity M)

example : (!![2, 0; 1, 1] : Matrix (Fin 2) (Fin 2) ℝ).det ≠ 0 := by
  simp [Matrix.det_fin_two]

example (b : Fin 2 → ℝ) :
    (Measure.pi (fun _ : Fin 2 => gaussianReal 0 1)).map (fun z => b + (3 : ℝ) • ((!![2, 0; 1, 1] : Matrix (Fin 2) (Fin 2) ℝ) *ᵥ z))
      = (volume : Measure (Fin 2 → ℝ)).withDensity (fun y =>
          ENNReal.ofReal (affineGaussDensity (!![2, 0; 1, 1] : Matrix (Fin 2) (Fin 2) ℝ) 3 b y)) :=
  map_scaled_affine_pi_gaussian _ (by simp [Matrix.det_fin_two]) 3 (by norm_num) b

example (b : Fin 2 → ℝ) :
    (Measure.pi (fun _ : Fin 2 => gaussianReal 0 1)).map (fun z => b + (!![2, 0; 1, 1] : Matrix (Fin 2) (Fin 2) ℝ) *ᵥ z)
      = (volume : Measure (Fin 2 → ℝ)).withDensity (fun y => ENNReal.ofReal
          (|(!![2, 0; 1, 1] : Matrix (Fin 2) (Fin 2) ℝ).det|⁻¹ * ((√(2 * π))⁻¹ ^ Fintype.card (Fin 2) *
            Real.exp (-(((!![2, 0; 1, 1] : Matrix (Fin 2) (Fin 2) ℝ)⁻¹ *ᵥ (y - b)) ⬝ᵥ
              ((!![2, 0; 1, 1] : Matrix (Fin 2) (Fin 2) ℝ)⁻¹ *ᵥ (y - b))) / 2)))) :=
  map_affine_pi_gaussian _ (by simp [Matrix.det_fin_two]) b

end Lemmas.GaussianPi
