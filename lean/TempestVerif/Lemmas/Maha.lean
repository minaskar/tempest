import Mathlib.LinearAlgebra.Matrix.NonsingularInverse
import Mathlib.Data.Real.Basic
/-
  Mahalanobis quadratic form `vᵀ S⁻¹ v` on Mathlib matrices and its invariance under an invertible linear change of coordinates.
-/
namespace Lemmas.Maha
open Matrix
variable {d : Type} [Fintype d] [DecidableEq d]

/-- `vᵀ S⁻¹ v` (what `np.sum(v * np.linalg.solve(S, v))` computes for invertible `S`). -/
noncomputable def maha (S : Matrix d d ℝ) (v : d → ℝ) : ℝ := v ⬝ᵥ (S⁻¹ *ᵥ v)

/-- affine invariance: `(A v)ᵀ (A S Aᵀ)⁻¹ (A v) = vᵀ S⁻¹ v` for invertible `A` (no hypothesis on `S`:
    Mathlib's `⁻¹` is `0` for singular `S` on both sides). -/
theorem maha_affine (A S : Matrix d d ℝ) (v : d → ℝ) (hA : IsUnit A.det) :
    maha (A * S * Aᵀ) (A *ᵥ v) = maha S v := by
  unfold maha
  have hAt : IsUnit Aᵀ.det := by rwa [det_transpose]
  have hinv : (A * S * Aᵀ)⁻¹ = (Aᵀ)⁻¹ * S⁻¹ * A⁻¹ := by
    rw [Matrix.mul_inv_rev, Matrix.mul_inv_rev, Matrix.mul_assoc]
  rw [hinv, mulVec_mulVec, Matrix.mul_assoc, Matrix.mul_assoc, nonsing_inv_mul A hA, Matrix.mul_one,
    ← mulVec_mulVec, dotProduct_mulVec, ← vecMul_transpose, vecMul_vecMul, mul_nonsing_inv _ hAt, vecMul_one]

end Lemmas.Maha
