import TempestVerif.Model.GMM
import TempestVerif.Lemmas.ScReal
import TempestVerif.Lemmas.OptionList
import Mathlib.Tactic.IntervalCases
/-
  At `ℝ`, the list-of-rows Cholesky factorisation of `Model/GMM.lean` (`cholAux`/`chol`), forward substitution and
  the Gaussian log-density `logpdfCol` built on them return `some` on symmetric positive definite input: one step of
  `cholAux` leaves the Schur complement, which is again symmetric positive definite (complete the square), so the
  recursion never meets a pivot `≤ 0`.  The matrices the E-step passes in qualify: `addDiag reg C` and
  `scaledEye d reg` are symmetric positive definite for `reg > 0` and symmetric PSD `C`, which `diagMat v` (`v ≥ 0`)
  and `covFull` are (`covFull_psd` in `Props/C15Fit.lean`, from `C15_cov_sym_psd`).
  A second, short part needs no definiteness and holds for every input: when `fwdAux` / `logpdf?` return, the `if`/`bind` form of
  `logpdfCol` (any scalar type) and the length of its result.
-/
namespace Lemmas.CholList
open Model.GMM Model.EM Lemmas.OptionList

/-! ## list-of-rows matrices: entries, shape, definiteness -/
open Finset (range)

/-- entry accessor (0 outside the shape; every theorem carries the shape as a hypothesis) -/
noncomputable def ent (A : List (List ℝ)) (i j : ℕ) : ℝ := ((A[i]?).bind (·[j]?)).getD 0

def IsSq (n : ℕ) (A : List (List ℝ)) : Prop := A.length = n ∧ ∀ r ∈ A, r.length = n

def SymL (A : List (List ℝ)) : Prop := ∀ i j, ent A i j = ent A j i

def PSDL (n : ℕ) (A : List (List ℝ)) : Prop :=
  ∀ v : ℕ → ℝ, 0 ≤ ∑ i ∈ range n, ∑ j ∈ range n, v i * ent A i j * v j

def PDL (n : ℕ) (A : List (List ℝ)) : Prop :=
  ∀ v : ℕ → ℝ, (∃ i, i < n ∧ v i ≠ 0) → 0 < ∑ i ∈ range n, ∑ j ∈ range n, v i * ent A i j * v j

theorem ent_cons_zero (r : List ℝ) (A : List (List ℝ)) (j : ℕ) : ent (r :: A) 0 j = (r[j]?).getD 0 :=
  rfl

theorem ent_cons_succ (r : List ℝ) (A : List (List ℝ)) (i j : ℕ) : ent (r :: A) (i + 1) j = ent A i j :=
  rfl

theorem ent_eq_getElem {A : List (List ℝ)} {i j : ℕ} (hi : i < A.length) (hj : j < A[i].length) :
    ent A i j = A[i][j] := by
  simp only [ent, List.getElem?_eq_getElem hi, Option.bind_some, List.getElem?_eq_getElem hj, Option.getD_some]

theorem ent_zero_eq_headD {A : List (List ℝ)} {i : ℕ} (hi : i < A.length) : ent A i 0 = A[i].headD 0 := by
  rw [ent, List.getElem?_eq_getElem hi, Option.bind_some, List.headD_eq_head?_getD, List.head?_eq_getElem?]

theorem IsSq.ent_eq {n : ℕ} {A : List (List ℝ)} (h : IsSq n A) {i j : ℕ} (hi : i < n) (hj : j < n) :
    ent A i j = (A[i]'(h.1 ▸ hi))[j]'((h.2 _ (List.getElem_mem _)).symm ▸ hj) :=
  ent_eq_getElem _ _

theorem ent_outside {n : ℕ} {A : List (List ℝ)} (h : IsSq n A) {i j : ℕ} (hij : ¬ (i < n ∧ j < n)) :
    ent A i j = 0 := by
  unfold ent
  cases hr : A[i]? with
  | none => rfl
  | some r =>
    obtain ⟨hi, rfl⟩ := List.getElem?_eq_some_iff.mp hr
    have hj : A[i].length ≤ j := by
      rw [h.2 _ (List.getElem_mem hi)]
      exact Nat.le_of_not_lt fun hj => hij ⟨h.1 ▸ hi, hj⟩
    rw [Option.bind_some, List.getElem?_eq_none hj]
    rfl

theorem symL_of_inside {n : ℕ} {A : List (List ℝ)} (h : IsSq n A)
    (hs : ∀ i j, i < n → j < n → ent A i j = ent A j i) : SymL A := by
  intro i j
  by_cases hij : i < n ∧ j < n
  · exact hs i j hij.1 hij.2
  · rw [ent_outside h hij, ent_outside h (fun h' => hij h'.symm)]

theorem quad_congr {n : ℕ} {A : List (List ℝ)} {F : ℕ → ℕ → ℝ} (h : ∀ i j, i < n → j < n → ent A i j = F i j)
    (v : ℕ → ℝ) :
    ∑ i ∈ range n, ∑ j ∈ range n, v i * ent A i j * v j = ∑ i ∈ range n, ∑ j ∈ range n, v i * F i j * v j :=
  Finset.sum_congr rfl fun i hi => Finset.sum_congr rfl fun j hj => by
    rw [h i j (Finset.mem_range.mp hi) (Finset.mem_range.mp hj)]

theorem isSq_map {β : Type} {n : ℕ} {l : List β} {f : β → List ℝ} (hl : l.length = n)
    (hf : ∀ x ∈ l, (f x).length = n) : IsSq n (l.map f) :=
  ⟨by rw [List.length_map, hl], fun _ hr => by
    obtain ⟨x, hx, rfl⟩ := List.mem_map.mp hr
    exact hf x hx⟩

theorem PDL.psd {n : ℕ} {A : List (List ℝ)} (h : PDL n A) : PSDL n A := by
  intro v
  by_cases hv : ∃ i, i < n ∧ v i ≠ 0
  · exact (h v hv).le
  · push Not at hv
    refine Finset.sum_nonneg fun i hi => ?_
    rw [hv i (Finset.mem_range.mp hi)]
    simp

theorem pd_diag_pos {n : ℕ} {A : List (List ℝ)} (h : PDL n A) {k : ℕ} (hk : k < n) : 0 < ent A k k := by
  have := h (fun i => if i = k then 1 else 0) ⟨k, hk, by simp⟩
  simpa [Finset.sum_ite_eq', hk] using this

/-! ## one elimination step of `cholAux` -/

/-- the column below the pivot, divided by `l = √pivot` -/
noncomputable def cvec (l : ℝ) (rows : List (List ℝ)) : List ℝ := rows.map fun r => r.headD 0 / l

/-- the Schur complement the recursion continues with -/
noncomputable def schur (l : ℝ) (rows : List (List ℝ)) : List (List ℝ) :=
  rows.map fun r => List.zipWith (fun t cj => t - (r.headD 0 / l) * cj) r.tail (cvec l rows)

theorem cholAux_step (n : ℕ) (a : ℝ) (t0 : List ℝ) (rows : List (List ℝ)) (ha : 0 < a)
    (hrows : ∀ r ∈ rows, r ≠ []) :
    cholAux (n + 1) ((a :: t0) :: rows) =
      (cholAux n (schur (Real.sqrt a) rows)).map fun L =>
        (⟨[], Real.sqrt a⟩ : LRow ℝ) ::
          List.zipWith (fun ci r => ⟨ci :: r.offs, r.diag⟩) (cvec (Real.sqrt a) rows) L := by
  simp only [cholAux, ScReal.lt_def, ScReal.zero_def, ha, if_true]
  rw [gmm_mapOpt, mapM_eq_some_map _ (fun r => (r.headD 0 / Real.sqrt a, r.tail)) rows]
  · simp only [List.map_map, schur, cvec, ScReal.sub_def, ScReal.mul_def, ScReal.sqrt_def, Function.comp_def]
    generalize cholAux (α := ℝ) n _ = o
    cases o <;> rfl
  · intro r hr
    cases r with
    | nil => exact absurd rfl (hrows _ hr)
    | cons x t => rfl

theorem schur_isSq {n : ℕ} {rows : List (List ℝ)} (l : ℝ) (hlen : rows.length = n)
    (hr : ∀ r ∈ rows, r.length = n + 1) : IsSq n (schur l rows) :=
  isSq_map hlen fun r h => by
    rw [List.length_zipWith, List.length_tail, hr r h, cvec, List.length_map, hlen, Nat.add_sub_cancel, min_self]

theorem ent_schur {n : ℕ} {rows : List (List ℝ)} (l : ℝ) (hlen : rows.length = n)
    (hr : ∀ r ∈ rows, r.length = n + 1) {i j : ℕ} (hi : i < n) (hj : j < n) :
    ent (schur l rows) i j = ent rows i (j + 1) - (ent rows i 0 / l) * (ent rows j 0 / l) := by
  have hi' : i < rows.length := hlen.symm ▸ hi
  have hj' : j < rows.length := hlen.symm ▸ hj
  have hj1 : j + 1 < rows[i].length := by
    rw [hr _ (List.getElem_mem hi')]
    exact Nat.succ_lt_succ hj
  rw [(schur_isSq l hlen hr).ent_eq hi hj, ent_eq_getElem hi' hj1, ent_zero_eq_headD hi', ent_zero_eq_headD hj']
  simp only [schur, cvec, List.getElem_map, List.getElem_zipWith, List.getElem_tail]

/-- the vector `(c, u 0, u 1, …)` -/
noncomputable def ext (c : ℝ) (u : ℕ → ℝ) : ℕ → ℝ
  | 0 => c
  | k + 1 => u k

@[simp] theorem ext_zero (c : ℝ) (u : ℕ → ℝ) : ext c u 0 = c := rfl
@[simp] theorem ext_succ (c : ℝ) (u : ℕ → ℝ) (k : ℕ) : ext c u (k + 1) = u k := rfl

theorem quad_rank_one (n : ℕ) (M : ℕ → ℕ → ℝ) (B w : ℕ → ℝ) :
    ∑ i ∈ range n, ∑ j ∈ range n, w i * M i j * w j
      = (∑ i ∈ range n, B i * w i) ^ 2 + ∑ i ∈ range n, ∑ j ∈ range n, w i * (M i j - B i * B j) * w j := by
  rw [sq, Finset.sum_mul_sum, ← Finset.sum_add_distrib]
  refine Finset.sum_congr rfl fun i _ => ?_
  rw [← Finset.sum_add_distrib]
  exact Finset.sum_congr rfl fun j _ => by ring

/-- completing the square in the first coordinate: when `M 0 0 = l²` and the first column and row of `M` are
    `l * b`, the quadratic form of `M` at `(c, u)` is `(b·u + l c)²` plus the quadratic form of the Schur
    complement `M (i+1) (j+1) - b i * b j` at `u` -/
theorem schur_quad (n : ℕ) (M : ℕ → ℕ → ℝ) (l : ℝ) (b : ℕ → ℝ) (h00 : M 0 0 = l * l)
    (hcol : ∀ i, M (i + 1) 0 = b i * l) (hrow : ∀ j, M 0 (j + 1) = l * b j) (c : ℝ) (u : ℕ → ℝ) :
    ∑ i ∈ range (n + 1), ∑ j ∈ range (n + 1), ext c u i * M i j * ext c u j
      = (∑ i ∈ range n, b i * u i + l * c) ^ 2
        + ∑ i ∈ range n, ∑ j ∈ range n, u i * (M (i + 1) (j + 1) - b i * b j) * u j := by
  -- split off `B Bᵀ` with `B = (l, b)`: what is left of `M` has a zero first row and column
  rw [quad_rank_one (n + 1) M (ext l b)]
  simp only [Finset.sum_range_succ', ext_zero, ext_succ, hcol, hrow, h00, sub_self, mul_zero, zero_mul,
    Finset.sum_const_zero, add_zero]

/-- the Schur complement of a symmetric positive definite matrix is symmetric positive definite: its
    quadratic form at `u` is that of the matrix at `(c, u)` with `c` chosen to make the square vanish -/
theorem schur_spd {n : ℕ} {a : ℝ} {t0 : List ℝ} {rows : List (List ℝ)}
    (hsq : IsSq (n + 1) ((a :: t0) :: rows)) (hsym : SymL ((a :: t0) :: rows))
    (hpd : PDL (n + 1) ((a :: t0) :: rows)) (ha : 0 < a) :
    IsSq n (schur (Real.sqrt a) rows) ∧ SymL (schur (Real.sqrt a) rows) ∧ PDL n (schur (Real.sqrt a) rows) := by
  have hlen : rows.length = n := Nat.succ.inj hsq.1
  have hr : ∀ r ∈ rows, r.length = n + 1 := fun r h => hsq.2 r (List.mem_cons_of_mem _ h)
  have hS := schur_isSq (Real.sqrt a) hlen hr
  have hl : Real.sqrt a ≠ 0 := (Real.sqrt_pos.mpr ha).ne'
  have hent : ∀ i j, i < n → j < n → ent (schur (Real.sqrt a) rows) i j
      = ent ((a :: t0) :: rows) (i + 1) (j + 1) - ent rows i 0 / Real.sqrt a * (ent rows j 0 / Real.sqrt a) :=
    fun i j hi hj => ent_schur _ hlen hr hi hj
  refine ⟨hS, symL_of_inside hS fun i j hi hj => ?_, fun u ⟨k, hk, huk⟩ => ?_⟩
  · rw [hent i j hi hj, hent j i hj hi, hsym (i + 1) (j + 1), mul_comm]
  · have hq := schur_quad n (ent ((a :: t0) :: rows)) (Real.sqrt a) (fun i => ent rows i 0 / Real.sqrt a)
      (Real.mul_self_sqrt ha.le).symm (fun i => (div_mul_cancel₀ _ hl).symm)
      (fun j => (hsym 0 (j + 1)).trans (mul_div_cancel₀ _ hl).symm)
      (-(∑ i ∈ range n, ent rows i 0 / Real.sqrt a * u i) / Real.sqrt a) u
    rw [mul_div_cancel₀ _ hl, add_neg_cancel, zero_pow two_ne_zero, zero_add] at hq
    rw [quad_congr hent, ← hq]
    exact hpd _ ⟨k + 1, Nat.succ_lt_succ hk, huk⟩

/-! ## `cholAux`, `fwdAux`, `logpdfCol` return on symmetric positive definite input -/

/-- **`cholAux` succeeds on a symmetric positive definite matrix**, and returns a lower-triangular shape
    (row `i` has `i` off-diagonal entries) with a positive diagonal -/
theorem cholAux_some_of_pd : ∀ (n : ℕ) (A : List (List ℝ)), IsSq n A → SymL A → PDL n A →
    ∃ L, cholAux n A = some L ∧ L.length = n ∧
      ∀ (i : ℕ) (r : LRow ℝ), L[i]? = some r → r.offs.length = i ∧ 0 < r.diag := by
  intro n
  induction n with
  | zero =>
    intro A hsq _ _
    rw [List.eq_nil_of_length_eq_zero hsq.1]
    exact ⟨[], rfl, rfl, fun i r h => by simp at h⟩
  | succ n ih =>
    intro A hsq hsym hpd
    obtain ⟨row, rows, rfl⟩ := List.exists_cons_of_length_eq_add_one hsq.1
    obtain ⟨a, t0, rfl⟩ := List.exists_cons_of_length_eq_add_one (hsq.2 row List.mem_cons_self)
    have ha : 0 < a := pd_diag_pos hpd (Nat.succ_pos n)
    obtain ⟨hS, hSsym, hSpd⟩ := schur_spd hsq hsym hpd ha
    obtain ⟨L', hL', hlen', hrows'⟩ := ih _ hS hSsym hSpd
    rw [cholAux_step n a t0 rows ha fun r h => List.ne_nil_of_length_eq_add_one (hsq.2 r (List.mem_cons_of_mem _ h)),
      hL']
    refine ⟨_, rfl, ?_, fun i r hir => ?_⟩
    · rw [List.length_cons, List.length_zipWith, cvec, List.length_map, Nat.succ.inj hsq.1, hlen', min_self]
    · cases i with
      | zero =>
        cases hir
        exact ⟨rfl, Real.sqrt_pos.mpr ha⟩
      | succ i =>
        rw [List.getElem?_cons_succ, List.getElem?_zipWith_eq_some] at hir
        obtain ⟨ci, r', _, hr', rfl⟩ := hir
        obtain ⟨h1, h2⟩ := hrows' i r' hr'
        exact ⟨congrArg Nat.succ h1, h2⟩

theorem fwdAux_some : ∀ (L : List (LRow ℝ)) (b ys : List ℝ), L.length = b.length →
    ∃ y, fwdAux L b ys = some y ∧ y.length = ys.length + b.length := by
  intro L
  induction L with
  | nil =>
    intro b ys h
    rw [List.eq_nil_of_length_eq_zero h.symm]
    exact ⟨ys, rfl, rfl⟩
  | cons r rs ih =>
    intro b ys h
    cases b with
    | nil => cases h
    | cons b0 bs =>
      obtain ⟨y, hy, hl⟩ := ih bs (ys ++ [Sc.div (Sc.sub b0 (dot r.offs ys)) r.diag]) (Nat.succ.inj h)
      refine ⟨y, hy, ?_⟩
      rw [hl, List.length_append, List.length_singleton, List.length_cons, Nat.add_assoc, Nat.add_comm 1]

/-- **`logpdfCol` succeeds** when the oracle accepts the matrix and it is symmetric positive definite
    of the right shape: `chol` returns `d` rows, and forward substitution against `d` rows succeeds on every
    `x - m` of length `d` -/
theorem logpdfCol_some (sing : Mat ℝ → Bool) (d : ℕ) (M : List (List ℝ)) (m : List ℝ) (X : List (List ℝ))
    (hs : sing M = false) (hM : IsSq d M ∧ SymL M ∧ PDL d M) (hX : ∀ x ∈ X, x.length = d) (hm : m.length = d) :
    ∃ l, logpdfCol sing d M m X = some l ∧ l.length = X.length := by
  obtain ⟨L, hL, hlen, _⟩ := cholAux_some_of_pd d M hM.1 hM.2.1 hM.2.2
  rw [logpdfCol, hs, factor?, chol, hM.1.1, hL]
  refine (mapM_some_of_forall (logpdf? d _ m) X fun x hx => ?_).imp fun l hl =>
    ⟨(gmm_mapOpt _ _).trans hl, mapM_length hl⟩
  obtain ⟨y, hy, _⟩ := fwdAux_some L (List.zipWith Sc.sub x m) []
    (by rw [List.length_zipWith, hX x hx, hm, min_self, hlen])
  rw [logpdf?, maha?, hy]
  exact ⟨_, rfl⟩

/-! ## `fwdAux`, `logpdf?`, `logpdfCol` on any input: when they return, and the length of what they return -/

theorem fwdAux_isSome : ∀ (L : List (LRow ℝ)) (b ys : List ℝ),
    (fwdAux L b ys).isSome = decide (L.length = b.length) := by
  intro L
  induction L with
  | nil => intro b ys; cases b <;> simp [fwdAux]
  | cons r rs ih =>
    intro b ys
    cases b with
    | nil => simp [fwdAux]
    | cons b0 bs => simp [fwdAux, ih]

/-- whether the density of a point is defined depends only on the point's length -/
theorem logpdf?_eq_none_iff (d : ℕ) (F : Factor ℝ) (m x : List ℝ) :
    logpdf? d F m x = none ↔ F.rows.length ≠ min x.length m.length := by
  simp only [logpdf?, maha?, Option.map_eq_none_iff]
  rw [← Option.not_isSome_iff_eq_none, fwdAux_isSome]
  simp

theorem logpdfCol_eq {α : Type} [ScT α] (sing : Mat α → Bool) (d : Nat) (M : Mat α) (m : List α) (X : Mat α) :
    logpdfCol sing d M m X = if sing M then none else (factor? M).bind fun F => mapOpt (logpdf? d F m) X := by
  unfold logpdfCol
  split
  · rfl
  · cases factor? M <;> rfl

theorem logpdfCol_length {α : Type} [ScT α] (sing : Mat α → Bool) (d : Nat) (M : Mat α) (m : List α) (X : Mat α) (l : List α)
    (h : logpdfCol sing d M m X = some l) : l.length = X.length := by
  rw [logpdfCol_eq] at h
  obtain ⟨F, _, hF⟩ := Option.bind_eq_some_iff.mp (Option.ite_none_left_eq_some.mp h).2
  exact mapM_length (of_gmm hF)

/-! ## the matrices the E-step builds -/

theorem sum_sq_pos {d : ℕ} {v : ℕ → ℝ} (hv : ∃ i, i < d ∧ v i ≠ 0) : 0 < ∑ i ∈ range d, v i ^ 2 := by
  obtain ⟨i, hi, hvi⟩ := hv
  exact Finset.sum_pos' (fun _ _ => sq_nonneg _) ⟨i, Finset.mem_range.mpr hi, sq_pos_of_ne_zero hvi⟩

/-- a square matrix with entries `F i j + (if i = j then c i else 0)`, `F` symmetric, is symmetric, and its
    quadratic form is that of `F` plus `∑ c i * v i ^ 2`: the shape of `addDiag`, `scaledEye`, `diagMat` -/
theorem symL_quad_add_diag {d : ℕ} {A : List (List ℝ)} {F : ℕ → ℕ → ℝ} {c : ℕ → ℝ} (hsq : IsSq d A)
    (hF : ∀ i j, F i j = F j i)
    (hA : ∀ i j, i < d → j < d → ent A i j = F i j + if i = j then c i else 0) :
    SymL A ∧ ∀ v : ℕ → ℝ, ∑ i ∈ range d, ∑ j ∈ range d, v i * ent A i j * v j
      = (∑ i ∈ range d, ∑ j ∈ range d, v i * F i j * v j) + ∑ i ∈ range d, c i * v i ^ 2 := by
  refine ⟨symL_of_inside hsq fun i j hi hj => ?_, fun v => ?_⟩
  · rw [hA i j hi hj, hA j i hj hi, hF i j]
    by_cases hij : i = j
    · rw [hij]
    · rw [if_neg hij, if_neg (Ne.symm hij)]
  · rw [quad_congr hA, ← Finset.sum_add_distrib]
    refine Finset.sum_congr rfl fun i hi => ?_
    simp only [mul_add, add_mul, mul_ite, ite_mul, mul_zero, zero_mul, Finset.sum_add_distrib, Finset.sum_ite_eq,
      hi, if_true]
    ring

theorem symL_quad_diag {d : ℕ} {A : List (List ℝ)} {c : ℕ → ℝ} (hsq : IsSq d A)
    (hA : ∀ i j, i < d → j < d → ent A i j = if i = j then c i else 0) :
    SymL A ∧ ∀ v : ℕ → ℝ, ∑ i ∈ range d, ∑ j ∈ range d, v i * ent A i j * v j = ∑ i ∈ range d, c i * v i ^ 2 := by
  obtain ⟨hs, hq⟩ := symL_quad_add_diag (F := fun _ _ => 0) hsq (fun _ _ => rfl)
    fun i j hi hj => (hA i j hi hj).trans (zero_add _).symm
  exact ⟨hs, fun v => by simpa using hq v⟩

theorem addDiag_isSq {d : ℕ} {C : List (List ℝ)} (reg : ℝ) (h : IsSq d C) : IsSq d (addDiag reg C) :=
  isSq_map (by rw [List.length_zipIdx, h.1]) fun p hp => by
    rw [List.length_map, List.length_zipIdx, h.2 _ (List.fst_mem_of_mem_zipIdx hp)]

theorem ent_addDiag {d : ℕ} {C : List (List ℝ)} (reg : ℝ) (h : IsSq d C) {i j : ℕ} (hi : i < d) (hj : j < d) :
    ent (addDiag reg C) i j = ent C i j + if i = j then reg else 0 := by
  rw [(addDiag_isSq reg h).ent_eq hi hj, h.ent_eq hi hj, add_ite, add_zero]
  simp only [addDiag, List.getElem_map, List.getElem_zipIdx, zero_add, beq_iff_eq, ScReal.add_def]
  exact if_congr eq_comm rfl rfl

/-- `cov + np.eye(d) * reg_covar` of `_e_step` is symmetric positive definite for symmetric PSD `cov` -/
theorem addDiag_pd (d : ℕ) (C : List (List ℝ)) (reg : ℝ) (hsq : IsSq d C) (hsym : SymL C) (hpsd : PSDL d C)
    (hreg : 0 < reg) :
    IsSq d (addDiag reg C) ∧ SymL (addDiag reg C) ∧ PDL d (addDiag reg C) := by
  have hsq' := addDiag_isSq reg hsq
  obtain ⟨hs, hq⟩ := symL_quad_add_diag (c := fun _ => reg) hsq' hsym fun i j => ent_addDiag reg hsq
  refine ⟨hsq', hs, fun v hv => ?_⟩
  rw [hq v, ← Finset.mul_sum]
  exact add_pos_of_nonneg_of_pos (hpsd v) (mul_pos hreg (sum_sq_pos hv))

theorem scaledEye_isSq (d : ℕ) (reg : ℝ) : IsSq d (scaledEye d reg) :=
  isSq_map List.length_range fun _ _ => by rw [List.length_map, List.length_range]

theorem ent_scaledEye (d : ℕ) (reg : ℝ) {i j : ℕ} (hi : i < d) (hj : j < d) :
    ent (scaledEye d reg) i j = if i = j then reg else 0 := by
  rw [(scaledEye_isSq d reg).ent_eq hi hj]
  simp only [scaledEye, List.getElem_map, List.getElem_range, beq_iff_eq, ScReal.zero_def]

/-- `np.eye(d) * reg_covar`, the covariance of `_e_step`'s `except` branch -/
theorem scaledEye_pd (d : ℕ) (reg : ℝ) (hreg : 0 < reg) :
    IsSq d (scaledEye d reg) ∧ SymL (scaledEye d reg) ∧ PDL d (scaledEye d reg) := by
  have hsq := scaledEye_isSq d reg
  obtain ⟨hs, hq⟩ := symL_quad_diag (c := fun _ => reg) hsq fun i j => ent_scaledEye d reg
  refine ⟨hsq, hs, fun v hv => ?_⟩
  rw [hq v, ← Finset.mul_sum]
  exact mul_pos hreg (sum_sq_pos hv)

theorem diagMat_isSq (v : List ℝ) : IsSq v.length (diagMat v) :=
  isSq_map List.length_zipIdx fun _ _ => by rw [List.length_map, List.length_range]

theorem ent_diagMat (v : List ℝ) {i j : ℕ} (hi : i < v.length) (hj : j < v.length) :
    ent (diagMat v) i j = if i = j then v[i] else 0 := by
  rw [(diagMat_isSq v).ent_eq hi hj]
  simp only [diagMat, List.getElem_map, List.getElem_zipIdx, List.getElem_range, zero_add, beq_iff_eq,
    ScReal.zero_def]
  exact if_congr eq_comm rfl rfl

/-- `np.diag(v)` (`_get_covariance`, 'diag') for a non-negative `v` -/
theorem diagMat_psd (v : List ℝ) (hv : ∀ x ∈ v, 0 ≤ x) :
    IsSq v.length (diagMat v) ∧ SymL (diagMat v) ∧ PSDL v.length (diagMat v) := by
  have hsq := diagMat_isSq v
  obtain ⟨hs, hq⟩ := symL_quad_diag (c := fun i => v[i]?.getD 0) hsq fun i j hi hj => by
    rw [ent_diagMat v hi hj, List.getElem?_eq_getElem hi, Option.getD_some]
  refine ⟨hsq, hs, fun u => ?_⟩
  rw [hq u]
  refine Finset.sum_nonneg fun i hi => mul_nonneg ?_ (sq_nonneg _)
  rw [List.getElem?_eq_getElem (Finset.mem_range.mp hi), Option.getD_some]
  exact hv _ (List.getElem_mem _)

/-! ## examples -/

theorem isSq_two (a b c d : ℝ) : IsSq 2 [[a, b], [c, d]] :=
  ⟨rfl, by simp⟩

theorem symL_two (a b d : ℝ) : SymL [[a, b], [b, d]] := by
  apply symL_of_inside (isSq_two a b b d)
  intro i j hi hj
  interval_cases i <;> interval_cases j <;> rfl

theorem quad_two (a b c d : ℝ) (v : ℕ → ℝ) :
    ∑ i ∈ range 2, ∑ j ∈ range 2, v i * ent [[a, b], [c, d]] i j * v j
      = v 0 * a * v 0 + v 0 * b * v 1 + (v 1 * c * v 0 + v 1 * d * v 1) := by
  simp only [Finset.sum_range_succ, Finset.sum_range_zero, zero_add]
  rfl

noncomputable def exA : List (List ℝ) := [[4, 2], [2, 3]]

theorem exA_sym : SymL exA := symL_two 4 2 3

theorem exA_pd : PDL 2 exA := by
  intro v hv
  have h := sum_sq_pos hv
  rw [Finset.sum_range_succ, Finset.sum_range_one] at h
  rw [exA, quad_two]
  -- `4x² + 4xy + 3y² = 2(x + y)² + x² + (x² + y²)`
  linarith [sq_nonneg (v 0 + v 1), sq_nonneg (v 0)]

example : ∃ L, chol exA = some L ∧ L.length = 2 ∧
    ∀ (i : ℕ) (r : LRow ℝ), L[i]? = some r → r.offs.length = i ∧ 0 < r.diag :=
  cholAux_some_of_pd 2 exA (isSq_two 4 2 2 3) exA_sym exA_pd

/-- the factor itself: `[[2, 0], [1, √2]]` -/
example : chol exA = some [⟨[], 2⟩, ⟨[1], Real.sqrt 2⟩] := by
  have h4 : Real.sqrt 4 = 2 := by
    rw [show (4 : ℝ) = 2 ^ 2 by norm_num]
    exact Real.sqrt_sq (by norm_num)
  norm_num [chol, exA, cholAux, mapOpt, h4]

/-- a singular symmetric PSD matrix: no factor without the regularisation … -/
noncomputable def exB : List (List ℝ) := [[1, 1], [1, 1]]

example : chol exB = none := by
  simp [chol, exB, cholAux, mapOpt]

theorem exB_sym : SymL exB := symL_two 1 1 1

theorem exB_psd : PSDL 2 exB := by
  intro v
  rw [exB, quad_two]
  linarith [sq_nonneg (v 0 + v 1)]

/-- … and the density succeeds once `reg·I` is added (`_e_step`'s `cov + np.eye(d) * reg_covar`) -/
example : ∃ l, logpdfCol (fun _ => false) 2 (addDiag (1 / 1000000) exB) [0, 0] [[1, 2], [3, 4], [5, 6]] = some l ∧
    l.length = 3 := by
  exact logpdfCol_some (fun _ => false) 2 _ _ _ rfl
    (addDiag_pd 2 exB _ (isSq_two 1 1 1 1) exB_sym exB_psd (by norm_num)) (by simp) rfl

example : addDiag (1 / 2) exB = [[3 / 2, 1], [1, 3 / 2]] := by
  show ([[1 + 1 / 2, 1], [1, 1 + 1 / 2]] : Mat ℝ) = _
  norm_num

example : ∃ y, fwdAux [⟨[], 2⟩, ⟨[1], Real.sqrt 2⟩] [3, 5] [] = some y ∧ y.length = 2 :=
  fwdAux_some _ _ _ rfl

example : diagMat ([2, 3] : List ℝ) = [[2, 0], [0, 3]] := by
  show ([[2, Sc.zero], [Sc.zero, 3]] : Mat ℝ) = _
  rw [ScReal.zero_def]

example : PSDL 2 (diagMat ([2, 3] : List ℝ)) :=
  (diagMat_psd [2, 3] (by norm_num)).2.2

example : PDL 2 (scaledEye 2 (1 / 1000000)) := (scaledEye_pd 2 _ (by norm_num)).2.2

end Lemmas.CholList
