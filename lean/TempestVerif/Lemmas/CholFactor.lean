import TempestVerif.Model.ModeStatsNum
import TempestVerif.Lemmas.ScReal
import TempestVerif.Lemmas.GaussJordan
import TempestVerif.Lemmas.CholeskyPD
import Mathlib.Algebra.BigOperators.Fin
import Mathlib.Algebra.BigOperators.Intervals
/-
  The row-by-row Cholesky factorisation of `Model/ModeStatsNum.lean` (`chol`, the model of `np.linalg.cholesky` = LAPACK
  `potrf`, lower) evaluated at `ℝ` on the list form `matOf S` of a matrix.  The list algorithm computes the index recursion `cholF`
  and answers iff every pivot is positive; the answer is a Cholesky factor in the sense of `potrf`; every positive definite matrix is
  factorised (the leading block of order `i + 1` has determinant `(∏_{k<i} L_kk)² · pivot i`); the factor is unique.  Together:
  `chol (matOf S) = some M` iff `M` is the list form of a Cholesky factor of `S` (`chol_matOf_eq_some_iff`).
-/
namespace Lemmas.CholFactor
open Matrix Model.ModeStatsNum Finset

/-- the factor as a function of the indices -/
noncomputable def cholF (A : ℕ → ℕ → ℝ) : ℕ → ℕ → ℝ
  | i, j =>
    if j < i then (A i j - ∑ k : Fin j, cholF A i k * cholF A j k) / cholF A j j
    else if j = i then Real.sqrt (A i i - ∑ k : Fin i, cholF A i k * cholF A i k)
    else 0
termination_by i j => (i, j)
decreasing_by
  all_goals first
    | (apply Prod.Lex.right; omega)
    | (apply Prod.Lex.left; omega)

noncomputable def piv (A : ℕ → ℕ → ℝ) (i : ℕ) : ℝ := A i i - ∑ k ∈ range i, cholF A i k * cholF A i k

section Recursion
variable (A : ℕ → ℕ → ℝ)

theorem cholF_lower {i j : ℕ} (h : i < j) : cholF A i j = 0 := by
  rw [cholF, if_neg (not_lt.2 h.le), if_neg h.ne']

theorem cholF_diag (i : ℕ) : cholF A i i = Real.sqrt (piv A i) := by
  rw [cholF, if_neg (lt_irrefl i), if_pos rfl, piv, Finset.sum_range]

theorem cholF_off {i j : ℕ} (h : j < i) :
    cholF A i j = (A i j - ∑ k ∈ range j, cholF A i k * cholF A j k) / cholF A j j := by
  rw [cholF, if_pos h, Finset.sum_range]

/-! ### the list algorithm computes `cholF` -/

theorem dotv_map_range (f g : ℕ → ℝ) {j n : ℕ} (h : j ≤ n) :
    Model.Kernel.dotv ((List.range j).map f) ((List.range n).map g) = ∑ k ∈ range j, f k * g k := by
  rw [Model.Kernel.dotv, ScReal.sum_def]
  show _ = ((List.range j).map fun k => f k * g k).sum
  exact congrArg List.sum (List.ext_getElem (by simp [h]) fun k h1 h2 => by simp)

noncomputable def rowL (d i : ℕ) : List ℝ := (List.range d).map (cholF A i)
def rowA (d i : ℕ) : List ℝ := (List.range d).map (A i)

theorem rowL_succ (d i : ℕ) : rowL A (d + 1) i = rowL A d i ++ [cholF A i d] := by
  rw [rowL, List.range_succ, List.map_append]; rfl

theorem cholOff_eq {d i : ℕ} (hi : i < d) : ∀ (n j0 : ℕ), j0 + n ≤ i →
    cholOff (rowA A d i) ((List.range' j0 n).map (rowL A d)) (rowL A j0 i) = some (rowL A (j0 + n) i) := by
  intro n
  induction n with
  | zero => intro j0 _; simp [cholOff]
  | succ n ih =>
    intro j0 h
    have hj0 : j0 < i := by omega
    have hlen : (rowL A j0 i).length = j0 := by simp [rowL]
    have ha : (rowA A d i)[j0]? = some (A i j0) := by
      simp [rowA, List.getElem?_map, List.getElem?_range (show j0 < d by omega)]
    have hl : (rowL A d j0)[j0]? = some (cholF A j0 j0) := by
      simp [rowL, List.getElem?_map, List.getElem?_range (show j0 < d by omega)]
    rw [List.range'_succ, List.map_cons, cholOff, hlen, ha, hl]
    simp only [ScReal.div_def, ScReal.sub_def]
    have hd : Model.Kernel.dotv (rowL A j0 i) (rowL A d j0) = ∑ k ∈ range j0, cholF A i k * cholF A j0 k :=
      dotv_map_range _ _ (by omega)
    rw [hd, ← cholF_off A hj0, ← rowL_succ, ih (j0 + 1) (by omega)]
    congr 2; omega

theorem rowL_split {d i : ℕ} (hi : i < d) :
    rowL A i i ++ [Real.sqrt (piv A i)] ++ List.replicate (d - i - 1) (0 : ℝ) = rowL A d i := by
  obtain ⟨m, rfl⟩ : ∃ m, d = i + 1 + m := ⟨d - i - 1, by omega⟩
  unfold rowL
  rw [List.range_add, List.range_succ, List.map_append, List.map_append, List.map_singleton, cholF_diag,
    show i + 1 + m - i - 1 = m by omega]
  refine congrArg _ (List.eq_replicate_iff.mpr ⟨by simp, fun x hx => ?_⟩).symm
  obtain ⟨k, hk, rfl⟩ := List.mem_map.mp hx
  obtain ⟨j, -, rfl⟩ := List.mem_map.mp hk
  exact cholF_lower A (by omega)

theorem cholRow_iff {d i : ℕ} (hi : i < d) (r : List ℝ) :
    cholRow d ((List.range i).map (rowL A d)) (rowA A d i) = some r ↔ 0 < piv A i ∧ r = rowL A d i := by
  have hoff := cholOff_eq A hi i 0 (by omega)
  have hpre0 : rowL A 0 i = [] := by simp [rowL]
  rw [hpre0, zero_add, ← List.range_eq_range'] at hoff
  have ha : (rowA A d i)[i]? = some (A i i) := by
    simp [rowA, List.getElem?_map, List.getElem?_range hi]
  have hd : Model.Kernel.dotv (rowL A i i) (rowL A i i) = ∑ k ∈ range i, cholF A i k * cholF A i k :=
    dotv_map_range _ _ le_rfl
  unfold cholRow
  simp only [hoff, List.length_map, List.length_range, ha, ScReal.sub_def, hd, ScReal.zero_def, ScReal.sqrt_def]
  have hp : A i i - ∑ k ∈ range i, cholF A i k * cholF A i k = piv A i := rfl
  rw [hp]
  by_cases h : 0 < piv A i
  · simp only [ScReal.lt_def, h, if_true, true_and, Option.some.injEq, rowL_split A hi]
    exact eq_comm
  · simp [h]

theorem cholRows_iff {d : ℕ} : ∀ (n i : ℕ), i + n ≤ d → ∀ M : List (List ℝ),
    (cholRows d ((List.range' i n).map (rowA A d)) ((List.range i).map (rowL A d)) = some M ↔
      (∀ t, t < n → 0 < piv A (i + t)) ∧ M = (List.range (i + n)).map (rowL A d)) := by
  intro n
  induction n with
  | zero => intro i _ M; simp [cholRows, eq_comm]
  | succ n ih =>
    intro i h M
    rw [List.range'_succ, List.map_cons, cholRows]
    by_cases hp : 0 < piv A i
    · have hrow := (cholRow_iff A (show i < d by omega) (rowL A d i)).2 ⟨hp, rfl⟩
      rw [hrow]
      simp only
      have hsnoc : (List.range i).map (rowL A d) ++ [rowL A d i] = (List.range (i + 1)).map (rowL A d) := by
        rw [List.range_succ, List.map_append]; rfl
      rw [hsnoc, ih (i + 1) (by omega) M, Nat.forall_lt_succ_left]
      simp only [Nat.add_zero, hp, true_and, Nat.add_right_comm i 1, Nat.add_assoc]
    · rw [Option.eq_none_iff_forall_ne_some.mpr fun r hc => hp ((cholRow_iff A (show i < d by omega) r).1 hc).1]
      exact ⟨nofun, fun h1 => absurd (h1.1 0 (Nat.succ_pos n)) hp⟩

theorem sum_trunc (f : ℕ → ℝ) {b n : ℕ} (hbn : b < n) (hz : ∀ k, b < k → f k = 0) :
    ∑ k ∈ range n, f k = ∑ k ∈ range (b + 1), f k := by
  symm
  apply Finset.sum_subset
  · intro k hk; simp only [Finset.mem_range] at *; omega
  · intro k _ hk2
    exact hz k (by simp only [Finset.mem_range] at hk2; omega)

theorem rowdot_off {a b n : ℕ} (hb : b < a) (hbn : b < n) (hpb : cholF A b b ≠ 0) :
    ∑ k ∈ range n, cholF A a k * cholF A b k = A a b := by
  rw [sum_trunc _ hbn (fun k hk => by rw [cholF_lower A hk, mul_zero]), Finset.sum_range_succ, cholF_off A hb]
  field_simp
  ring

theorem rowdot_diag {a n : ℕ} (han : a < n) (hp : 0 < piv A a) :
    ∑ k ∈ range n, cholF A a k * cholF A a k = A a a := by
  rw [sum_trunc _ han (fun k hk => by rw [cholF_lower A hk, mul_zero]), Finset.sum_range_succ, cholF_diag,
    Real.mul_self_sqrt hp.le, piv]
  ring

theorem cholF_diag_pos {i : ℕ} (hp : 0 < piv A i) : 0 < cholF A i i := by
  rw [cholF_diag]; exact Real.sqrt_pos.2 hp

/-- the Gram equations of the rows computed so far, pivot `i` included: for `b ≤ a ≤ i`, the first `i` columns of rows `a`, `b`
    give `A a b`, up to the term `piv A i` of the corner `a = b = i` (whose square root is not taken yet) -/
theorem core_gram (i : ℕ) (ih : ∀ m, m < i → 0 < piv A m) {a b : ℕ} (hba : b ≤ a) (hai : a ≤ i) :
    ∑ k ∈ range i, cholF A a k * cholF A b k
      + (if a = i then 1 else 0) * piv A i * (if b = i then 1 else 0) = A a b := by
  rcases lt_or_eq_of_le hai with ha | ha
  · have hb : b ≠ i := by omega
    rw [if_neg ha.ne, zero_mul, zero_mul, add_zero]
    rcases lt_or_eq_of_le hba with h | h
    · exact rowdot_off A h (by omega) (cholF_diag_pos A (ih b (by omega))).ne'
    · subst h; exact rowdot_diag A ha (ih b ha)
  · subst ha
    rcases lt_or_eq_of_le hba with h | h
    · rw [if_neg h.ne, mul_zero, add_zero]
      exact rowdot_off A h h (cholF_diag_pos A (ih b h)).ne'
    · subst h
      simp [piv]

end Recursion

section Mat
open Lemmas.GaussJordan (matOf)
variable {d : ℕ}

/-- a matrix as a function of natural indices (0 outside the shape) -/
def natOf (S : Matrix (Fin d) (Fin d) ℝ) : ℕ → ℕ → ℝ :=
  fun i j => if h : i < d ∧ j < d then S ⟨i, h.1⟩ ⟨j, h.2⟩ else 0

@[simp] theorem natOf_fin (S : Matrix (Fin d) (Fin d) ℝ) (i j : Fin d) : natOf S i j = S i j := by
  simp [natOf]

/-- the matrix the algorithm returns when it returns one -/
noncomputable def cholMat (S : Matrix (Fin d) (Fin d) ℝ) : Matrix (Fin d) (Fin d) ℝ :=
  fun i j => cholF (natOf S) i j

theorem matOf_eq_map_range (M : Matrix (Fin d) (Fin d) ℝ) (f : ℕ → ℕ → ℝ) (hf : ∀ i j : Fin d, f i j = M i j) :
    matOf M = (List.range d).map fun i => (List.range d).map (f i) := by
  apply List.ext_getElem
  · simp [matOf]
  · intro i h1 h2
    apply List.ext_getElem
    · simp [matOf]
    · intro j h3 h4
      have hi : i < d := by simpa [matOf] using h1
      have hj : j < d := by simpa [matOf] using h3
      simpa [matOf] using (hf ⟨i, hi⟩ ⟨j, hj⟩).symm

theorem chol_matOf_iff (S : Matrix (Fin d) (Fin d) ℝ) (M : List (List ℝ)) :
    chol (matOf S) = some M ↔ (∀ i, i < d → 0 < piv (natOf S) i) ∧ M = matOf (cholMat S) := by
  have hlen := Lemmas.GaussJordan.length_matOf S
  unfold chol
  rw [hlen, Lemmas.GaussJordan.matOf_all_length, if_pos rfl, matOf_eq_map_range (cholMat S) (cholF (natOf S)) fun _ _ => rfl]
  have h := cholRows_iff (natOf S) (d := d) d 0 (by omega) M
  simp only [zero_add, List.range_zero, List.map_nil, ← List.range_eq_range'] at h
  rw [matOf_eq_map_range S (natOf S) (natOf_fin S)]
  exact h

theorem cholMat_mul_transpose_apply (S : Matrix (Fin d) (Fin d) ℝ) (i j : Fin d) :
    (cholMat S * (cholMat S)ᵀ) i j = ∑ k ∈ range d, cholF (natOf S) i k * cholF (natOf S) j k := by
  rw [Matrix.mul_apply, ← Fin.sum_univ_eq_sum_range (fun k => cholF (natOf S) i k * cholF (natOf S) j k) d]
  rfl

theorem gram_lower (S : Matrix (Fin d) (Fin d) ℝ) (hp : ∀ i, i < d → 0 < piv (natOf S) i) (i j : Fin d) (hji : j ≤ i) :
    ∑ k ∈ range d, cholF (natOf S) i k * cholF (natOf S) j k = S i j := by
  have h := core_gram (natOf S) d hp (show j.val ≤ i.val from hji) i.isLt.le
  rwa [if_neg i.isLt.ne, zero_mul, zero_mul, add_zero, natOf_fin] at h

theorem cholMat_isFactor (S : Matrix (Fin d) (Fin d) ℝ) (hp : ∀ i, i < d → 0 < piv (natOf S) i) :
    Lemmas.CholeskyPD.IsCholeskyFactor S (cholMat S) where
  lower := fun i j h => cholF_lower _ (show i.val < j.val from h)
  diag_pos := fun i => cholF_diag_pos _ (hp i i.isLt)
  factor := by
    ext i j
    rw [cholMat_mul_transpose_apply]
    unfold Lemmas.CholeskyPD.symLower
    by_cases h : j ≤ i
    · rw [if_pos h, gram_lower S hp i j h]
    · rw [if_neg h, ← gram_lower S hp j i (le_of_lt (not_le.1 h))]
      exact Finset.sum_congr rfl fun k _ => mul_comm _ _

/-! ### completeness: every pivot of a positive definite matrix is positive -/

theorem natOf_symm (S : Matrix (Fin d) (Fin d) ℝ) (hs : S.IsSymm) (a b : ℕ) : natOf S a b = natOf S b a := by
  unfold natOf
  by_cases h : a < d ∧ b < d
  · rw [dif_pos h, dif_pos ⟨h.2, h.1⟩]
    exact hs.apply ⟨b, h.2⟩ ⟨a, h.1⟩
  · rw [dif_neg h, dif_neg (fun h' => h ⟨h'.2, h'.1⟩)]

/-- one pivot: if all earlier pivots are positive, the leading block of order `i + 1` is `G D Gᵀ` with `G` the rows computed so
    far and a unit last diagonal entry, `D = diag(1, …, 1, piv i)`; so its determinant, which is positive, is `(∏ G_kk)² · piv i` -/
theorem piv_pos_step (S : Matrix (Fin d) (Fin d) ℝ) (hS : S.PosDef) (i : ℕ) (hi : i < d)
    (ih : ∀ m, m < i → 0 < piv (natOf S) m) : 0 < piv (natOf S) i := by
  set A := natOf S with hA
  have hsymm : S.IsSymm := Lemmas.CholeskyPD.isSymm_of_posDef hS
  let G : Matrix (Fin (i + 1)) (Fin (i + 1)) ℝ := fun a k => if k.val < i then cholF A a k else if a = k then 1 else 0
  let Dv : Fin (i + 1) → ℝ := fun k => if k.val = i then piv A i else 1
  have hG : ∀ a b : Fin (i + 1), b.val ≤ a.val → (G * diagonal Dv * Gᵀ) a b = A a b := by
    intro a b hba
    have hai : a.val ≤ i := Nat.le_of_lt_succ a.isLt
    rw [Matrix.mul_apply, ← core_gram A i ih hba hai, Fin.sum_univ_castSucc,
      ← Fin.sum_univ_eq_sum_range (fun k => cholF A a k * cholF A b k) i]
    have e : ∀ c : Fin (i + 1), (c = Fin.last i) = (c.val = i) := fun c => by rw [Fin.ext_iff]; rfl
    simp only [Matrix.mul_diagonal, Matrix.transpose_apply]
    simp only [G, Dv, Fin.val_castSucc, Fin.is_lt, if_true, (Fin.is_lt _).ne, if_false, mul_one, Fin.val_last, lt_irrefl, e]
  have hblock : G * diagonal Dv * Gᵀ = S.submatrix (Fin.castLE hi) (Fin.castLE hi) := by
    ext a b
    rcases le_total b.val a.val with h | h
    · rw [hG a b h, hA]; exact natOf_fin S (Fin.castLE hi a) (Fin.castLE hi b)
    · have : (G * diagonal Dv * Gᵀ) a b = (G * diagonal Dv * Gᵀ) b a := by
        rw [Matrix.mul_apply, Matrix.mul_apply]
        exact Finset.sum_congr rfl fun k _ => by simp only [Matrix.mul_diagonal, Matrix.transpose_apply]; ring
      rw [this, hG b a h, hA, natOf_symm S hsymm]; exact natOf_fin S (Fin.castLE hi a) (Fin.castLE hi b)
  have hlow : G.IsLowerTriangular := by
    intro a k hak
    have h1 : a.val < k.val := hak
    show (if k.val < i then cholF A a k else if a = k then 1 else 0) = 0
    split
    · exact cholF_lower A h1
    · exact if_neg (Fin.ne_of_lt hak)
  have hdiag : ∀ k : Fin (i + 1), 0 < G k k := by
    intro k
    show 0 < (if k.val < i then cholF A k k else if k = k then 1 else 0)
    split
    · rename_i h; exact cholF_diag_pos A (ih k h)
    · rw [if_pos rfl]; exact one_pos
  have hdet := (hS.submatrix (Fin.castLE_injective hi)).det_pos
  rw [← hblock, det_mul, det_mul, det_transpose, det_diagonal, det_of_isLowerTriangular G hlow,
    Fin.prod_univ_castSucc Dv] at hdet
  have hD : ∏ k : Fin i, Dv k.castSucc = 1 := Finset.prod_eq_one fun k _ => if_neg (Fin.is_lt k).ne
  have hlast : Dv (Fin.last i) = piv A i := if_pos rfl
  rw [hD, hlast, one_mul, mul_right_comm, ← sq] at hdet
  exact (mul_pos_iff_of_pos_left (pow_pos (Finset.prod_pos fun k _ => hdiag k) 2)).mp hdet

theorem piv_pos_of_posDef (S : Matrix (Fin d) (Fin d) ℝ) (hS : S.PosDef) : ∀ i, i < d → 0 < piv (natOf S) i := by
  intro i
  induction i using Nat.strong_induction_on with
  | _ i ih =>
    intro hi
    exact piv_pos_step S hS i hi fun m hm => ih m hm (by omega)

theorem chol_matOf_posDef (S : Matrix (Fin d) (Fin d) ℝ) (hS : S.PosDef) :
    chol (matOf S) = some (matOf (cholMat S)) :=
  (chol_matOf_iff S _).2 ⟨piv_pos_of_posDef S hS, rfl⟩

theorem isFactor_unique (S L : Matrix (Fin d) (Fin d) ℝ) (h : Lemmas.CholeskyPD.IsCholeskyFactor S L) :
    L = cholMat S := by
  have hlow : ∀ j k : ℕ, j < k → natOf L j k = 0 := fun j k hk => by
    unfold natOf; split
    exacts [h.lower _ _ hk, rfl]
  -- the Gram equation of `L`, truncated at the diagonal of row `j`
  have hgram : ∀ i j : Fin d, j ≤ i →
      ∑ k ∈ range j, natOf L i k * natOf L j k + natOf L i j * natOf L j j = natOf S i j := by
    intro i j hji
    rw [← Finset.sum_range_succ, ← sum_trunc _ j.isLt (fun k hk => by rw [hlow j k hk, mul_zero]),
      ← Fin.sum_univ_eq_sum_range (fun k => natOf L i k * natOf L j k) d]
    simpa [Matrix.mul_apply, Lemmas.CholeskyPD.symLower, hji] using congrFun (congrFun h.factor i) j
  -- column by column: the diagonal entry, then the entries below it
  have key : ∀ j, j < d → ∀ i, i < d → natOf L i j = cholF (natOf S) i j := by
    intro j
    induction j using Nat.strong_induction_on with
    | _ j ih =>
      intro hj
      have hsum : ∀ i, i < d → ∑ k ∈ range j, natOf L i k * natOf L j k
          = ∑ k ∈ range j, cholF (natOf S) i k * cholF (natOf S) j k := fun i hi =>
        Finset.sum_congr rfl fun k hk => by
          have hk := Finset.mem_range.1 hk
          rw [ih k hk (hk.trans hj) i hi, ih k hk (hk.trans hj) j hj]
      have hpos : 0 < natOf L j j := by rw [natOf_fin L ⟨j, hj⟩ ⟨j, hj⟩]; exact h.diag_pos _
      have hd : natOf L j j = cholF (natOf S) j j := by
        rw [cholF_diag, piv, ← hsum j hj, ← hgram ⟨j, hj⟩ ⟨j, hj⟩ le_rfl, add_sub_cancel_left, Real.sqrt_mul_self hpos.le]
      intro i hi
      rcases lt_trichotomy i j with hij | rfl | hji
      · rw [hlow i j hij, cholF_lower _ hij]
      · exact hd
      · rw [cholF_off _ hji, ← hsum i hi, ← hd, eq_div_iff hpos.ne', ← hgram ⟨i, hi⟩ ⟨j, hj⟩ hji.le, add_sub_cancel_left]
  ext i j
  exact (natOf_fin L i j).symm.trans (key j j.isLt i i.isLt)

theorem chol_matOf_eq_some_iff (S : Matrix (Fin d) (Fin d) ℝ) (M : List (List ℝ)) :
    chol (matOf S) = some M ↔ ∃ L : Matrix (Fin d) (Fin d) ℝ, M = matOf L ∧ Lemmas.CholeskyPD.IsCholeskyFactor S L := by
  refine ⟨fun h => ⟨cholMat S, ((chol_matOf_iff S M).1 h).2, cholMat_isFactor S ((chol_matOf_iff S M).1 h).1⟩, ?_⟩
  rintro ⟨L, rfl, h⟩
  obtain rfl := isFactor_unique S L h
  -- the diagonal of the factor is the square root of the pivots
  exact (chol_matOf_iff S _).2 ⟨fun i hi => Real.sqrt_pos.1 (cholF_diag (natOf S) i ▸ h.diag_pos ⟨i, hi⟩), rfl⟩

end Mat
end Lemmas.CholFactor
