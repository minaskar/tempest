import TempestVerif.Model.StateMgrX
import TempestVerif.Lemmas.StateMgr
/-
  The composite accessors and run shapes of `Model/StateMgrX.lean` (C17).  Core Lean only.

  `compute_posterior` is a chain of transitions on the caller's side (`RO`) whose results are new and caller-held (`OK`, `Spec`); the resumed
  manager reaches only arrays allocated after the export (`Above`); a filled cache holds `resultsP` of the history payloads (`CacheOk`).
-/
namespace Model.StateMgr

/-! ### runs -/

theorem isBody_spec {o : Op} (h : o.isBody = true) : o.isCommit = false ∧ o.isImport = false := by
  cases o <;> simp_all [Op.isBody, Op.isCommit, Op.isImport]

theorem isOptIn_eq (o : Op) : o.isOptIn = o.optIn := by
  cases o <;> first | rfl | (rename_i c; cases c <;> rfl)

theorem run_history_eq (ops : List Op) (s : State) (h : ∀ o ∈ ops, o.isBody = true) :
    (run s ops).history = s.history := by
  induction ops generalizing s with
  | nil => rfl
  | cons o os ih =>
    have hb := isBody_spec (h o (by simp))
    simp only [run]
    rw [ih _ (fun x hx => h x (List.mem_cons_of_mem _ hx)), step_history_eq s o hb.1 hb.2]

theorem updLoop_current_only (copy : Bool) (kvs : List (Key × Val)) (s : State) :
    (updLoop copy kvs s).1.cache = s.cache ∧ (updLoop copy kvs s).1.history = s.history :=
  ⟨(updLoop_frame copy kvs s).2.1, (updLoop_frame copy kvs s).1⟩

/-! ### the key set of `_history`: kept by everything but an import -/

theorem commitLoop_keys (ks : List Key) (s : State) : (commitLoop ks s).history.map Prod.fst = s.history.map Prod.fst := by
  induction ks generalizing s with
  | nil => rfl
  | cons k ks ih =>
    simp only [commitLoop]
    split
    · split
      · exact ih s
      · rw [ih]; exact keys_adjust _ _ _
    · exact ih s

theorem histKeysValid_iff (s : State) : histKeysValid s = true ↔ ∀ k ∈ s.history.map Prod.fst, historyKeys.contains k = true := by
  simp [histKeysValid, List.all_eq_true]

theorem resolveHist_keys (h : Heap) (esc : List Addr) (l : List (Key × List Arg)) :
    (resolveHist h esc l).2.2.map Prod.fst = l.map Prod.fst := by
  induction l generalizing h esc with
  | nil => rfl
  | cons kv xs ih => obtain ⟨k, x⟩ := kv; simp only [resolveHist, List.map_cons, ih]

theorem copyHist_keys (h : Heap) (d : List (Key × List Val)) : (copyHist h d).2.map Prod.fst = d.map Prod.fst := by
  induction d generalizing h with
  | nil => rfl
  | cons kv r ih => obtain ⟨k, l⟩ := kv; simp only [copyHist, List.map_cons, ih]

theorem step_history_keys (s : State) (o : Op) (hni : o.isImport = false) :
    (step s o).1.history.map Prod.fst = s.history.map Prod.fst := by
  cases hcm : o.isCommit with
  | false => rw [step_history_eq s o hcm hni]
  | true =>
    cases o with
    | commit strict =>
      rcases step_commit s strict with h | h <;> rw [h]
      exact commitLoop_keys _ _
    | _ => cases hcm

theorem run_history_keys (ops : List Op) (s : State) (hni : ∀ o ∈ ops, o.isImport = false) :
    (run s ops).history.map Prod.fst = s.history.map Prod.fst := by
  induction ops generalizing s with
  | nil => rfl
  | cons o os ih =>
    simp only [run]
    rw [ih _ (fun x hx => hni x (List.mem_cons_of_mem _ hx)), step_history_keys s o (hni o (by simp))]

/-! ### accessors and library-side allocations are transitions on the caller's side (`RO`) -/

def OK (s t : State) (v : Val) : Prop := ∀ b : Nat, b ∈ v.addrs → s.heap.length ≤ b ∧ b ∈ t.escaped

theorem OK.mono {s t u : State} {v : Val} (h : OK s t v) (r : RO t u) : OK s u v := fun b hb =>
  ⟨(h b hb).1, r.escMono b (h b hb).2⟩

theorem OK.none (s t : State) : OK s t Val.none := fun b hb => by simp [Val.addrs] at hb

theorem ro_alloc (s : State) (p : Option Content) : RO s (stepX s (.alloc p)).1 :=
  RO.handOut (new := [s.heap.length]) (by simp) (by simp)

theorem ok_alloc (s0 s : State) (p : Option Content) (hle : s0.heap.length ≤ s.heap.length) :
    OK s0 (stepX s (.alloc p)).1 (.ref s.heap.length) := fun b hb => by
  simp only [Val.addrs, List.mem_singleton] at hb
  subst hb
  exact ⟨hle, by simp [stepX]⟩

theorem valOf_addrs (r : Res) (b : Nat) (hb : b ∈ r.valOf.addrs) : b ∈ r.addrs := by
  cases r <;> first | exact hb | cases hb

theorem ok_step (s0 s : State) (o : Op) (hle : s0.heap.length ≤ s.heap.length) : OK s0 (step s o).1 (step s o).2.valOf :=
  fun b hb => ⟨Nat.le_trans hle (step_res_fresh s o b (valOf_addrs _ b hb)), step_res_escaped s o b (valOf_addrs _ b hb)⟩

theorem ro_gather1 (s : State) (v : Val) : RO s (gather1 s v).1 := by
  cases v with
  | none => exact RO.refl _
  | scalar x => exact RO.refl _
  | ref a => exact ro_alloc s none

theorem ok_gather1 (s0 s : State) (v : Val) (hle : s0.heap.length ≤ s.heap.length) :
    OK s0 (gather1 s v).1 (gather1 s v).2 := by
  cases v with
  | none => exact OK.none _ _
  | scalar x => exact fun b hb => by simp [gather1, Val.addrs] at hb
  | ref a => exact ok_alloc s0 s none hle

structure PostVals.OK (s t : State) (v : PostVals) : Prop where
  u : Model.StateMgr.OK s t v.u
  x : Model.StateMgr.OK s t v.x
  logl : Model.StateMgr.OK s t v.logl
  logw : Model.StateMgr.OK s t v.logw
  blobs : Model.StateMgr.OK s t v.blobs

theorem PostVals.OK.mono {s t u : State} {v : PostVals} (h : PostVals.OK s t v) (r : RO t u) : PostVals.OK s u v :=
  ⟨h.u.mono r, h.x.mono r, h.logl.mono r, h.logw.mono r, h.blobs.mono r⟩

theorem ro_gather (s : State) (v : PostVals) : RO s (gather s v).1 := by
  simp only [gather]
  exact (ro_gather1 _ _).trans ((ro_gather1 _ _).trans ((ro_gather1 _ _).trans ((ro_gather1 _ _).trans (ro_gather1 _ _))))

theorem ok_gather (s0 s : State) (v : PostVals) (hle : s0.heap.length ≤ s.heap.length) :
    PostVals.OK s0 (gather s v).1 (gather s v).2 := by
  simp only [gather]
  have r2 := ro_gather1 (gather1 s v.u).1 v.x
  have r3 := ro_gather1 (gather1 (gather1 s v.u).1 v.x).1 v.logl
  have r4 := ro_gather1 (gather1 (gather1 (gather1 s v.u).1 v.x).1 v.logl).1 v.logw
  have r5 := ro_gather1 (gather1 (gather1 (gather1 (gather1 s v.u).1 v.x).1 v.logl).1 v.logw).1 v.blobs
  have l1 := (ro_gather1 s v.u).le
  have l2 := r2.le
  have l3 := r3.le
  have l4 := r4.le
  exact ⟨(ok_gather1 s0 s v.u hle).mono (r2.trans (r3.trans (r4.trans r5))),
    (ok_gather1 s0 _ v.x (by omega)).mono (r3.trans (r4.trans r5)),
    (ok_gather1 s0 _ v.logl (by omega)).mono (r4.trans r5),
    (ok_gather1 s0 _ v.logw (by omega)).mono r5,
    ok_gather1 s0 _ v.blobs (by omega)⟩

theorem postTuple_addrs {o : PostOpts} {v : PostVals} {w : Val} {b : Nat} (hb : b ∈ dictAddrs (postTuple o v w)) :
    b ∈ v.x.addrs ∨ b ∈ w.addrs ∨ b ∈ v.logl.addrs ∨ b ∈ v.blobs.addrs ∨ b ∈ v.logw.addrs := by
  simp only [postTuple, dictAddrs, List.flatMap_append, List.mem_append, List.flatMap_cons, List.flatMap_nil,
    List.append_nil] at hb
  rcases hb with (hb | hb) | hb
  · rcases hb with hb | hb | hb
    · exact Or.inl hb
    · exact Or.inr (Or.inl hb)
    · exact Or.inr (Or.inr (Or.inl hb))
  · split at hb
    · simp only [List.flatMap_cons, List.flatMap_nil, List.append_nil] at hb
      exact Or.inr (Or.inr (Or.inr (Or.inl hb)))
    · simp at hb
  · split at hb
    · simp only [List.flatMap_cons, List.flatMap_nil, List.append_nil] at hb
      exact Or.inr (Or.inr (Or.inr (Or.inr hb)))
    · simp at hb

/-! ### `compute_posterior` is read-only and returns new, caller-held arrays -/

def Spec (s0 : State) (q : State × Res) : Prop :=
  RO s0 q.1 ∧ ∀ b : Nat, b ∈ q.2.addrs → s0.heap.length ≤ b ∧ b ∈ q.1.escaped

theorem isErr_addrs {r : Res} (h : r.isErr = true) : r.addrs = [] := by
  cases r <;> simp_all [Res.isErr, Res.addrs]

theorem andThen_spec {s0 : State} {q : State × Res} {k : State → Val → State × Res} (hr : RO s0 q.1)
    (hk : q.2.isErr = false → Spec s0 (k q.1 q.2.valOf)) : Spec s0 (andThen q k) := by
  unfold andThen
  split
  · rename_i he
    exact ⟨hr, fun b hb => by rw [isErr_addrs he] at hb; cases hb⟩
  · rename_i he
    exact hk (by simpa using he)

theorem blobsStage_spec (s0 t : State) (o : PostOpts) (hle : s0.heap.length ≤ t.heap.length) :
    RO t (blobsStage o t).1 ∧ OK s0 (blobsStage o t).1 (blobsStage o t).2.valOf := by
  unfold blobsStage
  by_cases hd : o.blobsDeclared = true
  · simp only [hd, if_true, Res.isErr, Bool.false_eq_true, if_false, Bool.true_or]
    exact ⟨(step_read _ _ rfl).1, ok_step s0 t _ hle⟩
  · simp only [hd, Bool.false_eq_true, if_false, Bool.false_or]
    have r1 := (step_read t (.getCurrent (some "blobs")) rfl).1
    have l1 := r1.le
    split
    · exact ⟨r1, ok_step s0 t _ hle⟩
    · split
      · exact ⟨r1.trans (step_read _ _ rfl).1, ok_step s0 _ _ (by omega)⟩
      · exact ⟨r1, OK.none _ _⟩

theorem trimStage_spec (s0 t : State) (o : PostOpts) (v : PostVals) (wts : Val) (hle : s0.heap.length ≤ t.heap.length)
    (hv : PostVals.OK s0 t v) (hw : OK s0 t wts) :
    RO t (trimStage o t v wts).1 ∧ PostVals.OK s0 (trimStage o t v wts).1 (trimStage o t v wts).2.1 ∧
      OK s0 (trimStage o t v wts).1 (trimStage o t v wts).2.2 := by
  unfold trimStage
  split
  · have r1 := ro_alloc t none
    have l1 := r1.le
    have r2 := ro_gather (stepX t (.alloc none)).1 v
    exact ⟨r1.trans r2, ok_gather s0 _ v (by omega), (ok_alloc s0 t none hle).mono r2⟩
  · exact ⟨RO.refl _, hv, hw⟩

theorem resampleStage_spec (s0 t : State) (o : PostOpts) (v : PostVals) (wts : Val) (hle : s0.heap.length ≤ t.heap.length)
    (hv : PostVals.OK s0 t v) (hw : OK s0 t wts) :
    RO t (resampleStage o t v wts).1 ∧ PostVals.OK s0 (resampleStage o t v wts).1 (resampleStage o t v wts).2.1 ∧
      OK s0 (resampleStage o t v wts).1 (resampleStage o t v wts).2.2 := by
  unfold resampleStage
  split
  · have r1 := ro_gather t v
    have l1 := r1.le
    have r2 := ro_alloc (gather t v).1 none
    exact ⟨r1.trans r2, (ok_gather s0 t v hle).mono r2, ok_alloc s0 _ none (by omega)⟩
  · exact ⟨RO.refl _, hv, hw⟩

theorem postFinish_spec (s0 t : State) (o : PostOpts) (v : PostVals) (wts : Val) (h0 : RO s0 t)
    (hv : PostVals.OK s0 t v) (hw : OK s0 t wts) : Spec s0 (postFinish o t v wts) := by
  have hle := h0.le
  obtain ⟨r1, v1, w1⟩ := trimStage_spec s0 t o v wts hle hv hw
  have l1 := r1.le
  obtain ⟨r2, v2, w2⟩ := resampleStage_spec s0 (trimStage o t v wts).1 o (trimStage o t v wts).2.1 (trimStage o t v wts).2.2
    (by omega) v1 w1
  refine ⟨h0.trans (r1.trans r2), fun b hb => ?_⟩
  simp only [postFinish, Res.addrs] at hb
  rcases postTuple_addrs hb with h | h | h | h | h
  · exact v2.x b h
  · exact w2 b h
  · exact v2.logl b h
  · exact v2.blobs b h
  · exact v2.logw b h

theorem andThen_getHistoryFlat {s0 t : State} {k : Key} {K : State → Val → State × Res} (h0 : RO s0 t)
    (hK : ∀ t' u, RO t t' → OK s0 t' u → Spec s0 (K t' u)) : Spec s0 (andThen (step t (.getHistory k none true)) K) :=
  andThen_spec (h0.trans (step_read t _ rfl).1) fun _ => hK _ _ (step_read t _ rfl).1 (ok_step s0 t _ h0.le)

theorem posterior_spec (s : State) (o : PostOpts) : Spec s (posterior s o) := by
  simp only [posterior]
  have r0 := (step_read s (.logw 1) rfl).1
  split
  · exact ⟨r0, fun b hb => by simp [Res.addrs] at hb⟩
  · have hw : OK s (step s (.logw 1)).1 (.ref s.heap.length) := ok_step s s (.logw 1) (Nat.le_refl _)
    have ra := ro_alloc (step s (.logw 1)).1 (likeLogw (step s (.logw 1)).1.heap s.heap.length)
    have hwts := ok_alloc s (step s (.logw 1)).1 (likeLogw (step s (.logw 1)).1.heap s.heap.length) r0.le
    refine andThen_getHistoryFlat (r0.trans ra) fun s1 u ru hu => ?_
    refine andThen_getHistoryFlat ((r0.trans ra).trans ru) fun s2 x rx hx => ?_
    refine andThen_getHistoryFlat (((r0.trans ra).trans ru).trans rx) fun s3 l rl hl => ?_
    have r3 := (((r0.trans ra).trans ru).trans rx).trans rl
    obtain ⟨rb, okb⟩ := blobsStage_spec s s3 o r3.le
    refine andThen_spec (r3.trans rb) fun _ => ?_
    exact postFinish_spec s _ o _ _ (r3.trans rb)
      ⟨hu.mono ((rx.trans rl).trans rb), hx.mono (rl.trans rb), hl.mono rb,
        hw.mono ((((ra.trans ru).trans rx).trans rl).trans rb), okb⟩
      (hwts.mono (((ru.trans rx).trans rl).trans rb))

/-! ### a second manager, resume -/

theorem freshIn_inv {s : State} (hI : Inv s) : Inv (freshIn s) :=
  inv_of_reach_nil (s := freshIn s) reach_init hI.esc_lt

/-- the defaults loop of `load_sampler_state` only calls `get_current(key)` and `set_current(key, default)` -/
theorem defaultsLoop_induct {P : State → Prop}
    (hstep : ∀ t o, o.optIn = false → o.isCommit = false → o.isImport = false → o.isScribble = false → P t → P (step t o).1)
    (l : List (Key × Int)) (s : State) (h : P s) : P (defaultsLoop l s) := by
  induction l generalizing s with
  | nil => exact h
  | cons kd r ih =>
    obtain ⟨k, d⟩ := kd
    simp only [defaultsLoop]
    have h1 := hstep s (.getCurrent (some k)) rfl rfl rfl rfl h
    split
    · exact ih _ (hstep _ (.setCurrent k (.scalar d) true) rfl rfl rfl rfl h1)
    · exact ih _ h1

theorem defaultsLoop_inv (l : List (Key × Int)) (s : State) (hI : Inv s) : Inv (defaultsLoop l s) :=
  defaultsLoop_induct (fun t o _ _ _ _ h => step_inv t o h) l s hI

def Above (n : Nat) (t : State) : Prop := ∀ a : Nat, a ∈ reach t → n ≤ a

theorem Above.step {n : Nat} {t : State} (h : Above n t) (hn : n ≤ t.heap.length) (o : Op) (ho : o.optIn = false) :
    Above n (step t o).1 := fun a ha => by
  rcases step_reach_new t o ho a ha with h1 | h1
  · exact h a h1
  · omega

theorem defaultsLoop_above (l : List (Key × Int)) (n : Nat) (s : State) (h : Above n s) (hn : n ≤ s.heap.length) :
    Above n (defaultsLoop l s) ∧ n ≤ (defaultsLoop l s).heap.length :=
  defaultsLoop_induct (P := fun t => Above n t ∧ n ≤ t.heap.length)
    (fun t o ho _ _ _ h => ⟨h.1.step h.2 o ho, Nat.le_trans h.2 (step_heap_length_le t o)⟩) l s ⟨h, hn⟩

theorem resume_eq {s t : State} {c : List (Key × Val)} {hh : List (Key × List Val)} (hq : step s .toDict = (t, .export c hh)) :
    resume s = defaultsLoop resumeDefaults (step (freshIn t) (exportArgs c hh)).1 := by
  unfold resume; rw [hq]

theorem resume_above (s : State) (hI : Inv s) : Inv (resume s) ∧ Above (step s .toDict).1.heap.length (resume s) := by
  obtain ⟨c, hh, hq⟩ : ∃ c hh, step s .toDict = ((step s .toDict).1, Res.export c hh) := ⟨_, _, rfl⟩
  have hA0 : Above (step s .toDict).1.heap.length (freshIn (step s .toDict).1) := fun a ha => by
    have : reach (freshIn (step s .toDict).1) = reach init := rfl
    rw [this, reach_init] at ha; cases ha
  have hA1 := hA0.step (Nat.le_refl _) (exportArgs c hh) rfl
  rw [resume_eq hq]
  exact ⟨defaultsLoop_inv _ _ (step_inv _ _ (freshIn_inv (step_inv s .toDict hI))),
    (defaultsLoop_above resumeDefaults _ _ hA1 (step_heap_length_le (freshIn (step s .toDict).1) (exportArgs c hh))).1⟩

/-! ### `compute_results()` is a function of the committed history payloads -/

theorem cellOf_deref (h : Heap) (v : Val) : cellOf h v = cellOfP (deref h v) := by
  cases v with
  | none => rfl
  | scalar x => rfl
  | ref a =>
    simp only [cellOf, deref]
    cases rd h a <;> rfl

theorem stack_deref (h : Heap) (l : List Val) : stack h l = stackP (l.map (deref h)) := by
  induction l with
  | nil => rfl
  | cons v vs ih =>
    simp only [stack, List.map_cons, stackP, cellOf_deref, ih]
    cases cellOfP (deref h v) <;> cases stackP (List.map (deref h) vs) <;> rfl

theorem logwStub_deref (h : Heap) (hist : List (Key × List Val)) : logwStub h hist = logwP (derefHist h hist) := by
  simp only [logwStub, logwP, derefHist, lookup_map]
  cases hb : lookup "beta" hist with
  | none => rfl
  | some b =>
    cases b with
    | nil => rfl
    | cons b0 bs =>
      cases hl : lookup "logl" hist with
      | none => rfl
      | some l => simp [stack_deref]

theorem derefDict_insert (h : Heap) (k : Key) (v : Val) (c : List (Key × Val)) :
    derefDict h (insert k v c) = insert k (deref h v) (derefDict h c) :=
  insert_map (deref h) k v c

theorem deref_new_cell (h : Heap) (c : Option Content) : deref (h ++ [c]) (.ref h.length) = pvalOfCell c := by
  simp only [deref, rd_append_self]
  cases c <;> rfl

def fillP (hist : List (Key × List PVal)) (c0 : List (Key × PVal)) : List (Key × PVal) :=
  hist.foldl (fun acc kv => insert kv.1 (pvalOfCell (stackP kv.2)) acc) c0

theorem fillCache_payload (d : List (Key × List Val)) (h : Heap) (c : List (Key × Val))
    (hk : ∀ kv ∈ d, historyKeys.contains kv.1 = true)
    (hd : ∀ a : Nat, a ∈ histAddrs d → a < h.length) (hc : ∀ a : Nat, a ∈ dictAddrs c → a < h.length) :
    (fillCache d h c).2.2 = true ∧
    derefDict (fillCache d h c).1 (fillCache d h c).2.1 = fillP (derefHist h d) (derefDict h c) := by
  induction d generalizing h c with
  | nil => exact ⟨rfl, rfl⟩
  | cons kv r ih =>
    obtain ⟨k, l⟩ := kv
    have hkk : historyKeys.contains k = true := hk (k, l) (by simp)
    simp only [fillCache, hkk, if_true]
    have e1 : Ext h (h ++ [stack h l]) := Ext.snoc _ _
    have hr : ∀ a : Nat, a ∈ histAddrs r → a < h.length := fun a ha => hd a (List.mem_append_right _ ha)
    have hr1 : ∀ a : Nat, a ∈ histAddrs r → a < (h ++ [stack h l]).length := fun a ha => by
      have := hr a ha; simp; omega
    have hc1 : ∀ a : Nat, a ∈ dictAddrs (insert k (.ref h.length) c) → a < (h ++ [stack h l]).length := fun a ha => by
      rcases dictAddrs_insert ha with h1 | h1
      · have := hc a h1; simp; omega
      · simp only [Val.addrs, List.mem_singleton] at h1; subst h1; simp
    obtain ⟨i1, i2⟩ := ih (h ++ [stack h l]) (insert k (.ref h.length) c)
      (fun kv hkv => hk kv (List.mem_cons_of_mem _ hkv)) hr1 hc1
    refine ⟨i1, ?_⟩
    rw [i2, derefDict_insert, deref_new_cell, reader_dict.ext e1 hc, reader_hist.ext e1 hr]
    simp only [fillP, derefHist, List.map_cons, List.foldl_cons, stack_deref]

theorem resultsP_eq (hist : List (Key × List PVal)) : resultsP hist = insert "logw" (pvalOfCell (logwP hist)) (fillP hist []) := rfl

theorem computeResults_fresh_payload (s : State) (hI : Inv s) (hv : histKeysValid s = true) (hc : s.cache = none) :
    derefRes (step s .computeResults).1.heap (step s .computeResults).2 = .dict (resultsP (derefHist s.heap s.history)) ∧
    ∃ c, (step s .computeResults).1.cache = some c ∧
      derefDict (step s .computeResults).1.heap c = resultsP (derefHist s.heap s.history) := by
  have hk : ∀ kv ∈ s.history, historyKeys.contains kv.1 = true := by
    simpa [histKeysValid, List.all_eq_true] using hv
  have hd := hI.hist_lt
  obtain ⟨f1, f2⟩ := fillCache_payload s.history s.heap [] hk hd (fun a ha => by simp [dictAddrs] at ha)
  have fe := fillCache_ext s.history s.heap []
  -- the cache dictionary in the heap that also holds `logw`
  have hcache : derefDict ((fillCache s.history s.heap []).1 ++ [logwStub (fillCache s.history s.heap []).1 s.history])
      (insert "logw" (.ref (fillCache s.history s.heap []).1.length) (fillCache s.history s.heap []).2.1) =
      resultsP (derefHist s.heap s.history) := by
    rw [derefDict_insert, deref_new_cell, reader_dict.ext (Ext.snoc _ _) (fun _ ha => (fillCache_nil_fresh ha).2), f2, logwStub_deref, reader_hist.ext fe hd]
    exact (resultsP_eq _).symm
  have hall := fun a ha => (filled_cache_new s.history s.heap (logwStub (fillCache s.history s.heap []).1 s.history) a ha).2
  simp only [step, hc, f1, Bool.not_true, Bool.false_eq_true, if_false, derefRes]
  refine ⟨?_, _, rfl, ?_⟩
  · rw [copier_dict.payload _ _ hall, hcache]
  · rw [reader_dict.ext (copier_dict.appends _ _) hall, hcache]

/-- the cache, when filled, holds exactly what a fresh computation from the committed history would give -/
def CacheOk (s : State) : Prop :=
  ∀ c, s.cache = some c → derefDict s.heap c = resultsP (derefHist s.heap s.history)

/-- `update_from_dict` with history keys that `get_history` accepts (an exported dictionary always qualifies) -/
def Op.validImport : Op → Bool
  | .updateFromDict _ hist => (entries hist).all fun kv => historyKeys.contains kv.1
  | _ => true

theorem cacheOk_none {t : State} (h : t.cache = none) : CacheOk t := fun c hc => by rw [h] at hc; cases hc

theorem cacheOk_frame {s : State} {o : Op} (hI : Inv s) (hok : CacheOk s) (hc : (step s o).1.cache = s.cache)
    (hh : (step s o).1.history = s.history) : CacheOk (step s o).1 := by
  intro c hcc
  rw [hc] at hcc
  rw [hh, reader_dict.step hI o fun a ha => .inr (by rw [hcc]; exact ha), reader_hist.step hI o fun a ha => .inl ha]
  exact hok c hcc

theorem step_cacheOk (s : State) (o : Op) (hI : Inv s) (hv : histKeysValid s = true) (hok : CacheOk s)
    (hvi : o.validImport = true) : histKeysValid (step s o).1 = true ∧ CacheOk (step s o).1 := by
  refine ⟨?_, ?_⟩
  · cases him : o.isImport with
    | false => rw [histKeysValid_iff, step_history_keys s o him]; exact (histKeysValid_iff s).1 hv
    | true =>
      cases o with
      | updateFromDict cur hist =>
        simp only [step]
        split
        · exact hv
        · rw [histKeysValid_iff]
          intro k hk
          rcases mem_keys_updateAll hk with h1 | h1
          · rw [copyHist_keys, resolveHist_keys] at h1
            simp only [Op.validImport, List.all_eq_true] at hvi
            simp only [List.mem_map] at h1
            obtain ⟨kv, hm, rfl⟩ := h1
            exact hvi kv hm
          · exact (histKeysValid_iff s).1 hv k h1
      | _ => cases him
  · rcases step_cache s o with ⟨hh, hc | hc⟩ | hn
    · exact cacheOk_frame hI hok hc hh
    · cases o with
      | computeResults =>
        cases hc : s.cache with
        | some c => exact cacheOk_frame hI hok (by simp [step, hc]) hh
        | none =>
          obtain ⟨_, c, hc1, hc2⟩ := computeResults_fresh_payload s hI hv hc
          intro c' hc'
          rw [hc1] at hc'
          have : c' = c := (Option.some.inj hc').symm
          subst this
          rw [hh, reader_hist.step hI .computeResults fun a ha => .inl ha]
          exact hc2
      | _ => cases hc
    · exact cacheOk_none hn

theorem init_cacheOk : histKeysValid init = true ∧ CacheOk init := ⟨by simp [histKeysValid, init], cacheOk_none rfl⟩

theorem run_cacheOk (ops : List Op) (s : State) (hI : Inv s) (hv : histKeysValid s = true) (hok : CacheOk s)
    (hvi : ∀ o ∈ ops, o.validImport = true) : histKeysValid (run s ops) = true ∧ CacheOk (run s ops) := by
  induction ops generalizing s with
  | nil => exact ⟨hv, hok⟩
  | cons o os ih =>
    obtain ⟨h1, h2⟩ := step_cacheOk s o hI hv hok (hvi o (by simp))
    exact ih _ (step_inv s o hI) h1 h2 (fun x hx => hvi x (List.mem_cons_of_mem _ hx))

theorem results_eq_resultsP (s : State) (hI : Inv s) (hv : histKeysValid s = true) (hok : CacheOk s) :
    (observe s).results = .dict (resultsP (derefHist s.heap s.history)) := by
  simp only [observe]
  cases hc : s.cache with
  | none => exact (computeResults_fresh_payload s hI hv hc).1
  | some c =>
    simp only [step, hc, derefRes]
    rw [copier_dict.payload _ _ (fun a ha => hI.cache_lt a (by rw [hc]; exact ha)), hok c hc]

/-! ### resume restores the committed history (payloads) -/

theorem resolveArg_valToArg (h : Heap) (esc : List Addr) (v : Val) : resolveArg h esc (valToArg v) = (h, esc, v) := by
  cases v <;> rfl

theorem resolveList_valToArg (h : Heap) (esc : List Addr) (l : List Val) :
    resolveList h esc (l.map valToArg) = (h, esc, l) := by
  induction l with
  | nil => rfl
  | cons v vs ih => simp only [List.map_cons, resolveList, resolveArg_valToArg, ih]

theorem resolveDict_valToArg (h : Heap) (esc : List Addr) (d : List (Key × Val)) :
    resolveDict h esc (d.map fun kv => (kv.1, valToArg kv.2)) = (h, esc, d) := by
  induction d with
  | nil => rfl
  | cons kv r ih => obtain ⟨k, v⟩ := kv; simp only [List.map_cons, resolveDict, resolveArg_valToArg, ih]

theorem resolveHist_valToArg (h : Heap) (esc : List Addr) (d : List (Key × List Val)) :
    resolveHist h esc (d.map fun kv => (kv.1, kv.2.map valToArg)) = (h, esc, d) := by
  induction d with
  | nil => rfl
  | cons kv r ih => obtain ⟨k, l⟩ := kv; simp only [List.map_cons, resolveHist, resolveList_valToArg, ih]

theorem legal_valToArg {esc : List Addr} {v : Val} (hv : ∀ a : Nat, a ∈ v.addrs → a ∈ esc) : (valToArg v).legal esc = true := by
  cases v with
  | none => rfl
  | scalar x => rfl
  | ref a => simpa [valToArg, Arg.legal] using hv a (by simp [Val.addrs])

theorem dictLegal_valToArg {esc : List Addr} {d : List (Key × Val)} (hv : ∀ a : Nat, a ∈ dictAddrs d → a ∈ esc) :
    dictLegal esc (d.map fun kv => (kv.1, valToArg kv.2)) = true := by
  simp only [dictLegal, List.all_map, List.all_eq_true, Function.comp]
  intro kv hm
  exact legal_valToArg (fun a ha => hv a (dictAddrs_of_mem hm ha))

theorem histLegal_valToArg {esc : List Addr} {d : List (Key × List Val)} (hv : ∀ a : Nat, a ∈ histAddrs d → a ∈ esc) :
    histLegal esc (d.map fun kv => (kv.1, kv.2.map valToArg)) = true := by
  simp only [histLegal, List.all_map, List.all_eq_true, Function.comp]
  intro kv hm x hx
  exact legal_valToArg (fun a ha => hv a (histAddrs_of_mem hm (listAddrs_of_mem hx ha)))

theorem derefHist_insert (h : Heap) (k : Key) (l : List Val) (d : List (Key × List Val)) :
    derefHist h (insert k l d) = insert k (l.map (deref h)) (derefHist h d) :=
  insert_map (List.map (deref h)) k l d

theorem derefHist_updateAll (h : Heap) (d e : List (Key × List Val)) :
    derefHist h (updateAll d e) = updateAll (derefHist h d) (derefHist h e) := by
  induction e generalizing d with
  | nil => rfl
  | cons kv r ih =>
    simp only [updateAll, List.foldl_cons] at ih ⊢
    rw [ih, derefHist_insert]
    rfl

theorem defaultsLoop_history (l : List (Key × Int)) (s : State) :
    (defaultsLoop l s).history = s.history ∧ Ext s.heap (defaultsLoop l s).heap :=
  defaultsLoop_induct (P := fun t => t.history = s.history ∧ Ext s.heap t.heap)
    (fun t o _ hc hi hs h => ⟨(step_history_eq t o hc hi).trans h.1, h.2.trans (step_ext t o hs)⟩) l s ⟨rfl, Ext.refl _⟩

theorem import_export_step (t : State) (c : List (Key × Val)) (h : List (Key × List Val))
    (hc : ∀ a : Nat, a ∈ dictAddrs c → a ∈ t.escaped) (hh : ∀ a : Nat, a ∈ histAddrs h → a ∈ t.escaped) :
    (step (freshIn t) (exportArgs c h)).1 =
      { freshIn t with
          heap := (copyHist (copyDict t.heap c).1 h).1,
          current := updateAll init.current (copyDict t.heap c).2,
          history := updateAll init.history (copyHist (copyDict t.heap c).1 h).2,
          cache := none } := by
  have hl1 := dictLegal_valToArg (esc := t.escaped) hc
  have hl2 := histLegal_valToArg (esc := t.escaped) hh
  simp only [exportArgs, step, entries, freshIn, hl1, hl2, Bool.and_self, Bool.not_true, Bool.false_eq_true, if_false,
    resolveDict_valToArg, resolveHist_valToArg]

theorem derefHist_keys (h : Heap) (d : List (Key × List Val)) : (derefHist h d).map Prod.fst = d.map Prod.fst := by
  simp only [derefHist, List.map_map]; rfl

theorem toDict_spec (s : State) (hI : Inv s) :
    ∃ t c hh, step s .toDict = (t, .export c hh) ∧ derefHist t.heap hh = derefHist s.heap s.history ∧
      (∀ a : Nat, a ∈ dictAddrs c → a ∈ t.escaped) ∧ (∀ a : Nat, a ∈ histAddrs hh → a ∈ t.escaped) := by
  have hlt := hI.hist_lt
  have e0 := copier_dict.appends s.heap s.current
  refine ⟨_, _, _, rfl, ?_, fun a ha => List.mem_append_left _ (List.mem_append_left _ ha),
    fun a ha => List.mem_append_left _ (List.mem_append_right _ ha)⟩
  exact (copier_hist.payload _ _ fun a ha => Nat.lt_of_lt_of_le (hlt a ha) e0.le).trans (reader_hist.ext e0 hlt)

theorem resume_history (s : State) (hI : Inv s) (hk : s.history.map Prod.fst = historyKeys) :
    derefHist (resume s).heap (resume s).history = derefHist s.heap s.history := by
  obtain ⟨t, c, hh, hq, hexp, hc, hhh⟩ := toDict_spec s hI
  have hI1 : Inv t := by
    have := step_inv s .toDict hI
    rwa [hq] at this
  have hres := resume_eq hq
  have hInvImp := step_inv _ (exportArgs c hh) (freshIn_inv hI1)
  obtain ⟨d1, d2⟩ := defaultsLoop_history resumeDefaults (step (freshIn t) (exportArgs c hh)).1
  rw [hres, d1, reader_hist.ext d2 hInvImp.hist_lt,
    import_export_step t c hh hc hhh]
  simp only
  -- the import itself: copies of the exported arrays replace every (empty) list of the new manager
  have e1 := copier_dict.appends t.heap c
  have hlt : ∀ a : Nat, a ∈ histAddrs hh → a < t.heap.length := fun a ha => hI1.esc_lt a (hhh a ha)
  rw [derefHist_updateAll, copier_hist.payload _ _ fun a ha => Nat.lt_of_lt_of_le (hlt a ha) e1.le, reader_hist.ext e1 hlt, hexp]
  have hkeys : (derefHist s.heap s.history).map Prod.fst = historyKeys := (derefHist_keys _ _).trans hk
  apply updateAll_same_keys
  · rw [hkeys, derefHist_keys]; rfl
  · rw [hkeys]; exact historyKeys_nodup

end Model.StateMgr
