import TempestVerif.Lemmas.ScRound
/-
  Reals with a NaN, under rounded arithmetic — a proof-only instance of the scalar interface for statements about what
  the code does when an oracle answers NaN and every temperature operation is rounded (property C05).

  `FN r`: `⟨some x⟩` is the finite number `x`, `⟨none⟩` is NaN.  Arithmetic on two numbers is the exact real operation followed
  by the rounding `r.rnd` (any monotone idempotent rounding fixing 0 and 1: `Rounding` of `Lemmas/ScRound.lean`); an operation
  with a NaN operand is NaN; `x / 0` is NaN here (IEEE gives ±inf or NaN: infinities and overflow are NOT modelled — in the
  reweighting model an infinite oracle answer only ever meets `np.isfinite` (an arbitrary parameter `fin` of every theorem) and
  comparisons with a finite target, where it behaves like a large finite number of the same sign).  Comparisons with a NaN are
  False, as in IEEE-754.  Naturals are exact (`Sc.ofNat`, values below 2^53).

  `leRep a b` (both representable numbers, `a ≤ b`) is the order the temperature theorems of `Props/C05Ieee.lean` use;
  `BinaryRounding r` (1/2 representable, doubling exact) is what they ask of the rounding.
-/
structure FN (r : Rounding) where
  v : Option ℝ

namespace FN
variable {r : Rounding}

def nan : FN r := ⟨none⟩
def num (r : Rounding) (x : ℝ) : FN r := ⟨some x⟩

/-- exact binary operation followed by rounding; NaN-propagating -/
def lift2 (f : ℝ → ℝ → ℝ) (a b : FN r) : FN r :=
  ⟨match a.v, b.v with
   | some x, some y => some (r.rnd (f x y))
   | _, _ => none⟩

open Classical in
noncomputable instance instSc (r : Rounding) : Sc (FN r) where
  add := lift2 (· + ·)
  sub := lift2 (· - ·)
  mul := lift2 (· * ·)
  div := fun a b => ⟨match a.v, b.v with
    | some x, some y => if y = 0 then none else some (r.rnd (x / y))
    | _, _ => none⟩
  neg := fun a => ⟨a.v.map (fun x => -x)⟩
  ofNat := fun n => ⟨some (n : ℝ)⟩
  lit := fun m e => ⟨some (r.rnd ((m : ℝ) / (10 : ℝ) ^ e))⟩
  lt := fun a b => match a.v, b.v with
    | some x, some y => decide (x < y)
    | _, _ => false
  le := fun a b => match a.v, b.v with
    | some x, some y => decide (x ≤ y)
    | _, _ => false
  floor := fun a => ⟨a.v.map (fun x => (⌊x⌋ : ℝ))⟩
  isEven := fun a => match a.v with
    | some x => decide (⌊x⌋ % 2 = 0)
    | none => false

@[simp] theorem add_num (x y : ℝ) : Sc.add (num r x) (num r y) = num r (r.rnd (x + y)) := rfl
@[simp] theorem sub_num (x y : ℝ) : Sc.sub (num r x) (num r y) = num r (r.rnd (x - y)) := rfl
@[simp] theorem mul_num (x y : ℝ) : Sc.mul (num r x) (num r y) = num r (r.rnd (x * y)) := rfl
@[simp] theorem lit_num (m e : Nat) : (Sc.lit m e : FN r) = num r (r.rnd ((m : ℝ) / (10 : ℝ) ^ e)) := rfl
@[simp] theorem ofNat_num (n : Nat) : (Sc.ofNat n : FN r) = num r (n : ℝ) := rfl
theorem one_num : (Sc.one : FN r) = num r 1 := by simp [Sc.one]
theorem zero_num : (Sc.zero : FN r) = num r 0 := by simp [Sc.zero]
@[simp] theorem le_num (x y : ℝ) : Sc.le (num r x) (num r y) = true ↔ x ≤ y := by simp [Sc.le, num]
@[simp] theorem lt_num (x y : ℝ) : Sc.lt (num r x) (num r y) = true ↔ x < y := by simp [Sc.lt, num]
theorem le_nan_left (b : FN r) : Sc.le (nan : FN r) b = false := rfl
theorem le_nan_right (a : FN r) : Sc.le a (nan : FN r) = false := by
  cases a with | mk v => cases v <;> rfl
theorem lt_nan_left (b : FN r) : Sc.lt (nan : FN r) b = false := rfl
theorem lt_nan_right (a : FN r) : Sc.lt a (nan : FN r) = false := by
  cases a with | mk v => cases v <;> rfl

/-- `a` and `b` are numbers (not NaN), both representable, and `a ≤ b` -/
def leRep (a b : FN r) : Prop := ∃ x y : ℝ, a.v = some x ∧ b.v = some y ∧ r.rnd x = x ∧ r.rnd y = y ∧ x ≤ y

theorem leRep_unpack {a b : FN r} (h : leRep a b) :
    ∃ x y : ℝ, a = num r x ∧ b = num r y ∧ r.rnd x = x ∧ r.rnd y = y ∧ x ≤ y := by
  obtain ⟨x, y, ha, hb, h⟩ := h
  cases a; cases b
  cases ha; cases hb
  exact ⟨x, y, rfl, rfl, h⟩

/-- with it a chain of `leRep` is read from left to right, without identifying witnesses -/
theorem leRep_num_left {x : ℝ} {b : FN r} : leRep (num r x) b ↔ ∃ y : ℝ, b = num r y ∧ r.rnd x = x ∧ r.rnd y = y ∧ x ≤ y := by
  constructor
  · intro h
    obtain ⟨x', y, hx, rfl, h⟩ := leRep_unpack h
    cases hx
    exact ⟨y, rfl, h⟩
  · rintro ⟨y, rfl, h⟩
    exact ⟨x, y, rfl, rfl, h⟩

theorem leRep_num {x y : ℝ} : leRep (num r x) (num r y) ↔ r.rnd x = x ∧ r.rnd y = y ∧ x ≤ y :=
  ⟨fun ⟨_, _, ha, hb, h⟩ => by cases ha; cases hb; exact h, fun h => ⟨x, y, rfl, rfl, h⟩⟩

end FN

/-- the two facts about binary floating point (any IEEE rounding direction) the midpoint argument needs:
    1/2 is representable, and doubling a representable number is exact (no overflow: temperatures live in [0, 2]) -/
structure BinaryRounding (r : Rounding) : Prop where
  half : r.rnd (1 / 2) = 1 / 2
  dbl : ∀ x, r.rnd x = x → r.rnd (2 * x) = 2 * x
