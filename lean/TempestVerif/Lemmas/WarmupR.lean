import TempestVerif.Model.WarmupR
/-
  The redraw loop `Model.WarmupR.drawLoop` (warm-up of /repo 959029e): whatever it returns is the first block of the tape with a
  finite draw, after `n` draws per discarded block.  The record model's copy (`Model.RecSM.drawLoop`) is this one with the
  test negated.  Core Lean only.
-/
namespace Model.WarmupR

theorem drawLoop_of_hasFin {β : Type} (hasFin : β → Bool) (n : Nat) (pending : List β) (cur : β) (nd : Nat)
    (h : hasFin cur = true) : drawLoop hasFin n pending cur nd = some (cur, nd) := by
  cases pending <;> simp only [drawLoop, h, if_true]

theorem drawLoop_discard {β : Type} (hasFin : β → Bool) (n : Nat) (b : β) (rest : List β) (cur : β) (nd : Nat)
    (h : hasFin cur = false) (hcap : ¬ capFactor * n ≤ nd) :
    drawLoop hasFin n (b :: rest) cur nd = drawLoop hasFin n rest b (nd + n) := by
  rw [drawLoop, if_neg (by rw [h]; exact Bool.false_ne_true), if_neg hcap]

theorem drawLoop_nil {β : Type} (hasFin : β → Bool) (n : Nat) (cur : β) (nd : Nat) (h : hasFin cur = false) :
    drawLoop hasFin n [] cur nd = none := by
  rw [drawLoop, if_neg (by rw [h]; exact Bool.false_ne_true)]

theorem drawLoop_spec {β : Type} (hasFin : β → Bool) (n : Nat) :
    ∀ (pending : List β) (cur : β) (nd : Nat) (kept : β) (nd' : Nat),
      drawLoop hasFin n pending cur nd = some (kept, nd') →
      hasFin kept = true ∧ ∃ k, (cur :: pending)[k]? = some kept ∧ nd' = nd + k * n ∧
        ∀ j, j < k → ∃ b, (cur :: pending)[j]? = some b ∧ hasFin b = false := by
  intro pending cur nd kept nd' h
  fun_induction drawLoop hasFin n pending cur nd with
  | case1 cur nd hf | case3 _ _ cur nd hf =>
    obtain ⟨rfl, rfl⟩ := Prod.mk.inj (Option.some.inj h)
    exact ⟨hf, 0, rfl, by simp, fun j hj => absurd hj (Nat.not_lt_zero j)⟩
  | case2 | case4 => cases h
  | case5 b rest cur nd hf _ ih =>
    obtain ⟨h1, k, h2, h3, h4⟩ := ih h
    refine ⟨h1, k + 1, h2, by rw [h3, Nat.succ_mul]; omega, fun j hj => ?_⟩
    cases j with
    | zero => exact ⟨cur, rfl, Bool.eq_false_iff.mpr hf⟩
    | succ j => exact h4 j (by omega)

end Model.WarmupR
