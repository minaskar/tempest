import TempestVerif.Lemmas.PipelineWF
import TempestVerif.Lemmas.ScReal
import TempestVerif.Lemmas.Kernel
import TempestVerif.Lemmas.Ess
/-
  A concrete two-iteration run of the tape model, the non-vacuity witness several properties share:
  warm-up, then one annealing iteration with systematic resampling and one accept/reject step in which one proposal is
  accepted and one (−∞) is rejected.  Namespace `Lemmas.PipelineShift.Ex`: the run was written as the witness of C10's shift
  theorems, and the statements about it name it so.
-/
namespace Lemmas.PipelineShift
open Model.Pipeline Model.Weights Model.Reweight Model.Records Model.Resample
open Lemmas.Pipeline

namespace Ex

noncomputable def cfgEx : PCfg ℝ := ⟨⟨1/2, 2, none, 1/100, 1/10000, 64⟩, true⟩
noncomputable def t1 : Tape ℝ := ⟨[10, 11], [some 0, some 0], [], [], []⟩
noncomputable def t2 : Tape ℝ := ⟨[], [], [], [1/2], [⟨[20, 21], [some 0, none], [0, 0], [1/2, 1/2]⟩]⟩
noncomputable def s1 : PState ℝ := ⟨[⟨⟨0, 0, [0, 0]⟩, [10, 11]⟩], 0, 0, [10, 11], [0, 0]⟩
noncomputable def z1 : ℝ := oracleZ (batches s1.hist) 1
noncomputable def s2 : PState ℝ :=
  ⟨s1.hist ++ [⟨⟨1, z1, [0, 0]⟩, [20, 11]⟩], 1, z1, [20, 11], [0, 0]⟩

theorem eqv_zero_zero : eqv (0 : ℝ) Sc.zero = true := by simp [eqv]
theorem eqv_one_zero : eqv (1 : ℝ) Sc.zero = false := by simp [eqv]

theorem it1 : iterate cfgEx init t1 = some (s1, ⟨0, 1, 0, 0, [], [], Branch.firstIter⟩) := by
  simp [iterate, init, batches, Model.Reweight.run, eqv, warmup, t1, countSome, allSome, s1, cfgEx, Cfg.target]

theorem oM (β : ℝ) : oracleM (batches s1.hist) β = ([1, 1], 2, 2) := by
  simp [oracleM, s1, batches, logw, rawLogw, finish, flatLogl, nTotal, mixLog, logaddexpReduce1, entry, logaddexp,
    Model.Ess.maxOf, ScReal.max_def, Model.Ess.ess_def]
  norm_num

theorem rw2 : Model.Reweight.run cfgEx.rw (batches s1.hist).isEmpty (oracleM (batches s1.hist))
      (oracleZ (batches s1.hist)) isFin s1.beta
    = ⟨1, .of [1, 1], 2, oracleZ (batches s1.hist) 1, Branch.essUpper, [Branch.upOne], [0, 1, 0, 1], [1]⟩ := by
  have hM : oracleM (batches s1.hist) = fun _ => ([1, 1], 2, 2) := funext oM
  rw [hM]
  simp [Model.Reweight.run, cfgEx, runEss, upperLimit, finalize, Cfg.target, s1, batches]

theorem rwEx : returnedWeights (WTag.of ([1, 1] : List ℝ)) = [1/2, 1/2] := by
  simp [returnedWeights, Model.Ess.normalise_def]; norm_num

theorem rs2 : Model.Resample.systematic 2 (returnedWeights (WTag.of ([1, 1] : List ℝ))) (1/2) = some [0, 1] := by
  have hr : List.range 2 = [0, 1] := by decide
  rw [rwEx]
  simp [Model.Resample.systematic, Model.Resample.systematicWith, Model.Resample.renorm, Sc.sum, ScReal.abs_def, hr,
    Model.Resample.run, Model.Resample.position]
  norm_num [Model.Resample.advance.eq_def, Sc.ge, Model.Resample.sqrtEps_real]

theorem accept_half_one : Gen.Kernel.acceptDecision (1 / 2 : ℝ) 1 = true := by
  simp only [Gen.Kernel.acceptDecision, ScReal.lt_def]
  norm_num

theorem mc2 : mcmcSteps (1 : ℝ) t2.steps [10, 11] [0, 0] = ([20, 11], [0, 0], [[true, false]]) := by
  have ha : Gen.Kernel.acceptProb (1 : ℝ) 0 0 0 = 1 := by rw [Model.Kernel.gen_acceptProb]; simp
  have hd := accept_half_one
  simp only [t2, mcmcSteps, mcmcStep, ha, hd, if_true, Bool.false_eq_true, if_false]

theorem it2 : iterate cfgEx s1 t2 = some (s2, ⟨1, 2, z1, z1, [0, 1], [[true, false]], Branch.essUpper⟩) := by
  unfold iterate
  simp only [rw2]
  have h10 := eqv_one_zero
  have hsy : cfgEx.syst = true := rfl
  have hn : cfgEx.rw.nPart = 2 := rfl
  have hu : t2.resU = [1/2] := rfl
  simp only [h10, hsy, hn, hu, if_true, Bool.false_eq_true, if_false, rs2, Option.bind_some]
  have hg1 : Model.Records.gather? (poolTags s1.hist) [0, 1] = some [10, 11] := rfl
  have hg2 : Model.Records.gather? (flatLogl (batches s1.hist)) [0, 1] = some [0, 0] := rfl
  simp only [hg1, hg2, Option.bind_some, Option.map_some, mc2]
  rfl

theorem run2 : runIters cfgEx init [t1, t2]
    = some (s2, [⟨0, 1, 0, 0, [], [], Branch.firstIter⟩, ⟨1, 2, z1, z1, [0, 1], [[true, false]], Branch.essUpper⟩]) := by
  simp [runIters, it1, it2]

theorem wfs_s1 : WFS s1 := by
  intro pb hpb; simp [s1] at hpb; subst hpb; simp
theorem wfs_s2 : WFS s2 := by
  intro pb hpb
  simp only [s2, s1, List.cons_append, List.nil_append, List.mem_cons, List.not_mem_nil, or_false] at hpb
  rcases hpb with rfl | rfl <;> simp

end Ex

end Lemmas.PipelineShift
