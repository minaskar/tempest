import TempestVerif.Model.StudentModes
import TempestVerif.Lemmas.OptionList
/-
  What a successful run of the constructions of `Model/StudentModes.lean` consists of, for every scalar type and every fit function:
  an inversion lemma where the definition is a straight line, a for-each rule with a predicate parameter where it loops or branches.
  `gather` is `List.mapM` at `Option`.
-/
namespace Lemmas.StudentModes
open Model.Student Model.StudentModes

/-! ### `gather` (`List.mapM` of the look-ups) -/

theorem gather_mem_idx {β : Type} (a : List β) (idx : List Nat) (rows : List β) (h : gather a idx = some rows) :
    ∀ r ∈ rows, ∃ i ∈ idx, a[i]? = some r := fun _ hr => Lemmas.OptionList.mapM_mem h hr

theorem gather_mem {β : Type} (a : List β) (idx : List Nat) (rows : List β) (h : gather a idx = some rows) :
    ∀ r ∈ rows, r ∈ a := fun r hr =>
  let ⟨_, _, hi⟩ := gather_mem_idx a idx rows h r hr
  List.mem_of_getElem? hi

theorem gather_map {β γ : Type} (g : β → γ) (a : List β) (idx : List Nat) :
    gather (a.map g) idx = (gather a idx).map (List.map g) :=
  Lemmas.OptionList.mapM_comp_map _ _ g (fun _ => List.getElem?_map) idx

variable {α : Type} [Sc α]

/-! ### `fitOne`, `clusterLoop` -/

theorem fitOne_eq_some (fitFn : Mat α → Option (FitOut α)) (fb : α) (rf : Nat) (uc : Mat α) (p us : List α)
    (o : FitOut α) (us' : List α) :
    fitOne fitFn fb rf uc p us = some (o, us') ↔
      ∃ idx, Model.Resample.multinomial p (us.take (uc.length * rf)) = some idx ∧
      ∃ ur, gather uc idx = some ur ∧ ∃ o0, fitFn ur = some o0 ∧
        ⟨o0.mu, o0.sigma, applyFallback fb o0.dof⟩ = o ∧ us.drop (uc.length * rf) = us' := by
  simp only [fitOne, Option.bind_eq_bind, Option.bind_eq_some_iff, Option.some.injEq, Prod.mk.injEq]

theorem fitOne_rows (fitFn : Mat α → Option (FitOut α)) (fb : α) (rf : Nat) (uc : Mat α) (p us : List α)
    (o : FitOut α) (us' : List α) (h : fitOne fitFn fb rf uc p us = some (o, us')) :
    ∃ rows o0, (∀ r ∈ rows, r ∈ uc) ∧ fitFn rows = some o0 ∧ o = ⟨o0.mu, o0.sigma, applyFallback fb o0.dof⟩ := by
  obtain ⟨idx, -, ur, h2, o0, h3, rfl, -⟩ := (fitOne_eq_some ..).mp h
  exact ⟨ur, o0, gather_mem uc idx ur h2, h3, rfl⟩

theorem clusterLoop_cons_eq_some (u : Mat α) (wn : List α) (labels : List Nat) (fb : α) (rf : Nat) (lab : Nat)
    (rest : List Nat) (fitFn : Mat α → Option (FitOut α)) (fits : List (Mat α → Option (FitOut α))) (us : List α)
    (os : List (FitOut α)) :
    clusterLoop u wn labels fb rf (lab :: rest) (fitFn :: fits) us = some os ↔
      ∃ uc, gather u (Model.Modes.indicesOf labels lab) = some uc ∧
      ∃ wc, gather wn (Model.Modes.indicesOf labels lab) = some wc ∧
      ∃ ou, fitOne fitFn fb rf uc (normalise wc) us = some ou ∧
      ∃ os', clusterLoop u wn labels fb rf rest fits ou.2 = some os' ∧ ou.1 :: os' = os := by
  simp only [clusterLoop, Option.bind_eq_bind, Option.bind_eq_some_iff, Option.some.injEq]

theorem clusterLoop_each (P : Mat α → FitOut α → Prop) (u : Mat α) (wn : List α) (labels : List Nat) (fb : α) (rf : Nat) :
    ∀ (labs : List Nat) (fits : List (Mat α → Option (FitOut α))) (us : List α) (os : List (FitOut α)),
      (∀ fitFn ∈ fits, ∀ uc rows o0, (∀ r ∈ rows, r ∈ uc) → fitFn rows = some o0 →
        P uc ⟨o0.mu, o0.sigma, applyFallback fb o0.dof⟩) →
      clusterLoop u wn labels fb rf labs fits us = some os →
      os.length = labs.length ∧
      ∀ (k lab : Nat) (o : FitOut α), labs[k]? = some lab → os[k]? = some o →
        ∃ uc, gather u (Model.Modes.indicesOf labels lab) = some uc ∧ P uc o := by
  intro labs
  induction labs with
  | nil => intro fits us os _ h; cases h; exact ⟨rfl, nofun⟩
  | cons lab rest ih =>
    intro fits us os hP h
    cases fits with
    | nil => cases h
    | cons fitFn fits =>
      obtain ⟨uc, h1, wc, -, ⟨o, us'⟩, h3, os', h4, rfl⟩ := (clusterLoop_cons_eq_some ..).mp h
      obtain ⟨hl, hd⟩ := ih fits us' os' (fun f hf => hP f (List.mem_cons_of_mem _ hf)) h4
      obtain ⟨rows, o0, hrows, hf, rfl⟩ := fitOne_rows fitFn fb rf uc _ us o us' h3
      refine ⟨congrArg (· + 1) hl, fun k lab' o' hk ho' => ?_⟩
      cases k with
      | zero => cases hk; cases ho'; exact ⟨uc, h1, hP fitFn List.mem_cons_self uc rows o0 hrows hf⟩
      | succ k => exact hd k lab' o' hk ho'

/-! ### the two constructors -/

theorem fromGlobal_ok (fitFn : Mat α → Option (FitOut α)) (u : Mat α) (w : List α) (fb : α) (rf : Nat) (us : List α)
    (ms : MS α) (h : fromGlobal fitFn u w fb rf us = .ok ms) :
    ∃ o us', fitOne fitFn fb rf u (normalise w) us = some (o, us') ∧ ms = ⟨[o.mu], [o.sigma], [o.dof], none⟩ := by
  unfold fromGlobal at h
  split at h
  · cases h
  · split at h
    · cases h
    · next o us' hf => cases h; exact ⟨o, us', hf, rfl⟩

theorem fromParticles_ok (fits : List (Mat α → Option (FitOut α))) (u : Mat α) (w : List α) (labels : List Nat) (fb : α)
    (rf : Nat) (us : List α) (ms : MS α) (h : fromParticles fits u w labels fb rf us = .ok ms) :
    ∃ os, clusterLoop u (normalise w) labels fb rf (Model.Modes.uniqueSorted labels) fits us = some os ∧
      ms = ⟨os.map (·.mu), os.map (·.sigma), os.map (·.dof), some (Model.Modes.uniqueSorted labels)⟩ := by
  unfold fromParticles at h
  split at h
  · cases h
  · cases hc : clusterLoop u (normalise w) labels fb rf (Model.Modes.uniqueSorted labels) fits us with
    | none => simp only [hc] at h; cases h
    | some os => simp only [hc] at h; cases h; exact ⟨os, rfl, rfl⟩

theorem fromParticles_shape (fits : List (Mat α → Option (FitOut α))) (u : Mat α) (w : List α) (labels : List Nat) (fb : α)
    (rf : Nat) (us : List α) (ms : MS α) (h : fromParticles fits u w labels fb rf us = .ok ms) :
    ms.labels = some (Model.Modes.uniqueSorted labels) ∧ ms.means.length = (Model.Modes.uniqueSorted labels).length := by
  obtain ⟨os, hc, rfl⟩ := fromParticles_ok fits u w labels fb rf us ms h
  obtain ⟨hlen, -⟩ := clusterLoop_each (fun _ _ => True) u (normalise w) labels fb rf
    (Model.Modes.uniqueSorted labels) fits us os (fun _ _ _ _ _ _ _ => trivial) hc
  exact ⟨rfl, (List.length_map _).trans hlen⟩

/-! ### `Trainer.run` -/

theorem trainerRun_each (P : FitOut α → Prop) (path : Path) (fitFns : List (Mat α → Option (FitOut α))) (d : Nat) (u : Mat α)
    (w : List α) (labels : List Nat) (cfgFb : α) (us : List α) (ms : MS α)
    (hdummy : P ⟨List.replicate d Sc.zero, (List.range d).map (identRow d), .fin cfgFb⟩)
    (hfit : ∀ fitFn ∈ fitFns, ∀ rows o0, (∀ r ∈ rows, r ∈ u) → fitFn rows = some o0 →
      P ⟨o0.mu, o0.sigma, applyFallback cfgFb o0.dof⟩)
    (h : trainerRun path fitFns d u w labels cfgFb us = .ok ms) :
    ∃ os : List (FitOut α), (∀ o ∈ os, P o) ∧
      ms.means = os.map (·.mu) ∧ ms.covs = os.map (·.sigma) ∧ ms.dofs = os.map (·.dof) := by
  cases path with
  | dummy => cases h; exact ⟨[_], List.forall_mem_singleton.2 hdummy, rfl, rfl, rfl⟩
  | fitPredict | predictOnly =>
    obtain ⟨os, hc, rfl⟩ := fromParticles_ok fitFns u w labels cfgFb 4 us ms h
    obtain ⟨hlen, heach⟩ := clusterLoop_each (fun uc o => (∀ r ∈ uc, r ∈ u) → P o) u _ labels cfgFb 4 _ fitFns us os
      (fun f hf uc rows o0 hrows h0 huc => hfit f hf rows o0 (fun r hr => huc r (hrows r hr)) h0) hc
    refine ⟨os, fun o ho => ?_, rfl, rfl, rfl⟩
    obtain ⟨k, hk, rfl⟩ := List.getElem_of_mem ho
    obtain ⟨uc, hg, hP⟩ := heach k _ _ (List.getElem?_eq_getElem (hlen ▸ hk)) (List.getElem?_eq_getElem hk)
    exact hP (gather_mem _ _ _ hg)
  | global =>
    cases fitFns with
    | nil => cases h
    | cons fitFn rest =>
      obtain ⟨o, us', hf, rfl⟩ := fromGlobal_ok fitFn u w cfgFb 4 us ms h
      obtain ⟨rows, o0, hrows, h0, rfl⟩ := fitOne_rows fitFn cfgFb 4 u _ us o us' hf
      exact ⟨[_], List.forall_mem_singleton.2 (hfit fitFn List.mem_cons_self rows o0 hrows h0), rfl, rfl, rfl⟩

end Lemmas.StudentModes
