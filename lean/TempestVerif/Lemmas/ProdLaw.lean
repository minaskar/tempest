import Mathlib.Algebra.BigOperators.Ring.Finset
import Mathlib.Data.Fintype.BigOperators
import Mathlib.Data.Real.Basic
import Mathlib.Data.Fin.Tuple.Basic
import Mathlib.Algebra.BigOperators.Fin
import Mathlib.Algebra.Order.BigOperators.Ring.Finset
/-
  The product law of finitely many independent draws from a law `p` on a finite space `Ω`: sums over the tuples `ι → Ω`
  weighted by `∏ i, p (x i)`.  The moments come from `factor`: the expectation of a product of functions of the single
  draws is the product of their expectations; `union_bound`; `succ` splits off the first draw.
-/
namespace Lemmas.ProdLaw
variable {ι Ω : Type} [Fintype ι] [DecidableEq ι] [Fintype Ω]

theorem sum_pi_prod (F : ι → Ω → ℝ) : ∑ x : ι → Ω, ∏ i, F i (x i) = ∏ i, ∑ ω, F i ω := by
  rw [Finset.prod_univ_sum, Fintype.piFinset_univ]

theorem factor (p : Ω → ℝ) (F : ι → Ω → ℝ) :
    ∑ x : ι → Ω, (∏ i, p (x i)) * ∏ i, F i (x i) = ∏ i, ∑ ω, p ω * F i ω := by
  simp_rw [← Finset.prod_mul_distrib]
  exact sum_pi_prod fun i ω => p ω * F i ω

theorem total (p : Ω → ℝ) (hp1 : ∑ ω, p ω = 1) : ∑ x : ι → Ω, ∏ i, p (x i) = 1 := by
  rw [sum_pi_prod fun _ ω => p ω, hp1, Finset.prod_const_one]

theorem coord (p : Ω → ℝ) (hp1 : ∑ ω, p ω = 1) (g : Ω → ℝ) (j : ι) :
    ∑ x : ι → Ω, (∏ i, p (x i)) * g (x j) = ∑ ω, p ω * g ω := by
  have h := factor p fun (i : ι) ω => if i = j then g ω else 1
  rw [Fintype.prod_eq_single j fun i hij => by simp only [if_neg hij, mul_one, hp1]] at h
  simp only [if_true] at h
  rw [← h]
  exact Finset.sum_congr rfl fun x _ => by
    rw [Finset.prod_ite_eq' Finset.univ j fun i => g (x i), if_pos (Finset.mem_univ j)]

theorem pair_ne (p : Ω → ℝ) (hp1 : ∑ ω, p ω = 1) (a b : Ω → ℝ) (r s : ι) (hrs : r ≠ s) :
    ∑ x : ι → Ω, (∏ i, p (x i)) * (a (x r) * b (x s)) = (∑ ω, p ω * a ω) * (∑ ω, p ω * b ω) := by
  have h := factor p fun (i : ι) ω => (if i = r then a ω else 1) * (if i = s then b ω else 1)
  rw [Fintype.prod_eq_mul r s hrs fun i hi => by simp only [if_neg hi.1, if_neg hi.2, mul_one, hp1]] at h
  simp only [Finset.prod_mul_distrib, Finset.prod_ite_eq', Finset.mem_univ, if_true, if_neg hrs, if_neg hrs.symm,
    mul_one, one_mul] at h
  exact h

/-! ### the mean of `n` independent draws: expectation `E g`, variance `Var g / n` -/

theorem inv_sq_mul_nat (n : ℕ) (hn : 0 < n) (v : ℝ) : (1 / (n : ℝ)) ^ 2 * (n * v) = v / n := by
  have hn0 : (n : ℝ) ≠ 0 := Nat.cast_ne_zero.mpr hn.ne'
  rw [one_div, inv_pow, sq, mul_inv, mul_assoc, ← mul_assoc _ (n : ℝ), inv_mul_cancel₀ hn0, one_mul, mul_comm, div_eq_mul_inv]

section mean
variable (p : Ω → ℝ) (hp1 : ∑ ω, p ω = 1)
include hp1

theorem mean_unbiased (g : Ω → ℝ) (n : ℕ) (hn : 0 < n) :
    ∑ x : Fin n → Ω, (∏ i, p (x i)) * ((1 / (n : ℝ)) * ∑ i, g (x i)) = ∑ ω, p ω * g ω := by
  have hn0 : (n : ℝ) ≠ 0 := Nat.cast_ne_zero.mpr hn.ne'
  simp_rw [Finset.mul_sum, mul_left_comm _ (1 / (n : ℝ))]
  rw [Finset.sum_comm]
  simp_rw [← Finset.mul_sum, coord p hp1 g]
  rw [Finset.sum_const, Finset.card_univ, Fintype.card_fin, nsmul_eq_mul, one_div, ← mul_assoc, inv_mul_cancel₀ hn0, one_mul]

/-- the mixed terms vanish -/
theorem centred_sum_sq (d : Ω → ℝ) (hd : ∑ ω, p ω * d ω = 0) (n : ℕ) :
    ∑ x : Fin n → Ω, (∏ i, p (x i)) * (∑ r, d (x r)) ^ 2 = (n : ℝ) * ∑ ω, p ω * d ω ^ 2 := by
  have h1 : ∀ x : Fin n → Ω, (∏ i, p (x i)) * (∑ r, d (x r)) ^ 2 = ∑ r, ∑ s, (∏ i, p (x i)) * (d (x r) * d (x s)) := by
    intro x
    rw [sq, Finset.sum_mul_sum, Finset.mul_sum]
    exact Finset.sum_congr rfl fun r _ => Finset.mul_sum _ _ _
  simp_rw [h1]
  rw [Finset.sum_comm]
  have h2 : ∀ r : Fin n, ∑ x : Fin n → Ω, ∑ s, (∏ i, p (x i)) * (d (x r) * d (x s)) = ∑ ω, p ω * (d ω * d ω) := by
    intro r
    rw [Finset.sum_comm, Finset.sum_eq_single r, coord p hp1 (fun ω => d ω * d ω) r]
    · intro s _ hsr
      rw [pair_ne p hp1 d d r s (Ne.symm hsr), hd, zero_mul]
    · intro h; exact absurd (Finset.mem_univ r) h
  simp_rw [h2]
  rw [Finset.sum_const, Finset.card_univ, Fintype.card_fin, nsmul_eq_mul]
  simp_rw [sq]

theorem mean_variance (g : Ω → ℝ) (n : ℕ) (hn : 0 < n) :
    ∑ x : Fin n → Ω, (∏ i, p (x i)) * ((1 / (n : ℝ)) * ∑ i, g (x i) - ∑ ω, p ω * g ω) ^ 2
      = (∑ ω, p ω * (g ω - ∑ ω', p ω' * g ω') ^ 2) / n := by
  have hn0 : (n : ℝ) ≠ 0 := Nat.cast_ne_zero.mpr hn.ne'
  generalize hm : ∑ ω, p ω * g ω = m
  have hd : ∑ ω, p ω * (g ω - m) = 0 := by
    simp_rw [mul_sub]
    rw [Finset.sum_sub_distrib, ← Finset.sum_mul, hp1, hm, one_mul, sub_self]
  -- the deviation of the mean is the mean of the centred draws
  have h1 : ∀ x : Fin n → Ω, (1 / (n : ℝ)) * ∑ i, g (x i) - m = (1 / (n : ℝ)) * ∑ i, (g (x i) - m) := by
    intro x
    rw [Finset.sum_sub_distrib, Finset.sum_const, Finset.card_univ, Fintype.card_fin, nsmul_eq_mul, mul_sub, ← mul_assoc,
      one_div_mul_cancel hn0, one_mul]
  simp_rw [h1, mul_pow, mul_left_comm _ ((1 / (n : ℝ)) ^ 2)]
  rw [← Finset.mul_sum, centred_sum_sq p hp1 (fun ω => g ω - m) hd n, inv_sq_mul_nat n hn]

end mean

omit [DecidableEq ι] [Fintype Ω] in
theorem nonneg (p : Ω → ℝ) (hp : ∀ ω, 0 ≤ p ω) (x : ι → Ω) : 0 ≤ ∏ i, p (x i) :=
  Finset.prod_nonneg fun i _ => hp (x i)

/-! ### a union bound; splitting off the first draw -/

/-- union bound for `k` independent draws from a law `p`: an event outside of which some draw is bad has probability at most
    `k · p(bad)` -/
theorem union_bound (p : Ω → ℝ) (hp0 : ∀ ω, 0 ≤ p ω) (hp1 : ∑ ω, p ω = 1)
    (bad : Ω → Prop) [DecidablePred bad] (k : ℕ) (G : (Fin k → Ω) → Prop) [DecidablePred G]
    (hG : ∀ x, ¬ G x → ∃ t, bad (x t)) :
    ∑ x : Fin k → Ω, (if G x then 0 else ∏ t, p (x t)) ≤ k * ∑ ω, (if bad ω then p ω else 0) := by
  have hstep : ∀ x : Fin k → Ω,
      (if G x then 0 else ∏ t, p (x t)) ≤ ∑ t, (∏ s, p (x s)) * (if bad (x t) then (1 : ℝ) else 0) := by
    intro x
    have hterm : ∀ t, 0 ≤ (∏ s, p (x s)) * (if bad (x t) then (1 : ℝ) else 0) := fun t =>
      mul_nonneg (nonneg p hp0 x) (by split; exacts [zero_le_one, le_refl _])
    split
    · exact Finset.sum_nonneg fun t _ => hterm t
    · rename_i hng
      obtain ⟨t, ht⟩ := hG x hng
      refine le_trans (le_of_eq ?_) (Finset.single_le_sum (fun t _ => hterm t) (Finset.mem_univ t))
      rw [if_pos ht, mul_one]
  calc ∑ x : Fin k → Ω, (if G x then 0 else ∏ t, p (x t))
      ≤ ∑ x : Fin k → Ω, ∑ t, (∏ s, p (x s)) * (if bad (x t) then (1 : ℝ) else 0) :=
        Finset.sum_le_sum fun x _ => hstep x
    _ = ∑ _t : Fin k, ∑ ω, p ω * (if bad ω then (1 : ℝ) else 0) := by
        rw [Finset.sum_comm]
        exact Finset.sum_congr rfl fun t _ => coord p hp1 (fun ω => if bad ω then (1 : ℝ) else 0) t
    _ = k * ∑ ω, (if bad ω then p ω else 0) := by
        rw [Finset.sum_const, Finset.card_univ, Fintype.card_fin, nsmul_eq_mul]
        simp only [mul_ite, mul_one, mul_zero]

theorem succ (p : Ω → ℝ) (K : ℕ) (F : (Fin (K + 1) → Ω) → ℝ) :
    ∑ x : Fin (K + 1) → Ω, (∏ t, p (x t)) * F x
      = ∑ ω, p ω * ∑ x' : Fin K → Ω, (∏ t, p (x' t)) * F (Fin.cons ω x') := by
  rw [← (Fin.consEquiv fun _ : Fin (K + 1) => Ω).sum_comp, Fintype.sum_prod_type]
  refine Finset.sum_congr rfl fun ω _ => ?_
  rw [Finset.mul_sum]
  refine Finset.sum_congr rfl fun x' _ => ?_
  show (∏ t, p ((Fin.cons ω x' : Fin (K + 1) → Ω) t)) * F (Fin.cons ω x') = _
  rw [Fin.prod_univ_succ, Fin.cons_zero, mul_assoc]
  simp only [Fin.cons_succ]

end Lemmas.ProdLaw
