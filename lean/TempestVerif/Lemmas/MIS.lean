import Mathlib.Analysis.SpecialFunctions.Pow.Real
import Mathlib.Algebra.BigOperators.Field
import Mathlib.Algebra.BigOperators.Fin
import Mathlib.Algebra.Order.BigOperators.Group.Finset
import Mathlib.Algebra.Order.BigOperators.Group.List
/-
  Multiple-importance-sampling (balance heuristic) algebra on a finite state space.

  `Ω` finite, prior mass `p ≥ 0` (not necessarily normalised: on a target with a hard likelihood cut-off `Ω` is the
  finite-likelihood region and `Σ p` its prior mass), likelihood `L`, tempered mass `γ_β = p · L^β`, `Z_β = Σ γ_β`,
  `π_β = γ_β / Z_β`.  Batch `t` has size `n t`, temperature `bt t`; `den` is the mixture `Σ_t (n_t/N) L^{β_t}/Z_{β_t}` in the denominator
  of the weight, `pool` the law of the pooled particles, `pool = p · den`.  The second half is the mean-field (infinite-particle)
  recursion on a list of batches with RECORDED normalisers (`mfDen`): exactness (`law = π_{β_t}`, `z = Z_{β_t}`) is kept by every step.
-/
namespace Lemmas.MIS

variable {Ω T : Type} [Fintype Ω] [Fintype T]

noncomputable def gam (p L : Ω → ℝ) (b : ℝ) (x : Ω) : ℝ := p x * L x ^ b

noncomputable def Zf (p L : Ω → ℝ) (b : ℝ) : ℝ := ∑ x, gam p L b x

noncomputable def piB (p L : Ω → ℝ) (b : ℝ) (x : Ω) : ℝ := gam p L b x / Zf p L b

noncomputable def den (p L : Ω → ℝ) (n bt : T → ℝ) (x : Ω) : ℝ :=
  ∑ t, (n t / ∑ s, n s) * (L x ^ bt t / Zf p L (bt t))

/-- the weight of `compute_logw_and_logz` in linear space -/
noncomputable def misW (p L : Ω → ℝ) (n bt : T → ℝ) (β : ℝ) (x : Ω) : ℝ := L x ^ β / den p L n bt x

noncomputable def pool (p L : Ω → ℝ) (n bt : T → ℝ) (x : Ω) : ℝ := ∑ t, (n t / ∑ s, n s) * piB p L (bt t) x

omit [Fintype Ω] in
theorem gam_nonneg (p L : Ω → ℝ) (hp : ∀ x, 0 ≤ p x) (hL : ∀ x, 0 ≤ L x) (b : ℝ) (x : Ω) : 0 ≤ gam p L b x :=
  mul_nonneg (hp x) (Real.rpow_nonneg (hL x) b)

theorem Zf_nonneg (p L : Ω → ℝ) (hp : ∀ x, 0 ≤ p x) (hL : ∀ x, 0 ≤ L x) (b : ℝ) : 0 ≤ Zf p L b :=
  Finset.sum_nonneg fun x _ => gam_nonneg p L hp hL b x

theorem Zf_pos (p L : Ω → ℝ) (hp : ∀ x, 0 ≤ p x) (hp1 : ∃ x, 0 < p x) (hL : ∀ x, 0 < L x) (b : ℝ) :
    0 < Zf p L b := by
  obtain ⟨x0, hx0⟩ := hp1
  apply Finset.sum_pos'
  · intro x _; exact gam_nonneg p L hp (fun x => (hL x).le) b x
  · exact ⟨x0, Finset.mem_univ _, mul_pos hx0 (Real.rpow_pos_of_pos (hL x0) b)⟩

/-- at β = 0 the normaliser is the prior mass, whatever `L` is (`0^0 = 1`) -/
theorem Zf_zero (p L : Ω → ℝ) : Zf p L 0 = ∑ x, p x := by simp [Zf, gam]

theorem mixture_pos (n a : T → ℝ) (hn : ∀ t, 0 ≤ n t) (ha : ∀ t, 0 ≤ a t) (t0 : T) (hn0 : 0 < n t0) (ha0 : 0 < a t0) :
    0 < ∑ t, (n t / ∑ s, n s) * a t := by
  have hN : 0 < ∑ s, n s := Finset.sum_pos' (fun s _ => hn s) ⟨t0, Finset.mem_univ _, hn0⟩
  exact Finset.sum_pos' (fun t _ => mul_nonneg (div_nonneg (hn t) hN.le) (ha t))
    ⟨t0, Finset.mem_univ _, mul_pos (div_pos hn0 hN) ha0⟩

omit [Fintype Ω] in
/-- the mixture denominator with the normalisers `z` a variable (`den`: `z t = Z_{β_t}`; `Props.C01.denC`: any `z`) -/
theorem mixDen_pos (L : Ω → ℝ) (n bt z : T → ℝ) (hn : ∀ t, 0 ≤ n t) (hN : 0 < ∑ s, n s) (hz : ∀ t, 0 < z t)
    (x : Ω) (hL : 0 < L x) : 0 < ∑ t, (n t / ∑ s, n s) * (L x ^ bt t / z t) := by
  obtain ⟨t0, -, ht0⟩ := (Finset.sum_pos_iff_of_nonneg fun t _ => hn t).mp hN
  exact mixture_pos n _ hn (fun t => div_nonneg (Real.rpow_nonneg hL.le _) (hz t).le) t0 ht0
    (div_pos (Real.rpow_pos_of_pos hL _) (hz t0))

theorem den_pos (p L : Ω → ℝ) (n bt : T → ℝ) (hn : ∀ t, 0 ≤ n t) (hN : 0 < ∑ s, n s) (hL : ∀ x, 0 < L x)
    (hZ : ∀ t, 0 < Zf p L (bt t)) (x : Ω) : 0 < den p L n bt x :=
  mixDen_pos L n bt _ hn hN hZ x (hL x)

theorem den_pos_of_beta_zero (p L : Ω → ℝ) (n bt : T → ℝ) (hn : ∀ t, 0 ≤ n t) (hp : ∀ x, 0 ≤ p x)
    (hp1 : ∃ x, 0 < p x) (hL : ∀ x, 0 ≤ L x) (t0 : T) (hb0 : bt t0 = 0) (hn0 : 0 < n t0) (x : Ω) :
    0 < den p L n bt x := by
  obtain ⟨x0, hx0⟩ := hp1
  refine mixture_pos n _ hn (fun t => div_nonneg (Real.rpow_nonneg (hL x) _) (Zf_nonneg p L hp hL _)) t0 hn0 ?_
  rw [hb0, Real.rpow_zero, Zf_zero]
  exact div_pos one_pos (Finset.sum_pos' (fun x _ => hp x) ⟨x0, Finset.mem_univ _, hx0⟩)

theorem pool_eq (p L : Ω → ℝ) (n bt : T → ℝ) (x : Ω) : pool p L n bt x = p x * den p L n bt x := by
  simp only [pool, den, piB, gam, Finset.mul_sum]
  refine Finset.sum_congr rfl fun t _ => ?_
  ring

/-- on the prior's support the mixture must not vanish; off the support both sides are 0 -/
theorem pool_mul_misW (p L : Ω → ℝ) (n bt : T → ℝ) (β : ℝ) (x : Ω)
    (hden : p x ≠ 0 → den p L n bt x ≠ 0) :
    pool p L n bt x * misW p L n bt β x = gam p L β x := by
  rw [pool_eq, misW, gam]
  by_cases hpx : p x = 0
  · rw [hpx, zero_mul, zero_mul, zero_mul]
  · rw [mul_assoc, ← mul_div_assoc, mul_div_cancel_left₀ _ (hden hpx)]

theorem sum_piB_mul (p L : Ω → ℝ) (b : ℝ) (g : Ω → ℝ) :
    ∑ x, piB p L b x * g x = (∑ x, gam p L b x * g x) / Zf p L b := by
  rw [Finset.sum_div]
  exact Finset.sum_congr rfl fun x _ => div_mul_eq_mul_div _ _ _

theorem mis_core (p L : Ω → ℝ) (n bt : T → ℝ) (β : ℝ) (f : Ω → ℝ)
    (hden : ∀ x, p x ≠ 0 → den p L n bt x ≠ 0) :
    ∑ t, (n t / ∑ s, n s) * ∑ x, piB p L (bt t) x * (f x * misW p L n bt β x) = ∑ x, gam p L β x * f x := by
  simp_rw [Finset.mul_sum]
  rw [Finset.sum_comm]
  refine Finset.sum_congr rfl fun x _ => ?_
  rw [← pool_mul_misW p L n bt β x (hden x), pool, Finset.sum_mul, Finset.sum_mul]
  refine Finset.sum_congr rfl fun t _ => ?_
  ring

/-! ### mean-field (infinite-particle) recursion on laws over `Ω` -/

/-- one committed batch: size, temperature, law of its particles, recorded normaliser in linear space (`z = exp(logz)`) -/
structure MBatch (Ω : Type) where
  n : ℝ
  beta : ℝ
  law : Ω → ℝ
  z : ℝ

def Exact (p L : Ω → ℝ) (b : MBatch Ω) : Prop := 0 < b.n ∧ b.law = piB p L b.beta ∧ b.z = Zf p L b.beta

def poolN (h : List (MBatch Ω)) : ℝ := (h.map (·.n)).sum

noncomputable def poolLaw (h : List (MBatch Ω)) (x : Ω) : ℝ := (h.map fun b => b.n / poolN h * b.law x).sum

/-- `den` with the RECORDED normalisers -/
noncomputable def mfDen (L : Ω → ℝ) (h : List (MBatch Ω)) (x : Ω) : ℝ :=
  (h.map fun b => b.n / poolN h * (L x ^ b.beta / b.z)).sum

noncomputable def mfW (L : Ω → ℝ) (h : List (MBatch Ω)) (β : ℝ) (x : Ω) : ℝ := L x ^ β / mfDen L h x

noncomputable def mfZ (L : Ω → ℝ) (h : List (MBatch Ω)) (β : ℝ) : ℝ := ∑ x, poolLaw h x * mfW L h β x

/-- the law the resampler draws from -/
noncomputable def mfReweighted (L : Ω → ℝ) (h : List (MBatch Ω)) (β : ℝ) (x : Ω) : ℝ :=
  poolLaw h x * mfW L h β x / mfZ L h β

/-- reweight at β, resample, mutate with `K`, commit `n` particles -/
noncomputable def mfStep (L : Ω → ℝ) (h : List (MBatch Ω)) (β : ℝ) (K : Ω → Ω → ℝ) (n : ℝ) : List (MBatch Ω) :=
  h ++ [⟨n, β, fun y => ∑ x, mfReweighted L h β x * K x y, mfZ L h β⟩]

noncomputable def mfRun (L : Ω → ℝ) : List (MBatch Ω) → List (ℝ × (Ω → Ω → ℝ) × ℝ) → List (MBatch Ω)
  | h, [] => h
  | h, (β, K, n) :: rest => mfRun L (mfStep L h β K n) rest

theorem poolN_pos (p L : Ω → ℝ) (h : List (MBatch Ω)) (hne : h ≠ []) (hex : ∀ b ∈ h, Exact p L b) :
    0 < poolN h := by
  unfold poolN
  apply List.sum_pos
  · intro a ha
    rw [List.mem_map] at ha
    obtain ⟨b, hb, rfl⟩ := ha
    exact (hex b hb).1
  · simpa using hne

theorem poolLaw_eq (p L : Ω → ℝ) (h : List (MBatch Ω)) (hex : ∀ b ∈ h, Exact p L b) (x : Ω) :
    poolLaw h x = p x * mfDen L h x := by
  unfold poolLaw mfDen
  rw [← List.sum_map_mul_left]
  congr 1
  apply List.map_congr_left
  intro b hb
  obtain ⟨_, hl, hz⟩ := hex b hb
  rw [hl, hz, piB, gam]
  ring

omit [Fintype Ω] in
theorem poolLaw_const (h : List (MBatch Ω)) (π : Ω → ℝ) (hlaw : ∀ b ∈ h, b.law = π) (hN : poolN h ≠ 0) (x : Ω) :
    poolLaw h x = π x := by
  unfold poolLaw
  rw [List.map_congr_left fun b hb => by rw [hlaw b hb], List.sum_map_mul_right]
  simp only [div_eq_mul_inv]
  rw [List.sum_map_mul_right, ← poolN, mul_inv_cancel₀ hN, one_mul]

/-- `c` is the relative error of every evidence computed from this history.  A quotient, not `poolLaw = c · p · mfDen` with
    `mfDen ≠ 0`: recorded normalisers may make the denominator vanish, and then both sides are 0. -/
theorem mfZ_of_ratio (p L : Ω → ℝ) (h : List (MBatch Ω)) (c : ℝ) (hc : ∀ x, poolLaw h x / mfDen L h x = c * p x) (β : ℝ) :
    mfZ L h β = c * Zf p L β := by
  unfold mfZ Zf
  rw [Finset.mul_sum]
  refine Finset.sum_congr rfl fun x _ => ?_
  rw [mfW, gam, ← mul_assoc, ← hc x]
  ring

def Invariant (π : Ω → ℝ) (K : Ω → Ω → ℝ) : Prop := ∀ y, ∑ x, π x * K x y = π y

theorem Invariant.of_reversible {π : Ω → ℝ} {K : Ω → Ω → ℝ}
    (hdb : ∀ x y, π x * K x y = π y * K y x) (hrow : ∀ x, ∑ y, K x y = 1) : Invariant π K := by
  intro y
  rw [Finset.sum_congr rfl fun x _ => hdb x y, ← Finset.mul_sum, hrow, mul_one]

section exact
variable (p L : Ω → ℝ) (hp : ∀ x, 0 ≤ p x) (hp1 : ∃ x, 0 < p x) (hL : ∀ x, 0 < L x)
  (h : List (MBatch Ω)) (hne : h ≠ []) (hex : ∀ b ∈ h, Exact p L b)
include hp hp1 hL hne hex

theorem mfDen_pos (x : Ω) : 0 < mfDen L h x := by
  have hN := poolN_pos p L h hne hex
  unfold mfDen
  apply List.sum_pos
  · intro a ha
    rw [List.mem_map] at ha
    obtain ⟨b, hb, rfl⟩ := ha
    obtain ⟨hn, _, hz⟩ := hex b hb
    rw [hz]
    exact mul_pos (div_pos hn hN) (div_pos (Real.rpow_pos_of_pos (hL x) _) (Zf_pos p L hp hp1 hL _))
  · simpa using hne

theorem poolLaw_mul_mfW (β : ℝ) (x : Ω) :
    poolLaw h x * mfW L h β x = gam p L β x := by
  have hd := (mfDen_pos p L hp hp1 hL h hne hex x).ne'
  rw [poolLaw_eq p L h hex, mfW, gam, mul_assoc, ← mul_div_assoc, mul_div_cancel_left₀ _ hd]

theorem mfZ_exact (β : ℝ) : mfZ L h β = Zf p L β :=
  Finset.sum_congr rfl fun x _ => poolLaw_mul_mfW p L hp hp1 hL h hne hex β x

theorem mfReweighted_exact (β : ℝ) :
    mfReweighted L h β = piB p L β := by
  funext x
  rw [mfReweighted, poolLaw_mul_mfW p L hp hp1 hL h hne hex β x, mfZ_exact p L hp hp1 hL h hne hex β, piB]

theorem mfStep_exact (β : ℝ) (K : Ω → Ω → ℝ)
    (hK : Invariant (piB p L β) K) (n : ℝ) (hn : 0 < n) : ∀ b ∈ mfStep L h β K n, Exact p L b := by
  intro b hb
  simp only [mfStep, List.mem_append, List.mem_singleton] at hb
  rcases hb with hb | rfl
  · exact hex b hb
  · refine ⟨hn, ?_, mfZ_exact p L hp hp1 hL h hne hex β⟩
    funext y
    simp only
    rw [mfReweighted_exact p L hp hp1 hL h hne hex β]
    exact hK y

end exact

theorem mfRun_ne_nil (L : Ω → ℝ) (st : List (ℝ × (Ω → Ω → ℝ) × ℝ)) :
    ∀ h : List (MBatch Ω), h ≠ [] → mfRun L h st ≠ [] := by
  induction st with
  | nil => intro h hh; simpa [mfRun] using hh
  | cons a st ih =>
    intro h _
    obtain ⟨β, K, n⟩ := a
    exact ih _ (List.append_ne_nil_of_right_ne_nil _ (List.cons_ne_nil _ _))

theorem mfRun_exact (p L : Ω → ℝ) (hp : ∀ x, 0 ≤ p x) (hp1 : ∃ x, 0 < p x) (hL : ∀ x, 0 < L x)
    (steps : List (ℝ × (Ω → Ω → ℝ) × ℝ)) : ∀ (h : List (MBatch Ω)), h ≠ [] → (∀ b ∈ h, Exact p L b) →
    (∀ st ∈ steps, Invariant (piB p L st.1) st.2.1 ∧ 0 < st.2.2) → ∀ b ∈ mfRun L h steps, Exact p L b := by
  induction steps with
  | nil => intro h _ hex _; exact hex
  | cons st rest ih =>
    intro h hne hex hst
    obtain ⟨β, K, n⟩ := st
    obtain ⟨hK, hn⟩ := hst (β, K, n) List.mem_cons_self
    exact ih _ (List.append_ne_nil_of_right_ne_nil _ (List.cons_ne_nil _ _))
      (mfStep_exact p L hp hp1 hL h hne hex β K hK n hn) fun st' hst' => hst st' (List.mem_cons_of_mem _ hst')

end Lemmas.MIS
