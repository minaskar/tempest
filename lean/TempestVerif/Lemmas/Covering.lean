/-
  Boolean checkers for covering arrays (every pair / triple of option values occurs in some row of a table of value indices),
  their meaning as statements about rows, and their form as bit masks for evaluation by the kernel.  Core Lean only.
-/
namespace Model.ConfigSpec

/-- the number of values of each factor -/
def levels (fs : List (String × List String)) : List Nat := fs.map (·.2.length)

/-- every row has one value index per factor, below that factor's number of values -/
def wellFormed (lv : List Nat) (rows : List (List Nat)) : Bool :=
  rows.all fun r => r.length == lv.length && (List.zip r lv).all fun p => decide (p.1 < p.2)

def coversPair (rows : List (List Nat)) (i j a b : Nat) : Bool :=
  rows.any fun r => r[i]? == some a && r[j]? == some b

def coversAllPairs (lv : List Nat) (rows : List (List Nat)) : Bool :=
  (List.range lv.length).all fun i => (List.range lv.length).all fun j =>
    !decide (i < j) ||
      match lv[i]?, lv[j]? with
      | some ni, some nj => (List.range ni).all fun a => (List.range nj).all fun b => coversPair rows i j a b
      | _, _ => false

def coversTriple (rows : List (List Nat)) (i j k a b c : Nat) : Bool :=
  rows.any fun r => r[i]? == some a && r[j]? == some b && r[k]? == some c

def coversAllTriples (lv : List Nat) (rows : List (List Nat)) : Bool :=
  (List.range lv.length).all fun i => (List.range lv.length).all fun j => (List.range lv.length).all fun k =>
    !(decide (i < j) && decide (j < k)) ||
      match lv[i]?, lv[j]?, lv[k]? with
      | some ni, some nj, some nk =>
        (List.range ni).all fun a => (List.range nj).all fun b => (List.range nk).all fun c => coversTriple rows i j k a b c
      | _, _, _ => false

theorem coversAllPairs_sound (lv : List Nat) (rows : List (List Nat)) (h : coversAllPairs lv rows = true)
    (i j a b : Nat) (hij : i < j) (hj : j < lv.length) (ha : a < lv[i]'(by omega)) (hb : b < lv[j]) :
    ∃ r ∈ rows, r[i]? = some a ∧ r[j]? = some b := by
  have hi : i < lv.length := by omega
  simp only [coversAllPairs, List.all_eq_true, List.mem_range] at h
  have h1 := h i hi j hj
  simp only [hij, decide_true, Bool.not_true, Bool.false_or, List.getElem?_eq_getElem hi, List.getElem?_eq_getElem hj,
    List.all_eq_true, List.mem_range] at h1
  simpa [coversPair] using h1 a ha b hb

theorem coversAllTriples_sound (lv : List Nat) (rows : List (List Nat)) (h : coversAllTriples lv rows = true)
    (i j k a b c : Nat) (hij : i < j) (hjk : j < k) (hk : k < lv.length)
    (ha : a < lv[i]'(by omega)) (hb : b < lv[j]'(by omega)) (hc : c < lv[k]) :
    ∃ r ∈ rows, r[i]? = some a ∧ r[j]? = some b ∧ r[k]? = some c := by
  have hi : i < lv.length := by omega
  have hj : j < lv.length := by omega
  simp only [coversAllTriples, List.all_eq_true, List.mem_range] at h
  have h1 := h i hi j hj k hk
  simp only [hij, hjk, decide_true, Bool.and_self, Bool.not_true, Bool.false_or, List.getElem?_eq_getElem hi,
    List.getElem?_eq_getElem hj, List.getElem?_eq_getElem hk, List.all_eq_true, List.mem_range] at h1
  simpa [coversTriple, and_assoc] using h1 a ha b hb c hc

/-! For the kernel: a combination of values is covered iff the AND of the masks of its (column, value) pairs is positive, and such
    a mask is a closed term that recurs literally, so it is evaluated once (as written, `coversPair` / `coversTriple` walk `r[i]?`
    again for every combination). -/

/-- bit `m` is set iff the `m`-th element of `l` satisfies `p` -/
def bitsOf {α : Type} (p : α → Bool) (l : List α) : Nat := l.foldr (fun x acc => 2 * acc + (p x).toNat) 0

theorem bitsOf_cons {α : Type} (p : α → Bool) (x : α) (xs : List α) : bitsOf p (x :: xs) = 2 * bitsOf p xs + (p x).toNat := rfl

theorem testBit_bitsOf {α : Type} (p : α → Bool) (l : List α) (m : Nat) : (bitsOf p l).testBit m = l[m]?.any p := by
  induction l generalizing m with
  | nil => simp [bitsOf]
  | cons x xs ih =>
    cases m with
    | zero => cases hp : p x <;> simp [bitsOf_cons, hp, Nat.testBit_zero] <;> omega
    | succ m =>
      have h2 : bitsOf p (x :: xs) / 2 = bitsOf p xs := by cases hp : p x <;> simp [bitsOf_cons, hp] <;> omega
      rw [Nat.testBit_succ, h2, ih, List.getElem?_cons_succ]

theorem bitsOf_and {α : Type} (p q : α → Bool) (l : List α) : bitsOf p l &&& bitsOf q l = bitsOf (fun x => p x && q x) l := by
  apply Nat.eq_of_testBit_eq
  intro m
  rw [Nat.testBit_and, testBit_bitsOf, testBit_bitsOf, testBit_bitsOf]
  cases l[m]? <;> rfl

-- `Nat.blt`, not `!= 0`: the kernel evaluates it in one step
theorem bitsOf_pos {α : Type} (p : α → Bool) (l : List α) : Nat.blt 0 (bitsOf p l) = l.any p := by
  induction l with
  | nil => rfl
  | cons x xs ih =>
    rw [List.any_cons, ← ih, bitsOf_cons, Bool.eq_iff_iff]
    cases p x <;> simp [Nat.blt] <;> omega

theorem coversPair_eq_bits (rows : List (List Nat)) (i j a b : Nat) :
    coversPair rows i j a b = Nat.blt 0 (bitsOf (fun r => r[i]? == some a) rows &&& bitsOf (fun r => r[j]? == some b) rows) := by
  rw [bitsOf_and, bitsOf_pos, coversPair]

theorem coversTriple_eq_bits (rows : List (List Nat)) (i j k a b c : Nat) :
    coversTriple rows i j k a b c =
      Nat.blt 0 (bitsOf (fun r => r[i]? == some a) rows &&& bitsOf (fun r => r[j]? == some b) rows &&&
        bitsOf (fun r => r[k]? == some c) rows) := by
  rw [bitsOf_and, bitsOf_and, bitsOf_pos, coversTriple]

end Model.ConfigSpec
