import TempestVerif.Model.Pipeline
import TempestVerif.Lemmas.Records
import TempestVerif.Lemmas.OptionList
import TempestVerif.Lemmas.Steps
/-
  Structure of the tape model `Model.Pipeline`, for any scalar type.  `iterate` is the reweighting step (`rwStep`) followed by one
  of two tails (`iterate_eq`), the second through the resampling call `resampleIdx`; `iterate_some` is the lemma through which
  the property files read `iterate … = some …`.
-/
namespace Lemmas.Pipeline
open Model.Pipeline Model.Weights Model.Reweight Model.Records Model.Resample

/-! ### `allSome`, `countSome` and the finiteness test under `map` -/

theorem allSome_eq_mapM {α : Type} (l : List (Option α)) : allSome l = l.mapM id := by
  induction l with
  | nil => rfl
  | cons a l ih =>
    cases a with
    | none => rfl
    | some x => rw [allSome, ih, List.mapM_cons]; cases l.mapM id <;> rfl

theorem allSome_map {α β : Type} (f : α → β) (l : List (Option α)) :
    allSome (l.map (Option.map f)) = (allSome l).map (List.map f) := by
  rw [allSome_eq_mapM, allSome_eq_mapM, List.mapM_map]
  exact Lemmas.OptionList.mapM_comp_map id (Option.map f) f (fun _ => rfl) l

theorem allSome_length {α : Type} {l : List (Option α)} {ys : List α} (h : allSome l = some ys) :
    ys.length = l.length :=
  Lemmas.OptionList.mapM_length (allSome_eq_mapM l ▸ h)

theorem allSome_of_forall {α : Type} (l : List (Option α)) (h : ∀ v ∈ l, v.isSome = true) :
    ∃ l', allSome l = some l' ∧ l'.map some = l := by
  obtain ⟨ys, hy⟩ := Lemmas.OptionList.mapM_some_of_forall id l fun v hv => Option.isSome_iff_exists.mp (h v hv)
  exact ⟨ys, (allSome_eq_mapM l).trans hy,
    ((Lemmas.OptionList.mapM_eq_some_iff id l ys).mp hy).symm.trans (List.map_id l)⟩

theorem countSome_map {α β : Type} (f : α → β) (l : List (Option α)) :
    countSome (l.map (Option.map f)) = countSome l := by
  simp only [countSome, List.countP_map]
  congr 1
  funext a
  cases a <;> simp

theorem join_isSome_map {α β : Type} (f : α → β) (l : List (Option α)) (i : Nat) :
    ((l.map (Option.map f))[i]?).join.isSome = (l[i]?).join.isSome := by
  rw [List.getElem?_map]
  cases l[i]? with
  | none => rfl
  | some a => cases a <;> rfl

variable {α : Type} [ScT α]

/-! ### the oracles of the reweighting step -/

theorem oracleM_snd (h : List (Batch α)) (β : α) :
    (oracleM h β).2 = (Model.Ess.ess (oracleM h β).1, Model.Ess.ess (oracleM h β).1) := rfl

theorem oracleM_fst_of_nil {h : List (Batch α)} {β : α} (hl : (logw h β true).1 = []) : (oracleM h β).1 = [] := by
  simp only [oracleM, hl]

/-- the right-hand side is the body of `Model.TrimSites.expShift`: callers continue with lemmas about that -/
theorem oracleM_fst_of_cons {h : List (Batch α)} {β x : α} {xs : List α} (hl : (logw h β true).1 = x :: xs) :
    (oracleM h β).1 = (x :: xs).map fun v => ScT.exp (Sc.sub v (Model.Ess.maxOf x xs)) := by
  simp only [oracleM, hl]

theorem oracleZ_of_some {h : List (Batch α)} {β z : α} (hz : (logw h β true).2 = some z) : oracleZ h β = z := by
  rw [oracleZ, hz, Option.getD_some]

/-! ### the mutation keeps the number of particles -/

theorem mcmcStep_length (β : α) (tg : List Nat) (l : List α) (pt : List Nat) (pl : List (Option α))
    (f r : List α) : (mcmcStep β tg l pt pl f r).2.1.length = l.length := by
  fun_induction mcmcStep β tg l pt pl f r with
  | case1 tg tgs l ls pt pts pl pls f fs r rs acc a b c hrec ih => simpa [hrec] using ih
  | case2 => rfl

theorem mcmcSteps_length (β : α) (ss : List (Step α)) : ∀ (tg : List Nat) (l : List α),
    (mcmcSteps β ss tg l).2.1.length = l.length := by
  induction ss with
  | nil => intro tg l; simp [mcmcSteps]
  | cons s ss ih => intro tg l; simp [mcmcSteps, ih, mcmcStep_length]

theorem warmup_eq (t : Tape α) (z : α) :
    warmup t z =
      (if countSome t.drawL < t.drawL.length ∧ 0 < countSome t.drawL
        then scatterFrom t.drawTags ((List.range t.drawL.length).filter fun i => !((t.drawL[i]?).join.isSome)) t.picks
        else t.drawTags,
       if countSome t.drawL < t.drawL.length ∧ 0 < countSome t.drawL
        then scatterFrom t.drawL ((List.range t.drawL.length).filter fun i => !((t.drawL[i]?).join.isSome)) t.picks
        else t.drawL,
       if countSome t.drawL < t.drawL.length
        then ScT.log (Sc.div (Sc.ofNat (countSome t.drawL)) (Sc.ofNat t.drawL.length)) else z) := by
  unfold warmup
  by_cases h1 : countSome t.drawL < t.drawL.length <;> by_cases h2 : 0 < countSome t.drawL <;> simp [h1, h2]

theorem warmupR_eq (t : Tape α) (disc : Nat) (z : α) :
    warmupR t disc z =
      (if (countSome t.drawL < t.drawL.length ∨ 0 < disc) ∧ 0 < countSome t.drawL
        then scatterFrom t.drawTags ((List.range t.drawL.length).filter fun i => !((t.drawL[i]?).join.isSome)) t.picks
        else t.drawTags,
       if (countSome t.drawL < t.drawL.length ∨ 0 < disc) ∧ 0 < countSome t.drawL
        then scatterFrom t.drawL ((List.range t.drawL.length).filter fun i => !((t.drawL[i]?).join.isSome)) t.picks
        else t.drawL,
       if countSome t.drawL < t.drawL.length ∨ 0 < disc
        then ScT.log (Sc.div (Sc.ofNat (countSome t.drawL)) (Sc.ofNat (t.drawL.length + disc))) else z) := by
  unfold warmupR
  by_cases h1 : countSome t.drawL < t.drawL.length <;> by_cases h2 : 0 < countSome t.drawL <;> by_cases h3 : 0 < disc <;>
    simp [h1, h2, h3]

theorem warmupR_zero (t : Tape α) (z : α) : warmupR t 0 z = warmup t z := by
  simp only [warmupR_eq, warmup_eq, Nat.lt_irrefl, or_false, Nat.add_zero]

theorem warmup_length (t : Tape α) (lz : α) : (warmup t lz).2.1.length = t.drawL.length := by
  rw [warmup_eq]
  split
  · exact scatterFrom_length _ _ _
  · rfl

/-! ### one iteration: reweighting, then one of two tails -/

def rwStep (c : PCfg α) (s : PState α) : RunOut α (List α) :=
  Model.Reweight.run c.rw (batches s.hist).isEmpty (oracleM (batches s.hist)) (oracleZ (batches s.hist)) isFin s.beta

/-- the resampling call of `Model.Pipeline.iterate`: the systematic scheme wants exactly one uniform on the tape -/
def resampleIdx (syst : Bool) (n : Nat) (us w : List α) : Option (List Nat) :=
  if syst then (match us with | [u0] => systematic n w u0 | _ => none) else multinomial w us

theorem resampleIdx_some {syst : Bool} {n : Nat} {us w : List α} {idx : List Nat} (h : resampleIdx syst n us w = some idx) :
    (syst = true ∧ ∃ u0, us = [u0] ∧ systematic n w u0 = some idx) ∨ (syst = false ∧ multinomial w us = some idx) := by
  unfold resampleIdx at h
  split at h
  · split at h
    · exact .inl ⟨‹_›, _, rfl, h⟩
    · cases h
  · exact .inr ⟨Bool.eq_false_iff.mpr ‹_›, h⟩

def warmTail (s : PState α) (t : Tape α) (r : RunOut α (List α)) : Option (PState α × IterOut α) :=
  let (tags, ls, lz) := warmup t r.logz
  (allSome ls).map fun l =>
    ({ hist := s.hist ++ [⟨⟨r.beta, lz, l⟩, tags⟩], beta := r.beta, logz := lz, curTags := tags, curL := l },
     ⟨r.beta, r.ess, r.logz, lz, [], [], r.branch⟩)

def annealTail (c : PCfg α) (s : PState α) (t : Tape α) (r : RunOut α (List α)) :
    Option (PState α × IterOut α) :=
  (resampleIdx c.syst c.rw.nPart t.resU (returnedWeights r.weightsTag)).bind fun idx =>
    (gather? (poolTags s.hist) idx).bind fun tg =>
      (gather? (flatLogl (batches s.hist)) idx).map fun l =>
        let (tg', l', ms) := mcmcSteps r.beta t.steps tg l
        ({ hist := s.hist ++ [⟨⟨r.beta, r.logz, l'⟩, tg'⟩], beta := r.beta, logz := r.logz, curTags := tg', curL := l' },
         ⟨r.beta, r.ess, r.logz, r.logz, idx, ms, r.branch⟩)

theorem iterate_eq (c : PCfg α) (s : PState α) (t : Tape α) :
    iterate c s t =
      if eqv (rwStep c s).beta Sc.zero then warmTail s t (rwStep c s) else annealTail c s t (rwStep c s) := rfl

/-- `r` is the result of the reweighting step: `_ rfl` at the call -/
theorem iterate_some {cfg : PCfg α} {s : PState α} {t : Tape α} {s1 : PState α} {o : IterOut α}
    (h : iterate cfg s t = some (s1, o)) (r : RunOut α (List α)) (hr : rwStep cfg s = r) :
    (eqv r.beta Sc.zero = true ∧ ∃ l, allSome (warmup t r.logz).2.1 = some l ∧
      s1 = ⟨s.hist ++ [⟨⟨r.beta, (warmup t r.logz).2.2, l⟩, (warmup t r.logz).1⟩], r.beta, (warmup t r.logz).2.2,
            (warmup t r.logz).1, l⟩ ∧
      o = ⟨r.beta, r.ess, r.logz, (warmup t r.logz).2.2, [], [], r.branch⟩) ∨
    (eqv r.beta Sc.zero = false ∧ ∃ idx tg l,
      resampleIdx cfg.syst cfg.rw.nPart t.resU (returnedWeights r.weightsTag) = some idx ∧
      gather? (poolTags s.hist) idx = some tg ∧ gather? (flatLogl (batches s.hist)) idx = some l ∧
      s1 = ⟨s.hist ++ [⟨⟨r.beta, r.logz, (mcmcSteps r.beta t.steps tg l).2.1⟩, (mcmcSteps r.beta t.steps tg l).1⟩],
            r.beta, r.logz, (mcmcSteps r.beta t.steps tg l).1, (mcmcSteps r.beta t.steps tg l).2.1⟩ ∧
      o = ⟨r.beta, r.ess, r.logz, r.logz, idx, (mcmcSteps r.beta t.steps tg l).2.2, r.branch⟩) := by
  subst hr
  rw [iterate_eq] at h
  split at h
  · obtain ⟨l, hl, h⟩ := Option.map_eq_some_iff.mp h
    obtain ⟨rfl, rfl⟩ := Prod.mk.inj h
    exact .inl ⟨‹_›, l, hl, rfl, rfl⟩
  · obtain ⟨idx, hidx, h⟩ := Option.bind_eq_some_iff.mp h
    obtain ⟨tg, htg, h⟩ := Option.bind_eq_some_iff.mp h
    obtain ⟨l, hl, h⟩ := Option.map_eq_some_iff.mp h
    obtain ⟨rfl, rfl⟩ := Prod.mk.inj h
    exact .inr ⟨Bool.eq_false_iff.mpr ‹_›, idx, tg, l, hidx, htg, hl, rfl, rfl⟩

theorem iterate_commit (cfg : PCfg α) (s : PState α) (t : Tape α) (s1 : PState α)
    (o : IterOut α) (h : iterate cfg s t = some (s1, o)) :
    s1.hist = s.hist ++ [⟨⟨o.beta, o.logz, s1.curL⟩, s1.curTags⟩] ∧ s1.beta = o.beta ∧ s1.logz = o.logz := by
  obtain ⟨-, l, -, rfl, rfl⟩ | ⟨-, idx, tg, l, -, -, -, rfl, rfl⟩ := iterate_some h _ rfl <;> exact ⟨rfl, rfl, rfl⟩

theorem iterate_beta_of_hist_nil {cfg : PCfg α} {s : PState α} {t : Tape α} {s1 : PState α} {o : IterOut α}
    (h : iterate cfg s t = some (s1, o)) (he : s.hist = []) : o.beta = Sc.zero := by
  have hr : (rwStep cfg s).beta = Sc.zero := by rw [rwStep, he]; rfl
  obtain ⟨-, l, -, -, rfl⟩ | ⟨-, idx, tg, l, -, -, -, -, rfl⟩ := iterate_some h _ rfl <;> exact hr

/-! ### a completed run -/

theorem runIters_iff_steps {cfg : PCfg α} {s sf : PState α} {ts : List (Tape α)} {os : List (IterOut α)} :
    runIters cfg s ts = some (sf, os) ↔ Lemmas.Steps (iterate cfg) s ts os sf :=
  Lemmas.Steps.of_rec (runIters cfg) (fun _ => rfl) (fun _ _ _ => rfl)

theorem runIters_nil {cfg : PCfg α} {s sf : PState α} {os : List (IterOut α)} (h : runIters cfg s [] = some (sf, os)) :
    sf = s ∧ os = [] := by
  cases h; exact ⟨rfl, rfl⟩

theorem runIters_cons {cfg : PCfg α} {s sf : PState α} {t : Tape α} {ts : List (Tape α)} {os : List (IterOut α)}
    (h : runIters cfg s (t :: ts) = some (sf, os)) :
    ∃ s1 o os', iterate cfg s t = some (s1, o) ∧ runIters cfg s1 ts = some (sf, os') ∧ os = o :: os' := by
  obtain ⟨⟨s1, o⟩, hi, h⟩ := Option.bind_eq_some_iff.mp h
  obtain ⟨⟨sf', os'⟩, hr, he⟩ := Option.map_eq_some_iff.mp h
  cases he
  exact ⟨s1, o, os', hi, hr, rfl⟩

theorem runIters_hist (cfg : PCfg α) (ts : List (Tape α)) (s sf : PState α) (os : List (IterOut α))
    (h : runIters cfg s ts = some (sf, os)) :
    ∃ ext, sf.hist = s.hist ++ ext ∧ ext.length = ts.length := by
  induction ts generalizing s os with
  | nil =>
    obtain ⟨rfl, rfl⟩ := runIters_nil h
    exact ⟨[], (List.append_nil _).symm, rfl⟩
  | cons t ts ih =>
    obtain ⟨s1, o, os', hi, hr, rfl⟩ := runIters_cons h
    obtain ⟨ext, h1, h2⟩ := ih s1 os' hr
    refine ⟨⟨⟨o.beta, o.logz, s1.curL⟩, s1.curTags⟩ :: ext, ?_, congrArg Nat.succ h2⟩
    rw [h1, (iterate_commit cfg s t s1 o hi).1, List.append_assoc]
    rfl

end Lemmas.Pipeline
