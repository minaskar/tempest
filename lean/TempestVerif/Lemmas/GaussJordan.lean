import TempestVerif.Model.Student
import TempestVerif.Lemmas.ScReal
import TempestVerif.Lemmas.VecOfFn
import TempestVerif.Lemmas.OptionList
import Mathlib.LinearAlgebra.Matrix.PosDef
import Mathlib.Analysis.Matrix.Order
import Mathlib.Algebra.Order.Star.Real
import Mathlib.LinearAlgebra.Matrix.NonsingularInverse
import Mathlib.Algebra.BigOperators.Fin
/-
  The Gauss–Jordan inverse without pivoting of `Model/Student.lean` (`inv`: the model of `np.linalg.inv` in
  `ModeStatistics.__init__`; of `np.linalg.solve` / a succeeding `np.linalg.cholesky` in the Student-t fit and the mode gate)
  evaluated at `ℝ` on the list form `matOf S` of a matrix.  Every pivot of a positive definite matrix is `vᵀ S v > 0` for a non-zero
  `v`, so it is inverted, to the list form of `S⁻¹`; whenever `inv` answers at all, the answer is a left inverse, hence `S⁻¹`; on a
  positive semidefinite matrix it answers exactly when the matrix is positive definite.  Before that, for every scalar type: the
  answer of `inv` has the shape of its input.
-/
namespace Lemmas.GaussJordan
open Matrix Model.Student
open Lemmas.VecOfFn (zipIdx_ofFn zipWith_ofFn)

/-! ### the answer of `inv` has the shape of its input (any scalar type) -/
section Shape
open Lemmas.OptionList (mapM_length mapM_mem)
variable {α : Type} [Sc α]

theorem gjStep_shape (k w : Nat) (M M' : Mat α) (h : Model.Student.gjStep k M = some M')
    (hM : ∀ r ∈ M, r.length = w) : M'.length = M.length ∧ ∀ r ∈ M', r.length = w := by
  unfold Model.Student.gjStep at h
  cases hrk : M[k]? with
  | none => simp [hrk] at h
  | some rk =>
    have hrkw : rk.length = w := hM rk (List.mem_of_getElem? hrk)
    cases hp : rk[k]? with
    | none => simp [hrk, hp] at h
    | some p =>
      simp only [hrk, hp, Option.bind_eq_bind, Option.bind_some] at h
      split at h
      · refine ⟨by rw [mapM_length h, List.length_zipIdx], fun r hr => ?_⟩
        obtain ⟨⟨x, n⟩, hx, hrel⟩ := mapM_mem h hr
        have hxM : x ∈ M := (List.mem_zipIdx hx).2.2 ▸ List.getElem_mem _
        split at hrel
        · rw [← Option.some.inj hrel, List.length_map, hrkw]
        · cases hfk : x[k]? with
          | none => simp [hfk] at hrel
          | some f =>
            simp only [hfk, Option.bind_some, Option.some.injEq] at hrel
            rw [← hrel, List.length_zipWith, List.length_map, hM _ hxM, hrkw, Nat.min_self]
      · simp at h

theorem gj_shape (w : Nat) : ∀ (f k : Nat) (M M' : Mat α), Model.Student.gj f k M = some M' →
    (∀ r ∈ M, r.length = w) → M'.length = M.length ∧ ∀ r ∈ M', r.length = w := by
  intro f
  induction f with
  | zero => intro k M M' h hM; simp [Model.Student.gj] at h; subst h; exact ⟨rfl, hM⟩
  | succ f ih =>
    intro k M M' h hM
    unfold Model.Student.gj at h
    cases hs : Model.Student.gjStep k M with
    | none => simp [hs] at h
    | some M1 =>
      simp only [hs, Option.bind_some] at h
      have h1 := gjStep_shape k w M M1 hs hM
      have h2 := ih (k + 1) M1 M' h h1.2
      exact ⟨by rw [h2.1, h1.1], h2.2⟩

theorem inv_shape (S M : Mat α) (h : Model.Student.inv S = some M) :
    M.length = S.length ∧ ∀ r ∈ M, r.length = S.length := by
  unfold Model.Student.inv at h
  simp only at h
  split at h
  · rename_i hall
    rw [List.all_eq_true] at hall
    cases hg : Model.Student.gj S.length 0 (S.zipIdx.map fun x => x.1 ++ Model.Student.identRow S.length x.2) with
    | none => simp [hg] at h
    | some M1 =>
      simp only [hg, Option.map_some, Option.some.injEq] at h
      have hsh := gj_shape (S.length + S.length) S.length 0 _ M1 hg (by
        intro r hr
        simp only [List.mem_map] at hr
        obtain ⟨⟨x, i⟩, hx, rfl⟩ := hr
        have hxm : x ∈ S := by
          have := List.mem_zipIdx hx
          exact this.2.2 ▸ List.getElem_mem _
        have := hall x hxm
        simp at this
        simp [Model.Student.identRow, this])
      subst h
      refine ⟨by simpa using hsh.1, ?_⟩
      intro r hr
      simp only [List.mem_map] at hr
      obtain ⟨x, hx, rfl⟩ := hr
      simp [hsh.2 x hx]
  · simp at h

end Shape

variable {d : ℕ}

/-- the list-of-rows form of a matrix, as the executable models take it -/
def matOf (M : Matrix (Fin d) (Fin d) ℝ) : List (List ℝ) := List.ofFn fun a => List.ofFn fun b => M a b

theorem length_matOf (M : Matrix (Fin d) (Fin d) ℝ) : (matOf M).length = d := List.length_ofFn

theorem matOf_all_length (M : Matrix (Fin d) (Fin d) ℝ) : (matOf M).all (fun r => r.length == d) = true := by
  rw [List.all_eq_true]
  intro r hr
  obtain ⟨a, rfl⟩ := (List.mem_ofFn ..).mp hr
  rw [List.length_ofFn, beq_self_eq_true]

theorem matOf_injective : Function.Injective (matOf (d := d)) := by
  intro L L' h
  ext i j
  have h1 := congrArg (fun M : List (List ℝ) => (M[i.val]?).bind (·[j.val]?)) h
  simpa [matOf] using h1

/-- the augmented rows `[B | E]` -/
def aug (B E : Matrix (Fin d) (Fin d) ℝ) : List (List ℝ) :=
  List.ofFn fun i => List.ofFn (fun j => B i j) ++ List.ofFn (fun j => E i j)

/-- one elimination step on a block `X` of the augmented matrix whose left block is `B` -/
noncomputable def stepB (k : Fin d) (B X : Matrix (Fin d) (Fin d) ℝ) : Matrix (Fin d) (Fin d) ℝ :=
  fun i j => if i = k then X k j / B k k else X i j - B i k * (X k j / B k k)

def augRow (b e : Fin d → ℝ) : List ℝ := List.ofFn b ++ List.ofFn e

theorem aug_eq (B E : Matrix (Fin d) (Fin d) ℝ) : aug B E = List.ofFn fun i => augRow (B i) (E i) := rfl

theorem augRow_getElem? (b e : Fin d → ℝ) (j : Fin d) : (augRow b e)[j.val]? = some (b j) := by
  rw [augRow, List.getElem?_append_left (by rw [List.length_ofFn]; exact j.isLt), List.getElem?_ofFn, dif_pos j.isLt]

theorem augRow_map (f : ℝ → ℝ) (b e : Fin d → ℝ) : (augRow b e).map f = augRow (f ∘ b) (f ∘ e) := by
  rw [augRow, List.map_append, List.map_ofFn, List.map_ofFn]; rfl

theorem augRow_zipWith (f : ℝ → ℝ → ℝ) (b e b' e' : Fin d → ℝ) :
    List.zipWith f (augRow b e) (augRow b' e') = augRow (fun j => f (b j) (b' j)) (fun j => f (e j) (e' j)) := by
  rw [augRow, augRow, List.zipWith_append (by rw [List.length_ofFn, List.length_ofFn]), zipWith_ofFn, zipWith_ofFn]
  rfl

theorem gjStep_aug (k : Fin d) (B E : Matrix (Fin d) (Fin d) ℝ) :
    gjStep k.val (aug B E) = if 0 < B k k then some (aug (stepB k B B) (stepB k B E)) else none := by
  have hrow : (aug B E)[k.val]? = some (augRow (B k) (E k)) := by
    rw [aug_eq, List.getElem?_ofFn, dif_pos k.isLt]
  simp only [gjStep, hrow, augRow_getElem?, Option.bind_eq_bind, Option.bind_some, ScReal.lt_def, ScReal.zero_def]
  by_cases hpos : 0 < B k k
  · rw [if_pos hpos, if_pos hpos, aug_eq, zipIdx_ofFn, aug_eq]
    refine Lemmas.OptionList.mapM_ofFn_some _ _ _ fun i => ?_
    by_cases hik : i = k
    · subst hik
      simp only [beq_self_eq_true, if_true, augRow_map]
      exact congrArg some (congrArg₂ augRow (funext fun j => (if_pos rfl).symm) (funext fun j => (if_pos rfl).symm))
    · have hne : ¬ (i.val = k.val) := fun h => hik (Fin.ext h)
      simp only [beq_iff_eq, hne, if_false, augRow_getElem?, Option.bind_some, augRow_map, augRow_zipWith]
      exact congrArg some (congrArg₂ augRow (funext fun j => (if_neg hik).symm) (funext fun j => (if_neg hik).symm))
  · rw [if_neg hpos, if_neg hpos]

/-- what holds of the augmented matrix `[B | E]` after `k` pivots, for ANY matrix `S` the elimination started from -/
structure InvL (S : Matrix (Fin d) (Fin d) ℝ) (k : ℕ) (B E : Matrix (Fin d) (Fin d) ℝ) : Prop where
  prod : B = E * S
  left : ∀ i j : Fin d, j.val < k → B i j = if i = j then 1 else 0

/-- rows `≥ k` of the right block are still unit rows outside the first `k` columns -/
def InvR (k : ℕ) (E : Matrix (Fin d) (Fin d) ℝ) : Prop :=
  ∀ i j : Fin d, k ≤ i.val → k ≤ j.val → E i j = if i = j then 1 else 0

theorem InvL.start (S : Matrix (Fin d) (Fin d) ℝ) : InvL S 0 S 1 := ⟨(Matrix.one_mul S).symm, fun _ _ h => absurd h (Nat.not_lt_zero _)⟩

theorem InvL.eq_one {S B E : Matrix (Fin d) (Fin d) ℝ} (h : InvL S d B E) : B = 1 := by
  ext i j
  rw [h.left i j j.isLt, Matrix.one_apply]

theorem stepB_mul (k : Fin d) (B E S : Matrix (Fin d) (Fin d) ℝ) (h : B = E * S) :
    stepB k B B = stepB k B E * S := by
  ext i j
  simp only [stepB, Matrix.mul_apply]
  have hB : ∀ a b, B a b = ∑ m, E a m * S m b := fun a b => by rw [h, Matrix.mul_apply]
  by_cases hik : i = k
  · simp only [hik, if_true]
    rw [hB k j, Finset.sum_div]
    exact Finset.sum_congr rfl fun m _ => by ring
  · simp only [hik, if_false]
    rw [hB i j, hB k j, Finset.sum_div, Finset.mul_sum, ← Finset.sum_sub_distrib]
    exact Finset.sum_congr rfl fun m _ => by ring

theorem InvL.step {S B E : Matrix (Fin d) (Fin d) ℝ} {k : Fin d} (h : InvL S k.val B E) (hp : B k k ≠ 0) :
    InvL S (k.val + 1) (stepB k B B) (stepB k B E) := by
  refine ⟨stepB_mul k B E S h.prod, ?_⟩
  intro i j hj
  simp only [stepB]
  rcases Nat.lt_succ_iff_lt_or_eq.mp hj with hlt | heq
  · -- an already cleared column stays cleared: `B k j = 0`
    have hkj : B k j = 0 := by
      rw [h.left k j hlt, if_neg]
      intro hkj; rw [hkj] at hlt; exact lt_irrefl _ hlt
    by_cases hik : i = k
    · subst hik
      have : ¬ i = j := by intro hij; rw [hij] at hlt; exact lt_irrefl _ hlt
      simp [hkj, this]
    · simp [hik, hkj, h.left i j hlt]
  · have hjk : j = k := Fin.ext heq
    subst hjk
    by_cases hik : i = j
    · subst hik; simp [div_self hp]
    · simp [hik, div_self hp]

theorem InvR.step {B E : Matrix (Fin d) (Fin d) ℝ} {k : Fin d} (h : InvR k.val E) :
    InvR (k.val + 1) (stepB k B E) := by
  intro i j hi hj
  have hik : i ≠ k := by intro hik; rw [hik] at hi; omega
  have hkj : E k j = 0 := by
    rw [h k j le_rfl (by omega), if_neg]
    intro hkj; rw [← hkj] at hj; omega
  simp [stepB, hik, hkj, h i j (by omega) (by omega)]

theorem pivot_eq {S B E : Matrix (Fin d) (Fin d) ℝ} {k : Fin d} (hL : InvL S k.val B E) (hR : InvR k.val E) :
    B k k = (fun j => E k j) ⬝ᵥ (S *ᵥ fun j => E k j) := by
  have h1 : (fun j => E k j) ⬝ᵥ (S *ᵥ fun j => E k j) = ∑ j, B k j * E k j := by
    rw [hL.prod]
    simp only [dotProduct, mulVec, Matrix.mul_apply, Finset.mul_sum, Finset.sum_mul]
    rw [Finset.sum_comm]
    exact Finset.sum_congr rfl fun j _ => Finset.sum_congr rfl fun m _ => by ring
  rw [h1, Finset.sum_eq_single k]
  · rw [hR k k le_rfl le_rfl]; simp
  · intro j _ hjk
    rcases lt_or_gt_of_ne (fun h => hjk (Fin.ext h) : j.val ≠ k.val) with hlt | hgt
    · rw [hL.left k j hlt, if_neg (Ne.symm hjk)]; simp
    · rw [hR k j le_rfl hgt.le, if_neg (Ne.symm hjk)]; simp
  · intro h; exact absurd (Finset.mem_univ k) h

theorem pivot_pos {S B E : Matrix (Fin d) (Fin d) ℝ} {k : Fin d} (hS : S.PosDef) (hL : InvL S k.val B E)
    (hR : InvR k.val E) : 0 < B k k := by
  rw [pivot_eq hL hR]
  have hv : (fun j => E k j) ≠ 0 := fun h => one_ne_zero (α := ℝ) <| by
    have := congrFun h k
    rwa [hR k k le_rfl le_rfl, if_pos rfl] at this
  have := hS.dotProduct_mulVec_pos hv
  rwa [star_trivial] at this

theorem gj_succ (f k : ℕ) (M : Mat ℝ) : gj (f + 1) k M = (gjStep k M).bind (gj f (k + 1)) := rfl

theorem gj_posDef (S : Matrix (Fin d) (Fin d) ℝ) (hS : S.PosDef) :
    ∀ (f k : ℕ) (B E : Matrix (Fin d) (Fin d) ℝ), f + k = d → InvL S k B E → InvR k E →
      gj f k (aug B E) = some (aug 1 S⁻¹) := by
  intro f
  induction f with
  | zero =>
    intro k B E hk hL _
    have hB : B = 1 := ((Nat.zero_add k).symm.trans hk ▸ hL).eq_one
    have hE : S⁻¹ = E := Matrix.inv_eq_left_inv (by rw [← hL.prod, hB])
    simp [gj, hB, hE]
  | succ f ih =>
    intro k B E hk hL hR
    have hkd : k < d := by omega
    have e : k = (⟨k, hkd⟩ : Fin d).val := rfl
    rw [gj_succ, e, gjStep_aug ⟨k, hkd⟩ B E, if_pos (pivot_pos hS hL hR)]
    simp only [Option.bind_some]
    exact ih (k + 1) _ _ (by omega) (InvL.step (k := ⟨k, hkd⟩) hL (pivot_pos (k := ⟨k, hkd⟩) hS hL hR).ne') (InvR.step (k := ⟨k, hkd⟩) hR)

theorem gj_some (S : Matrix (Fin d) (Fin d) ℝ) :
    ∀ (f k : ℕ) (B E : Matrix (Fin d) (Fin d) ℝ) (M : Mat ℝ), f + k = d → InvL S k B E →
      gj f k (aug B E) = some M → ∃ E' : Matrix (Fin d) (Fin d) ℝ, M = aug 1 E' ∧ E' * S = 1 := by
  intro f
  induction f with
  | zero =>
    intro k B E M hk hL h
    have hB : B = 1 := ((Nat.zero_add k).symm.trans hk ▸ hL).eq_one
    simp only [gj, Option.some.injEq] at h
    exact ⟨E, by rw [← h, hB], by rw [← hL.prod, hB]⟩
  | succ f ih =>
    intro k B E M hk hL h
    have hkd : k < d := by omega
    have e : k = (⟨k, hkd⟩ : Fin d).val := rfl
    rw [gj_succ, e, gjStep_aug ⟨k, hkd⟩ B E] at h
    by_cases hp : 0 < B ⟨k, hkd⟩ ⟨k, hkd⟩
    · rw [if_pos hp] at h
      simp only [Option.bind_some] at h
      exact ih (k + 1) _ _ M (by omega) (InvL.step (k := ⟨k, hkd⟩) hL hp.ne') h
    · rw [if_neg hp] at h
      simp at h

theorem identRow_eq (i : Fin d) : (identRow d i.val : List ℝ) = List.ofFn fun j : Fin d => (1 : Matrix (Fin d) (Fin d) ℝ) i j := by
  unfold identRow
  apply List.ext_getElem
  · simp
  · intro j h1 h2
    simp only [List.getElem_map, List.getElem_range, List.getElem_ofFn, Matrix.one_apply, ScReal.one_def, ScReal.zero_def]
    by_cases h : j = i.val
    · subst h; simp
    · have : ¬ i = ⟨j, by simpa using h2⟩ := fun hh => h (by rw [hh])
      simp [h, this]

/-- the list identity matrix of the models (`Model.VolVar.eye`, `Model.NpModes.eye`) -/
theorem range_map_identRow : (List.range d).map (identRow d) = matOf (1 : Matrix (Fin d) (Fin d) ℝ) := by
  apply List.ext_getElem
  · rw [List.length_map, List.length_range, length_matOf]
  · intro i h1 h2
    rw [List.getElem_map, List.getElem_range]
    exact (identRow_eq ⟨i, length_matOf (1 : Matrix (Fin d) (Fin d) ℝ) ▸ h2⟩).trans (List.getElem_ofFn h2).symm

theorem inv_matOf_unfold (S : Matrix (Fin d) (Fin d) ℝ) :
    inv (matOf S) = (gj d 0 (aug S 1)).map fun M => M.map (List.drop d) := by
  unfold Model.Student.inv
  simp only [length_matOf, matOf_all_length, if_true]
  congr 2
  unfold matOf aug
  rw [zipIdx_ofFn, List.map_ofFn]
  congr 1
  funext i
  simp only [Function.comp_apply, identRow_eq]

theorem aug_drop (B E : Matrix (Fin d) (Fin d) ℝ) : (aug B E).map (List.drop d) = matOf E := by
  unfold aug matOf
  rw [List.map_ofFn]
  congr 1
  funext i
  simp only [Function.comp_apply]
  rw [List.drop_left' (by simp)]

theorem inv_matOf_posDef (S : Matrix (Fin d) (Fin d) ℝ) (hS : S.PosDef) : inv (matOf S) = some (matOf S⁻¹) := by
  rw [inv_matOf_unfold, gj_posDef S hS d 0 S 1 (by omega) (InvL.start S) (by intro i j _ _; rw [Matrix.one_apply])]
  simp [aug_drop]

theorem inv_matOf_left_inverse (S : Matrix (Fin d) (Fin d) ℝ) (M : Mat ℝ) (h : inv (matOf S) = some M) :
    ∃ E : Matrix (Fin d) (Fin d) ℝ, M = matOf E ∧ E * S = 1 := by
  rw [inv_matOf_unfold] at h
  cases hg : gj d 0 (aug S 1) with
  | none => simp [hg] at h
  | some M' =>
    obtain ⟨E, hM', hE⟩ := gj_some S d 0 S 1 M' (by omega) (InvL.start S) hg
    rw [hg, Option.map_some, Option.some.injEq] at h
    exact ⟨E, by rw [← h, hM', aug_drop], hE⟩

theorem inv_matOf_eq (S : Matrix (Fin d) (Fin d) ℝ) (M : Mat ℝ) (h : inv (matOf S) = some M) : M = matOf S⁻¹ := by
  obtain ⟨E, rfl, hE⟩ := inv_matOf_left_inverse S M h
  rw [Matrix.inv_eq_left_inv hE]

theorem inv_matOf_some (S : Matrix (Fin d) (Fin d) ℝ) (M : Mat ℝ) (h : inv (matOf S) = some M) : IsUnit S.det := by
  obtain ⟨E, -, hE⟩ := inv_matOf_left_inverse S M h
  exact Matrix.isUnit_det_of_left_inverse hE

theorem inv_matOf_psd (S : Matrix (Fin d) (Fin d) ℝ) (hS : S.PosSemidef) :
    (inv (matOf S)).isSome = true ↔ S.PosDef := by
  constructor
  · intro h
    cases hi : inv (matOf S) with
    | none => simp [hi] at h
    | some M => exact hS.posDef_iff_isUnit.mpr ((Matrix.isUnit_iff_isUnit_det _).mpr (inv_matOf_some S M hi))
  · intro h; rw [inv_matOf_posDef S h]; rfl

theorem inv_matOf_none (S : Matrix (Fin d) (Fin d) ℝ) (hS : S.PosSemidef) (hn : ¬ S.PosDef) : inv (matOf S) = none :=
  Option.not_isSome_iff_eq_none.mp fun h => hn ((inv_matOf_psd S hS).mp h)

end Lemmas.GaussJordan
