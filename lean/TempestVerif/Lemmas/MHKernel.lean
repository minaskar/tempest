import Mathlib.Probability.Kernel.Invariance
import Mathlib.Probability.Kernel.WithDensity
import Mathlib.Probability.Kernel.Basic
import Mathlib.MeasureTheory.Measure.Prod
import Mathlib.MeasureTheory.Measure.Lebesgue.Basic
/-
  Metropolis–Hastings kernels on a general measurable space (C03, clause 14: "detailed balance ⇒ the law is unchanged").
  `μ` is an s-finite reference measure.  A jointly measurable SUB-density `k x y` (= proposal density × acceptance probability)
  with `∫ k x y dμ(y) ≤ 1` gives

      K(x, B) = ∫_B k x y dμ(y)  +  (1 − ∫ k x y dμ(y)) · 1_B(x)          -- move, or stay with the rejection mass

  Pointwise detailed balance `p x · k x y = p y · k y x` makes `K` reversible (Mathlib's `Kernel.IsReversible`; Tonelli, the
  rejection part is symmetric by itself) and hence invariant for `μ.withDensity p`.  The code realises `K` as: build a candidate
  from random tapes, draw `r ~ U[0,1)`, accept iff `r < a`.  `tapeStep_invariant` puts the two together.  Last, two ways to the
  density of a candidate: a mixture over a first tape, and a random walk folded into a box (`foldedStep_invariant`).
-/
namespace Lemmas.MHKernel
open MeasureTheory ProbabilityTheory Set
open scoped ENNReal

/-! ### the weights: acceptance probability and pointwise detailed balance -/

section Weights
variable {X : Type*}

/-- the Metropolis–Hastings weight in symmetric form: the `min` on the right is unchanged when the two states change places -/
theorem mh_weight (px py tx ty : ℝ) (hpx : 0 < px) (htx : 0 < tx) :
    px * min 1 (py * tx / (px * ty)) = tx * min (px / tx) (py / ty) := by
  rw [mul_min_of_nonneg _ _ hpx.le, mul_min_of_nonneg _ _ htx.le, mul_one, mul_div_cancel₀ px htx.ne', ← mul_div_assoc px,
    mul_div_mul_left _ _ hpx.ne', mul_comm py, mul_div_assoc]

/-- the weight algebra of Metropolis–Hastings in `ℝ≥0∞`: if the proposal density is reversible w.r.t. a reference weight `t`
    (`t x · Q(x,y) = t y · Q(y,x)`), the acceptance `min 1 (π(y) t(x) / (π(x) t(y)))` makes the flow symmetric -/
theorem mh_flow_symm (px py tx ty : ℝ) (hpx : 0 < px) (hpy : 0 < py) (htx : 0 < tx) (hty : 0 < ty) (Qxy Qyx : ℝ≥0∞)
    (hrev : ENNReal.ofReal tx * Qxy = ENNReal.ofReal ty * Qyx) :
    ENNReal.ofReal px * (Qxy * ENNReal.ofReal (min 1 (py * tx / (px * ty))))
      = ENNReal.ofReal py * (Qyx * ENNReal.ofReal (min 1 (px * ty / (py * tx)))) := by
  -- each side is the symmetric weight times the reference flow
  have h : ∀ (p p' t t' : ℝ) (Q : ℝ≥0∞), 0 < p → 0 < t →
      ENNReal.ofReal p * (Q * ENNReal.ofReal (min 1 (p' * t / (p * t'))))
        = ENNReal.ofReal (min (p / t) (p' / t')) * (ENNReal.ofReal t * Q) := by
    intro p p' t t' Q hp ht
    rw [mul_left_comm, ← ENNReal.ofReal_mul hp.le, mh_weight p p' t t' hp ht, ENNReal.ofReal_mul ht.le]; ring
  rw [h px py tx ty Qxy hpx htx, h py px ty tx Qyx hpy hty, hrev, min_comm]

/-- the acceptance probability of `BaseMCMCRunner.run` as a function of the current point and the candidate:
    `minimum(1, exp(ρ))` with `alpha[~in_bounds] = 0` (`D` = what `check_bounds` lets through) -/
noncomputable def mhAccept (D : Set X) (ρ : X → X → ℝ) (x c : X) : ℝ :=
  open Classical in if c ∈ D then min 1 (Real.exp (ρ x c)) else 0

theorem mhAccept_of_mem {D : Set X} {c : X} (hc : c ∈ D) (ρ : X → X → ℝ) (x : X) :
    mhAccept D ρ x c = min 1 (Real.exp (ρ x c)) := if_pos hc

theorem mhAccept_of_notMem {D : Set X} {c : X} (hc : c ∉ D) (ρ : X → X → ℝ) (x : X) : mhAccept D ρ x c = 0 := if_neg hc

theorem mhAccept_nonneg (D : Set X) (ρ : X → X → ℝ) (x c : X) : 0 ≤ mhAccept D ρ x c := by
  unfold mhAccept; split
  · exact le_min zero_le_one (Real.exp_pos _).le
  · exact le_rfl

theorem mhAccept_le_one (D : Set X) (ρ : X → X → ℝ) (x c : X) : mhAccept D ρ x c ≤ 1 := by
  unfold mhAccept; split
  · exact min_le_left _ _
  · exact zero_le_one

theorem mh_detailed_balance {D : Set X} {π t : X → ℝ} (hπ : ∀ x, 0 < π x) (ht : ∀ x ∈ D, 0 < t x) {q : X → X → ℝ≥0∞}
    {a : X → X → ℝ} (hq : ∀ x ∈ D, ∀ y ∈ D, ENNReal.ofReal (t x) * q x y = ENNReal.ofReal (t y) * q y x)
    (ha : ∀ x ∈ D, ∀ y ∈ D, a x y = min 1 (π y * t x / (π x * t y)))
    (hout : ∀ x y, y ∉ D → q x y * ENNReal.ofReal (a x y) = 0) (x y : X) :
    ENNReal.ofReal (D.indicator π x) * (q x y * ENNReal.ofReal (a x y))
      = ENNReal.ofReal (D.indicator π y) * (q y x * ENNReal.ofReal (a y x)) := by
  by_cases hx : x ∈ D
  · by_cases hy : y ∈ D
    · rw [indicator_of_mem hx, indicator_of_mem hy, ha x hx y hy, ha y hy x hx]
      exact mh_flow_symm _ _ _ _ (hπ x) (hπ y) (ht x hx) (ht y hy) _ _ (hq x hx y hy)
    · rw [hout x y hy, indicator_of_notMem hy, ENNReal.ofReal_zero, mul_zero, zero_mul]
  · rw [hout y x hx, indicator_of_notMem hx, ENNReal.ofReal_zero, mul_zero, zero_mul]

theorem tempered_metropolis_detailed_balance {D E : Set X} (hDE : D ⊆ E) (ℓ : X → ℝ) (β : ℝ) {q : X → X → ℝ≥0∞}
    (hq : ∀ x ∈ D, ∀ y ∈ D, q x y = q y x) (hout : ∀ x y, y ∈ E → y ∉ D → q x y = 0) (x y : X) :
    ENNReal.ofReal (D.indicator (fun x => Real.exp (β * ℓ x)) x)
        * (q x y * ENNReal.ofReal (mhAccept E (fun x c => β * (ℓ c - ℓ x)) x y))
      = ENNReal.ofReal (D.indicator (fun x => Real.exp (β * ℓ x)) y)
        * (q y x * ENNReal.ofReal (mhAccept E (fun x c => β * (ℓ c - ℓ x)) y x)) :=
  mh_detailed_balance (t := fun _ => 1) (fun _ => Real.exp_pos _) (fun _ _ => one_pos)
    (fun x hx y hy => by rw [hq x hx y hy])
    (fun x _ y hy => by rw [mhAccept_of_mem (hDE hy), mul_one, mul_one, ← Real.exp_sub, mul_sub])
    (fun x y hy => by
      by_cases hE : y ∈ E
      · rw [hout x y hE hy, zero_mul]
      · rw [mhAccept_of_notMem hE, ENNReal.ofReal_zero, mul_zero]) x y

end Weights

variable {X : Type*} [MeasurableSpace X]

theorem measurable_mhAccept {D : Set X} (hD : MeasurableSet D) {ρ : X → X → ℝ} (hρ : Measurable (Function.uncurry ρ)) :
    Measurable (Function.uncurry (mhAccept D ρ)) :=
  Measurable.ite (measurable_snd hD) (measurable_const.min (Real.measurable_exp.comp hρ)) measurable_const

theorem measurable_logRatio {ℓ : X → ℝ} (hℓ : Measurable ℓ) (β : ℝ) :
    Measurable (Function.uncurry fun x c => β * (ℓ c - ℓ x)) :=
  ((hℓ.comp measurable_snd).sub (hℓ.comp measurable_fst)).const_mul β

theorem measurable_temperedDensity {D : Set X} (hD : MeasurableSet D) {ℓ : X → ℝ} (hℓ : Measurable ℓ) (β : ℝ) :
    Measurable fun x => ENNReal.ofReal (D.indicator (fun x => Real.exp (β * ℓ x)) x) :=
  ENNReal.measurable_ofReal.comp ((Real.measurable_exp.comp (hℓ.const_mul β)).indicator hD)

/-! ### the kernel, reversibility, invariance -/

noncomputable def moveMass (μ : Measure X) (k : X → X → ℝ≥0∞) (x : X) : ℝ≥0∞ := ∫⁻ y, k x y ∂μ

theorem measurable_moveMass (μ : Measure X) [SFinite μ] {k : X → X → ℝ≥0∞} (hk : Measurable (Function.uncurry k)) :
    Measurable (moveMass μ k) :=
  Measurable.lintegral_prod_right' hk

theorem moveMass_le_one (μ : Measure X) {q : X → X → ℝ≥0∞} (hq1 : ∀ x, ∫⁻ y, q x y ∂μ = 1) {a : X → X → ℝ}
    (h1 : ∀ x y, a x y ≤ 1) (x : X) : moveMass μ (fun x y => q x y * ENNReal.ofReal (a x y)) x ≤ 1 := by
  unfold moveMass
  calc ∫⁻ y, q x y * ENNReal.ofReal (a x y) ∂μ ≤ ∫⁻ y, q x y ∂μ := by
        refine lintegral_mono fun y => ?_
        calc q x y * ENNReal.ofReal (a x y) ≤ q x y * 1 := by
              gcongr; simpa using ENNReal.ofReal_le_ofReal (h1 x y)
          _ = q x y := mul_one _
    _ = 1 := hq1 x

noncomputable def mhKernel (μ : Measure X) [SFinite μ] (k : X → X → ℝ≥0∞) : Kernel X X :=
  Kernel.withDensity (Kernel.const X μ) k + Kernel.withDensity Kernel.id (fun x _ => 1 - moveMass μ k x)

theorem mhKernel_apply (μ : Measure X) [SFinite μ] {k : X → X → ℝ≥0∞} (hk : Measurable (Function.uncurry k))
    (x : X) {B : Set X} (hB : MeasurableSet B) :
    mhKernel μ k x B = ∫⁻ y in B, k x y ∂μ + (1 - moveMass μ k x) * B.indicator 1 x := by
  have hr : Measurable (Function.uncurry fun (x : X) (_ : X) => 1 - moveMass μ k x) :=
    (measurable_const.sub (measurable_moveMass μ hk)).comp measurable_fst
  unfold mhKernel
  rw [FunLike.coe_add, Pi.add_apply, Measure.add_apply, Kernel.withDensity_apply' _ hk,
    Kernel.withDensity_apply' _ hr, Kernel.const_apply, Kernel.id_apply, setLIntegral_const,
    Measure.dirac_apply' _ hB]

theorem mhKernel_isMarkov (μ : Measure X) [SFinite μ] {k : X → X → ℝ≥0∞} (hk : Measurable (Function.uncurry k))
    (hm : ∀ x, moveMass μ k x ≤ 1) : IsMarkovKernel (mhKernel μ k) := by
  refine ⟨fun x => ⟨?_⟩⟩
  rw [mhKernel_apply μ hk x MeasurableSet.univ]
  simp only [Measure.restrict_univ, indicator_univ, Pi.one_apply, mul_one]
  exact add_tsub_cancel_of_le (hm x)

theorem mhKernel_flow (μ : Measure X) [SFinite μ] {k : X → X → ℝ≥0∞} (hk : Measurable (Function.uncurry k))
    {p : X → ℝ≥0∞} (hp : Measurable p) {A B : Set X} (hA : MeasurableSet A) (hB : MeasurableSet B) :
    ∫⁻ x in A, mhKernel μ k x B ∂(μ.withDensity p)
      = ∫⁻ x in A, ∫⁻ y in B, p x * k x y ∂μ ∂μ + ∫⁻ x in A ∩ B, p x * (1 - moveMass μ k x) ∂μ := by
  have hmm := measurable_moveMass μ hk
  have hkx : ∀ x, Measurable (k x) := fun x => hk.of_uncurry_left
  have hm1 : Measurable fun x => ∫⁻ y in B, k x y ∂μ := Measurable.lintegral_prod_right' (ν := μ.restrict B) hk
  have hm2 : Measurable (B.indicator fun x => 1 - moveMass μ k x) := (measurable_const.sub hmm).indicator hB
  have h1 : ∀ x, mhKernel μ k x B
      = ((fun x => ∫⁻ y in B, k x y ∂μ) + B.indicator fun x => 1 - moveMass μ k x) x := by
    intro x
    rw [mhKernel_apply μ hk x hB, Pi.add_apply]
    by_cases hx : x ∈ B
    · rw [indicator_of_mem hx, indicator_of_mem hx, Pi.one_apply, mul_one]
    · rw [indicator_of_notMem hx, indicator_of_notMem hx, mul_zero]
  simp_rw [h1]
  rw [setLIntegral_withDensity_eq_setLIntegral_mul μ hp (hm1.add hm2) hA]
  simp only [Pi.mul_apply, Pi.add_apply, mul_add]
  rw [lintegral_add_left (μ := μ.restrict A) (f := fun x => p x * ∫⁻ y in B, k x y ∂μ) (hp.mul hm1)]
  congr 1
  · refine lintegral_congr fun x => ?_
    rw [lintegral_const_mul _ (hkx x)]
  · have : (fun x => p x * B.indicator (fun x => 1 - moveMass μ k x) x)
        = B.indicator fun x => p x * (1 - moveMass μ k x) := by
      funext x
      by_cases hx : x ∈ B
      · rw [indicator_of_mem hx, indicator_of_mem hx]
      · rw [indicator_of_notMem hx, indicator_of_notMem hx, mul_zero]
    rw [this, lintegral_indicator hB, Measure.restrict_restrict hB, inter_comm]

theorem mhKernel_reversible (μ : Measure X) [SFinite μ] {k : X → X → ℝ≥0∞} (hk : Measurable (Function.uncurry k))
    {p : X → ℝ≥0∞} (hp : Measurable p) (hdb : ∀ x y, p x * k x y = p y * k y x) :
    Kernel.IsReversible (mhKernel μ k) (μ.withDensity p) := by
  intro A B hA hB
  rw [mhKernel_flow μ hk hp hA hB, mhKernel_flow μ hk hp hB hA, inter_comm B A]
  congr 1
  have hpk : Measurable (Function.uncurry fun x y => p x * k x y) := (hp.comp measurable_fst).mul hk
  calc ∫⁻ x in A, ∫⁻ y in B, p x * k x y ∂μ ∂μ
      = ∫⁻ y in B, ∫⁻ x in A, p x * k x y ∂μ ∂μ :=
        lintegral_lintegral_swap (μ := μ.restrict A) (ν := μ.restrict B) hpk.aemeasurable
    _ = ∫⁻ y in B, ∫⁻ x in A, p y * k y x ∂μ ∂μ := by simp_rw [hdb]

theorem mhKernel_invariant (μ : Measure X) [SFinite μ] {k : X → X → ℝ≥0∞} (hk : Measurable (Function.uncurry k))
    (hm : ∀ x, moveMass μ k x ≤ 1) {p : X → ℝ≥0∞} (hp : Measurable p) (hdb : ∀ x y, p x * k x y = p y * k y x) :
    Kernel.Invariant (mhKernel μ k) (μ.withDensity p) := by
  have := mhKernel_isMarkov μ hk hm
  exact (mhKernel_reversible μ hk hp hdb).invariant

/-! ### the kernel as the code implements it: propose, draw a uniform, accept when `r < a` -/

/-- the law of `np.random.rand()`: uniform on `[0, 1)` -/
noncomputable def unif : Measure ℝ := volume.restrict (Ico 0 1)

instance : IsProbabilityMeasure unif :=
  ⟨by rw [unif, Measure.restrict_apply_univ, Real.volume_Ico, sub_zero, ENNReal.ofReal_one]⟩

theorem unif_Iio {t : ℝ} (h1 : t ≤ 1) : unif (Iio t) = ENNReal.ofReal t := by
  unfold unif
  rw [Measure.restrict_apply measurableSet_Iio]
  have : Iio t ∩ Ico 0 1 = Ico 0 t := by
    ext r; simp only [mem_inter_iff, mem_Iio, mem_Ico]; constructor
    · rintro ⟨h, h2, -⟩; exact ⟨h2, h⟩
    · rintro ⟨h2, h⟩; exact ⟨h, h2, lt_of_lt_of_le h h1⟩
  rw [this, Real.volume_Ico, sub_zero]

theorem unif_Ici {t : ℝ} (h0 : 0 ≤ t) : unif (Ici t) = ENNReal.ofReal (1 - t) := by
  unfold unif
  rw [Measure.restrict_apply measurableSet_Ici]
  have : Ici t ∩ Ico 0 1 = Ico t 1 := by
    ext r; simp only [mem_inter_iff, mem_Ici, mem_Ico]; constructor
    · rintro ⟨h, -, h2⟩; exact ⟨h, h2⟩
    · rintro ⟨h, h2⟩; exact ⟨h, le_trans h0 h, h2⟩
  rw [this, Real.volume_Ico]

/-- `w` = (proposal, uniform draw) -/
noncomputable def acceptReject (x : X) (a : X → ℝ) (w : X × ℝ) : X := if w.2 < a w.1 then w.1 else x

theorem measurable_acceptReject (x : X) {a : X → ℝ} (ha : Measurable a) : Measurable (acceptReject x a) :=
  Measurable.ite (measurableSet_lt measurable_snd (ha.comp measurable_fst)) measurable_fst measurable_const

omit [MeasurableSpace X] in
theorem acceptReject_mhAccept (D : Set X) (ρ : X → X → ℝ) (x c : X) {r : ℝ} (hr : 0 ≤ r) :
    acceptReject x (mhAccept D ρ x) (c, r)
      = open Classical in if c ∈ D ∧ r < min 1 (Real.exp (ρ x c)) then c else x := by
  unfold acceptReject mhAccept
  by_cases hc : c ∈ D
  · simp only [hc, if_true, true_and]
  · simp only [hc, if_false, false_and, not_lt.2 hr]

theorem acceptReject_law (Q : Measure X) [SFinite Q] (x : X) {a : X → ℝ} (ha : Measurable a) (h0 : ∀ y, 0 ≤ a y)
    (h1 : ∀ y, a y ≤ 1) {B : Set X} (hB : MeasurableSet B) :
    (Q.prod unif).map (acceptReject x a) B
      = ∫⁻ y in B, ENNReal.ofReal (a y) ∂Q + (∫⁻ y, ENNReal.ofReal (1 - a y) ∂Q) * B.indicator 1 x := by
  rw [Measure.map_apply (measurable_acceptReject x ha) hB,
    Measure.prod_apply ((measurable_acceptReject x ha) hB)]
  have hsec : ∀ y, unif (Prod.mk y ⁻¹' (acceptReject x a ⁻¹' B))
      = B.indicator (fun y => ENNReal.ofReal (a y)) y + ENNReal.ofReal (1 - a y) * B.indicator 1 x := by
    intro y
    by_cases hy : y ∈ B <;> by_cases hx : x ∈ B
    · have : Prod.mk y ⁻¹' (acceptReject x a ⁻¹' B) = univ := by
        ext r; simp only [mem_preimage, acceptReject, mem_univ, iff_true]; split <;> assumption
      rw [this, measure_univ]
      simp only [hy, hx, indicator_of_mem, Pi.one_apply, mul_one]
      rw [← ENNReal.ofReal_add (h0 y) (sub_nonneg.2 (h1 y))]; simp
    · have : Prod.mk y ⁻¹' (acceptReject x a ⁻¹' B) = Iio (a y) := by
        ext r; simp only [mem_preimage, acceptReject, mem_Iio]
        by_cases h : r < a y <;> simp [h, hy, hx]
      rw [this, unif_Iio (h1 y)]; simp [hy, hx]
    · have : Prod.mk y ⁻¹' (acceptReject x a ⁻¹' B) = Ici (a y) := by
        ext r; simp only [mem_preimage, acceptReject, mem_Ici]
        by_cases h : r < a y <;> simp [h, hy, hx, not_le.2, not_lt.1]
      rw [this, unif_Ici (h0 y)]; simp [hy, hx]
    · have : Prod.mk y ⁻¹' (acceptReject x a ⁻¹' B) = ∅ := by
        ext r; simp only [mem_preimage, acceptReject, mem_empty_iff_false, iff_false]; split <;> assumption
      rw [this, measure_empty]; simp [hy, hx]
  simp_rw [hsec]
  have hm : Measurable fun y => ENNReal.ofReal (a y) := ENNReal.measurable_ofReal.comp ha
  have hfin : B.indicator (1 : X → ℝ≥0∞) x ≠ ∞ := by by_cases hx : x ∈ B <;> simp [hx]
  rw [lintegral_add_left (hm.indicator hB), lintegral_indicator hB, lintegral_mul_const' _ _ hfin]

noncomputable def acceptRejectLe (x : X) (a : X → ℝ) (w : X × ℝ) : X := if w.2 ≤ a w.1 then w.1 else x

/-- the comparison `u_rand < alpha` may be written `<=` without changing the LAW of the step: the uniform draw has no atom,
    so the two decisions differ on a null set of tapes (the reason a `<` ↔ `<=` edit of the code is an equivalent mutant) -/
theorem acceptRejectLe_law (Q : Measure X) [SFinite Q] (x : X) {a : X → ℝ} (ha : Measurable a) :
    (Q.prod unif).map (acceptRejectLe x a) = (Q.prod unif).map (acceptReject x a) := by
  refine Measure.map_congr ?_
  have hgraph : MeasurableSet {w : X × ℝ | w.2 = a w.1} :=
    measurableSet_eq_fun measurable_snd (ha.comp measurable_fst)
  have : NullSingletonClass unif := by unfold unif; infer_instance
  have hae : ∀ᵐ w ∂(Q.prod unif), w.2 ≠ a w.1 :=
    measure_eq_zero_iff_ae_notMem.1 ((Measure.measure_prod_null hgraph).2
      (Filter.Eventually.of_forall fun y => measure_singleton (a y)))
  refine hae.mono fun w hw => ?_
  unfold acceptRejectLe acceptReject
  by_cases h : w.2 < a w.1
  · simp [h, h.le]
  · have : ¬ w.2 ≤ a w.1 := fun hle => h (lt_of_le_of_ne hle hw)
    simp [h, this]

theorem acceptReject_eq_mhKernel (μ : Measure X) [SFinite μ] {q : X → X → ℝ≥0∞} (hq : Measurable (Function.uncurry q))
    (hq1 : ∀ x, ∫⁻ y, q x y ∂μ = 1) {a : X → X → ℝ} (ha : Measurable (Function.uncurry a)) (h0 : ∀ x y, 0 ≤ a x y)
    (h1 : ∀ x y, a x y ≤ 1) (x : X) :
    ((μ.withDensity (q x)).prod unif).map (acceptReject x (a x))
      = mhKernel μ (fun x y => q x y * ENNReal.ofReal (a x y)) x := by
  have hax : Measurable (a x) := ha.of_uncurry_left
  have hqx : Measurable (q x) := hq.of_uncurry_left
  have hk : Measurable (Function.uncurry fun x y => q x y * ENNReal.ofReal (a x y)) :=
    hq.mul (ENNReal.measurable_ofReal.comp ha)
  have hfin : IsProbabilityMeasure (μ.withDensity (q x)) :=
    ⟨by rw [withDensity_apply _ MeasurableSet.univ, Measure.restrict_univ, hq1 x]⟩
  ext B hB
  rw [acceptReject_law _ x hax (h0 x) (h1 x) hB, mhKernel_apply μ hk x hB]
  have hm : Measurable fun y => ENNReal.ofReal (a x y) := ENNReal.measurable_ofReal.comp hax
  have eA : ∫⁻ y in B, ENNReal.ofReal (a x y) ∂(μ.withDensity (q x))
      = ∫⁻ y in B, q x y * ENNReal.ofReal (a x y) ∂μ := by
    rw [setLIntegral_withDensity_eq_setLIntegral_mul μ hqx hm hB]; rfl
  rw [eA]
  congr 2
  · have e1 : ∀ y, ENNReal.ofReal (1 - a x y) = 1 - ENNReal.ofReal (a x y) := by
      intro y; rw [ENNReal.ofReal_sub _ (h0 x y), ENNReal.ofReal_one]
    simp_rw [e1]
    have hle : ∀ y, ENNReal.ofReal (a x y) ≤ 1 := fun y =>
      (ENNReal.ofReal_le_ofReal (h1 x y)).trans_eq ENNReal.ofReal_one
    have hint : ∫⁻ y, ENNReal.ofReal (a x y) ∂(μ.withDensity (q x)) ≠ ∞ :=
      ((lintegral_mono hle).trans_lt (by rw [lintegral_one, measure_univ]; exact ENNReal.one_lt_top)).ne
    rw [lintegral_sub hm hint (Filter.Eventually.of_forall hle), lintegral_one, measure_univ]
    congr 1
    unfold moveMass
    rw [lintegral_withDensity_eq_lintegral_mul μ hqx hm]; rfl

/-! ### a step driven by tapes: its law, and invariance -/

theorem tapeStep_law {T : Type*} [MeasurableSpace T] (τ : Measure T) [SFinite τ] {c : T → X} (hc : Measurable c) (x : X)
    {a : X → ℝ} (ha : Measurable a) {F : T × ℝ → X}
    (hstep : ∀ t r, 0 ≤ r → F (t, r) = acceptReject x a (c t, r)) :
    (τ.prod unif).map F = ((τ.map c).prod unif).map (acceptReject x a) := by
  have h0 : ∀ᵐ w ∂(τ.prod unif), 0 ≤ w.2 :=
    Measure.quasiMeasurePreserving_snd.ae ((ae_restrict_mem measurableSet_Ico).mono fun r hr => hr.1)
  have hG : Measurable fun w : T × ℝ => acceptReject x a (c w.1, w.2) :=
    (measurable_acceptReject x ha).comp ((hc.comp measurable_fst).prodMk measurable_snd)
  have e1 : (τ.prod unif).map F = (τ.prod unif).map fun w => acceptReject x a (c w.1, w.2) :=
    Measure.map_congr (h0.mono fun w hw => hstep w.1 w.2 hw)
  have e2 : (τ.map c).prod unif = (τ.prod unif).map (Prod.map c id) := by
    have := Measure.map_prod_map τ unif hc measurable_id
    rw [Measure.map_id] at this
    exact this
  rw [e1, e2, Measure.map_map (measurable_acceptReject x ha) (hc.prodMap measurable_id)]
  rfl

theorem lintegral_eq_one_of_map_eq_withDensity {T : Type*} [MeasurableSpace T] {τ : Measure T} [IsProbabilityMeasure τ]
    {c : T → X} (hc : Measurable c) {μ : Measure X} {q : X → ℝ≥0∞} (h : τ.map c = μ.withDensity q) :
    ∫⁻ y, q y ∂μ = 1 := by
  rw [← setLIntegral_univ, ← withDensity_apply _ MeasurableSet.univ, ← h, Measure.map_apply hc MeasurableSet.univ,
    preimage_univ, measure_univ]

section TapeStep
variable (μ : Measure X) [SFinite μ] {T : Type*} [MeasurableSpace T] {τ : X → Measure T}
  (hτ : ∀ x, IsProbabilityMeasure (τ x)) {c : X → T → X} (hc : ∀ x, Measurable (c x))
  {q : X → X → ℝ≥0∞} (hq : Measurable (Function.uncurry q)) (hlaw : ∀ x, (τ x).map (c x) = μ.withDensity (q x))
  {a : X → X → ℝ} (ha : Measurable (Function.uncurry a)) (h0 : ∀ x y, 0 ≤ a x y) (h1 : ∀ x y, a x y ≤ 1)
  {F : X → T × ℝ → X} (hF : ∀ x t r, 0 ≤ r → F x (t, r) = acceptReject x (a x) (c x t, r))
include hτ hc hq hlaw ha h0 h1 hF

theorem tapeStep_eq_mhKernel (x : X) :
    ((τ x).prod unif).map (F x) = mhKernel μ (fun x y => q x y * ENNReal.ofReal (a x y)) x := by
  have := hτ x
  rw [tapeStep_law (τ x) (hc x) x ha.of_uncurry_left (hF x), hlaw x]
  exact acceptReject_eq_mhKernel μ hq
    (fun x => have := hτ x; lintegral_eq_one_of_map_eq_withDensity (hc x) (hlaw x)) ha h0 h1 x

theorem tapeStep_invariant {p : X → ℝ≥0∞} (hp : Measurable p)
    (hdb : ∀ x y, p x * (q x y * ENNReal.ofReal (a x y)) = p y * (q y x * ENNReal.ofReal (a y x))) :
    (μ.withDensity p).bind (fun x => ((τ x).prod unif).map (F x)) = μ.withDensity p := by
  have hk : Measurable (Function.uncurry fun x y => q x y * ENNReal.ofReal (a x y)) :=
    hq.mul (ENNReal.measurable_ofReal.comp ha)
  rw [funext (tapeStep_eq_mhKernel μ hτ hc hq hlaw ha h0 h1 hF)]
  exact mhKernel_invariant μ hk
    (moveMass_le_one μ (fun x => have := hτ x; lintegral_eq_one_of_map_eq_withDensity (hc x) (hlaw x)) h1) hp hdb

end TapeStep

/-! ### the density of a candidate: a mixture over the first tape; a fold of a random walk -/

/-- **a mixture of laws with densities has the mixed density**: the first tape `g` has density `w` w.r.t. `γ`, and for (almost)
    every `g` of positive weight the candidate `c (g, z)`, `z ~ N`, has density `φ g` w.r.t. `μ`; then the candidate built from both
    tapes has density `y ↦ ∫ w g · φ g y dγ(g)` (Tonelli, no change of variables) -/
theorem map_prod_withDensity {G Z : Type*} [MeasurableSpace G] [MeasurableSpace Z] (γ : Measure G) [SFinite γ]
    {w : G → ℝ≥0∞} (hw : Measurable w) (N : Measure Z) [SFinite N] (μ : Measure X) [SFinite μ] {c : G × Z → X}
    (hc : Measurable c) {φ : G → X → ℝ≥0∞} (hφ : Measurable (Function.uncurry φ))
    (hsec : ∀ᵐ g ∂γ, w g ≠ 0 → N.map (fun z => c (g, z)) = μ.withDensity (φ g)) :
    ((γ.withDensity w).prod N).map c = μ.withDensity fun y => ∫⁻ g, w g * φ g y ∂γ := by
  ext B hB
  rw [Measure.map_apply hc hB, Measure.prod_apply (hc hB), withDensity_apply _ hB,
    lintegral_withDensity_eq_lintegral_mul _ hw (measurable_measure_prodMk_left (hc hB)),
    lintegral_lintegral_swap (μ := μ.restrict B) (ν := γ) (f := fun y g => w g * φ g y)
      ((hw.comp measurable_snd).mul (hφ.comp measurable_swap)).aemeasurable]
  refine lintegral_congr_ae (hsec.mono fun g hg => ?_)
  change w g * N (Prod.mk g ⁻¹' (c ⁻¹' B)) = ∫⁻ y in B, w g * φ g y ∂μ
  rw [lintegral_const_mul _ hφ.of_uncurry_left]
  by_cases h0 : w g = 0
  · rw [h0, zero_mul, zero_mul]
  · rw [← withDensity_apply _ hB, ← hg h0, Measure.map_apply (f := fun z => c (g, z)) (hc.comp measurable_prodMk_left) hB]
    rfl

theorem map_withDensity_of_lintegral {α β : Type*} [MeasurableSpace α] [MeasurableSpace β] {μ : Measure α} {ν : Measure β}
    {T : α → β} (hT : Measurable T) {f : α → ℝ≥0∞} {h : β → ℝ≥0∞}
    (H : ∀ B, MeasurableSet B → ∫⁻ x, B.indicator 1 (T x) * f x ∂μ = ∫⁻ y, B.indicator 1 y * h y ∂ν) :
    (μ.withDensity f).map T = ν.withDensity h := by
  ext B hB
  rw [Measure.map_apply hT hB, withDensity_apply _ (hT hB), withDensity_apply _ hB, ← lintegral_indicator (hT hB),
    ← lintegral_indicator hB]
  calc ∫⁻ x, (T ⁻¹' B).indicator f x ∂μ
      = ∫⁻ x, B.indicator 1 (T x) * f x ∂μ :=
        lintegral_congr fun x => by by_cases hx : T x ∈ B <;> simp [hx]
    _ = ∫⁻ y, B.indicator 1 y * h y ∂ν := H B hB
    _ = ∫⁻ y, B.indicator h y ∂ν := lintegral_congr fun y => by by_cases hy : y ∈ B <;> simp [hy]

theorem measurable_uncurry_indicator {α β : Type*} [MeasurableSpace α] [MeasurableSpace β] {s : Set β}
    (hs : MeasurableSet s) {f : α → β → ℝ≥0∞} (hf : Measurable (Function.uncurry f)) :
    Measurable (Function.uncurry fun x y => s.indicator (f x) y) := by
  have e : (Function.uncurry fun x y => s.indicator (f x) y) = (Prod.snd ⁻¹' s).indicator (Function.uncurry f) := by
    funext p; by_cases hp : p.2 ∈ s <;> simp [Function.uncurry, hp]
  rw [e]
  exact hf.indicator (measurable_snd hs)

/-- **a random-walk step on a folded space**: the candidate is `T (x + ξ)` for an increment `ξ = inc z` with density `k` and a
    fold `T` onto `box`; if integrating against the law of `T (x + ξ)` is integrating over `box` against a symmetric `K x`, the
    Metropolis step that rejects outside `E` leaves `exp (β ℓ) · 1_(box ∩ E) · μ` invariant -/
theorem foldedStep_invariant {Z : Type*} [Add X] [MeasurableAdd X] [MeasurableSpace Z] (μ : Measure X) [SFinite μ]
    (N : Measure Z) [IsProbabilityMeasure N] {inc : Z → X} (hinc : Measurable inc) {k : X → ℝ≥0∞}
    (hN : N.map inc = μ.withDensity k) {T : X → X} (hT : Measurable T) {box E D : Set X} (hbox : MeasurableSet box)
    (hE : MeasurableSet E) (hD : D = box ∩ E) {K : X → X → ℝ≥0∞} (hK : Measurable (Function.uncurry K))
    (hKs : ∀ x y, K x y = K y x)
    (hpush : ∀ x B, MeasurableSet B →
      ∫⁻ ξ, B.indicator 1 (T (x + ξ)) * k ξ ∂μ = ∫⁻ y in box, B.indicator 1 y * K x y ∂μ)
    {ℓ : X → ℝ} (hℓ : Measurable ℓ) (β : ℝ) {F : X → Z × ℝ → X}
    (hF : ∀ x z r, 0 ≤ r →
      F x (z, r) = acceptReject x (mhAccept E (fun x c => β * (ℓ c - ℓ x)) x) (T (x + inc z), r)) :
    (μ.withDensity fun x => ENNReal.ofReal (D.indicator (fun x => Real.exp (β * ℓ x)) x)).bind
        (fun x => (N.prod unif).map (F x))
      = μ.withDensity fun x => ENNReal.ofReal (D.indicator (fun x => Real.exp (β * ℓ x)) x) := by
  subst hD
  have hTx : ∀ x, Measurable fun ξ => T (x + ξ) := fun x => hT.comp (measurable_const_add x)
  refine tapeStep_invariant μ (τ := fun _ => N) (fun _ => inferInstance) (c := fun x z => T (x + inc z))
    (fun x => (hTx x).comp hinc) (q := fun x y => box.indicator (K x) y) (measurable_uncurry_indicator hbox hK)
    (fun x => ?_) (measurable_mhAccept hE (measurable_logRatio hℓ β)) (mhAccept_nonneg _ _) (mhAccept_le_one _ _) hF
    (measurable_temperedDensity (hbox.inter hE) hℓ β)
    (tempered_metropolis_detailed_balance inter_subset_right ℓ β
      (fun x hx y hy => by rw [indicator_of_mem hx.1, indicator_of_mem hy.1, hKs])
      fun x y hy hy' => indicator_of_notMem (fun hc => hy' ⟨hc, hy⟩) _)
  -- the law of the folded candidate: `hpush` on indicators
  rw [show (fun z => T (x + inc z)) = (fun ξ => T (x + ξ)) ∘ inc from rfl, ← Measure.map_map (hTx x) hinc, hN]
  refine map_withDensity_of_lintegral (hTx x) fun B hB => ?_
  rw [hpush x B hB, ← lintegral_indicator hbox]
  exact lintegral_congr fun y => indicator_mul_right _ _ _

end Lemmas.MHKernel
