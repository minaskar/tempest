import TempestVerif.Model.Boundary
import TempestVerif.Lemmas.ScReal
import TempestVerif.Lemmas.ScRound
import Mathlib.Logic.Function.Iterate
/-
  What `Model/Boundary.lean` computes: on arrays for every scalar type (coordinate `i` of `apply` is wrapped once per
  occurrence in `per`, then reflected once per occurrence in `refl`; `checkBounds` reads only the coordinates that are in
  neither list), and the two scalar maps at `ℝ` (`Int.fract` / the cell form of the triangle wave) and in rounded
  arithmetic (`RR r`).
-/
namespace Model.Boundary

/-! ### arrays, every scalar type -/
section arrays
variable {α : Type} [Sc α]

theorem foldl_modify_length {β : Type} (f : β → β) (l : List Nat) (u : List β) :
    (l.foldl (fun v i => v.modify i f) u).length = u.length := by
  induction l generalizing u with
  | nil => rfl
  | cons a l ih => rw [List.foldl_cons, ih, List.length_modify]

theorem foldl_modify_get_iter {β : Type} (f : β → β) (l : List Nat) (u : List β) (i : Nat) :
    (l.foldl (fun v j => v.modify j f) u)[i]? = (u[i]?).map (f^[l.count i]) := by
  induction l generalizing u with
  | nil => simp
  | cons a l ih =>
    rw [List.foldl_cons, ih, List.getElem?_modify]
    by_cases hai : a = i
    · subst hai; cases u[a]? <;> simp
    · cases u[i]? <;> simp [hai]

theorem apply_getElem? (per refl : List Nat) (u : List α) (i : Nat) :
    (apply per refl u)[i]? =
      (u[i]?).map (fun x => (reflect^[refl.count i]) ((periodic^[per.count i]) x)) := by
  unfold apply
  rw [foldl_modify_get_iter, foldl_modify_get_iter]
  cases u[i]? <;> rfl

theorem apply_untouched (per refl : List Nat) (u : List α) (i : Nat) (h1 : i ∉ per) (h2 : i ∉ refl) :
    (apply per refl u)[i]? = u[i]? := by
  rw [apply_getElem?, List.count_eq_zero_of_not_mem h1, List.count_eq_zero_of_not_mem h2]
  cases u[i]? <;> rfl

theorem apply_length (per refl : List Nat) (u : List α) : (apply per refl u).length = u.length := by
  unfold apply; rw [foldl_modify_length, foldl_modify_length]

theorem apply_nil (u : List α) : apply [] [] u = u := rfl

/-- the value of the map applied last: it has every property that all values of both maps have -/
theorem iterate_mem (P : α → Prop) (hper : ∀ x : α, P (periodic x)) (hrefl : ∀ x : α, P (reflect x))
    (m n : Nat) (h : 0 < m ∨ 0 < n) (x : α) : P ((reflect^[n]) ((periodic^[m]) x)) := by
  rcases Nat.eq_zero_or_pos n with rfl | hn
  · obtain ⟨m, rfl⟩ := Nat.exists_eq_succ_of_ne_zero (h.resolve_right (lt_irrefl 0)).ne'
    rw [Function.iterate_zero, id, Function.iterate_succ_apply']; exact hper _
  · obtain ⟨n, rfl⟩ := Nat.exists_eq_succ_of_ne_zero hn.ne'
    rw [Function.iterate_succ_apply']; exact hrefl _

theorem apply_mem (P : α → Prop) (hper : ∀ x : α, P (periodic x)) (hrefl : ∀ x : α, P (reflect x))
    (per refl : List Nat) (u : List α) (i : Nat) (y : α) (h : i ∈ per ∨ i ∈ refl)
    (hy : (apply per refl u)[i]? = some y) : P y := by
  rw [apply_getElem?] at hy
  obtain ⟨x, -, rfl⟩ := Option.map_eq_some_iff.mp hy
  exact iterate_mem P hper hrefl _ _ (h.imp List.count_pos_iff.mpr List.count_pos_iff.mpr) x

theorem checkBounds_iff (per refl : List Nat) (u : List α) :
    checkBounds per refl u = true ↔
      ∀ i, (hi : i < u.length) → i ∉ per → i ∉ refl → inUnit u[i] = true := by
  unfold checkBounds
  rw [List.all_eq_true]
  constructor
  · intro h i hi hp hr
    simpa [hp, hr, hi] using h i (List.mem_range.mpr hi)
  · intro h i hi
    have hi' := List.mem_range.mp hi
    by_cases hp : i ∈ per
    · simp [hp]
    · by_cases hr : i ∈ refl
      · simp [hr]
      · simp [hp, hr, hi', h i hi' hp hr]

/-- the check reads only coordinates the map leaves alone: folding first does not change its answer -/
theorem checkBounds_apply (per refl : List Nat) (u : List α) :
    checkBounds per refl (apply per refl u) = checkBounds per refl u := by
  unfold checkBounds
  rw [apply_length]
  refine List.all_congr rfl fun i => ?_
  by_cases hp : i ∈ per
  · simp [hp]
  · by_cases hr : i ∈ refl
    · simp [hr]
    · rw [apply_untouched per refl u i hp hr]

end arrays

/-! ### the scalar maps at `ℝ` -/

theorem periodic_eq_fract (x : ℝ) : periodic x = Int.fract x := by
  simp [periodic]

theorem periodic_range (x : ℝ) : 0 ≤ periodic x ∧ periodic x < 1 := by
  rw [periodic_eq_fract]; exact ⟨Int.fract_nonneg x, Int.fract_lt_one x⟩

theorem periodic_intCast_add (m : ℤ) {t : ℝ} (h0 : 0 ≤ t) (h1 : t < 1) : periodic (m + t) = t := by
  rw [periodic_eq_fract, Int.fract_intCast_add, Int.fract_eq_self.mpr ⟨h0, h1⟩]

theorem reflect_eq (x : ℝ) : reflect x = if ⌊x⌋ % 2 = 0 then Int.fract x else 1 - Int.fract x := by
  simp [reflect]

/-- the map on the cell `[n, n+1)`: every other property of `reflect` is read off this equation -/
theorem reflect_intCast_add (n : ℤ) {t : ℝ} (h0 : 0 ≤ t) (h1 : t < 1) :
    reflect (n + t) = if n % 2 = 0 then t else 1 - t := by
  rw [reflect_eq, Int.floor_intCast_add, Int.floor_eq_zero_iff.mpr ⟨h0, h1⟩, add_zero,
    Int.fract_intCast_add, Int.fract_eq_self.mpr ⟨h0, h1⟩]

theorem reflect_range (x : ℝ) : 0 ≤ reflect x ∧ reflect x ≤ 1 := by
  have h0 := Int.fract_nonneg x
  have h1 := Int.fract_lt_one x
  rw [reflect_eq]
  split
  · exact ⟨h0, h1.le⟩
  · exact ⟨sub_nonneg.mpr h1.le, sub_le_self 1 h0⟩

theorem inUnit_real (x : ℝ) : inUnit x = true ↔ 0 ≤ x ∧ x ≤ 1 := by
  simp [inUnit]

theorem checkBounds_iff_real (per refl : List Nat) (u : List ℝ) :
    checkBounds per refl u = true ↔
      ∀ i, (hi : i < u.length) → i ∉ per → i ∉ refl → 0 ≤ u[i] ∧ u[i] ≤ 1 := by
  simp only [checkBounds_iff, inUnit_real]

theorem checkBounds_ofFn_iff {d : ℕ} (per refl : List Nat) (y : Fin d → ℝ) :
    checkBounds per refl (List.ofFn y) = true ↔
      ∀ i : Fin d, i.val ∉ per → i.val ∉ refl → y i ∈ Set.Icc (0:ℝ) 1 := by
  rw [checkBounds_iff_real]
  constructor
  · intro h i hp hr
    have := h i.val (by rw [List.length_ofFn]; exact i.isLt) hp hr
    rwa [List.getElem_ofFn] at this
  · intro h i hi hp hr
    rw [List.getElem_ofFn]
    exact h ⟨i, by rwa [List.length_ofFn] at hi⟩ hp hr

/-! ### the scalar maps in rounded arithmetic -/
section rounded
variable {r : Rounding}

theorem periodic_val (z : RR r) : (periodic z).val = r.rnd (Int.fract z.val) := by
  simp [periodic]

theorem reflect_val (z : RR r) :
    (reflect z).val =
      if ⌊z.val⌋ % 2 = 0 then r.rnd (Int.fract z.val) else r.rnd (1 - r.rnd (Int.fract z.val)) := by
  unfold reflect
  by_cases h : ⌊z.val⌋ % 2 = 0 <;> simp [h]

theorem periodic_val_range (z : RR r) : 0 ≤ (periodic z).val ∧ (periodic z).val ≤ 1 := by
  rw [periodic_val]; exact r.rnd_unit (Int.fract_nonneg _) (Int.fract_lt_one _).le

theorem reflect_val_range (z : RR r) : 0 ≤ (reflect z).val ∧ (reflect z).val ≤ 1 := by
  rw [reflect_val]
  have hf := r.rnd_unit (Int.fract_nonneg z.val) (Int.fract_lt_one z.val).le
  split
  · exact hf
  · exact r.rnd_unit (sub_nonneg.mpr hf.2) (sub_le_self 1 hf.1)

end rounded

end Model.Boundary
