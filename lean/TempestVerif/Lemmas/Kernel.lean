import TempestVerif.Gen.Kernel
import TempestVerif.Model.Kernel
import TempestVerif.Lemmas.ScReal
import Mathlib.Analysis.SpecialFunctions.Exp
/-
  What `Model/Kernel.lean` (and the regenerated `Gen/Kernel.lean`) says, in the form the proofs use: the scalar expressions as real
  functions, the ensemble step by inversion, the fields of one walker's `step`.
-/
namespace Model.Kernel

/-! ### numpy helpers and the acceptance at ℝ -/

theorem gen_npMinimum (a b : ℝ) : Gen.Kernel.npMinimum a b = min a b := by
  unfold Gen.Kernel.npMinimum
  by_cases h : b < a <;> simp [h]
  · exact h.le
  · exact not_lt.mp h

theorem gen_nanToZero (a : ℝ) : Gen.Kernel.nanToZero a = a := by
  simp [Gen.Kernel.nanToZero]

theorem model_npMinimum (a b : ℝ) : npMinimum a b = min a b := gen_npMinimum a b

theorem model_nanToZero (a : ℝ) : nanToZero a = a := gen_nanToZero a

theorem model_acceptProb (beta l lp f : ℝ) : acceptProb beta l lp f = min 1 (Real.exp (beta * (lp - l) + f)) := by
  simp [acceptProb, model_npMinimum, model_nanToZero]

theorem gen_acceptProb (beta l lp f : ℝ) :
    Gen.Kernel.acceptProb beta l lp f = min 1 (Real.exp (beta * (lp - l) + f)) := by
  simp [Gen.Kernel.acceptProb, gen_npMinimum, gen_nanToZero]

theorem acceptProb_mem_unit (beta l lp f : ℝ) : 0 ≤ acceptProb beta l lp f ∧ acceptProb beta l lp f ≤ 1 := by
  rw [model_acceptProb]
  exact ⟨le_min zero_le_one (Real.exp_pos _).le, min_le_left _ _⟩

/-- `alpha[~in_bounds] = 0.0` -/
theorem alphaOutOfBounds_real (a : ℝ) : alphaOutOfBounds a = 0 := ScReal.zero_def

theorem gen_alphaOutOfBounds (a : ℝ) : Gen.Kernel.alphaOutOfBounds a = 0 := by
  rw [Gen.Kernel.alphaOutOfBounds, ScReal.ofNat_def, Nat.cast_zero]

theorem boundedAlpha_false (a : ℝ) : boundedAlpha false a = 0 := alphaOutOfBounds_real a

theorem model_gammaShape (d nu : ℝ) : gammaShape d nu = (d + nu) / 2 := by
  simp [gammaShape]

theorem model_gammaScale (nu dot : ℝ) : gammaScale nu dot = 2 / (nu + dot) := by
  simp [gammaScale]

theorem model_sFromGamma (g : ℝ) : sFromGamma g = 1 / g := by
  rw [sFromGamma, ScReal.div_def, ScReal.one_def]

theorem model_diffCoef (sigma : ℝ) : diffCoef sigma = √(1 - sigma * sigma) := by
  rw [diffCoef, ScReal.sqrt_def, ScReal.sub_def, ScReal.mul_def, ScReal.one_def]

theorem model_noiseScale (sigma s : ℝ) : noiseScale sigma s = sigma * √s := by
  rw [noiseScale, ScReal.mul_def, ScReal.sqrt_def]

/-- `-0.5 * (d + nu) * log(1 + dot / nu)` -/
theorem model_logT (d nu dot : ℝ) : logT d nu dot = -(1 / 2) * (d + nu) * Real.log (1 + dot / nu) := by
  rw [logT, ScReal.mul_def, ScReal.mul_def, ScReal.neg_def, ScReal.add_def, ScReal.log_def, ScReal.add_def, ScReal.one_def,
    ScReal.div_def, ScReal.lit_def]
  norm_num

theorem model_tpcnLogFactor (d nu dot dotp : ℝ) : tpcnLogFactor d nu dot dotp = -logT d nu dotp + logT d nu dot := by
  rw [tpcnLogFactor, ScReal.add_def, ScReal.neg_def]

/-! ### the step-size adaptation at ℝ -/

theorem lit_234 : (Sc.lit 234 3 : ℝ) = 234 / 1000 := by rw [ScReal.lit_def]; norm_num
theorem lit_99 : (Sc.lit 99 2 : ℝ) = 99 / 100 := by rw [ScReal.lit_def]; norm_num

theorem model_adaptRaw (sigma iter acc : ℝ) : adaptRaw sigma iter acc = sigma + 1 / (iter + 1) * (acc - 234 / 1000) := by
  rw [adaptRaw, lit_234, ScReal.one_def]; rfl

theorem model_tpcnAdapt (sigma iter acc sigma0 : ℝ) :
    tpcnAdapt sigma iter acc sigma0 = min (max (adaptRaw sigma iter acc) 0) (min sigma0 (99 / 100)) := by
  rw [tpcnAdapt, ScReal.min_def, ScReal.max_def, ScReal.min_def, lit_99, ScReal.zero_def]

theorem tpcnAdapt_mem (sigma iter acc sigma0 : ℝ) (h0 : 0 ≤ sigma0) :
    0 ≤ tpcnAdapt sigma iter acc sigma0 ∧ tpcnAdapt sigma iter acc sigma0 ≤ min sigma0 (99 / 100) := by
  rw [model_tpcnAdapt]
  exact ⟨le_min (le_max_right _ _) (le_min h0 (by norm_num)), min_le_right _ _⟩

/-! ### the ensemble step: the gather of a walker's mode, the cluster loop, `runStep` -/

section Ensemble
variable {α : Type} [ScT α]

omit [ScT α] in
theorem walkerInput_eq_some (i : RunIn α) (w : Walker α) (si : StepIn α) :
    walkerInput i w = some si ↔ ∃ m sg, i.modes[w.assign]? = some m ∧ i.sigmas[w.assign]? = some sg ∧
      si = { kind := i.kind, u := w.u, mu := m.mu, chol := m.chol, invcov := m.invcov, nu := m.nu, sigma := sg,
             beta := i.beta, l := w.l, lp := w.lp, g := w.g, r := w.r, z := w.z, per := i.per, refl := i.refl } := by
  unfold walkerInput
  cases i.modes[w.assign]? with
  | none => exact ⟨nofun, fun ⟨_, _, h, _⟩ => nomatch h⟩
  | some m =>
    cases i.sigmas[w.assign]? with
    | none => exact ⟨nofun, fun ⟨_, _, _, h, _⟩ => nomatch h⟩
    | some sg =>
      exact ⟨fun h => ⟨m, sg, rfl, rfl, (Option.some.inj h).symm⟩,
        fun ⟨_, _, h1, h2, h3⟩ => Option.some.inj h1 ▸ Option.some.inj h2 ▸ congrArg some h3.symm⟩

theorem getElem?_adaptAll (i : RunIn α) (alphas : List α) (c : Nat) :
    (adaptAll i alphas)[c]? = i.sigmas[c]?.map fun sg =>
      if (clusterAlphas (i.walkers.map (·.assign)) alphas c).isEmpty then sg
      else adaptOne i.kind sg i.iter (mean (clusterAlphas (i.walkers.map (·.assign)) alphas c)) i.sigma0 := by
  rw [adaptAll, List.getElem?_mapIdx]

theorem length_adaptAll (i : RunIn α) (alphas : List α) : (adaptAll i alphas).length = i.sigmas.length :=
  List.length_mapIdx

theorem mem_adaptAll {i : RunIn α} {alphas : List α} {x : α} (hx : x ∈ adaptAll i alphas) :
    ∃ sg ∈ i.sigmas, x = sg ∨ ∃ acc, x = adaptOne i.kind sg i.iter acc i.sigma0 := by
  obtain ⟨c, hc⟩ := List.getElem?_of_mem hx
  rw [getElem?_adaptAll] at hc
  obtain ⟨sg, hsg, rfl⟩ := Option.map_eq_some_iff.mp hc
  refine ⟨sg, List.mem_of_getElem? hsg, ?_⟩
  split
  · exact .inl rfl
  · exact .inr ⟨_, rfl⟩

theorem runStep_eq_some (i : RunIn α) (outs : List (StepOut α)) (sig : List α) :
    runStep i = some (outs, sig) ↔ i.walkers.mapM (walkerStep i) = some outs ∧ sig = adaptAll i (outs.map (·.alpha)) := by
  unfold runStep
  cases h : i.walkers.mapM (walkerStep i) with
  | none => simp
  | some o =>
    simp only [Option.some.injEq, Prod.mk.injEq]
    constructor
    · rintro ⟨rfl, rfl⟩; exact ⟨rfl, rfl⟩
    · rintro ⟨rfl, rfl⟩; exact ⟨rfl, rfl⟩

end Ensemble

theorem adaptAll_tpcn_mem (i : RunIn ℝ) (alphas : List ℝ) (hk : i.kind = .tpcn) (h0 : 0 ≤ i.sigma0)
    (hs : ∀ s ∈ i.sigmas, 0 ≤ s ∧ s ≤ min i.sigma0 (99 / 100)) :
    ∀ s ∈ adaptAll i alphas, 0 ≤ s ∧ s ≤ min i.sigma0 (99 / 100) := by
  intro s hmem
  obtain ⟨sg, hsg, rfl | ⟨acc, rfl⟩⟩ := mem_adaptAll hmem
  · exact hs _ hsg
  · rw [hk]; exact tpcnAdapt_mem _ _ _ _ h0

/-! ### a single mode in one dimension -/

theorem rwmProposal_one (u c s z : ℝ) : rwmProposal [u] [[c]] s [z] = [u + s * c * z] := by
  simp [rwmProposal, vadd, matVec, scaleMat, dotv, Sc.sum]

theorem adaptAll_single (i : RunIn ℝ) (sg : ℝ) (alphas : List ℝ) (hs : i.sigmas = [sg])
    (hw : clusterAlphas (i.walkers.map (·.assign)) alphas 0 = alphas) (hne : alphas ≠ []) :
    adaptAll i alphas = [adaptOne i.kind sg i.iter (mean alphas) i.sigma0] := by
  rw [adaptAll, hs, List.mapIdx_cons, List.mapIdx_nil, hw, if_neg (by simpa using hne)]

/-! ### one walker's step -/

theorem step_fields {α : Type} [ScT α] (i : StepIn α) :
    (step i).alpha = boundedAlpha (step i).inb (acceptProb i.beta i.l i.lp (step i).factor) ∧
    (step i).accept = acceptDecision i.r (step i).alpha ∧
    (step i).newU = if (step i).accept then (step i).prop else i.u := by
  unfold step
  split <;> exact ⟨rfl, rfl, rfl⟩

/-- `in_bounds = check_bounds(u_prime)`; `u_prime[~in_bounds] = u[~in_bounds]` -/
theorem step_inb_prop {α : Type} [ScT α] (i : StepIn α) :
    (step i).inb = Model.Boundary.checkBounds i.per i.refl (step i).cand ∧
    (step i).prop = if (step i).inb then (step i).cand else i.u := by
  unfold step
  split <;> exact ⟨rfl, rfl⟩

theorem step_rwm {α : Type} [ScT α] (i : StepIn α) (hk : i.kind = .rwm) :
    (step i).cand = Model.Boundary.apply i.per i.refl (rwmProposal i.u i.chol i.sigma i.z) ∧
    (step i).factor = rwmLogFactor := by
  unfold step
  rw [hk]
  exact ⟨rfl, rfl⟩

/-- the gamma parameters come from the current point only; the factor `-A + B` has `A` at the point passed on -/
theorem step_tpcn {α : Type} [ScT α] (i : StepIn α) (hk : i.kind = .tpcn) :
    (step i).cand = Model.Boundary.apply i.per i.refl
      (tpcnProposal i.mu (vsub i.u i.mu) i.chol i.sigma (sFromGamma i.g) i.z) ∧
    (step i).dot = qform (vsub i.u i.mu) i.invcov ∧
    (step i).shape = gammaShape (Sc.ofNat i.u.length) i.nu ∧
    (step i).scale = gammaScale i.nu (step i).dot ∧
    (step i).dotp = qform (vsub (step i).prop i.mu) i.invcov ∧
    (step i).factor = tpcnLogFactor (Sc.ofNat i.u.length) i.nu (step i).dot (step i).dotp := by
  unfold step
  rw [hk]
  exact ⟨rfl, rfl, rfl, rfl, rfl, rfl⟩

/-- that alpha is 0 out of bounds is not needed: the point passed on is then the current one, so both branches of the decision agree -/
theorem step_newU_real (i : StepIn ℝ) :
    (step i).newU = if (step i).inb = true ∧ i.r < min 1 (Real.exp (i.beta * (i.lp - i.l) + (step i).factor))
      then (step i).cand else i.u := by
  obtain ⟨ha, hd, hn⟩ := step_fields i
  rw [hn, hd, ha, (step_inb_prop i).2, acceptDecision]
  cases (step i).inb
  · simp only [Bool.false_eq_true, if_false, false_and, ite_self]
  · simp only [if_true, true_and, boundedAlpha, model_acceptProb, ScReal.lt_def]

end Model.Kernel
