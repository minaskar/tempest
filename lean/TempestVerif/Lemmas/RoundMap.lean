import TempestVerif.Sc
import Mathlib.Data.Real.Basic
import Mathlib.Tactic.Linarith
/-
  What holds of a rounding map `rnd : ℝ → ℝ` by itself, whichever carrier of rounded arithmetic (`Rd rnd`, `RR r`,
  `Props.C06.Fp.Fl R`) it is put in and whichever error model is assumed of it: one step of error propagation, stated on the
  error bound at the point rounded so that every model can feed it, and the left-fold sum with a rounding after every addition
  (`rsum`; not the exact sum `Props.C06.Fp.rsum`), to which a carrier is tied by `foldl_add_eq_rsum`.
-/

theorem abs_rnd_sub_le_of_err {rnd : ℝ → ℝ} {u η x y δ : ℝ} (hu : 0 ≤ u) (herr : |rnd x - x| ≤ u * |x| + η)
    (h : |x - y| ≤ δ) : |rnd x - y| ≤ u * |y| + (1 + u) * δ + η := by
  have h1 := mul_le_mul_of_nonneg_left ((abs_sub_abs_le_abs_sub x y).trans h) hu
  linarith only [abs_sub_le (rnd x) x y, herr, h1, h]

theorem abs_mul_le_of_le_one {β x e : ℝ} (h0 : 0 ≤ β) (h1 : β ≤ 1) (hx : |x| ≤ e) : |β * x| ≤ e := by
  rw [abs_mul, abs_of_nonneg h0]
  exact (mul_le_mul h1 hx (abs_nonneg _) zero_le_one).trans_eq (one_mul e)

namespace Lemmas.RoundMap

/-- the left fold `np.sum` is modelled by, with the rounding `rnd` after every addition -/
def rsum (rnd : ℝ → ℝ) (acc : ℝ) : List ℝ → ℝ
  | [] => acc
  | a :: l => rsum rnd (rnd (acc + a)) l

theorem foldl_add_eq_rsum {α : Type} [Sc α] (v : α → ℝ) (rnd : ℝ → ℝ) (hadd : ∀ a b, v (Sc.add a b) = rnd (v a + v b))
    (l : List α) (acc : α) : v (l.foldl Sc.add acc) = rsum rnd (v acc) (l.map v) := by
  induction l generalizing acc with
  | nil => rfl
  | cons a l ih => rw [List.foldl_cons, ih, hadd]; rfl

theorem rsum_ge {rnd : ℝ → ℝ} (hm : Monotone rnd) (hi : ∀ x, rnd (rnd x) = rnd x) (l : List ℝ) (acc : ℝ)
    (hacc : rnd acc = acc) (hacc0 : 0 ≤ acc) (hl : ∀ x ∈ l, 0 ≤ x) :
    acc ≤ rsum rnd acc l ∧ ∀ x ∈ l, rnd x = x → x ≤ rsum rnd acc l := by
  induction l generalizing acc with
  | nil => exact ⟨le_rfl, nofun⟩
  | cons a l ih =>
    have h1 : acc ≤ rnd (acc + a) := hacc.symm.le.trans (hm (le_add_of_nonneg_right (hl a List.mem_cons_self)))
    obtain ⟨i1, i2⟩ := ih (rnd (acc + a)) (hi _) (hacc0.trans h1) fun x hx => hl x (List.mem_cons_of_mem _ hx)
    refine ⟨h1.trans i1, fun x hx hxr => ?_⟩
    rcases List.mem_cons.mp hx with rfl | hx
    · exact (hxr.symm.le.trans (hm (le_add_of_nonneg_left hacc0))).trans i1
    · exact i2 x hx hxr

end Lemmas.RoundMap
