import TempestVerif.Lemmas.CeilComb
import Mathlib.MeasureTheory.Integral.Bochner.Set
import Mathlib.MeasureTheory.Measure.Lebesgue.Basic
import Mathlib.MeasureTheory.Constructions.Pi
import Mathlib.MeasureTheory.Function.Floor
/-
  A ceiling shifted by an offset, `u ↦ ⌈x − u⌉` on `[0,1)`, is `⌈x⌉` minus the indicator of an interval of length `⌈x⌉ − x`: its
  Lebesgue integral over the offset is `x`, and a difference of two such ceilings, which takes two adjacent values only, has its law
  fixed by its mean.  Also: a function of one coordinate integrated against a product of probability measures.
-/
namespace Lemmas.CeilComb
open MeasureTheory

/-! ### integrals over the offset -/

theorem integrableOn_const01 (c : ℝ) : IntegrableOn (fun _ : ℝ => c) (Set.Ico (0:ℝ) 1) := integrableOn_const (by simp)

theorem step_eq_indicator (c : ℝ) :
    (fun u : ℝ => if c ≤ u then (1:ℝ) else 0) = (Set.Ici c).indicator (fun _ => (1:ℝ)) := by
  funext u; simp [Set.indicator, Set.mem_Ici]

theorem integral_step (c : ℝ) (hc0 : 0 ≤ c) (hc1 : c ≤ 1) :
    ∫ u in Set.Ico (0:ℝ) 1, (if c ≤ u then (1:ℝ) else 0) = 1 - c := by
  rw [step_eq_indicator, setIntegral_indicator measurableSet_Ici]
  have : Set.Ico (0:ℝ) 1 ∩ Set.Ici c = Set.Ico c 1 := by
    ext x; simp only [Set.mem_inter_iff, Set.mem_Ico, Set.mem_Ici]; constructor
    · rintro ⟨⟨_, h2⟩, h3⟩; exact ⟨h3, h2⟩
    · rintro ⟨h1, h2⟩; exact ⟨⟨le_trans hc0 h1, h2⟩, h1⟩
  rw [this, setIntegral_const, Real.volume_real_Ico_of_le hc1]; simp

theorem integrable_step (c : ℝ) :
    IntegrableOn (fun u : ℝ => if c ≤ u then (1:ℝ) else 0) (Set.Ico (0:ℝ) 1) := by
  rw [step_eq_indicator]
  exact (integrableOn_const01 1).indicator measurableSet_Ici

theorem ceil_sub_eqOn (x : ℝ) :
    Set.EqOn (fun u : ℝ => ((⌈x - u⌉ : ℤ) : ℝ))
      (fun u => (⌈x⌉ : ℝ) - (if 1 - ((⌈x⌉ : ℝ) - x) ≤ u then (1:ℝ) else 0)) (Set.Ico (0:ℝ) 1) := by
  intro u hu
  simp only
  rw [ceil_sub_offset x u hu.1 hu.2]
  push_cast
  split <;> simp

theorem integrable_ceil_sub (x : ℝ) :
    IntegrableOn (fun u : ℝ => ((⌈x - u⌉ : ℤ) : ℝ)) (Set.Ico (0:ℝ) 1) := by
  exact ((integrableOn_const01 _).sub (integrable_step _)).congr_fun (ceil_sub_eqOn x).symm measurableSet_Ico

theorem integral_ceil_sub (x : ℝ) : ∫ u in Set.Ico (0:ℝ) 1, ((⌈x - u⌉ : ℤ) : ℝ) = x := by
  rw [setIntegral_congr_fun measurableSet_Ico (ceil_sub_eqOn x)]
  have e := integral_sub (μ := volume.restrict (Set.Ico (0:ℝ) 1)) (f := fun _ => (⌈x⌉ : ℝ))
    (g := fun u => if 1 - ((⌈x⌉ : ℝ) - x) ≤ u then (1:ℝ) else 0) (integrableOn_const01 _) (integrable_step _)
  rw [e, integral_step _ (by linarith [Int.ceil_lt_add_one x]) (by linarith [Int.le_ceil x]), setIntegral_const,
    Real.volume_real_Ico_of_le (by norm_num)]
  simp

theorem integral_ceil_diff (a b : ℝ) :
    ∫ u in Set.Ico (0:ℝ) 1, (((⌈b - u⌉ - ⌈a - u⌉ : ℤ) : ℝ)) = b - a := by
  have e := integral_sub (μ := volume.restrict (Set.Ico (0:ℝ) 1)) (f := fun u => ((⌈b - u⌉ : ℤ) : ℝ))
    (g := fun u => ((⌈a - u⌉ : ℤ) : ℝ)) (integrable_ceil_sub b) (integrable_ceil_sub a)
  simp only [Int.cast_sub]
  rw [e, integral_ceil_sub, integral_ceil_sub]

/-! ### the law of `⌈b − u⌉ − ⌈a − u⌉` under a uniform offset -/

theorem ceil_diff_eq_floor_or_succ (a b u : ℝ) :
    ((⌈b - u⌉ - ⌈a - u⌉ : ℤ) : ℝ) = ⌊b - a⌋ ∨ ((⌈b - u⌉ - ⌈a - u⌉ : ℤ) : ℝ) = ⌊b - a⌋ + 1 := by
  have h := ceil_diff (a - u) (b - a)
  rw [sub_add_sub_cancel'] at h
  have h1 := Int.floor_le_ceil (b - a)
  have h2 := Int.ceil_le_floor_add_one (b - a)
  have : ⌈b - u⌉ - ⌈a - u⌉ = ⌊b - a⌋ ∨ ⌈b - u⌉ - ⌈a - u⌉ = ⌊b - a⌋ + 1 := by omega
  rcases this with h | h
  · left; rw [h]
  · right; rw [h]; push_cast; rfl

theorem measurable_ceil_diff (a b : ℝ) : Measurable fun u : ℝ => ((⌈b - u⌉ - ⌈a - u⌉ : ℤ) : ℝ) :=
  (Measurable.of_discrete (f := fun z : ℤ => (z : ℝ))).comp
    ((Measurable.ceil (measurable_const.sub measurable_id)).sub (Measurable.ceil (measurable_const.sub measurable_id)))

theorem integral_indicator_one {A : Set ℝ} (hA : MeasurableSet A) (hsub : A ⊆ Set.Ico (0:ℝ) 1) :
    ∫ u in Set.Ico (0:ℝ) 1, A.indicator (fun _ => (1:ℝ)) u = (volume A).toReal := by
  rw [setIntegral_indicator hA, setIntegral_const, Set.inter_eq_self_of_subset_right hsub]
  simp [Measure.real]

theorem ceil_diff_law (a b : ℝ) :
    (volume {u : ℝ | u ∈ Set.Ico (0:ℝ) 1 ∧ ((⌈b - u⌉ - ⌈a - u⌉ : ℤ) : ℝ) = (⌊b - a⌋ : ℝ) + 1}).toReal
      = Int.fract (b - a) ∧
    (volume {u : ℝ | u ∈ Set.Ico (0:ℝ) 1 ∧ ((⌈b - u⌉ - ⌈a - u⌉ : ℤ) : ℝ) = (⌊b - a⌋ : ℝ)}).toReal
      = 1 - Int.fract (b - a) := by
  set f : ℝ → ℝ := fun u => ((⌈b - u⌉ - ⌈a - u⌉ : ℤ) : ℝ)
  set A1 := {u : ℝ | u ∈ Set.Ico (0:ℝ) 1 ∧ f u = (⌊b - a⌋ : ℝ) + 1}
  set A0 := {u : ℝ | u ∈ Set.Ico (0:ℝ) 1 ∧ f u = (⌊b - a⌋ : ℝ)}
  have hfm := measurable_ceil_diff a b
  have hm1 : MeasurableSet A1 := measurableSet_Ico.inter (hfm (measurableSet_singleton _))
  have hm0 : MeasurableSet A0 := measurableSet_Ico.inter (hfm (measurableSet_singleton _))
  have hint : ∫ u in Set.Ico (0:ℝ) 1, f u = b - a := integral_ceil_diff a b
  -- `f` takes the two values only, so it is `⌊b − a⌋` plus the indicator of `A1`, and `⌊b − a⌋ + 1` minus that of `A0`
  have hc1 : Set.EqOn f (fun u => (⌊b - a⌋ : ℝ) + A1.indicator (fun _ => (1:ℝ)) u) (Set.Ico (0:ℝ) 1) := by
    intro u hu
    by_cases hu1 : u ∈ A1
    · simp only [Set.indicator_of_mem hu1]; exact hu1.2
    · simp only [Set.indicator_of_notMem hu1, add_zero]
      exact (ceil_diff_eq_floor_or_succ a b u).resolve_right fun h => hu1 ⟨hu, h⟩
  have hc0 : Set.EqOn f (fun u => ((⌊b - a⌋ : ℝ) + 1) - A0.indicator (fun _ => (1:ℝ)) u) (Set.Ico (0:ℝ) 1) := by
    intro u hu
    by_cases hu0 : u ∈ A0
    · simp only [Set.indicator_of_mem hu0, add_sub_cancel_right]; exact hu0.2
    · simp only [Set.indicator_of_notMem hu0, sub_zero]
      exact (ceil_diff_eq_floor_or_succ a b u).resolve_left fun h => hu0 ⟨hu, h⟩
  have e1 := hint
  rw [setIntegral_congr_fun measurableSet_Ico hc1,
    integral_add (integrableOn_const01 _) ((integrableOn_const01 1).indicator hm1), setIntegral_const,
    integral_indicator_one hm1 (fun u hu => hu.1)] at e1
  have e0 := hint
  rw [setIntegral_congr_fun measurableSet_Ico hc0,
    integral_sub (integrableOn_const01 _) ((integrableOn_const01 1).indicator hm0), setIntegral_const,
    integral_indicator_one hm0 (fun u hu => hu.1)] at e0
  simp only [Measure.real, Real.volume_Ico, sub_zero, ENNReal.toReal_ofReal zero_le_one, smul_eq_mul, one_mul] at e1 e0
  rw [Int.fract]
  constructor <;> linarith

/-! ### one coordinate of a product of probability measures -/

instance uniform01_prob : IsProbabilityMeasure (volume.restrict (Set.Ico (0:ℝ) 1)) :=
  ⟨by simp [Real.volume_Ico]⟩

theorem integral_pi_eval {n : ℕ} (μ : Measure ℝ) [IsProbabilityMeasure μ] (f : ℝ → ℝ)
    (hf : AEStronglyMeasurable f μ) (k : Fin n) :
    ∫ x : Fin n → ℝ, f (x k) ∂(Measure.pi fun _ => μ) = ∫ t, f t ∂μ := by
  have hmp := measurePreserving_eval (μ := fun _ : Fin n => μ) k
  have hf' : AEStronglyMeasurable f (Measure.map (Function.eval k) (Measure.pi fun _ : Fin n => μ)) := by
    rw [hmp.map_eq]; exact hf
  have := integral_map hmp.measurable.aemeasurable hf'
  rw [hmp.map_eq] at this
  exact this.symm


end Lemmas.CeilComb
