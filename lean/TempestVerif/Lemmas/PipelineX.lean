import TempestVerif.Model.PipelineX
import TempestVerif.Lemmas.StopRule
import TempestVerif.Lemmas.Steps
import TempestVerif.Lemmas.Kernel
import TempestVerif.Lemmas.Reweight
import TempestVerif.Lemmas.Posterior
/-
  The extended whole-run model `Model.PipelineX`.  Every statement about one iteration follows from one inversion lemma, `iterateX_some`;
  a run is the relation `Lemmas.Steps` of `iterateX`, a guarded run a run whose last state fails the guard.
-/
namespace Lemmas.PipelineX
open Model.PipelineX Model.Weights Model.Reweight Model.Kernel
open Model.Pipeline hiding batches

/-! ### one iteration -/

/-- the call `reweighter.run()` of `iterateX` -/
def rwX {α : Type} [ScT α] (cfg : XCfg α) (s : XState α) (t : XTape α) : RunOut α (List α) :=
  run cfg.rw (batches s.hist).isEmpty
    (oracleMX cfg.rw.vv.isSome (batches s.hist) t.metric)
    (oracleZ (batches s.hist)) isFin s.beta

/-- `r` stands for `rwX cfg s t` and `wu` for `warmupX t r.logz` (the names keep the statement short): callers pass `_ rfl _ rfl` -/
theorem iterateX_some {α : Type} [ScT α] (cfg : XCfg α) (s : XState α) (t : XTape α) (s1 : XState α) (o : XOut α)
    (r : RunOut α (List α)) (hr : rwX cfg s t = r) (wu : Option (List (List α)) × List (Option α) × α)
    (hwu : warmupX t r.logz = wu) (h : iterateX cfg s t = some (s1, o)) :
    covered cfg.rw.vv.isSome t.metric r.calls = true ∧
    ((eqv r.beta Sc.zero = true ∧ ∃ us l, wu.1 = some us ∧ allSome wu.2.1 = some l ∧ l ≠ [] ∧
        s1 = ⟨s.hist ++ [⟨⟨r.beta, wu.2.2, l⟩, us⟩], r.beta, wu.2.2, us, l⟩ ∧
        o = ⟨r.beta, r.ess, r.logz, wu.2.2, [], [], r.branch, 1, [], Sc.one, Sc.one, []⟩) ∨
     (eqv r.beta Sc.zero = false ∧ ∃ idx us l m,
        (if cfg.syst then
            (match t.resU with
              | [u0] => Model.Resample.systematic cfg.rw.nPart (returnedWeights r.weightsTag) u0
              | _ => none)
          else Model.Resample.multinomial (returnedWeights r.weightsTag) t.resU) = some idx ∧
        Model.Records.gather? (poolU s.hist) idx = some us ∧
        Model.Records.gather? (flatLogl (batches s.hist)) idx = some l ∧
        mcmcX cfg r.beta t.modes t.assign 0 (initSigmas cfg.kind t.modes.length cfg.d) us l t.steps = some m ∧
        m.ls ≠ [] ∧ s1 = ⟨s.hist ++ [⟨⟨r.beta, r.logz, m.ls⟩, m.us⟩], r.beta, r.logz, m.us, m.ls⟩ ∧
        o = ⟨r.beta, r.ess, r.logz, r.logz, idx, m.masks, r.branch, m.nsteps, m.sigmas, Model.Kernel.mean m.lastAlphas,
              Sc.div (Model.Kernel.mean m.sigmas) (sigma0 cfg.d), m.cands⟩)) := by
  subst hr hwu
  unfold iterateX at h
  extract_lets hb vv r w at h
  change covered vv t.metric r.calls = true ∧ _
  obtain ⟨hc, h⟩ := Option.ite_none_left_eq_some.mp h
  refine ⟨by simpa using hc, ?_⟩
  by_cases hb0 : eqv r.beta Sc.zero = true
  · rw [if_pos hb0] at h
    obtain ⟨us, hus, h⟩ := Option.bind_eq_some_iff.mp h
    obtain ⟨l, hl, h⟩ := Option.bind_eq_some_iff.mp h
    obtain ⟨hle, h⟩ := Option.ite_none_left_eq_some.mp h
    obtain ⟨rfl, rfl⟩ := Prod.mk.inj (Option.some.inj h)
    exact .inl ⟨hb0, us, l, hus, hl, by simpa using hle, rfl, rfl⟩
  · rw [if_neg hb0] at h
    obtain ⟨idx, hidx, h⟩ := Option.bind_eq_some_iff.mp h
    obtain ⟨us, hus, h⟩ := Option.bind_eq_some_iff.mp h
    obtain ⟨l, hl, h⟩ := Option.bind_eq_some_iff.mp h
    obtain ⟨m, hm, h⟩ := Option.bind_eq_some_iff.mp h
    obtain ⟨hle, h⟩ := Option.ite_none_left_eq_some.mp h
    obtain ⟨rfl, rfl⟩ := Prod.mk.inj (Option.some.inj h)
    exact .inr ⟨Bool.eq_false_iff.mpr hb0, idx, us, l, m, hidx, hus, hl, hm, by simpa using hle, rfl, rfl⟩

theorem iterateX_out {α : Type} [ScT α] (cfg : XCfg α) (s : XState α) (t : XTape α) (s1 : XState α) (o : XOut α)
    (h : iterateX cfg s t = some (s1, o)) :
    o.beta = (rwX cfg s t).beta ∧ s1.curL ≠ [] := by
  obtain ⟨-, ⟨-, us, l, -, -, hl, rfl, rfl⟩ | ⟨-, idx, us, l, m, -, -, -, -, hl, rfl, rfl⟩⟩ :=
    iterateX_some cfg s t s1 o _ rfl _ rfl h
  · exact ⟨rfl, hl⟩
  · exact ⟨rfl, hl⟩

theorem iterateX_logz (cfg : XCfg ℝ) (s : XState ℝ) (t : XTape ℝ) (s1 : XState ℝ) (o : XOut ℝ)
    (h : iterateX cfg s t = some (s1, o)) (hb : o.beta ≠ 0) : o.logz = o.logzRw := by
  obtain ⟨-, ⟨hb0, us, l, -, -, -, -, rfl⟩ | ⟨-, idx, us, l, m, -, -, -, -, -, -, rfl⟩⟩ :=
    iterateX_some cfg s t s1 o _ rfl _ rfl h
  · exact absurd (((eqv_real _ _).mp hb0).trans ScReal.zero_def) hb
  · rfl

theorem batchesX_isEmpty {α : Type} (h : List (XBatch α)) : (batches h).isEmpty = h.isEmpty :=
  List.isEmpty_map

theorem rwX_of_ne {α : Type} [ScT α] (cfg : XCfg α) (s : XState α) (t : XTape α) (hne : s.hist ≠ []) :
    rwX cfg s t = run cfg.rw false (oracleMX cfg.rw.vv.isSome (batches s.hist) t.metric)
      (oracleZ (batches s.hist)) isFin s.beta := by
  rw [rwX, batchesX_isEmpty, List.isEmpty_eq_false_iff.mpr hne]

/-! ### a run -/

theorem runItersX_iff_steps {α : Type} [ScT α] {cfg : XCfg α} {ts : List (XTape α)} {s sf : XState α} {os : List (XOut α)} :
    runItersX cfg s ts = some (sf, os) ↔ Lemmas.Steps (iterateX cfg) s ts os sf :=
  Lemmas.Steps.of_rec (runItersX cfg) (fun _ => rfl) (fun _ _ _ => rfl)

theorem runGuardedX_post (c : XCfg ℝ) (tol nTotal : ℝ) (ts : List (XTape ℝ)) :
    ∀ (s sf : XState ℝ) (os : List (XOut ℝ)), runGuardedX c tol nTotal s ts = some (sf, os) →
      contX tol nTotal sf = false ∧ runItersX c s ts = some (sf, os) := by
  intro s
  fun_induction runGuardedX c tol nTotal s ts with
  | case1 s hc => intro sf os h; cases h
  | case2 s hc => intro sf os h; cases h; exact ⟨Bool.eq_false_iff.mpr hc, rfl⟩
  | case3 s t ts hc ih =>
    intro sf os h
    obtain ⟨⟨s1, o⟩, hi, h⟩ := Option.bind_eq_some_iff.mp h
    obtain ⟨⟨sf', os'⟩, hr, he⟩ := Option.map_eq_some_iff.mp h
    cases he
    obtain ⟨g1, g2⟩ := ih s1 sf os' hr
    exact ⟨g1, by simp only [runItersX, hi, g2, Option.bind_some, Option.map_some]⟩
  | case4 s t ts hc => intro sf os h; cases h

/-! ### one walker, the step sizes, the stopping rule -/

theorem sigma0_nonneg (d : Nat) : 0 ≤ (sigma0 d : ℝ) := by
  simp only [sigma0, sc_real]
  positivity

/-- the flat case: `finish … 0 p true p` is log Hastings factor 0 and candidate `p` inside the cube, `hl`, `hlp` say that the
    log-likelihood at the candidate is the current one -/
theorem wx_flat (i : RunIn ℝ) (w : Walker ℝ) (si : StepIn ℝ) (shape scale s dot dotp : ℝ) (p : List ℝ)
    (hso : walkerStep i w = some (Model.Kernel.finish si shape scale s dot dotp 0 p true p))
    (hl : si.l = w.l) (hlp : si.lp = w.l) (hsr : si.r = w.r) (hr : w.r < 1) :
    wx i w none = some ⟨p, true, 0, false, w.u, w.l⟩ ∧ ∀ v, wx i w (some v) = some ⟨p, true, 1, true, p, v⟩ := by
  have hacc : Sc.lt w.r (1 : ℝ) = true := (ScReal.lt_def _ _).mpr hr
  simp only [wx, hso, Option.map_some, Model.Kernel.finish, boundedAlpha, model_acceptProb, if_true, hl, hlp,
    sub_self, mul_zero, add_zero, Real.exp_zero, min_self, acceptDecision, hsr, hacc, ScReal.zero_def, implies_true, and_self]

theorem wx_rwm (i : RunIn ℝ) (w : Walker ℝ) (m : Mode ℝ) (sg : ℝ) (p : List ℝ) (hk : i.kind = Kind.rwm)
    (hper : i.per = []) (hrefl : i.refl = []) (hm : i.modes = [m]) (hs : i.sigmas = [sg]) (ha : w.assign = 0)
    (hp : rwmProposal w.u m.chol sg w.z = p) (hin : Model.Boundary.checkBounds [] [] p = true)
    (hl : w.lp = w.l) (hr : w.r < 1) :
    wx i w none = some ⟨p, true, 0, false, w.u, w.l⟩ ∧ ∀ v, wx i w (some v) = some ⟨p, true, 1, true, p, v⟩ := by
  refine wx_flat i w ⟨Kind.rwm, w.u, m.mu, m.chol, m.invcov, m.nu, sg, i.beta, w.l, w.lp, w.g, w.r, w.z, [], []⟩
    Sc.zero Sc.zero Sc.zero Sc.zero Sc.zero p ?_ rfl hl rfl hr
  simp only [walkerStep, walkerInput, hm, hs, ha, List.getElem?_cons_zero, hk, hper, hrefl, Option.map_some, step,
    Model.Boundary.apply, List.foldl_nil, hp, hin, if_true, rwmLogFactor, ScReal.zero_def]

theorem mcmcX_stop (c : XCfg ℝ) (beta : ℝ) (modes : List (Mode ℝ)) (assign : List Nat) (k : Nat) (sig : List ℝ)
    (us : List (List ℝ)) (ls : List ℝ) (st : XStep ℝ) (rest : List (XStep ℝ)) (r : SRes ℝ)
    (hr : stepX c beta modes assign (k + 1) sig us ls st = some r) (hc : c.nMax * c.d ≤ k + 1) :
    mcmcX c beta modes assign k sig us ls (st :: rest)
      = some ⟨r.us, r.ls, [r.mask], r.sigmas, k + 1, r.alphas, [r.cands], rest.length⟩ := by
  rw [mcmcX, hr, Option.bind_some, if_pos (Model.Steps.converged_of_cap hc)]

/-! ### `posterior()` without trimming and resampling -/

theorem posteriorX_plain (s : XState ℝ) (e : ℝ) (bins : Nat) (u0 : ℝ) (rb rl : Bool) :
    posteriorX s e bins u0 ⟨false, false, rb, rl⟩
      = (Model.Posterior.weights0 (logw (batches s.hist) 1 true).1).map fun w0 =>
          { posteriorArrs s with w := w0 } := by
  rw [posteriorX, Model.Posterior.posterior_plain _ _ _ _ _ _ _ rfl rfl, posteriorArrs, ScReal.one_def]

end Lemmas.PipelineX
