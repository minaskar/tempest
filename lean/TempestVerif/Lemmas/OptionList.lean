import TempestVerif.Model.Modes
import TempestVerif.Model.GMM
import Mathlib.Data.List.Forall2
/-
  `List.mapM` in the `Option` monad ("all or nothing"), which the models use directly (`Model.Kernel.runStep`,
  `Model.StudentModes`) and spell out as `mapOpt` (`Model.GMM`, `Model.Modes`), `Model.Records.gather?` and
  `Model.Pipeline.allSome`: one set of facts for all of them.  And `bind_map_comm`, the rule by which two pipelines of failing
  steps are compared step by step.
-/
namespace Lemmas.OptionList
variable {β γ δ : Type}

theorem mapM_eq_some_iff (f : β → Option γ) : ∀ (l : List β) (r : List γ),
    l.mapM f = some r ↔ l.map f = r.map some
  | [], r => by
    rw [List.mapM_nil, List.map_nil]
    exact ⟨fun h => by cases h; rfl, fun h => by cases r with | nil => rfl | cons _ _ => cases h⟩
  | a :: l, r => by
    rw [List.mapM_cons, List.map_cons]
    simp only [Option.bind_eq_bind, Option.bind_eq_some_iff, Option.pure_def, Option.some.injEq, mapM_eq_some_iff f l]
    constructor
    · rintro ⟨b, hb, bs, hbs, rfl⟩
      rw [hb, hbs, List.map_cons]
    · intro h
      cases r with
      | nil => cases h
      | cons c r' =>
        rw [List.map_cons] at h
        injection h with h1 h2
        exact ⟨c, h1, r', h2, rfl⟩

theorem mapM_eq_some_iff_forall₂ (f : β → Option γ) (l : List β) (r : List γ) :
    l.mapM f = some r ↔ List.Forall₂ (fun a b => f a = some b) l r := by
  rw [mapM_eq_some_iff, ← List.forall₂_eq_eq_eq, List.forall₂_map_left_iff, List.forall₂_map_right_iff]

theorem mapM_eq_none_iff (f : β → Option γ) (l : List β) : l.mapM f = none ↔ ∃ x ∈ l, f x = none := by
  induction l with
  | nil => exact ⟨nofun, nofun⟩
  | cons a l ih =>
    rw [List.mapM_cons, List.exists_mem_cons_iff, ← ih]
    cases f a <;> cases l.mapM f <;> simp

theorem mapM_map_eq_some (f : γ → Option δ) (e : β → γ) (g : β → δ) (l : List β) (h : ∀ x ∈ l, f (e x) = some (g x)) :
    (l.map e).mapM f = some (l.map g) := by
  rw [mapM_eq_some_iff, List.map_map, List.map_map]
  exact List.map_congr_left h

theorem mapM_eq_some_map (f : β → Option γ) (g : β → γ) (l : List β) (h : ∀ x ∈ l, f x = some (g x)) :
    l.mapM f = some (l.map g) := by
  simpa using mapM_map_eq_some f id g l h

theorem mapM_ofFn_some {n : ℕ} (g : Fin n → β) (f : β → Option γ) (h : Fin n → γ)
    (hf : ∀ i, f (g i) = some (h i)) : (List.ofFn g).mapM f = some (List.ofFn h) := by
  rw [mapM_eq_some_iff, List.map_ofFn, List.map_ofFn]
  exact congrArg List.ofFn (funext hf)

theorem mapM_comp_map (f : β → Option γ) (f' : β → Option δ) (g : γ → δ) (hf : ∀ x, f' x = (f x).map g) (l : List β) :
    l.mapM f' = (l.mapM f).map (List.map g) := by
  induction l with
  | nil => rfl
  | cons x l ih =>
    rw [List.mapM_cons, List.mapM_cons, hf x, ih]
    cases f x <;> cases l.mapM f <;> rfl

theorem mapM_isSome_iff (f : β → Option γ) (l : List β) : (l.mapM f).isSome ↔ ∀ x ∈ l, (f x).isSome := by
  rw [← not_iff_not]
  simp only [Bool.not_eq_true, Option.isSome_eq_false_iff, Option.isNone_iff_eq_none, mapM_eq_none_iff, not_forall,
    exists_prop]

theorem mapM_some_of_forall (f : β → Option γ) (l : List β) (h : ∀ x ∈ l, ∃ y, f x = some y) :
    ∃ ys, l.mapM f = some ys :=
  Option.isSome_iff_exists.mp ((mapM_isSome_iff f l).mpr fun x hx => Option.isSome_iff_exists.mpr (h x hx))

section some
variable {f : β → Option γ} {l : List β} {ys : List γ} (h : l.mapM f = some ys)
include h

theorem mapM_length : ys.length = l.length := by
  simpa using (congrArg List.length ((mapM_eq_some_iff f l ys).mp h)).symm

theorem mapM_get {i : ℕ} {x : β} (hx : l[i]? = some x) : f x = ys[i]? := by
  have := congrArg (·[i]?) ((mapM_eq_some_iff f l ys).mp h)
  rw [List.getElem?_map, List.getElem?_map, hx] at this
  cases hy : ys[i]? with
  | none => rw [hy] at this; cases this
  | some y => rw [hy] at this; exact Option.some.inj this

theorem mapM_mem {y : γ} (hy : y ∈ ys) : ∃ x ∈ l, f x = some y :=
  List.mem_map.mp ((mapM_eq_some_iff f l ys).mp h ▸ List.mem_map_of_mem hy)

theorem mapM_map_eq {p : γ → δ} {k : β → δ} (hk : ∀ x ∈ l, ∀ y, f x = some y → p y = k x) : ys.map p = l.map k := by
  have h2 := (mapM_eq_some_iff_forall₂ f l ys).mp h
  clear h
  induction h2 with
  | nil => rfl
  | cons hab _ ih =>
    rw [List.map_cons, List.map_cons, hk _ List.mem_cons_self _ hab, ih fun x hx => hk x (List.mem_cons_of_mem _ hx)]

end some

/-- both compositions fail together; a second step is compared only where the first succeeded.  `sa := id` with
    `Option.map_id'.symm` when the first computation is the same on both sides. -/
theorem bind_map_comm {A A' B B' : Type} {sa : A → A'} {sb : B → B'} {x : Option A} {x' : Option A'} {g : A → Option B}
    {g' : A' → Option B'} (hx : x' = x.map sa) (h : ∀ a, x = some a → g' (sa a) = (g a).map sb) :
    x'.bind g' = (x.bind g).map sb := by
  subst hx
  cases x with
  | none => rfl
  | some a => exact h a rfl

theorem gmm_mapOpt (f : β → Option γ) (l : List β) : Model.GMM.mapOpt f l = l.mapM f := by
  induction l with
  | nil => rfl
  | cons a l ih => rw [Model.GMM.mapOpt, ih, List.mapM_cons]; cases f a <;> cases l.mapM f <;> rfl

theorem modes_mapOpt (f : β → Option γ) (l : List β) : Model.Modes.mapOpt f l = l.mapM f := by
  induction l with
  | nil => rfl
  | cons a l ih => rw [Model.Modes.mapOpt, ih, List.mapM_cons]; cases f a <;> cases l.mapM f <;> rfl

theorem of_gmm {f : β → Option γ} {l : List β} {r : Option (List γ)} (h : Model.GMM.mapOpt f l = r) : l.mapM f = r :=
  gmm_mapOpt f l ▸ h

theorem of_modes {f : β → Option γ} {l : List β} {r : Option (List γ)} (h : Model.Modes.mapOpt f l = r) :
    l.mapM f = r :=
  modes_mapOpt f l ▸ h

end Lemmas.OptionList
