import TempestVerif.Model.ClosedLoop
import TempestVerif.Lemmas.Pipeline
/-
  `Model.ClosedLoop` for any scalar type, read through equations, inversions and one loop rule: property files reason about
  `iterate`, completed runs of `runLoop` / `runSampling`, `reweightStep`, the guard, `startState` and the posterior arrays through
  these.  The step functions (`stepOne`, `stepAll`, `mcLoop`, `resampleStep`, `drawLoop`, `warmupStep`) and the equation-with-`none`
  form of `runLoop` are opened by the one lemma that characterises each under the shift (`Props/C10Closed.lean`).
-/
namespace Lemmas.ClosedLoop
open Model.ClosedLoop Model.Pipeline Model.Weights Model.Reweight Model.Records Model.Resample
open Lemmas.Pipeline

variable {α P MS TS G : Type} [ScT α]

/-! ### the steps keep records and log-likelihoods aligned -/

theorem stepAll_lengths (W : World α P MS TS G) (β : α) (pts : List P) (ls : List α) (qs : List (P × α × Bool))
    (rs : List α) :
    (stepAll W β pts ls qs rs).1.length = pts.length ∧ (stepAll W β pts ls qs rs).2.1.length = ls.length := by
  fun_induction stepAll W β pts ls qs rs with
  | case1 pt pts l ls q qs r rs x y ih => exact ⟨congrArg Nat.succ ih.1, congrArg Nat.succ ih.2⟩
  | case2 => exact ⟨rfl, rfl⟩

theorem mcLoop_lengths (W : World α P MS TS G) (cfg : CCfg α) (ms : MS) (β : α) (asg : List Nat) :
    ∀ (fuel : Nat) (st m : MC α P G), mcLoop W cfg ms β asg fuel st = some m →
      m.pts.length = st.pts.length ∧ m.logl.length = st.logl.length := by
  intro fuel
  induction fuel with
  | zero => intro st m h; cases h
  | succ n ih =>
    intro st m h
    rw [mcLoop] at h
    split at h
    · cases h
      exact stepAll_lengths W β _ _ _ _
    · obtain ⟨h1, h2⟩ := ih _ m h
      exact ⟨h1.trans (stepAll_lengths W β _ _ _ _).1, h2.trans (stepAll_lengths W β _ _ _ _).2⟩

omit [ScT α] in
theorem drawLoop_some (W : World α P MS TS G) (n : Nat) : ∀ (fuel : Nat) (g : G) (drawn : Nat)
    (d : List P × List (Option α) × Nat × G), drawLoop W n fuel g drawn = some d →
    ∃ g', d.1 = (W.priorDraw g' n).1 ∧ d.2.1 = d.1.map W.like := by
  intro fuel
  induction fuel with
  | zero => intro g drawn d h; cases h
  | succ k ih =>
    intro g drawn d h
    rw [drawLoop] at h
    split at h
    · split at h
      · cases h
      · exact ih _ _ d h
    · cases h
      exact ⟨g, rfl, rfl⟩

theorem warmupStep_some (W : World α P MS TS G) (c : CCfg α) (g : G) (d : Drawn α P G) (h : warmupStep W c g = some d) :
    ∃ g', d.pts.length = (W.priorDraw g' c.rw.nPart).1.length ∧ d.logl.length = (W.priorDraw g' c.rw.nPart).1.length := by
  simp only [warmupStep, Option.bind_eq_some_iff] at h
  obtain ⟨q, hq, h⟩ := h
  obtain ⟨g', e1, e2⟩ := drawLoop_some W _ _ _ _ q hq
  have hl : q.2.1.length = (W.priorDraw g' c.rw.nPart).1.length := by rw [e2, List.length_map, e1]
  split at h <;> try split at h
  all_goals
    obtain ⟨l, hl', rfl⟩ := Option.map_eq_some_iff.mp h
    exact ⟨g', by simp only [scatterFrom_length, e1], by rw [allSome_length hl']; simp only [scatterFrom_length, hl]⟩

theorem warmupStep_aligned (W : World α P MS TS G) (cfg : CCfg α) (g : G) (d : Drawn α P G)
    (h : warmupStep W cfg g = some d) : d.pts.length = d.logl.length := by
  obtain ⟨g', h1, h2⟩ := warmupStep_some W cfg g d h
  rw [h1, h2]

theorem warmupStep_length (W : World α P MS TS G) (c : CCfg α) (hd : ∀ g, (W.priorDraw g c.rw.nPart).1.length = c.rw.nPart)
    (g : G) (d : Drawn α P G) (h : warmupStep W c g = some d) : d.logl.length = c.rw.nPart := by
  obtain ⟨g', _, h2⟩ := warmupStep_some W c g d h
  rw [h2, hd]

theorem resample_aligned (W : World α P MS TS G) (cfg : CCfg α) (h : List (CBatch α P)) (w : List α) (ts : TS) (g : G)
    (rs : Resampled α P G) (hr : resampleStep W cfg h w ts g = some rs) : rs.pts.length = rs.logl.length := by
  unfold resampleStep at hr
  simp only [Option.bind_eq_some_iff, Option.map_eq_some_iff] at hr
  obtain ⟨idx, _, pts, hp, l, hl, rfl⟩ := hr
  rw [gather?_length hp, gather?_length hl]

/-! ### the definitions around `iterate`, as equations -/

omit [ScT α] in
theorem batchesOf_isEmpty (h : List (CBatch α P)) : (batchesOf h).isEmpty = h.isEmpty :=
  List.isEmpty_map

omit [ScT α] in
theorem batchesOf_append (h h' : List (CBatch α P)) : batchesOf (h ++ h') = batchesOf h ++ batchesOf h' :=
  List.map_append

theorem oracleMV_fst (W : World α P MS TS G) (vv : Option α) (pool : List P) (h : List (Batch α)) (β : α) :
    (oracleMV W vv pool h β).1 = (oracleM h β).1 := by
  cases vv <;> rfl

theorem oracleMV_ess (W : World α P MS TS G) (vv : Option α) (pool : List P) (h : List (Batch α)) (β : α) :
    (oracleMV W vv pool h β).2.1 = (oracleM h β).2.1 := by
  cases vv <;> rfl

theorem oracleMV_none (W : World α P MS TS G) (pool : List P) (h : List (Batch α)) : oracleMV W none pool h = oracleM h := rfl

theorem oracleMV_metric (W : World α P MS TS G) (v : α) (pool : List P) (h : List (Batch α)) (β : α) :
    (oracleMV W (some v) pool h β).2.2 = W.volvar pool (Model.Ess.normalise (oracleM h β).1) β := rfl

theorem reweightStep_eq (W : World α P MS TS G) (c : CCfg α) (s : CState α P TS G) :
    reweightStep W c s = Model.Reweight.run c.rw s.hist.isEmpty (oracleMV W c.rw.vv (poolOf s.hist) (batchesOf s.hist))
      (oracleZ (batchesOf s.hist)) isFin s.beta := by
  rw [← batchesOf_isEmpty]; rfl

theorem trainStep_zero (W : World α P MS TS G) (c : CCfg α) (ts : TS) (g : G) (w : List α) (pool : List P) (β : α) (iter : Nat)
    (hβ : eqv β Sc.zero = true) : trainStep W c ts g w pool β iter = some (W.dummy, ts, g) :=
  if_pos hβ

theorem trainStep_pos (W : World α P MS TS G) (c : CCfg α) (ts : TS) (g : G) (w : List α) (pool : List P) (β : α) (iter : Nat)
    (hβ : eqv β Sc.zero = false) :
    trainStep W c ts g w pool β iter = (trainInput c w pool).map fun t => W.train ts g t.1 t.2 β iter :=
  if_neg (ne_true_of_eq_false hβ)

theorem contGuard_eq (c : CCfg α) (s : CState α P TS G) :
    contGuard c s = Model.Run.notTermination c.tolTerm s.beta (logw (batchesOf s.hist) Sc.one true).1 c.nTotal := rfl

theorem finalLogz_eq (s : CState α P TS G) : finalLogz s = (logw (batchesOf s.hist) Sc.one true).2 := rfl

theorem posteriorArrs_eq (s : CState α P TS G) :
    posteriorArrs s = ⟨poolOf s.hist, flatLogl (batchesOf s.hist), poolOf s.hist, (logw (batchesOf s.hist) Sc.one true).1, []⟩ := rfl

theorem startState_of_nil {s : CState α P TS G} (h : s.hist = []) :
    startState s = { s with iter := 0, calls := 0, beta := Sc.zero, logz := Sc.zero } := by
  unfold startState; rw [h]; rfl

theorem startState_of_ne_nil {s : CState α P TS G} (h : s.hist ≠ []) : startState s = s :=
  if_neg (by rwa [List.isEmpty_iff])

theorem startState_hist (s : CState α P TS G) : (startState s).hist = s.hist := by
  unfold startState; split <;> rfl

theorem runSampling_some {W : World α P MS TS G} {c : CCfg α} {fuel : Nat} {s sf : CState α P TS G}
    {tr : List (CState α P TS G)} {os : List (CIterOut α P)} :
    runSampling W c fuel s = some (sf, tr, os) ↔
      ∃ s' z, runLoop W c fuel (startState s) = some (s', tr, os) ∧ finalLogz s' = some z ∧ sf = { s' with logz := z } := by
  unfold runSampling
  simp only [Option.bind_eq_some_iff, Option.map_eq_some_iff, Prod.mk.injEq]
  constructor
  · rintro ⟨⟨s', tr', os'⟩, h, z, hz, rfl, rfl, rfl⟩
    exact ⟨s', z, h, hz, rfl⟩
  · rintro ⟨s', z, h, hz, rfl⟩
    exact ⟨_, h, z, hz, rfl, rfl, rfl⟩

/-! ### one `execute_iteration`: reweighting, training, one of two tails -/

/-- what a warm-up iteration (β = 0) returns once the draw `d` is there -/
def warmResult (c : CCfg α) (s : CState α P TS G) (r : RunOut α (List α)) (tr : MS × TS × G) (d : Drawn α P G) :
    CState α P TS G × CIterOut α P :=
  let lz := match d.logz with | some z => z | none => r.logz
  (commit { s with beta := r.beta, logz := lz, ess := r.ess, iter := s.iter + 1, calls := s.calls + d.drawn,
                   cur := d.pts, curL := d.logl, assign := List.replicate c.rw.nPart 0, steps := 1,
                   acceptance := Sc.one, efficiency := Sc.one, ts := tr.2.1, g := d.g },
   ⟨r.beta, r.ess, r.logz, lz, r.branch, returnedWeights r.weightsTag, none, [], [], []⟩)

/-- what an annealing iteration (β > 0) returns once resampling gave `rs` and the mutation loop ended in `m` -/
def annealResult (W : World α P MS TS G) (c : CCfg α) (s : CState α P TS G) (r : RunOut α (List α)) (tr : MS × TS × G)
    (rs : Resampled α P G) (m : MC α P G) : CState α P TS G × CIterOut α P :=
  (commit { s with beta := r.beta, logz := r.logz, ess := r.ess, iter := s.iter + 1,
                   calls := s.calls + m.k * rs.pts.length, cur := m.pts, curL := m.logl,
                   assign := (W.modeIndex tr.1 rs.assign rs.pts).2,
                   steps := m.k, acceptance := Model.Kernel.mean m.alphas,
                   efficiency := Sc.div (Model.Kernel.mean m.sigmas) c.sigma0, ts := tr.2.1, g := m.g },
   ⟨r.beta, r.ess, r.logz, r.logz, r.branch, returnedWeights r.weightsTag,
    trainInput c (returnedWeights r.weightsTag) (poolOf s.hist), rs.idx, m.accepts, m.sigmas⟩)

/-- the mutation loop as `iterate` starts it on the resampled particles -/
def mutate (W : World α P MS TS G) (c : CCfg α) (β : α) (tr : MS × TS × G) (rs : Resampled α P G) : Option (MC α P G) :=
  mcLoop W c tr.1 β (W.modeIndex tr.1 rs.assign rs.pts).1 c.mcFuel
    ⟨0, rs.pts, rs.logl, initSigmas c.tpcn c.sigma0 (W.nModes tr.1), rs.g, [], []⟩

def warmTail (W : World α P MS TS G) (c : CCfg α) (s : CState α P TS G) (r : RunOut α (List α))
    (tr : MS × TS × G) : Option (CState α P TS G × CIterOut α P) :=
  (warmupStep W c tr.2.2).bind fun d => if d.logl.isEmpty then none else some (warmResult c s r tr d)

def annealTail (W : World α P MS TS G) (c : CCfg α) (s : CState α P TS G) (r : RunOut α (List α))
    (tr : MS × TS × G) : Option (CState α P TS G × CIterOut α P) :=
  (resampleStep W c s.hist (returnedWeights r.weightsTag) tr.2.1 tr.2.2).bind fun rs =>
    if rs.logl.isEmpty then none else (mutate W c r.beta tr rs).map (annealResult W c s r tr rs)

theorem iterate_eq (W : World α P MS TS G) (c : CCfg α) (s : CState α P TS G) :
    Model.ClosedLoop.iterate W c s
      = (trainStep W c s.ts s.g (returnedWeights (reweightStep W c s).weightsTag) (poolOf s.hist)
          (reweightStep W c s).beta (s.iter + 1)).bind fun tr =>
        if eqv (reweightStep W c s).beta Sc.zero then warmTail W c s (reweightStep W c s) tr
        else annealTail W c s (reweightStep W c s) tr := rfl

/-- `r` is the result of the reweighting step (`_ rfl` at the call) -/
theorem iterate_some {W : World α P MS TS G} {c : CCfg α} {s s1 : CState α P TS G} {o : CIterOut α P}
    (h : Model.ClosedLoop.iterate W c s = some (s1, o)) (r : RunOut α (List α)) (hr : reweightStep W c s = r) :
    ∃ tr, trainStep W c s.ts s.g (returnedWeights r.weightsTag) (poolOf s.hist) r.beta (s.iter + 1) = some tr ∧
      ((eqv r.beta Sc.zero = true ∧ ∃ d, warmupStep W c tr.2.2 = some d ∧ d.logl ≠ [] ∧ (s1, o) = warmResult c s r tr d) ∨
       (eqv r.beta Sc.zero = false ∧ ∃ rs m, resampleStep W c s.hist (returnedWeights r.weightsTag) tr.2.1 tr.2.2 = some rs ∧
          rs.logl ≠ [] ∧ mutate W c r.beta tr rs = some m ∧ (s1, o) = annealResult W c s r tr rs m)) := by
  subst hr
  rw [iterate_eq] at h
  obtain ⟨tr, htr, h⟩ := Option.bind_eq_some_iff.mp h
  refine ⟨tr, htr, ?_⟩
  split at h
  · obtain ⟨d, hd, h⟩ := Option.bind_eq_some_iff.mp h
    obtain ⟨he, h⟩ := Option.ite_none_left_eq_some.mp h
    exact .inl ⟨‹_›, d, hd, mt List.isEmpty_iff.mpr he, (Option.some.inj h).symm⟩
  · obtain ⟨rs, hrs, h⟩ := Option.bind_eq_some_iff.mp h
    obtain ⟨he, h⟩ := Option.ite_none_left_eq_some.mp h
    obtain ⟨m, hm, h⟩ := Option.map_eq_some_iff.mp h
    exact .inr ⟨Bool.eq_false_iff.mpr ‹_›, rs, m, hrs, mt List.isEmpty_iff.mpr he, hm, h.symm⟩

/-- the batch `commit` appends: the current values -/
def curBatch (s : CState α P TS G) : CBatch α P :=
  ⟨s.beta, s.logz, s.ess, s.cur, s.curL, s.iter, s.calls, s.steps, s.acceptance, s.efficiency⟩

/-- What one completed `execute_iteration` records and hands on, in terms of the output of `Reweighter.run`.  The committed batch
    is non-empty because the model leaves its domain rather than commit an empty one. -/
structure Iterated (W : World α P MS TS G) (c : CCfg α) (s s1 : CState α P TS G) (o : CIterOut α P) : Prop where
  beta : o.beta = (reweightStep W c s).beta
  ess : o.ess = (reweightStep W c s).ess
  logzRw : o.logzRw = (reweightStep W c s).logz
  weights : o.weights = returnedWeights (reweightStep W c s).weightsTag
  sbeta : s1.beta = o.beta
  sess : s1.ess = o.ess
  iter : s1.iter = s.iter + 1
  hist : s1.hist = s.hist ++ [curBatch s1]
  nonempty : 1 ≤ s1.curL.length
  aligned : s1.cur.length = s1.curL.length
  train : ∃ tr, trainStep W c s.ts s.g o.weights (poolOf s.hist) o.beta (s.iter + 1) = some tr ∧ s1.ts = tr.2.1 ∧
    (eqv o.beta Sc.zero = true → (∃ d, warmupStep W c tr.2.2 = some d ∧ s1.curL = d.logl) ∧ o.trainIn = none ∧ o.idx = []) ∧
    (eqv o.beta Sc.zero = false → o.trainIn = trainInput c o.weights (poolOf s.hist) ∧
      ∃ rs, resampleStep W c s.hist o.weights tr.2.1 tr.2.2 = some rs ∧ o.idx = rs.idx)

theorem iterated (W : World α P MS TS G) (c : CCfg α) (s s1 : CState α P TS G) (o : CIterOut α P)
    (h : Model.ClosedLoop.iterate W c s = some (s1, o)) : Iterated W c s s1 o := by
  obtain ⟨tr, htr, ⟨hb, d, hd, hne, h⟩ | ⟨hb, rs, m, hrs, hne, hm, h⟩⟩ := iterate_some h _ rfl <;>
    obtain ⟨rfl, rfl⟩ := Prod.mk.inj h
  · exact {
      beta := rfl, ess := rfl, logzRw := rfl, weights := rfl
      sbeta := rfl, sess := rfl, iter := rfl, hist := rfl
      nonempty := List.length_pos_iff.mpr hne
      aligned := warmupStep_aligned W c _ d hd
      train := ⟨tr, htr, rfl, fun _ => ⟨⟨d, hd, rfl⟩, rfl, rfl⟩, fun hf => Bool.noConfusion (hb.symm.trans hf)⟩ }
  · obtain ⟨h1, h2⟩ := mcLoop_lengths W c _ _ _ _ _ m hm
    exact {
      beta := rfl, ess := rfl, logzRw := rfl, weights := rfl
      sbeta := rfl, sess := rfl, iter := rfl, hist := rfl
      nonempty := h2 ▸ List.length_pos_iff.mpr hne
      aligned := (h1.trans (resample_aligned W c _ _ _ _ rs hrs)).trans h2.symm
      train := ⟨tr, htr, rfl, fun ht => Bool.noConfusion (ht.symm.trans hb), fun _ => ⟨rfl, rs, hrs, rfl⟩⟩ }

theorem iterate_forall_hist (W : World α P MS TS G) (cfg : CCfg α) (s s1 : CState α P TS G) (o : CIterOut α P)
    (Q : CBatch α P → Prop) (hQ : ∀ b, 1 ≤ b.logl.length → b.pts.length = b.logl.length → Q b)
    (hs : ∀ b ∈ s.hist, Q b) (h : Model.ClosedLoop.iterate W cfg s = some (s1, o)) : ∀ b ∈ s1.hist, Q b := by
  have f := iterated W cfg s s1 o h
  intro b' hb'
  rw [f.hist, List.mem_append, List.mem_singleton] at hb'
  rcases hb' with hb' | rfl
  · exact hs b' hb'
  · exact hQ _ f.nonempty f.aligned

/-! ### the loop -/

/-- the rule of `while self._not_termination(): self.execute_iteration(…)`: a relation between the state at the top of the
    loop and what the loop returns holds of every returned call if it holds when the guard is false at once and is carried
    back over one `execute_iteration` made under a true guard -/
theorem runLoop_rule (W : World α P MS TS G) (cfg : CCfg α)
    (Q : CState α P TS G → CState α P TS G → List (CState α P TS G) → List (CIterOut α P) → Prop)
    (stop : ∀ s, contGuard cfg s = false → Q s s [s] [])
    (step : ∀ s s1 o sf tr os, contGuard cfg s = true → Model.ClosedLoop.iterate W cfg s = some (s1, o) → Q s1 sf tr os →
      Q s sf (s :: tr) (o :: os))
    (fuel : Nat) (s sf : CState α P TS G) (tr : List (CState α P TS G)) (os : List (CIterOut α P))
    (h : runLoop W cfg fuel s = some (sf, tr, os)) : Q s sf tr os := by
  induction fuel generalizing s sf tr os with
  | zero =>
    rw [runLoop] at h
    split at h
    · cases h
    · cases h; exact stop s (by simpa using ‹¬ contGuard cfg s = true›)
  | succ n ih =>
    rw [runLoop] at h
    split at h
    · rename_i hg
      simp only [Option.bind_eq_some_iff, Option.map_eq_some_iff] at h
      obtain ⟨⟨s1, o⟩, hi, ⟨sf', tr', os'⟩, hr, he⟩ := h
      cases he
      exact step s s1 o sf' tr' os' hg hi (ih s1 sf' tr' os' hr)
    · cases h; exact stop s (by simpa using ‹¬ contGuard cfg s = true›)

theorem runLoop_invariant (W : World α P MS TS G) (cfg : CCfg α) (Inv : CState α P TS G → Prop)
    (step : ∀ s s1 o, Inv s → Model.ClosedLoop.iterate W cfg s = some (s1, o) → Inv s1)
    (fuel : Nat) (s sf : CState α P TS G) (tr : List (CState α P TS G)) (os : List (CIterOut α P)) (hs : Inv s)
    (h : runLoop W cfg fuel s = some (sf, tr, os)) : (∀ st ∈ tr, Inv st) ∧ Inv sf ∧ sf ∈ tr :=
  runLoop_rule W cfg (fun s sf tr _ => Inv s → (∀ st ∈ tr, Inv st) ∧ Inv sf ∧ sf ∈ tr)
    (fun _ _ hs => ⟨fun _ hst => List.mem_singleton.mp hst ▸ hs, hs, List.mem_singleton_self _⟩)
    (fun s s1 o _ _ _ _ hi ih hs =>
      have ⟨h1, h2, h3⟩ := ih (step s s1 o hs hi)
      ⟨List.forall_mem_cons.mpr ⟨hs, h1⟩, h2, List.mem_cons_of_mem _ h3⟩)
    fuel s sf tr os h hs

/-- The completed loop by index: `tr` lists the loop-top states (what a `save_every` checkpoint captures), `os[k]` was produced
    from `tr[k]` and left `tr[k+1]`; the invariant may count the iterations and may use that the record it steps over is `os[k]`. -/
theorem runLoop_at (W : World α P MS TS G) (cfg : CCfg α) (fuel : Nat) (s sf : CState α P TS G)
    (tr : List (CState α P TS G)) (os : List (CIterOut α P)) (h : runLoop W cfg fuel s = some (sf, tr, os))
    (I : Nat → CState α P TS G → Prop) (h0 : I 0 s)
    (hI : ∀ k a a' o, os[k]? = some o → I k a → Model.ClosedLoop.iterate W cfg a = some (a', o) → I (k + 1) a') :
    tr.length = os.length + 1 ∧ tr[0]? = some s ∧ tr[os.length]? = some sf ∧ (∀ k a, tr[k]? = some a → I k a) ∧
    ∀ k o, os[k]? = some o → ∃ a a', tr[k]? = some a ∧ tr[k+1]? = some a' ∧ I k a ∧
      Model.ClosedLoop.iterate W cfg a = some (a', o) ∧ contGuard cfg a = true := by
  revert I
  apply runLoop_rule W cfg _ ?_ ?_ fuel s sf tr os h
  · intro s _ I h0 _
    exact ⟨rfl, rfl, rfl, fun k a ha => by cases k <;> cases ha; exact h0, fun k o ho => nomatch ho⟩
  · -- one more state in front of the trace of the rest: all indices shift by one
    intro s s1 o1 sf tr os hg hi ih I h0 hI
    obtain ⟨i1, i2, i3, i4, i5⟩ := ih (fun k => I (k + 1)) (hI 0 s s1 o1 rfl h0 hi) fun k => hI (k + 1)
    refine ⟨congrArg (· + 1) i1, rfl, i3, fun k a ha => ?_, fun k o ho => ?_⟩
    · cases k with
      | zero => cases ha; exact h0
      | succ k => exact i4 k a ha
    · cases k with
      | zero => cases ho; exact ⟨s, s1, rfl, i2, h0, hi, hg⟩
      | succ k => exact i5 k o ho

theorem runLoop_first (W : World α P MS TS G) (cfg : CCfg α) (fuel : Nat) (s sf : CState α P TS G)
    (tr : List (CState α P TS G)) (os : List (CIterOut α P)) (h : runLoop W cfg fuel s = some (sf, tr, os)) : tr[0]? = some s :=
  runLoop_rule W cfg (fun s _ tr _ => tr[0]? = some s) (fun _ _ => rfl) (fun _ _ _ _ _ _ _ _ _ => rfl) fuel s sf tr os h

theorem runLoop_guard (W : World α P MS TS G) (cfg : CCfg α) (fuel : Nat) (s sf : CState α P TS G)
    (tr : List (CState α P TS G)) (os : List (CIterOut α P)) (h : runLoop W cfg fuel s = some (sf, tr, os)) :
    contGuard cfg sf = false :=
  runLoop_rule W cfg (fun _ sf _ _ => contGuard cfg sf = false)
    (fun _ hguard => hguard) (fun _ _ _ _ _ _ _ _ hrest => hrest) fuel s sf tr os h

theorem runLoop_stop (W : World α P MS TS G) (cfg : CCfg α) (fuel : Nat) (s : CState α P TS G)
    (h : contGuard cfg s = false) : runLoop W cfg fuel s = some (s, [s], []) := by
  cases fuel <;> simp [runLoop, h]

/-! ### which fields of the configuration the mutation loop and `iterate` read -/

theorem mcLoop_congr (W : World α P MS TS G) (c' c : CCfg α) (h : c'.tpcn = c.tpcn ∧ c'.sigma0 = c.sigma0 ∧
    c'.nSteps = c.nSteps ∧ c'.nMax = c.nMax ∧ c'.nDim = c.nDim) (ms : MS) (β : α) (asg : List Nat) :
    ∀ (fuel : Nat) (st : MC α P G), mcLoop W c' ms β asg fuel st = mcLoop W c ms β asg fuel st
  | 0, _ => rfl
  | n + 1, st => by simp only [mcLoop, h.1, h.2.1, h.2.2.1, h.2.2.2.1, h.2.2.2.2, mcLoop_congr W c' c h ms β asg n]

/-- nothing inside `execute_iteration` depends on `n_total`: the iteration of the sampler whose attribute was just overwritten
    is the iteration of the configuration as it was -/
theorem iterate_nTotal (W : World α P MS TS G) (cfg : CCfg α) (x : α) (s : CState α P TS G) :
    Model.ClosedLoop.iterate W { cfg with nTotal := x } s = Model.ClosedLoop.iterate W cfg s := by
  -- every other component ignores the field by computation; the kernel loop is a recursion, hence the lemma
  unfold Model.ClosedLoop.iterate
  simp only [mcLoop_congr W { cfg with nTotal := x } cfg ⟨rfl, rfl, rfl, rfl, rfl⟩]
  rfl

end Lemmas.ClosedLoop
