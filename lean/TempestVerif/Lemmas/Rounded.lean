import TempestVerif.Sc
import TempestVerif.Lemmas.RoundMap
import Mathlib.Analysis.SpecialFunctions.Log.Basic
import Mathlib.Analysis.SpecialFunctions.Sqrt
import Mathlib.Algebra.Order.Floor.Ring
/-
  A rounded-arithmetic instance of the scalar interface, for statements about floating-point
  evaluation ("stays finite", "no overflow") that exact-real theorems cannot express.  Two things: the carrier `Rd rnd` with its
  `_v` equations, which says nothing about `rnd`; and one error model for it, `RoundModel`, the overflow-aware one.

  `Rd rnd` is `ℝ` with every inexact operation passed through a rounding function `rnd`:
      add a b = rnd (a + b),  mul, sub, div, exp, log, sqrt and decimal literals (`lit`) likewise;
      neg, comparisons, floor, the parity test and `ofNat` (integers below 2^53) are exact, as in IEEE-754.
  (`Lemmas/ScRound.lean` is the sibling instance `RR r` for the ORDER properties of rounding — monotone, idempotent — with
  no closeness assumption; this file is about closeness and says nothing of monotonicity.)
  `RoundModel rnd u η Ω` is the standard model of floating-point arithmetic with gradual underflow:
      |x| ≤ Ω  →  |rnd x − x| ≤ u·|x| + η,      with 0 ≤ u ≤ 1/8 and 0 ≤ η ≤ 1/8
  (the primed lemmas `abs_rnd_le'`, `err'` substitute the two caps for `u`, `η`, which keeps later arithmetic linear)
  and NOTHING is assumed about `rnd x` for |x| > Ω (overflow: `rnd x` may be anything).  A bound
  proved for every such `rnd` therefore shows that the evaluation never rounds a value above Ω.
  For IEEE binary64 with libm's `exp`/`log` within one ulp: u = 2^-52, η = 2^-1074, Ω ≈ 1.797e308.
-/

structure Rd (rnd : ℝ → ℝ) where
  v : ℝ

namespace Rd
variable {rnd : ℝ → ℝ}

open Classical in
noncomputable instance instSc (rnd : ℝ → ℝ) : Sc (Rd rnd) where
  add a b := ⟨rnd (a.v + b.v)⟩
  sub a b := ⟨rnd (a.v - b.v)⟩
  mul a b := ⟨rnd (a.v * b.v)⟩
  div a b := ⟨rnd (a.v / b.v)⟩
  neg a := ⟨-a.v⟩
  ofNat n := ⟨(n : ℝ)⟩
  lit m e := ⟨rnd ((m : ℝ) / (10 : ℝ) ^ e)⟩
  lt a b := decide (a.v < b.v)
  le a b := decide (a.v ≤ b.v)
  floor a := ⟨(⌊a.v⌋ : ℝ)⟩
  isEven n := decide (⌊n.v⌋ % 2 = 0)

noncomputable instance instScT (rnd : ℝ → ℝ) : ScT (Rd rnd) where
  exp a := ⟨rnd (Real.exp a.v)⟩
  log a := ⟨rnd (Real.log a.v)⟩
  sqrt a := ⟨rnd (Real.sqrt a.v)⟩

@[simp] theorem add_v (a b : Rd rnd) : (Sc.add a b).v = rnd (a.v + b.v) := rfl
@[simp] theorem sub_v (a b : Rd rnd) : (Sc.sub a b).v = rnd (a.v - b.v) := rfl
@[simp] theorem mul_v (a b : Rd rnd) : (Sc.mul a b).v = rnd (a.v * b.v) := rfl
@[simp] theorem div_v (a b : Rd rnd) : (Sc.div a b).v = rnd (a.v / b.v) := rfl
@[simp] theorem neg_v (a : Rd rnd) : (Sc.neg a).v = -a.v := rfl
@[simp] theorem ofNat_v (n : Nat) : (Sc.ofNat n : Rd rnd).v = (n : ℝ) := rfl
@[simp] theorem zero_v : (Sc.zero : Rd rnd).v = 0 := by simp [Sc.zero]
@[simp] theorem one_v : (Sc.one : Rd rnd).v = 1 := by simp [Sc.one]
@[simp] theorem two_v : (Sc.two : Rd rnd).v = 2 := by simp [Sc.two]
@[simp] theorem lt_iff (a b : Rd rnd) : Sc.lt a b = true ↔ a.v < b.v := by simp [Sc.lt]
@[simp] theorem le_iff (a b : Rd rnd) : Sc.le a b = true ↔ a.v ≤ b.v := by simp [Sc.le]
@[simp] theorem exp_v (a : Rd rnd) : (ScT.exp a).v = rnd (Real.exp a.v) := rfl
@[simp] theorem log_v (a : Rd rnd) : (ScT.log a).v = rnd (Real.log a.v) := rfl
@[simp] theorem sqrt_v (a : Rd rnd) : (ScT.sqrt a).v = rnd (Real.sqrt a.v) := rfl

theorem sum_v (l : List (Rd rnd)) : (Sc.sum l).v = Lemmas.RoundMap.rsum rnd 0 (l.map Rd.v) :=
  (Lemmas.RoundMap.foldl_add_eq_rsum Rd.v rnd (fun _ _ => rfl) l Sc.zero).trans (by rw [zero_v])

end Rd

structure RoundModel (rnd : ℝ → ℝ) (u η Ω : ℝ) : Prop where
  u_nonneg : 0 ≤ u
  u_le : u ≤ 1 / 8
  η_nonneg : 0 ≤ η
  η_le : η ≤ 1 / 8
  err : ∀ x, |x| ≤ Ω → |rnd x - x| ≤ u * |x| + η

namespace RoundModel
variable {rnd : ℝ → ℝ} {u η Ω : ℝ}

theorem abs_rnd_le (rm : RoundModel rnd u η Ω) {x B : ℝ} (hx : |x| ≤ B) (hB : B ≤ Ω) :
    |rnd x| ≤ (1 + u) * B + η := by
  simpa using abs_rnd_sub_le_of_err (y := 0) rm.u_nonneg (rm.err x (hx.trans hB)) (by rwa [sub_zero])

theorem abs_rnd_le' (rm : RoundModel rnd u η Ω) {x B : ℝ} (hx : |x| ≤ B) (hB : B ≤ Ω) :
    |rnd x| ≤ 9 / 8 * B + 1 / 8 :=
  (rm.abs_rnd_le hx hB).trans (add_le_add
    (mul_le_mul_of_nonneg_right ((add_le_add le_rfl rm.u_le).trans_eq (by norm_num)) ((abs_nonneg x).trans hx)) rm.η_le)

theorem err' (rm : RoundModel rnd u η Ω) {x : ℝ} (hx : |x| ≤ Ω) : |rnd x - x| ≤ |x| / 8 + 1 / 8 :=
  (rm.err x hx).trans (add_le_add
    ((mul_le_mul_of_nonneg_right rm.u_le (abs_nonneg x)).trans_eq (one_div_mul_eq_div 8 |x|)) rm.η_le)

theorem rnd_mem_of_mem (rm : RoundModel rnd u η Ω) {x lo hi : ℝ} (h0 : 0 ≤ lo) (hlo : lo ≤ x) (hhi : x ≤ hi)
    (hΩ : hi ≤ Ω) : 7 / 8 * lo - 1 / 8 ≤ rnd x ∧ rnd x ≤ 9 / 8 * hi + 1 / 8 := by
  have hx : |x| = x := abs_of_nonneg (h0.trans hlo)
  have h := abs_sub_le_iff.mp (rm.err' (hx.trans_le (hhi.trans hΩ)))
  rw [hx] at h
  constructor
  · linarith only [h.2, hlo]
  · linarith only [h.1, hhi]

/-- `|x| ≤ A` as soon as `A` itself is below the overflow threshold `Ω`.  In this form magnitude bounds compose through
    rounded operations without side conditions: the bound of a result dominates the bounds of its operands, so only the
    last bound of a computation has to be compared with `Ω`. -/
def Within (Ω x A : ℝ) : Prop := 0 ≤ A ∧ (A ≤ Ω → |x| ≤ A)

namespace Within
variable {Ω x y A B : ℝ}

theorem of_le (h : |x| ≤ A) : Within Ω x A := ⟨(abs_nonneg x).trans h, fun _ => h⟩

theorem mono (h : Within Ω x A) (hA : A ≤ B) : Within Ω x B :=
  ⟨h.1.trans hA, fun hΩ => (h.2 (hA.trans hΩ)).trans hA⟩

theorem of_abs_le_add {z : ℝ} (hx : Within Ω x A) (hy : Within Ω y B) (hz : |z| ≤ |x| + |y|) : Within Ω z (A + B) :=
  ⟨add_nonneg hx.1 hy.1, fun hΩ => hz.trans
    (add_le_add (hx.2 ((le_add_of_nonneg_right hy.1).trans hΩ)) (hy.2 ((le_add_of_nonneg_left hx.1).trans hΩ)))⟩

theorem add (hx : Within Ω x A) (hy : Within Ω y B) : Within Ω (x + y) (A + B) := of_abs_le_add hx hy (abs_add_le x y)

theorem sub (hx : Within Ω x A) (hy : Within Ω y B) : Within Ω (x - y) (A + B) := of_abs_le_add hx hy (abs_sub x y)

theorem log_natCast {n : ℕ} (hn : 1 ≤ n) (hG : Real.log n ≤ A) : Within Ω (Real.log n) A :=
  of_le ((abs_of_nonneg (Real.log_nonneg (Nat.one_le_cast.mpr hn))).trans_le hG)

end Within

theorem le_bound_after_rnd {B : ℝ} (hB : 0 ≤ B) : B ≤ 9 / 8 * B + 1 / 8 :=
  le_add_of_le_of_nonneg (le_mul_of_one_le_left hB (by norm_num)) (by norm_num)

theorem within_rnd (rm : RoundModel rnd u η Ω) {x B : ℝ} (h : Within Ω x B) : Within Ω (rnd x) (9 / 8 * B + 1 / 8) :=
  ⟨h.1.trans (le_bound_after_rnd h.1), fun hΩ => rm.abs_rnd_le' (h.2 ((le_bound_after_rnd h.1).trans hΩ)) ((le_bound_after_rnd h.1).trans hΩ)⟩

/-- the last rounding of a computation: its operand has to fit, its result need not -/
theorem abs_rnd_le_of_within (rm : RoundModel rnd u η Ω) {x B : ℝ} (h : Within Ω x B) (hΩ : B ≤ Ω) :
    |rnd x| ≤ 9 / 8 * B + 1 / 8 :=
  rm.abs_rnd_le' (h.2 hΩ) hΩ

/-- a rounding function that is not the identity: every value up to `Ω` is inflated by the relative amount `δ ≤ u`,
    anything above is destroyed -/
theorem inflate {δ : ℝ} (hδ0 : 0 ≤ δ) (hδ : δ ≤ u) (hu : u ≤ 1 / 8) (hη0 : 0 ≤ η) (hη : η ≤ 1 / 8) :
    RoundModel (fun x => if |x| ≤ Ω then x * (1 + δ) else 0) u η Ω where
  u_nonneg := hδ0.trans hδ
  u_le := hu
  η_nonneg := hη0
  η_le := hη
  err x hx := by
    have : x * (1 + δ) - x = δ * x := by ring
    rw [if_pos hx, this, abs_mul, abs_of_nonneg hδ0]
    exact (mul_le_mul_of_nonneg_right hδ (abs_nonneg x)).trans (le_add_of_nonneg_right hη0)

end RoundModel
