import TempestVerif.Model.StateMgr
import TempestVerif.Model.StateMgrPy
/-
  The flat StateManager reference model (C17).  Core Lean only.

  Every operation is a transition on the caller's side, one on the manager's side, one on the caller's side (`RO ; Lib ; RO`,
  `step_stages`); `Inv`, freshness of what is returned and the frame facts of `step` are read off from that.  The trace theorem
  needs a second walk over `step`: a write at an address an operation does not read commutes with it (`step_poke`).
-/
namespace Model.StateMgr
open Model.StateMgrPy (mapList mapAssoc)

/-! ### heap cells -/

theorem rd_append_lt {h : Heap} {e : Heap} {a : Nat} (ha : a < h.length) : rd (h ++ e) a = rd h a := by
  simp [rd, List.getElem?_append_left ha]

theorem rd_append_self {h : Heap} {c : Option Content} : rd (h ++ [c]) h.length = c := by
  simp [rd]

theorem rd_set_ne {h : Heap} {a b : Nat} {c : Option Content} (hne : a ≠ b) : rd (h.set a c) b = rd h b := by
  simp [rd, List.getElem?_set_ne hne]

theorem set_append_lt {h : Heap} {a : Nat} {c x : Option Content} (ha : a < h.length) :
    h.set a c ++ [x] = (h ++ [x]).set a c := by
  rw [List.set_append_left _ _ ha]

def Ext (h h' : Heap) : Prop := ∃ e, h' = h ++ e

theorem Ext.refl (h : Heap) : Ext h h := ⟨[], by simp⟩
theorem Ext.trans {h1 h2 h3 : Heap} (a : Ext h1 h2) (b : Ext h2 h3) : Ext h1 h3 := by
  obtain ⟨e1, rfl⟩ := a; obtain ⟨e2, rfl⟩ := b; exact ⟨e1 ++ e2, by simp⟩
theorem Ext.snoc (h : Heap) (c : Option Content) : Ext h (h ++ [c]) := ⟨[c], rfl⟩
theorem Ext.le {h h' : Heap} (e : Ext h h') : h.length ≤ h'.length := by
  obtain ⟨e, rfl⟩ := e; simp
theorem Ext.rd {h h' : Heap} (e : Ext h h') {a : Nat} (ha : a < h.length) : rd h' a = rd h a := by
  obtain ⟨e, rfl⟩ := e; exact rd_append_lt ha

/-! ### membership in address lists -/

theorem mem_dictAddrs {d : List (Key × Val)} {a : Nat} : a ∈ dictAddrs d ↔ ∃ k, (k, Val.ref a) ∈ d := by
  simp only [dictAddrs, List.mem_flatMap]
  constructor
  · rintro ⟨⟨k, v⟩, hm, hv⟩
    cases v <;> simp [Val.addrs] at hv
    subst hv; exact ⟨k, hm⟩
  · rintro ⟨k, hm⟩
    exact ⟨(k, Val.ref a), hm, by simp [Val.addrs]⟩

theorem mem_listAddrs {l : List Val} {a : Nat} : a ∈ listAddrs l ↔ Val.ref a ∈ l := by
  simp only [listAddrs, List.mem_flatMap]
  constructor
  · rintro ⟨v, hm, hv⟩
    cases v <;> simp [Val.addrs] at hv
    subst hv; exact hm
  · intro hm
    exact ⟨Val.ref a, hm, by simp [Val.addrs]⟩

theorem mem_histAddrs {d : List (Key × List Val)} {a : Nat} :
    a ∈ histAddrs d ↔ ∃ k l, (k, l) ∈ d ∧ Val.ref a ∈ l := by
  simp only [histAddrs, List.mem_flatMap, mem_listAddrs]
  constructor
  · rintro ⟨⟨k, l⟩, hm, hv⟩; exact ⟨k, l, hm, hv⟩
  · rintro ⟨k, l, hm, hv⟩; exact ⟨(k, l), hm, hv⟩

theorem listAddrs_of_mem {l : List Val} {v : Val} (hm : v ∈ l) {a : Nat} (ha : a ∈ v.addrs) : a ∈ listAddrs l :=
  List.mem_flatMap.2 ⟨v, hm, ha⟩

theorem dictAddrs_of_mem {d : List (Key × Val)} {kv : Key × Val} (hm : kv ∈ d) {a : Nat} (ha : a ∈ kv.2.addrs) :
    a ∈ dictAddrs d :=
  List.mem_flatMap.2 ⟨kv, hm, ha⟩

theorem histAddrs_of_mem {d : List (Key × List Val)} {kv : Key × List Val} (hm : kv ∈ d) {a : Nat}
    (ha : a ∈ listAddrs kv.2) : a ∈ histAddrs d :=
  List.mem_flatMap.2 ⟨kv, hm, ha⟩

theorem mem_addrs_ref {v : Val} {a : Nat} : a ∈ v.addrs ↔ v = Val.ref a := by
  cases v <;> simp [Val.addrs, eq_comm]

/-! ### the key tables -/

theorem currentKeys_nodup : currentKeys.Nodup := by decide +kernel
theorem historyKeys_nodup : historyKeys.Nodup := by decide +kernel
theorem commitKeys_nodup : commitKeys.Nodup := currentKeys_nodup.filter _

/-! ### association lists -/

theorem mem_insert {β : Type} {k : Key} {v : β} {d : List (Key × β)} {x : Key × β} :
    x ∈ insert k v d → x ∈ d ∨ x = (k, v) := by
  induction d with
  | nil => simp [insert]
  | cons hd tl ih =>
    simp only [insert]
    split <;> simp only [List.mem_cons] <;> rintro (h | h)
    · exact Or.inr h
    · exact Or.inl (Or.inr h)
    · exact Or.inl (Or.inl h)
    · exact (ih h).imp_left Or.inr

theorem mem_adjust {β : Type} {k : Key} {f : β → β} {d : List (Key × β)} {x : Key × β} :
    x ∈ adjust k f d → x ∈ d ∨ ∃ y, (x.1, y) ∈ d ∧ x.2 = f y := by
  induction d with
  | nil => simp [adjust]
  | cons hd tl ih =>
    simp only [adjust]
    split <;> simp only [List.mem_cons] <;> rintro (h | h)
    · subst h; exact Or.inr ⟨_, Or.inl rfl, rfl⟩
    · exact Or.inl (Or.inr h)
    · exact Or.inl (Or.inl h)
    · exact (ih h).imp Or.inr fun ⟨y, hy, hf⟩ => ⟨y, Or.inr hy, hf⟩

theorem mem_updateAll {β : Type} {e d : List (Key × β)} {x : Key × β} :
    x ∈ updateAll d e → x ∈ d ∨ x ∈ e := by
  unfold updateAll
  induction e generalizing d with
  | nil => simp
  | cons hd tl ih =>
    intro h
    simp only [List.foldl_cons] at h
    rcases ih h with h | h
    · rcases mem_insert h with h | h
      · exact Or.inl h
      · exact Or.inr (by rw [h]; simp)
    · exact Or.inr (List.mem_cons_of_mem _ h)

theorem lookup_mem {β : Type} {k : Key} {d : List (Key × β)} {v : β} (h : lookup k d = some v) : (k, v) ∈ d := by
  induction d with
  | nil => simp [lookup] at h
  | cons hd tl ih =>
    obtain ⟨k', v'⟩ := hd
    simp only [lookup] at h
    split at h
    · rename_i hk; simp at h; subst hk; subst h; simp
    · exact List.mem_cons_of_mem _ (ih h)

theorem lookup_not_addr {d : List (Key × Val)} {k : Key} {v : Val} {a : Nat} (hl : lookup k d = some v)
    (hd : a ∉ dictAddrs d) : a ∉ v.addrs :=
  fun hm => hd (dictAddrs_of_mem (lookup_mem hl) hm)

theorem lookup_not_listAddr {d : List (Key × List Val)} {k : Key} {l : List Val} {a : Nat} (hl : lookup k d = some l)
    (hd : a ∉ histAddrs d) : a ∉ listAddrs l :=
  fun hm => hd (histAddrs_of_mem (lookup_mem hl) hm)

theorem lookup_adjust {β : Type} {k k' : Key} {f : β → β} {d : List (Key × β)} :
    lookup k' (adjust k f d) = if k = k' then (lookup k' d).map f else lookup k' d := by
  induction d with
  | nil => simp [adjust, lookup]
  | cons hd tl ih =>
    obtain ⟨k2, v2⟩ := hd
    by_cases h1 : k2 = k <;> by_cases h2 : k = k' <;> simp_all [adjust, lookup]

theorem dictAddrs_insert {k : Key} {v : Val} {d : List (Key × Val)} {a : Nat}
    (h : a ∈ dictAddrs (insert k v d)) : a ∈ dictAddrs d ∨ a ∈ v.addrs := by
  obtain ⟨kv, hm, ha⟩ := List.mem_flatMap.1 h
  rcases mem_insert hm with hm | rfl
  · exact Or.inl (dictAddrs_of_mem hm ha)
  · exact Or.inr ha

theorem histAddrs_adjust_snoc {k : Key} {v : Val} {d : List (Key × List Val)} {a : Nat}
    (h : a ∈ histAddrs (adjust k (fun l => l ++ [v]) d)) : a ∈ histAddrs d ∨ a ∈ v.addrs := by
  obtain ⟨kv, hm, ha⟩ := List.mem_flatMap.1 h
  rcases mem_adjust hm with hm | ⟨y, hy, hf⟩
  · exact Or.inl (histAddrs_of_mem hm ha)
  · rw [hf] at ha
    simp only [listAddrs, List.flatMap_append, List.flatMap_cons, List.flatMap_nil, List.append_nil, List.mem_append] at ha
    exact ha.imp_left (histAddrs_of_mem hy)

theorem dictAddrs_updateAll {e d : List (Key × Val)} {a : Nat}
    (h : a ∈ dictAddrs (updateAll d e)) : a ∈ dictAddrs d ∨ a ∈ dictAddrs e := by
  obtain ⟨kv, hm, ha⟩ := List.mem_flatMap.1 h
  exact (mem_updateAll hm).imp (dictAddrs_of_mem · ha) (dictAddrs_of_mem · ha)

theorem histAddrs_updateAll {e d : List (Key × List Val)} {a : Nat}
    (h : a ∈ histAddrs (updateAll d e)) : a ∈ histAddrs d ∨ a ∈ histAddrs e := by
  obtain ⟨kv, hm, ha⟩ := List.mem_flatMap.1 h
  exact (mem_updateAll hm).imp (histAddrs_of_mem · ha) (histAddrs_of_mem · ha)

theorem lookup_map {α β : Type} (f : α → β) (k : Key) (d : List (Key × α)) :
    lookup k (d.map fun kv => (kv.1, f kv.2)) = (lookup k d).map f := by
  induction d with
  | nil => rfl
  | cons hd tl ih =>
    obtain ⟨k', v⟩ := hd
    simp only [List.map_cons, lookup]
    split
    · rfl
    · exact ih

theorem insert_map {α β : Type} (f : α → β) (k : Key) (v : α) (d : List (Key × α)) :
    (insert k v d).map (fun kv => (kv.1, f kv.2)) = insert k (f v) (d.map fun kv => (kv.1, f kv.2)) := by
  induction d with
  | nil => rfl
  | cons hd tl ih =>
    simp only [insert, List.map_cons]
    split
    · rfl
    · simp only [List.map_cons, ih]

theorem keys_adjust {β : Type} (k : Key) (f : β → β) (d : List (Key × β)) : (adjust k f d).map Prod.fst = d.map Prod.fst := by
  induction d with
  | nil => rfl
  | cons hd tl ih =>
    obtain ⟨k', v⟩ := hd
    simp only [adjust]
    split
    · rfl
    · simp only [List.map_cons, ih]

theorem mem_keys_insert {β : Type} {k : Key} {v : β} {d : List (Key × β)} {x : Key}
    (hx : x ∈ (insert k v d).map Prod.fst) : x = k ∨ x ∈ d.map Prod.fst := by
  simp only [List.mem_map] at hx
  obtain ⟨kv, hm, rfl⟩ := hx
  rcases mem_insert hm with h | h
  · exact Or.inr (List.mem_map.2 ⟨kv, h, rfl⟩)
  · exact Or.inl (by rw [h])

theorem mem_keys_updateAll {β : Type} {e d : List (Key × β)} {x : Key}
    (hx : x ∈ (updateAll d e).map Prod.fst) : x ∈ e.map Prod.fst ∨ x ∈ d.map Prod.fst := by
  induction e generalizing d with
  | nil => exact Or.inr hx
  | cons kv r ih =>
    simp only [updateAll, List.foldl_cons] at hx
    rcases ih (d := insert kv.1 kv.2 d) hx with h | h
    · exact Or.inl (by simp only [List.map_cons, List.mem_cons]; exact Or.inr h)
    · rcases mem_keys_insert h with h1 | h1
      · exact Or.inl (by simp only [List.map_cons, List.mem_cons]; exact Or.inl h1)
      · exact Or.inr h1

theorem foldl_insert_head {β : Type} (k : Key) (v : β) (d e : List (Key × β)) (hk : k ∉ e.map Prod.fst) :
    e.foldl (fun acc kv => insert kv.1 kv.2 acc) ((k, v) :: d) = (k, v) :: e.foldl (fun acc kv => insert kv.1 kv.2 acc) d := by
  induction e generalizing d with
  | nil => rfl
  | cons kv r ih =>
    simp only [List.map_cons, List.mem_cons, not_or] at hk
    simp only [List.foldl_cons, insert]
    have : ¬ k = kv.1 := fun h => hk.1 h
    simp only [this, if_false]
    exact ih _ hk.2

theorem updateAll_same_keys {β : Type} (d e : List (Key × β)) (hk : d.map Prod.fst = e.map Prod.fst)
    (hn : (e.map Prod.fst).Nodup) : updateAll d e = e := by
  induction e generalizing d with
  | nil => cases d with
    | nil => rfl
    | cons _ _ => simp at hk
  | cons kv r ih =>
    cases d with
    | nil => simp at hk
    | cons hd tl =>
      obtain ⟨k0, v0⟩ := hd
      obtain ⟨k, v⟩ := kv
      simp only [List.map_cons, List.cons.injEq] at hk
      simp only [List.map_cons, List.nodup_cons] at hn
      obtain ⟨hk1, hk2⟩ := hk
      subst hk1
      simp only [updateAll, List.foldl_cons, insert, if_true]
      rw [foldl_insert_head _ _ _ _ hn.1]
      congr 1
      exact ih tl hk2 hn.2

/-! ### shapes of values: the arrays a value refers to (`A`), the payload read there (`D`) -/

section
variable {β π : Type} {A : β → List Addr} {D : Heap → β → π}

structure Reader (A : β → List Addr) (D : Heap → β → π) : Prop where
  congr : ∀ {h h' : Heap} {v : β}, (∀ b : Nat, b ∈ A v → rd h' b = rd h b) → D h' v = D h v

theorem Reader.set (r : Reader A D) {h : Heap} {v : β} {a : Nat} {c : Option Content} (hv : a ∉ A v) :
    D (h.set a c) v = D h v :=
  r.congr fun _ hb => rd_set_ne fun e => hv (e ▸ hb)

theorem Reader.ext (r : Reader A D) {h h' : Heap} {v : β} (e : Ext h h') (hv : ∀ b : Nat, b ∈ A v → b < h.length) :
    D h' v = D h v :=
  r.congr fun b hb => e.rd (hv b hb)

theorem Reader.list (r : Reader A D) : Reader (fun l : List β => l.flatMap A) (fun h l => l.map (D h)) :=
  ⟨fun hv => List.map_congr_left fun _ hm => r.congr fun b hb => hv b (List.mem_flatMap.2 ⟨_, hm, hb⟩)⟩

theorem Reader.assoc (r : Reader A D) :
    Reader (fun d : List (Key × β) => d.flatMap fun kv => A kv.2) (fun h d => d.map fun kv => (kv.1, D h kv.2)) :=
  ⟨fun hv => List.map_congr_left fun _ hm => by rw [r.congr fun b hb => hv b (List.mem_flatMap.2 ⟨_, hm, hb⟩)]⟩

end

theorem reader_val : Reader Val.addrs deref :=
  ⟨fun {h h' v} hv => by
    cases v with
    | none => rfl
    | scalar x => rfl
    | ref b => simp [deref, hv b (by simp [Val.addrs])]⟩

theorem reader_list : Reader listAddrs (fun h l => l.map (deref h)) := reader_val.list
theorem reader_dict : Reader dictAddrs derefDict := reader_val.assoc
theorem reader_hist : Reader histAddrs derefHist := reader_list.assoc

theorem derefRes_set {h : Heap} {r : Res} {a : Nat} {c : Option Content} (hv : a ∉ r.addrs) :
    derefRes (h.set a c) r = derefRes h r := by
  cases r with
  | unit => rfl
  | err e => rfl
  | val v => simp only [Res.addrs] at hv; simp [derefRes, reader_val.set hv]
  | dict d => simp only [Res.addrs] at hv; simp [derefRes, reader_dict.set hv]
  | «export» cu hi =>
    simp only [Res.addrs, List.mem_append, not_or] at hv
    simp [derefRes, reader_dict.set hv.1, reader_hist.set hv.2]

/-! ### `_ensure_copy` and the comprehensions over it -/

theorem copyVal_ext (h : Heap) (v : Val) : Ext h (copyVal h v).1 := by
  cases v <;> simp [copyVal, Ext.refl, Ext.snoc]

theorem copyVal_fresh {h : Heap} {v : Val} {a : Nat} (ha : a ∈ (copyVal h v).2.addrs) :
    h.length ≤ a ∧ a < (copyVal h v).1.length := by
  cases v with
  | none => simp [copyVal, Val.addrs] at ha
  | scalar x => simp [copyVal, Val.addrs] at ha
  | ref b =>
    simp only [copyVal, Val.addrs, List.mem_singleton] at ha
    subst ha
    simp [copyVal]

theorem copyVal_deref (h : Heap) (v : Val) : deref (copyVal h v).1 (copyVal h v).2 = deref h v := by
  cases v <;> simp [copyVal, deref, rd_append_self]

theorem copyVal_set {h : Heap} {v : Val} {a : Nat} {c : Option Content} (ha : a < h.length) (hv : a ∉ v.addrs) :
    copyVal (h.set a c) v = ((copyVal h v).1.set a c, (copyVal h v).2) := by
  cases v with
  | none => simp [copyVal]
  | scalar x => simp [copyVal]
  | ref b =>
    have hne : a ≠ b := by simpa [Val.addrs] using hv
    simp [copyVal, rd_set_ne hne, set_append_lt ha]

section
variable {β π : Type} {A : β → List Addr} {D : Heap → β → π} {f : Heap → β → Heap × β}

/-- what `_ensure_copy` (`ndarray.copy()` / `copy.deepcopy`) guarantees, for a function `f` on values of any shape; `commutes`: `f` reads
    no cell outside `A v` -/
structure Copier (A : β → List Addr) (D : Heap → β → π) (f : Heap → β → Heap × β) : Prop extends Reader A D where
  appends : ∀ h v, Ext h (f h v).1
  fresh : ∀ {h v} {a : Nat}, a ∈ A (f h v).2 → h.length ≤ a ∧ a < (f h v).1.length
  commutes : ∀ {h v} {a : Nat} {c : Option Content}, a < h.length → a ∉ A v → f (h.set a c) v = ((f h v).1.set a c, (f h v).2)
  payload : ∀ h v, (∀ b : Nat, b ∈ A v → b < h.length) → D (f h v).1 (f h v).2 = D h v

/-- `[f(x) for x in l]` -/
theorem Copier.list (c : Copier A D f) : Copier (fun l : List β => l.flatMap A) (fun h l => l.map (D h)) (mapList f) := by
  have app : ∀ h l, Ext h (mapList f h l).1 := fun h l => by
    induction l generalizing h with
    | nil => exact Ext.refl h
    | cons v vs ih => exact (c.appends h v).trans (ih _)
  refine { c.toReader.list with appends := app, fresh := ?_, commutes := ?_, payload := ?_ }
  · intro h l a ha
    induction l generalizing h with
    | nil => cases ha
    | cons v vs ih =>
      have h1 := (c.appends h v).le
      have h2 := (app (f h v).1 vs).le
      simp only [mapList]
      rcases List.mem_append.1 ha with ha | ha
      · have := c.fresh ha; omega
      · have := ih ha; omega
  · intro h l a x ha hv
    induction l generalizing h with
    | nil => rfl
    | cons v vs ih =>
      simp only [List.flatMap_cons, List.mem_append, not_or] at hv
      simp only [mapList, c.commutes ha hv.1, ih (Nat.lt_of_lt_of_le ha (c.appends h v).le) hv.2]
  · -- a copy carries the payload of the original; the later copies of the loop only extend the heap
    intro h l hv
    induction l generalizing h with
    | nil => rfl
    | cons v vs ih =>
      have e1 := c.appends h v
      have hvs : ∀ b : Nat, b ∈ vs.flatMap A → b < h.length := fun b hb => hv b (List.mem_append_right _ hb)
      simp only [mapList, List.map_cons]
      rw [c.ext (app _ vs) (fun b hb => (c.fresh hb).2), c.payload h v fun b hb => hv b (List.mem_append_left _ hb),
        ih _ (fun b hb => Nat.lt_of_lt_of_le (hvs b hb) e1.le), c.toReader.list.ext e1 hvs]

theorem mapAssoc_eq_mapList {H β : Type} (f : H → β → H × β) :
    mapAssoc f = mapList fun h kv => ((f h kv.2).1, (kv.1, (f h kv.2).2)) := by
  funext h d
  induction d generalizing h with
  | nil => rfl
  | cons kv r ih => obtain ⟨k, v⟩ := kv; simp only [mapAssoc, mapList, ih]

/-- `{k: f(v) for k, v in d.items()}` -/
theorem Copier.assoc (c : Copier A D f) :
    Copier (fun d : List (Key × β) => d.flatMap fun kv => A kv.2) (fun h d => d.map fun kv => (kv.1, D h kv.2)) (mapAssoc f) := by
  rw [mapAssoc_eq_mapList]
  exact Copier.list (A := fun kv : Key × β => A kv.2) (D := fun h kv => (kv.1, D h kv.2))
    { congr := fun hv => by rw [c.congr hv], appends := fun h kv => c.appends h kv.2, fresh := c.fresh,
      commutes := fun ha hv => by rw [c.commutes ha hv], payload := fun h kv hv => by rw [c.payload h kv.2 hv] }

end

theorem copier_val : Copier Val.addrs deref copyVal :=
  { reader_val with appends := copyVal_ext, fresh := copyVal_fresh, commutes := copyVal_set, payload := fun h v _ => copyVal_deref h v }

theorem copyList_eq : copyList = mapList copyVal := by
  funext h l
  induction l generalizing h with
  | nil => rfl
  | cons v vs ih => simp only [mapList, copyList, ih]

theorem copyDict_eq : copyDict = mapAssoc copyVal := by
  funext h d
  induction d generalizing h with
  | nil => rfl
  | cons kv r ih => obtain ⟨k, v⟩ := kv; simp only [mapAssoc, copyDict, ih]

theorem copyHist_eq : copyHist = mapAssoc copyList := by
  funext h d
  induction d generalizing h with
  | nil => rfl
  | cons kv r ih => obtain ⟨k, v⟩ := kv; simp only [mapAssoc, copyHist, ih]

theorem copier_list : Copier listAddrs (fun h l => l.map (deref h)) copyList := copyList_eq ▸ copier_val.list
theorem copier_dict : Copier dictAddrs derefDict copyDict := copyDict_eq ▸ copier_val.assoc
theorem copier_hist : Copier histAddrs derefHist copyHist := copyHist_eq ▸ copier_list.assoc

/-! ### `np.array(list)` / `np.concatenate(list)` -/

theorem cellOf_set {h : Heap} {v : Val} {a : Nat} {c : Option Content} (hv : a ∉ v.addrs) :
    cellOf (h.set a c) v = cellOf h v := by
  cases v with
  | none => rfl
  | scalar x => rfl
  | ref b =>
    have hne : a ≠ b := by simpa [Val.addrs] using hv
    simp [cellOf, rd_set_ne hne]

theorem stack_set {h : Heap} {l : List Val} {a : Nat} {c : Option Content} (hv : a ∉ listAddrs l) :
    stack (h.set a c) l = stack h l := by
  induction l with
  | nil => rfl
  | cons v vs ih =>
    simp only [listAddrs, List.flatMap_cons, List.mem_append, not_or] at hv
    simp only [stack, cellOf_set hv.1, ih hv.2]

theorem fillCache_ext (d : List (Key × List Val)) (h : Heap) (c : List (Key × Val)) : Ext h (fillCache d h c).1 := by
  induction d generalizing h c with
  | nil => simp [fillCache, Ext.refl]
  | cons kv r ih =>
    obtain ⟨k, l⟩ := kv
    simp only [fillCache]
    split
    · exact (Ext.snoc h _).trans (ih _ _)
    · exact Ext.refl h

theorem fillCache_fresh {d : List (Key × List Val)} {h : Heap} {c : List (Key × Val)} {a : Nat}
    (ha : a ∈ dictAddrs (fillCache d h c).2.1) : a ∈ dictAddrs c ∨ (h.length ≤ a ∧ a < (fillCache d h c).1.length) := by
  induction d generalizing h c with
  | nil => simp only [fillCache] at ha; exact Or.inl ha
  | cons kv r ih =>
    obtain ⟨k, l⟩ := kv
    simp only [fillCache] at ha ⊢
    split at ha
    · rename_i hk
      simp only [hk, if_true]
      rcases ih ha with h1 | h1
      · rcases dictAddrs_insert h1 with h2 | h2
        · exact Or.inl h2
        · simp only [Val.addrs, List.mem_singleton] at h2
          have h3 := (fillCache_ext r (h ++ [stack h l]) (insert k (.ref h.length) c)).le
          simp only [List.length_append, List.length_singleton] at h3
          exact Or.inr ⟨by omega, by omega⟩
      · simp only [List.length_append, List.length_singleton] at h1
        exact Or.inr ⟨by omega, h1.2⟩
    · exact Or.inl ha

theorem fillCache_nil_fresh {d : List (Key × List Val)} {h : Heap} {a : Nat} (ha : a ∈ dictAddrs (fillCache d h []).2.1) :
    h.length ≤ a ∧ a < (fillCache d h []).1.length :=
  (fillCache_fresh ha).resolve_left (by simp [dictAddrs])

theorem filled_cache_new (d : List (Key × List Val)) (h : Heap) (w : Option Content) (a : Nat)
    (ha : a ∈ dictAddrs (insert "logw" (.ref (fillCache d h []).1.length) (fillCache d h []).2.1)) :
    h.length ≤ a ∧ a < ((fillCache d h []).1 ++ [w]).length := by
  have hle := (fillCache_ext d h []).le
  simp only [List.length_append, List.length_singleton]
  rcases dictAddrs_insert ha with h1 | h1
  · have := fillCache_nil_fresh h1
    omega
  · simp only [Val.addrs, List.mem_singleton] at h1
    omega

theorem fillCache_set {d : List (Key × List Val)} {h : Heap} {c : List (Key × Val)} {a : Nat} {x : Option Content}
    (ha : a < h.length) (hv : a ∉ histAddrs d) :
    fillCache d (h.set a x) c = ((fillCache d h c).1.set a x, (fillCache d h c).2) := by
  induction d generalizing h c with
  | nil => simp [fillCache]
  | cons kv r ih =>
    obtain ⟨k, l⟩ := kv
    simp only [histAddrs, List.flatMap_cons, List.mem_append, not_or] at hv
    simp only [fillCache]
    split
    · have ha' : a < (h ++ [stack h l]).length := by simp; omega
      have := ih (h := h ++ [stack h l]) (c := insert k (.ref h.length) c) ha' hv.2
      rw [stack_set hv.1, set_append_lt ha, List.length_set, this]
    · rfl

theorem logwStub_set {h : Heap} {d : List (Key × List Val)} {a : Nat} {x : Option Content} (hv : a ∉ histAddrs d) :
    logwStub (h.set a x) d = logwStub h d := by
  unfold logwStub
  split
  · rename_i l _ hl
    exact stack_set (lookup_not_listAddr hl hv)
  · rfl

/-! ### caller-side evaluation of arguments -/

structure ResSpec (h : Heap) (esc : List Addr) (h' : Heap) (esc' : List Addr) : Prop where
  ext : Ext h h'
  mono : ∀ a : Nat, a ∈ esc → a ∈ esc'
  fresh : ∀ a : Nat, a ∈ esc' → a ∈ esc ∨ (h.length ≤ a ∧ a < h'.length)

theorem ResSpec.refl (h : Heap) (esc : List Addr) : ResSpec h esc h esc :=
  ⟨Ext.refl h, fun _ ha => ha, fun _ ha => Or.inl ha⟩

theorem ResSpec.trans {h1 h2 h3 : Heap} {e1 e2 e3 : List Addr} (a : ResSpec h1 e1 h2 e2) (b : ResSpec h2 e2 h3 e3) :
    ResSpec h1 e1 h3 e3 := by
  refine ⟨a.ext.trans b.ext, fun x hx => b.mono x (a.mono x hx), fun x hx => ?_⟩
  have l1 := a.ext.le
  have l2 := b.ext.le
  rcases b.fresh x hx with h | h
  · rcases a.fresh x h with h | h
    · exact Or.inl h
    · exact Or.inr ⟨h.1, by omega⟩
  · exact Or.inr ⟨by omega, h.2⟩

theorem resolveArg_spec (h : Heap) (esc : List Addr) (x : Arg) :
    ResSpec h esc (resolveArg h esc x).1 (resolveArg h esc x).2.1 := by
  cases x with
  | none => exact ResSpec.refl h esc
  | scalar x => exact ResSpec.refl h esc
  | held a => exact ResSpec.refl h esc
  | fresh p =>
    refine ⟨Ext.snoc h _, fun a ha => List.mem_cons_of_mem _ ha, fun a ha => ?_⟩
    simp only [resolveArg, List.mem_cons] at ha
    rcases ha with ha | ha
    · subst ha; exact Or.inr ⟨Nat.le_refl _, by simp [resolveArg]⟩
    · exact Or.inl ha

theorem resolveArg_set {h : Heap} {esc : List Addr} {x : Arg} {a : Nat} {c : Option Content} (ha : a < h.length) :
    resolveArg (h.set a c) esc x = ((resolveArg h esc x).1.set a c, (resolveArg h esc x).2) := by
  cases x <;> simp [resolveArg, set_append_lt ha]

theorem resolveList_spec (h : Heap) (esc : List Addr) (l : List Arg) :
    ResSpec h esc (resolveList h esc l).1 (resolveList h esc l).2.1 := by
  induction l generalizing h esc with
  | nil => exact ResSpec.refl h esc
  | cons x xs ih => simp only [resolveList]; exact (resolveArg_spec h esc x).trans (ih _ _)

theorem resolveList_set {h : Heap} {esc : List Addr} {l : List Arg} {a : Nat} {c : Option Content} (ha : a < h.length) :
    resolveList (h.set a c) esc l = ((resolveList h esc l).1.set a c, (resolveList h esc l).2) := by
  induction l generalizing h esc with
  | nil => simp [resolveList]
  | cons x xs ih =>
    have ha' : a < (resolveArg h esc x).1.length := Nat.lt_of_lt_of_le ha (resolveArg_spec h esc x).ext.le
    simp only [resolveList, resolveArg_set ha, ih ha']

theorem resolveDict_spec (h : Heap) (esc : List Addr) (l : List (Key × Arg)) :
    ResSpec h esc (resolveDict h esc l).1 (resolveDict h esc l).2.1 := by
  induction l generalizing h esc with
  | nil => exact ResSpec.refl h esc
  | cons kx xs ih => obtain ⟨k, x⟩ := kx; simp only [resolveDict]; exact (resolveArg_spec h esc x).trans (ih _ _)

theorem resolveDict_set {h : Heap} {esc : List Addr} {l : List (Key × Arg)} {a : Nat} {c : Option Content}
    (ha : a < h.length) :
    resolveDict (h.set a c) esc l = ((resolveDict h esc l).1.set a c, (resolveDict h esc l).2) := by
  induction l generalizing h esc with
  | nil => simp [resolveDict]
  | cons kx xs ih =>
    obtain ⟨k, x⟩ := kx
    have ha' : a < (resolveArg h esc x).1.length := Nat.lt_of_lt_of_le ha (resolveArg_spec h esc x).ext.le
    simp only [resolveDict, resolveArg_set ha, ih ha']

theorem resolveHist_spec (h : Heap) (esc : List Addr) (l : List (Key × List Arg)) :
    ResSpec h esc (resolveHist h esc l).1 (resolveHist h esc l).2.1 := by
  induction l generalizing h esc with
  | nil => exact ResSpec.refl h esc
  | cons kx xs ih => obtain ⟨k, x⟩ := kx; simp only [resolveHist]; exact (resolveList_spec h esc x).trans (ih _ _)

theorem resolveHist_set {h : Heap} {esc : List Addr} {l : List (Key × List Arg)} {a : Nat} {c : Option Content}
    (ha : a < h.length) :
    resolveHist (h.set a c) esc l = ((resolveHist h esc l).1.set a c, (resolveHist h esc l).2) := by
  induction l generalizing h esc with
  | nil => simp [resolveHist]
  | cons kx xs ih =>
    obtain ⟨k, x⟩ := kx
    have ha' : a < (resolveList h esc x).1.length := Nat.lt_of_lt_of_le ha (resolveList_spec h esc x).ext.le
    simp only [resolveHist, resolveList_set ha, ih ha']

/-! ### what the resolved arguments refer to: arrays the caller passed back in, or arrays it has just created -/

def Arg.heldAddrs : Arg → List Addr
  | .held a => [a]
  | _ => []

/-- addresses of previously obtained arrays that an operation passes back in -/
def Op.heldAddrs : Op → List Addr
  | .setCurrent _ x _ => x.heldAddrs
  | .updateCurrent kvs _ => kvs.flatMap (fun kv => kv.2.heldAddrs)
  | .updateFromDict cur hist =>
    (entries cur).flatMap (fun kv => kv.2.heldAddrs) ++
    (entries hist).flatMap (fun kv => kv.2.flatMap Arg.heldAddrs)
  | _ => []

theorem legal_held {esc : List Addr} {x : Arg} (hl : x.legal esc = true) : ∀ a : Nat, a ∈ x.heldAddrs → a ∈ esc := by
  cases x <;> simp_all [Arg.legal, Arg.heldAddrs]

theorem dictLegal_held {esc : List Addr} {d : List (Key × Arg)} (hl : dictLegal esc d = true) :
    ∀ a : Nat, a ∈ d.flatMap (fun kv => kv.2.heldAddrs) → a ∈ esc := by
  intro a ha
  simp only [List.mem_flatMap] at ha
  obtain ⟨kv, hm, hx⟩ := ha
  simp only [dictLegal, List.all_eq_true] at hl
  exact legal_held (hl kv hm) a hx

theorem histLegal_held {esc : List Addr} {d : List (Key × List Arg)} (hl : histLegal esc d = true) :
    ∀ a : Nat, a ∈ d.flatMap (fun kv => kv.2.flatMap Arg.heldAddrs) → a ∈ esc := by
  intro a ha
  simp only [List.mem_flatMap] at ha
  obtain ⟨kv, hm, x, hx, hax⟩ := ha
  simp only [histLegal, List.all_eq_true] at hl
  exact legal_held (hl kv hm x hx) a hax

theorem resolveArg_addrs {h : Heap} {esc : List Addr} {x : Arg} {b : Nat} (hb : b ∈ (resolveArg h esc x).2.2.addrs) :
    b ∈ x.heldAddrs ∨ (h.length ≤ b ∧ b ∈ (resolveArg h esc x).2.1) := by
  cases x <;> simp_all [resolveArg, Val.addrs, Arg.heldAddrs]

theorem resolveList_addrs {h : Heap} {esc : List Addr} {l : List Arg} {b : Nat}
    (hb : b ∈ listAddrs (resolveList h esc l).2.2) :
    b ∈ l.flatMap Arg.heldAddrs ∨ (h.length ≤ b ∧ b ∈ (resolveList h esc l).2.1) := by
  induction l generalizing h esc with
  | nil => simp [resolveList, listAddrs] at hb
  | cons x xs ih =>
    simp only [resolveList, listAddrs, List.flatMap_cons, List.mem_append] at hb ⊢
    rcases hb with hb | hb
    · exact (resolveArg_addrs hb).imp Or.inl fun h1 => ⟨h1.1, (resolveList_spec _ _ xs).mono b h1.2⟩
    · have hle := (resolveArg_spec h esc x).ext.le
      exact (ih hb).imp Or.inr fun h1 => ⟨by omega, h1.2⟩

theorem resolveDict_addrs {h : Heap} {esc : List Addr} {l : List (Key × Arg)} {b : Nat}
    (hb : b ∈ dictAddrs (resolveDict h esc l).2.2) :
    b ∈ l.flatMap (fun kv => kv.2.heldAddrs) ∨ (h.length ≤ b ∧ b ∈ (resolveDict h esc l).2.1) := by
  induction l generalizing h esc with
  | nil => simp [resolveDict, dictAddrs] at hb
  | cons kx xs ih =>
    obtain ⟨k, x⟩ := kx
    simp only [resolveDict, dictAddrs, List.flatMap_cons, List.mem_append] at hb ⊢
    rcases hb with hb | hb
    · exact (resolveArg_addrs hb).imp Or.inl fun h1 => ⟨h1.1, (resolveDict_spec _ _ xs).mono b h1.2⟩
    · have hle := (resolveArg_spec h esc x).ext.le
      exact (ih hb).imp Or.inr fun h1 => ⟨by omega, h1.2⟩

theorem resolveHist_addrs {h : Heap} {esc : List Addr} {l : List (Key × List Arg)} {b : Nat}
    (hb : b ∈ histAddrs (resolveHist h esc l).2.2) :
    b ∈ l.flatMap (fun kv => kv.2.flatMap Arg.heldAddrs) ∨ (h.length ≤ b ∧ b ∈ (resolveHist h esc l).2.1) := by
  induction l generalizing h esc with
  | nil => simp [resolveHist, histAddrs] at hb
  | cons kx xs ih =>
    obtain ⟨k, x⟩ := kx
    simp only [resolveHist, histAddrs, List.flatMap_cons, List.mem_append] at hb ⊢
    rcases hb with hb | hb
    · exact (resolveList_addrs hb).imp Or.inl fun h1 => ⟨h1.1, (resolveHist_spec _ _ xs).mono b h1.2⟩
    · have hle := (resolveList_spec h esc x).ext.le
      exact (ih hb).imp Or.inr fun h1 => ⟨by omega, h1.2⟩

theorem resolveArg_legal {h : Heap} {esc : List Addr} {x : Arg} (hl : x.legal esc = true) :
    ∀ a ∈ (resolveArg h esc x).2.2.addrs, a ∈ (resolveArg h esc x).2.1 := fun a ha =>
  (resolveArg_addrs ha).elim (fun hh => (resolveArg_spec h esc x).mono a (legal_held hl a hh)) (·.2)

theorem resolveDict_legal {h : Heap} {esc : List Addr} {l : List (Key × Arg)} (hl : dictLegal esc l = true) :
    ∀ a ∈ dictAddrs (resolveDict h esc l).2.2, a ∈ (resolveDict h esc l).2.1 := fun a ha =>
  (resolveDict_addrs ha).elim (fun hh => (resolveDict_spec h esc l).mono a (dictLegal_held hl a hh)) (·.2)

theorem resolveHist_legal {h : Heap} {esc : List Addr} {l : List (Key × List Arg)} (hl : histLegal esc l = true) :
    ∀ a ∈ histAddrs (resolveHist h esc l).2.2, a ∈ (resolveHist h esc l).2.1 := fun a ha =>
  (resolveHist_addrs ha).elim (fun hh => (resolveHist_spec h esc l).mono a (histLegal_held hl a hh)) (·.2)

/-! ### reachable addresses and the invariant -/

def cacheAddrs : Option (List (Key × Val)) → List Addr
  | none => []
  | some c => dictAddrs c

/-- addresses of the arrays that internal state points to (`_current`, `_history`, `_results_dict`) -/
def reach (s : State) : List Addr := dictAddrs s.current ++ histAddrs s.history ++ cacheAddrs s.cache

theorem mem_reach {s : State} {a : Nat} :
    a ∈ reach s ↔ a ∈ dictAddrs s.current ∨ a ∈ histAddrs s.history ∨ a ∈ cacheAddrs s.cache := by
  simp [reach]

/-- every internally reachable array is allocated; everything the caller holds is allocated; an array reachable
    from `_current` is held by the caller only if the caller asked for it to be stored there by reference (`copy=False`);
    an array reachable from `_history` or from the results cache is never held by the caller -/
structure Inv (s : State) : Prop where
  reach_lt : ∀ a : Nat, a ∈ reach s → a < s.heap.length
  esc_lt : ∀ a : Nat, a ∈ s.escaped → a < s.heap.length
  sep : ∀ a : Nat, a ∈ dictAddrs s.current → a ∈ s.escaped → a ∈ s.imported
  sepH : ∀ a : Nat, a ∈ histAddrs s.history ∨ a ∈ cacheAddrs s.cache → a ∉ s.escaped

theorem Inv.cur_lt {s : State} (hI : Inv s) (a : Nat) (ha : a ∈ dictAddrs s.current) : a < s.heap.length :=
  hI.reach_lt a (mem_reach.2 (Or.inl ha))

theorem Inv.hist_lt {s : State} (hI : Inv s) (a : Nat) (ha : a ∈ histAddrs s.history) : a < s.heap.length :=
  hI.reach_lt a (mem_reach.2 (Or.inr (Or.inl ha)))

theorem Inv.cache_lt {s : State} (hI : Inv s) (a : Nat) (ha : a ∈ cacheAddrs s.cache) : a < s.heap.length :=
  hI.reach_lt a (mem_reach.2 (Or.inr (Or.inr ha)))

/-! ### the caller's write; classes of operations -/

def poke (s : State) (a : Nat) (c : Option Content) : State := { s with heap := s.heap.set a c }

theorem step_scribble (s : State) (a : Addr) (p : Content) :
    step s (.scribble a p) = if a ∈ s.escaped then (poke s a (some p), .unit) else (s, .err .illegal) := by
  simp [step, poke]

def Op.isScribble : Op → Bool
  | .scribble _ _ => true
  | _ => false

def Op.isCommit : Op → Bool
  | .commit _ => true
  | _ => false

def Op.isImport : Op → Bool
  | .updateFromDict _ _ => true
  | _ => false

/-- operations by which the caller asks for a reference to be stored as is -/
def Op.optIn : Op → Bool
  | .setCurrent _ _ copy => !copy
  | .updateCurrent _ copy => !copy
  | _ => false

def Op.isCompute : Op → Bool
  | .computeResults => true
  | _ => false

/-- the accessors: they store nothing and leave the results cache as it is -/
def Op.isRead : Op → Bool
  | .getCurrent _ | .getHistory _ _ _ | .getLastHistory _ | .logw _ | .toDict => true
  | _ => false

def Op.clean (o : Op) : Bool := !o.optIn && o.heldAddrs.isEmpty && !o.isScribble

theorem clean_spec {o : Op} (h : o.clean = true) : o.optIn = false ∧ o.heldAddrs = [] ∧ o.isScribble = false := by
  simp only [Op.clean, Bool.and_eq_true, Bool.not_eq_true', List.isEmpty_iff] at h
  exact ⟨h.1.1, h.1.2, h.2⟩

/-! ### the two kinds of transition: on the caller's side, on the manager's side -/

/-- `t` is `s` after something happened on the caller's side only — it built arrays to pass in, it was handed newly
    allocated arrays, it overwrote an array it holds: the manager's dictionaries are untouched -/
structure RO (s t : State) : Prop where
  cur : t.current = s.current
  hist : t.history = s.history
  cache : t.cache = s.cache
  imp : t.imported = s.imported
  le : s.heap.length ≤ t.heap.length
  escMono : ∀ a : Nat, a ∈ s.escaped → a ∈ t.escaped
  escNew : ∀ a : Nat, a ∈ t.escaped → a ∈ s.escaped ∨ (s.heap.length ≤ a ∧ a < t.heap.length)

theorem RO.refl (s : State) : RO s s := ⟨rfl, rfl, rfl, rfl, Nat.le_refl _, fun _ h => h, fun _ h => Or.inl h⟩

theorem RO.trans {s t u : State} (a : RO s t) (b : RO t u) : RO s u := by
  have l1 := a.le
  have l2 := b.le
  refine ⟨b.cur.trans a.cur, b.hist.trans a.hist, b.cache.trans a.cache, b.imp.trans a.imp, by omega,
    fun x hx => b.escMono x (a.escMono x hx), fun x hx => ?_⟩
  rcases b.escNew x hx with h | h
  · rcases a.escNew x h with h' | h'
    · exact Or.inl h'
    · exact Or.inr ⟨h'.1, by omega⟩
  · exact Or.inr ⟨by omega, h.2⟩

theorem RO.reach_eq {s t : State} (r : RO s t) : reach t = reach s := by
  unfold reach; rw [r.cur, r.hist, r.cache]

/-- a new caller-held address cannot be one that internal state already refers to -/
theorem RO.inv {s t : State} (r : RO s t) (hI : Inv s) : Inv t := by
  have hle := r.le
  have hold : ∀ a : Nat, a ∈ reach s → a ∈ t.escaped → a ∈ s.escaped := fun a ha he =>
    (r.escNew a he).elim id fun h => by have := hI.reach_lt a ha; omega
  refine ⟨fun a ha => ?_, fun a ha => ?_, fun a ha he => ?_, fun a ha he => ?_⟩
  · rw [r.reach_eq] at ha
    have := hI.reach_lt a ha
    omega
  · rcases r.escNew a ha with h | h
    · have := hI.esc_lt a h; omega
    · exact h.2
  · rw [r.cur] at ha
    rw [r.imp]
    exact hI.sep a ha (hold a (mem_reach.2 (Or.inl ha)) he)
  · rw [r.hist, r.cache] at ha
    exact hI.sepH a ha (hold a (mem_reach.2 (Or.inr ha)) he)

theorem RO.resolve {s : State} {h' : Heap} {e' : List Addr} (sp : ResSpec s.heap s.escaped h' e') :
    RO s { s with heap := h', escaped := e' } :=
  ⟨rfl, rfl, rfl, rfl, sp.ext.le, sp.mono, sp.fresh⟩

theorem RO.handOut {s : State} {h' : Heap} {new : List Addr} (hle : s.heap.length ≤ h'.length)
    (hnew : ∀ a : Nat, a ∈ new → s.heap.length ≤ a ∧ a < h'.length) :
    RO s { s with heap := h', escaped := new ++ s.escaped } :=
  ⟨rfl, rfl, rfl, rfl, hle, fun _ h => List.mem_append_right _ h,
    fun a ha => (List.mem_append.1 ha).elim (fun h => Or.inr (hnew a h)) Or.inl⟩

theorem RO.poke (s : State) (a : Nat) (c : Option Content) : RO s (poke s a c) :=
  ⟨rfl, rfl, rfl, rfl, Nat.le_of_eq List.length_set.symm, fun _ h => h, fun _ h => Or.inl h⟩

/-- `t` is `s` after the manager allocated arrays and stored references: the caller holds what it held; whatever the
    dictionaries newly refer to is newly allocated — or, if `alias` is set (`copy=False`), is an array the caller
    holds, and is then recorded in `imported` -/
structure Lib (alias : Bool) (s t : State) : Prop where
  esc : t.escaped = s.escaped
  le : s.heap.length ≤ t.heap.length
  impMono : ∀ a : Nat, a ∈ s.imported → a ∈ t.imported
  impEq : alias = false → t.imported = s.imported
  cur : ∀ a : Nat, a ∈ dictAddrs t.current →
    a ∈ dictAddrs s.current ∨ (s.heap.length ≤ a ∧ a < t.heap.length) ∨ (alias = true ∧ a ∈ s.escaped ∧ a ∈ t.imported)
  hc : ∀ a : Nat, a ∈ histAddrs t.history ∨ a ∈ cacheAddrs t.cache →
    (a ∈ histAddrs s.history ∨ a ∈ cacheAddrs s.cache) ∨ (s.heap.length ≤ a ∧ a < t.heap.length)

theorem Lib.refl (al : Bool) (s : State) : Lib al s s :=
  ⟨rfl, Nat.le_refl _, fun _ h => h, fun _ => rfl, fun _ h => Or.inl h, fun _ h => Or.inl h⟩

theorem Lib.trans {al : Bool} {s t u : State} (a : Lib al s t) (b : Lib al t u) : Lib al s u := by
  have l1 := a.le
  have l2 := b.le
  refine ⟨b.esc.trans a.esc, by omega, fun x hx => b.impMono x (a.impMono x hx),
    fun h => (b.impEq h).trans (a.impEq h), fun x hx => ?_, fun x hx => ?_⟩
  · rcases b.cur x hx with h | h | h
    · rcases a.cur x h with h | h | h
      · exact Or.inl h
      · exact Or.inr (Or.inl ⟨h.1, by omega⟩)
      · exact Or.inr (Or.inr ⟨h.1, h.2.1, b.impMono x h.2.2⟩)
    · exact Or.inr (Or.inl ⟨by omega, h.2⟩)
    · exact Or.inr (Or.inr ⟨h.1, by rw [← a.esc]; exact h.2.1, h.2.2⟩)
  · rcases b.hc x hx with h | h
    · rcases a.hc x h with h | h
      · exact Or.inl h
      · exact Or.inr ⟨h.1, by omega⟩
    · exact Or.inr ⟨by omega, h.2⟩

/-- a newly allocated address is not one the caller holds -/
theorem Lib.inv {al : Bool} {s t : State} (l : Lib al s t) (hI : Inv s) : Inv t := by
  have hle := l.le
  have hesc : ∀ a : Nat, a ∈ t.escaped → a ∈ s.escaped := fun a ha => by rw [← l.esc]; exact ha
  refine ⟨fun a ha => ?_, fun a ha => ?_, fun a ha he => ?_, fun a ha he => ?_⟩
  · rcases mem_reach.1 ha with h | h
    · rcases l.cur a h with h | h | h
      · have := hI.reach_lt a (mem_reach.2 (Or.inl h)); omega
      · exact h.2
      · have := hI.esc_lt a h.2.1; omega
    · rcases l.hc a h with h | h
      · have := hI.reach_lt a (mem_reach.2 (Or.inr h)); omega
      · exact h.2
  · have := hI.esc_lt a (hesc a ha); omega
  · rcases l.cur a ha with h | h | h
    · exact l.impMono a (hI.sep a h (hesc a he))
    · have := hI.esc_lt a (hesc a he); omega
    · exact h.2.2
  · rcases l.hc a ha with h | h
    · exact hI.sepH a h (hesc a he)
    · have := hI.esc_lt a (hesc a he); omega

/-- `_invalidate_cache()` -/
theorem Lib.cacheNone (al : Bool) (s : State) : Lib al s { s with cache := none } :=
  ⟨rfl, Nat.le_refl _, fun _ h => h, fun _ => rfl, fun _ h => Or.inl h,
    fun _ h => Or.inl (h.imp_right fun h => by cases h)⟩

theorem Lib.fill {s : State} {h' : Heap} {c : List (Key × Val)} (hle : s.heap.length ≤ h'.length)
    (hc : ∀ a : Nat, a ∈ dictAddrs c → s.heap.length ≤ a ∧ a < h'.length) :
    Lib false s { s with heap := h', cache := some c } :=
  ⟨rfl, hle, fun _ h => h, fun _ => rfl, fun _ h => Or.inl h, fun a h => h.elim (fun h => Or.inl (Or.inl h)) fun h => Or.inr (hc a h)⟩

theorem Lib.update {s : State} {h' : Heap} {c : List (Key × Val)} {hi : List (Key × List Val)} (hle : s.heap.length ≤ h'.length)
    (hc : ∀ a : Nat, a ∈ dictAddrs c → s.heap.length ≤ a ∧ a < h'.length)
    (hh : ∀ a : Nat, a ∈ histAddrs hi → s.heap.length ≤ a ∧ a < h'.length) :
    Lib false s { s with heap := h', current := updateAll s.current c, history := updateAll s.history hi, cache := none } := by
  refine ⟨rfl, hle, fun _ h => h, fun _ => rfl, fun a h => ?_, fun a h => ?_⟩
  · exact (dictAddrs_updateAll h).imp_right fun h => Or.inl (hc a h)
  · rcases h with h | h
    · exact (histAddrs_updateAll h).imp Or.inl (hh a)
    · cases h

theorem storeCurrent_frame (s : State) (k : Key) (v : Val) (copy : Bool) :
    (storeCurrent s k v copy).history = s.history ∧ (storeCurrent s k v copy).cache = s.cache ∧
    Ext s.heap (storeCurrent s k v copy).heap := by
  cases copy
  · exact ⟨rfl, rfl, Ext.refl _⟩
  · exact ⟨rfl, rfl, copyVal_ext _ _⟩

/-- `self._current[key] = self._ensure_copy(value) if copy else value`, for a value the caller holds -/
theorem lib_storeCurrent (s : State) (k : Key) (v : Val) (copy : Bool) (hv : ∀ a : Nat, a ∈ v.addrs → a ∈ s.escaped) :
    Lib (!copy) s (storeCurrent s k v copy) := by
  cases copy
  · refine ⟨rfl, Nat.le_refl _, fun _ h => List.mem_append_right _ h, fun h => (by cases h), fun a ha => ?_,
      fun _ h => Or.inl h⟩
    rcases dictAddrs_insert ha with h | h
    · exact Or.inl h
    · exact Or.inr (Or.inr ⟨rfl, hv a h, List.mem_append_left _ h⟩)
  · refine ⟨rfl, (copyVal_ext _ _).le, fun _ h => h, fun _ => rfl, fun a ha => ?_, fun _ h => Or.inl h⟩
    rcases dictAddrs_insert ha with h | h
    · exact Or.inl h
    · exact Or.inr (Or.inl (copyVal_fresh h))

theorem updLoop_frame (copy : Bool) (kvs : List (Key × Val)) (s : State) :
    (updLoop copy kvs s).1.history = s.history ∧ (updLoop copy kvs s).1.cache = s.cache ∧
    Ext s.heap (updLoop copy kvs s).1.heap := by
  induction kvs generalizing s with
  | nil => exact ⟨rfl, rfl, Ext.refl _⟩
  | cons kv r ih =>
    obtain ⟨k, v⟩ := kv
    simp only [updLoop]
    split
    · obtain ⟨h1, h2, h3⟩ := storeCurrent_frame s k v copy
      obtain ⟨i1, i2, i3⟩ := ih (storeCurrent s k v copy)
      exact ⟨i1.trans h1, i2.trans h2, h3.trans i3⟩
    · exact ⟨rfl, rfl, Ext.refl _⟩

theorem lib_updLoop (copy : Bool) (kvs : List (Key × Val)) (s : State) (hv : ∀ a : Nat, a ∈ dictAddrs kvs → a ∈ s.escaped) :
    Lib (!copy) s (updLoop copy kvs s).1 := by
  induction kvs generalizing s with
  | nil => exact Lib.refl _ _
  | cons kv r ih =>
    obtain ⟨k, v⟩ := kv
    simp only [dictAddrs, List.flatMap_cons, List.mem_append] at hv
    simp only [updLoop]
    split
    · have l1 := lib_storeCurrent s k v copy (fun a ha => hv a (Or.inl ha))
      exact l1.trans (ih _ (fun a ha => by rw [l1.esc]; exact hv a (Or.inr ha)))
    · exact Lib.refl _ _

theorem commitLoop_frame (ks : List Key) (s : State) :
    (commitLoop ks s).current = s.current ∧ (commitLoop ks s).cache = s.cache ∧ Ext s.heap (commitLoop ks s).heap := by
  induction ks generalizing s with
  | nil => exact ⟨rfl, rfl, Ext.refl _⟩
  | cons k ks ih =>
    simp only [commitLoop]
    split
    · split
      · exact ih s
      · rename_i v _ _
        obtain ⟨h1, h2, h3⟩ :=
          ih { s with heap := (copyVal s.heap v).1, history := adjust k (fun l => l ++ [(copyVal s.heap v).2]) s.history }
        exact ⟨h1, h2, (copyVal_ext _ _).trans h3⟩
    · exact ih s

theorem lib_commitLoop (ks : List Key) (s : State) : Lib false s (commitLoop ks s) := by
  induction ks generalizing s with
  | nil => exact Lib.refl _ _
  | cons k ks ih =>
    simp only [commitLoop]
    split
    · split
      · exact ih s
      · rename_i v _ _
        have l1 : Lib false s { s with heap := (copyVal s.heap v).1,
                                       history := adjust k (fun l => l ++ [(copyVal s.heap v).2]) s.history } := by
          refine ⟨rfl, (copyVal_ext _ _).le, fun _ h => h, fun _ => rfl, fun _ h => Or.inl h, fun a ha => ?_⟩
          rcases ha with ha | ha
          · rcases histAddrs_adjust_snoc ha with h | h
            · exact Or.inl (Or.inl h)
            · exact Or.inr (copyVal_fresh h)
          · exact Or.inl (Or.inr ha)
        exact l1.trans (ih _)
    · exact ih s

theorem commitLoop_history {ks : List Key} (hnd : ks.Nodup) (s : State)
    (hcur : ∀ b : Nat, b ∈ dictAddrs s.current → b < s.heap.length) (k : Key) :
    ∃ ext : List Val,
      lookup k (commitLoop ks s).history = (lookup k s.history).map (fun l => l ++ ext) ∧
      ext.map (deref (commitLoop ks s).heap) =
        (if k ∈ ks then
          match lookup k s.current with
          | some v => if v = Val.none then [] else [deref s.heap v]
          | none => []
         else []) := by
  induction ks generalizing s with
  | nil => exact ⟨[], by simp [commitLoop], by simp⟩
  | cons k0 ks ih =>
    obtain ⟨hk0, hnd'⟩ := List.nodup_cons.1 hnd
    by_cases hsk : lookup k0 s.current = none ∨ lookup k0 s.current = some Val.none
    · have skip : commitLoop (k0 :: ks) s = commitLoop ks s := by
        rcases hsk with h | h <;> simp [commitLoop, h]
      rw [skip]
      obtain ⟨ext, e1, e2⟩ := ih hnd' s hcur
      refine ⟨ext, e1, ?_⟩
      rw [e2]
      by_cases hk : k = k0
      · subst hk
        rcases hsk with h | h <;> simp [hk0, h]
      · simp [hk]
    · obtain ⟨v, hl, hvn⟩ : ∃ v, lookup k0 s.current = some v ∧ v ≠ Val.none := by
        cases hl : lookup k0 s.current with
        | none => exact absurd (Or.inl hl) hsk
        | some v => exact ⟨v, rfl, fun hn => hsk (Or.inr (by rw [hl, hn]))⟩
      have hstep : commitLoop (k0 :: ks) s = commitLoop ks { s with
          heap := (copyVal s.heap v).1, history := adjust k0 (fun l => l ++ [(copyVal s.heap v).2]) s.history } := by
        simp [commitLoop, hl, hvn]
      rw [hstep]
      have hext := copyVal_ext s.heap v
      obtain ⟨ext, e1, e2⟩ :=
        ih hnd' { s with heap := (copyVal s.heap v).1, history := adjust k0 (fun l => l ++ [(copyVal s.heap v).2]) s.history }
          fun b hb => Nat.lt_of_lt_of_le (hcur b hb) hext.le
      have hfin :=
        (commitLoop_frame ks { s with heap := (copyVal s.heap v).1, history := adjust k0 (fun l => l ++ [(copyVal s.heap v).2]) s.history }).2.2
      simp only at e1 e2 hfin
      by_cases hk : k = k0
      · subst hk
        -- the later rounds do not visit k again: the appended copy keeps its payload while the heap grows
        have hext0 : ext = [] := by simpa only [hk0, if_false, List.map_eq_nil_iff] using e2
        subst hext0
        refine ⟨[(copyVal s.heap v).2], by rw [e1, lookup_adjust]; simp; rfl, ?_⟩
        simp only [List.mem_cons, true_or, if_true, hl, hvn, if_false, List.map_cons, List.map_nil]
        rw [reader_val.ext hfin (fun b hb => (copyVal_fresh hb).2), copyVal_deref]
      · refine ⟨ext, by rw [e1, lookup_adjust]; simp [Ne.symm hk], ?_⟩
        rw [e2]
        simp only [List.mem_cons, hk, false_or]
        cases hlk : lookup k s.current with
        | none => rfl
        | some w =>
          simp only []
          rw [reader_val.ext (v := w) hext fun b hb => hcur b (dictAddrs_of_mem (lookup_mem hlk) hb)]

theorem copies_fresh (h : Heap) (c : List (Key × Val)) (hi : List (Key × List Val)) :
    (∀ a : Nat, a ∈ dictAddrs (copyDict h c).2 → h.length ≤ a ∧ a < (copyHist (copyDict h c).1 hi).1.length) ∧
    (∀ a : Nat, a ∈ histAddrs (copyHist (copyDict h c).1 hi).2 → h.length ≤ a ∧ a < (copyHist (copyDict h c).1 hi).1.length) := by
  have l1 := (copier_dict.appends h c).le
  have l2 := (copier_hist.appends (copyDict h c).1 hi).le
  exact ⟨fun a ha => by have := copier_dict.fresh ha; omega, fun a ha => by have := copier_hist.fresh ha; omega⟩

/-! ### every operation, as caller's side / manager's side / caller's side -/

/-- The cache discipline of `StateManager`, for the manager's stage `s1 → s2` of operation `o`: `_invalidate_cache()` is called wherever
    `_history` may change.  Either history is untouched and the cache is untouched (`same`), dropped (`dropped`) or — `compute_results()` —
    filled from the history as it is (`filled`); or the operation is a commit or an import and the cache is dropped (`replaced`). -/
def CacheRule (o : Op) (s1 s2 : State) : Prop :=
  (s2.history = s1.history ∧ (s2.cache = s1.cache ∨ s2.cache = none ∨ o.isCompute = true)) ∨
    ((o.isCommit = true ∨ o.isImport = true) ∧ s2.cache = none)

section
variable {o : Op} {s1 s2 : State}
theorem CacheRule.same (hh : s2.history = s1.history) (hc : s2.cache = s1.cache) : CacheRule o s1 s2 := .inl ⟨hh, .inl hc⟩
theorem CacheRule.dropped (hh : s2.history = s1.history) (hc : s2.cache = none) : CacheRule o s1 s2 := .inl ⟨hh, .inr (.inl hc)⟩
theorem CacheRule.filled (hh : s2.history = s1.history) (ho : o.isCompute = true) : CacheRule o s1 s2 := .inl ⟨hh, .inr (.inr ho)⟩
theorem CacheRule.replaced (ho : o.isCommit = true ∨ o.isImport = true) (hc : s2.cache = none) : CacheRule o s1 s2 := .inr ⟨ho, hc⟩
end

/-- One call in three stages: the caller builds the arguments (or, for `scribble`, overwrites an array it holds) and
    reaches `s1`; the manager allocates and stores and reaches `s2`; the manager allocates what it hands out, and the
    call ends in `q.1` with result `q.2`.  `read`, `ext`: which stages are trivial for which operations (`step_read`, `step_ext`). -/
structure Stages (s : State) (o : Op) (s1 s2 : State) (q : State × Res) : Prop where
  arg : RO s s1
  lib : Lib o.optIn s1 s2
  out : RO s2 q.1
  res : ∀ a : Nat, a ∈ q.2.addrs → s2.heap.length ≤ a ∧ a ∈ q.1.escaped
  keep : CacheRule o s1 s2
  read : o.isRead = true → s2 = s1
  ext : o.isScribble = false → Ext s.heap q.1.heap

abbrev Staged (s : State) (o : Op) (q : State × Res) : Prop := ∃ s1 s2, Stages s o s1 s2 q

theorem Staged.noop {s : State} {o : Op} {r : Res} (hr : r.addrs = []) : Staged s o (s, r) :=
  ⟨s, s, RO.refl s, Lib.refl _ s, RO.refl s, fun a ha => (by rw [hr] at ha; cases ha), .same rfl rfl, fun _ => rfl,
    fun _ => Ext.refl _⟩

theorem Staged.handOut {s : State} {o : Op} {h' : Heap} {new : List Addr} {r : Res} (he : Ext s.heap h')
    (hnew : ∀ a : Nat, a ∈ new → s.heap.length ≤ a ∧ a < h'.length) (hr : ∀ a : Nat, a ∈ r.addrs → a ∈ new) :
    Staged s o ({ s with heap := h', escaped := new ++ s.escaped }, r) :=
  ⟨s, s, RO.refl s, Lib.refl _ s, RO.handOut he.le hnew,
    fun a ha => ⟨(hnew a (hr a ha)).1, List.mem_append_left _ (hr a ha)⟩, .same rfl rfl, fun _ => rfl, fun _ => he⟩

/-- the last argument (a mutator is not a reading accessor) is closed by `cases` on the Boolean equation at every call,
    hence the default -/
theorem Staged.store {s s1 t : State} {o : Op} {r : Res} (ha : RO s s1) (hl : Lib o.optIn s1 t) (hr : r.addrs = [])
    (hh : CacheRule o s1 t) (he : o.isScribble = false → Ext s.heap t.heap)
    (hd : o.isRead = true → t = s1 := by intro h; cases h) : Staged s o (t, r) :=
  ⟨s1, t, ha, hl, RO.refl t, fun a ha => (by rw [hr] at ha; cases ha), hh, hd, he⟩

theorem step_stages (s : State) (o : Op) : Staged s o (step s o) := by
  cases o with
  | setCurrent k x copy =>
    simp only [step]
    split
    · exact .noop rfl
    · rename_i hl
      replace hl : x.legal s.escaped = true := by simpa using hl
      have sp := resolveArg_spec s.heap s.escaped x
      split
      · exact .store (.resolve sp) (.refl _ _) rfl (.same rfl rfl) (fun _ => sp.ext)
      · exact .store (.resolve sp)
          ((lib_storeCurrent _ k _ copy (resolveArg_legal hl)).trans (.cacheNone _ _)) rfl
          (.dropped (storeCurrent_frame _ _ _ _).1 rfl) (fun _ => sp.ext.trans (storeCurrent_frame _ _ _ _).2.2)
  | updateCurrent kvs copy =>
    simp only [step]
    split
    · exact .noop rfl
    · rename_i hl
      replace hl : dictLegal s.escaped kvs = true := by simpa using hl
      have sp := resolveDict_spec s.heap s.escaped kvs
      have l := lib_updLoop copy (resolveDict s.heap s.escaped kvs).2.2
        { s with heap := (resolveDict s.heap s.escaped kvs).1, escaped := (resolveDict s.heap s.escaped kvs).2.1 }
        (resolveDict_legal hl)
      obtain ⟨f1, f2, f3⟩ := updLoop_frame copy (resolveDict s.heap s.escaped kvs).2.2
        { s with heap := (resolveDict s.heap s.escaped kvs).1, escaped := (resolveDict s.heap s.escaped kvs).2.1 }
      split
      · exact .store (.resolve sp) (l.trans (.cacheNone _ _)) rfl (.dropped f1 rfl) (fun _ => sp.ext.trans f3)
      · exact .store (.resolve sp) l rfl (.same f1 f2) (fun _ => sp.ext.trans f3)
  | getCurrent k =>
    cases k with
    | some k =>
      simp only [step]
      split
      · exact .noop rfl
      · split
        · exact .noop rfl
        · exact .handOut (copyVal_ext _ _) (fun _ h => copyVal_fresh h) (fun _ h => h)
    | none => exact .handOut (copier_dict.appends _ _) (fun _ h => copier_dict.fresh h) (fun _ h => h)
  | getHistory k index flat =>
    simp only [step]
    split
    · exact .noop rfl
    · split
      · exact .noop rfl
      · split
        · split
          · exact .noop rfl
          · exact .handOut (new := [s.heap.length]) (Ext.snoc _ _) (by simp) (fun _ h => h)
        · split
          · exact .noop rfl
          · split
            · exact .noop rfl
            · exact .handOut (copyVal_ext _ _) (fun _ h => copyVal_fresh h) (fun _ h => h)
  | getLastHistory k =>
    simp only [step]
    split
    · exact .noop rfl
    · split
      · exact .noop rfl
      · split
        · exact .noop rfl
        · exact .handOut (copyVal_ext _ _) (fun _ h => copyVal_fresh h) (fun _ h => h)
  | commit strict =>
    simp only [step]
    split
    · exact .noop rfl
    · exact .store (.refl s) ((lib_commitLoop _ _).trans (.cacheNone _ _)) rfl (.replaced (.inl rfl) rfl)
        (fun _ => (commitLoop_frame _ _).2.2)
  | computeResults =>
    simp only [step]
    split
    · exact .handOut (copier_dict.appends _ _) (fun _ h => copier_dict.fresh h) (fun _ h => h)
    · have hfe := fillCache_ext s.history s.heap []
      have hle := hfe.le
      split
      · exact .store (.refl s) (.fill hle fun _ => fillCache_nil_fresh) rfl (.filled rfl rfl) (fun _ => hfe)
      · -- the cache is filled, `logw` added to it, then copies of its values are handed out
        exact ⟨s, _, .refl s, .fill (h' := _ ++ [_]) (c := insert "logw" _ _) (by simp; omega) (filled_cache_new _ _ _),
          .handOut (copier_dict.appends _ _).le (fun _ h => copier_dict.fresh h),
          fun a ha => ⟨(copier_dict.fresh ha).1, List.mem_append_left _ ha⟩, .filled rfl rfl, fun h => (by cases h),
          fun _ => (hfe.trans (Ext.snoc _ _)).trans (copier_dict.appends _ _)⟩
  | logw beta => exact .handOut (new := [s.heap.length]) (Ext.snoc _ _) (by simp) (fun _ h => h)
  | toDict =>
    refine .handOut ((copier_dict.appends _ _).trans (copier_hist.appends _ _)) (fun a ha => ?_) (fun _ h => h)
    exact (List.mem_append.1 ha).elim ((copies_fresh _ _ _).1 a) ((copies_fresh _ _ _).2 a)
  | updateFromDict cur hist =>
    simp only [step]
    split
    · exact .noop rfl
    · have sp := (resolveDict_spec s.heap s.escaped (entries cur)).trans (resolveHist_spec _ _ (entries hist))
      exact .store (.resolve sp)
        (.update ((copier_dict.appends _ _).trans (copier_hist.appends _ _)).le (copies_fresh _ _ _).1 (copies_fresh _ _ _).2)
        rfl (.replaced (.inr rfl) rfl) (fun _ => (sp.ext.trans (copier_dict.appends _ _)).trans (copier_hist.appends _ _))
  | scribble a p =>
    simp only [step]
    split
    · exact .store (.poke s a (some p)) (.refl _ _) rfl (.same rfl rfl) (fun h => by cases h)
    · exact .noop rfl

theorem step_inv (s : State) (o : Op) (hI : Inv s) : Inv (step s o).1 := by
  obtain ⟨s1, s2, st⟩ := step_stages s o
  exact st.out.inv (st.lib.inv (st.arg.inv hI))

theorem reach_init : reach init = [] := by decide

theorem inv_of_reach_nil {s : State} (hr : reach s = []) (he : ∀ a : Nat, a ∈ s.escaped → a < s.heap.length) : Inv s := by
  have h0 : ∀ a : Nat, a ∉ reach s := fun a ha => by rw [hr] at ha; cases ha
  exact ⟨fun a ha => (h0 a ha).elim, he, fun a ha => (h0 a (mem_reach.2 (Or.inl ha))).elim,
    fun a ha => (h0 a (mem_reach.2 (Or.inr ha))).elim⟩

theorem init_inv : Inv init := inv_of_reach_nil reach_init fun a ha => by cases ha

theorem run_inv (ops : List Op) (s : State) (hI : Inv s) : Inv (run s ops) := by
  induction ops generalizing s with
  | nil => exact hI
  | cons o os ih => exact ih _ (step_inv s o hI)

theorem step_ext (s : State) (o : Op) (hs : o.isScribble = false) : Ext s.heap (step s o).1.heap := by
  obtain ⟨s1, s2, st⟩ := step_stages s o
  exact st.ext hs

/-- no operation — the caller's write included — changes a cell the caller does not hold -/
theorem step_rd (s : State) (o : Op) {a : Nat} (ha : a < s.heap.length) (he : a ∉ s.escaped) :
    rd (step s o).1.heap a = rd s.heap a := by
  cases o with
  | scribble b p =>
    rw [step_scribble]
    split
    · rename_i hm
      exact rd_set_ne fun e => he (e ▸ hm)
    · rfl
  | _ => exact (step_ext s _ rfl).rd ha

theorem Reader.step {β π : Type} {A : β → List Addr} {D : Heap → β → π} (r : Reader A D) {s : State} (hI : Inv s) (o : Op) {v : β}
    (hv : ∀ a : Nat, a ∈ A v → a ∈ histAddrs s.history ∨ a ∈ cacheAddrs s.cache) : D (step s o).1.heap v = D s.heap v :=
  r.congr fun a ha => step_rd s o (hI.reach_lt a (mem_reach.2 (.inr (hv a ha)))) (hI.sepH a (hv a ha))

theorem step_heap_length_le (s : State) (o : Op) : s.heap.length ≤ (step s o).1.heap.length := by
  obtain ⟨s1, s2, st⟩ := step_stages s o
  have := st.arg.le
  have := st.lib.le
  have := st.out.le
  omega

theorem step_res_fresh (s : State) (o : Op) (b : Nat) (hb : b ∈ (step s o).2.addrs) : s.heap.length ≤ b := by
  obtain ⟨s1, s2, st⟩ := step_stages s o
  have := st.arg.le
  have := st.lib.le
  have := (st.res b hb).1
  omega

theorem step_res_escaped (s : State) (o : Op) (b : Nat) (hb : b ∈ (step s o).2.addrs) : b ∈ (step s o).1.escaped := by
  obtain ⟨s1, s2, st⟩ := step_stages s o
  exact (st.res b hb).2

theorem step_imported (s : State) (o : Op) (ho : o.optIn = false) : (step s o).1.imported = s.imported := by
  obtain ⟨s1, s2, st⟩ := step_stages s o
  rw [st.out.imp, st.lib.impEq ho, st.arg.imp]

theorem step_escaped_mono (s : State) (o : Op) (a : Nat) (ha : a ∈ s.escaped) : a ∈ (step s o).1.escaped := by
  obtain ⟨s1, s2, st⟩ := step_stages s o
  exact st.out.escMono a (by rw [st.lib.esc]; exact st.arg.escMono a ha)

theorem step_history_eq (s : State) (o : Op) (h1 : o.isCommit = false) (h2 : o.isImport = false) :
    (step s o).1.history = s.history := by
  obtain ⟨s1, s2, st⟩ := step_stages s o
  rw [st.out.hist, ← st.arg.hist]
  rcases st.keep with h | h
  · exact h.1
  · rw [h1, h2] at h; rcases h.1 with h | h <;> cases h

theorem step_cache (s : State) (o : Op) :
    ((step s o).1.history = s.history ∧ ((step s o).1.cache = s.cache ∨ o.isCompute = true)) ∨ (step s o).1.cache = none := by
  obtain ⟨s1, s2, st⟩ := step_stages s o
  rw [st.out.hist, st.out.cache, ← st.arg.hist, ← st.arg.cache]
  rcases st.keep with ⟨h, hc | hc | hc⟩ | h
  · exact .inl ⟨h, .inl hc⟩
  · exact .inr hc
  · exact .inl ⟨h, .inr hc⟩
  · exact .inr h.2

theorem step_read (s : State) (o : Op) (h : o.isRead = true) : RO s (step s o).1 ∧ Ext s.heap (step s o).1.heap := by
  obtain ⟨s1, s2, st⟩ := step_stages s o
  have := st.read h
  subst this
  exact ⟨st.arg.trans st.out, st.ext (by cases o <;> first | rfl | cases h)⟩

theorem step_reach_new (s : State) (o : Op) (ho : o.optIn = false) (a : Nat) (ha : a ∈ reach (step s o).1) :
    a ∈ reach s ∨ s.heap.length ≤ a := by
  obtain ⟨s1, s2, st⟩ := step_stages s o
  have := st.arg.le
  rw [st.out.reach_eq] at ha
  rw [← st.arg.reach_eq]
  rcases mem_reach.1 ha with h | h
  · rcases st.lib.cur a h with h | h | h
    · exact Or.inl (mem_reach.2 (Or.inl h))
    · exact Or.inr (by omega)
    · rw [ho] at h; cases h.1
  · rcases st.lib.hc a h with h | h
    · exact Or.inl (mem_reach.2 (Or.inr h))
    · exact Or.inr (by omega)

/-! ### commit and import as equations; runs -/

theorem step_commit (s : State) (strict : Bool) :
    step s (.commit strict) = (s, .err .valueError) ∨
    step s (.commit strict) = ({ commitLoop commitKeys s with cache := none }, .unit) := by
  simp only [step]
  split <;> simp

theorem step_commit_false (s : State) :
    step s (.commit false) = ({ commitLoop commitKeys s with cache := none }, .unit) := rfl

theorem import_held {s : State} {cur : Option (List (Key × Arg))} {hist : Option (List (Key × List Arg))}
    (hok : (step s (.updateFromDict cur hist)).2 = .unit) (a : Nat) (ha : a ∈ (Op.updateFromDict cur hist).heldAddrs) :
    a ∈ s.escaped := by
  by_cases hl : (dictLegal s.escaped (entries cur) && histLegal s.escaped (entries hist)) = true
  · simp only [Bool.and_eq_true] at hl
    exact (List.mem_append.1 ha).elim (dictLegal_held hl.1 a) (histLegal_held hl.2 a)
  · simp [step, hl] at hok

theorem run_append (s : State) (a b : List Op) : run s (a ++ b) = run (run s a) b := by
  induction a generalizing s with
  | nil => rfl
  | cons o os ih => simp only [List.cons_append, run]; exact ih _

/-! ### an in-place write at an address that internal state does not reach commutes with every operation -/

theorem storeCurrent_poke {s : State} {k : Key} {v : Val} {copy : Bool} {a : Nat} {c : Option Content}
    (ha : a < s.heap.length) (hv : a ∉ v.addrs) :
    storeCurrent (poke s a c) k v copy = poke (storeCurrent s k v copy) a c := by
  unfold storeCurrent poke
  cases copy <;> simp [copyVal_set ha hv]

theorem updLoop_poke {copy : Bool} {kvs : List (Key × Val)} {s : State} {a : Nat} {c : Option Content}
    (ha : a < s.heap.length) (hv : a ∉ dictAddrs kvs) :
    updLoop copy kvs (poke s a c) = (poke (updLoop copy kvs s).1 a c, (updLoop copy kvs s).2) := by
  induction kvs generalizing s with
  | nil => rfl
  | cons kv r ih =>
    obtain ⟨k, v⟩ := kv
    simp only [dictAddrs, List.flatMap_cons, List.mem_append, not_or] at hv
    simp only [updLoop]
    split
    · rw [storeCurrent_poke ha hv.1]
      exact ih (Nat.lt_of_lt_of_le ha (storeCurrent_frame s k v copy).2.2.le) hv.2
    · rfl

theorem not_mem_reach {s : State} {a : Nat} (h : a ∉ reach s) :
    a ∉ dictAddrs s.current ∧ a ∉ histAddrs s.history ∧ a ∉ cacheAddrs s.cache := by
  rw [mem_reach] at h
  exact ⟨fun x => h (Or.inl x), fun x => h (Or.inr (Or.inl x)), fun x => h (Or.inr (Or.inr x))⟩

theorem commitLoop_poke {ks : List Key} {s : State} {a : Nat} {c : Option Content}
    (ha : a < s.heap.length) (hv : a ∉ dictAddrs s.current) :
    commitLoop ks (poke s a c) = poke (commitLoop ks s) a c := by
  induction ks generalizing s with
  | nil => rfl
  | cons k ks ih =>
    simp only [commitLoop]
    have hcur : (poke s a c).current = s.current := rfl
    rw [hcur]
    split
    · rename_i v hl
      have hva := lookup_not_addr hl hv
      split
      · exact ih ha hv
      · have := ih (s := { s with heap := (copyVal s.heap v).1,
                                   history := adjust k (fun l => l ++ [(copyVal s.heap v).2]) s.history })
            (Nat.lt_of_lt_of_le ha (copyVal_ext s.heap v).le) hv
        rw [← this]
        simp [poke, copyVal_set ha hva]
    · exact ih ha hv

theorem computeResults_poke {s : State} {a : Nat} {c : Option Content} (ha : a < s.heap.length)
    (hhist : a ∉ histAddrs s.history) (hcache : a ∉ cacheAddrs s.cache) :
    step (poke s a c) .computeResults = (poke (step s .computeResults).1 a c, (step s .computeResults).2) := by
  cases hc : s.cache with
  | some cd =>
    have hcd : a ∉ dictAddrs cd := by simpa [hc, cacheAddrs] using hcache
    simp [step, poke, hc, copier_dict.commutes ha hcd]
  | none =>
    have hf := fillCache_set (c := ([] : List (Key × Val))) (x := c) ha hhist
    have ha1 := Nat.lt_of_lt_of_le ha (fillCache_ext s.history s.heap []).le
    have hcd : a ∉ dictAddrs (insert "logw" (.ref (fillCache s.history s.heap []).1.length) (fillCache s.history s.heap []).2.1) :=
      fun hm => Nat.not_le.2 ha (filled_cache_new _ _ none a hm).1
    have ha2 := Nat.lt_of_lt_of_le ha1 (Ext.snoc _ (logwStub (fillCache s.history s.heap []).1 s.history)).le
    cases hok : (fillCache s.history s.heap []).2.2 <;>
      simp [step, poke, hc, hf, logwStub_set hhist, set_append_lt ha1, copier_dict.commutes ha2 hcd, hok]

/-- The branch conditions of `step` never look at the heap, so both sides take the same branch (the `by_cases` / `cases`); what
    remains is that each allocation of that branch commutes with `List.set` — the `_set` / `_poke` lemma in the closing `simp`. -/
theorem step_poke {s : State} {o : Op} {a : Nat} {c : Option Content} (ha : a < s.heap.length)
    (hr : a ∉ reach s) (hh : a ∉ o.heldAddrs) (hs : o.isScribble = false) :
    step (poke s a c) o = (poke (step s o).1 a c, (step s o).2) := by
  obtain ⟨hcur, hhist, hcache⟩ := not_mem_reach hr
  cases o with
  | setCurrent k x copy =>
    simp only [Op.heldAddrs] at hh
    have hv : a ∉ (resolveArg s.heap s.escaped x).2.2.addrs := fun hm =>
      (resolveArg_addrs hm).elim hh fun h1 => Nat.not_le.2 ha h1.1
    have ha' := Nat.lt_of_lt_of_le ha (resolveArg_spec s.heap s.escaped x).ext.le
    by_cases h1 : x.legal s.escaped = true <;> by_cases h2 : k ∈ currentKeys
    · have := storeCurrent_poke (s := { s with heap := (resolveArg s.heap s.escaped x).1, escaped := (resolveArg s.heap s.escaped x).2.1 })
        (k := k) (copy := copy) (c := c) ha' hv
      simp only [poke] at this
      simp [step, poke, h1, h2, resolveArg_set ha, this]
    · simp [step, poke, h1, h2, resolveArg_set ha]
    · simp [step, poke, h1]
    · simp [step, poke, h1]
  | updateCurrent kvs copy =>
    simp only [Op.heldAddrs] at hh
    have hv : a ∉ dictAddrs (resolveDict s.heap s.escaped kvs).2.2 := fun hm =>
      (resolveDict_addrs hm).elim hh fun h1 => Nat.not_le.2 ha h1.1
    have ha' := Nat.lt_of_lt_of_le ha (resolveDict_spec s.heap s.escaped kvs).ext.le
    by_cases h1 : dictLegal s.escaped kvs = true
    · have := updLoop_poke (s := { s with heap := (resolveDict s.heap s.escaped kvs).1, escaped := (resolveDict s.heap s.escaped kvs).2.1 })
        (copy := copy) (c := c) ha' hv
      simp only [poke] at this
      cases hu : (updLoop copy (resolveDict s.heap s.escaped kvs).2.2
          { s with heap := (resolveDict s.heap s.escaped kvs).1, escaped := (resolveDict s.heap s.escaped kvs).2.1 }).2 <;>
        simp [step, poke, h1, resolveDict_set ha, this, hu]
    · simp [step, poke, h1]
  | getCurrent k =>
    cases k with
    | some k =>
      by_cases h1 : k ∈ currentKeys
      · cases hl : lookup k s.current with
        | none => simp [step, poke, h1, hl]
        | some v => simp [step, poke, h1, hl, copyVal_set ha (lookup_not_addr hl hcur)]
      · simp [step, poke, h1]
    | none => simp [step, poke, copier_dict.commutes ha hcur]
  | getHistory k index flat =>
    by_cases h1 : k ∈ historyKeys
    · cases hl : lookup k s.history with
      | none => simp [step, poke, h1, hl]
      | some l =>
        have hla := lookup_not_listAddr hl hhist
        cases index with
        | none =>
          by_cases hc : flat = true ∧ (l = [] ∨ ∃ x, x ∈ l ∧ x.isRef = false) <;>
            simp [step, poke, h1, hl, stack_set hla, set_append_lt ha, hc]
        | some i =>
          by_cases h2 : i < 0
          · simp [step, poke, h1, hl, h2]
          · cases hi : l[i.toNat]? with
            | none => simp [step, poke, h1, hl, h2, hi]
            | some v =>
              have hva : a ∉ v.addrs := fun hm =>
                hla (listAddrs_of_mem (List.mem_of_getElem? hi) hm)
              simp [step, poke, h1, hl, h2, hi, copyVal_set ha hva]
    · simp [step, poke, h1]
  | getLastHistory k =>
    by_cases h1 : k ∈ historyKeys
    · cases hl : lookup k s.history with
      | none => simp [step, poke, h1, hl]
      | some l =>
        have hla := lookup_not_listAddr hl hhist
        cases hg : l.getLast? with
        | none => simp [step, poke, h1, hl, hg]
        | some v =>
          have hva : a ∉ v.addrs := fun hm =>
            hla (listAddrs_of_mem (List.mem_of_getLast? hg) hm)
          simp [step, poke, h1, hl, hg, copyVal_set ha hva]
    · simp [step, poke, h1]
  | commit strict =>
    have := commitLoop_poke (ks := commitKeys) (c := c) ha hcur
    simp only [poke] at this
    cases hcnd : (strict && (isNone (lookup "beta" s.current) || isNone (lookup "logl" s.current))) <;>
      simp [step, poke, this, hcnd]
  | computeResults => exact computeResults_poke ha hhist hcache
  | logw beta => simp [step, poke, logwStub_set hhist, set_append_lt ha]
  | toDict =>
    have ha1 := Nat.lt_of_lt_of_le ha (copier_dict.appends s.heap s.current).le
    simp [step, poke, copier_dict.commutes ha hcur, copier_hist.commutes ha1 hhist]
  | updateFromDict cur hist =>
    simp only [Op.heldAddrs, List.mem_append, not_or] at hh
    have ha1 := Nat.lt_of_lt_of_le ha (resolveDict_spec s.heap s.escaped (entries cur)).ext.le
    have ha2 := Nat.lt_of_lt_of_le ha1
      (resolveHist_spec _ (resolveDict s.heap s.escaped (entries cur)).2.1 (entries hist)).ext.le
    have ha3 := Nat.lt_of_lt_of_le ha2 (copier_dict.appends _ (resolveDict s.heap s.escaped (entries cur)).2.2).le
    have hv1 : a ∉ dictAddrs (resolveDict s.heap s.escaped (entries cur)).2.2 := fun hm =>
      (resolveDict_addrs hm).elim hh.1 fun h1 => Nat.not_le.2 ha h1.1
    have hv2 : a ∉ histAddrs (resolveHist (resolveDict s.heap s.escaped (entries cur)).1
        (resolveDict s.heap s.escaped (entries cur)).2.1 (entries hist)).2.2 := fun hm =>
      (resolveHist_addrs hm).elim hh.2 fun h1 => Nat.not_le.2 ha1 h1.1
    cases hlg : (dictLegal s.escaped (entries cur) && histLegal s.escaped (entries hist)) <;>
      simp [step, poke, resolveDict_set ha, resolveHist_set ha1, copier_dict.commutes ha2 hv1, copier_hist.commutes ha3 hv2, hlg]
  | scribble b p => simp [Op.isScribble] at hs

/-! ### admissible sequences and what the caller sees of them -/

/-- an operation sequence in which the caller never opts into sharing (`copy=False`) and never passes back in an array
    that it has overwritten before (`scr` = addresses overwritten so far).  Passing back arrays it obtained and left
    alone — e.g. re-importing an exported dictionary — is allowed, and so is overwriting them afterwards. -/
def okSeq : List Addr → List Op → Bool
  | _, [] => true
  | scr, .scribble a p :: os => okSeq (a :: scr) os
  | scr, o :: os => !o.optIn && o.heldAddrs.all (fun h => !scr.contains h) && okSeq scr os

theorem okSeq_cons_eq {scr : List Addr} {o : Op} {os : List Op} (hs : o.isScribble = false) :
    okSeq scr (o :: os) = (!o.optIn && o.heldAddrs.all (fun h => !scr.contains h) && okSeq scr os) := by
  cases o <;> first | rfl | cases hs

theorem okSeq_cons {scr : List Addr} {o : Op} {os : List Op} (hs : o.isScribble = false)
    (h : okSeq scr (o :: os) = true) :
    o.optIn = false ∧ (∀ x : Nat, x ∈ o.heldAddrs → x ∉ scr) ∧ okSeq scr os = true := by
  rw [okSeq_cons_eq hs] at h
  simpa [List.all_eq_true, and_assoc] using h

theorem okSeq_of_clean {ops : List Op} (h : ∀ o ∈ ops, o.isScribble = true ∨ o.clean = true) (scr : List Addr) :
    okSeq scr ops = true := by
  induction ops generalizing scr with
  | nil => rfl
  | cons o os ih =>
    have hos : ∀ o ∈ os, o.isScribble = true ∨ o.clean = true := fun x hx => h x (List.mem_cons_of_mem _ hx)
    rcases h o (by simp) with hsc | hcl
    · cases o with
      | scribble a p => exact ih hos _
      | _ => cases hsc
    · obtain ⟨h1, h2, h3⟩ := clean_spec hcl
      rw [okSeq_cons_eq h3, h1, h2, ih hos]
      rfl

/-- what the caller sees: after every operation other than its own in-place writes, the payload of the returned value
    and every observable read -/
def trace (s : State) : List Op → List (PRes × Obs)
  | [] => []
  | o :: os =>
    if o.isScribble then trace (step s o).1 os
    else (derefRes (step s o).1.heap (step s o).2, observe (step s o).1) :: trace (step s o).1 os

theorem trace_scribble (t : State) (a : Addr) (p : Content) (os : List Op) :
    trace t (.scribble a p :: os) = trace (if a ∈ t.escaped then poke t a (some p) else t) os := by
  simp only [trace, Op.isScribble, if_true, step_scribble]
  split <;> rfl

/-! ### traces with and without the caller's in-place writes -/

theorem poke_poke (s : State) (a : Nat) (c c' : Option Content) : poke (poke s a c) a c' = poke s a c' := by
  simp [poke]

theorem poke_comm (s : State) {a b : Nat} (h : a ≠ b) (c c' : Option Content) :
    poke (poke s a c) b c' = poke (poke s b c') a c := by
  simp [poke, List.set_comm _ _ h]

theorem observe_poke_hist {s : State} {a : Nat} {c : Option Content} (ha : a < s.heap.length)
    (hhist : a ∉ histAddrs s.history) (hcache : a ∉ cacheAddrs s.cache) :
    (observe (poke s a c)).history = (observe s).history ∧ (observe (poke s a c)).results = (observe s).results ∧
    (observe (poke s a c)).logw = (observe s).logw := by
  have hstep := computeResults_poke (c := c) ha hhist hcache
  have hres : a ∉ (step s .computeResults).2.addrs := fun hm => by
    have := step_res_fresh s .computeResults a hm
    omega
  simp only [observe, hstep]
  simp only [poke, reader_hist.set hhist, derefRes_set hres, logwStub_set hhist, and_self]

theorem observe_poke {s : State} {a : Nat} {c : Option Content} (ha : a < s.heap.length) (hr : a ∉ reach s) :
    observe (poke s a c) = observe s := by
  obtain ⟨hcur, hhist, hcache⟩ := not_mem_reach hr
  obtain ⟨h1, h2, h3⟩ := observe_poke_hist (c := c) ha hhist hcache
  have h0 : (observe (poke s a c)).current = (observe s).current := reader_dict.set hcur
  revert h0 h1 h2 h3
  cases observe (poke s a c)
  cases observe s
  simp only [Obs.mk.injEq]
  exact fun h1 h2 h3 h0 => ⟨h0, h1, h2, h3⟩

theorem not_reach_of_inv {t : State} (hI : Inv t) {a : Nat} (ha : a ∈ t.escaped) (h1 : a ∉ t.imported) :
    a ∉ reach t := by
  intro hr
  rcases mem_reach.1 hr with h | h
  · exact h1 (hI.sep a h ha)
  · exact hI.sepH a h ha

theorem safe_of_inv {t : State} (hI : Inv t) (himp : t.imported = []) {a : Nat}
    (ha : a ∈ t.escaped) : a < t.heap.length ∧ a ∉ reach t :=
  ⟨hI.esc_lt a ha, not_reach_of_inv hI ha (by simp [himp])⟩

/-- One write into an array the caller holds is invisible in everything that follows — whatever else it does, further writes
    included — as long as it does not pass that array back in. -/
theorem trace_poke (os : List Op) : ∀ (t : State) (a : Nat) (c : Option Content) (scr : List Addr), Inv t →
    t.imported = [] → a ∈ t.escaped → a ∈ scr → okSeq scr os = true → trace (poke t a c) os = trace t os := by
  induction os with
  | nil => intros; rfl
  | cons o os ih =>
    intro t a c scr hI himp ha hscr hops
    cases hsc : o.isScribble with
    | true =>
      cases o with
      | scribble b q =>
        have hos : okSeq (b :: scr) os = true := by simpa [okSeq] using hops
        have hscr' : a ∈ b :: scr := List.mem_cons_of_mem _ hscr
        have hesc : (poke t a c).escaped = t.escaped := rfl
        rw [trace_scribble, trace_scribble, hesc]
        split
        · -- a second write: into the same array it replaces the first, into another one the two commute
          by_cases hab : a = b
          · subst hab
            rw [poke_poke]
          · rw [poke_comm t hab]
            exact ih _ a c _ ((RO.poke t b _).inv hI) himp ha hscr' hos
        · exact ih t a c _ hI himp ha hscr' hos
      | _ => cases hsc
    | false =>
      obtain ⟨hopt, hheld, hos⟩ := okSeq_cons hsc hops
      have hsafe := safe_of_inv hI himp ha
      have hI' := step_inv t o hI
      have himp' : (step t o).1.imported = [] := by rw [step_imported t o hopt, himp]
      have ha' := step_escaped_mono t o a ha
      have hsafe' := safe_of_inv hI' himp' ha'
      have hres : derefRes (poke (step t o).1 a c).heap (step t o).2 = derefRes (step t o).1.heap (step t o).2 :=
        derefRes_set fun hm => by
          have := step_res_fresh t o a hm
          have := hsafe.1
          omega
      simp only [trace, hsc, Bool.false_eq_true, if_false]
      rw [step_poke (c := c) hsafe.1 hsafe.2 (fun hm => hheld a hm hscr) hsc, hres, observe_poke hsafe'.1 hsafe'.2,
        ih _ a c scr hI' himp' ha' hscr hos]

theorem trace_filter (ops : List Op) : ∀ (t : State) (scr : List Addr), Inv t → t.imported = [] → okSeq scr ops = true →
    trace t ops = trace t (ops.filter (fun o => !o.isScribble)) := by
  induction ops with
  | nil => intros; rfl
  | cons o os ih =>
    intro t scr hI himp hops
    cases hsc : o.isScribble with
    | true =>
      cases o with
      | scribble a p =>
        have hos : okSeq (a :: scr) os = true := by simpa [okSeq] using hops
        have e2 : (Op.scribble a p :: os).filter (fun o => !o.isScribble) = os.filter (fun o => !o.isScribble) := by
          simp [Op.isScribble]
        rw [trace_scribble, e2]
        split
        · rename_i hm
          rw [trace_poke os t a _ _ hI himp hm (List.mem_cons_self) hos]
          exact ih t _ hI himp hos
        · exact ih t _ hI himp hos
      | _ => cases hsc
    | false =>
      obtain ⟨hopt, _, hos⟩ := okSeq_cons hsc hops
      simp only [trace, hsc, Bool.false_eq_true, if_false, List.filter_cons, Bool.not_false, if_true]
      rw [ih _ scr (step_inv t o hI) (by rw [step_imported t o hopt, himp]) hos]

-- concrete runs are compared state against state
deriving instance DecidableEq for State

end Model.StateMgr
