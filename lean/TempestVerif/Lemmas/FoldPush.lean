import Mathlib.MeasureTheory.Constructions.Pi
import Mathlib.MeasureTheory.Group.LIntegral
import Mathlib.MeasureTheory.Measure.Lebesgue.Basic
import Mathlib.MeasureTheory.Measure.WithDensity
/-
  Folded proposals, without any model: a measure that unfolds over sections of a fold gives `fold (x + ξ)` the preimage-sum
  density (`pushforward_of_unfold`), and a kernel with a symmetric density is reversible.  `MP`, `shift`: the integer shifts of the
  periodic coordinates of a vector; a sum over them is measurable.
-/
namespace Lemmas.FoldPush
open MeasureTheory Set
open scoped ENNReal Function

theorem lintegral_shift {E : Type*} [MeasurableSpace E] [AddCommGroup E] [MeasurableAdd E] (μ : Measure E)
    [μ.IsAddRightInvariant] (G k : E → ℝ≥0∞) (x : E) :
    ∫⁻ ξ, G (x + ξ) * k ξ ∂μ = ∫⁻ w, G w * k (w - x) ∂μ := by
  rw [← lintegral_sub_right_eq_self (fun ξ => G (x + ξ) * k ξ) x]
  exact lintegral_congr fun w => by rw [add_sub_cancel]

/-- **the law of a folded proposal, in general.**  If the measure `μ` unfolds over the maps `pre p` (every integral is the
    integral over `I` of the sum over the labels `p`) and each `pre p` is a section of `fold` on `I`, then `fold (x + ξ)`,
    `ξ` with density `k`, has on `I` the density `y ↦ Σ_p k (pre p y − x)`. -/
theorem pushforward_of_unfold {E L : Type*} [MeasurableSpace E] [AddCommGroup E] [MeasurableAdd E] [MeasurableSub E]
    (μ : Measure E) [μ.IsAddRightInvariant] (fold : E → E) (hfold : Measurable fold) (pre : L → E → E) (I : Set E)
    (hI : MeasurableSet I)
    (hunf : ∀ f : E → ℝ≥0∞, Measurable f → ∫⁻ w, f w ∂μ = ∫⁻ t in I, ∑' p, f (pre p t) ∂μ)
    (hsec : ∀ p, ∀ t ∈ I, fold (pre p t) = t)
    (k g : E → ℝ≥0∞) (hk : Measurable k) (hg : Measurable g) (x : E) :
    ∫⁻ ξ, g (fold (x + ξ)) * k ξ ∂μ = ∫⁻ y in I, g y * ∑' p, k (pre p y - x) ∂μ := by
  have hF : Measurable fun w => g (fold w) * k (w - x) :=
    (hg.comp hfold).mul (hk.comp (measurable_id.sub_const x))
  rw [lintegral_shift μ (fun w => g (fold w)) k x, hunf _ hF]
  refine setLIntegral_congr_fun hI fun t ht => ?_
  rw [← ENNReal.tsum_mul_left]
  exact tsum_congr fun p => by rw [hsec p t ht]

theorem reversible_of_symmetric_density {X : Type*} [MeasurableSpace X] (μ : Measure X) [SFinite μ]
    (K : X → X → ℝ≥0∞) (hK : Measurable (Function.uncurry K)) (hsym : ∀ x y, K x y = K y x)
    (f g : X → ℝ≥0∞) (hf : Measurable f) (hg : Measurable g) :
    ∫⁻ x, f x * ∫⁻ y, g y * K x y ∂μ ∂μ = ∫⁻ y, g y * ∫⁻ x, f x * K y x ∂μ ∂μ := by
  have hKx : ∀ x, Measurable (K x) := fun x => hK.comp (measurable_const.prodMk measurable_id)
  have l : ∀ x, f x * ∫⁻ y, g y * K x y ∂μ = ∫⁻ y, f x * (g y * K x y) ∂μ :=
    fun x => (lintegral_const_mul _ (hg.mul (hKx x))).symm
  have r : ∀ y, g y * ∫⁻ x, f x * K y x ∂μ = ∫⁻ x, g y * (f x * K y x) ∂μ :=
    fun y => (lintegral_const_mul _ (hf.mul (hKx y))).symm
  simp only [l, r]
  rw [lintegral_lintegral_swap]
  · exact lintegral_congr fun y => lintegral_congr fun x => by rw [hsym x y, mul_left_comm]
  · exact (((hf.comp measurable_fst).mul ((hg.comp measurable_snd).mul hK))).aemeasurable

variable {d : ℕ}

def MP (P : Finset (Fin d)) : Type := {m : Fin d → ℤ // ∀ i, i ∉ P → m i = 0}

instance (P : Finset (Fin d)) : Countable (MP P) := by unfold MP; infer_instance

def shift (m : Fin d → ℤ) : Fin d → ℝ := fun i => (m i : ℝ)

theorem measurable_tsum_shift (P : Finset (Fin d)) {f : (Fin d → ℝ) → ℝ≥0∞} (hf : Measurable f) :
    Measurable fun y => ∑' m : MP P, f (y + shift m.1) :=
  Measurable.tsum fun _ => hf.comp (measurable_id.add measurable_const)

end Lemmas.FoldPush
