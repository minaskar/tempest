import Mathlib.Data.Real.Basic
import Mathlib.Algebra.Order.Floor.Ring
import Mathlib.Order.Interval.Finset.Nat
import Mathlib.Algebra.Order.Archimedean.Real.Basic
/-
  Model-independent lemmas behind the resampling theorems (C06): a search that returns the first term of a monotone sequence above a
  point cuts the line into cells; the points of the comb `(u0 + i)/n`, `i < n`, `u0 ∈ [0,1)`, in an interval are counted by a difference
  of ceilings.
-/
namespace Lemmas.CeilComb

/-! ### counting -/

theorem countP_range_Ico (a b n : ℕ) :
    (List.range n).countP (fun i => decide (a ≤ i ∧ i < b)) = min n b - a := by
  -- the count is the cardinality of a filtered `Finset.range` (the same list underneath), which is `Finset.Ico a (min n b)`
  have e : (List.range n).countP (fun i => decide (a ≤ i ∧ i < b))
      = ((Finset.range n).filter fun i => a ≤ i ∧ i < b).card := by
    rw [List.countP_eq_length_filter]; rfl
  have : ((Finset.range n).filter fun i => a ≤ i ∧ i < b) = Finset.Ico a (min n b) := by
    ext i; simp only [Finset.mem_filter, Finset.mem_range, Finset.mem_Ico, lt_min_iff]; tauto
  rw [e, this, Nat.card_Ico]

theorem count_of_forall2 (q : ℕ → Prop) [DecidablePred q] (j : ℕ) (is rs : List ℕ)
    (h : List.Forall₂ (fun i r => (r = j ↔ q i)) is rs) :
    rs.count j = is.countP (fun i => decide (q i)) := by
  induction h with
  | nil => simp
  | @cons a b l1 l2 hab _ ih =>
    rw [List.count_cons, List.countP_cons, ih]
    by_cases hq : q a
    · have : b = j := hab.mpr hq
      simp [hq, this]
    · have : ¬ b = j := fun e => hq (hab.mp e)
      simp [hq, this]

theorem forall2_mem {β γ : Type} {R : β → γ → Prop} {l1 : List β} {l2 : List γ}
    (h : List.Forall₂ R l1 l2) : List.Forall₂ (fun a b => a ∈ l1 ∧ R a b) l1 l2 := by
  induction h with
  | nil => exact .nil
  | cons hab _ ih =>
    exact .cons ⟨List.mem_cons_self, hab⟩
      (ih.imp (fun _ _ h => ⟨List.mem_cons_of_mem _ h.1, h.2⟩))

theorem countP_eq_sum_map {β : Type} (p : β → Prop) [DecidablePred p] (l : List β) :
    ((l.countP (fun x => decide (p x)) : ℕ) : ℝ) = (l.map (fun x => if p x then (1 : ℝ) else 0)).sum := by
  induction l with
  | nil => simp
  | cons a l ih =>
    rw [List.countP_cons, List.map_cons, List.sum_cons, ← ih]
    by_cases h : p a
    · simp [h, add_comm]
    · simp [h]

/-! ### the first term of a sequence above a point -/

/-- `r` is the least index with `p < c r`, capped at `jmax` -/
def FirstAbove (c : ℕ → ℝ) (jmax : ℕ) (p : ℝ) (r : ℕ) : Prop :=
  r ≤ jmax ∧ (r < jmax → p < c r) ∧ ∀ k < r, c k ≤ p

theorem FirstAbove.unique {c : ℕ → ℝ} {jmax : ℕ} {p : ℝ} {r r' : ℕ} (h : FirstAbove c jmax p r)
    (h' : FirstAbove c jmax p r') : r = r' := by
  rcases lt_trichotomy r r' with hlt | heq | hgt
  · exact absurd ((h.2.1 (hlt.trans_le h'.1)).trans_le (h'.2.2 r hlt)) (lt_irrefl _)
  · exact heq
  · exact absurd ((h'.2.1 (hgt.trans_le h.1)).trans_le (h.2.2 r' hgt)) (lt_irrefl _)

theorem countP_mono_range (f : ℕ → ℝ) (hf : Monotone f) (u : ℝ) (m : ℕ) :
    FirstAbove f m u ((List.range m).countP (fun k => decide (f k ≤ u))) := by
  induction m with
  | zero => exact ⟨by simp, fun h => absurd h (by simp), fun k hk => absurd hk (by simp)⟩
  | succ m ih =>
    rw [List.range_succ, List.countP_append, List.countP_singleton]
    obtain ⟨ih1, ih2, ih3⟩ := ih
    by_cases hm : f m ≤ u
    · -- then all of the first `m` entries are `≤ u` as well
      have hc : (List.range m).countP (fun k => decide (f k ≤ u)) = m :=
        le_antisymm ih1 (not_lt.mp fun hlt => absurd ((ih2 hlt).trans_le ((hf hlt.le).trans hm)) (lt_irrefl _))
      rw [hc, if_pos (decide_eq_true hm)]
      exact ⟨le_refl _, fun h => absurd h (lt_irrefl _), fun k hk => (hf (Nat.le_of_lt_succ hk)).trans hm⟩
    · rw [if_neg (by simpa using hm), Nat.add_zero]
      refine ⟨Nat.le_succ_of_le ih1, fun _ => ?_, ih3⟩
      rcases Nat.lt_or_ge ((List.range m).countP (fun k => decide (f k ≤ u))) m with hlt | hge
      · exact ih2 hlt
      · rw [le_antisymm ih1 hge]; exact not_le.mp hm

/-- cell boundaries of such a search over `m` terms: `0`, then `c 0, …, c (m − 2)`, then `top` (any number above the points
    searched for) -/
noncomputable def cellEdge (c : ℕ → ℝ) (m : ℕ) (top : ℝ) (k : ℕ) : ℝ :=
  if k = 0 then 0 else if k < m then c (k - 1) else top

theorem cellEdge_zero (c : ℕ → ℝ) (m : ℕ) (top : ℝ) : cellEdge c m top 0 = 0 := if_pos rfl

theorem cellEdge_succ_of_lt {c : ℕ → ℝ} {m : ℕ} {top : ℝ} {k : ℕ} (h : k + 1 < m) : cellEdge c m top (k + 1) = c k := by
  rw [cellEdge, if_neg (Nat.succ_ne_zero k), if_pos h, Nat.add_sub_cancel]

theorem cellEdge_succ_of_ge {c : ℕ → ℝ} {m : ℕ} {top : ℝ} {k : ℕ} (h : m ≤ k + 1) : cellEdge c m top (k + 1) = top := by
  rw [cellEdge, if_neg (Nat.succ_ne_zero k), if_neg (Nat.not_lt.mpr h)]

theorem FirstAbove.le_iff {c : ℕ → ℝ} {jmax : ℕ} {p : ℝ} (hmono : ∀ a b, a ≤ b → b ≤ jmax → c a ≤ c b) {r : ℕ}
    (hc : FirstAbove c jmax p r) (j : ℕ) : r ≤ j ↔ jmax ≤ j ∨ p < c j := by
  obtain ⟨hc1, hc2, hc3⟩ := hc
  constructor
  · intro hrj
    rcases Nat.lt_or_ge j jmax with hj | hj
    · exact .inr ((hc2 (hrj.trans_lt hj)).trans_le (hmono r j hrj hj.le))
    · exact .inl hj
  · rintro (hj | hj)
    · exact hc1.trans hj
    · exact not_lt.mp fun hlt => absurd (hj.trans_le (hc3 j hlt)) (lt_irrefl _)

theorem FirstAbove.eq_iff {c : ℕ → ℝ} {jmax : ℕ} {top p : ℝ} (hp0 : 0 ≤ p) (hp1 : p < top)
    (hmono : ∀ a b, a ≤ b → b ≤ jmax → c a ≤ c b) {r : ℕ} (j : ℕ) (hc : FirstAbove c jmax p r) :
    r = j ↔ (cellEdge c (jmax + 1) top j ≤ p ∧ p < cellEdge c (jmax + 1) top (j + 1)) := by
  -- `p < edge (k+1)` says the search has stopped by `k`
  have hlt : ∀ k, p < cellEdge c (jmax + 1) top (k + 1) ↔ r ≤ k := fun k => by
    rw [hc.le_iff hmono]
    rcases Nat.lt_or_ge (k + 1) (jmax + 1) with h | h
    · rw [cellEdge_succ_of_lt h, or_iff_right (by omega)]
    · rw [cellEdge_succ_of_ge h]; exact iff_of_true hp1 (.inl (by omega))
  rw [hlt]
  cases j with
  | zero => rw [cellEdge_zero, and_iff_right hp0]; omega
  | succ j => rw [← not_lt, hlt]; omega

/-! ### the comb `(u0 + i)/n`, `i < n` -/

theorem comb_mem_Ico {n : ℕ} {u0 : ℝ} (h0 : 0 ≤ u0) (h1 : u0 < 1) {i : ℕ} (hi : i < n) :
    0 ≤ (u0 + i) / n ∧ (u0 + i) / n < 1 := by
  have hnpos : (0 : ℝ) < n := Nat.cast_pos.mpr (Nat.zero_lt_of_lt hi)
  have hin : (1 : ℝ) + i ≤ n := by rw [add_comm]; exact_mod_cast hi
  exact ⟨div_nonneg (add_nonneg h0 (Nat.cast_nonneg i)) hnpos.le,
    (div_lt_one hnpos).mpr ((add_lt_add_left h1 i).trans_le hin)⟩

theorem le_comb_iff {n : ℕ} (hn : (0 : ℝ) < n) (u0 x : ℝ) (i : ℕ) :
    x ≤ (u0 + i) / n ↔ ⌈n * x - u0⌉ ≤ (i : ℤ) := by
  rw [Int.ceil_le, Int.cast_natCast, le_div_iff₀ hn, sub_le_iff_le_add', mul_comm]

theorem comb_lt_iff {n : ℕ} (hn : (0 : ℝ) < n) (u0 y : ℝ) (i : ℕ) :
    (u0 + i) / n < y ↔ (i : ℤ) < ⌈n * y - u0⌉ :=
  lt_iff_lt_of_le_iff_le (le_comb_iff hn u0 y i)

theorem ceil_comb_mono (n : ℕ) (u0 : ℝ) : Monotone fun x : ℝ => ⌈n * x - u0⌉ := fun _ _ h =>
  Int.ceil_le_ceil (sub_le_sub_right (mul_le_mul_of_nonneg_left h (Nat.cast_nonneg n)) u0)

theorem ceil_comb_one (n : ℕ) {u0 : ℝ} (h0 : 0 ≤ u0) (h1 : u0 < 1) : ⌈(n : ℝ) * 1 - u0⌉ = n := by
  rw [Int.ceil_eq_iff]; push_cast; constructor <;> linarith

theorem ceil_comb_min (n : ℕ) {u0 : ℝ} (h0 : 0 ≤ u0) (h1 : u0 < 1) (x : ℝ) :
    ⌈n * min x 1 - u0⌉ = min ⌈n * x - u0⌉ (n : ℤ) := by
  rw [(ceil_comb_mono n u0).map_min, ceil_comb_one n h0 h1]

theorem comb_count (n : ℕ) (hn : 1 ≤ n) (u0 : ℝ) (h0 : 0 ≤ u0) (h1 : u0 < 1) (x y : ℝ)
    (hx : 0 ≤ x) (hxy : x ≤ y) (hy : y ≤ 1) :
    (((List.range n).countP (fun (i : ℕ) => decide (x ≤ (u0 + i) / n ∧ (u0 + i) / n < y)) : ℕ) : ℤ)
      = ⌈n * y - u0⌉ - ⌈n * x - u0⌉ := by
  have hnpos : (0 : ℝ) < n := by exact_mod_cast hn
  have hA : 0 ≤ ⌈n * x - u0⌉ := by
    refine le_trans ?_ (ceil_comb_mono n u0 hx)
    rw [Int.le_ceil_iff]; push_cast; linarith
  have hAB : ⌈n * x - u0⌉ ≤ ⌈n * y - u0⌉ := ceil_comb_mono n u0 hxy
  have hB : ⌈n * y - u0⌉ ≤ (n : ℤ) := by
    rw [← ceil_comb_one n h0 h1]; exact ceil_comb_mono n u0 hy
  simp only [le_comb_iff hnpos, comb_lt_iff hnpos]
  -- both ceilings are natural numbers `A ≤ B ≤ n`
  generalize ⌈n * x - u0⌉ = A at *
  generalize ⌈n * y - u0⌉ = B at *
  lift A to ℕ using hA
  lift B to ℕ using (A.cast_nonneg.trans hAB)
  simp only [Nat.cast_le, Nat.cast_lt] at hAB hB ⊢
  rw [countP_range_Ico, min_eq_right hB, Nat.cast_sub hAB]

/-! ### ceilings -/

theorem ceil_diff (a y : ℝ) : ⌈a + y⌉ - ⌈a⌉ = ⌊y⌋ ∨ ⌈a + y⌉ - ⌈a⌉ = ⌈y⌉ := by
  -- `⌊y⌋ ≤ ⌈a + y⌉ − ⌈a⌉ ≤ ⌈y⌉`, and `⌈y⌉ ≤ ⌊y⌋ + 1`
  have hlo : ⌈a⌉ + ⌊y⌋ ≤ ⌈a + y⌉ := by
    rw [← Int.ceil_add_intCast]; exact Int.ceil_le_ceil (add_le_add_right (Int.floor_le y) a)
  have hhi : ⌈a + y⌉ ≤ ⌈a⌉ + ⌈y⌉ := Int.ceil_add_le a y
  have h9 := Int.ceil_le_floor_add_one y
  omega

theorem ceil_sub_ceil_near (a b : ℝ) : |((⌈b⌉ - ⌈a⌉ : ℤ) : ℝ) - (b - a)| < 1 := by
  have h1 := Int.ceil_lt_add_one a
  have h2 := Int.le_ceil a
  have h3 := Int.ceil_lt_add_one b
  have h4 := Int.le_ceil b
  rw [abs_lt]; push_cast; constructor <;> linarith

theorem ceil_comb_sub_near (n : ℕ) (u0 x y : ℝ) :
    |((⌈n * y - u0⌉ - ⌈n * x - u0⌉ : ℤ) : ℝ) - n * (y - x)| < 1 := by
  have := ceil_sub_ceil_near (n * x - u0) (n * y - u0)
  rwa [sub_sub_sub_cancel_right, ← mul_sub] at this

theorem near_mul_of_near {c n d v T : ℝ} (hn : 0 ≤ n) (hc : |c - n * d| < 1) (hd : |d - v| ≤ T) :
    |c - n * v| < 1 + n * T := by
  rw [abs_lt] at hc ⊢
  rw [abs_le] at hd
  have h1 := mul_le_mul_of_nonneg_left hd.1 hn
  have h2 := mul_le_mul_of_nonneg_left hd.2 hn
  constructor <;> linarith

theorem ceil_sub_offset (x u : ℝ) (h0 : 0 ≤ u) (h1 : u < 1) :
    ⌈x - u⌉ = ⌈x⌉ - (if 1 - ((⌈x⌉ : ℝ) - x) ≤ u then 1 else 0) := by
  have hc1 := Int.ceil_lt_add_one x
  have hc2 := Int.le_ceil x
  split
  · rename_i h
    rw [Int.ceil_eq_iff]; push_cast; constructor <;> linarith
  · rename_i h
    rw [Int.ceil_eq_iff]; push_cast; rw [not_le] at h; constructor <;> linarith

/-! ### cutting two ordered numbers off at 1 -/

theorem min_one_diff (p q : ℝ) (hpq : p ≤ q) :
    0 ≤ (q - p) - (min q 1 - min p 1) ∧ (q - p) - (min q 1 - min p 1) ≤ max (q - 1) 0 := by
  rcases le_total q 1 with hq | hq
  · rw [min_eq_left hq, min_eq_left (le_trans hpq hq), max_eq_right (by linarith)]
    constructor <;> linarith
  · rcases le_total p 1 with hp | hp
    · rw [min_eq_right hq, min_eq_left hp, max_eq_left (by linarith)]
      constructor <;> linarith
    · rw [min_eq_right hq, min_eq_right hp, max_eq_left (by linarith)]
      constructor <;> linarith

end Lemmas.CeilComb
