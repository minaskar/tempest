import TempestVerif.Lemmas.ScReal
import Mathlib.Data.List.Sort
/-
  `l.mergeSort (fun a b => Sc.le a b)` at `ℝ` — the sort inside `Model.Student.median` (numpy `median`) and
  `Model.Trim.sortAsc` (numpy `sort` before `percentile`) — is THE sorted permutation of `l`.
-/
namespace Lemmas.SortReal

theorem sort_perm (l : List ℝ) : (l.mergeSort fun a b => Sc.le a b).Perm l := List.mergeSort_perm _ _

theorem sort_sorted (l : List ℝ) : (l.mergeSort fun a b => Sc.le a b).Pairwise (· ≤ ·) := by
  have h := List.pairwise_mergeSort (le := fun a b : ℝ => Sc.le a b)
    (by intro a b c hab hbc; simp only [ScReal.le_def] at *; exact le_trans hab hbc)
    (by intro a b; simp only [Bool.or_eq_true, ScReal.le_def]; exact le_total a b) l
  exact h.imp (by intro a b hab; simpa using hab)

theorem sort_eq {w s : List ℝ} (hp : w.Perm s) (hs : s.Pairwise (· ≤ ·)) : (w.mergeSort fun a b => Sc.le a b) = s :=
  ((sort_perm w).trans hp).eq_of_pairwise (fun _ _ _ _ => le_antisymm) (sort_sorted w) hs

end Lemmas.SortReal
