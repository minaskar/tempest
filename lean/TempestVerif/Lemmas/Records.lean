import TempestVerif.Model.Records
import TempestVerif.Lemmas.OptionList
/-
  The three movement primitives of `Model.Records` (`gather?` = `xs[idx]`, `maskSet` = `cur[mask] = prop[mask]`,
  `scatterFrom` = `xs[tgt] = xs[src]`).  Each is characterised once by where row `k` of its result comes from
  (`gather?_get`; `maskSet_get` through the bit `takes`; `scatterFrom_get` through the source row `srcOf`: the source
  depends on the index arguments and the lengths only, never on the content); naturality in the element type (`_map`) and "returns only what it was given" (`_mem`) follow.
  `gather?` is `List.mapM` of "read row `i`", so its facts are those of `Lemmas/OptionList.lean`.
-/
namespace Model.Records
open Lemmas.OptionList

variable {α β : Type}

theorem gather?_eq_mapM (xs : List α) (idx : List Nat) : gather? xs idx = idx.mapM (xs[·]?) := by
  induction idx with
  | nil => rfl
  | cons i is ih =>
    rw [gather?, ih, List.mapM_cons]
    cases xs[i]? <;> cases is.mapM (xs[·]?) <;> rfl

theorem gather?_length {xs : List α} {idx : List Nat} {ys : List α} (h : gather? xs idx = some ys) :
    ys.length = idx.length :=
  mapM_length (gather?_eq_mapM xs idx ▸ h)

theorem gather?_get {xs : List α} {idx : List Nat} {ys : List α} (h : gather? xs idx = some ys)
    (k i : Nat) (hk : idx[k]? = some i) : ys[k]? = xs[i]? :=
  (mapM_get (gather?_eq_mapM xs idx ▸ h) hk).symm

theorem gather?_range {xs : List α} {idx : List Nat} {ys : List α} (h : gather? xs idx = some ys) :
    ∀ i ∈ idx, i < xs.length := by
  intro i hi
  obtain ⟨k, hk⟩ := List.getElem?_of_mem hi
  have hlt : k < ys.length := gather?_length h ▸ (List.getElem?_eq_some_iff.mp hk).1
  exact (List.getElem?_eq_some_iff.mp ((gather?_get h k i hk).symm.trans (List.getElem?_eq_getElem hlt))).1

theorem gather?_isSome (xs : List α) (idx : List Nat) (h : ∀ i ∈ idx, i < xs.length) :
    ∃ ys, gather? xs idx = some ys :=
  gather?_eq_mapM xs idx ▸ mapM_some_of_forall _ idx fun i hi => ⟨xs[i]'(h i hi), List.getElem?_eq_getElem (h i hi)⟩

theorem gather?_map (f : α → β) (xs : List α) (idx : List Nat) :
    gather? (xs.map f) idx = (gather? xs idx).map (List.map f) := by
  rw [gather?_eq_mapM, gather?_eq_mapM]
  exact mapM_comp_map _ _ f (fun _ => List.getElem?_map) idx

theorem gather?_mem {xs : List α} {idx : List Nat} {ys : List α} (h : gather? xs idx = some ys) :
    ∀ y ∈ ys, y ∈ xs := fun _ hy =>
  (mapM_mem (gather?_eq_mapM xs idx ▸ h) hy).elim fun _ hi => List.mem_of_getElem? hi.2

theorem gather?_cons_map_succ (x : α) (xs : List α) (idx : List Nat) :
    gather? (x :: xs) (idx.map Nat.succ) = gather? xs idx := by
  induction idx with
  | nil => rfl
  | cons i is ih => rw [List.map_cons, gather?, ih, List.getElem?_cons_succ, gather?]

theorem maskSet_length (c q : List α) (m : List Bool) : (maskSet c q m).length = c.length := by
  fun_induction maskSet c q m with
  | case1 c cs q qs m ms ih => exact congrArg (· + 1) ih
  | case2 => rfl

/-- whether position `i` of `maskSet c q m` takes the proposal: all three lists reach `i` and the mask bit is set.
    A function of the lengths and the mask only, so it is the same for every array the mask is applied to. -/
def takes : Nat → Nat → List Bool → Nat → Bool
  | _ + 1, _ + 1, t :: _, 0 => t
  | nc + 1, nq + 1, _ :: m, i + 1 => takes nc nq m i
  | _, _, _, _ => false

theorem maskSet_get (c q : List α) (m : List Bool) (i : Nat) :
    (maskSet c q m)[i]? = if takes c.length q.length m i then q[i]? else c[i]? := by
  induction c generalizing q m i with
  | nil => rfl
  | cons a c ih =>
    cases q with
    | nil => rfl
    | cons b q =>
      cases m with
      | nil => rfl
      | cons t m =>
        cases i with
        | zero => cases t <;> rfl
        | succ i => exact ih q m i

theorem maskSet_map (f : α → β) (c q : List α) (m : List Bool) :
    maskSet (c.map f) (q.map f) m = (maskSet c q m).map f := by
  refine List.ext_getElem? fun i => ?_
  rw [List.getElem?_map, maskSet_get, maskSet_get, List.length_map, List.length_map, List.getElem?_map,
    List.getElem?_map]
  cases takes c.length q.length m i <;> rfl

theorem maskSet_mem (c q : List α) (m : List Bool) : ∀ y ∈ maskSet c q m, y ∈ c ∨ y ∈ q := by
  intro y hy
  obtain ⟨i, hi⟩ := List.getElem?_of_mem hy
  rw [maskSet_get] at hi
  split at hi
  · exact .inr (List.mem_of_getElem? hi)
  · exact .inl (List.mem_of_getElem? hi)

/-- where position `i` of `xs[tgt] = xs[src]` comes from (depends only on the index vectors and the length) -/
def srcOf (n : Nat) : List Nat → List Nat → Nat → Nat
  | t :: ts, s :: ss, i => if s < n ∧ i = t then s else srcOf n ts ss i
  | _, _, i => i

theorem scatterFrom_length (xs : List α) (tgt src : List Nat) :
    (scatterFrom xs tgt src).length = xs.length := by
  fun_induction scatterFrom xs tgt src with
  | case1 t ts s ss v hv ih => rw [List.length_set, ih]
  | case2 t ts s ss hv ih => exact ih
  | case3 => rfl

theorem scatterFrom_get (xs : List α) (tgt src : List Nat) (i : Nat) (hi : i < xs.length) :
    (scatterFrom xs tgt src)[i]? = xs[srcOf xs.length tgt src i]? := by
  fun_induction scatterFrom xs tgt src with
  | case1 t ts s ss v hv ih =>
    have hs : s < xs.length := (List.getElem?_eq_some_iff.mp hv).1
    rw [srcOf]
    by_cases hit : i = t
    · rw [if_pos ⟨hs, hit⟩, hit, List.getElem?_set_self (by rw [scatterFrom_length, ← hit]; exact hi), hv]
    · rw [if_neg fun h => hit h.2, List.getElem?_set_ne (Ne.symm hit), ih]
  | case2 t ts s ss hv ih =>
    rw [srcOf, if_neg fun h => Nat.not_lt.mpr (List.getElem?_eq_none_iff.mp hv) h.1, ih]
  | case3 tgt src h => rw [srcOf]; exact h

theorem scatterFrom_map (f : α → β) (xs : List α) (tgt src : List Nat) :
    scatterFrom (xs.map f) tgt src = (scatterFrom xs tgt src).map f := by
  induction tgt generalizing src with
  | nil => rfl
  | cons t ts ih =>
    cases src with
    | nil => rfl
    | cons s ss =>
      rw [scatterFrom, scatterFrom, List.getElem?_map, ih]
      cases xs[s]? with
      | none => rfl
      | some v => exact List.map_set.symm

/-- `scatterFrom` acts on the rows of two columns alike: pairs are overwritten at the same positions from the same sources -/
theorem scatterFrom_zip (a : List α) (b : List β) (hab : a.length = b.length) (tgt src : List Nat) :
    scatterFrom (a.zip b) tgt src = (scatterFrom a tgt src).zip (scatterFrom b tgt src) :=
  List.zip_of_prod
    (by rw [← scatterFrom_map, List.map_fst_zip (Nat.le_of_eq hab)])
    (by rw [← scatterFrom_map, List.map_snd_zip (Nat.le_of_eq hab.symm)])

theorem scatterFrom_mem (xs : List α) (tgt src : List Nat) : ∀ y ∈ scatterFrom xs tgt src, y ∈ xs := by
  intro y hy
  obtain ⟨i, hi⟩ := List.getElem?_of_mem hy
  have hlt : i < xs.length := scatterFrom_length xs tgt src ▸ (List.getElem?_eq_some_iff.mp hi).1
  rw [scatterFrom_get _ _ _ _ hlt] at hi
  exact List.mem_of_getElem? hi

theorem srcOf_cases (n : Nat) (tgt src : List Nat) (hlen : tgt.length = src.length) (hsrc : ∀ s ∈ src, s < n) (i : Nat) :
    (i ∈ tgt → srcOf n tgt src i ∈ src) ∧ (i ∉ tgt → srcOf n tgt src i = i) := by
  induction tgt generalizing src with
  | nil => exact ⟨fun h => (nomatch h), fun _ => rfl⟩
  | cons t ts ih =>
    cases src with
    | nil => cases hlen
    | cons s ss =>
      obtain ⟨ih1, ih2⟩ := ih ss (Nat.succ.inj hlen) fun q hq => hsrc q (List.mem_cons_of_mem _ hq)
      rw [srcOf]
      by_cases hit : i = t
      · rw [if_pos ⟨hsrc s List.mem_cons_self, hit⟩]
        exact ⟨fun _ => List.mem_cons_self, fun h => absurd (hit ▸ List.mem_cons_self) h⟩
      · rw [if_neg fun h => hit h.2]
        exact ⟨fun h => List.mem_cons_of_mem _ (ih1 ((List.mem_cons.mp h).resolve_left hit)),
          fun h => ih2 fun h' => h (List.mem_cons_of_mem _ h')⟩

theorem scatterFrom_forall (P : α → Prop) (l : List α) (tgt src : List Nat) (hlen : tgt.length = src.length)
    (hsrc : ∀ s ∈ src, ∃ v, l[s]? = some v ∧ P v) (hcover : ∀ (i : Nat) (v : α), l[i]? = some v → ¬ P v → i ∈ tgt) :
    ∀ (i : Nat) (v : α), (scatterFrom l tgt src)[i]? = some v → P v := by
  intro i v h
  have hi : i < l.length := scatterFrom_length l tgt src ▸ (List.getElem?_eq_some_iff.mp h).1
  rw [scatterFrom_get _ _ _ _ hi] at h
  obtain ⟨c1, c2⟩ := srcOf_cases l.length tgt src hlen
    (fun s hs => by obtain ⟨w, hw, -⟩ := hsrc s hs; exact (List.getElem?_eq_some_iff.mp hw).1) i
  by_cases hit : i ∈ tgt
  · obtain ⟨w, hw, hP⟩ := hsrc _ (c1 hit)
    cases hw.symm.trans h
    exact hP
  · rw [c2 hit] at h
    exact Classical.byContradiction fun hn => hit (hcover i v h hn)

end Model.Records
