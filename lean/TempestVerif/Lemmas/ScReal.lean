import TempestVerif.Sc
import TempestVerif.Lemmas.KernelSimp
import Mathlib.Data.Real.Basic
import Mathlib.Algebra.Order.Floor.Ring
import Mathlib.Analysis.SpecialFunctions.Log.Basic
import Mathlib.Analysis.SpecialFunctions.Sqrt
/-
  The `ℝ` instance of the scalar interface, used only in proofs.  Every field is the Mathlib
  operation; the simp lemmas below unfold the interface so that theorems read as ordinary real analysis.  They are collected in
  the simp set `sc_real`, registered in `Lemmas/KernelSimp.lean` because an attribute cannot be used in the module that registers it.
-/
open Classical in
noncomputable instance instScReal : Sc ℝ where
  add := (· + ·)
  sub := (· - ·)
  mul := (· * ·)
  div := (· / ·)
  neg := fun a => -a
  ofNat := fun n => (n : ℝ)
  lit := fun m e => (m : ℝ) / (10 : ℝ) ^ e
  lt := fun a b => decide (a < b)
  le := fun a b => decide (a ≤ b)
  floor := fun a => (⌊a⌋ : ℝ)
  isEven := fun n => decide (⌊n⌋ % 2 = 0)

noncomputable instance instScTReal : ScT ℝ where
  exp := Real.exp
  log := Real.log
  sqrt := Real.sqrt

namespace ScReal
@[simp] theorem add_def (a b : ℝ) : Sc.add a b = a + b := rfl
@[simp] theorem sub_def (a b : ℝ) : Sc.sub a b = a - b := rfl
@[simp] theorem mul_def (a b : ℝ) : Sc.mul a b = a * b := rfl
@[simp] theorem div_def (a b : ℝ) : Sc.div a b = a / b := rfl
@[simp] theorem neg_def (a : ℝ) : Sc.neg a = -a := rfl
@[simp] theorem ofNat_def (n : Nat) : (Sc.ofNat n : ℝ) = (n : ℝ) := rfl
@[simp] theorem lit_def (m e : Nat) : (Sc.lit m e : ℝ) = (m : ℝ) / (10 : ℝ) ^ e := rfl
@[simp] theorem zero_def : (Sc.zero : ℝ) = 0 := by simp [Sc.zero]
@[simp] theorem one_def : (Sc.one : ℝ) = 1 := by simp [Sc.one]
@[simp] theorem two_def : (Sc.two : ℝ) = 2 := by simp [Sc.two]
@[simp] theorem lt_def (a b : ℝ) : Sc.lt a b = true ↔ a < b := by simp [Sc.lt]
@[simp] theorem le_def (a b : ℝ) : Sc.le a b = true ↔ a ≤ b := by simp [Sc.le]
@[simp] theorem lt_false (a b : ℝ) : Sc.lt a b = false ↔ b ≤ a := by simp [Sc.lt]
@[simp] theorem le_false (a b : ℝ) : Sc.le a b = false ↔ b < a := by simp [Sc.le]
@[simp] theorem gt_def (a b : ℝ) : Sc.gt a b = true ↔ b < a := by simp [Sc.gt]
@[simp] theorem ge_def (a b : ℝ) : Sc.ge a b = true ↔ b ≤ a := by simp [Sc.ge]
theorem ge_false (a b : ℝ) : Sc.ge a b = false ↔ a < b := le_false b a
@[simp] theorem floor_def (a : ℝ) : Sc.floor a = (⌊a⌋ : ℝ) := rfl
@[simp] theorem isEven_def (n : ℝ) : Sc.isEven n = true ↔ ⌊n⌋ % 2 = 0 := by simp [Sc.isEven]
@[simp] theorem exp_def (a : ℝ) : ScT.exp a = Real.exp a := rfl
@[simp] theorem log_def (a : ℝ) : ScT.log a = Real.log a := rfl
@[simp] theorem sqrt_def (a : ℝ) : ScT.sqrt a = Real.sqrt a := rfl
theorem abs_def (a : ℝ) : Sc.abs a = |a| := by
  unfold Sc.abs; split
  · rename_i h; simp at h; simp [abs_of_neg h]
  · rename_i h; simp at h; simp [abs_of_nonneg h]
theorem max_def (a b : ℝ) : Sc.max a b = max a b := by
  unfold Sc.max; split
  · rename_i h; simp at h; simp [max_eq_right h.le]
  · rename_i h; simp at h; simp [max_eq_left h]
theorem min_def (a b : ℝ) : Sc.min a b = min a b := by
  unfold Sc.min; split
  · rename_i h; simp at h; simp [min_eq_right h.le]
  · rename_i h; simp at h; simp [min_eq_left h]
theorem foldl_add (l : List ℝ) (a : ℝ) : l.foldl Sc.add a = a + l.sum := by
  induction l generalizing a with
  | nil => simp
  | cons x l ih => simp [ih, add_assoc]
theorem sum_def (l : List ℝ) : Sc.sum l = l.sum := by
  simp [Sc.sum, foldl_add]
theorem sum_map_div (l : List ℝ) (c : ℝ) : (l.map fun x => x / c).sum = l.sum / c := by
  simp only [div_eq_mul_inv, List.sum_map_mul_right, List.map_id']

theorem sum_map_div_self {w : List ℝ} (hs : w.sum ≠ 0) : (w.map (fun x => x / w.sum)).sum = 1 := by
  rw [sum_map_div, div_self hs]

theorem div_sum_nonneg {w : List ℝ} (hw0 : ∀ x ∈ w, 0 ≤ x) {s : ℝ} (hs : 0 ≤ s) :
    ∀ x ∈ w.map (fun x => x / s), 0 ≤ x := by
  intro x hx
  obtain ⟨y, hy, rfl⟩ := List.mem_map.mp hx
  exact div_nonneg (hw0 y hy) hs

theorem ne_nil_of_sum_pos {w : List ℝ} (hpos : 0 < w.sum) : w ≠ [] := by
  rintro rfl; simp at hpos

attribute [sc_real] add_def sub_def mul_def div_def neg_def ofNat_def lit_def zero_def one_def two_def lt_def le_def lt_false
  le_false gt_def ge_def ge_false floor_def isEven_def exp_def log_def sqrt_def abs_def max_def min_def sum_def
end ScReal
