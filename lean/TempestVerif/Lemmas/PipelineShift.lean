import TempestVerif.Model.Pipeline
import TempestVerif.Lemmas.Pipeline
import TempestVerif.Lemmas.PipelineWF
import TempestVerif.Lemmas.ScReal
import TempestVerif.Lemmas.Kernel
import TempestVerif.Props.C04
import TempestVerif.Lemmas.Reweight
/-
  The tape half of property C10, a consequence of `Props.C04.C04_shift` and `Model.Reweight.reweight_shift_gen`: the run on the
  shifted tape is the shift of the run, `none` included.  The facts about `Props.C04.shiftH` and `Model.Reweight.run` alone
  (`oracleM_shift` … `reweight_shift`) also serve the closed-loop half, `Props/C10Closed.lean`.
-/
namespace Lemmas.PipelineShift
open Model.Pipeline Model.Weights Model.Reweight Model.Records Model.Resample
open Lemmas.Pipeline

/-! ### the accept/reject steps under a shift of every log-likelihood -/

/-- the Metropolis ratio only sees the DIFFERENCE of the two log-likelihoods -/
theorem acceptProb_shift (β l lp f c : ℝ) :
    Gen.Kernel.acceptProb β (l + c) (lp + c) f = Gen.Kernel.acceptProb β l lp f := by
  rw [Model.Kernel.gen_acceptProb, Model.Kernel.gen_acceptProb, add_sub_add_right_eq_sub]

theorem mcmcStep_shift (c β : ℝ) : ∀ (tg : List Nat) (l : List ℝ) (pt : List Nat) (pl : List (Option ℝ))
    (f r : List ℝ),
    mcmcStep β tg (l.map (· + c)) pt (pl.map (Option.map (· + c))) f r
      = ((mcmcStep β tg l pt pl f r).1, (mcmcStep β tg l pt pl f r).2.1.map (· + c),
         (mcmcStep β tg l pt pl f r).2.2) := by
  intro tg l pt pl f r
  fun_induction mcmcStep β tg l pt pl f r with
  | case1 tg tgs l ls pt pts pl pls f fs r rs acc a b d hrec ih =>
    simp only [List.map_cons, mcmcStep, ih, hrec]
    cases pl with
    | none => rfl
    | some lp => simp only [Option.map_some, acceptProb_shift, acc]; split <;> rfl
  | case2 tgs ls pts pls fs rs h =>
    -- a list that has run out has run out after the map as well
    rw [mcmcStep.eq_3]
    intro tg tgs' l ls' pt pts' pl pls' f fs' r rs' h1 h2 h3 h4 h5 h6
    obtain ⟨l0, ls0, rfl, _, _⟩ := List.map_eq_cons_iff.mp h2
    obtain ⟨p0, ps0, rfl, _, _⟩ := List.map_eq_cons_iff.mp h4
    exact h _ _ _ _ _ _ _ _ _ _ _ _ h1 rfl h3 rfl h5 h6

def shiftStep (c : ℝ) (s : Step ℝ) : Step ℝ := { s with propL := s.propL.map (Option.map (· + c)) }

theorem mcmcSteps_shift (c β : ℝ) (ss : List (Step ℝ)) : ∀ (tg : List Nat) (l : List ℝ),
    mcmcSteps β (ss.map (shiftStep c)) tg (l.map (· + c))
      = ((mcmcSteps β ss tg l).1, (mcmcSteps β ss tg l).2.1.map (· + c), (mcmcSteps β ss tg l).2.2) := by
  induction ss with
  | nil => intro tg l; simp [mcmcSteps]
  | cons s ss ih =>
    intro tg l
    simp only [List.map_cons, mcmcSteps, shiftStep, mcmcStep_shift]
    simp [ih]

/-! ### warm-up under a shift -/

/-- `shiftTape c t`: `c` is added to every finite log-likelihood on the tape; tags, picks, uniforms and Hastings
    factors are untouched -/
def shiftTape (c : ℝ) (t : Tape ℝ) : Tape ℝ :=
  { t with drawL := t.drawL.map (Option.map (· + c)), steps := t.steps.map (shiftStep c) }

/-- `lz`, `lz'` are unrelated here; the call site has `lz' = lz + β c` with β = 0 -/
theorem warmup_shift (c : ℝ) (t : Tape ℝ) (lz lz' : ℝ) :
    warmup (shiftTape c t) lz'
      = ((warmup t lz).1, (warmup t lz).2.1.map (Option.map (· + c)),
         if countSome t.drawL < t.drawL.length then (warmup t lz).2.2 else lz') := by
  simp only [warmup_eq, shiftTape, List.length_map, countSome_map, join_isSome_map, scatterFrom_map]
  by_cases h1 : countSome t.drawL < t.drawL.length <;> by_cases h2 : 0 < countSome t.drawL <;> simp [h1, h2]

/-! ### shift of a pipeline state -/

def shiftPB (c : ℝ) (pb : PBatch ℝ) : PBatch ℝ := ⟨Props.C04.shiftB c pb.b, pb.tags⟩

/-- the state of the run on `ℓ + c` that corresponds to `s`: same tags and β; every stored ℓ plus `c`; every
    stored evidence `z_t` plus `β_t c`; the current evidence plus `β c` -/
def shiftState (c : ℝ) (s : PState ℝ) : PState ℝ :=
  ⟨s.hist.map (shiftPB c), s.beta, s.logz + s.beta * c, s.curTags, s.curL.map (· + c)⟩

def shiftOut (c : ℝ) (o : IterOut ℝ) : IterOut ℝ :=
  { o with logzRw := o.logzRw + o.beta * c, logz := o.logz + o.beta * c }

theorem batches_shift (c : ℝ) (h : List (PBatch ℝ)) :
    batches (h.map (shiftPB c)) = Props.C04.shiftH c (batches h) := by
  simp [batches, Props.C04.shiftH, shiftPB, List.map_map, Function.comp_def]

theorem poolTags_shift (c : ℝ) (h : List (PBatch ℝ)) : poolTags (h.map (shiftPB c)) = poolTags h := by
  simp [poolTags, shiftPB, List.flatMap_map]

theorem oracleM_shift (h : List (Batch ℝ)) (hwf : Props.C04.WF h) (c β : ℝ) :
    oracleM (Props.C04.shiftH c h) β = oracleM h β := by
  simp only [oracleM, (Props.C04.C04_shift h hwf β c true).2.1]

theorem oracleZ_shift (h : List (Batch ℝ)) (hwf : Props.C04.WF h) (c β : ℝ) :
    oracleZ (Props.C04.shiftH c h) β = oracleZ h β + β * c := by
  rw [oracleZ_eq _ (Props.C04.WF_shift c h hwf), oracleZ_eq h hwf, Props.C04.specLogz_shift c h hwf]

/-- what `_not_termination` and `compute_posterior` read -/
theorem logw_one_shift (h : List (Batch ℝ)) (hwf : h = [] ∨ Props.C04.WF h) (c : ℝ) :
    (logw (Props.C04.shiftH c h) Sc.one true).1 = (logw h Sc.one true).1 := by
  rcases hwf with rfl | hwf
  · rfl
  · rw [ScReal.one_def, (Props.C04.C04_shift h hwf 1 c true).2.1]

/-- what `run_sampling`'s epilogue and `evidence()` report -/
theorem logz_one_shift (h : List (Batch ℝ)) (hwf : h = [] ∨ Props.C04.WF h) (c : ℝ) :
    (logw (Props.C04.shiftH c h) Sc.one true).2 = ((logw h Sc.one true).2).map (· + c) := by
  rcases hwf with rfl | hwf
  · rfl
  · rw [ScReal.one_def, (Props.C04.C04_shift h hwf 1 c true).2.2, one_mul]

theorem logz_one_shift_some (h : List (Batch ℝ)) (hwf : Props.C04.WF h) (c : ℝ) :
    ∃ z, (logw h Sc.one true).2 = some z ∧ (logw (Props.C04.shiftH c h) Sc.one true).2 = some (z + c) := by
  have h1 : (logw h Sc.one true).2 = some (Props.C04.specLogz h 1) := by
    rw [ScReal.one_def]
    exact Props.C04.C04_logz h hwf 1 true
  refine ⟨_, h1, ?_⟩
  rw [logz_one_shift h (.inr hwf) c, h1]
  rfl

theorem isEmpty_shiftH (c : ℝ) (h : List (Batch ℝ)) : (Props.C04.shiftH c h).isEmpty = h.isEmpty :=
  List.isEmpty_map

theorem WF_of_isEmpty {h : List (Batch ℝ)} (hwf : h = [] ∨ Props.C04.WF h) (he : h.isEmpty = false) :
    Props.C04.WF h := by
  rcases hwf with rfl | hwf
  · cases he
  · exact hwf

theorem reweight_shift (cfg : Cfg ℝ) (h : List (Batch ℝ)) (hwf : h = [] ∨ Props.C04.WF h) (c prev : ℝ)
    (fin : ℝ → Bool) :
    Model.Reweight.run cfg (Props.C04.shiftH c h).isEmpty (oracleM (Props.C04.shiftH c h))
        (oracleZ (Props.C04.shiftH c h)) fin prev
      = { Model.Reweight.run cfg h.isEmpty (oracleM h) (oracleZ h) fin prev with
          logz := (Model.Reweight.run cfg h.isEmpty (oracleM h) (oracleZ h) fin prev).logz
            + (Model.Reweight.run cfg h.isEmpty (oracleM h) (oracleZ h) fin prev).beta * c } := by
  rw [isEmpty_shiftH]
  exact Model.Reweight.reweight_shift_gen cfg _ _ _ _ _ c (fun he => funext (oracleM_shift h (WF_of_isEmpty hwf he) c))
    (fun he => oracleZ_shift h (WF_of_isEmpty hwf he) c) fin prev

theorem rwStep_shift (cfg : PCfg ℝ) (c : ℝ) (s : PState ℝ) (hs : WFS s) :
    rwStep cfg (shiftState c s) = { rwStep cfg s with logz := (rwStep cfg s).logz + (rwStep cfg s).beta * c } := by
  simp only [rwStep, shiftState, batches_shift]
  exact reweight_shift cfg.rw (batches s.hist) (WF_batches s hs) c s.beta isFin

theorem warmTail_shift (c : ℝ) (s : PState ℝ) (t : Tape ℝ) (r : RunOut ℝ (List ℝ)) (hb0 : r.beta = 0) :
    warmTail (shiftState c s) (shiftTape c t) { r with logz := r.logz + r.beta * c }
      = (warmTail s t r).map fun p => (shiftState c p.1, shiftOut c p.2) := by
  unfold warmTail
  rw [warmup_shift c t r.logz]
  have hlz : ¬ (countSome t.drawL < t.drawL.length) → (warmup t r.logz).2.2 = r.logz := by
    intro h; rw [warmup_eq]; exact if_neg h
  rcases hw : warmup t r.logz with ⟨tags, ls, lz⟩
  rw [hw] at hlz
  simp only [allSome_map]
  cases allSome ls with
  | none => rfl
  | some l =>
    -- the committed evidence: the correction if a draw was −∞, else what reweighting wrote; `+ β c` is `+ 0`
    have hz : (if countSome t.drawL < t.drawL.length then lz else r.logz + r.beta * c) = lz + r.beta * c := by
      rw [hb0, zero_mul, add_zero, add_zero]
      split
      · rfl
      · exact (hlz ‹_›).symm
    simp only [Option.map_some, hz, shiftState, List.map_append]
    rfl

theorem annealTail_shift (cfg : PCfg ℝ) (c : ℝ) (s : PState ℝ) (t : Tape ℝ) (r : RunOut ℝ (List ℝ)) :
    annealTail cfg (shiftState c s) (shiftTape c t) { r with logz := r.logz + r.beta * c }
      = (annealTail cfg s t r).map fun p => (shiftState c p.1, shiftOut c p.2) := by
  unfold annealTail
  simp only [shiftState, shiftTape, batches_shift, poolTags_shift, Option.map_bind, Option.map_map, Function.comp_def]
  congr 1; funext idx
  congr 1; funext tg
  rw [Props.C04.flatLogl_shift, gather?_map, Option.map_map]
  congr 1; funext l
  simp only [Function.comp, mcmcSteps_shift, List.map_append]
  rfl

theorem iterate_shift (cfg : PCfg ℝ) (c : ℝ) (s : PState ℝ) (t : Tape ℝ) (hs : WFS s) :
    iterate cfg (shiftState c s) (shiftTape c t)
      = (iterate cfg s t).map fun p => (shiftState c p.1, shiftOut c p.2) := by
  rw [iterate_eq, iterate_eq, rwStep_shift cfg c s hs]
  generalize rwStep cfg s = r
  by_cases hb : eqv r.beta Sc.zero = true
  · have hb0 : r.beta = 0 := (Model.Reweight.eqv_real r.beta 0).mp (by simpa using hb)
    simp only [hb, if_true]
    exact warmTail_shift c s t r hb0
  · simp only [hb, Bool.false_eq_true, if_false]
    exact annealTail_shift cfg c s t r

theorem shiftState_init (c : ℝ) : shiftState c (init : PState ℝ) = init := by
  simp [shiftState, init]

/-! ### a whole run under the shift -/

theorem runIters_shift (cfg : PCfg ℝ) (c : ℝ) (ts : List (Tape ℝ)) : ∀ (s : PState ℝ), WFS s →
    (∀ t ∈ ts, TapeOK cfg t) →
    runIters cfg (shiftState c s) (ts.map (shiftTape c))
      = (runIters cfg s ts).map fun p => (shiftState c p.1, p.2.map (shiftOut c)) := by
  induction ts with
  | nil => intro s _ _; rfl
  | cons t ts ih =>
    intro s hs ht
    refine Lemmas.OptionList.bind_map_comm (iterate_shift cfg c s t hs) fun p hi => ?_
    show (runIters cfg (shiftState c p.1) (ts.map (shiftTape c))).map _ = _
    rw [ih p.1 (iterate_WFS cfg s t p.1 p.2 hs (ht t List.mem_cons_self) hi) fun t' ht' => ht t' (List.mem_cons_of_mem _ ht'),
      Option.map_map, Option.map_map]
    rfl

theorem runIters_shift_of_final (cfg : PCfg ℝ) (c : ℝ) (ts : List (Tape ℝ)) (s sf : PState ℝ) (os : List (IterOut ℝ))
    (h : runIters cfg s ts = some (sf, os)) (hw : WFS sf) :
    runIters cfg (shiftState c s) (ts.map (shiftTape c)) = some (shiftState c sf, os.map (shiftOut c)) := by
  induction ts generalizing s os with
  | nil =>
    cases h
    rfl
  | cons t ts ih =>
    obtain ⟨ext, he, -⟩ := runIters_hist cfg (t :: ts) s sf os h
    have hs : WFS s := fun pb hpb => hw pb (he ▸ List.mem_append_left _ hpb)
    obtain ⟨s1, o, os', hi, hr, rfl⟩ := runIters_cons h
    simp only [List.map_cons, runIters, iterate_shift cfg c s t hs, hi, Option.map_some, Option.bind_some,
      ih s1 os' hr]

end Lemmas.PipelineShift
