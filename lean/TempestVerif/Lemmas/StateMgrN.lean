import TempestVerif.Model.StateMgrN
import TempestVerif.Lemmas.StateMgr
import TempestVerif.Model.StateMgrPy
/-
  The nested StateManager model (`Model/StateMgrN.lean`, C17).  Core Lean only.

  Ownership labels in place of the flat model's `escaped`: a deep copy appends a closed block of cells of one owner (`Blk`), library
  containers hold library cells only (`Closed`), what happens on the caller's side leaves library cells alone (`Usr`, `LibSame`); the
  plan is that of Lemmas/StateMgr.lean (`RO ; Lib ; RO`, `step_stages`).  Independence of the caller's writes is a simulation: started
  in two heaps that differ only in cells the caller owns (`Agree`), every primitive appends the same cells and returns the same value (`Sim`).
-/
namespace Model.StateMgrN
open Model.StateMgrPy (mapList mapAssoc)
open Model.StateMgr (Addr Key Val lookup insert adjust updateAll commitKeys entries
  dictAddrs listAddrs histAddrs cacheAddrs mem_listAddrs mem_addrs_ref histAddrs_of_mem
  lookup_mem lookup_adjust dictAddrs_insert dictAddrs_updateAll histAddrs_updateAll histAddrs_adjust_snoc)

/-! ### cells -/

theorem bodyAt_append_lt {h e : Heap} {a : Nat} (ha : a < h.length) : bodyAt (h ++ e) a = bodyAt h a := by
  simp [bodyAt, List.getElem?_append_left ha]

theorem ownerAt_append_lt {h e : Heap} {a : Nat} (ha : a < h.length) : ownerAt (h ++ e) a = ownerAt h a := by
  simp [ownerAt, List.getElem?_append_left ha]

theorem ownerAt_lt {h : Heap} {a : Nat} {o : Owner} (ho : ownerAt h a = some o) : a < h.length := by
  simp only [ownerAt, Option.map_eq_some_iff] at ho
  obtain ⟨c, hc, _⟩ := ho
  exact (List.getElem?_eq_some_iff.1 hc).1

theorem bodyAt_lt {h : Heap} {a : Nat} {b : Body} (hb : bodyAt h a = some b) : a < h.length := by
  simp only [bodyAt, Option.map_eq_some_iff] at hb
  obtain ⟨c, hc, _⟩ := hb
  exact (List.getElem?_eq_some_iff.1 hc).1

theorem cell_of_body_owner {h : Heap} {a : Nat} {b : Body} {o : Owner} (hb : bodyAt h a = some b)
    (ho : ownerAt h a = some o) : h[a]? = some ⟨b, o⟩ := by
  simp only [bodyAt, Option.map_eq_some_iff] at hb
  obtain ⟨c, hc1, hc2⟩ := hb
  simp only [ownerAt, hc1, Option.map_some, Option.some.injEq] at ho
  rw [hc1]; cases c; simp_all

theorem cell_of_ge {h e : Heap} {a : Nat} {c : Cell} (hge : h.length ≤ a) (hc : (h ++ e)[a]? = some c) : c ∈ e := by
  rw [List.getElem?_append_right hge] at hc
  exact List.mem_of_getElem? hc

theorem ownerAt_new {h e : Heap} {o : Owner} (ho : ∀ c ∈ e, c.owner = o) {a : Nat} (hge : h.length ≤ a)
    (hlt : a < h.length + e.length) : ownerAt (h ++ e) a = some o := by
  have hlt' : a < (h ++ e).length := by simpa using hlt
  obtain ⟨c, hc⟩ : ∃ c, (h ++ e)[a]? = some c := ⟨_, List.getElem?_eq_getElem hlt'⟩
  simp [ownerAt, hc, ho c (cell_of_ge hge hc)]

/-! ### blocks of new cells -/

def Own (o : Owner) (h h' : Heap) : Prop := ∃ e, h' = h ++ e ∧ ∀ c ∈ e, c.owner = o

def Blk (o : Owner) (h h' : Heap) : Prop :=
  ∃ e, h' = h ++ e ∧ (∀ c ∈ e, c.owner = o) ∧
    ∀ c ∈ e, ∀ es, c.body = Body.objs es → ∀ b : Nat, b ∈ listAddrs es → h.length ≤ b ∧ b < h.length + e.length

theorem Blk.own {o : Owner} {h h' : Heap} (b : Blk o h h') : Own o h h' := by
  obtain ⟨e, h1, h2, _⟩ := b; exact ⟨e, h1, h2⟩

theorem Own.le {o : Owner} {h h' : Heap} (b : Own o h h') : h.length ≤ h'.length := by
  obtain ⟨e, rfl, _⟩ := b; simp

theorem Blk.le {o : Owner} {h h' : Heap} (b : Blk o h h') : h.length ≤ h'.length := b.own.le

theorem Own.refl (o : Owner) (h : Heap) : Own o h h := ⟨[], by simp, by simp⟩
theorem Blk.refl (o : Owner) (h : Heap) : Blk o h h := ⟨[], by simp, by simp, by simp⟩

theorem Own.trans {o : Owner} {h1 h2 h3 : Heap} (a : Own o h1 h2) (b : Own o h2 h3) : Own o h1 h3 := by
  obtain ⟨e1, rfl, o1⟩ := a
  obtain ⟨e2, rfl, o2⟩ := b
  refine ⟨e1 ++ e2, by simp, fun c hc => ?_⟩
  rcases List.mem_append.1 hc with h | h
  · exact o1 c h
  · exact o2 c h

theorem Blk.trans {o : Owner} {h1 h2 h3 : Heap} (a : Blk o h1 h2) (b : Blk o h2 h3) : Blk o h1 h3 := by
  obtain ⟨e1, rfl, o1, k1⟩ := a
  obtain ⟨e2, rfl, o2, k2⟩ := b
  refine ⟨e1 ++ e2, by simp, fun c hc => ?_, fun c hc es hes b hb => ?_⟩
  · rcases List.mem_append.1 hc with h | h
    · exact o1 c h
    · exact o2 c h
  · rcases List.mem_append.1 hc with h | h
    · have := k1 c h es hes b hb
      simp only [List.length_append]; omega
    · have := k2 c h es hes b hb
      simp only [List.length_append] at this ⊢; omega

theorem Own.body_eq {o : Owner} {h h' : Heap} (b : Own o h h') {a : Nat} (ha : a < h.length) : bodyAt h' a = bodyAt h a := by
  obtain ⟨e, rfl, _⟩ := b; exact bodyAt_append_lt ha

theorem Own.owner_eq {o : Owner} {h h' : Heap} (b : Own o h h') {a : Nat} (ha : a < h.length) : ownerAt h' a = ownerAt h a := by
  obtain ⟨e, rfl, _⟩ := b; exact ownerAt_append_lt ha

theorem Own.owner_some {o : Owner} {h h' : Heap} (b : Own o h h') {a : Nat} {x : Owner} (ha : ownerAt h a = some x) :
    ownerAt h' a = some x := by
  rw [b.owner_eq (ownerAt_lt ha)]; exact ha

theorem Own.new {o : Owner} {h h' : Heap} (b : Own o h h') {a : Nat} (hge : h.length ≤ a) (hlt : a < h'.length) :
    ownerAt h' a = some o := by
  obtain ⟨e, rfl, ho⟩ := b
  exact ownerAt_new ho hge (by simpa using hlt)

theorem Own.getElem {o : Owner} {h h' : Heap} (b : Own o h h') {a : Nat} (ha : a < h.length) : h'[a]? = h[a]? := by
  obtain ⟨e, rfl, _⟩ := b; exact List.getElem?_append_left ha

theorem blk_alloc_flat (o : Owner) (h : Heap) (b : Body) (hb : ∀ es, b ≠ Body.objs es) : Blk o h (alloc h b o).1 := by
  refine ⟨[⟨b, o⟩], rfl, by simp, fun c hc es hes => ?_⟩
  simp only [List.mem_singleton] at hc
  subst hc
  exact absurd hes (hb es)

theorem blk_alloc_objs (o : Owner) (h0 h : Heap) (es : List Val) (hb : Blk o h0 h)
    (hes : ∀ b : Nat, b ∈ listAddrs es → h0.length ≤ b ∧ b < h.length) : Blk o h0 (alloc h (.objs es) o).1 := by
  obtain ⟨e1, rfl, o1, k1⟩ := hb
  refine ⟨e1 ++ [⟨.objs es, o⟩], by simp [alloc], fun c hc => ?_, fun c hc es' hes' b hb' => ?_⟩
  · rcases List.mem_append.1 hc with h | h
    · exact o1 c h
    · simp only [List.mem_singleton] at h; subst h; rfl
  · rcases List.mem_append.1 hc with h | h
    · have := k1 c h es' hes' b hb'
      simp only [List.length_append, List.length_singleton]; omega
    · simp only [List.mem_singleton] at h
      subst h
      simp only [Body.objs.injEq] at hes'
      subst hes'
      have := hes b hb'
      simp only [List.length_append, List.length_singleton] at this ⊢; omega

/-! ### closedness of the library's containers -/

def Closed (h : Heap) : Prop :=
  ∀ (a : Nat) (es : List Val), h[a]? = some ⟨.objs es, .lib⟩ → ∀ b : Nat, b ∈ listAddrs es → ownerAt h b = some .lib

theorem Closed.blk_lib {h h' : Heap} (hc : Closed h) (b : Blk .lib h h') : Closed h' := by
  intro a es ha x hx
  by_cases hlt : a < h.length
  · rw [b.own.getElem hlt] at ha
    exact b.own.owner_some (hc a es ha x hx)
  · obtain ⟨e, rfl, ho, hk⟩ := b
    have hm := cell_of_ge (Nat.le_of_not_lt hlt) ha
    have := hk _ hm es rfl x hx
    exact ownerAt_new ho this.1 this.2

/-! ### what happens on the caller's side leaves the library's cells alone -/

def LibSame (h g : Heap) : Prop := ∀ a : Nat, ownerAt h a = some .lib → g[a]? = h[a]?

theorem LibSame.refl (h : Heap) : LibSame h h := fun _ _ => rfl

theorem LibSame.owner {h g : Heap} (l : LibSame h g) {a : Nat} (ha : ownerAt h a = some .lib) : ownerAt g a = some .lib := by
  simp only [ownerAt, l a ha]; exact ha

theorem LibSame.trans {h1 h2 h3 : Heap} (a : LibSame h1 h2) (b : LibSame h2 h3) : LibSame h1 h3 :=
  fun x hx => by rw [b x (a.owner hx), a x hx]

theorem Own.libSame {o : Owner} {h h' : Heap} (b : Own o h h') : LibSame h h' :=
  fun _ ha => b.getElem (ownerAt_lt ha)

theorem ownerAt_set_usr {h : Heap} {a : Nat} {b0 b1 : Body} (hcell : h[a]? = some ⟨b0, .usr⟩) (x : Nat) :
    ownerAt (h.set a ⟨b1, .usr⟩) x = ownerAt h x := by
  by_cases hax : a = x
  · subst hax
    have hlt := (List.getElem?_eq_some_iff.1 hcell).1
    simp [ownerAt, List.getElem?_set_self hlt, hcell]
  · simp [ownerAt, List.getElem?_set_ne hax]

structure Usr (h g : Heap) : Prop where
  le : h.length ≤ g.length
  same : LibSame h g
  noLib : ∀ a : Nat, ownerAt g a = some .lib → ownerAt h a = some .lib

theorem Usr.refl (h : Heap) : Usr h h := ⟨Nat.le_refl _, LibSame.refl h, fun _ h => h⟩

theorem Own.usr {h h' : Heap} (b : Own .usr h h') : Usr h h' := by
  refine ⟨b.le, b.libSame, fun a ha => ?_⟩
  by_cases hlt : a < h.length
  · rw [← b.owner_eq hlt]; exact ha
  · have := b.new (Nat.le_of_not_lt hlt) (ownerAt_lt ha)
    rw [this] at ha; cases ha

theorem usr_set {h : Heap} {a : Nat} {b0 b1 : Body} (hcell : h[a]? = some ⟨b0, .usr⟩) : Usr h (h.set a ⟨b1, .usr⟩) := by
  refine ⟨by simp, fun x hx => ?_, fun x hx => by rw [ownerAt_set_usr hcell] at hx; exact hx⟩
  have hne : a ≠ x := by
    intro heq; subst heq
    simp [ownerAt, hcell] at hx
  exact List.getElem?_set_ne hne

theorem Usr.closed {h g : Heap} (u : Usr h g) (hc : Closed h) : Closed g := by
  intro a es ha x hx
  have hlib : ownerAt h a = some .lib := u.noLib a (by simp [ownerAt, ha])
  rw [u.same a hlib] at ha
  exact u.same.owner (hc a es ha x hx)

theorem Closed.blk {o : Owner} {h h' : Heap} (hc : Closed h) (b : Blk o h h') : Closed h' := by
  cases o with
  | lib => exact hc.blk_lib b
  | usr => exact b.own.usr.closed hc

/-! ### two heaps that differ only in cells the caller owns -/

structure Agree (h g : Heap) : Prop where
  len : h.length = g.length
  own : ∀ a : Nat, ownerAt g a = ownerAt h a
  lib : ∀ a : Nat, ownerAt h a = some .lib → g[a]? = h[a]?

theorem Agree.refl (h : Heap) : Agree h h := ⟨rfl, fun _ => rfl, fun _ _ => rfl⟩

theorem Agree.append {h g : Heap} (ag : Agree h g) (e : Heap) : Agree (h ++ e) (g ++ e) := by
  refine ⟨by simp [ag.len], fun a => ?_, fun a ha => ?_⟩
  · by_cases hlt : a < h.length
    · have hlt' : a < g.length := by rw [← ag.len]; exact hlt
      rw [ownerAt_append_lt hlt, ownerAt_append_lt hlt', ag.own]
    · have hge : h.length ≤ a := Nat.le_of_not_lt hlt
      have hge' : g.length ≤ a := by rw [← ag.len]; exact hge
      simp [ownerAt, List.getElem?_append_right hge, List.getElem?_append_right hge', ag.len]
  · by_cases hlt : a < h.length
    · have hlt' : a < g.length := by rw [← ag.len]; exact hlt
      rw [ownerAt_append_lt hlt] at ha
      rw [List.getElem?_append_left hlt, List.getElem?_append_left hlt', ag.lib a ha]
    · have hge : h.length ≤ a := Nat.le_of_not_lt hlt
      have hge' : g.length ≤ a := by rw [← ag.len]; exact hge
      simp [List.getElem?_append_right hge, List.getElem?_append_right hge', ag.len]

theorem Agree.body {h g : Heap} (ag : Agree h g) {a : Nat} (ha : ownerAt h a = some .lib) : bodyAt g a = bodyAt h a := by
  simp [bodyAt, ag.lib a ha]

theorem agree_set_usr {h : Heap} {a : Nat} {b0 b1 : Body} (hcell : h[a]? = some ⟨b0, .usr⟩) :
    Agree h (h.set a ⟨b1, .usr⟩) :=
  ⟨by simp, fun x => ownerAt_set_usr hcell x, (usr_set hcell).same⟩

def Sim {α : Type} (r r' : Heap × α) (h g : Heap) : Prop := ∃ e, r.1 = h ++ e ∧ r'.1 = g ++ e ∧ r.2 = r'.2

theorem sim_alloc (h g : Heap) (b : Body) (o : Owner) (hl : h.length = g.length) : Sim (alloc h b o) (alloc g b o) h g :=
  ⟨[⟨b, o⟩], rfl, rfl, by simp [alloc, hl]⟩

theorem Sim.agree {α : Type} {r r' : Heap × α} {h g : Heap} (s : Sim r r' h g) (ag : Agree h g) : Agree r.1 r'.1 := by
  obtain ⟨e, p, q, _⟩ := s
  rw [p, q]
  exact ag.append e

theorem Sim.andThen {α β γ : Type} {h g : Heap} {r r' : Heap × α} {t t' : Heap × β} (s1 : Sim r r' h g)
    (s2 : Sim t t' r.1 r'.1) (F : α → β → γ) : Sim (t.1, F r.2 t.2) (t'.1, F r'.2 t'.2) h g := by
  obtain ⟨e1, p1, q1, r1⟩ := s1
  obtain ⟨e2, p2, q2, r2⟩ := s2
  exact ⟨e1 ++ e2, by simp [p2, p1], by simp [q2, q1], by simp [r1, r2]⟩

theorem Sim.container {h g : Heap} {r r' : Heap × List Val} (s : Sim r r' h g) (hl : h.length = g.length) (o : Owner) :
    Sim (alloc r.1 (.objs r.2) o) (alloc r'.1 (.objs r'.2) o) h g := by
  obtain ⟨e1, p1, q1, r1⟩ := s
  exact ⟨e1 ++ [⟨.objs r.2, o⟩], by simp [alloc, p1], by simp [alloc, q1, r1], by simp [alloc, p1, q1, hl]⟩

/-! ### deep copies are closed blocks of new cells, and what they return is new -/

theorem alloc_fresh {h : Heap} {b : Body} {o : Owner} {a : Nat} (ha : a ∈ (alloc h b o).2.addrs) :
    h.length ≤ a ∧ a < (alloc h b o).1.length := by
  simp only [alloc, Val.addrs, List.mem_singleton] at ha
  subst ha; simp [alloc]

theorem copyElem_blk (o : Owner) (h : Heap) (v : Val) : Blk o h (copyElem o h v).1 := by
  cases v with
  | none => exact Blk.refl _ _
  | scalar x => exact Blk.refl _ _
  | ref b =>
    simp only [copyElem]
    split
    · exact blk_alloc_flat o h _ (by simp)
    · exact blk_alloc_flat o h _ (by simp)

theorem copyElem_fresh {o : Owner} {h : Heap} {v : Val} {a : Nat} (ha : a ∈ (copyElem o h v).2.addrs) :
    h.length ≤ a ∧ a < (copyElem o h v).1.length := by
  cases v with
  | none => simp [copyElem, Val.addrs] at ha
  | scalar x => simp [copyElem, Val.addrs] at ha
  | ref b =>
    simp only [copyElem] at ha ⊢
    split at ha <;> exact alloc_fresh ha

theorem copyElem_sim {h g : Heap} (ag : Agree h g) (o : Owner) (v : Val)
    (hv : ∀ a : Nat, a ∈ v.addrs → ownerAt h a = some .lib) : Sim (copyElem o h v) (copyElem o g v) h g := by
  cases v with
  | none => exact ⟨[], by simp [copyElem], by simp [copyElem], rfl⟩
  | scalar x => exact ⟨[], by simp [copyElem], by simp [copyElem], rfl⟩
  | ref b =>
    have hb := ag.body (hv b (by simp [Val.addrs]))
    simp only [copyElem, hb]
    split
    · exact sim_alloc _ _ _ _ ag.len
    · exact sim_alloc _ _ _ _ ag.len

/-- what `_ensure_copy` (`copy.deepcopy` for containers) guarantees, for a function `f` on values of any shape, `o` being the
    receiver of the copy -/
structure DeepCopier {β : Type} (o : Owner) (A : β → List Addr) (f : Heap → β → Heap × β) : Prop where
  blk : ∀ h v, Blk o h (f h v).1
  fresh : ∀ {h v} {a : Nat}, a ∈ A (f h v).2 → h.length ≤ a ∧ a < (f h v).1.length
  sim : ∀ {h g}, Agree h g → Closed h → ∀ v, (∀ a : Nat, a ∈ A v → ownerAt h a = some .lib) → Sim (f h v) (f g v) h g

/-- `[f(x) for x in l]` -/
theorem DeepCopier.list {β : Type} {o : Owner} {A : β → List Addr} {f : Heap → β → Heap × β} (c : DeepCopier o A f) :
    DeepCopier o (fun l : List β => l.flatMap A) (mapList f) := by
  have blk : ∀ h l, Blk o h (mapList f h l).1 := fun h l => by
    induction l generalizing h with
    | nil => exact Blk.refl _ _
    | cons v vs ih => exact (c.blk h v).trans (ih _)
  refine ⟨blk, ?_, ?_⟩
  · intro h l a ha
    induction l generalizing h with
    | nil => cases ha
    | cons v vs ih =>
      have h1 := (c.blk h v).le
      have h2 := (blk (f h v).1 vs).le
      simp only [mapList]
      rcases List.mem_append.1 ha with ha | ha
      · have := c.fresh ha; omega
      · have := ih ha; omega
  · intro h g ag hc l hv
    induction l generalizing h g with
    | nil => exact ⟨[], by simp [mapList], by simp [mapList], rfl⟩
    | cons v vs ih =>
      have s1 := c.sim ag hc v fun a ha => hv a (List.mem_append_left _ ha)
      have b := c.blk h v
      exact s1.andThen (ih (s1.agree ag) (hc.blk b) fun a ha => b.own.owner_some (hv a (List.mem_append_right _ ha))) List.cons

/-- `{k: f(v) for k, v in d.items()}` -/
theorem DeepCopier.assoc {β : Type} {o : Owner} {A : β → List Addr} {f : Heap → β → Heap × β} (c : DeepCopier o A f) :
    DeepCopier o (fun d : List (Key × β) => d.flatMap fun kv => A kv.2) (mapAssoc f) := by
  rw [Model.StateMgr.mapAssoc_eq_mapList]
  exact DeepCopier.list (A := fun kv : Key × β => A kv.2)
    ⟨fun h kv => c.blk h kv.2, c.fresh, fun ag hc kv hv => by
      obtain ⟨e, p, q, r⟩ := c.sim ag hc kv.2 hv
      exact ⟨e, p, q, by rw [r]⟩⟩

theorem copyElems_eq (o : Owner) : copyElems o = mapList (copyElem o) := by
  funext h l
  induction l generalizing h with
  | nil => rfl
  | cons v vs ih => simp only [mapList, copyElems, ih]

theorem deepCopier_elems (o : Owner) : DeepCopier o listAddrs (copyElems o) :=
  copyElems_eq o ▸ DeepCopier.list ⟨copyElem_blk o, copyElem_fresh, fun ag _ v hv => copyElem_sim ag o v hv⟩

theorem copyVal_blk (o : Owner) (h : Heap) (v : Val) : Blk o h (copyVal true o h v).1 := by
  cases v with
  | none => exact Blk.refl _ _
  | scalar x => exact Blk.refl _ _
  | ref b =>
    simp only [copyVal]
    split
    · exact blk_alloc_flat o h _ (by simp)
    · rename_i es _
      simp only [if_true]
      exact blk_alloc_objs o h _ _ ((deepCopier_elems o).blk h es) (fun b hb => (deepCopier_elems _).fresh hb)
    · exact blk_alloc_flat o h _ (by simp)

theorem copyVal_fresh {o : Owner} {h : Heap} {v : Val} {a : Nat} (ha : a ∈ (copyVal true o h v).2.addrs) :
    h.length ≤ a ∧ a < (copyVal true o h v).1.length := by
  cases v with
  | none => simp [copyVal, Val.addrs] at ha
  | scalar x => simp [copyVal, Val.addrs] at ha
  | ref b =>
    simp only [copyVal] at ha ⊢
    split at ha
    · exact alloc_fresh ha
    · rename_i es _
      simp only [if_true] at ha ⊢
      have := alloc_fresh ha
      have := ((deepCopier_elems o).blk h es).le
      omega
    · exact alloc_fresh ha

theorem copyVal_sim {h g : Heap} (ag : Agree h g) (hc : Closed h) (o : Owner) (v : Val)
    (hv : ∀ a : Nat, a ∈ v.addrs → ownerAt h a = some .lib) : Sim (copyVal true o h v) (copyVal true o g v) h g := by
  cases v with
  | none => exact ⟨[], by simp [copyVal], by simp [copyVal], rfl⟩
  | scalar x => exact ⟨[], by simp [copyVal], by simp [copyVal], rfl⟩
  | ref b =>
    have hlib := hv b (by simp [Val.addrs])
    have hb := ag.body hlib
    simp only [copyVal, hb]
    split
    · exact sim_alloc _ _ _ _ ag.len
    · rename_i es hes
      exact ((deepCopier_elems o).sim ag hc es (hc b es (cell_of_body_owner hes hlib))).container ag.len o
    · exact sim_alloc _ _ _ _ ag.len

theorem copyList_eq (o : Owner) : copyList true o = mapList (copyVal true o) := by
  funext h l
  induction l generalizing h with
  | nil => rfl
  | cons v vs ih => simp only [mapList, copyList, ih]

theorem copyDict_eq (o : Owner) : copyDict true o = mapAssoc (copyVal true o) := by
  funext h d
  induction d generalizing h with
  | nil => rfl
  | cons kv r ih => obtain ⟨k, v⟩ := kv; simp only [mapAssoc, copyDict, ih]

theorem copyHist_eq (o : Owner) : copyHist true o = mapAssoc (copyList true o) := by
  funext h d
  induction d generalizing h with
  | nil => rfl
  | cons kv r ih => obtain ⟨k, v⟩ := kv; simp only [mapAssoc, copyHist, ih]

theorem deepCopier_val (o : Owner) : DeepCopier o Val.addrs (copyVal true o) :=
  ⟨copyVal_blk o, copyVal_fresh, fun ag hc v hv => copyVal_sim ag hc o v hv⟩
theorem deepCopier_list (o : Owner) : DeepCopier o listAddrs (copyList true o) := copyList_eq o ▸ (deepCopier_val o).list
theorem deepCopier_dict (o : Owner) : DeepCopier o dictAddrs (copyDict true o) := copyDict_eq o ▸ (deepCopier_val o).assoc
theorem deepCopier_hist (o : Owner) : DeepCopier o histAddrs (copyHist true o) := copyHist_eq o ▸ (deepCopier_list o).assoc

theorem copyHist_sim {h g : Heap} (ag : Agree h g) (hc : Closed h) (o : Owner) (d : List (Key × List Val))
    (hv : ∀ a : Nat, a ∈ histAddrs d → ownerAt h a = some .lib) :
    Sim (copyHist true o h d) (copyHist true o g d) h g :=
  (deepCopier_hist o).sim ag hc d hv

theorem stackAlloc_cases (o : Owner) (h : Heap) (l : List Val) :
    (∃ es, stackAlloc true o h l = alloc (copyElems o h es).1 (.objs (copyElems o h es).2) o) ∨
    (∃ b : Body, (∀ es, b ≠ Body.objs es) ∧ stackAlloc true o h l = alloc h b o) := by
  simp only [stackAlloc]
  split
  · split
    · rename_i es _
      exact Or.inl ⟨es, by simp⟩
    · exact Or.inr ⟨_, by simp, rfl⟩
  · split
    · exact Or.inr ⟨_, by simp, rfl⟩
    · exact Or.inr ⟨_, by simp, rfl⟩

theorem stackAlloc_blk (o : Owner) (h : Heap) (l : List Val) : Blk o h (stackAlloc true o h l).1 := by
  rcases stackAlloc_cases o h l with ⟨es, he⟩ | ⟨b, hb, he⟩
  · rw [he]
    exact blk_alloc_objs o h _ _ ((deepCopier_elems o).blk h es) (fun b hb => (deepCopier_elems _).fresh hb)
  · rw [he]
    exact blk_alloc_flat o h b hb

theorem stackAlloc_fresh {o : Owner} {h : Heap} {l : List Val} {a : Nat} (ha : a ∈ (stackAlloc true o h l).2.addrs) :
    h.length ≤ a ∧ a < (stackAlloc true o h l).1.length := by
  rcases stackAlloc_cases o h l with ⟨es, he⟩ | ⟨b, hb, he⟩
  · rw [he] at ha ⊢
    have := alloc_fresh ha
    have := ((deepCopier_elems o).blk h es).le
    omega
  · rw [he] at ha ⊢
    exact alloc_fresh ha

theorem fillCache_blk (d : List (Key × List Val)) (h : Heap) (c : List (Key × Val)) :
    Blk .lib h (fillCache true d h c).1 := by
  induction d generalizing h c with
  | nil => exact Blk.refl _ _
  | cons kv r ih =>
    obtain ⟨k, l⟩ := kv
    simp only [fillCache]
    split
    · exact (stackAlloc_blk .lib h l).trans (ih _ _)
    · exact Blk.refl _ _

theorem fillCache_fresh {d : List (Key × List Val)} {h : Heap} {c : List (Key × Val)} {a : Nat}
    (ha : a ∈ dictAddrs (fillCache true d h c).2.1) :
    a ∈ dictAddrs c ∨ (h.length ≤ a ∧ a < (fillCache true d h c).1.length) := by
  induction d generalizing h c with
  | nil => exact Or.inl ha
  | cons kv r ih =>
    obtain ⟨k, l⟩ := kv
    simp only [fillCache] at ha ⊢
    split at ha
    · rename_i hk
      simp only [hk, if_true]
      have e1 := (stackAlloc_blk .lib h l).le
      have e2 := (fillCache_blk r (stackAlloc true .lib h l).1 (insert k (stackAlloc true .lib h l).2 c)).le
      rcases ih ha with h1 | h1
      · rcases dictAddrs_insert h1 with h2 | h2
        · exact Or.inl h2
        · have := stackAlloc_fresh h2
          exact Or.inr ⟨this.1, by omega⟩
      · exact Or.inr ⟨by omega, h1.2⟩
    · rename_i hk
      simp only [hk]
      exact Or.inl ha

/-! ### what the caller creates is caller-owned -/

theorem own_alloc (o : Owner) (h : Heap) (b : Body) : Own o h (alloc h b o).1 := ⟨[⟨b, o⟩], rfl, by simp⟩

theorem resolve1_own (h : Heap) (x : Arg1) : Own .usr h (resolve1 h x).1 := by
  cases x <;> simp only [resolve1]
  · exact Own.refl _ _
  · exact Own.refl _ _
  · exact own_alloc _ _ _
  · exact Own.refl _ _

theorem resolveElems_own (h : Heap) (l : List Arg1) : Own .usr h (resolveElems h l).1 := by
  induction l generalizing h with
  | nil => exact Own.refl _ _
  | cons x xs ih => exact (resolve1_own h x).trans (ih _)

theorem resolveArg_own (h : Heap) (x : Arg) : Own .usr h (resolveArg h x).1 := by
  cases x <;> simp only [resolveArg]
  · exact Own.refl _ _
  · exact Own.refl _ _
  · exact own_alloc _ _ _
  · exact Own.refl _ _
  · exact (resolveElems_own h _).trans (own_alloc _ _ _)

theorem resolveList_own (h : Heap) (l : List Arg) : Own .usr h (resolveList h l).1 := by
  induction l generalizing h with
  | nil => exact Own.refl _ _
  | cons x xs ih => exact (resolveArg_own h x).trans (ih _)

theorem resolveDict_own (h : Heap) (l : List (Key × Arg)) : Own .usr h (resolveDict h l).1 := by
  induction l generalizing h with
  | nil => exact Own.refl _ _
  | cons kv xs ih => obtain ⟨k, x⟩ := kv; exact (resolveArg_own h x).trans (ih _)

theorem resolveHist_own (h : Heap) (l : List (Key × List Arg)) : Own .usr h (resolveHist h l).1 := by
  induction l generalizing h with
  | nil => exact Own.refl _ _
  | cons kv xs ih => obtain ⟨k, x⟩ := kv; exact (resolveList_own h x).trans (ih _)

/-! ### the invariant; what a result refers to; commit and import among the operations -/

/-- everything `_history` and the results cache point to is library-owned, everything `_current` points to is
    library-owned unless the caller asked for it to be stored by reference (`copy=False`), and library-owned
    containers contain library-owned cells only.  Library-owned cells are never written by the caller. -/
structure Inv (s : State) : Prop where
  cur : ∀ a : Nat, a ∈ dictAddrs s.current → ownerAt s.heap a = some .lib ∨ a ∈ s.imported
  hist : ∀ a : Nat, a ∈ histAddrs s.history → ownerAt s.heap a = some .lib
  cache : ∀ a : Nat, a ∈ cacheAddrs s.cache → ownerAt s.heap a = some .lib
  closed : Closed s.heap

def Res.addrs : Res → List Addr
  | .unit => []
  | .val v => v.addrs
  | .dict d => dictAddrs d
  | .export c h => dictAddrs c ++ histAddrs h
  | .err _ => []

def Op.isCommit : Op → Bool
  | .commit _ => true
  | _ => false

def Op.isImport : Op → Bool
  | .updateFromDict _ _ => true
  | _ => false

/-! ### the two kinds of transition: on the caller's side, on the manager's side

  As in Lemmas/StateMgr.lean, with ownership labels in place of `escaped`: `RO` carries `Usr`, `Lib` a closed block `Blk .lib`
  (no `alias` flag: an aliased address is recorded in `imported`), `Stages` also the block handed out (`outBlk`). -/

structure RO (s t : State) : Prop where
  cur : t.current = s.current
  hist : t.history = s.history
  cache : t.cache = s.cache
  imp : t.imported = s.imported
  heap : Usr s.heap t.heap

theorem RO.refl (s : State) : RO s s := ⟨rfl, rfl, rfl, rfl, Usr.refl _⟩

theorem RO.inv {s t : State} (r : RO s t) (hI : Inv s) : Inv t := by
  refine ⟨fun a ha => ?_, fun a ha => ?_, fun a ha => ?_, r.heap.closed hI.closed⟩
  · rw [r.cur] at ha
    rw [r.imp]
    exact (hI.cur a ha).imp r.heap.same.owner id
  · rw [r.hist] at ha
    exact r.heap.same.owner (hI.hist a ha)
  · rw [r.cache] at ha
    exact r.heap.same.owner (hI.cache a ha)

theorem RO.ofHeap {s : State} {h' : Heap} (u : Usr s.heap h') : RO s { s with heap := h' } := ⟨rfl, rfl, rfl, rfl, u⟩

/-- `t` is `s` after the manager allocated a closed block of cells of its own and stored references: whatever the
    dictionaries newly refer to is in that block, or (`copy=False`) is recorded in `imported` -/
structure Lib (s t : State) : Prop where
  blk : Blk .lib s.heap t.heap
  impMono : ∀ a : Nat, a ∈ s.imported → a ∈ t.imported
  cur : ∀ a : Nat, a ∈ dictAddrs t.current →
    a ∈ dictAddrs s.current ∨ (s.heap.length ≤ a ∧ a < t.heap.length) ∨ a ∈ t.imported
  hist : ∀ a : Nat, a ∈ histAddrs t.history → a ∈ histAddrs s.history ∨ (s.heap.length ≤ a ∧ a < t.heap.length)
  cache : ∀ a : Nat, a ∈ cacheAddrs t.cache → a ∈ cacheAddrs s.cache ∨ (s.heap.length ≤ a ∧ a < t.heap.length)

theorem Lib.refl (s : State) : Lib s s :=
  ⟨Blk.refl _ _, fun _ h => h, fun _ h => Or.inl h, fun _ h => Or.inl h, fun _ h => Or.inl h⟩

theorem Lib.trans {s t u : State} (a : Lib s t) (b : Lib t u) : Lib s u := by
  have l1 := a.blk.le
  have l2 := b.blk.le
  refine ⟨a.blk.trans b.blk, fun x hx => b.impMono x (a.impMono x hx), fun x hx => ?_, fun x hx => ?_, fun x hx => ?_⟩
  · rcases b.cur x hx with h | h | h
    · rcases a.cur x h with h | h | h
      · exact Or.inl h
      · exact Or.inr (Or.inl ⟨h.1, by omega⟩)
      · exact Or.inr (Or.inr (b.impMono x h))
    · exact Or.inr (Or.inl ⟨by omega, h.2⟩)
    · exact Or.inr (Or.inr h)
  · rcases b.hist x hx with h | h
    · exact (a.hist x h).imp_right fun h => ⟨h.1, by omega⟩
    · exact Or.inr ⟨by omega, h.2⟩
  · rcases b.cache x hx with h | h
    · exact (a.cache x h).imp_right fun h => ⟨h.1, by omega⟩
    · exact Or.inr ⟨by omega, h.2⟩

theorem Lib.inv {s t : State} (l : Lib s t) (hI : Inv s) : Inv t := by
  have ow := l.blk.own
  refine ⟨fun a ha => ?_, fun a ha => ?_, fun a ha => ?_, hI.closed.blk_lib l.blk⟩
  · rcases l.cur a ha with h | h | h
    · exact (hI.cur a h).imp ow.owner_some (l.impMono a)
    · exact Or.inl (ow.new h.1 h.2)
    · exact Or.inr h
  · exact (l.hist a ha).elim (fun h => ow.owner_some (hI.hist a h)) fun h => ow.new h.1 h.2
  · exact (l.cache a ha).elim (fun h => ow.owner_some (hI.cache a h)) fun h => ow.new h.1 h.2

/-- `_invalidate_cache()` -/
theorem Lib.cacheNone (s : State) : Lib s { s with cache := none } :=
  ⟨Blk.refl _ _, fun _ h => h, fun _ h => Or.inl h, fun _ h => Or.inl h, fun _ h => by cases h⟩

theorem Lib.fill {s : State} {h' : Heap} {c : List (Key × Val)} (b : Blk .lib s.heap h')
    (hc : ∀ a : Nat, a ∈ dictAddrs c → s.heap.length ≤ a ∧ a < h'.length) : Lib s { s with heap := h', cache := some c } :=
  ⟨b, fun _ h => h, fun _ h => Or.inl h, fun _ h => Or.inl h, fun a h => Or.inr (hc a h)⟩

theorem Lib.update {s : State} {h' : Heap} {c : List (Key × Val)} {hi : List (Key × List Val)} (b : Blk .lib s.heap h')
    (hc : ∀ a : Nat, a ∈ dictAddrs c → s.heap.length ≤ a ∧ a < h'.length)
    (hh : ∀ a : Nat, a ∈ histAddrs hi → s.heap.length ≤ a ∧ a < h'.length) :
    Lib s { s with heap := h', current := updateAll s.current c, history := updateAll s.history hi, cache := none } :=
  ⟨b, fun _ h => h, fun a h => (dictAddrs_updateAll h).imp_right fun h => Or.inl (hc a h),
    fun a h => (histAddrs_updateAll h).imp_right (hh a), fun _ h => by cases h⟩

theorem Lib.setCurrent {s : State} {h' : Heap} {k : Key} {v : Val} {imp : List Addr} (b : Blk .lib s.heap h')
    (hv : ∀ a : Nat, a ∈ v.addrs → (s.heap.length ≤ a ∧ a < h'.length) ∨ a ∈ imp) :
    Lib s { s with heap := h', current := insert k v s.current, imported := imp ++ s.imported, cache := none } :=
  ⟨b, fun _ h => List.mem_append_right _ h,
    fun a h => (dictAddrs_insert h).imp_right fun h => (hv a h).imp_right (List.mem_append_left _),
    fun _ h => Or.inl h, fun _ h => by cases h⟩

theorem lib_commitLoop (ks : List Key) (s : State) : Lib s (commitLoop true ks s) := by
  induction ks generalizing s with
  | nil => exact Lib.refl _
  | cons k ks ih =>
    simp only [commitLoop]
    split
    · split
      · exact ih s
      · rename_i v _ _
        have l1 : Lib s { s with heap := (copyVal true .lib s.heap v).1,
                                 history := adjust k (fun l => l ++ [(copyVal true .lib s.heap v).2]) s.history } :=
          ⟨copyVal_blk _ _ _, fun _ h => h, fun _ h => Or.inl h,
            fun a h => (histAddrs_adjust_snoc h).imp_right copyVal_fresh, fun _ h => Or.inl h⟩
        exact l1.trans (ih _)
    · exact ih s

theorem copies_fresh (o : Owner) (h : Heap) (c : List (Key × Val)) (hi : List (Key × List Val)) :
    (∀ a : Nat, a ∈ dictAddrs (copyDict true o h c).2 →
      h.length ≤ a ∧ a < (copyHist true o (copyDict true o h c).1 hi).1.length) ∧
    (∀ a : Nat, a ∈ histAddrs (copyHist true o (copyDict true o h c).1 hi).2 →
      h.length ≤ a ∧ a < (copyHist true o (copyDict true o h c).1 hi).1.length) := by
  have l1 := ((deepCopier_dict o).blk h c).le
  have l2 := ((deepCopier_hist o).blk (copyDict true o h c).1 hi).le
  exact ⟨fun a ha => by have := (deepCopier_dict _).fresh ha; omega, fun a ha => by have := (deepCopier_hist _).fresh ha; omega⟩

/-! ### every operation, as caller's side / manager's side / caller's side -/

/-- One call in three stages: the caller builds the arguments (or writes into a cell it owns) and reaches `s1`; the manager
    allocates and stores and reaches `s2`; the manager allocates, for the caller, a closed block holding what it hands out. -/
structure Stages (s : State) (o : Op) (s1 s2 : State) (q : State × Res) : Prop where
  arg : RO s s1
  lib : Lib s1 s2
  out : RO s2 q.1
  outBlk : Blk .usr s2.heap q.1.heap
  res : ∀ a : Nat, a ∈ q.2.addrs → s2.heap.length ≤ a ∧ a < q.1.heap.length
  hist : o.isCommit = false → o.isImport = false → s2.history = s1.history

abbrev Staged (s : State) (o : Op) (q : State × Res) : Prop := ∃ s1 s2, Stages s o s1 s2 q

theorem Staged.noop {s : State} {o : Op} {r : Res} (hr : r.addrs = []) : Staged s o (s, r) :=
  ⟨s, s, RO.refl s, Lib.refl s, RO.refl s, Blk.refl _ _, fun a ha => (by rw [hr] at ha; cases ha), fun _ _ => rfl⟩

theorem Staged.handOut {s : State} {o : Op} {h' : Heap} {r : Res} (b : Blk .usr s.heap h')
    (hr : ∀ a : Nat, a ∈ r.addrs → s.heap.length ≤ a ∧ a < h'.length) : Staged s o ({ s with heap := h' }, r) :=
  ⟨s, s, RO.refl s, Lib.refl s, RO.ofHeap b.own.usr, b, hr, fun _ _ => rfl⟩

theorem Staged.store {s s1 t : State} {o : Op} {r : Res} (ha : RO s s1) (hl : Lib s1 t) (hr : r.addrs = [])
    (hh : o.isCommit = false → o.isImport = false → t.history = s1.history) : Staged s o (t, r) :=
  ⟨s1, t, ha, hl, RO.refl t, Blk.refl _ _, fun a ha => (by rw [hr] at ha; cases ha), hh⟩

theorem logwStub_not_objs (h : Heap) (d : List (Key × List Val)) (es : List Val) : logwStub h d ≠ Body.objs es := by
  simp only [logwStub]
  split
  · split <;> simp
  · simp

theorem step_stages (s : State) (o : Op) : Staged s o (step true s o) := by
  cases o with
  | setCurrent k x copy =>
    simp only [step]
    split
    · exact .noop rfl
    · have u := (resolveArg_own s.heap x).usr
      split
      · exact .store (.ofHeap u) (.refl _) rfl (fun _ _ => rfl)
      · split
        · exact .store (.ofHeap u)
            (.setCurrent (imp := []) (copyVal_blk .lib _ _) (fun _ h => Or.inl (copyVal_fresh h))) rfl (fun _ _ => rfl)
        · refine .store (.ofHeap u) (.setCurrent (Blk.refl _ _) (fun a h => Or.inr ?_)) rfl (fun _ _ => rfl)
          rw [mem_addrs_ref.1 h]
          simp [closure]
  | getCurrent k =>
    cases k with
    | some k =>
      simp only [step]
      split
      · exact .noop rfl
      · split
        · exact .noop rfl
        · exact .handOut (copyVal_blk .usr _ _) (fun _ h => copyVal_fresh h)
    | none => exact .handOut ((deepCopier_dict .usr).blk _ _) (fun _ h => (deepCopier_dict _).fresh h)
  | getHistory k index flat =>
    simp only [step]
    split
    · exact .noop rfl
    · split
      · exact .noop rfl
      · split
        · split
          · exact .noop rfl
          · exact .handOut (stackAlloc_blk .usr _ _) (fun _ h => stackAlloc_fresh h)
        · split
          · exact .noop rfl
          · split
            · exact .noop rfl
            · exact .handOut (copyVal_blk .usr _ _) (fun _ h => copyVal_fresh h)
  | getLastHistory k =>
    simp only [step]
    split
    · exact .noop rfl
    · split
      · exact .noop rfl
      · split
        · exact .noop rfl
        · exact .handOut (copyVal_blk .usr _ _) (fun _ h => copyVal_fresh h)
  | commit strict =>
    simp only [step]
    split
    · exact .noop rfl
    · exact .store (.refl s) ((lib_commitLoop _ _).trans (.cacheNone _)) rfl (fun h => by cases h)
  | computeResults =>
    simp only [step]
    split
    · exact .handOut ((deepCopier_dict .usr).blk _ _) (fun _ h => (deepCopier_dict _).fresh h)
    · have bf := fillCache_blk s.history s.heap []
      have hff : ∀ a : Nat, a ∈ dictAddrs (fillCache true s.history s.heap []).2.1 →
          s.heap.length ≤ a ∧ a < (fillCache true s.history s.heap []).1.length := fun a ha =>
        (fillCache_fresh ha).resolve_left (by simp [dictAddrs])
      split
      · exact .store (.refl s) (.fill bf hff) rfl (fun _ _ => rfl)
      · -- the cache is filled, `logw` added to it, then copies of its values are handed out
        have bw := blk_alloc_flat .lib (fillCache true s.history s.heap []).1
          (logwStub (fillCache true s.history s.heap []).1 s.history) (fun es => logwStub_not_objs _ _ es)
        have l1 := bf.le
        have l2 := bw.le
        refine ⟨s, _, .refl s, .fill (bf.trans bw) fun a ha => ?_, .ofHeap ((deepCopier_dict .usr).blk _ _).own.usr,
          (deepCopier_dict .usr).blk _ _, fun _ h => (deepCopier_dict _).fresh h, fun _ _ => rfl⟩
        rcases dictAddrs_insert ha with h | h
        · have := hff a h; omega
        · have := alloc_fresh h; omega
  | toDict =>
    refine .handOut (((deepCopier_dict .usr).blk _ _).trans ((deepCopier_hist .usr).blk _ _)) fun a ha => ?_
    exact (List.mem_append.1 ha).elim ((copies_fresh _ _ _ _).1 a) ((copies_fresh _ _ _ _).2 a)
  | updateFromDict cur hist =>
    simp only [step]
    split
    · exact .noop rfl
    · exact .store (.ofHeap ((resolveDict_own s.heap (entries cur)).trans (resolveHist_own _ (entries hist))).usr)
        (.update (((deepCopier_dict .lib).blk _ _).trans ((deepCopier_hist .lib).blk _ _)) (copies_fresh _ _ _ _).1 (copies_fresh _ _ _ _).2)
        rfl (fun _ h => by cases h)
  | scribble a p =>
    simp only [step]
    split
    · rename_i heq
      exact .store (.ofHeap (usr_set heq)) (.refl _) rfl (fun _ _ => rfl)
    · exact .noop rfl
  | scribbleElems a x =>
    simp only [step]
    split
    · rename_i heq
      exact .store (.ofHeap (usr_set heq)) (.refl _) rfl (fun _ _ => rfl)
    · exact .noop rfl

theorem step_inv (s : State) (o : Op) (hI : Inv s) : Inv (step true s o).1 := by
  obtain ⟨s1, s2, st⟩ := step_stages s o
  exact st.out.inv (st.lib.inv (st.arg.inv hI))

theorem init_inv : Inv init := by
  -- `init.current` and `init.history` are, term for term, those of the flat model's `init`
  have h0 : ∀ a : Nat, a ∉ Model.StateMgr.reach Model.StateMgr.init := fun a ha => by
    rw [Model.StateMgr.reach_init] at ha; cases ha
  exact ⟨fun a ha => (h0 a (Model.StateMgr.mem_reach.2 (Or.inl ha))).elim,
    fun a ha => (h0 a (Model.StateMgr.mem_reach.2 (Or.inr (Or.inl ha)))).elim,
    fun a ha => by simp [init, cacheAddrs] at ha, fun a es ha => by simp [init] at ha⟩

theorem run_inv (ops : List Op) (s : State) (hI : Inv s) : Inv (run true s ops) := by
  induction ops generalizing s with
  | nil => exact hI
  | cons o os ih => exact ih _ (step_inv s o hI)

theorem step_commit (s : State) (strict : Bool) :
    step true s (.commit strict) = (s, .err .valueError) ∨
    step true s (.commit strict) = ({ commitLoop true commitKeys s with cache := none }, .unit) := by
  simp only [step]
  split <;> simp

theorem step_libSame (s : State) (o : Op) : LibSame s.heap (step true s o).1.heap := by
  obtain ⟨s1, s2, st⟩ := step_stages s o
  exact (st.arg.heap.same.trans st.lib.blk.own.libSame).trans st.out.heap.same

theorem step_history_eq (s : State) (o : Op) (h1 : o.isCommit = false) (h2 : o.isImport = false) :
    (step true s o).1.history = s.history := by
  obtain ⟨s1, s2, st⟩ := step_stages s o
  rw [st.out.hist, st.hist h1 h2, st.arg.hist]

/-! ### stacking reads library cells only -/

theorem cellOf_agree {h g : Heap} (ag : Agree h g) (v : Val) (hv : ∀ a : Nat, a ∈ v.addrs → ownerAt h a = some .lib) :
    cellOf g v = cellOf h v := by
  cases v with
  | none => rfl
  | scalar x => rfl
  | ref a => simp [cellOf, ag.body (hv a (by simp [Val.addrs]))]

theorem elemsOf_agree {h g : Heap} (ag : Agree h g) (v : Val) (hv : ∀ a : Nat, a ∈ v.addrs → ownerAt h a = some .lib) :
    elemsOf g v = elemsOf h v := by
  cases v with
  | none => rfl
  | scalar x => rfl
  | ref a => simp [elemsOf, ag.body (hv a (by simp [Val.addrs]))]

theorem isObjs_agree {h g : Heap} (ag : Agree h g) (v : Val) (hv : ∀ a : Nat, a ∈ v.addrs → ownerAt h a = some .lib) :
    isObjs g v = isObjs h v := by
  cases v with
  | none => rfl
  | scalar x => rfl
  | ref a => simp [isObjs, ag.body (hv a (by simp [Val.addrs]))]

theorem stackData_agree {h g : Heap} (ag : Agree h g) (l : List Val)
    (hv : ∀ a : Nat, a ∈ listAddrs l → ownerAt h a = some .lib) : stackData g l = stackData h l := by
  induction l with
  | nil => rfl
  | cons v vs ih =>
    simp only [stackData, cellOf_agree ag v (fun a ha => hv a (List.mem_append_left _ ha)), ih (fun a ha => hv a (List.mem_append_right _ ha))]

theorem stackObjs_agree {h g : Heap} (ag : Agree h g) (l : List Val)
    (hv : ∀ a : Nat, a ∈ listAddrs l → ownerAt h a = some .lib) : stackObjs g l = stackObjs h l := by
  induction l with
  | nil => rfl
  | cons v vs ih =>
    simp only [stackObjs, elemsOf_agree ag v (fun a ha => hv a (List.mem_append_left _ ha)), ih (fun a ha => hv a (List.mem_append_right _ ha))]

theorem all_isObjs_agree {h g : Heap} (ag : Agree h g) (l : List Val)
    (hv : ∀ a : Nat, a ∈ listAddrs l → ownerAt h a = some .lib) : l.all (isObjs g) = l.all (isObjs h) := by
  induction l with
  | nil => rfl
  | cons v vs ih =>
    simp only [List.all_cons, isObjs_agree ag v (fun a ha => hv a (List.mem_append_left _ ha)), ih (fun a ha => hv a (List.mem_append_right _ ha))]

theorem stackObjs_lib {h : Heap} (hc : Closed h) {l : List Val} {es : List Val} (hs : stackObjs h l = some es)
    (hv : ∀ a : Nat, a ∈ listAddrs l → ownerAt h a = some .lib) :
    ∀ a : Nat, a ∈ listAddrs es → ownerAt h a = some .lib := by
  induction l generalizing es with
  | nil => simp only [stackObjs, Option.some.injEq] at hs; subst hs; intro a ha; simp [listAddrs] at ha
  | cons v vs ih =>
    simp only [stackObjs] at hs
    split at hs
    · rename_i e es' he hes
      simp only [Option.some.injEq] at hs
      subst hs
      intro a ha
      simp only [listAddrs, List.flatMap_append, List.mem_append] at ha
      rcases ha with ha | ha
      · cases v with
        | none => simp [elemsOf] at he
        | scalar x => simp [elemsOf] at he
        | ref r =>
          simp only [elemsOf] at he
          split at he
          · rename_i es0 hb
            simp only [Option.some.injEq] at he
            subst he
            exact hc r _ (cell_of_body_owner hb (hv r (List.mem_append_left _ (by simp [Val.addrs])))) a ha
          · simp at he
      · exact ih hes (fun a ha => hv a (List.mem_append_right _ ha)) a ha
    · simp at hs

theorem stackAlloc_sim {h g : Heap} (ag : Agree h g) (hc : Closed h) (o : Owner) (l : List Val)
    (hv : ∀ a : Nat, a ∈ listAddrs l → ownerAt h a = some .lib) :
    Sim (stackAlloc true o h l) (stackAlloc true o g l) h g := by
  simp only [stackAlloc, all_isObjs_agree ag l hv, stackObjs_agree ag l hv, stackData_agree ag l hv]
  split
  · split
    · rename_i es hes
      exact ((deepCopier_elems o).sim ag hc es (stackObjs_lib hc hes hv)).container ag.len o
    · exact sim_alloc _ _ _ _ ag.len
  · split
    · exact sim_alloc _ _ _ _ ag.len
    · exact sim_alloc _ _ _ _ ag.len

theorem fillCache_sim {h g : Heap} (ag : Agree h g) (hc : Closed h) (d : List (Key × List Val)) (c : List (Key × Val))
    (hv : ∀ a : Nat, a ∈ histAddrs d → ownerAt h a = some .lib) :
    Sim (fillCache true d h c) (fillCache true d g c) h g := by
  induction d generalizing h g c with
  | nil => exact ⟨[], by simp [fillCache], by simp [fillCache], rfl⟩
  | cons kv r ih =>
    obtain ⟨k, l⟩ := kv
    simp only [fillCache]
    split
    · have s1 := stackAlloc_sim ag hc .lib l (fun a ha => hv a (List.mem_append_left _ ha))
      have b := stackAlloc_blk .lib h l
      obtain ⟨e2, p2, q2, r2⟩ := ih (s1.agree ag) (hc.blk b) (insert k (stackAlloc true .lib h l).2 c)
        (fun a ha => b.own.owner_some (hv a (List.mem_append_right _ ha)))
      obtain ⟨e1, p1, q1, r1⟩ := s1
      refine ⟨e1 ++ e2, ?_, ?_, ?_⟩
      · rw [p2, p1]; simp
      · rw [← r1, q2, q1]; simp
      · rw [← r1, r2]
    · exact ⟨[], by simp, by simp, rfl⟩

theorem logwStub_agree {h g : Heap} (ag : Agree h g) (d : List (Key × List Val))
    (hv : ∀ a : Nat, a ∈ histAddrs d → ownerAt h a = some .lib) : logwStub g d = logwStub h d := by
  simp only [logwStub]
  split
  · rename_i l hb hl
    have : stackData g l = stackData h l := stackData_agree ag l (fun a ha =>
      hv a (histAddrs_of_mem (lookup_mem hl) ha))
    rw [this]
  · rfl

/-! ### shapes of values: a payload is read at the value's addresses and inside them only -/

/-- `P`: a set of addresses closed under "element of", on which the two heaps have the same cells -/
structure DeepReader {β π : Type} (A : β → List Addr) (D : Heap → β → π) : Prop where
  congr : ∀ {h g : Heap} (P : Nat → Prop), (∀ a : Nat, P a → g[a]? = h[a]?) →
    (∀ (a : Nat) (es : List Val), P a → bodyAt h a = some (.objs es) → ∀ b : Nat, b ∈ listAddrs es → P b) →
    ∀ v, (∀ a : Nat, a ∈ A v → P a) → D g v = D h v

theorem deepReader_val : DeepReader Val.addrs deref := by
  refine ⟨fun {h g} P hsame hkids v hv => ?_⟩
  cases v with
  | none => rfl
  | scalar x => rfl
  | ref a =>
    have ha := hv a (by simp [Val.addrs])
    have hb : bodyAt g a = bodyAt h a := by simp [bodyAt, hsame a ha]
    simp only [deref, hb]
    split
    · rfl
    · rename_i es hes
      congr 1
      apply List.map_congr_left
      intro e he
      cases e with
      | none => rfl
      | scalar x => rfl
      | ref b => simp [deref1, bodyAt, hsame b (hkids a es ha hes b (mem_listAddrs.2 he))]
    · rfl

def NewKids (h e : Heap) : Prop :=
  ∀ c ∈ e, ∀ es, c.body = Body.objs es → ∀ b : Nat, b ∈ listAddrs es → h.length ≤ b

theorem Blk.newKids {o : Owner} {h e : Heap} (b : Blk o h (h ++ e)) : NewKids h e := by
  obtain ⟨e', he, _, hk⟩ := b
  have : e = e' := List.append_cancel_left he
  subst this
  intro c hc es hes x hx
  exact (hk c hc es hes x hx).1

section
variable {β π : Type} {A : β → List Addr} {D : Heap → β → π}

theorem DeepReader.list (r : DeepReader A D) : DeepReader (fun l : List β => l.flatMap A) (fun h l => l.map (D h)) :=
  ⟨fun P hs hk _ hv => List.map_congr_left fun v hm => r.congr P hs hk v fun a ha => hv a (List.mem_flatMap.2 ⟨_, hm, ha⟩)⟩

theorem DeepReader.assoc (r : DeepReader A D) :
    DeepReader (fun d : List (Key × β) => d.flatMap fun kv => A kv.2) (fun h d => d.map fun kv => (kv.1, D h kv.2)) :=
  ⟨fun P hs hk _ hv => List.map_congr_left fun kv hm => by
    rw [r.congr P hs hk kv.2 fun a ha => hv a (List.mem_flatMap.2 ⟨_, hm, ha⟩)]⟩

theorem DeepReader.libSame (r : DeepReader A D) {h g : Heap} (ls : LibSame h g) (hc : Closed h) (v : β)
    (hv : ∀ a : Nat, a ∈ A v → ownerAt h a = some .lib) : D g v = D h v :=
  r.congr (fun a => ownerAt h a = some .lib) ls (fun a es ha hes => hc a es (cell_of_body_owner hes ha)) v hv

theorem DeepReader.new (r : DeepReader A D) {h g e : Heap} (hl : h.length = g.length) (hk : NewKids h e) {v : β}
    (hv : ∀ a : Nat, a ∈ A v → h.length ≤ a) : D (g ++ e) v = D (h ++ e) v := by
  refine r.congr (fun a => h.length ≤ a) (fun a ha => ?_) (fun a es ha hes => ?_) v hv
  · rw [List.getElem?_append_right ha, List.getElem?_append_right (hl ▸ ha), hl]
  · simp only [bodyAt, List.getElem?_append_right ha, Option.map_eq_some_iff] at hes
    obtain ⟨c, hc1, hc2⟩ := hes
    exact hk c (List.mem_of_getElem? hc1) es hc2

end

theorem deepReader_list : DeepReader listAddrs (fun h l => l.map (deref h)) := deepReader_val.list
theorem deepReader_dict : DeepReader dictAddrs derefDict := deepReader_val.assoc
theorem deepReader_hist : DeepReader histAddrs derefHist := deepReader_list.assoc

theorem copyDict_out_agree {h g : Heap} (ag : Agree h g) (hc : Closed h) (d : List (Key × Val))
    (hv : ∀ a : Nat, a ∈ dictAddrs d → ownerAt h a = some .lib) :
    derefDict (copyDict true .usr g d).1 (copyDict true .usr g d).2 =
      derefDict (copyDict true .usr h d).1 (copyDict true .usr h d).2 := by
  obtain ⟨e, p, q, r⟩ := (deepCopier_dict .usr).sim ag hc d hv
  have hb := (deepCopier_dict .usr).blk h d
  rw [p] at hb
  have hf : ∀ a : Nat, a ∈ dictAddrs (copyDict true .usr h d).2 → h.length ≤ a := fun a ha => ((deepCopier_dict _).fresh ha).1
  rw [q, ← r, p]
  exact deepReader_dict.new ag.len hb.newKids hf

theorem computeResults_agree {s : State} {g : Heap} (hI : Inv s) (ag : Agree s.heap g) :
    derefRes (step true { s with heap := g } .computeResults).1.heap (step true { s with heap := g } .computeResults).2 =
      derefRes (step true s .computeResults).1.heap (step true s .computeResults).2 := by
  cases hcache : s.cache with
  | some c =>
    simp only [step, hcache, derefRes]
    congr 1
    exact copyDict_out_agree ag hI.closed c (fun a ha => hI.cache a (by simp [hcache, cacheAddrs, ha]))
  | none =>
    have sf := fillCache_sim ag hI.closed s.history [] hI.hist
    have ag1 := sf.agree ag
    obtain ⟨e1, p1, q1, r1⟩ := sf
    have bf := fillCache_blk s.history s.heap []
    simp only [step, hcache]
    rw [← r1]
    split
    · rfl
    · -- the filled cache, then `logw`, then the copies handed out
      have hw := logwStub_agree ag1 s.history fun a ha => bf.own.owner_some (hI.hist a ha)
      simp only [alloc, hw, ag1.len.symm]
      have bw := blk_alloc_flat .lib (fillCache true s.history s.heap []).1
        (logwStub (fillCache true s.history s.heap []).1 s.history) (logwStub_not_objs _ _)
      simp only [derefRes]
      congr 1
      apply copyDict_out_agree (ag1.append _) ((hI.closed.blk_lib bf).blk_lib bw)
      intro a ha
      rcases dictAddrs_insert ha with h2 | h2
      · have h1 := (fillCache_fresh h2).resolve_left (by simp [dictAddrs])
        exact bw.own.owner_some (bf.own.new h1.1 h1.2)
      · simp only [Val.addrs, List.mem_singleton] at h2
        subst h2
        exact bw.own.new (Nat.le_refl _) (by simp [alloc])

theorem write_agree (s : State) (o : Op) (ho : (∃ a p, o = .scribble a p) ∨ (∃ a x, o = .scribbleElems a x)) :
    ∃ g, (step true s o).1 = { s with heap := g } ∧ Agree s.heap g := by
  rcases ho with ⟨a, p, rfl⟩ | ⟨a, x, rfl⟩
  · simp only [step]
    split
    · rename_i heq
      exact ⟨_, rfl, agree_set_usr heq⟩
    · exact ⟨s.heap, rfl, Agree.refl _⟩
  · simp only [step]
    split
    · rename_i heq
      exact ⟨_, rfl, agree_set_usr heq⟩
    · exact ⟨s.heap, rfl, Agree.refl _⟩

/-- Everything readable — current values, every history entry, what `compute_results()` returns — is the same in two
    states that differ only in cells the caller owns (the caller never having asked for `copy=False`). -/
theorem observe_agree {s : State} {g : Heap} (hI : Inv s) (himp : s.imported = []) (ag : Agree s.heap g) :
    observe true { s with heap := g } = observe true s := by
  have hcur : ∀ a : Nat, a ∈ dictAddrs s.current → ownerAt s.heap a = some .lib := fun a ha => by
    rcases hI.cur a ha with h | h
    · exact h
    · rw [himp] at h; cases h
  simp only [observe, computeResults_agree hI ag]
  rw [deepReader_dict.libSame ag.lib hI.closed s.current hcur, deepReader_hist.libSame ag.lib hI.closed s.history hI.hist]

theorem observe_agree_hist {s : State} {g : Heap} (hI : Inv s) (ag : Agree s.heap g) :
    (observe true { s with heap := g }).history = (observe true s).history ∧
    (observe true { s with heap := g }).results = (observe true s).results := by
  simp only [observe, computeResults_agree hI ag]
  rw [deepReader_hist.libSame ag.lib hI.closed s.history hI.hist]
  exact ⟨rfl, trivial⟩

/-! ### what an operation returns is new and caller-owned, down to the elements -/

theorem kids_mem {h : Heap} {a b : Nat} (hb : b ∈ kids h a) : ∃ es, bodyAt h a = some (.objs es) ∧ b ∈ listAddrs es := by
  simp only [kids] at hb
  split at hb
  · rename_i es hes; exact ⟨es, hes, hb⟩
  · cases hb

theorem Blk.cell {o : Owner} {h h' : Heap} (bk : Blk o h h') {a : Nat} (hge : h.length ≤ a) (hlt : a < h'.length) :
    ownerAt h' a = some o ∧ ∀ b : Nat, b ∈ kids h' a → h.length ≤ b ∧ ownerAt h' b = some o := by
  refine ⟨bk.own.new hge hlt, fun b hb => ?_⟩
  obtain ⟨es, hes, hbe⟩ := kids_mem hb
  obtain ⟨e, rfl, ho, hk⟩ := bk
  simp only [bodyAt, Option.map_eq_some_iff] at hes
  obtain ⟨c, hc1, hc2⟩ := hes
  have := hk c (cell_of_ge hge hc1) es hc2 b hbe
  exact ⟨this.1, ownerAt_new ho this.1 this.2⟩

theorem Own.kids_eq {o : Owner} {h h' : Heap} (b : Own o h h') {a : Nat} (ha : a < h.length) : kids h' a = kids h a := by
  simp [kids, b.body_eq ha]

theorem step_res_new (s : State) (o : Op) (a : Nat) (ha : a ∈ (step true s o).2.addrs) :
    (s.heap.length ≤ a ∧ ownerAt (step true s o).1.heap a = some .usr) ∧
    ∀ b : Nat, b ∈ kids (step true s o).1.heap a → s.heap.length ≤ b ∧ ownerAt (step true s o).1.heap b = some .usr := by
  obtain ⟨s1, s2, st⟩ := step_stages s o
  have l1 := st.arg.heap.le
  have l2 := st.lib.blk.le
  obtain ⟨hge, hlt⟩ := st.res a ha
  have hc := st.outBlk.cell hge hlt
  exact ⟨⟨by omega, hc.1⟩, fun b hb => ⟨by have := (hc.2 b hb).1; omega, (hc.2 b hb).2⟩⟩

/-! ### history lists only grow at their end -/

theorem commitLoop_appends (ks : List Key) (s : State) (k : Key) :
    ∃ ext : List Val, lookup k (commitLoop true ks s).history = (lookup k s.history).map (fun l => l ++ ext) := by
  induction ks generalizing s with
  | nil => exact ⟨[], by simp [commitLoop]⟩
  | cons k' ks ih =>
    simp only [commitLoop]
    split
    · split
      · exact ih s
      · rename_i v _ _
        have hih := ih ({ s with heap := (copyVal true .lib s.heap v).1,
                                 history := adjust k' (fun l => l ++ [(copyVal true .lib s.heap v).2]) s.history } : State)
        obtain ⟨ext, he⟩ := hih
        simp only [lookup_adjust] at he
        by_cases hk : k' = k
        · refine ⟨(copyVal true .lib s.heap v).2 :: ext, ?_⟩
          rw [he]
          simp only [hk, if_true]
          cases lookup k s.history <;> simp
        · refine ⟨ext, ?_⟩
          rw [he]
          simp [hk]
    · exact ih s

-- concrete runs are compared state against state
deriving instance DecidableEq for State

end Model.StateMgrN
