import TempestVerif.Model.ConfigSpec
/-
  Facts about the interpreter of `Model/ConfigSpec.lean` that hold for ANY rule / statement table (no generated table is
  mentioned).  Core Lean only.
-/
namespace Model.ConfigSpec

theorem fired_nil_iff (c : Cfg) (rules : List Rule) :
    fired c rules = .ok [] ↔ ∀ r ∈ rules, eval c r.cond = .ok false := by
  induction rules with
  | nil => simp [fired]
  | cons r rs ih =>
    simp only [fired, List.forall_mem_cons]
    cases h : eval c r.cond with
    | error k => simp
    | ok b =>
      cases h2 : fired c rs with
      | error k =>
        simp only [reduceCtorEq, false_iff, not_and]
        intro _ h3
        rw [ih.mpr h3] at h2
        cases h2
      | ok ts =>
        cases b <;> simp [← ih, h2]

theorem validate_accept_iff (rules : List Rule) (c : Cfg) :
    validate rules c = .accept ↔ ∀ r ∈ rules, eval c r.cond = .ok false := by
  rw [← fired_nil_iff]
  unfold validate
  cases h : fired c rules with
  | error k => simp
  | ok ts => cases ts <;> simp

/-! ### closed forms of the statement shapes that occur in `__post_init__` -/

theorem run_raise_notInt (c : Cfg) (f : Field) (t : String) :
    Stmt.run c (.raiseIf (.not (.isInt f)) t) = if (c f).isInt then .ok c else .error (.reject [t]) := by
  simp only [Stmt.run, eval]
  cases (c f).isInt <;> simp

/-- `if self.f is None: self.f = <value>` -/
theorem run_chain_none (c : Cfg) (f : Field) (ve : VExpr) (x : V) (hx : ve.eval c = .ok x) :
    Stmt.run c (.chain [(.isNone f, f, ve)]) = .ok (if (c f).isNone then c.set f x else c) := by
  simp only [Stmt.run, runChain, eval, hx]
  cases (c f).isNone <;> simp

theorem run_chain_dir (c : Cfg) (f : Field) :
    Stmt.run c (.chain [(.isNone f, f, .const .path), (.isStr f, f, .pathOf f)])
      = .ok (if (c f).isNone || (c f).isStr then c.set f .path else c) := by
  simp only [Stmt.run, runChain, eval, VExpr.eval]
  cases h : c f <;> simp [V.isNone, V.isStr]

/-- `v` is None or a number: the only values for which `v is None or v <= 0` does not raise -/
def noneOrNum (v : V) : Bool := v.isNone || v.isNum

/-- `v is None or v <= 0` for a value that is None or a number -/
def noneOrLe0 (v : V) : Bool :=
  match v with
  | .none => true
  | .int n => decide (n ≤ 0)
  | .bool b => !b
  | .float f => FV.le f (.fin 0)
  | _ => false

/-- `if self.f is None or self.f <= 0: self.f = <value>` -/
theorem run_chain_default (c : Cfg) (f : Field) (ve : VExpr) (x : V) (hx : ve.eval c = .ok x) :
    Stmt.run c (.chain [(.or (.isNone f) (.cmp0 .le f), f, ve)])
      = if noneOrNum (c f) then .ok (if noneOrLe0 (c f) then c.set f x else c) else .error (.raise .typeError) := by
  simp only [Stmt.run, runChain, eval, hx]
  cases h : c f <;> simp [V.isNone, V.isNum, V.cmp0, noneOrNum, noneOrLe0, Cmp.int, FV.cmp]
  · split <;> simp [*]
  · split <;> simp [*]
  · rename_i b; cases b <;> simp

/-! ### small facts about values and `Cfg.set` -/

def mulNum (k : Int) (v : V) : V :=
  match v with
  | .int n => .int (k * n)
  | .bool b => .int (k * (if b then 1 else 0))
  | .float f => .float (f.mulInt k)
  | x => x

theorem mulInt_num {v : V} (k : Int) (h : v.isNum = true) : v.mulInt k = .ok (mulNum k v) := by
  cases v <;> first | rfl | cases h

theorem isNum_of_isInt {v : V} (h : v.isInt = true) : v.isNum = true := by
  cases v <;> first | rfl | cases h

theorem isInt_of_intVal_none {v : V} (h : v.intVal? = none) : v.isInt = false := by
  cases v <;> simp_all [V.intVal?, V.isInt]

theorem isInt_of_intVal_some {v : V} {d : Int} (h : v.intVal? = some d) : v.isInt = true := by
  cases v <;> simp_all [V.intVal?, V.isInt]

theorem hashable_of_intVal {x : V} {k : Int} (h : x.intVal? = some k) : x.hashable = true := by
  cases x <;> simp_all [V.intVal?, V.hashable]

theorem pyEq_of_intVal {x y : V} {i j : Int} (hx : x.intVal? = some i) (hy : y.intVal? = some j) :
    x.pyEq y = (i == j) := by
  cases x <;> simp [V.intVal?] at hx <;> cases y <;> simp [V.intVal?] at hy <;> simp [V.pyEq, V.intVal?, hx, hy]

theorem ite_set_apply (p : Prop) [Decidable p] (c : Cfg) (f g : Field) (v : V) :
    (if p then c.set f v else c) g = if p ∧ g = f then v else c g := by
  by_cases hp : p <;> simp [hp, Cfg.set]

theorem isNum_of_not_le0 {v : V} (h : noneOrNum v = true) (h2 : noneOrLe0 v = false) : v.isNum = true := by
  cases v <;> simp_all [noneOrNum, noneOrLe0, V.isNone, V.isNum]

/-! ### evaluation of conditions, as propositions about the atoms -/

theorem eval_not (c : Cfg) (e : Expr) (b : Bool) : eval c (.not e) = .ok b ↔ eval c e = .ok (!b) := by
  simp only [eval]
  cases h : eval c e with
  | error k => simp
  | ok x => cases x <;> cases b <;> simp

theorem eval_and_false (c : Cfg) (a b : Expr) :
    eval c (.and a b) = .ok false ↔ eval c a = .ok false ∨ (eval c a = .ok true ∧ eval c b = .ok false) := by
  simp only [eval]
  cases h : eval c a with
  | error k => simp
  | ok x => cases x <;> simp

theorem eval_and_true (c : Cfg) (a b : Expr) :
    eval c (.and a b) = .ok true ↔ eval c a = .ok true ∧ eval c b = .ok true := by
  simp only [eval]
  cases h : eval c a with
  | error k => simp
  | ok x => cases x <;> simp

theorem eval_or_false (c : Cfg) (a b : Expr) :
    eval c (.or a b) = .ok false ↔ eval c a = .ok false ∧ eval c b = .ok false := by
  simp only [eval]
  cases h : eval c a with
  | error k => simp
  | ok x => cases x <;> simp

theorem eval_or_true (c : Cfg) (a b : Expr) :
    eval c (.or a b) = .ok true ↔ eval c a = .ok true ∨ (eval c a = .ok false ∧ eval c b = .ok true) := by
  simp only [eval]
  cases h : eval c a with
  | error k => simp
  | ok x => cases x <;> simp

theorem eval_truthy (c : Cfg) (f : Field) : eval c (.truthy f) = .ok (c f).truthy := rfl
theorem eval_isNone (c : Cfg) (f : Field) : eval c (.isNone f) = .ok (c f).isNone := rfl
theorem eval_isInt (c : Cfg) (f : Field) : eval c (.isInt f) = .ok (c f).isInt := rfl
theorem eval_isNum (c : Cfg) (f : Field) : eval c (.isNum f) = .ok (c f).isNum := rfl
theorem eval_isStr (c : Cfg) (f : Field) : eval c (.isStr f) = .ok (c f).isStr := rfl
theorem eval_isPath (c : Cfg) (f : Field) : eval c (.isPath f) = .ok (c f).isPath := rfl
theorem eval_isCallable (c : Cfg) (f : Field) : eval c (.isCallable f) = .ok (c f).isCallable := rfl
theorem eval_notIn (c : Cfg) (f : Field) (l : List String) : eval c (.notIn f l) = .ok ((c f).notIn l) := rfl
theorem eval_isBool (c : Cfg) (f : Field) : eval c (.isBool f) = .ok (c f).isBool := rfl
theorem eval_isFinite (c : Cfg) (f : Field) : eval c (.isFinite f) = (c f).isFinite := rfl
theorem eval_allIdxStrict (c : Cfg) (f hi : Field) (loOp hiOp : Cmp) (lo : Int) :
    eval c (.allIdxStrict f loOp lo hiOp hi) = (c f).allIdxStrict loOp lo hiOp (c hi) := rfl
theorem eval_cmp0 (c : Cfg) (f : Field) (op : Cmp) : eval c (.cmp0 op f) = (c f).cmp0 op := rfl
theorem eval_overlap (c : Cfg) (f g : Field) : eval c (.overlap f g) = (c f).overlap (c g) := rfl
theorem eval_allIdx (c : Cfg) (f hi : Field) (loOp hiOp : Cmp) (lo : Int) :
    eval c (.allIdx f loOp lo hiOp hi) = (c f).allIdx loOp lo hiOp (c hi) := rfl

/-! ### `runCfg` and `run`: the stages of `SamplerConfig(...)`; no stage fails with the outcome `accept` -/

theorem runChain_error_ne_accept (c : Cfg) (bs : List (Expr × Field × VExpr)) : runChain c bs ≠ .error .accept := by
  induction bs with
  | nil => simp [runChain]
  | cons b bs ih =>
    obtain ⟨e, f, v⟩ := b
    simp only [runChain]
    cases eval c e with
    | error k => simp
    | ok x =>
      cases x
      · simpa using ih
      · cases v.eval c <;> simp

theorem stmt_error_ne_accept (c : Cfg) (s : Stmt) : s.run c ≠ .error .accept := by
  cases s with
  | raiseIf e t =>
    simp only [Stmt.run]
    cases eval c e with
    | error k => simp
    | ok x => cases x <;> simp
  | chain bs => exact runChain_error_ne_accept c bs
  | warnIf e =>
    simp only [Stmt.run]
    cases eval c e <;> simp

theorem runStmts_error_ne_accept (ss : List Stmt) (c : Cfg) : runStmts ss c ≠ .error .accept := by
  induction ss generalizing c with
  | nil => simp [runStmts]
  | cons s ss ih =>
    simp only [runStmts]
    cases h : s.run c with
    | error o =>
      intro h2
      injection h2 with h2
      subst h2
      exact stmt_error_ne_accept c s h
    | ok c' => exact ih c'

theorem runCfg_ok_iff (S : Spec) (c c' : Cfg) :
    runCfg S c = .ok c' ↔
      runStmts S.pre c = .ok c' ∧ validate S.rules c' = .accept ∧ ∃ c'', runStmts S.post c' = .ok c'' := by
  unfold runCfg
  cases h1 : runStmts S.pre c with
  | error o => simp
  | ok c1 =>
    simp only [Except.ok.injEq]
    constructor
    · intro h
      cases h2 : validate S.rules c1 with
      | accept =>
        simp only [h2] at h
        cases h3 : runStmts S.post c1 with
        | error o => simp [h3] at h
        | ok c2 =>
          simp only [h3, Except.ok.injEq] at h
          subst h
          exact ⟨rfl, h2, c2, h3⟩
      | reject t | raise k => simp [h2] at h
    · rintro ⟨rfl, h2, c2, h3⟩
      simp [h2, h3]

theorem runCfg_error_ne_accept (S : Spec) (c : Cfg) : runCfg S c ≠ .error .accept := by
  unfold runCfg
  cases h1 : runStmts S.pre c with
  | error o =>
    simp only [ne_eq, Except.error.injEq]
    rintro rfl
    exact runStmts_error_ne_accept _ _ h1
  | ok c1 =>
    cases h2 : validate S.rules c1 with
    | accept =>
      cases h3 : runStmts S.post c1 with
      | error o =>
        simp only [h2, h3, ne_eq, Except.error.injEq]
        rintro rfl
        exact runStmts_error_ne_accept _ _ h3
      | ok c2 => simp [h2, h3]
    | reject t | raise k => simp [h2]

theorem run_accept_iff_runCfg (S : Spec) (c : Cfg) : run S c = .accept ↔ ∃ c', runCfg S c = .ok c' := by
  unfold run
  cases h : runCfg S c with
  | ok c' => simp
  | error o =>
    simp only [reduceCtorEq, exists_false, iff_false]
    rintro rfl
    exact runCfg_error_ne_accept S c h

theorem construct_accept_iff (S : Spec) (W : Wiring) (wr : List Field) (c : Cfg) :
    construct S W wr c = .accept ↔ ∃ c', runCfg S (wrapFields wr c) = .ok c' ∧ ∃ w, wire W c' = .ok w := by
  unfold construct
  cases h : runCfg S (wrapFields wr c) with
  | error o => simpa using fun ho => runCfg_error_ne_accept S _ (ho ▸ h)
  | ok c' => cases hw : wire W c' <;> simp [hw]

/-! ### a condition depends only on the options it mentions -/

def exprFields : Expr → List Field
  | .truthy f | .isNone f | .isInt f | .isNum f | .isStr f | .isPath f | .isCallable f => [f]
  | .cmp0 _ f => [f]
  | .notIn f _ => [f]
  | .overlap f g => [f, g]
  | .allIdx f _ _ _ hi => [f, hi]
  | .ltAdd _ f g _ => [f, g]
  | .isBool f | .isFinite f => [f]
  | .allIdxStrict f _ _ _ hi => [f, hi]
  | .not e => exprFields e
  | .and a b => exprFields a ++ exprFields b
  | .or a b => exprFields a ++ exprFields b

theorem eval_congr (c c' : Cfg) (e : Expr) (h : ∀ f ∈ exprFields e, c f = c' f) : eval c e = eval c' e := by
  induction e with
  | not e ih => simp only [eval, ih h]
  | and a b iha ihb | or a b iha ihb =>
    simp only [exprFields, List.mem_append] at h
    simp only [eval, iha (fun f hf => h f (Or.inl hf)), ihb (fun f hf => h f (Or.inr hf))]
  | _ => simp_all [eval, exprFields]

theorem validate_congr (rules : List Rule) (c c' : Cfg)
    (h : ∀ r ∈ rules, ∀ f ∈ exprFields r.cond, c f = c' f) : validate rules c = validate rules c' := by
  have hf : fired c rules = fired c' rules := by
    induction rules with
    | nil => rfl
    | cons r rs ih =>
      simp only [fired, eval_congr c c' r.cond (h r (List.mem_cons_self ..)),
        ih (fun r' hr' => h r' (List.mem_cons_of_mem _ hr'))]
  simp only [validate, hf]

end Model.ConfigSpec
