import TempestVerif.Model.Steps
import TempestVerif.Model.KernelRun
import TempestVerif.Lemmas.ScReal
/-
  The stopping rule of the mutation loop (`BaseMCMCRunner._calculate_adaptive_steps` / `_check_convergence`), which is modelled in
  `Model/Steps.lean` (C13) and once more inside the kernel run of `Model/KernelRun.lean` (C03): the two are the same function, and
  over ℝ the number of steps is the floor of a value clipped between `n_steps·d` and `n_max·d`, so the rule fires once the iteration
  number reaches `n_max·d` and not before `min(n_steps·d, n_max·d)`, whatever acceptance rate and step size it is given.
-/
namespace Model.Steps

theorem converged_eq_kernelRun {α : Type} [ScT α] (nSteps nMax d k : Nat) (acc ws s0 : α) :
    converged nSteps nMax d k acc ws s0 =
      Model.KernelRun.converged k (Model.KernelRun.adaptiveSteps nSteps d nMax acc ws s0) := rfl

theorem floor_clip_bounds (a b : ℕ) (x : ℝ) :
    ((min a b : ℕ) : ℝ) ≤ (⌊min (max (a : ℝ) x) b⌋ : ℝ) ∧ (⌊min (max (a : ℝ) x) b⌋ : ℝ) ≤ b := by
  refine ⟨?_, (Int.floor_le _).trans (min_le_right _ _)⟩
  rw [← Int.cast_natCast, Int.cast_le, Int.le_floor, Int.cast_natCast, Nat.cast_min]
  exact min_le_min (le_max_left _ _) le_rfl

theorem adaptiveRaw_eq (nSteps nMax d : Nat) (acc ws s0 : ℝ) : ∃ x : ℝ,
    adaptiveRaw nSteps nMax d acc ws s0 = min (max ((nSteps * d : ℕ) : ℝ) x) ((nMax * d : ℕ) : ℝ) :=
  ⟨_, by simp only [adaptiveRaw, ScReal.min_def, ScReal.max_def, ScReal.ofNat_def]; rfl⟩

theorem converged_iff {nSteps nMax d k : Nat} {acc ws s0 : ℝ} :
    converged nSteps nMax d k acc ws s0 = true ↔ ⌊adaptiveRaw nSteps nMax d acc ws s0⌋ ≤ (k : ℤ) := by
  rw [converged, adaptiveSteps, ScReal.le_def, ScReal.floor_def, ScReal.ofNat_def, ← Int.cast_natCast, Int.cast_le]

theorem converged_of_cap {nSteps nMax d k : Nat} {acc ws s0 : ℝ} (h : nMax * d ≤ k) :
    converged nSteps nMax d k acc ws s0 = true := by
  obtain ⟨x, hx⟩ := adaptiveRaw_eq nSteps nMax d acc ws s0
  rw [converged_iff, hx, ← Int.cast_le (R := ℝ), Int.cast_natCast]
  exact (floor_clip_bounds _ _ x).2.trans (Nat.cast_le.mpr h)

theorem lo_of_converged {nSteps nMax d k : Nat} {acc ws s0 : ℝ}
    (h : converged nSteps nMax d k acc ws s0 = true) : min (nSteps * d) (nMax * d) ≤ k := by
  obtain ⟨x, hx⟩ := adaptiveRaw_eq nSteps nMax d acc ws s0
  rw [converged_iff, hx, ← Int.cast_le (R := ℝ), Int.cast_natCast] at h
  exact Nat.cast_le.mp ((floor_clip_bounds _ _ x).1.trans h)

end Model.Steps
