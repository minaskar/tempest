import TempestVerif.Model.RecSM2
import Mathlib.Logic.Basic
import TempestVerif.Lemmas.WarmupR
import TempestVerif.Lemmas.Steps
/-
  `Model.RecSM` / `Model/RecSM2.lean` (record movement at the level of the StateManager): each step of the model inverted
  once — what a successful step wrote into every slot, the failing branches excluded there — and the two loops
  (`mcmcStepsR`: an invariant of one pass is an invariant of all; `runItersR`: a run is the relation `Lemmas.Steps` of `iterateR`).
-/
namespace Model.RecSM
open Model.Records

variable {U X L B W α β : Type}

/-! ### `get_history(flat=True)` and the substitution of rejected proposals -/

theorem flat?_map (f : α → β) (h : List (List α)) :
    flat? (h.map (List.map f)) = (flat? h).map (List.map f) := by
  cases h with
  | nil => rfl
  | cons a t => exact congrArg some List.map_flatten.symm

theorem flat?_mem {h : List (List α)} {ys : List α} (hf : flat? h = some ys) :
    ∀ y ∈ ys, ∃ bt ∈ h, y ∈ bt := by
  cases h with
  | nil => cases hf
  | cons a t => cases hf; exact fun y hy => List.mem_flatten.mp hy

theorem substitute_mem (p : List U) (chk : U → Bool) (u : List U) :
    ∀ y ∈ substitute p (p.map chk) u, (y ∈ p ∧ chk y = true) ∨ y ∈ u := by
  induction p generalizing u with
  | nil => exact fun y hy => nomatch hy
  | cons a p ih =>
    cases u with
    | nil => exact fun y hy => nomatch hy
    | cons v u =>
      intro y hy
      rcases List.mem_cons.mp hy with rfl | hy
      · cases hc : chk a
        · exact .inr List.mem_cons_self
        · exact .inl ⟨List.mem_cons_self, hc⟩
      · rcases ih u y hy with ⟨h1, h2⟩ | h
        · exact .inl ⟨List.mem_cons_of_mem _ h1, h2⟩
        · exact .inr (List.mem_cons_of_mem _ h)

theorem substitute_length (p : List U) (c : List Bool) (u : List U) (hp : p.length = u.length)
    (hc : c.length = u.length) : (substitute p c u).length = u.length := by
  induction u generalizing p c with
  | nil => cases p with
    | nil => rfl
    | cons a p => cases hp
  | cons v u ih =>
    cases p with
    | nil => cases hp
    | cons a p =>
      cases c with
      | nil => cases hc
      | cons b c => exact congrArg (· + 1) (ih p c (Nat.succ.inj hp) (Nat.succ.inj hc))

/-! ### the −inf index sets of the warm-up, and the accept mask -/

section
variable {isInf : L → Bool}

/-- `infIdx` and `finIdx` are this filter at `isInf` and at its negation -/
theorem mem_filter_getElem? (p : L → Bool) {l : List L} {i : Nat} :
    i ∈ (List.range l.length).filter (fun i => match l[i]? with | some v => p v | none => false) ↔
      ∃ v, l[i]? = some v ∧ p v = true := by
  rw [List.mem_filter, List.mem_range]
  constructor
  · rintro ⟨hi, h⟩
    rw [List.getElem?_eq_getElem hi] at h
    exact ⟨l[i], List.getElem?_eq_getElem hi, h⟩
  · rintro ⟨v, hv, hpv⟩
    refine ⟨(List.getElem?_eq_some_iff.mp hv).1, ?_⟩
    rw [hv]; exact hpv

theorem infIdx_mem {l : List L} {i : Nat} : i ∈ infIdx isInf l ↔ ∃ v, l[i]? = some v ∧ isInf v = true :=
  mem_filter_getElem? isInf

theorem finIdx_mem {l : List L} {i : Nat} : i ∈ finIdx isInf l ↔ ∃ v, l[i]? = some v ∧ (!isInf v) = true :=
  mem_filter_getElem? (fun v => !isInf v)

end

theorem maskSet_andMask_mem (f : α → Bool) (c q : List α) (m : List Bool) :
    ∀ y ∈ maskSet c q (andMask m (q.map f)), y ∈ c ∨ f y = true := by
  induction c generalizing q m with
  | nil => exact fun y hy => .inl hy
  | cons a c ih =>
    cases q with
    | nil => exact fun y hy => .inl hy
    | cons b q =>
      cases m with
      | nil => exact fun y hy => .inl hy
      | cons t m =>
        intro y hy
        rcases List.mem_cons.mp hy with rfl | hy
        · cases hb : (t && f b)
          · exact .inl List.mem_cons_self
          · exact .inr (Bool.and_eq_true_iff.mp hb).2
        · exact (ih q m y hy).imp_left (List.mem_cons_of_mem _)

/-! ### the steps, inverted -/

section
variable {cfg : Cfg} {T : U → X} {Lk : X → L × B} {isInf negInf : L → Bool} {fold : U → U} {chk : U → Bool}

theorem resample_eq_some {idx : List Nat} {s s' : St U X L B} (h : resample cfg idx s = some s') :
    ∃ pu px pl u' x' l', flat? s.hist.u = some pu ∧ flat? s.hist.x = some px ∧ flat? s.hist.l = some pl ∧
      gather? pu idx = some u' ∧ gather? px idx = some x' ∧ gather? pl idx = some l' ∧
      s'.hist = s.hist ∧ s'.cur.u = some u' ∧ s'.cur.x = some x' ∧ s'.cur.l = some l' ∧
      ((cfg.gate s.cur.b = true ∧ ∃ pb b', flat? s.hist.b = some pb ∧ gather? pb idx = some b' ∧ s'.cur.b = some b') ∨
        (cfg.gate s.cur.b = false ∧ s'.cur.b = s.cur.b)) := by
  unfold resample at h
  obtain ⟨pu, hpu, h⟩ := Option.bind_eq_some_iff.mp h
  obtain ⟨px, hpx, h⟩ := Option.bind_eq_some_iff.mp h
  obtain ⟨pl, hpl, h⟩ := Option.bind_eq_some_iff.mp h
  obtain ⟨b?, hb?, h⟩ := Option.bind_eq_some_iff.mp h
  obtain ⟨u', hu', h⟩ := Option.bind_eq_some_iff.mp h
  obtain ⟨x', hx', h⟩ := Option.bind_eq_some_iff.mp h
  obtain ⟨l', hl', h⟩ := Option.bind_eq_some_iff.mp h
  refine ⟨pu, px, pl, u', x', l', hpu, hpx, hpl, hu', hx', hl', ?_⟩
  cases hg : cfg.gate s.cur.b
  · rw [hg] at hb?
    cases hb?
    cases h
    exact ⟨rfl, rfl, rfl, rfl, .inr ⟨rfl, rfl⟩⟩
  · rw [hg] at hb?
    obtain ⟨pb, hpb, rfl⟩ := Option.map_eq_some_iff.mp hb?
    obtain ⟨b', hb', rfl⟩ := Option.map_eq_some_iff.mp h
    exact ⟨rfl, rfl, rfl, rfl, .inl ⟨rfl, pb, b', hpb, hb', rfl⟩⟩

/-- with no −inf draw nothing moves (`scatterFrom _ [] _` is the identity): one statement for both branches -/
theorem warmupKept_eq_some {us : List U} {picks : List Nat} {s s' : St U X L B}
    (h : warmupKept cfg T Lk isInf us picks s = some s') :
    ∃ ll ii, ll = logLike cfg Lk (us.map T) ∧ ii = infIdx isInf ll.1 ∧
      (ii = [] ∨ (picks.length = ii.length ∧ ∀ p ∈ picks, p ∈ finIdx isInf ll.1)) ∧
      s'.hist = s.hist ∧ s'.cur.u = some (scatterFrom us ii picks) ∧ s'.cur.x = some (scatterFrom (us.map T) ii picks) ∧
      s'.cur.l = some (scatterFrom ll.1 ii picks) ∧
      (∀ b, ll.2 = some b → cfg.gate ll.2 = true → s'.cur.b = some (scatterFrom b ii picks)) ∧
      (ll.2 = none ∨ cfg.gate ll.2 = false → s'.cur.b = ll.2) := by
  refine ⟨_, _, rfl, rfl, ?_⟩
  unfold warmupKept at h
  dsimp only at h
  split at h
  · rename_i hii
    cases h
    rw [List.isEmpty_iff.mp hii]
    exact ⟨.inl rfl, rfl, rfl, rfl, rfl, fun b hb _ => hb, fun _ => rfl⟩
  · split at h
    · cases h
    rename_i hpk
    rw [not_or, not_not, Bool.not_eq_false, List.all_eq_true] at hpk
    refine ⟨.inr ⟨hpk.1, fun p hp => List.contains_iff_mem.mp (hpk.2 p hp)⟩, ?_⟩
    split at h
    · rename_i hg
      split at h
      · cases h
      · rename_i b hb
        cases h
        exact ⟨rfl, rfl, rfl, rfl, fun b' hb' _ => by rw [hb] at hb'; cases hb'; rfl,
          fun hc => hc.elim (fun hn => by rw [hb] at hn; cases hn) (fun hf => by rw [hg] at hf; cases hf)⟩
    · rename_i hg
      cases h
      exact ⟨rfl, rfl, rfl, rfl, fun _ _ hgt => absurd hgt hg, fun _ => rfl⟩

theorem drawLoop_eq (allInfB : List U → Bool) (n : Nat) (rest : List (List U)) (b : List U) (drawn : Nat) :
    drawLoop allInfB n rest b drawn = Model.WarmupR.drawLoop (fun b => !allInfB b) n rest b drawn := by
  induction rest generalizing b drawn with
  | nil => unfold drawLoop Model.WarmupR.drawLoop; cases allInfB b <;> rfl
  | cons b' bs ih => unfold drawLoop Model.WarmupR.drawLoop; rw [ih]; cases allInfB b <;> rfl

theorem drawLoop_mem (allInfB : List U → Bool) (n : Nat) (rest : List (List U)) (b : List U) (drawn : Nat)
    {kept : List U × Nat} (h : drawLoop allInfB n rest b drawn = some kept) :
    kept.1 ∈ b :: rest ∧ allInfB kept.1 = false := by
  rw [drawLoop_eq] at h
  obtain ⟨hf, k, hk, -⟩ := Model.WarmupR.drawLoop_spec _ n rest b drawn kept.1 kept.2 h
  exact ⟨List.mem_of_getElem? hk, by simpa using hf⟩

theorem warmupR_eq_some {isInf : L → Bool} {batches : List (List U)} {picks : List Nat} {s s' : St U X L B}
    (h : warmupR cfg T Lk isInf batches picks s = some s') :
    ∃ kept ∈ batches, allInf isInf (logLike cfg Lk (kept.map T)).1 = false ∧
      warmupKept cfg T Lk isInf kept picks s = some s' := by
  cases batches with
  | nil => cases h
  | cons b0 rest =>
    obtain ⟨kept, hk, h⟩ := Option.bind_eq_some_iff.mp h
    obtain ⟨hm, hfin⟩ := drawLoop_mem _ _ _ _ _ hk
    exact ⟨kept.1, hm, hfin, h⟩

theorem mcmcStepR_eq_some {r r' : Runner U X L B} {st : Step U} (h : mcmcStepR cfg T Lk negInf fold chk r st = some r') :
    ∃ u' ll m mask, u' = substitute (st.raw.map fold) ((st.raw.map fold).map chk) r.u ∧
      ll = logLike cfg Lk (u'.map T) ∧ mask = andMask m (ll.1.map fun v => !negInf v) ∧
      st.raw.length = r.u.length ∧
      r'.u = maskSet r.u u' mask ∧ r'.x = maskSet r.x (u'.map T) mask ∧ r'.l = maskSet r.l ll.1 mask ∧
      r'.b = r.b.bind fun b => ll.2.map fun pb => maskSet b pb mask := by
  refine ⟨_, _, andMask st.acc ((st.raw.map fold).map chk), _, rfl, rfl, rfl, ?_⟩
  unfold mcmcStepR at h
  split at h
  · cases h
  rename_i hlen
  rw [not_or, not_not, not_not] at hlen
  refine ⟨hlen.1, ?_⟩
  dsimp only at h
  split at h
  · rename_i hb
    cases h
    exact ⟨rfl, rfl, rfl, by rw [hb]; rfl⟩
  · rename_i b hb
    split at h
    · cases h
    · rename_i pb hpb
      cases h
      refine ⟨rfl, rfl, rfl, ?_⟩
      rw [hb, Option.bind_some, hpb]; rfl

theorem mutateR_eq_some {sts : List (Step U)} {s s' : St U X L B} (h : mutateR cfg T Lk negInf fold chk sts s = some s') :
    ∃ u x l r, s.cur.u = some u ∧ s.cur.x = some x ∧ s.cur.l = some l ∧
      mcmcStepsR cfg T Lk negInf fold chk ⟨u, x, l, if cfg.gate s.cur.b then s.cur.b else none⟩ sts = some r ∧
      s'.hist = s.hist ∧ s'.cur.u = some r.u ∧ s'.cur.x = some r.x ∧ s'.cur.l = some r.l ∧
      ((cfg.gate s.cur.b = true ∧ ∃ b, r.b = some b ∧ s'.cur.b = some b) ∨
        (cfg.gate s.cur.b = false ∧ s'.cur.b = s.cur.b)) := by
  unfold mutateR at h
  split at h
  · rename_i u x l hu hx hl
    obtain ⟨r, hr, h⟩ := Option.bind_eq_some_iff.mp h
    refine ⟨u, x, l, r, hu, hx, hl, hr, ?_⟩
    split at h
    · rename_i hg
      split at h
      · cases h
      · rename_i b hb
        cases h
        exact ⟨rfl, rfl, rfl, rfl, .inl ⟨hg, b, hb, rfl⟩⟩
    · rename_i hg
      cases h
      exact ⟨rfl, rfl, rfl, rfl, .inr ⟨Bool.eq_false_iff.mpr hg, rfl⟩⟩
  · cases h

theorem gatherWork_eq_some {idx : List Nat} {w w' : Work U X L B W} (h : gatherWork idx w = some w') :
    gather? w.u idx = some w'.u ∧ gather? w.x idx = some w'.x ∧ gather? w.l idx = some w'.l ∧
    gather? w.lw idx = some w'.lw ∧ w.b.bind (gather? · idx) = w'.b := by
  unfold gatherWork at h
  obtain ⟨u, hu, h⟩ := Option.bind_eq_some_iff.mp h
  obtain ⟨x, hx, h⟩ := Option.bind_eq_some_iff.mp h
  obtain ⟨l, hl, h⟩ := Option.bind_eq_some_iff.mp h
  obtain ⟨lw, hlw, h⟩ := Option.bind_eq_some_iff.mp h
  split at h
  · rename_i hb
    cases h
    exact ⟨hu, hx, hl, hlw, by rw [hb]; rfl⟩
  · rename_i b hb
    obtain ⟨b', hb', rfl⟩ := Option.map_eq_some_iff.mp h
    exact ⟨hu, hx, hl, hlw, by rw [hb]; exact hb'⟩

theorem mem_appendSome {h : List (List α)} {o : Option (List α)} {bt : List α} :
    bt ∈ appendSome h o ↔ bt ∈ h ∨ o = some bt := by
  cases o <;> simp [appendSome, eq_comm]

theorem iterateStatesR_eq_some {s : St U X L B} {t : TapeR U} {r : St U X L B × St U X L B × St U X L B}
    (h : iterateStatesR cfg T Lk isInf fold chk s t = some r) :
    (t.warm = true ∧ r.1 = s ∧ warmupR cfg T Lk isInf t.draws t.picks s = some r.2.1 ∧ r.2.2 = commit r.2.1) ∨
    (resample cfg t.idx s = some r.1 ∧ mutateR cfg T Lk isInf fold chk t.steps r.1 = some r.2.1 ∧
      r.2.2 = commit r.2.1) := by
  unfold iterateStatesR at h
  split at h
  · obtain ⟨s2, h2, rfl⟩ := Option.map_eq_some_iff.mp h
    exact .inl ⟨‹_›, rfl, h2, rfl⟩
  · obtain ⟨s1, h1, h⟩ := Option.bind_eq_some_iff.mp h
    obtain ⟨s2, h2, rfl⟩ := Option.map_eq_some_iff.mp h
    exact .inr ⟨h1, h2, rfl⟩

theorem iterateR_eq_some {s s' : St U X L B} {t : TapeR U} {ret : Cur U X L B}
    (h : iterateR cfg T Lk isInf fold chk s t = some (s', ret)) :
    ∃ r, iterateStatesR cfg T Lk isInf fold chk s t = some r ∧ s' = r.2.2 ∧ ret = r.2.2.cur := by
  obtain ⟨r, hr, e⟩ := Option.map_eq_some_iff.mp h
  cases e
  exact ⟨r, hr, rfl, rfl⟩

theorem mcmcStepsR_induction (P : Runner U X L B → Prop)
    (hstep : ∀ r st r', P r → mcmcStepR cfg T Lk negInf fold chk r st = some r' → P r')
    {sts : List (Step U)} {r r' : Runner U X L B} (hr : P r) (h : mcmcStepsR cfg T Lk negInf fold chk r sts = some r') :
    P r' := by
  induction sts generalizing r with
  | nil => cases h; exact hr
  | cons st sts ih =>
    obtain ⟨r1, h1, h2⟩ := Option.bind_eq_some_iff.mp h
    exact ih (hstep r st r1 hr h1) h2

theorem runItersR_iff_steps {ts : List (TapeR U)} {s s' : St U X L B} {rets : List (Cur U X L B)} :
    runItersR cfg T Lk isInf fold chk s ts = some (s', rets) ↔
      Lemmas.Steps (iterateR cfg T Lk isInf fold chk) s ts rets s' :=
  Lemmas.Steps.of_rec _ (fun _ => rfl) (fun _ _ _ => rfl)

theorem runItersR_induction (P : St U X L B → Prop) (Q : Cur U X L B → Prop) {ts : List (TapeR U)}
    (hstep : ∀ t ∈ ts, ∀ s s' c, P s → iterateR cfg T Lk isInf fold chk s t = some (s', c) → P s' ∧ Q c)
    {s s' : St U X L B} {rets : List (Cur U X L B)} (hs : P s)
    (h : runItersR cfg T Lk isInf fold chk s ts = some (s', rets)) :
    P s' ∧ rets.length = ts.length ∧ ∀ c ∈ rets, Q c := by
  have hS := runItersR_iff_steps.mp h
  have hP := fun s t s1 c ht hs hi => (hstep t ht s s1 c hs hi).1
  refine ⟨hS.inv_mem hP hs, hS.length, fun c hc => ?_⟩
  obtain ⟨s0, t, s1, ht, h0, hi⟩ := hS.out_mem hP hs c hc
  exact (hstep t ht s0 s1 c h0 hi).2

end

end Model.RecSM
