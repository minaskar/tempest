/-
  Runs of an option-valued step function over a list of inputs, as a relation: `Steps step s ts os sf` says that feeding the
  inputs `ts` one after the other to `step`, starting in `s`, succeeds every time, yields the outputs `os` and ends in `sf`.
  A recursive run function of a model (`runIters`, `runItersX`, …) is recognised as this relation by `Steps.of_rec`; what holds of
  every run — invariants, where an output comes from, what neighbouring outputs have to do with each other, the temperature
  schedule of an annealing loop — is proved here once, by induction on the relation.  Core Lean only.
-/
inductive Lemmas.Steps {σ τ ω : Type} (step : σ → τ → Option (σ × ω)) : σ → List τ → List ω → σ → Prop
  | nil (s : σ) : Lemmas.Steps step s [] [] s
  | cons {s s1 sf : σ} {t : τ} {o : ω} {ts : List τ} {os : List ω} :
      step s t = some (s1, o) → Lemmas.Steps step s1 ts os sf → Lemmas.Steps step s (t :: ts) (o :: os) sf

namespace Lemmas.Steps
variable {σ τ ω : Type} {step : σ → τ → Option (σ × ω)} {s sf : σ} {ts : List τ} {os : List ω}

theorem of_rec (run : σ → List τ → Option (σ × List ω)) (h0 : ∀ s, run s [] = some (s, []))
    (h1 : ∀ s t ts, run s (t :: ts) = (step s t).bind fun p => (run p.1 ts).map fun q => (q.1, p.2 :: q.2)) :
    ∀ {ts s sf os}, run s ts = some (sf, os) ↔ Steps step s ts os sf := by
  intro ts
  induction ts with
  | nil =>
    intro s sf os
    rw [h0]
    exact ⟨fun h => by cases h; exact .nil s, fun h => by cases h; rfl⟩
  | cons t ts ih =>
    intro s sf os
    rw [h1]
    constructor
    · intro h
      obtain ⟨⟨s1, o⟩, hi, h⟩ := Option.bind_eq_some_iff.mp h
      obtain ⟨⟨sf', os'⟩, hr, he⟩ := Option.map_eq_some_iff.mp h
      cases he
      exact .cons hi (ih.mp hr)
    · intro h
      cases h with
      | cons hi hr => rw [hi, Option.bind_some, ih.mpr hr, Option.map_some]

theorem length (h : Steps step s ts os sf) : os.length = ts.length := by
  induction h with
  | nil => rfl
  | cons _ _ ih => exact congrArg (· + 1) ih

theorem inv_mem {I : σ → Prop} (hI : ∀ s t s1 o, t ∈ ts → I s → step s t = some (s1, o) → I s1)
    (h : Steps step s ts os sf) (hs : I s) : I sf := by
  induction h with
  | nil => exact hs
  | cons hi _ ih =>
    exact ih (fun s t s1 o ht => hI s t s1 o (List.mem_cons_of_mem _ ht)) (hI _ _ _ _ List.mem_cons_self hs hi)

theorem inv {I : σ → Prop} (hI : ∀ s t s1 o, I s → step s t = some (s1, o) → I s1)
    (h : Steps step s ts os sf) (hs : I s) : I sf :=
  h.inv_mem (fun s t s1 o _ => hI s t s1 o) hs

theorem head (h : Steps step s ts os sf) {o : ω} (ho : os[0]? = some o) : ∃ t s1, step s t = some (s1, o) := by
  cases h with
  | nil => cases ho
  | cons hi _ => cases ho; exact ⟨_, _, hi⟩

theorem split (h : Steps step s ts os sf) {o : ω} (ho : o ∈ os) :
    ∃ ts1 t ts2 os1 os2 s0 s1, ts = ts1 ++ t :: ts2 ∧ os = os1 ++ o :: os2 ∧
      Steps step s ts1 os1 s0 ∧ step s0 t = some (s1, o) ∧ Steps step s1 ts2 os2 sf := by
  induction h with
  | nil => exact nomatch ho
  | @cons s s1 sf t o' ts os hi hr ih =>
    rcases List.mem_cons.mp ho with rfl | ho
    · exact ⟨[], t, ts, [], os, s, s1, rfl, rfl, .nil s, hi, hr⟩
    · obtain ⟨ts1, t', ts2, os1, os2, s0, s1', e1, e2, h1, hi', h2⟩ := ih ho
      exact ⟨t :: ts1, t', ts2, o' :: os1, os2, s0, s1', by rw [e1]; rfl, by rw [e2]; rfl, .cons hi h1, hi', h2⟩

theorem out_mem {I : σ → Prop} (hI : ∀ s t s1 o, t ∈ ts → I s → step s t = some (s1, o) → I s1)
    (h : Steps step s ts os sf) (hs : I s) : ∀ o ∈ os, ∃ s0 t s1, t ∈ ts ∧ I s0 ∧ step s0 t = some (s1, o) := by
  intro o ho
  obtain ⟨ts1, t, ts2, os1, os2, s0, s1, e, -, h1, hi, -⟩ := h.split ho
  have hsub : ∀ t', t' ∈ ts1 ++ [t] → t' ∈ ts := fun t' ht' => by
    rw [e, ← List.singleton_append, ← List.append_assoc]; exact List.mem_append_left _ ht'
  exact ⟨s0, t, s1, hsub t (List.mem_append_right _ (List.mem_singleton_self t)),
    h1.inv_mem (fun s t' s1 o ht' => hI s t' s1 o (hsub t' (List.mem_append_left _ ht'))) hs, hi⟩

theorem out {I : σ → Prop} (hI : ∀ s t s1 o, I s → step s t = some (s1, o) → I s1)
    (h : Steps step s ts os sf) (hs : I s) : ∀ o ∈ os, ∃ s0 t s1, I s0 ∧ step s0 t = some (s1, o) :=
  fun o ho => (h.out_mem (fun s t s1 o _ => hI s t s1 o) hs o ho).imp fun _ => .imp fun _ => .imp fun _ h => h.2

theorem out_at {I : Nat → σ → Prop}
    (hI : ∀ k s t s1 o, ts[k]? = some t → I k s → step s t = some (s1, o) → I (k + 1) s1)
    (h : Steps step s ts os sf) (hs : I 0 s) :
    ∀ k o, os[k]? = some o → ∃ s0 t s1, ts[k]? = some t ∧ I k s0 ∧ step s0 t = some (s1, o) := by
  induction h generalizing I with
  | nil => exact fun k o ho => nomatch ho
  | cons hi _ ih =>
    intro k o ho
    cases k with
    | zero => cases ho; exact ⟨_, _, _, rfl, hs, hi⟩
    | succ k => exact ih (I := fun k => I (k + 1)) (fun k => hI (k + 1)) (hI 0 _ _ _ _ rfl hs hi) k o ho

theorem adj {I : σ → Prop} (hI : ∀ s t s1 o, I s → step s t = some (s1, o) → I s1)
    (h : Steps step s ts os sf) (hs : I s) : ∀ k a b, os[k]? = some a → os[k+1]? = some b →
      ∃ s0 t0 s1 t1 s2, I s0 ∧ step s0 t0 = some (s1, a) ∧ step s1 t1 = some (s2, b) := by
  induction h with
  | nil => exact fun k a b ha => nomatch ha
  | cons hi hr ih =>
    intro k a b ha hb
    cases k with
    | zero =>
      cases ha
      obtain ⟨t1, s2, h2⟩ := hr.head hb
      exact ⟨_, _, _, t1, s2, hs, hi, h2⟩
    | succ k => exact ih (hI _ _ _ _ hs hi) k a b ha hb

theorem mono {β : Type} {R : β → β → Prop} (htrans : ∀ {a b c}, R a b → R b c → R a c) {I : σ → Prop} {v : σ → β} {ob : ω → β}
    (hstep : ∀ s t s1 o, I s → step s t = some (s1, o) → I s1 ∧ v s1 = ob o ∧ R (v s) (ob o))
    (h : Steps step s ts os sf) (hs : I s) :
    (∀ o ∈ os, R (v s) (ob o)) ∧ ∀ k a b, os[k]? = some a → os[k+1]? = some b → R (ob a) (ob b) := by
  induction h with
  | nil => exact ⟨fun o ho => (nomatch ho), fun k a b ha => (nomatch ha)⟩
  | cons hi _ ih =>
    obtain ⟨h1, e, r⟩ := hstep _ _ _ _ hs hi
    obtain ⟨i1, i2⟩ := ih h1
    rw [e] at i1
    refine ⟨fun o ho => ?_, fun k a b ha hb => ?_⟩
    · rcases List.mem_cons.mp ho with rfl | ho
      · exact r
      · exact htrans r (i1 o ho)
    · cases k with
      | zero => cases ha; exact i1 b (List.mem_of_getElem? hb)
      | succ k => exact i2 k a b ha hb

/-- **The temperature schedule of an annealing loop.**  `v` reads the temperature of a state, `ob` the temperature an iteration
    reports, `fresh` says that nothing has been committed yet; `R` is any transitive relation on temperatures (`≤` on the reals,
    a bracket relation on floats).  Suppose one iteration from a state with `v s R one` hands its temperature on, leaves a
    state that is not fresh, reports `zero` from a fresh state and a temperature between `v s` and `one` otherwise.  Then along
    every run from a state with `v s R one` (at `zero` if it is fresh): the first temperature of a fresh run is `zero`, every
    temperature lies between the one the run started with and `one`, and neighbouring temperatures are `R`-related. -/
theorem schedule {β : Type} {R : β → β → Prop} (htrans : ∀ {a b c}, R a b → R b c → R a c) {zero one : β}
    {v : σ → β} {fresh : σ → Prop} {ob : ω → β}
    (hstep : ∀ s t s1 o, step s t = some (s1, o) → R (v s) one →
      v s1 = ob o ∧ ¬ fresh s1 ∧ (fresh s → ob o = zero) ∧ (¬ fresh s → R (v s) (ob o) ∧ R (ob o) one))
    (h : Steps step s ts os sf) (h1 : R (v s) one) (h0 : fresh s → v s = zero ∧ R zero zero) :
    (fresh s → ∀ o, os[0]? = some o → ob o = zero) ∧ (∀ o ∈ os, R (v s) (ob o) ∧ R (ob o) one) ∧
    (∀ k a b, os[k]? = some a → os[k+1]? = some b → R (ob a) (ob b)) := by
  -- what every state of the run satisfies, and what a step from such a state reports
  have key : ∀ s t s1 o, (R (v s) one ∧ (fresh s → v s = zero ∧ R zero zero)) → step s t = some (s1, o) →
      (R (v s1) one ∧ (fresh s1 → v s1 = zero ∧ R zero zero)) ∧ v s1 = ob o ∧ R (v s) (ob o) ∧ R (ob o) one := by
    intro s t s1 o hI hi
    obtain ⟨p1, p2, p3, p4⟩ := hstep s t s1 o hi hI.1
    have hso : R (v s) (ob o) ∧ R (ob o) one := by
      by_cases he : fresh s
      · rw [p3 he]
        have h2 := hI.1
        rw [(hI.2 he).1] at h2 ⊢
        exact ⟨(hI.2 he).2, h2⟩
      · exact p4 he
    exact ⟨⟨p1 ▸ hso.2, fun he => absurd he p2⟩, p1, hso⟩
  have hI := fun s t s1 o hs hi => (key s t s1 o hs hi).1
  obtain ⟨m1, m2⟩ := mono (I := fun s => R (v s) one ∧ (fresh s → v s = zero ∧ R zero zero)) @htrans
    (fun s t s1 o hs hi => ⟨(key s t s1 o hs hi).1, (key s t s1 o hs hi).2.1,
    (key s t s1 o hs hi).2.2.1⟩) h ⟨h1, h0⟩
  refine ⟨fun hf o ho => ?_, fun o ho => ⟨m1 o ho, ?_⟩, m2⟩
  · obtain ⟨t, s1, hi⟩ := h.head ho
    exact (hstep s t s1 o hi h1).2.2.1 hf
  · obtain ⟨s0, t, s1, hs0, hi⟩ := h.out hI ⟨h1, h0⟩ o ho
    exact (key s0 t s1 o hs0 hi).2.2.2

end Lemmas.Steps
