import TempestVerif.Sc
import TempestVerif.Lemmas.RoundMap
import Mathlib.Data.Real.Basic
import Mathlib.Algebra.Order.Archimedean.Real.Basic
import Mathlib.Algebra.Order.Floor.Ring
import Mathlib.Algebra.Order.Round
import Mathlib.Order.Monotone.Basic
/-
  A rounded-arithmetic instance of the scalar interface, used only in proofs.

  `Rounding` axiomatises the two facts about IEEE-754 round-to-nearest(-even) that the theorems over this instance depend on:
  the rounding of an exact result is MONOTONE and IDEMPOTENT (a representable value rounds to itself), and `0` and `1` are
  representable.  Every arithmetic field of `Sc (RR r)` is the exact real operation followed by `r.rnd`; `floor`, comparisons
  and the parity test are exact (they are exact on doubles: `np.floor` of a finite double is a double, `np.mod(n, 2.0)` of an
  integral double is exact).  Nothing here says the rounding is *close* to the exact value: the theorems that use this instance
  hold for every monotone idempotent rounding (round-to-nearest, directed roundings, even `⌈·⌉`), hence in particular for
  binary64.  Overflow is not modelled.
-/
structure Rounding where
  rnd : ℝ → ℝ
  mono : Monotone rnd
  idem : ∀ x, rnd (rnd x) = rnd x
  rnd_zero : rnd 0 = 0
  rnd_one : rnd 1 = 1

theorem Rounding.rnd_unit (r : Rounding) {z : ℝ} (h0 : 0 ≤ z) (h1 : z ≤ 1) : 0 ≤ r.rnd z ∧ r.rnd z ≤ 1 :=
  ⟨r.rnd_zero ▸ r.mono h0, r.rnd_one ▸ r.mono h1⟩

/-- the reals, computed with `r`-rounded arithmetic -/
def RR (_r : Rounding) : Type := ℝ

namespace RR
variable {r : Rounding}
def val (x : RR r) : ℝ := x
/-- a real number read as an `r`-scalar (no rounding: inputs need not be representable) -/
def mk (r : Rounding) (x : ℝ) : RR r := x
@[simp] theorem val_mk (x : ℝ) : (mk r x).val = x := rfl
@[simp] theorem mk_val (x : RR r) : mk r x.val = x := rfl
theorem ext {x y : RR r} (h : x.val = y.val) : x = y := h
end RR

open Classical in
noncomputable instance instScRR (r : Rounding) : Sc (RR r) where
  add := fun a b => RR.mk r (r.rnd (a.val + b.val))
  sub := fun a b => RR.mk r (r.rnd (a.val - b.val))
  mul := fun a b => RR.mk r (r.rnd (a.val * b.val))
  div := fun a b => RR.mk r (r.rnd (a.val / b.val))
  neg := fun a => RR.mk r (-a.val)
  ofNat := fun n => RR.mk r (n : ℝ)
  lit := fun m e => RR.mk r (r.rnd ((m : ℝ) / (10 : ℝ) ^ e))
  lt := fun a b => decide (a.val < b.val)
  le := fun a b => decide (a.val ≤ b.val)
  floor := fun a => RR.mk r (⌊a.val⌋ : ℝ)
  isEven := fun n => decide (⌊n.val⌋ % 2 = 0)

namespace ScRound
variable {r : Rounding}
@[simp] theorem sub_val (a b : RR r) : (Sc.sub a b).val = r.rnd (a.val - b.val) := rfl
@[simp] theorem add_val (a b : RR r) : (Sc.add a b).val = r.rnd (a.val + b.val) := rfl
@[simp] theorem mul_val (a b : RR r) : (Sc.mul a b).val = r.rnd (a.val * b.val) := rfl
@[simp] theorem div_val (a b : RR r) : (Sc.div a b).val = r.rnd (a.val / b.val) := rfl
@[simp] theorem floor_val (a : RR r) : (Sc.floor a).val = (⌊a.val⌋ : ℝ) := rfl
@[simp] theorem one_val : (Sc.one : RR r).val = 1 := by simp [Sc.one, Sc.ofNat, RR.val, RR.mk]
@[simp] theorem zero_val : (Sc.zero : RR r).val = 0 := by simp [Sc.zero, Sc.ofNat, RR.val, RR.mk]
@[simp] theorem isEven_iff (n : RR r) : Sc.isEven n = true ↔ ⌊n.val⌋ % 2 = 0 := by simp [Sc.isEven]
@[simp] theorem le_iff (a b : RR r) : Sc.le a b = true ↔ a.val ≤ b.val := by simp [Sc.le]
@[simp] theorem lt_iff (a b : RR r) : Sc.lt a b = true ↔ a.val < b.val := by simp [Sc.lt]

theorem sum_val (l : List (RR r)) : (Sc.sum l).val = Lemmas.RoundMap.rsum r.rnd 0 (l.map RR.val) :=
  (Lemmas.RoundMap.foldl_add_eq_rsum RR.val r.rnd (fun _ _ => rfl) l Sc.zero).trans (by rw [zero_val])

def exact : Rounding := ⟨id, monotone_id, fun _ => rfl, rfl, rfl⟩

/-- rounding up to the next integer: a (coarse) monotone idempotent rounding fixing 0 and 1 -/
noncomputable def ceilR : Rounding where
  rnd := fun x => (⌈x⌉ : ℝ)
  mono := fun a b h => by
    show ((⌈a⌉ : ℤ) : ℝ) ≤ ((⌈b⌉ : ℤ) : ℝ)
    exact_mod_cast Int.ceil_mono h
  idem := fun x => by simp
  rnd_zero := by simp
  rnd_one := by simp
end ScRound
