import Lean.Meta.Tactic.Simp.RegisterCommand
/-
  The simp sets of the development, registered in one place because an attribute cannot be used in the module that registers it.

  `kernel_real`: the simp set of the bridging obligations `gen_eq_canon_*` of C03: the scalar expressions of the kernels as regenerated from
  tempest/mcmc.py (`Gen.Kernel`) and in canonical form (`Model.Kernel`, `Model.KernelRun`); used together with `sc_real`.
  Filled where the expressions are bridged: `Props/C03.lean`, `Props/C03Run.lean`.
-/
register_simp_attr kernel_real

/-- The equations that unfold the scalar interface at `ℝ` (`Sc.add a b = a + b`, `Sc.lt a b = true ↔ a < b`, `ScT.exp = Real.exp`,
    `Sc.sum l = l.sum` …); filled in `Lemmas/ScReal.lean`, where they are proved. -/
register_simp_attr sc_real

/-- The equations by which the list functions the models are written with (`map`, `zipWith`, `filterMap`, `range`, `getElem?`, `sum`,
    `++`) and the scalar interface at `ℝ` run on a list written out entry by entry: the non-vacuity examples of C15 evaluate a model on
    concrete data with it and leave the arithmetic to `norm_num`. Filled in `Props/C15EM.lean`. -/
register_simp_attr list_eval
