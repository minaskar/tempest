import Mathlib.LinearAlgebra.Matrix.PosDef
import Mathlib.Analysis.Matrix.Order
import Mathlib.Algebra.Order.Star.Real
import Mathlib.LinearAlgebra.Matrix.NonsingularInverse
import Mathlib.LinearAlgebra.Matrix.Block
/-
  What a Cholesky factor certifies.
  `np.linalg.cholesky(A)` (LAPACK `potrf`, lower) reads ONLY the lower triangle of `A` and either raises or returns a
  lower-triangular `L` with positive diagonal such that `L Lᵀ` is the symmetric matrix `symLower A` whose lower triangle is `A`'s.
  This file proves, over ℝ: such an `L` exists  ⇒  `symLower A` is positive definite (and `symLower A = A` when `A` is symmetric).
-/
namespace Lemmas.CholeskyPD
open Matrix

variable {d : ℕ}

/-- the symmetric matrix LAPACK actually factorises: lower triangle of `A`, mirrored -/
def symLower (A : Matrix (Fin d) (Fin d) ℝ) : Matrix (Fin d) (Fin d) ℝ :=
  fun i j => if j ≤ i then A i j else A j i

theorem symLower_isSymm (A : Matrix (Fin d) (Fin d) ℝ) : (symLower A).IsSymm := by
  ext i j
  simp only [symLower, Matrix.transpose_apply]
  by_cases h1 : i ≤ j <;> by_cases h2 : j ≤ i
  · have : i = j := le_antisymm h1 h2
    subst this; simp
  · simp [h1, h2]
  · simp [h1, h2]
  · exact absurd (le_of_lt (not_le.1 h1)) h2

theorem symLower_of_isSymm (A : Matrix (Fin d) (Fin d) ℝ) (h : A.IsSymm) : symLower A = A := by
  ext i j
  simp only [symLower]
  split
  · rfl
  · exact congrFun (congrFun h i) j ▸ rfl

structure IsCholeskyFactor (A L : Matrix (Fin d) (Fin d) ℝ) : Prop where
  lower : ∀ i j, i < j → L i j = 0
  diag_pos : ∀ i, 0 < L i i
  factor : L * Lᵀ = symLower A

theorem symLower_idem (S : Matrix (Fin d) (Fin d) ℝ) : symLower (symLower S) = symLower S := by
  ext i j
  unfold symLower
  by_cases h : j ≤ i
  · simp [h]
  · have h' : i ≤ j := le_of_lt (not_le.1 h)
    simp [h, h']

theorem isFactor_symLower (S L : Matrix (Fin d) (Fin d) ℝ) : IsCholeskyFactor (symLower S) L ↔ IsCholeskyFactor S L :=
  ⟨fun h => ⟨h.lower, h.diag_pos, by rw [h.factor, symLower_idem]⟩,
   fun h => ⟨h.lower, h.diag_pos, by rw [h.factor, symLower_idem]⟩⟩

theorem IsCholeskyFactor.isUnit_det {A L : Matrix (Fin d) (Fin d) ℝ} (h : IsCholeskyFactor A L) : IsUnit L.det := by
  rw [isUnit_iff_ne_zero, Matrix.det_of_isLowerTriangular L fun i j hij => h.lower i j hij]
  exact Finset.prod_ne_zero_iff.2 fun i _ => (h.diag_pos i).ne'

/-- over ℝ a positive definite matrix is symmetric (Mathlib states it as Hermitian) -/
theorem isSymm_of_posDef {S : Matrix (Fin d) (Fin d) ℝ} (h : S.PosDef) : S.IsSymm := by
  have := h.isHermitian
  rwa [Matrix.IsHermitian, Matrix.conjTranspose_eq_transpose_of_trivial] at this

theorem posDef_of_factor (A L : Matrix (Fin d) (Fin d) ℝ) (h : IsCholeskyFactor A L) : (symLower A).PosDef := by
  have hunit : IsUnit L := (Matrix.isUnit_iff_isUnit_det L).2 h.isUnit_det
  have hinj : Function.Injective L.vecMul := by
    intro v w hvw
    obtain ⟨Linv, hLinv⟩ := hunit.exists_right_inv
    have := congrArg (fun x => Matrix.vecMul x Linv) hvw
    simpa [Matrix.vecMul_vecMul, hLinv] using this
  have := Matrix.PosDef.mul_conjTranspose_self L hinj
  rw [← h.factor]
  simpa [Matrix.conjTranspose_eq_transpose_of_trivial] using this

theorem posDef_of_factor_of_isSymm (A L : Matrix (Fin d) (Fin d) ℝ) (hs : A.IsSymm) (h : IsCholeskyFactor A L) : A.PosDef := by
  have := posDef_of_factor A L h
  rwa [symLower_of_isSymm A hs] at this

end Lemmas.CholeskyPD
