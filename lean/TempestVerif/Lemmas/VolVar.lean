import TempestVerif.Lemmas.Maha
import TempestVerif.Lemmas.Scatter
import Mathlib.LinearAlgebra.Matrix.NonsingularInverse
import Mathlib.LinearAlgebra.Matrix.Trace
import Mathlib.Analysis.SpecialFunctions.Sqrt
/-
  `volume_variation(x, w)` (/repo/tempest/tools.py, lines 60-119) a second time, on Mathlib matrices over arbitrary finite index types,
  under the names of `Model/VolVar.lean`: the setting in which non-negativity, invariance under rescaling of the raw weights and
  invariance under an invertible affine map (full-rank branch) are proved.  This is not the lemma module of the executable list model
  `Model/VolVar.lean` and does not mention it: the two are tied in `Props/C20VolVar.lean` (section `Twin`).
-/
namespace Lemmas.VolVar
open Matrix Lemmas.Maha Lemmas.Scatter
variable {ι κ : Type} [Fintype ι] [Fintype κ] [DecidableEq κ]

/-- `w / np.sum(w)` -/
noncomputable def wnorm (w : ι → ℝ) : ι → ℝ := fun i => w i / ∑ j, w j

/-- `np.sum(x * w[:, None], axis=0)` -/
noncomputable def wmean (x : ι → κ → ℝ) (w : ι → ℝ) : κ → ℝ := ∑ i, w i • x i

/-- `xc.T @ (xc * w[:, None])` = Σ_i w_i (x_i − m)(x_i − m)ᵀ -/
noncomputable def wcov (x : ι → κ → ℝ) (w : ι → ℝ) : Matrix κ κ ℝ :=
  ∑ i, w i • vecMulVec (x i - wmean x w) (x i - wmean x w)

/-- `np.clip(t, lo, hi)` = minimum(maximum(t, lo), hi) -/
noncomputable def clip (t lo hi : ℝ) : ℝ := min (max t lo) hi

/-- `0.5 * sqrt(sum(w**2 * clip(d2 - n_dim, -1e6, 1e6)**2))` with `d2_i = (x_i-m)ᵀ S⁻¹ (x_i-m)` -/
noncomputable def metricWith (S : Matrix κ κ ℝ) (x : ι → κ → ℝ) (w : ι → ℝ) : ℝ :=
  (1/2) * Real.sqrt (∑ i, (w i)^2 *
    (clip (maha S (x i - wmean x w) - (Fintype.card κ : ℝ)) (-1e6) 1e6)^2)

open Classical in
/-- the whole function, all branches: too few samples -> 1e10; singular covariance -> ridge
    `1e-6·trace`; still singular (`LinAlgError`) -> 1e10 -/
noncomputable def volvar (x : ι → κ → ℝ) (w0 : ι → ℝ) : ℝ :=
  if Fintype.card ι < Fintype.card κ + 1 then 1e10 else
  let w := wnorm w0
  let S := wcov x w
  if IsUnit S.det then metricWith S x w
  else
    let S' := S + (1e-6 * trace S) • (1 : Matrix κ κ ℝ)
    if IsUnit S'.det then metricWith S' x w else 1e10

/-! ### the covariance is a weighted scatter matrix -/

omit [Fintype κ] [DecidableEq κ] in
theorem wcov_eq_scatter (x : ι → κ → ℝ) (w : ι → ℝ) : wcov x w = scatter w fun i => x i - wmean x w := rfl

omit [DecidableEq κ] in
theorem wcov_quadratic_form (x : ι → κ → ℝ) (w : ι → ℝ) (v : κ → ℝ) :
    v ⬝ᵥ (wcov x w *ᵥ v) = ∑ i, w i * ((x i - wmean x w) ⬝ᵥ v) ^ 2 :=
  scatter_quadForm w _ v

omit [DecidableEq κ] in
theorem wcov_posSemidef (x : ι → κ → ℝ) (w : ι → ℝ) (hw : ∀ i, 0 ≤ w i) : (wcov x w).PosSemidef :=
  scatter_posSemidef w _ hw

omit [DecidableEq κ] in
theorem wcov_trace_zero_iff (x : ι → κ → ℝ) (w : ι → ℝ) (hw : ∀ i, 0 ≤ w i) :
    trace (wcov x w) = 0 ↔ ∀ i, w i ≠ 0 → x i = wmean x w := by
  simp only [wcov_eq_scatter, scatter_trace_eq_zero_iff w _ hw, sub_eq_zero]

/-! ### nonnegativity -/

theorem metricWith_nonneg (S : Matrix κ κ ℝ) (x : ι → κ → ℝ) (w : ι → ℝ) :
    0 ≤ metricWith S x w :=
  mul_nonneg (by norm_num) (Real.sqrt_nonneg _)

theorem volvar_nonneg (x : ι → κ → ℝ) (w0 : ι → ℝ) : 0 ≤ volvar x w0 := by
  simp only [volvar]
  split_ifs
  · norm_num
  · exact metricWith_nonneg _ _ _
  · exact metricWith_nonneg _ _ _
  · norm_num

/-! ### invariance under rescaling of the raw weights -/

theorem wnorm_smul (c : ℝ) (hc : c ≠ 0) (w : ι → ℝ) :
    wnorm (fun i => c * w i) = wnorm w := by
  funext i
  unfold wnorm
  rw [← Finset.mul_sum, mul_div_mul_left _ _ hc]

theorem volvar_weight_scale (c : ℝ) (hc : c ≠ 0) (x : ι → κ → ℝ) (w0 : ι → ℝ) :
    volvar x (fun i => c * w0 i) = volvar x w0 := by
  unfold volvar
  rw [wnorm_smul c hc]

/-! ### affine maps -/

theorem sum_wnorm (w0 : ι → ℝ) (h : ∑ i, w0 i ≠ 0) : ∑ i, wnorm w0 i = 1 := by
  unfold wnorm
  rw [← Finset.sum_div, div_self h]

omit [DecidableEq κ] in
theorem wmean_affine (A : Matrix κ κ ℝ) (b : κ → ℝ) (x : ι → κ → ℝ) (w : ι → ℝ)
    (hw : ∑ i, w i = 1) :
    wmean (fun i => A *ᵥ x i + b) w = A *ᵥ wmean x w + b := by
  unfold wmean
  simp only [smul_add, Finset.sum_add_distrib, ← Finset.sum_smul, hw, one_smul]
  rw [mulVec_sum]
  simp only [mulVec_smul]

omit [DecidableEq κ] in
theorem centre_affine (A : Matrix κ κ ℝ) (b : κ → ℝ) (x : ι → κ → ℝ) (w : ι → ℝ)
    (hw : ∑ i, w i = 1) (i : ι) :
    (A *ᵥ x i + b) - wmean (fun i => A *ᵥ x i + b) w = A *ᵥ (x i - wmean x w) := by
  rw [wmean_affine A b x w hw, mulVec_sub]
  abel

omit [DecidableEq κ] in
theorem wcov_affine (A : Matrix κ κ ℝ) (b : κ → ℝ) (x : ι → κ → ℝ) (w : ι → ℝ)
    (hw : ∑ i, w i = 1) :
    wcov (fun i => A *ᵥ x i + b) w = A * wcov x w * Aᵀ := by
  rw [wcov_eq_scatter, wcov_eq_scatter, ← scatter_map_mulVec]
  exact congrArg (scatter w) (funext fun i => centre_affine A b x w hw i)

theorem wcov_affine_isUnit (A : Matrix κ κ ℝ) (b : κ → ℝ) (hA : IsUnit A.det) (x : ι → κ → ℝ) (w : ι → ℝ)
    (hw : ∑ i, w i = 1) (hS : IsUnit (wcov x w).det) : IsUnit (wcov (fun i => A *ᵥ x i + b) w).det := by
  rw [wcov_affine A b x w hw, det_mul, det_mul, det_transpose]
  exact (hA.mul hS).mul hA

theorem metricWith_affine (A S : Matrix κ κ ℝ) (b : κ → ℝ) (hA : IsUnit A.det)
    (x : ι → κ → ℝ) (w : ι → ℝ) (hw : ∑ i, w i = 1) :
    metricWith (A * S * Aᵀ) (fun i => A *ᵥ x i + b) w = metricWith S x w := by
  unfold metricWith
  congr 2
  refine Finset.sum_congr rfl fun i _ => ?_
  rw [centre_affine A b x w hw i, maha_affine A S _ hA]

/-! ### affine invariance of the metric (nonsingular-covariance branch) -/

theorem volvar_affine (A : Matrix κ κ ℝ) (b : κ → ℝ) (hA : IsUnit A.det)
    (x : ι → κ → ℝ) (w0 : ι → ℝ) (hw : ∑ i, w0 i ≠ 0)
    (hS : IsUnit (wcov x (wnorm w0)).det) :
    volvar (fun i => A *ᵥ x i + b) w0 = volvar x w0 := by
  have h1 : ∑ i, wnorm w0 i = 1 := sum_wnorm w0 hw
  unfold volvar
  by_cases hc : Fintype.card ι < Fintype.card κ + 1
  · simp only [if_pos hc]
  · simp only [if_neg hc, if_pos hS, if_pos (wcov_affine_isUnit A b hA x _ h1 hS)]
    rw [wcov_affine A b x _ h1]
    exact metricWith_affine A _ b hA x (wnorm w0) h1

/-! ### non-vacuity: the guards of `volvar_affine` are satisfiable -/

/-- three points `0, 1, 2` on the line, unit raw weights -/
def exX : Fin 3 → Fin 1 → ℝ := ![![0], ![1], ![2]]
def exW : Fin 3 → ℝ := fun _ => 1

theorem exW_sum : ∑ i, exW i ≠ 0 := by
  simp [exW]

theorem ex_wcov_det : (wcov exX (wnorm exW)).det = 2 / 3 := by
  rw [det_unique]
  simp [wcov, wmean, wnorm, exX, exW, Fin.sum_univ_three, Matrix.sum_apply]
  norm_num

theorem ex_guard : IsUnit (wcov exX (wnorm exW)).det := by
  rw [ex_wcov_det]
  exact isUnit_iff_ne_zero.mpr (by norm_num)

example : volvar (fun i => (!![2] : Matrix (Fin 1) (Fin 1) ℝ) *ᵥ exX i + ![5]) exW
    = volvar exX exW :=
  volvar_affine _ _ (by simp [det_unique]) exX exW exW_sum ex_guard

example : volvar exX exW = metricWith (wcov exX (wnorm exW)) exX (wnorm exW) := by
  have hc : ¬ Fintype.card (Fin 3) < Fintype.card (Fin 1) + 1 := by simp
  simp only [volvar, if_neg hc, if_pos ex_guard]

end Lemmas.VolVar
