import TempestVerif.Props.C03Inv
import TempestVerif.Lemmas.GaussianPi
import TempestVerif.Lemmas.KernelOfFn
import TempestVerif.Lemmas.KernelGeom
/-
  C03, clause 14 in ANY dimension: the law of one step of the executable kernel model (hard walls) leaves the tempered target
  invariant.  State space `V d = Fin d → ℝ` with Lebesgue measure; tapes `z ~ N(0, I_d)` (`Measure.pi` of standard normals =
  `np.random.randn(d)`), `g ~ Gamma(shape, scale)` (tpCN), `r ~ U[0,1)`.  The tpCN theorem is proved here; RWM with hard walls is
  RWM with an empty list of periodic coordinates (`Props/C03InvP.lean`), and what the two share stands here.
-/
namespace Props.C03

variable {d : ℕ}

abbrev V (d : ℕ) := Fin d → ℝ

-- The two list/vector conversions stand before the measure-theoretic namespaces are opened: with them open, `v[i]` is first tried
-- as the conditional-expectation notation `μ[f]`, and that attempt is slow to fail.

/-- a log-likelihood on points of ℝ^d, as the list model sees it -/
noncomputable def liftLV (ℓ : V d → ℝ) (v : List ℝ) : ℝ := if h : v.length = d then ℓ fun i => v[i] else 0

theorem liftLV_ofFn (ℓ : V d → ℝ) (c : V d) : liftLV ℓ (List.ofFn c) = ℓ c := by
  unfold liftLV
  rw [dif_pos (List.length_ofFn)]
  congr 1; funext i; simp

noncomputable def listToV (v : List ℝ) (x : V d) : V d := if h : v.length = d then fun i => v[i] else x

theorem listToV_ofFn (y x : V d) : listToV (List.ofFn y) x = y := by
  unfold listToV
  rw [dif_pos (List.length_ofFn)]
  funext i; simp

open Real MeasureTheory ProbabilityTheory Set Model.Kernel Lemmas.MHKernel Matrix Lemmas.GaussianPi Lemmas.KernelOfFn
open Lemmas.GaussJordan (matOf)
open Lemmas.Maha Lemmas.KernelGeom
open scoped ENNReal

/-! ## the list model on `List.ofFn` data is a vector expression -/

/-- one-walker input of `Model.Kernel.step` in dimension `d` with hard boundaries (no periodic / reflective coordinate) -/
noncomputable def inD (kind : Kind) (μ : V d) (L S : Matrix (Fin d) (Fin d) ℝ) (ν σ β lx lp : ℝ) (x : V d) (g : ℝ) (z : V d)
    (r : ℝ) : StepIn ℝ :=
  { kind, u := List.ofFn x, mu := List.ofFn μ, chol := matOf L, invcov := matOf S, nu := ν, sigma := σ, beta := β, l := lx,
    lp := lp, g := g, r := r, z := List.ofFn z, per := [], refl := [] }

/-- the vector forms of `cand1T`, `cand1R`: `mu + sqrt(1 - sigma**2) * diff + sigma * sqrt(1/g) * chol @ z`, `u + sigma * chol @ z` -/
noncomputable def candVT (μ : V d) (L : Matrix (Fin d) (Fin d) ℝ) (σ : ℝ) (x : V d) (g : ℝ) (z : V d) : V d :=
  μ + √(1 - σ * σ) • (x - μ) + (σ * √(1 / g)) • (L *ᵥ z)
noncomputable def candVR (L : Matrix (Fin d) (Fin d) ℝ) (σ : ℝ) (x z : V d) : V d := x + σ • (L *ᵥ z)

/-- `dot_product = diff @ inv_cov @ diff` -/
noncomputable def dltV (S : Matrix (Fin d) (Fin d) ℝ) (μ x : V d) : ℝ := (x - μ) ⬝ᵥ (S *ᵥ (x - μ))

def cube (d : ℕ) : Set (V d) := Icc 0 1

/-- what `check_bounds(u, periodic, None)` tests: the coordinates that are not periodic -/
def hardOK (per : List Nat) (y : V d) : Prop := ∀ i : Fin d, i.val ∉ per → 0 ≤ y i ∧ y i ≤ 1

theorem checkBounds_per_ofFn (per : List Nat) (y : V d) :
    Model.Boundary.checkBounds per [] (List.ofFn y) = true ↔ hardOK per y :=
  (Model.Boundary.checkBounds_ofFn_iff per [] y).trans
    (forall_congr' fun _ => forall_congr' fun _ => ⟨fun h => h List.not_mem_nil, fun h _ => h⟩)

theorem checkBounds_ofFn (c : V d) :
    Model.Boundary.checkBounds ([] : List Nat) [] (List.ofFn c) = true ↔ c ∈ cube d :=
  (checkBounds_per_ofFn [] c).trans
    ⟨fun h => ⟨fun i => (h i List.not_mem_nil).1, fun i => (h i List.not_mem_nil).2⟩, fun h i _ => ⟨h.1 i, h.2 i⟩⟩

theorem raw_tpcn_vec (μ : V d) (L : Matrix (Fin d) (Fin d) ℝ) (σ : ℝ) (x : V d) (g : ℝ) (z : V d) :
    Model.Boundary.apply ([] : List Nat) []
        (tpcnProposal (List.ofFn μ) (Model.Kernel.vsub (List.ofFn x) (List.ofFn μ)) (matOf L) σ (sFromGamma g) (List.ofFn z))
      = List.ofFn (candVT μ L σ x g z) := by
  rw [Model.Boundary.apply_nil, vsub_ofFn, tpcnProposal_ofFn]
  simp [candVT, model_diffCoef, model_noiseScale, model_sFromGamma]

theorem qform_vec (S : Matrix (Fin d) (Fin d) ℝ) (μ x : V d) :
    qform (Model.Kernel.vsub (List.ofFn x) (List.ofFn μ)) (matOf S) = dltV S μ x := by
  rw [vsub_ofFn, qform_matOf]; rfl

theorem closedStep_tpcn_vec (ℓ : V d → ℝ) (μ : V d) (L S : Matrix (Fin d) (Fin d) ℝ) (ν σ β lx lp : ℝ) (x : V d) (g : ℝ)
    (z : V d) (r : ℝ) (hr : 0 ≤ r) :
    (closedStep (liftLV ℓ) (inD .tpcn μ L S ν σ β lx lp x g z r)).newU
      = List.ofFn (acceptReject x (accT (cube d) ℓ (dltV S μ) d ν β x) (candVT μ L σ x g z, r)) := by
  classical
  rw [closedStep_tpcn_newU _ _ rfl (raw_tpcn_vec μ L σ x g z), accT, acceptReject_mhAccept _ _ _ _ hr,
    apply_ite List.ofFn]
  simp only [inD, qform_vec, liftLV_ofFn, List.length_ofFn, checkBounds_ofFn]

noncomputable def targetV (ℓ : V d → ℝ) (β : ℝ) : Measure (V d) :=
  volume.withDensity fun x => ENNReal.ofReal ((cube d).indicator (fun x => exp (β * ℓ x)) x)

noncomputable def newStateV (kind : Kind) (ℓ : V d → ℝ) (μ : V d) (L S : Matrix (Fin d) (Fin d) ℝ) (ν σ β : ℝ) (x : V d)
    (g : ℝ) (z : V d) (r : ℝ) : V d :=
  listToV (closedStep (liftLV ℓ) (inD kind μ L S ν σ β 0 0 x g z r)).newU x

theorem newStateV_eq_tpcn (ℓ : V d → ℝ) (μ : V d) (L S : Matrix (Fin d) (Fin d) ℝ) (ν σ β : ℝ) (x : V d) (g : ℝ) (z : V d)
    (r : ℝ) (hr : 0 ≤ r) :
    newStateV .tpcn ℓ μ L S ν σ β x g z r
      = acceptReject x (accT (cube d) ℓ (dltV S μ) d ν β x) (candVT μ L σ x g z, r) := by
  unfold newStateV
  rw [closedStep_tpcn_vec ℓ μ L S ν σ β 0 0 x g z r hr, listToV_ofFn]

/-- the standard normal vector `np.random.randn(d)` -/
noncomputable def stdN (d : ℕ) : Measure (V d) := Measure.pi fun _ => gaussianReal 0 1

instance : IsProbabilityMeasure (stdN d) := by unfold stdN; infer_instance

noncomputable def rwmLawV (ℓ : V d → ℝ) (μ : V d) (L S : Matrix (Fin d) (Fin d) ℝ) (ν σ β : ℝ) (x : V d) : Measure (V d) :=
  ((stdN d).prod unif).map fun w => newStateV .rwm ℓ μ L S ν σ β x 0 w.1 w.2

noncomputable def rateV (S : Matrix (Fin d) (Fin d) ℝ) (μ : V d) (ν : ℝ) (x : V d) : ℝ := (ν + dltV S μ x) / 2
noncomputable def meanV (μ : V d) (σ : ℝ) (x : V d) : V d := μ + √(1 - σ * σ) • (x - μ)

/-- given the gamma draw the tpCN candidate is an RWM candidate from `meanV` with step size `cG σ g` -/
theorem candVT_eq (μ : V d) (L : Matrix (Fin d) (Fin d) ℝ) (σ : ℝ) (x : V d) (g : ℝ) (z : V d) :
    candVT μ L σ x g z = meanV μ σ x + cG σ g • (L *ᵥ z) := rfl

/-- joint law of the tapes that build the tpCN candidate: the gamma draw with the shape and the rate `1 / scale` of the model's
    `shape`, `scale` fields (`closedStep_tpcn_gamma_vec`, `rateV_eq_inv_scale`), and `randn(d)` -/
noncomputable def tapeVT (S : Matrix (Fin d) (Fin d) ℝ) (μ : V d) (ν : ℝ) (x : V d) : Measure (ℝ × V d) :=
  (gammaMeasure (gammaShape (d : ℝ) ν) (rateV S μ ν x)).prod (stdN d)

/-- the gamma law of `tapeVT` is the one the list model asks `np.random.gamma` for: `shape` and `scale` fields of the step -/
theorem closedStep_tpcn_gamma_vec (ℓ : V d → ℝ) (μ : V d) (L S : Matrix (Fin d) (Fin d) ℝ) (ν σ β lx lp : ℝ) (x : V d)
    (g : ℝ) (z : V d) (r : ℝ) :
    (closedStep (liftLV ℓ) (inD .tpcn μ L S ν σ β lx lp x g z r)).shape = gammaShape (d : ℝ) ν ∧
    (closedStep (liftLV ℓ) (inD .tpcn μ L S ν σ β lx lp x g z r)).scale = gammaScale ν (dltV S μ x) := by
  simpa [inD, qform_vec] using closedStep_tpcn_shape_scale (liftLV ℓ) (inD .tpcn μ L S ν σ β lx lp x g z r) rfl

/-- Mathlib's `gammaMeasure a r` is parametrised by the RATE: `rateV = 1 / scale` -/
theorem rateV_eq_inv_scale (S : Matrix (Fin d) (Fin d) ℝ) (μ : V d) (ν : ℝ) (x : V d) :
    rateV S μ ν x = 1 / gammaScale ν (dltV S μ x) := by
  rw [model_gammaScale]; unfold rateV; rw [one_div_div]

theorem measurable_dltV (S : Matrix (Fin d) (Fin d) ℝ) (μ : V d) : Measurable (dltV S μ) := by
  unfold dltV
  have h1 : Continuous fun x : V d => x - μ := continuous_id.sub continuous_const
  exact (Continuous.dotProduct h1 (Continuous.matrix_mulVec continuous_const h1)).measurable

theorem measurable_meanV (μ : V d) (σ : ℝ) : Measurable (meanV μ σ) := by
  unfold meanV
  have h1 : Measurable fun x : V d => x - μ := measurable_id.sub measurable_const
  exact measurable_const.add (h1.const_smul (√(1 - σ * σ)))

theorem measurable_candVT_pair (μ : V d) (L : Matrix (Fin d) (Fin d) ℝ) (σ : ℝ) (x : V d) :
    Measurable fun t : ℝ × V d => candVT μ L σ x t.1 t.2 :=
  measurable_const.add (((measurable_cG σ).comp measurable_fst).smul ((measurable_mulVec L).comp measurable_snd))

theorem measurable_mixVT_gauss (μ : V d) (L : Matrix (Fin d) (Fin d) ℝ) (σ : ℝ) :
    Measurable fun p : (V d × V d) × ℝ => ENNReal.ofReal (affineGaussDensity L (cG σ p.2) (meanV μ σ p.1.1) p.1.2) := by
  have h := (measurable_ofReal_affineGaussDensity L).comp
    (((measurable_cG σ).comp measurable_snd).prodMk (((measurable_meanV μ σ).comp (measurable_fst.comp measurable_fst)).prodMk
      (measurable_snd.comp measurable_fst)) :
      Measurable fun p : (V d × V d) × ℝ => (cG σ p.2, meanV μ σ p.1.1, p.1.2))
  exact h

theorem dltV_eq_maha (L S : Matrix (Fin d) (Fin d) ℝ) (hS : S = (L * Lᵀ)⁻¹) (μ x : V d) :
    dltV S μ x = maha (L * Lᵀ) (x - μ) := by
  subst hS; rfl

theorem dltV_nonneg (L S : Matrix (Fin d) (Fin d) ℝ) (hL : L.det ≠ 0) (hS : S = (L * Lᵀ)⁻¹) (μ x : V d) :
    0 ≤ dltV S μ x := by
  rw [dltV_eq_maha L S hS]; exact maha_chol_nonneg L (isUnit_iff_ne_zero.2 hL) _

theorem tpcn_mix_symm_real_vec (μ : V d) (L S : Matrix (Fin d) (Fin d) ℝ) (ν σ : ℝ) (x y : V d) (g : ℝ) (hg : 0 < g)
    (hν : 0 < ν) (hσ0 : 0 < σ) (hσ1 : σ < 1) (hL : L.det ≠ 0) (hS : S = (L * Lᵀ)⁻¹) :
    tker d ν (dltV S μ x) * (gammaPDFReal (gammaShape (d : ℝ) ν) (rateV S μ ν x) g
        * affineGaussDensity L (cG σ g) (meanV μ σ x) y)
      = tker d ν (dltV S μ y) * (gammaPDFReal (gammaShape (d : ℝ) ν) (rateV S μ ν y) g
        * affineGaussDensity L (cG σ g) (meanV μ σ y) x) := by
  -- the Gaussian exponent in the Mahalanobis scalars of `Σ = L Lᵀ`
  have hexp : ∀ u w : V d, -((L⁻¹ *ᵥ (w - meanV μ σ u)) ⬝ᵥ (L⁻¹ *ᵥ (w - meanV μ σ u))) / (2 * cG σ g ^ 2)
      = -(dltV S μ w - 2 * √(1 - σ * σ) * mahaCross (L * Lᵀ) (u - μ) (w - μ) + (√(1 - σ * σ)) ^ 2 * dltV S μ u)
          / (2 * (σ ^ 2 / g)) := by
    intro u w
    have e1 : w - meanV μ σ u = (w - μ) - √(1 - σ * σ) • (u - μ) := by unfold meanV; abel
    rw [dotProduct_inv_mulVec_self L (isUnit_iff_ne_zero.2 hL), cG_sq σ g hg, e1, maha_cn_expand (L * Lᵀ) (Matrix.isSymm_mul_transpose_self L),
      dltV_eq_maha L S hS μ w, dltV_eq_maha L S hS μ u]
  unfold affineGaussDensity
  rw [hexp x y, hexp y x, mahaCross_comm (L * Lᵀ) (Matrix.isSymm_mul_transpose_self L) (y - μ) (x - μ), ← mul_assoc (_ * _),
    ← mul_assoc (_ * _)]
  exact tpcn_weight_symm d ν σ _ g _ _ _ _ hν hg (sq_diffCoef hσ0 hσ1) hσ0.ne' (dltV_nonneg L S hL hS μ x)
    (dltV_nonneg L S hL hS μ y)

noncomputable def tpcnLawV (ℓ : V d → ℝ) (μ : V d) (L S : Matrix (Fin d) (Fin d) ℝ) (ν σ β : ℝ) (x : V d) : Measure (V d) :=
  ((tapeVT S μ ν x).prod unif).map fun w => newStateV .tpcn ℓ μ L S ν σ β x w.1.1 w.1.2 w.2

/-- **tpCN, any dimension, hard walls: the law of the model's step leaves the tempered target invariant** — for every
    measurable log-likelihood on ℝ^d, every β, every mode (mean μ, invertible Cholesky factor `L` with `inv_cov = (L Lᵀ)⁻¹`, dof
    ν > 0) and every step size 0 < σ < 1.  The tapes carry Mathlib's `gammaMeasure` (with the shape and 1/scale the model hands
    to `np.random.gamma`), the product of `d` standard normals and the uniform law on [0,1). -/
theorem C03_tpcn_step_law_invariant {ℓ : V d → ℝ} (hℓ : Measurable ℓ) (μ : V d) (L S : Matrix (Fin d) (Fin d) ℝ)
    (ν σ β : ℝ) (hν : 0 < ν) (hσ0 : 0 < σ) (hσ1 : σ < 1) (hL : L.det ≠ 0) (hS : S = (L * Lᵀ)⁻¹) :
    (targetV ℓ β).bind (tpcnLawV ℓ μ L S ν σ β) = targetV ℓ β :=
  -- given the draw `g > 0` the candidate is `meanV + cG σ g • L z`, an affine image of the standard normal vector
  tpcn_step_invariant volume (stdN d) measurableSet_Icc hℓ (measurable_dltV S μ) (dltV_nonneg L S hL hS μ)
    (Nat.cast_nonneg d) hν β (measurable_candVT_pair μ L σ)
    (ψ := fun x g y => affineGaussDensity L (cG σ g) (meanV μ σ x) y) (measurable_mixVT_gauss μ L σ)
    (fun x g hg => map_scaled_affine_pi_gaussian L hL (cG σ g) (cG_ne_zero hσ0.ne' hg) (meanV μ σ x))
    (fun x y g hg => tpcn_mix_symm_real_vec μ L S ν σ x y g hg hν hσ0 hσ1 hL hS)
    fun x t r hr => newStateV_eq_tpcn ℓ μ L S ν σ β x t.1 t.2 r hr

/-! ### the same with the proposal density on ℝ^d named: `qVT`, the scale mixture over the gamma draw -/

noncomputable def mixVT (μ : V d) (L S : Matrix (Fin d) (Fin d) ℝ) (ν σ : ℝ) (x : V d) (g : ℝ) (y : V d) : ℝ≥0∞ :=
  gammaPDF (gammaShape (d : ℝ) ν) (rateV S μ ν x) g * ENNReal.ofReal (affineGaussDensity L (cG σ g) (meanV μ σ x) y)

noncomputable def qVT (μ : V d) (L S : Matrix (Fin d) (Fin d) ℝ) (ν σ : ℝ) (x y : V d) : ℝ≥0∞ :=
  ∫⁻ g, mixVT μ L S ν σ x g y

theorem tpcn_candidate_law_vec (μ : V d) (L S : Matrix (Fin d) (Fin d) ℝ) (ν σ : ℝ) (x : V d) (hL : L.det ≠ 0)
    (hσ : σ ≠ 0) :
    (tapeVT S μ ν x).map (fun t => candVT μ L σ x t.1 t.2) = volume.withDensity (qVT μ L S ν σ x) :=
  tpcn_candidate_law volume (stdN d) (measurable_candVT_pair μ L σ)
    (ψ := fun x g y => affineGaussDensity L (cG σ g) (meanV μ σ x) y) (measurable_mixVT_gauss μ L σ)
    (fun x g hg => map_scaled_affine_pi_gaussian L hL (cG σ g) (cG_ne_zero hσ hg) (meanV μ σ x)) x

/-- **the tpCN proposal density on ℝ^d is reversible w.r.t. the Student-t kernel of the mode** -/
theorem qVT_reversible (μ : V d) (L S : Matrix (Fin d) (Fin d) ℝ) (ν σ : ℝ) (x y : V d) (hν : 0 < ν) (hσ0 : 0 < σ)
    (hσ1 : σ < 1) (hL : L.det ≠ 0) (hS : S = (L * Lᵀ)⁻¹) :
    ENNReal.ofReal (tker d ν (dltV S μ x)) * qVT μ L S ν σ x y
      = ENNReal.ofReal (tker d ν (dltV S μ y)) * qVT μ L S ν σ y x :=
  tpcnMix_reversible (ψ := fun x g y => affineGaussDensity L (cG σ g) (meanV μ σ x) y) (dltV_nonneg L S hL hS μ)
    (Nat.cast_nonneg d) hν (fun x y g hg => tpcn_mix_symm_real_vec μ L S ν σ x y g hg hν hσ0 hσ1 hL hS) x y

/-- the lower clip `σ = 0` of tpCN (`np.clip(…, 0, …)`): the candidate is the current point, so the step is the identity for
    every tape — every law is invariant (the case excluded by `0 < σ` above) -/
theorem C03_tpcn_sigma_zero_identity (ℓ : V d → ℝ) (μ : V d) (L S : Matrix (Fin d) (Fin d) ℝ) (ν β : ℝ) (x : V d) (g : ℝ)
    (z : V d) (r : ℝ) (hr : 0 ≤ r) : newStateV .tpcn ℓ μ L S ν 0 β x g z r = x := by
  rw [newStateV_eq_tpcn ℓ μ L S ν 0 β x g z r hr]
  have hc : candVT μ L 0 x g z = x := by
    unfold candVT; simp
  unfold acceptReject
  simp only [hc]
  split <;> rfl

/-- `L = [[1/5, 0], [1/10, 1/5]]` (so Σ = L Lᵀ is correlated), `S = (L Lᵀ)⁻¹`, ν = 5/2, σ = 1/2, tilted target -/
example : (targetV (fun x : V 2 => 3 * x 0 - x 1) (1 / 2)).bind
      (tpcnLawV (fun x : V 2 => 3 * x 0 - x 1) ![3 / 10, 1 / 2] !![1 / 5, 0; 1 / 10, 1 / 5]
        ((!![1 / 5, 0; 1 / 10, 1 / 5] * !![1 / 5, 0; 1 / 10, 1 / 5]ᵀ)⁻¹) (5 / 2) (1 / 2) (1 / 2))
    = targetV (fun x : V 2 => 3 * x 0 - x 1) (1 / 2) :=
  C03_tpcn_step_law_invariant (by fun_prop) _ _ _ _ _ _ (by norm_num) (by norm_num) (by norm_num)
    (by simp [Matrix.det_fin_two]) rfl

end Props.C03
