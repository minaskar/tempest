import TempestVerif.Model.Pipeline
import TempestVerif.Lemmas.Pipeline
import TempestVerif.Lemmas.ScReal
import TempestVerif.Lemmas.Rounded
import TempestVerif.Props.C04
import TempestVerif.Props.C20
/-
  C10 — "… are unchanged UP TO FLOATING-POINT ROUNDING": how far can rounding move things when `c` is added?

  The theorems of `Props/C10.lean` / `Props/C10Closed.lean` are exact-real statements.  Here every `+ − *` is the exact
  operation followed by a rounding map `rnd : ℝ → ℝ`, and

      H_round  (`StdModel rnd u η`):   |rnd x − x| ≤ u·|x| + η   for every x,  0 ≤ u ≤ 1/8,  0 ≤ η     (binary64: u = 2^-52, η = 2^-1074)

  is the standard model of floating-point arithmetic WITHOUT overflow (log-likelihoods, the shift `c` and their products with
  β ≤ 1 are nowhere near the binary64 threshold).  That is
  why it is `StdModel` and not `RoundModel rnd u η Ω` of `Lemmas/Rounded.lean`: the latter says nothing above the threshold
  `Ω` and is for showing that an evaluation never gets there; here no threshold is in play, and the one-step lemma
  (`StdModel.err_near`) is the model-free `abs_rnd_sub_le_of_err` of `Lemmas/RoundMap.lean`.  H_round is an assumption (Lean's `Float`
  is opaque); the suite `rounding-bounds` evaluates the proved bound on the doubles of every recorded accept/reject step.

  First half: one accept/reject decision.  The bounds are about `chain`, the Metropolis exponent  β ⊗ (ℓ' ⊖ ℓ) ⊕ factor
  (`chain_is_generated`).  Second half: the ESS the temperature search evaluates, in EXACT arithmetic on perturbed data — every
  stored `ℓ` and `z_t` of the shifted run off by at most `e` (`pertH`): each unnormalised log-weight then moves by at most `3e`
  (`specRaw_pert`) and every ESS by a factor within `exp(±12e)` (`C10_round_ess_stable`).
-/
namespace Props.C10Round
open Model.Weights Model.Pipeline

/-- H_round: relative-error model of rounding with gradual underflow, no overflow -/
structure StdModel (rnd : ℝ → ℝ) (u η : ℝ) : Prop where
  u_nonneg : 0 ≤ u
  u_le : u ≤ 1 / 8
  η_nonneg : 0 ≤ η
  err : ∀ x, |rnd x - x| ≤ u * |x| + η

variable {rnd : ℝ → ℝ} {u η : ℝ}

/-- the exponent of `alpha = np.exp(self.beta * (logl_prime - self.logl) + alpha)` as the floating-point evaluation
    computes it from the difference `d = logl_prime − logl` -/
noncomputable def chain (rnd : ℝ → ℝ) (β d f : ℝ) : ℝ := rnd (rnd (β * rnd d) + f)

/-- `chain` is the argument of `ScT.exp` in `Gen.Kernel.acceptProb` — `Sc.add (Sc.mul β (Sc.sub lp l)) f`, written out here by
    hand: the statement does not mention `acceptProb` itself — evaluated at the rounded scalars -/
theorem chain_is_generated (β l lp f : Rd rnd) :
    (Sc.add (Sc.mul β (Sc.sub lp l)) f).v = chain rnd β.v (lp.v - l.v) f.v := by
  simp [chain]

/-- one rounding applied to an approximation `x` of `y`: the error already made grows by the factor `1 + u ≤ 9/8`, and
    the new one is relative to `y`.  Every bound below is this step composed, so the arithmetic stays linear. -/
theorem StdModel.err_near (sm : StdModel rnd u η) {x y δ : ℝ} (h : |x - y| ≤ δ) :
    |rnd x - y| ≤ u * |y| + 9 / 8 * δ + η := by
  have h2 := mul_le_mul_of_nonneg_right sm.u_le ((abs_nonneg _).trans h)
  linear_combination abs_rnd_sub_le_of_err sm.u_nonneg (sm.err x) h + h2

theorem chain_err (sm : StdModel rnd u η) (β d f : ℝ) (hβ0 : 0 ≤ β) (hβ1 : β ≤ 1) :
    |chain rnd β d f - (β * d + f)| ≤ 4 * u * (β * |d| + |f|) + 4 * η := by
  have e1 : |β * rnd d - β * d| ≤ β * (u * |d| + η) := by
    rw [← mul_sub, abs_mul, abs_of_nonneg hβ0]
    exact mul_le_mul_of_nonneg_left (sm.err d) hβ0
  have e2 := sm.err_near e1
  rw [← add_sub_add_right_eq_sub _ _ f] at e2
  have e3 := sm.err_near e2
  rw [abs_mul, abs_of_nonneg hβ0] at e2 e3
  -- the coefficients of `u β |d|` and of `η` in `e3` are `1 + 9/8 + 81/64 < 4`
  have h1 := mul_le_mul_of_nonneg_left (abs_add_le (β * d) f) sm.u_nonneg
  rw [abs_mul, abs_of_nonneg hβ0] at h1
  have h2 := mul_le_mul_of_nonneg_right hβ1 sm.η_nonneg
  have h3 : 0 ≤ u * (β * |d|) := mul_nonneg sm.u_nonneg (mul_nonneg hβ0 (abs_nonneg d))
  have h4 : 0 ≤ u * |f| := mul_nonneg sm.u_nonneg (abs_nonneg f)
  unfold chain
  linear_combination e3 + h1 + (81 / 64) * h2 + (39 / 64) * h3 + 3 * h4 + (39 / 64) * sm.η_nonneg

theorem chain_sub_chain (sm : StdModel rnd u η) (β d d' f : ℝ) (hβ0 : 0 ≤ β) (hβ1 : β ≤ 1) :
    |chain rnd β d' f - chain rnd β d f| ≤ β * |d' - d| + 4 * u * (β * (|d| + |d'|) + 2 * |f|) + 8 * η := by
  have c := chain_err sm β d f hβ0 hβ1
  have c' := chain_err sm β d' f hβ0 hβ1
  have t1 := abs_sub_le (chain rnd β d' f) (β * d' + f) (chain rnd β d f)
  have t2 := abs_sub_le (β * d' + f) (β * d + f) (chain rnd β d f)
  rw [add_sub_add_right_eq_sub, ← mul_sub, abs_mul, abs_of_nonneg hβ0, abs_sub_comm (β * d + f)] at t2
  linear_combination t1 + t2 + c + c'

theorem stored_sub_err (sm : StdModel rnd u η) (l lp c : ℝ) :
    |rnd (lp + c) - rnd (l + c) - (lp - l)| ≤ u * (|l| + |lp| + 2 * |c|) + 2 * η := by
  have h1 := mul_le_mul_of_nonneg_left (abs_add_le l c) sm.u_nonneg
  have h2 := mul_le_mul_of_nonneg_left (abs_add_le lp c) sm.u_nonneg
  rw [show rnd (lp + c) - rnd (l + c) - (lp - l) = (rnd (lp + c) - (lp + c)) - (rnd (l + c) - (l + c)) by ring]
  linear_combination abs_sub (rnd (lp + c) - (lp + c)) (rnd (l + c) - (l + c)) + sm.err (l + c) + sm.err (lp + c)
    + h1 + h2

/-- **rounded Metropolis exponent under a shift of the likelihood**: the shifted run stores `rnd(ℓ + c)`, `rnd(ℓ' + c)` and
    computes its exponent from their difference (the bound is ≈ 1e-12 for |c| = 1000 in binary64) -/
theorem C10_round_exponent (sm : StdModel rnd u η) (β l lp f c : ℝ) (hβ0 : 0 ≤ β) (hβ1 : β ≤ 1) :
    |chain rnd β (rnd (lp + c) - rnd (l + c)) f - chain rnd β (lp - l) f|
      ≤ u * (β * (8 * |lp - l| + 2 * (|l| + |lp|) + 4 * |c|) + 8 * |f|) + 11 * η := by
  have hd := stored_sub_err sm l lp c
  have hc := chain_sub_chain sm β (lp - l) (rnd (lp + c) - rnd (l + c)) f hβ0 hβ1
  have hd' := (abs_sub_abs_le_abs_sub (rnd (lp + c) - rnd (l + c)) (lp - l)).trans hd
  have hS : 0 ≤ |l| + |lp| + 2 * |c| := by positivity
  have hΔ : 0 ≤ β * (u * (|l| + |lp| + 2 * |c|) + 2 * η) :=
    mul_nonneg hβ0 (add_nonneg (mul_nonneg sm.u_nonneg hS) (mul_nonneg zero_le_two sm.η_nonneg))
  -- with Δ the bound `hd`: `hc` is at most `8uβ|ℓ'−ℓ| + 8u|f| + 8η + (1 + 4u)βΔ`, and `1 + 4u ≤ 3/2`, `βη ≤ η`
  have p1 := mul_le_mul_of_nonneg_left hd hβ0
  have p2 := mul_le_mul_of_nonneg_left (mul_le_mul_of_nonneg_left hd' hβ0) sm.u_nonneg
  have p3 := mul_le_mul_of_nonneg_right sm.u_le hΔ
  have p4 := mul_le_mul_of_nonneg_right hβ1 sm.η_nonneg
  have p5 : 0 ≤ u * (β * (|l| + |lp| + 2 * |c|)) := mul_nonneg sm.u_nonneg (mul_nonneg hβ0 hS)
  linear_combination hc + p1 + 4 * p2 + 4 * p3 + 3 * p4 + (1 / 2) * p5

theorem min_one_exp_lipschitz (a b : ℝ) : |min 1 (Real.exp a) - min 1 (Real.exp b)| ≤ |a - b| := by
  wlog h : b ≤ a generalizing a b
  · have := this b a (le_of_not_ge h)
    rwa [abs_sub_comm, abs_sub_comm b a] at this
  have hmono : min 1 (Real.exp b) ≤ min 1 (Real.exp a) := min_le_min le_rfl (Real.exp_le_exp.mpr h)
  rw [abs_of_nonneg (sub_nonneg.mpr hmono), abs_of_nonneg (sub_nonneg.mpr h)]
  -- min(1,e^a) − min(1,e^b) ≤ min(1,e^a)·(1 − e^{b−a}) ≤ 1 − e^{−(a−b)} ≤ a − b
  have h1 : Real.exp b = Real.exp a * Real.exp (b - a) := by rw [← Real.exp_add]; congr 1; ring
  have h2 : 1 - (a - b) ≤ Real.exp (b - a) := by
    have := Real.add_one_le_exp (b - a); linarith
  have h3 : Real.exp (b - a) ≤ 1 := Real.exp_le_one_iff.mpr (by linarith)
  have h4 : 0 < Real.exp (b - a) := Real.exp_pos _
  have hm : min 1 (Real.exp a) * Real.exp (b - a) ≤ min 1 (Real.exp b) := by
    apply le_min
    · calc min 1 (Real.exp a) * Real.exp (b - a) ≤ 1 * 1 :=
            mul_le_mul (min_le_left _ _) h3 h4.le zero_le_one
        _ = 1 := one_mul 1
    · rw [h1]
      exact mul_le_mul_of_nonneg_right (min_le_right _ _) h4.le
  have hm1 := mul_le_mul_of_nonneg_right (min_le_left 1 (Real.exp a)) (sub_nonneg.mpr h3)
  linear_combination hm + hm1 + h2

theorem abs_sub_le_of_lt_ne {r a a' : ℝ} (h : (r < a') ≠ (r < a)) : |r - a| ≤ |a' - a| := by
  rcases lt_or_ge r a with h2 | h2
  · have h1 : a' ≤ r := not_lt.mp fun h1 => h (propext ⟨fun _ => h2, fun _ => h1⟩)
    rw [abs_of_neg (by linarith), abs_of_nonpos (by linarith)]
    linarith
  · have h1 : r < a' := by_contra fun h1 => h (propext ⟨fun x => absurd x h1, fun x => absurd x (not_lt.mpr h2)⟩)
    rw [abs_of_nonneg (by linarith), abs_of_pos (by linarith)]
    linarith

/-- the (exactly evaluated) acceptance probabilities of the two rounded exponents differ by at most the exponent bound -/
theorem C10_round_alpha (sm : StdModel rnd u η) (β l lp f c : ℝ) (hβ0 : 0 ≤ β) (hβ1 : β ≤ 1) :
    |min 1 (Real.exp (chain rnd β (rnd (lp + c) - rnd (l + c)) f)) - min 1 (Real.exp (chain rnd β (lp - l) f))|
      ≤ u * (β * (8 * |lp - l| + 2 * (|l| + |lp|) + 4 * |c|) + 8 * |f|) + 11 * η :=
  (min_one_exp_lipschitz _ _).trans (C10_round_exponent sm β l lp f c hβ0 hβ1)

/-- an accept/reject decision `r < α` of the shifted run can differ from the unshifted one only if `r` lies within the
    exponent bound of `α` -/
theorem C10_round_decision (sm : StdModel rnd u η) (β l lp f c r : ℝ) (hβ0 : 0 ≤ β) (hβ1 : β ≤ 1)
    (hflip : (r < min 1 (Real.exp (chain rnd β (rnd (lp + c) - rnd (l + c)) f)))
      ≠ (r < min 1 (Real.exp (chain rnd β (lp - l) f)))) :
    |r - min 1 (Real.exp (chain rnd β (lp - l) f))|
      ≤ u * (β * (8 * |lp - l| + 2 * (|l| + |lp|) + 4 * |c|) + 8 * |f|) + 11 * η :=
  (abs_sub_le_of_lt_ne hflip).trans (C10_round_alpha sm β l lp f c hβ0 hβ1)

/-- non-vacuity: exact arithmetic is a `StdModel` (u = η = 0: the bound collapses to the exact theorem) -/
theorem stdModel_id : StdModel id 0 0 := ⟨le_rfl, by norm_num, le_rfl, by intro x; simp⟩

example (β l lp f c : ℝ) (hβ0 : 0 ≤ β) (hβ1 : β ≤ 1) :
    chain id β (id (lp + c) - id (l + c)) f = chain id β (lp - l) f := by
  have := C10_round_exponent stdModel_id β l lp f c hβ0 hβ1
  simp only [zero_mul, mul_zero, add_zero] at this
  have h0 := abs_nonneg (chain id β (id (lp + c) - id (l + c)) f - chain id β (lp - l) f)
  exact sub_eq_zero.mp (abs_eq_zero.mp (le_antisymm this h0))

/-- rounding to the nearest multiple of `1/4` (ties up) satisfies H_round with u = 0, η = 1/8 -/
noncomputable def rndQ (x : ℝ) : ℝ := (⌊4 * x + 1 / 2⌋ : ℝ) / 4

theorem stdModel_rndQ : StdModel rndQ 0 (1 / 8) := by
  refine ⟨le_rfl, by norm_num, by norm_num, fun x => ?_⟩
  have h1 := Int.floor_le (4 * x + 1 / 2)
  have h2 := Int.lt_floor_add_one (4 * x + 1 / 2)
  rw [zero_mul, zero_add, rndQ, abs_le]
  constructor
  · linear_combination (1 / 4) * h2.le
  · linear_combination (1 / 4) * h1

/-- … and under it the shift by `c = 1000.3` (not on the grid) really changes the computed exponent, within the bound -/
example : |chain rndQ (1 / 2) (rndQ (3 + 1000.3) - rndQ (1 + 1000.3)) 0 - chain rndQ (1 / 2) (3 - 1) 0|
    ≤ 0 * ((1 / 2) * (8 * |(3 : ℝ) - 1| + 2 * (|(1 : ℝ)| + |(3 : ℝ)|) + 4 * |(1000.3 : ℝ)|) + 8 * |(0 : ℝ)|) + 11 * (1 / 8) :=
  C10_round_exponent stdModel_rndQ (1 / 2) 1 3 0 1000.3 (by norm_num) (by norm_num)

/-! ### stability of the ESS the temperature search evaluates, when the stored data of the shifted run carry rounding errors -/

open Props.C04 (WF mix specRaw specNorm sumW)

/-- the stored history of the shifted run as it really is: every `ℓ` is `ℓ + c + ε(ℓ)` (for the harness' likelihood
    `ε(ℓ) = rnd(ℓ + c) − (ℓ + c)`), every recorded evidence is `z_t + β_t c + ζ_t` -/
def pertB (c : ℝ) (ε : ℝ → ℝ) (ζ : Batch ℝ → ℝ) (b : Batch ℝ) : Batch ℝ :=
  ⟨b.beta, b.logz + b.beta * c + ζ b, b.logl.map fun l => l + c + ε l⟩
def pertH (c : ℝ) (ε : ℝ → ℝ) (ζ : Batch ℝ → ℝ) (h : List (Batch ℝ)) : List (Batch ℝ) := h.map (pertB c ε ζ)

theorem pert_zero (c : ℝ) (h : List (Batch ℝ)) : pertH c (fun _ => 0) (fun _ => 0) h = Props.C04.shiftH c h := by
  simp [pertH, pertB, Props.C04.shiftH, Props.C04.shiftB]

theorem nTotal_pert (c : ℝ) (ε : ℝ → ℝ) (ζ : Batch ℝ → ℝ) (h : List (Batch ℝ)) : nTotal (pertH c ε ζ h) = nTotal h :=
  nTotal_map _ (fun _ => List.length_map _) h

theorem WF_pert (c : ℝ) (ε : ℝ → ℝ) (ζ : Batch ℝ → ℝ) (h : List (Batch ℝ)) (hwf : WF h) : WF (pertH c ε ζ h) :=
  ⟨by simpa [pertH] using hwf.1, List.forall_mem_map.mpr fun b hb => by simpa [pertB] using hwf.2 b hb⟩

theorem flatLogl_pert (c : ℝ) (ε : ℝ → ℝ) (ζ : Batch ℝ → ℝ) (h : List (Batch ℝ)) :
    flatLogl (pertH c ε ζ h) = (flatLogl h).map fun l => l + c + ε l :=
  flatLogl_map _ _ (fun _ => rfl) h

theorem sum_map_le_mul {X : Type} (xs : List X) (f g : X → ℝ) (k : ℝ) (h : ∀ x ∈ xs, g x ≤ k * f x) :
    (xs.map g).sum ≤ k * (xs.map f).sum :=
  (List.sum_le_sum h).trans_eq (List.sum_map_mul_left ..)

theorem exp_le_of_abs_sub_le {a b k : ℝ} (h : |a - b| ≤ k) : Real.exp a ≤ Real.exp k * Real.exp b := by
  rw [← Real.exp_add]
  exact Real.exp_le_exp.mpr (by linarith [le_abs_self (a - b)])

theorem mix_pert (c e : ℝ) (ε : ℝ → ℝ) (ζ : Batch ℝ → ℝ) (h : List (Batch ℝ)) (l : ℝ)
    (hε : |ε l| ≤ e) (hζ : ∀ b ∈ h, |ζ b| ≤ e) (hβ : ∀ b ∈ h, 0 ≤ b.beta ∧ b.beta ≤ 1) :
    mix (pertH c ε ζ h) (l + c + ε l) ≤ Real.exp (2 * e) * mix h l ∧
    mix h l ≤ Real.exp (2 * e) * mix (pertH c ε ζ h) (l + c + ε l) := by
  unfold mix
  rw [nTotal_pert]
  simp only [pertH, List.map_map, Function.comp_def, pertB, List.length_map]
  -- the exponent of every term moves by `β_t ε(ℓ) − ζ_t`
  have key : ∀ b ∈ h, |(b.beta * (l + c + ε l) - (b.logz + b.beta * c + ζ b)) - (b.beta * l - b.logz)| ≤ 2 * e := by
    intro b hb
    rw [show (b.beta * (l + c + ε l) - (b.logz + b.beta * c + ζ b)) - (b.beta * l - b.logz) = b.beta * ε l - ζ b by ring]
    linarith [hζ b hb, abs_sub (b.beta * ε l) (ζ b), abs_mul_le_of_le_one (hβ b hb).1 (hβ b hb).2 hε]
  have term : ∀ {n x y : ℝ}, 0 ≤ n → |x - y| ≤ 2 * e →
      n * Real.exp x ≤ Real.exp (2 * e) * (n * Real.exp y) := by
    intro n x y hn hxy
    rw [mul_left_comm]
    exact mul_le_mul_of_nonneg_left (exp_le_of_abs_sub_le hxy) hn
  constructor <;> apply sum_map_le_mul <;> intro b hb
  · exact term (by positivity) (key b hb)
  · exact term (by positivity) ((abs_sub_comm _ _).trans_le (key b hb))

theorem specRaw_pert (c e : ℝ) (ε : ℝ → ℝ) (ζ : Batch ℝ → ℝ) (h : List (Batch ℝ)) (hwf : WF h) (β l : ℝ)
    (hε : |ε l| ≤ e) (hζ : ∀ b ∈ h, |ζ b| ≤ e) (hβh : ∀ b ∈ h, 0 ≤ b.beta ∧ b.beta ≤ 1) (hβ0 : 0 ≤ β) (hβ1 : β ≤ 1) :
    |specRaw (pertH c ε ζ h) β (l + c + ε l) - (specRaw h β l + β * c)| ≤ 3 * e := by
  obtain ⟨m1, m2⟩ := mix_pert c e ε ζ h l hε hζ hβh
  have hp := Props.C04.mix_pos h hwf l
  have hp' := Props.C04.mix_pos (pertH c ε ζ h) (WF_pert c ε ζ h hwf) (l + c + ε l)
  have l1 := Real.log_le_log hp' m1
  have l2 := Real.log_le_log hp m2
  rw [Real.log_mul (Real.exp_pos _).ne' hp.ne', Real.log_exp] at l1
  rw [Real.log_mul (Real.exp_pos _).ne' hp'.ne', Real.log_exp] at l2
  have h4 := abs_le.mp (abs_mul_le_of_le_one hβ0 hβ1 hε)
  unfold specRaw
  rw [abs_le]
  constructor
  · linear_combination h4.1 + l1
  · linear_combination h4.2 + l2

theorem ess_ratio {X : Type} (xs : List X) (f : X → ℝ) (_hpos : 0 < (xs.map f).sum) :
    Model.Ess.ess (xs.map f) = (xs.map f).sum ^ 2 / (xs.map fun x => f x * f x).sum := by
  rw [Props.C20.ess_eq_kish, List.map_map, sq]; rfl

theorem ess_perturb {X : Type} (xs : List X) (hne : xs ≠ []) (f g : X → ℝ) (d : ℝ) (hf : ∀ x ∈ xs, 0 < f x)
    (h1 : ∀ x ∈ xs, g x ≤ Real.exp d * f x) (h2 : ∀ x ∈ xs, f x ≤ Real.exp d * g x) :
    Model.Ess.ess (xs.map g) ≤ Real.exp (4 * d) * Model.Ess.ess (xs.map f) := by
  have hg : ∀ x ∈ xs, 0 < g x := fun x hx =>
    pos_of_mul_pos_right ((hf x hx).trans_le (h2 x hx)) (Real.exp_pos d).le
  have sumpos : ∀ (k : X → ℝ), (∀ x ∈ xs, 0 < k x) → 0 < (xs.map k).sum := fun k hk =>
    List.sum_pos _ (List.forall_mem_map.mpr hk) (mt List.map_eq_nil_iff.mp hne)
  have S1 := sumpos f hf
  have T1 := sumpos g hg
  have S2 := sumpos (fun x => f x * f x) (fun x hx => mul_pos (hf x hx) (hf x hx))
  have T2 := sumpos (fun x => g x * g x) (fun x hx => mul_pos (hg x hx) (hg x hx))
  -- Σg ≤ e^d Σf and Σf² ≤ e^{2d} Σg², so (Σg)² Σf² ≤ e^{4d} (Σf)² Σg²
  have a1 : (xs.map g).sum ≤ Real.exp d * (xs.map f).sum := sum_map_le_mul xs f g _ h1
  have a2 : (xs.map fun x => f x * f x).sum ≤ Real.exp d ^ 2 * (xs.map fun x => g x * g x).sum := by
    apply sum_map_le_mul
    intro x hx
    have hh := h2 x hx
    rw [sq, mul_mul_mul_comm]
    exact mul_le_mul hh hh (hf x hx).le ((hf x hx).le.trans hh)
  have e4 : Real.exp (4 * d) = Real.exp d ^ 4 := by simpa using Real.exp_nat_mul d 4
  rw [ess_ratio xs g T1, ess_ratio xs f S1, ← mul_div_assoc, div_le_div_iff₀ T2 S2, e4]
  calc (xs.map g).sum ^ 2 * (xs.map fun x => f x * f x).sum
      ≤ (Real.exp d * (xs.map f).sum) ^ 2 * (Real.exp d ^ 2 * (xs.map fun x => g x * g x).sum) :=
        mul_le_mul (pow_le_pow_left₀ T1.le a1 2) a2 S2.le (sq_nonneg _)
    _ = Real.exp d ^ 4 * (xs.map f).sum ^ 2 * (xs.map fun x => g x * g x).sum := by ring

/-- the ESS `_compute_metric_and_weights` returns is the ESS of `exp(unnormalised log-weight)` (normalisation and the
    max-shift are positive rescalings) -/
theorem oracleM_ess (h : List (Batch ℝ)) (hwf : WF h) (β : ℝ) :
    (oracleM h β).2.1 = Model.Ess.ess ((flatLogl h).map fun l => Real.exp (specRaw h β l)) := by
  have hl := Props.C04.C04_normalised h hwf β
  cases hf : flatLogl h with
  | nil => exact absurd hf (Props.C04.flatLogl_ne_nil h hwf)
  | cons x xs =>
    rw [hf, List.map_cons] at hl
    -- a normalised log-weight minus the maximum is the unnormalised one plus a constant, which the ESS does not see
    have e : ((x :: xs).map (specNorm h β)).map
          (fun v => ScT.exp (Sc.sub v (Model.Ess.maxOf (specNorm h β x) (xs.map (specNorm h β)))))
        = ((x :: xs).map (specRaw h β)).map fun y =>
            Real.exp (y + (-Real.log (sumW h β) - Model.Ess.maxOf (specNorm h β x) (xs.map (specNorm h β)))) := by
      rw [List.map_map, List.map_map]
      exact List.map_congr_left fun l _ => by
        simp only [Function.comp, sc_real, specNorm]
        exact congrArg Real.exp (by ring)
    rw [Lemmas.Pipeline.oracleM_snd, Lemmas.Pipeline.oracleM_fst_of_cons hl, ← List.map_cons (f := specNorm h β), e,
      Model.Ess.ess_map_exp_add, List.map_map]
    rfl

/-- **how far rounding of the stored data can move the temperature search**: at every trial β ∈ [0,1] the ESS computed
    from the history of the shifted run (stored values within `e` of `ℓ + c`, `z_t + β_t c`) is within the factor
    `exp(±12e)` of the ESS of the unshifted run; a comparison `ESS ≥ target` / `ESS < target` of the bisection can
    therefore come out differently only if the unshifted ESS is within that relative distance of the target -/
theorem C10_round_ess_stable (c e : ℝ) (ε : ℝ → ℝ) (ζ : Batch ℝ → ℝ) (h : List (Batch ℝ)) (hwf : WF h) (β : ℝ)
    (hε : ∀ l ∈ flatLogl h, |ε l| ≤ e) (hζ : ∀ b ∈ h, |ζ b| ≤ e) (hβh : ∀ b ∈ h, 0 ≤ b.beta ∧ b.beta ≤ 1)
    (hβ0 : 0 ≤ β) (hβ1 : β ≤ 1) :
    (oracleM (pertH c ε ζ h) β).2.1 ≤ Real.exp (12 * e) * (oracleM h β).2.1 ∧
    (oracleM h β).2.1 ≤ Real.exp (12 * e) * (oracleM (pertH c ε ζ h) β).2.1 := by
  rw [oracleM_ess h hwf β, oracleM_ess _ (WF_pert c ε ζ h hwf) β, flatLogl_pert, List.map_map]
  have hne := Props.C04.flatLogl_ne_nil h hwf
  -- the unshifted weights times the common factor `exp(β c)` have the same ESS
  have hsc : Model.Ess.ess ((flatLogl h).map fun l => Real.exp (specRaw h β l + β * c))
      = Model.Ess.ess ((flatLogl h).map fun l => Real.exp (specRaw h β l)) := by
    simpa only [List.map_map, Function.comp_def] using Model.Ess.ess_map_exp_add ((flatLogl h).map (specRaw h β)) (β * c)
  rw [← hsc, show 12 * e = 4 * (3 * e) by ring]
  have key : ∀ l ∈ flatLogl h, |specRaw (pertH c ε ζ h) β (l + c + ε l) - (specRaw h β l + β * c)| ≤ 3 * e :=
    fun l hl => specRaw_pert c e ε ζ h hwf β l (hε l hl) hζ hβh hβ0 hβ1
  have key' : ∀ l ∈ flatLogl h, |specRaw h β l + β * c - specRaw (pertH c ε ζ h) β (l + c + ε l)| ≤ 3 * e :=
    fun l hl => (abs_sub_comm _ _).trans_le (key l hl)
  exact ⟨ess_perturb _ hne _ _ (3 * e) (fun l _ => Real.exp_pos _)
      (fun l hl => exp_le_of_abs_sub_le (key l hl)) (fun l hl => exp_le_of_abs_sub_le (key' l hl)),
    ess_perturb _ hne _ _ (3 * e) (fun l _ => Real.exp_pos _)
      (fun l hl => exp_le_of_abs_sub_le (key' l hl)) (fun l hl => exp_le_of_abs_sub_le (key l hl))⟩

/-- with no error the factor is 1: the exact theorem `C10_oracleM_shift` (ESS component) is the case `e = 0` -/
example (c : ℝ) (h : List (Batch ℝ)) (hwf : WF h) (hβh : ∀ b ∈ h, 0 ≤ b.beta ∧ b.beta ≤ 1) (β : ℝ) (hβ0 : 0 ≤ β) (hβ1 : β ≤ 1) :
    (oracleM (Props.C04.shiftH c h) β).2.1 = (oracleM h β).2.1 := by
  have := C10_round_ess_stable c 0 (fun _ => 0) (fun _ => 0) h hwf β (by simp) (by simp) hβh hβ0 hβ1
  rw [pert_zero] at this
  simp only [mul_zero, Real.exp_zero, one_mul] at this
  exact le_antisymm this.1 this.2

/-- the hypotheses are met by the concrete history of `Props.C04` with rounding to multiples of 1/4 as `ε` -/
example : (oracleM (pertH 1000.3 (fun l => rndQ (l + 1000.3) - (l + 1000.3)) (fun _ => 1 / 8) Props.C04.h0) 1).2.1
    ≤ Real.exp (12 * (1 / 8)) * (oracleM Props.C04.h0 1).2.1 := by
  refine (C10_round_ess_stable 1000.3 (1 / 8) _ _ Props.C04.h0 Props.C04.wf_h0 1 ?_ ?_ ?_ (by norm_num) le_rfl).1
  · intro l _
    have := stdModel_rndQ.err (l + 1000.3)
    simpa using this
  · intro b _; norm_num [abs_le]
  · intro b hb
    simp only [Props.C04.h0, List.mem_cons, List.not_mem_nil, or_false] at hb
    rcases hb with rfl | rfl <;> norm_num

end Props.C10Round
