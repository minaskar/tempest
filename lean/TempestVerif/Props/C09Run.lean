import TempestVerif.Model.RngRun
import Mathlib.Data.List.Basic
/-
  C09, run level — adaptive effect programs (`Model.RngRun`): the number of draws and the branch taken may depend on the
  numbers drawn so far, as in the real sampler.  For EVERY generator (any family of deterministic state transformers): a
  program that starts by seeding is a function of the seed alone; a program without seeding leaves the process-wide stream
  ON THE ORBIT of the state it found (`C09_seedfree_on_orbit`).  The statements about successive iterations, the mixture
  model's private generator and checkpoint save / resume (with the rule before db2b14b, finding F31) are read off these two.
-/
namespace Props.C09
open Model.RngRun

variable {K S V R A B : Type}

/-! ### semantics of `bind` -/

theorem run_bind (g : KGen K S V) (p : Prog K S V A) (f : A → Prog K S V B) (st : St S) :
    run g (p.bind f) st =
      ⟨(run g (f (run g p st).res) (run g p st).st).st, (run g (f (run g p st).res) (run g p st).st).res,
        (run g p st).log ++ (run g (f (run g p st).res) (run g p st).st).log⟩ := by
  -- each event is consed onto the log of the continuation: `e :: (l ++ l') = (e :: l) ++ l'` holds by computation
  induction p generalizing st with
  | ret r => rfl
  | draw k c ih => exact congrArg (Out.cons _) (ih _ _)
  | seed n c ih => exact congrArg (Out.cons _) (ih _)
  | pnew n c ih => exact congrArg (Out.cons _) (ih _)
  | pdraw k c ih =>
    obtain ⟨gl, _ | ps⟩ := st
    · exact congrArg (Out.cons _) (ih _ _)
    · exact congrArg (Out.cons _) (ih _ _)
  | getst c ih => exact ih _ _
  | setst s c ih => exact congrArg (Out.cons _) (ih _)

theorem run_bind_st (g : KGen K S V) (p : Prog K S V A) (f : A → Prog K S V B) (st : St S) :
    (run g (p.bind f) st).st = (run g (f (run g p st).res) (run g p st).st).st := by
  rw [run_bind]

theorem run_bind_ret (g : KGen K S V) (p : Prog K S V A) (f : A → B) (st : St S) :
    run g (p.bind fun a => .ret (f a)) st = ⟨(run g p st).st, f (run g p st).res, (run g p st).log⟩ := by
  rw [run_bind]; exact congrArg (Out.mk _ _) (List.append_nil _)

theorem Prog.bind_assoc (p : Prog K S V A) (f : A → Prog K S V B) (h : B → Prog K S V R) :
    (p.bind f).bind h = p.bind fun a => (f a).bind h := by
  induction p with
  | ret r => rfl
  | draw k c ih => exact congrArg (Prog.draw k) (funext ih)
  | seed n c ih => exact congrArg (Prog.seed n) ih
  | pnew n c ih => exact congrArg (Prog.pnew n) ih
  | pdraw k c ih => exact congrArg (Prog.pdraw k) (funext ih)
  | getst c ih => exact congrArg Prog.getst (funext ih)
  | setst s c ih => exact congrArg (Prog.setst s) ih

/-! ### the readings of a log (`gkinds`, `gvals`, `pvals`, `hasGseed`) and the stream functions (`advance`, `emit`) on appends -/

theorem gkinds_append (l l' : List (Ev K V)) : gkinds (l ++ l') = gkinds l ++ gkinds l' := by
  induction l with
  | nil => rfl
  | cons e l ih =>
    cases e with
    | g k v => exact congrArg (_ :: ·) ih
    | _ => exact ih

theorem gkinds_bind (g : KGen K S V) (p : Prog K S V A) (f : A → Prog K S V B) (st : St S) :
    gkinds (run g (p.bind f) st).log =
      gkinds (run g p st).log ++ gkinds (run g (f (run g p st).res) (run g p st).st).log := by
  rw [run_bind, gkinds_append]

theorem gkinds_flatten (L : List (List (Ev K V))) : gkinds L.flatten = (L.map gkinds).flatten := by
  induction L with
  | nil => rfl
  | cons x L ih => exact (gkinds_append x L.flatten).trans (congrArg (gkinds x ++ ·) ih)

theorem gvals_append (l l' : List (Ev K V)) : gvals (l ++ l') = gvals l ++ gvals l' := by
  induction l with
  | nil => rfl
  | cons e l ih =>
    cases e with
    | g k v => exact congrArg (_ :: ·) ih
    | _ => exact ih

theorem pvals_append (l l' : List (Ev K V)) : pvals (l ++ l') = pvals l ++ pvals l' := by
  induction l with
  | nil => rfl
  | cons e l ih =>
    cases e with
    | p k v => exact congrArg (_ :: ·) ih
    | _ => exact ih

theorem hasGseed_append (l l' : List (Ev K V)) : hasGseed (l ++ l') = (hasGseed l || hasGseed l') := by
  induction l with
  | nil => rfl
  | cons e l ih =>
    cases e with
    | gseed n => rfl
    | grestore => rfl
    | _ => exact ih

theorem advance_append (g : KGen K S V) (ks ks' : List K) (s : S) :
    advance g (ks ++ ks') s = advance g ks' (advance g ks s) := by
  induction ks generalizing s with
  | nil => rfl
  | cons k ks ih => exact ih _

theorem emit_append (g : KGen K S V) (ks ks' : List K) (s : S) :
    emit g (ks ++ ks') s = emit g ks s ++ emit g ks' (advance g ks s) := by
  induction ks generalizing s with
  | nil => rfl
  | cons k ks ih => exact congrArg (_ :: ·) (ih _)

theorem emit_length (g : KGen K S V) (ks : List K) (s : S) : (emit g ks s).length = ks.length := by
  induction ks generalizing s with
  | nil => rfl
  | cons k ks ih => exact congrArg (· + 1) (ih _)

theorem gvals_length (l : List (Ev K V)) : (gvals l).length = (gkinds l).length := by
  induction l with
  | nil => rfl
  | cons e l ih =>
    cases e with
    | g k v => exact congrArg (· + 1) ih
    | _ => exact ih

/-! ### programs that never seed the process-wide stream -/

inductive SeedFree : Prog K S V R → Prop where
  | ret (r : R) : SeedFree (.ret r)
  | draw (k : K) (c : V → Prog K S V R) : (∀ v, SeedFree (c v)) → SeedFree (.draw k c)
  | pnew (n : Nat) (c : Prog K S V R) : SeedFree c → SeedFree (.pnew n c)
  | pdraw (k : K) (c : V → Prog K S V R) : (∀ v, SeedFree (c v)) → SeedFree (.pdraw k c)
  | getst (c : S → Prog K S V R) : (∀ s, SeedFree (c s)) → SeedFree (.getst c)

theorem SeedFree.bind {p : Prog K S V A} {f : A → Prog K S V B} (hp : SeedFree p) (hf : ∀ a, SeedFree (f a)) :
    SeedFree (p.bind f) := by
  induction hp with
  | ret r => exact hf r
  | draw k c _ ih => exact .draw k _ ih
  | pnew n c _ ih => exact .pnew n _ ih
  | pdraw k c _ ih => exact .pdraw k _ ih
  | getst c _ ih => exact .getst _ ih

theorem seedFree_draw1 (k : K) : SeedFree (draw1 k : Prog K S V V) := .draw k _ fun v => .ret v
theorem seedFree_pdraw1 (k : K) : SeedFree (pdraw1 k : Prog K S V V) := .pdraw k _ fun v => .ret v

theorem seedFree_drawN (k : K) (n : Nat) : SeedFree (drawN k n : Prog K S V (List V)) := by
  induction n with
  | zero => exact .ret _
  | succ n ih => exact .draw k _ fun v => ih.bind fun vs => .ret _

theorem seedFree_pdrawN (k : K) (n : Nat) : SeedFree (pdrawN k n : Prog K S V (List V)) := by
  induction n with
  | zero => exact .ret _
  | succ n ih => exact .pdraw k _ fun v => ih.bind fun vs => .ret _

theorem seedFree_iterate (cont : A → Bool) (iter : A → Prog K S V A) (h : ∀ d, SeedFree (iter d)) (n : Nat) (d : A) :
    SeedFree (iterate cont iter n d) := by
  induction n generalizing d with
  | zero => exact .ret _
  | succ n ih =>
    simp only [iterate]
    split
    · exact (h d).bind ih
    · exact .ret _

theorem seedFree_iterateN (iter : A → Prog K S V A) (h : ∀ d, SeedFree (iter d)) (n : Nat) (d : A) :
    SeedFree (iterateN iter n d) := by
  induction n generalizing d with
  | zero => exact .ret _
  | succ n ih => exact (h d).bind fun d' => (ih d').bind fun ds => .ret _

/-- **No reset, adaptive form.**  A program without seeding leaves the process-wide stream on the orbit of the state it
    found: the post-state is the pre-state advanced by exactly the requests it consumed, the values it drew are that
    segment of the stream, and its log holds no seeding event.  (The number and kinds of requests may depend on the
    values drawn — `gkinds` is read off the log of THIS execution.) -/
theorem C09_seedfree_on_orbit (g : KGen K S V) {p : Prog K S V R} (hp : SeedFree p) (st : St S) :
    (run g p st).st.glob = advance g (gkinds (run g p st).log) st.glob ∧
    gvals (run g p st).log = emit g (gkinds (run g p st).log) st.glob ∧
    hasGseed (run g p st).log = false := by
  -- a process-wide draw puts its kind in front of `gkinds`, its value in front of `gvals`, and advances the state by one
  -- request: both sides of each equation step together; every other event leaves all three readings alone
  induction hp generalizing st with
  | ret r => exact ⟨rfl, rfl, rfl⟩
  | draw k c _ ih =>
    have := ih (g.next k st.glob).2 { st with glob := (g.next k st.glob).1 }
    exact ⟨this.1, congrArg (_ :: ·) this.2.1, this.2.2⟩
  | pnew n c _ ih => exact ih _
  | pdraw k c _ ih =>
    obtain ⟨gl, _ | ps⟩ := st
    · have := ih (g.next k gl).2 ⟨(g.next k gl).1, none⟩
      exact ⟨this.1, congrArg (_ :: ·) this.2.1, this.2.2⟩
    · exact ih _ _
  | getst c _ ih => exact ih _ _

/-- … so the numbers drawn afterwards still depend on the seed in force before: two ambient states whose streams never
    meet are taken to different states -/
theorem C09_seedfree_distinct_orbits (g : KGen K S V) {p : Prog K S V R} (hp : SeedFree p) (s s' : S) (pr pr' : Option S)
    (horb : ∀ ks ks', advance g ks s ≠ advance g ks' s') :
    (run g p ⟨s, pr⟩).st.glob ≠ (run g p ⟨s', pr'⟩).st.glob := by
  rw [(C09_seedfree_on_orbit g hp ⟨s, pr⟩).1, (C09_seedfree_on_orbit g hp ⟨s', pr'⟩).1]
  exact horb _ _

/-- **Seeded ⇒ reproducible, adaptive form.**  A program that begins by seeding the process-wide stream yields the same
    final generator state, result and log (every value drawn) whatever the ambient state was. -/
theorem C09_seeded_deterministic_adaptive (g : KGen K S V) (a : Nat) (p : Prog K S V R) (s s' : S) (pr : Option S) :
    run g (.seed a p) ⟨s, pr⟩ = run g (.seed a p) ⟨s', pr⟩ := rfl

/-- … and everything it draws is the stream of that seed, consumed from position 0 without gaps -/
theorem C09_seeded_log_is_stream (g : KGen K S V) (a : Nat) {p : Prog K S V R} (hp : SeedFree p) (st : St S) :
    (run g (.seed a p) st).st.glob = advance g (gkinds (run g (.seed a p) st).log) (g.seed a) ∧
    gvals (run g (.seed a p) st).log = emit g (gkinds (run g (.seed a p) st).log) (g.seed a) := by
  have := C09_seedfree_on_orbit g hp { st with glob := g.seed a }
  exact ⟨this.1, this.2.1⟩

/-- Why the straight-line theorem `C09_no_reseed_injective` does not carry over: with an INJECTIVE generator step, a
    seed-free adaptive program can still send two different ambient states to the same state (it draws once more when the
    first value is 0).  "Depends on the seed in force before" therefore has to be the orbit statement above. -/
theorem C09_adaptive_not_injective :
    ∃ (g : KGen Unit Nat Nat) (p : Prog Unit Nat Nat Unit), (∀ k, Function.Injective fun s => (g.next k s).1) ∧ SeedFree p ∧
      (run g p ⟨0, none⟩).st.glob = (run g p ⟨1, none⟩).st.glob := by
  refine ⟨⟨fun _ s => (s + 1, s), fun n => n⟩,
    .draw () fun v => if v = 0 then .draw () fun _ => .ret () else .ret (), ?_, ?_, ?_⟩
  · exact fun k s s' h => Nat.add_right_cancel h
  · refine .draw _ _ fun v => ?_
    split
    · exact .draw _ _ fun _ => .ret _
    · exact .ret _
  · rfl

/-! ### array-valued calls, and the mixture model's private generator

  What a seed-free program does to the process-wide stream follows from the requests it makes (`C09_seedfree_on_orbit`);
  these lemmas state the requests, and what happens to the private slot. -/

theorem run_drawN (g : KGen K S V) (k : K) (n : Nat) (st : St S) :
    (run g (drawN k n) st).st.priv = st.priv ∧ gkinds (run g (drawN k n) st).log = List.replicate n k := by
  induction n generalizing st with
  | zero => exact ⟨rfl, rfl⟩
  | succ n ih =>
    obtain ⟨h1, h2⟩ := ih { st with glob := (g.next k st.glob).1 }
    have e : run g (drawN k (n + 1)) st = (Out.mk _ _ _).cons _ := congrArg (Out.cons _) (run_bind_ret g (drawN k n) _ _)
    rw [e]
    exact ⟨h1, congrArg (_ :: ·) h2⟩

theorem gkinds_drawN (g : KGen K S V) (k : K) (n : Nat) (st : St S) :
    gkinds (run g (drawN k n) st).log = List.replicate n k := (run_drawN g k n st).2

theorem gvals_drawN (g : KGen K S V) (k : K) (n : Nat) (st : St S) :
    gvals (run g (drawN k n) st).log = emit g (List.replicate n k) st.glob := by
  rw [(C09_seedfree_on_orbit g (seedFree_drawN k n) st).2.1, gkinds_drawN]

theorem run_pdrawN_private (g : KGen K S V) (k : K) (n : Nat) (st : St S) (ps : S) (hps : st.priv = some ps) :
    (run g (pdrawN k n) st).st.priv = some (advance g (List.replicate n k) ps) ∧
    gkinds (run g (pdrawN k n) st).log = [] ∧
    pvals (run g (pdrawN k n) st).log = emit g (List.replicate n k) ps := by
  induction n generalizing st ps with
  | zero => obtain ⟨gl, pv⟩ := st; cases hps; exact ⟨rfl, rfl, rfl⟩
  | succ n ih =>
    obtain ⟨gl, pv⟩ := st
    cases hps
    obtain ⟨h1, h2, h3⟩ := ih ⟨gl, some (g.next k ps).1⟩ (g.next k ps).1 rfl
    have e : run g (pdrawN k (n + 1)) ⟨gl, some ps⟩ = (Out.mk _ _ _).cons _ :=
      congrArg (Out.cons _) (run_bind_ret g (pdrawN k n) _ _)
    rw [e]
    exact ⟨h1, h2, congrArg (_ :: ·) h3⟩

theorem run_pdrawN_global (g : KGen K S V) (k : K) (n : Nat) (st : St S) (hps : st.priv = none) :
    run g (pdrawN k n) st = run g (drawN k n) st := by
  induction n generalizing st with
  | zero => rfl
  | succ n ih =>
    simp only [pdrawN, drawN, run, hps, run_bind]
    rw [ih ⟨_, none⟩ rfl]

theorem run_gmmInits_succ (g : KGen K S V) (u : K) (nComp n : Nat) (st : St S) :
    run g (gmmInits u nComp (n + 1)) st =
      ⟨(run g (gmmInits u nComp n) (run g (pdrawN u nComp) st).st).st,
        (run g (pdrawN u nComp) st).res :: (run g (gmmInits u nComp n) (run g (pdrawN u nComp) st).st).res,
        (run g (pdrawN u nComp) st).log ++ (run g (gmmInits u nComp n) (run g (pdrawN u nComp) st).st).log⟩ := by
  show run g ((pdrawN u nComp).bind _) st = _
  rw [run_bind, run_bind_ret]

theorem seedFree_gmmInits (u : K) (nComp nInit : Nat) : SeedFree (gmmInits u nComp nInit : Prog K S V _) := by
  induction nInit with
  | zero => exact .ret _
  | succ n ih => exact (seedFree_pdrawN u nComp).bind fun r => ih.bind fun rs => .ret _

theorem seedFree_gmmFit (u : K) (rs : Option Nat) (nInit nComp : Nat) : SeedFree (gmmFit u rs nInit nComp : Prog K S V _) := by
  cases rs with
  | none => exact seedFree_gmmInits u nComp nInit
  | some k => exact .pnew k _ (seedFree_gmmInits u nComp nInit)

theorem run_gmmInits_private (g : KGen K S V) (u : K) (nComp nInit : Nat) (st : St S) (ps : S) (hps : st.priv = some ps) :
    (run g (gmmInits u nComp nInit) st).st.priv = some (advance g (List.replicate (nInit * nComp) u) ps) ∧
    gkinds (run g (gmmInits u nComp nInit) st).log = [] ∧
    pvals (run g (gmmInits u nComp nInit) st).log = emit g (List.replicate (nInit * nComp) u) ps := by
  induction nInit generalizing st ps with
  | zero => rw [Nat.zero_mul]; exact ⟨hps, rfl, rfl⟩
  | succ n ih =>
    obtain ⟨h1, h2, h3⟩ := run_pdrawN_private g u nComp st ps hps
    obtain ⟨i1, i2, i3⟩ := ih (run g (pdrawN u nComp) st).st _ h1
    rw [run_gmmInits_succ, Nat.succ_mul, Nat.add_comm, List.replicate_add, advance_append, emit_append, gkinds_append,
      pvals_append, h2, h3, i1, i2, i3]
    exact ⟨rfl, rfl, rfl⟩

/-- **A fit with a `random_state` never touches the process-wide stream**: `GaussianMixture(random_state=k).fit`
    creates a private generator and draws its `n_init × n_components` initialisation numbers from it; the process-wide
    state is unchanged, nothing is drawn from it and it is not reseeded. -/
theorem C09_gmm_seeded_fit_global_untouched (g : KGen K S V) (u : K) (k nInit nComp : Nat) (st : St S) :
    (run g (gmmFit u (some k) nInit nComp) st).st.glob = st.glob ∧
    gkinds (run g (gmmFit u (some k) nInit nComp) st).log = [] ∧
    hasGseed (run g (gmmFit u (some k) nInit nComp) st).log = false := by
  obtain ⟨-, h2, -⟩ := run_gmmInits_private g u nComp nInit { st with priv := some (g.seed k) } (g.seed k) rfl
  obtain ⟨o1, -, o3⟩ := C09_seedfree_on_orbit g (seedFree_gmmInits u nComp nInit) { st with priv := some (g.seed k) }
  rw [h2] at o1
  exact ⟨o1, h2, o3⟩

/-- … and, being created from the same `k` at every fit, that private generator hands out the SAME numbers at every fit,
    whatever happened before (by design: the k-means++ start is a deterministic function of the data) -/
theorem C09_gmm_seeded_fit_private_values (g : KGen K S V) (u : K) (k nInit nComp : Nat) (st : St S) :
    pvals (run g (gmmFit u (some k) nInit nComp) st).log = emit g (List.replicate (nInit * nComp) u) (g.seed k) :=
  (run_gmmInits_private g u nComp nInit { st with priv := some (g.seed k) } (g.seed k) rfl).2.2

theorem run_gmmInits_global (g : KGen K S V) (u : K) (nComp nInit : Nat) (st : St S) (hps : st.priv = none) :
    (run g (gmmInits u nComp nInit) st).st.priv = none ∧
    gkinds (run g (gmmInits u nComp nInit) st).log = List.replicate (nInit * nComp) u := by
  induction nInit generalizing st with
  | zero => rw [Nat.zero_mul]; exact ⟨hps, rfl⟩
  | succ n ih =>
    obtain ⟨h1, h2⟩ := run_drawN g u nComp st
    rw [← run_pdrawN_global g u nComp st hps] at h1 h2
    obtain ⟨i1, i2⟩ := ih (run g (pdrawN u nComp) st).st (h1.trans hps)
    rw [run_gmmInits_succ, Nat.succ_mul, Nat.add_comm, List.replicate_add, gkinds_append, h2, i2]
    exact ⟨i1, rfl⟩

/-- a fit WITHOUT `random_state` (`self._rng = np.random`) takes its `n_init × n_components` numbers from the
    process-wide stream and leaves it advanced by exactly those requests -/
theorem C09_gmm_unseeded_fit_draws_global (g : KGen K S V) (u : K) (nInit nComp : Nat) (s : S) :
    (run g (gmmFit u none nInit nComp) ⟨s, none⟩).st.glob = advance g (List.replicate (nInit * nComp) u) s ∧
    gkinds (run g (gmmFit u none nInit nComp) ⟨s, none⟩).log = List.replicate (nInit * nComp) u := by
  obtain ⟨-, h2⟩ := run_gmmInits_global g u nComp nInit ⟨s, none⟩ rfl
  have o := (C09_seedfree_on_orbit g (seedFree_gmmInits u nComp nInit) ⟨s, none⟩).1
  rw [h2] at o
  exact ⟨o, h2⟩

/-- **A clustering fit never touches the process-wide stream**: `HierarchicalGaussianMixture.fit` is a data-dependent
    sequence of `GaussianMixture(…, random_state=42).fit` calls; the process-wide state after it EQUALS the state before
    (stronger than "still depends on the seed in force before"), and no process-wide value is consumed. -/
theorem C09_hgmm_fit_global_untouched (g : KGen K S V) (u : K) (nInit : Nat) (comps : List Nat) (st : St S) :
    (run g (hgmmFit u nInit comps) st).st.glob = st.glob ∧
    gkinds (run g (hgmmFit u nInit comps) st).log = [] ∧
    hasGseed (run g (hgmmFit u nInit comps) st).log = false := by
  induction comps generalizing st with
  | nil => exact ⟨rfl, rfl, rfl⟩
  | cons c cs ih =>
    obtain ⟨h1, h2, h3⟩ := C09_gmm_seeded_fit_global_untouched g u 42 nInit c st
    obtain ⟨i1, i2, i3⟩ := ih (run g (gmmFit u (some 42) nInit c) st).st
    simp only [hgmmFit, run_bind, gkinds_append, hasGseed_append, h2, h3, i1, i2, i3, h1, List.append_nil,
      Bool.or_self, and_self]

theorem seedFree_hgmmFit (u : K) (nInit : Nat) (comps : List Nat) : SeedFree (hgmmFit u nInit comps : Prog K S V Unit) := by
  induction comps with
  | nil => exact .ret _
  | cons c cs ih => exact (seedFree_gmmFit u (some 42) nInit c).bind fun _ => ih

/-! ### `systematic_resample` -/

theorem C09_syst_unseeded_seedfree (u : K) : SeedFree (systematicResample u none : Prog K S V V) := seedFree_draw1 u

/-- the hazard the `random_state` parameter of `systematic_resample` carries (and why no call inside the package may
    pass it — `C09_no_internal_param_seed`): with a seed given, the state afterwards is the same for ALL ambient states -/
theorem C09_syst_seeded_forgets (g : KGen K S V) (u : K) (n : Nat) (s s' : S) (pr : Option S) :
    run g (systematicResample u (some n)) ⟨s, pr⟩ = run g (systematicResample u (some n)) ⟨s', pr⟩ :=
  rfl

/-! ### `run_sampling`: fresh, continued, seeded and unseeded runs -/

theorem seedFree_initFresh_none : SeedFree (initFresh none : Prog K S V Unit) := .ret _

theorem runSampling_history (rs : Option Nat) {hh : A → Bool} {d0 : A} (h0 : hh d0 = true) (cont : A → Bool)
    (iter : A → Prog K S V A) (fuel : Nat) : runSampling rs none hh cont iter fuel d0 = iterate cont iter fuel d0 :=
  if_pos h0

theorem runSampling_fresh (rs : Option Nat) {hh : A → Bool} {d0 : A} (h0 : hh d0 = false) (cont : A → Bool)
    (iter : A → Prog K S V A) (fuel : Nat) :
    runSampling rs none hh cont iter fuel d0 = (initFresh rs).bind fun _ => iterate cont iter fuel d0 :=
  if_neg (h0 ▸ Bool.false_ne_true)

theorem iterate_succ {cont : A → Bool} {d : A} (hc : cont d = true) (iter : A → Prog K S V A) (n : Nat) :
    iterate cont iter (n + 1) d = (iter d).bind (iterate cont iter n) :=
  if_pos hc

theorem seed_iterate_drawN (a : Nat) {cont : A → Bool} {d : A} (hc : cont d = true) (k : K) (n : Nat)
    (rest : A → List V → Prog K S V A) (f : Nat) :
    Prog.seed a (iterate cont (fun d => (drawN k n).bind (rest d)) (f + 1) d) =
      .seed a ((drawN k n).bind fun vs => (rest d vs).bind (iterate cont (fun d => (drawN k n).bind (rest d)) f)) :=
  congrArg (Prog.seed a) ((iterate_succ hc _ f).trans (Prog.bind_assoc _ _ _))

/-- **Reproducibility of a fresh seeded run**: with `random_state = a` the whole run — final generator state, final
    data state (history, weights, evidence live there) and every value drawn — is the same whatever the ambient
    process-wide state was.  No assumption on the iteration program. -/
theorem C09_run_fresh_deterministic (g : KGen K S V) (a : Nat) (hh : A → Bool) (cont : A → Bool)
    (iter : A → Prog K S V A) (fuel : Nat) (d0 : A) (h0 : hh d0 = false) (s s' : S) (pr : Option S) :
    run g (runSampling (some a) none hh cont iter fuel d0) ⟨s, pr⟩ =
      run g (runSampling (some a) none hh cont iter fuel d0) ⟨s', pr⟩ := by
  rw [runSampling_fresh (some a) h0]; rfl

/-- … and its innovations are exactly the stream of `a` from position 0: nothing skipped, nothing from elsewhere
    (needs the iterations to be seed-free, which is what the call-graph obligation on the regenerated table says) -/
theorem C09_run_fresh_log_is_stream (g : KGen K S V) (a : Nat) (hh : A → Bool) (cont : A → Bool) (iter : A → Prog K S V A)
    (hiter : ∀ d, SeedFree (iter d)) (fuel : Nat) (d0 : A) (h0 : hh d0 = false) (st : St S) :
    let o := run g (runSampling (some a) none hh cont iter fuel d0) st
    o.st.glob = advance g (gkinds o.log) (g.seed a) ∧ gvals o.log = emit g (gkinds o.log) (g.seed a) := by
  rw [runSampling_fresh (some a) h0]
  exact C09_seeded_log_is_stream g a (seedFree_iterate cont iter hiter fuel d0) st

/-- an UNSEEDED run (`random_state=None`) continues the ambient stream: it ends on the orbit of the ambient state -/
theorem C09_run_unseeded_on_orbit (g : KGen K S V) (hh : A → Bool) (cont : A → Bool) (iter : A → Prog K S V A)
    (hiter : ∀ d, SeedFree (iter d)) (fuel : Nat) (d0 : A) (st : St S) :
    let o := run g (runSampling none none hh cont iter fuel d0) st
    o.st.glob = advance g (gkinds o.log) st.glob ∧ gvals o.log = emit g (gkinds o.log) st.glob ∧ hasGseed o.log = false := by
  cases h : hh d0
  · rw [runSampling_fresh none h]
    exact C09_seedfree_on_orbit g (seedFree_iterate cont iter hiter fuel d0) st
  · rw [runSampling_history none h]
    exact C09_seedfree_on_orbit g (seedFree_iterate cont iter hiter fuel d0) st

/-- different seeds give different runs as soon as the first number the run draws distinguishes them
    (adaptive version of `C09_different_seeds_differ`; the first RNG event of a fresh run is the prior draw of the first
    warm-up iteration) -/
theorem C09_run_different_seeds_differ (g : KGen K S V) (a b : Nat) (hh : A → Bool) (cont : A → Bool) (k : K)
    (c : A → V → Prog K S V A) (fuel : Nat) (d0 : A) (h0 : hh d0 = false) (hc : cont d0 = true) (st : St S)
    (hfirst : (g.next k (g.seed a)).2 ≠ (g.next k (g.seed b)).2) :
    gvals (run g (runSampling (some a) none hh cont (fun d => .draw k (c d)) (fuel + 1) d0) st).log ≠
      gvals (run g (runSampling (some b) none hh cont (fun d => .draw k (c d)) (fuel + 1) d0) st).log := by
  rw [runSampling_fresh (some a) h0, runSampling_fresh (some b) h0, iterate_succ hc]
  exact fun h => hfirst (List.cons.inj h).1

/-! ### checkpoint save / resume -/

/-- saving reads the position and nothing else: state unchanged, empty log, the checkpoint holds the current state -/
theorem C09_save_reads_position (g : KGen K S V) (d : A) (st : St S) :
    (run g (saveState d : Prog K S V _) st).st = st ∧ (run g (saveState d : Prog K S V _) st).log = [] ∧
    (run g (saveState d : Prog K S V _) st).res = ⟨some st.glob, d⟩ :=
  ⟨rfl, rfl, rfl⟩

theorem seedFree_saveState (d : A) : SeedFree (saveState d : Prog K S V (Ckpt S A)) := .getst _ fun _ => .ret _

theorem iterate_of_not_cont {cont : A → Bool} {d : A} (hc : ¬ cont d = true) (iter : A → Prog K S V A) (n : Nat) :
    iterate cont iter n d = .ret d := by
  cases n
  · rfl
  · exact if_neg hc

/-- the loop can be cut anywhere: `k + m` iterations = `k` iterations, then `m` more from where they stopped
    (if the loop condition fails early, the remaining fuel does nothing) -/
theorem iterate_add (cont : A → Bool) (iter : A → Prog K S V A) (k m : Nat) (d : A) :
    iterate cont iter (k + m) d = (iterate cont iter k d).bind (iterate cont iter m) := by
  induction k generalizing d with
  | zero => rw [Nat.zero_add]; rfl
  | succ k ih =>
    rw [Nat.succ_add]
    by_cases hc : cont d = true
    · rw [iterate_succ hc, iterate_succ hc, Prog.bind_assoc]
      exact congrArg _ (funext ih)
    · rw [iterate_of_not_cont hc, iterate_of_not_cont hc]
      exact (iterate_of_not_cont hc iter m).symm

/-- **A resumed run continues the writer's stream at the save point and reproduces the uninterrupted run**, whatever the
    ambient stream and the constructor's `random_state` at resume time: same final generator and data state as `k + m`
    uninterrupted iterations, and its log is one restore event followed by EXACTLY the uninterrupted log after the save point.
    (`hpriv`: in the package every `GaussianMixture` is a fresh object, so the private slot never carries over.) -/
theorem C09_resume_continues_stream (g : KGen K S V) (rs : Option Nat) (hh : A → Bool) (cont : A → Bool) (iter : A → Prog K S V A)
    (k m : Nat) (d0 d0' : A) (st0 st' : St S)
    (hpriv : st'.priv = (run g (iterate cont iter k d0) st0).st.priv) :
    let w := run g (iterate cont iter k d0) st0                       -- the writer up to the save point
    let full := run g (iterate cont iter (k + m) d0) st0               -- the uninterrupted run
    let res := run g (runSampling rs (some ⟨some w.st.glob, w.res⟩) hh cont iter m d0') st'
    res.st = full.st ∧ res.res = full.res ∧ full.log = w.log ++ res.log.tail ∧ res.log.head? = some .grestore := by
  -- the restore puts the process-wide slot to the writer's; with the private slot equal (`hpriv`) the states coincide
  have hst : ({ st' with glob := (run g (iterate cont iter k d0) st0).st.glob } : St S) =
      (run g (iterate cont iter k d0) st0).st := by
    obtain ⟨gl, pv⟩ := st'
    exact hpriv ▸ rfl
  show (run g (.setst _ (iterate cont iter m _)) st').st = _ ∧ _
  rw [iterate_add, run_bind]
  exact hst ▸ ⟨rfl, rfl, rfl, rfl⟩

/-- … in particular the numbers the resumed iterations receive are the segment of the writer's stream that starts at the
    save position: no innovation of the first `k` iterations is drawn again -/
theorem C09_resume_no_replay (g : KGen K S V) (rs : Option Nat) (hh : A → Bool) (cont : A → Bool) (iter : A → Prog K S V A)
    (hiter : ∀ d, SeedFree (iter d)) (k m : Nat) (d0 d0' : A) (st0 st' : St S) :
    let w := run g (iterate cont iter k d0) st0
    let res := run g (runSampling rs (some ⟨some w.st.glob, w.res⟩) hh cont iter m d0') st'
    gvals res.log = emit g (gkinds res.log) (advance g (gkinds w.log) st0.glob) := by
  have hw := (C09_seedfree_on_orbit g (seedFree_iterate cont iter hiter k d0) st0).1
  have := (C09_seedfree_on_orbit g (seedFree_iterate cont iter hiter m (run g (iterate cont iter k d0) st0).res)
    { st' with glob := (run g (iterate cont iter k d0) st0).st.glob }).2.1
  intro w res
  change gvals (run g (iterate cont iter m w.res) { st' with glob := w.st.glob }).log =
    emit g (gkinds (run g (iterate cont iter m w.res) { st' with glob := w.st.glob }).log) _
  rw [← hw]
  exact this

/-- the resumed run is a function of the checkpoint alone: ambient stream and constructor seed are irrelevant -/
theorem C09_run_resume_deterministic (g : KGen K S V) (sck : S) (rs rs' : Option Nat) (hh : A → Bool) (cont : A → Bool)
    (iter : A → Prog K S V A) (fuel : Nat) (d0 d0' dck : A) (s s' : S) (pr : Option S) :
    run g (runSampling rs (some ⟨some sck, dck⟩) hh cont iter fuel d0) ⟨s, pr⟩ =
      run g (runSampling rs' (some ⟨some sck, dck⟩) hh cont iter fuel d0') ⟨s', pr⟩ :=
  rfl

/-- a checkpoint WITHOUT a stored position (written before db2b14b) is resumed on the ambient stream: no seeding, no
    restore — the run ends on the orbit of the ambient state -/
theorem C09_run_resume_legacy_on_orbit (g : KGen K S V) (rs : Option Nat) (hh : A → Bool) (cont : A → Bool)
    (iter : A → Prog K S V A) (hiter : ∀ d, SeedFree (iter d)) (fuel : Nat) (d0 dck : A) (st : St S) :
    let o := run g (runSampling rs (some ⟨none, dck⟩) hh cont iter fuel d0) st
    o.st.glob = advance g (gkinds o.log) st.glob ∧ hasGseed o.log = false := by
  have := C09_seedfree_on_orbit g (seedFree_iterate cont iter hiter fuel dck) st
  exact ⟨this.1, this.2.2⟩

/-- two programs that seed with the same value and then begin with array draws of the same kind receive the same numbers,
    as far as the shorter of the two draws reaches — whatever else differs between them -/
theorem C09_same_seed_same_first_draws (g : KGen K S V) (a : Nat) (k : K) (n n' : Nat) (hn : n ≤ n')
    (f : List V → Prog K S V A) (f' : List V → Prog K S V B) (st st' : St S) :
    (gvals (run g (.seed a ((drawN k n).bind f)) st).log).take n =
      (gvals (run g (.seed a ((drawN k n').bind f')) st').log).take n := by
  have h4 := gvals_drawN g k n { st with glob := g.seed a }
  have h4' := gvals_drawN g k n' { st' with glob := g.seed a }
  show (gvals (run g ((drawN k n).bind f) _).log).take n = (gvals (run g ((drawN k n').bind f') _).log).take n
  rw [run_bind, run_bind, gvals_append, gvals_append, h4, h4']
  have hsplit : List.replicate n' k = List.replicate n k ++ List.replicate (n' - n) k := by
    rw [← List.replicate_add]; congr 1; omega
  rw [List.take_left' (by rw [emit_length, List.length_replicate]), hsplit, emit_append, List.append_assoc,
    List.take_left' (by rw [emit_length, List.length_replicate])]

/-- **The rule before db2b14b replayed the stream** (finding `F31_resume_replays_stream`, repaired): the old resume reseeded
    with the stored `a`, so a resumed iteration that began, like the first one, with `n` draws of kind `k` (the prior batch
    `np.random.rand(N, D)` while still in warm-up) received the very same `n` numbers. -/
theorem C09_old_reseed_replays (g : KGen K S V) (a : Nat) (hh : A → Bool) (cont : A → Bool) (k : K) (n : Nat)
    (rest : A → List V → Prog K S V A) (fuel fuel' : Nat) (d0 dck : A) (h0 : hh d0 = false) (hc0 : cont d0 = true)
    (hck : cont dck = true) (st st' : St S) :
    (gvals (run g (runSampling (some a) none hh cont (fun d => (drawN k n).bind (rest d)) (fuel + 1) d0) st).log).take n =
      (gvals (run g (runSamplingOldResume (some a) cont (fun d => (drawN k n).bind (rest d)) (fuel' + 1) dck) st').log).take n := by
  have := C09_same_seed_same_first_draws g a k n n (Nat.le_refl n)
    (fun vs => (rest d0 vs).bind (iterate cont (fun d => (drawN k n).bind (rest d)) fuel))
    (fun vs => (rest dck vs).bind (iterate cont (fun d => (drawN k n).bind (rest d)) fuel')) st st'
  rw [← seed_iterate_drawN a hc0, ← seed_iterate_drawN a hck] at this
  rw [runSampling_fresh (some a) h0]
  exact this

/-- … whereas under the present rule the log of the resumed run is one restore event followed by the log of the loop run
    from the writer's generator state at the save point (not from the seed state) -/
theorem C09_resume_starts_at_save_position (g : KGen K S V) (rs : Option Nat) (hh : A → Bool) (cont : A → Bool)
    (iter : A → Prog K S V A) (k m : Nat) (d0 d0' : A) (st0 st' : St S) :
    let w := run g (iterate cont iter k d0) st0
    ∀ l, (run g (runSampling rs (some ⟨some w.st.glob, w.res⟩) hh cont iter m d0') st').log = .grestore :: l →
      l = (run g (iterate cont iter m w.res) { st' with glob := w.st.glob }).log :=
  fun l h => (List.cons.inj h).2.symm

/-- **Before aeb0399 a second `run()` of a seeded sampler restarted the stream** (finding `F34_rerun_reseeds_stream`,
    repaired): the no-resume branch of `run_sampling` seeded also when the sampler already held a history (after a first
    `run()` or after `load_state()`), so the second run, beginning with `n' ≥ n` draws of the same kind (the training resample),
    received again the `n` numbers that made the first batch. -/
theorem C09_rerun_replays_stream_old (g : KGen K S V) (a : Nat) (cont : A → Bool) (k : K) (n n' : Nat) (hn : n ≤ n')
    (rest rest' : A → List V → Prog K S V A) (fuel fuel' : Nat) (d0 d1 : A) (hc0 : cont d0 = true) (hc1 : cont d1 = true)
    (st st' : St S) :
    (gvals (run g (runSamplingOldFresh (some a) cont (fun d => (drawN k n).bind (rest d)) (fuel + 1) d0) st).log).take n =
      (gvals (run g (runSamplingOldFresh (some a) cont (fun d => (drawN k n').bind (rest' d)) (fuel' + 1) d1) st').log).take n := by
  have := C09_same_seed_same_first_draws g a k n n' hn
    (fun vs => (rest d0 vs).bind (iterate cont (fun d => (drawN k n).bind (rest d)) fuel))
    (fun vs => (rest' d1 vs).bind (iterate cont (fun d => (drawN k n').bind (rest' d)) fuel')) st st'
  rw [← seed_iterate_drawN a hc0, ← seed_iterate_drawN a hc1] at this
  exact this

/-- **A run seeds only before the first committed batch**: a `run()` that finds a history (a state was loaded, or a finished
    run is extended) does not seed and does not restore — it continues the stream it finds, whatever `random_state` is -/
theorem C09_run_with_history_continues (g : KGen K S V) (rs : Option Nat) (hh : A → Bool) (cont : A → Bool)
    (iter : A → Prog K S V A) (hiter : ∀ d, SeedFree (iter d)) (fuel : Nat) (d0 : A) (h0 : hh d0 = true) (st : St S) :
    let o := run g (runSampling rs none hh cont iter fuel d0) st
    o.st.glob = advance g (gkinds o.log) st.glob ∧ gvals o.log = emit g (gkinds o.log) st.glob ∧ hasGseed o.log = false := by
  rw [runSampling_history rs h0]
  exact C09_seedfree_on_orbit g (seedFree_iterate cont iter hiter fuel d0) st

/-- the manual flow of the user guide, `load_state(path); run()`, IS `run(resume_state_path=path)`: same streams, same data,
    same log (the loaded data state holds a history, so `run()` takes the continue branch) -/
theorem C09_load_then_run_is_resume (g : KGen K S V) (rs : Option Nat) (hh : A → Bool) (cont : A → Bool)
    (iter : A → Prog K S V A) (fuel : Nat) (ck : Ckpt S A) (d0 : A) (hck : hh ck.data = true) (st : St S) :
    run g ((loadState ck.rng).bind fun _ => runSampling rs none hh cont iter fuel ck.data) st =
      run g (runSampling rs (some ck) hh cont iter fuel d0) st := by
  rw [runSampling_history rs hck]; rfl

/-- extending a finished run: `run()` for `k` iterations and `run()` again for `m` more (the data state now holds a history)
    is the single run of `k + m` iterations — same final streams and data, logs concatenated, nothing replayed -/
theorem C09_second_run_continues (g : KGen K S V) (rs : Option Nat) (hh : A → Bool) (cont : A → Bool)
    (iter : A → Prog K S V A) (k m : Nat) (d0 : A) (st : St S)
    (h1 : hh (run g (runSampling rs none hh cont iter k d0) st).res = true) :
    let first := run g (runSampling rs none hh cont iter k d0) st
    let second := run g (runSampling rs none hh cont iter m first.res) first.st
    let single := run g (runSampling rs none hh cont iter (k + m) d0) st
    second.st = single.st ∧ second.res = single.res ∧ single.log = first.log ++ second.log := by
  cases h0 : hh d0
  · -- fresh first run: seeding, then the loop
    simp only [runSampling_fresh rs h0] at h1 ⊢
    simp only [runSampling_history rs h1]
    simp only [iterate_add cont iter k m, run_bind, List.append_assoc, and_self]
  · simp only [runSampling_history rs h0] at h1 ⊢
    simp only [runSampling_history rs h1]
    simp only [iterate_add cont iter k m, run_bind, and_self]

/-! ### successive iterations: consecutive, disjoint segments of one stream -/

theorem take_flatten_prefix {α : Type} (L : List (List α)) (i : Nat) :
    (L.take i).flatten = L.flatten.take ((L.take i).flatten.length) := by
  have h : L.flatten = (L.take i).flatten ++ (L.drop i).flatten := by
    rw [← List.flatten_append, List.take_append_drop]
  rw [h]
  exact (List.take_left' rfl).symm

theorem flatten_take_length_le {α : Type} (L : List (List α)) (i : Nat) : (L.take i).flatten.length ≤ L.flatten.length :=
  take_flatten_prefix L i ▸ List.length_take_le' _ _

theorem flatten_take_length_lt {α : Type} (L : List (List α)) (i j : Nat) (hij : i < j) (hj : j ≤ L.length)
    (hpos : ∀ x ∈ L, x ≠ []) : ((L.take i).flatten).length < ((L.take j).flatten).length := by
  induction L generalizing i j with
  | nil => exact absurd (Nat.lt_of_lt_of_le hij hj) (Nat.not_lt_zero i)
  | cons x L ih =>
    cases j with
    | zero => exact absurd hij (Nat.not_lt_zero i)
    | succ j =>
      have hx : 0 < x.length := List.length_pos_iff.mpr (hpos x List.mem_cons_self)
      rw [List.take_succ_cons, List.flatten_cons, List.length_append]
      cases i with
      | zero => exact Nat.lt_of_lt_of_le hx (Nat.le_add_right _ _)
      | succ i =>
        rw [List.take_succ_cons, List.flatten_cons, List.length_append]
        exact Nat.add_lt_add_left (ih i j (Nat.lt_of_succ_lt_succ hij) (Nat.le_of_succ_le_succ hj)
          fun y hy => hpos y (List.mem_cons_of_mem _ hy)) _

/-- the logs of the successive iterations of `iterateN` -/
def iterLogs (g : KGen K S V) (iter : A → Prog K S V A) : Nat → A → St S → List (List (Ev K V))
  | 0, _, _ => []
  | n + 1, d, st => (run g (iter d) st).log :: iterLogs g iter n (run g (iter d) st).res (run g (iter d) st).st

theorem iterLogs_length (g : KGen K S V) (iter : A → Prog K S V A) (n : Nat) (d : A) (st : St S) :
    (iterLogs g iter n d st).length = n := by
  induction n generalizing d st with
  | zero => rfl
  | succ n ih => exact congrArg (· + 1) (ih _ _)

theorem mem_iterLogs {g : KGen K S V} {iter : A → Prog K S V A} {n : Nat} {d : A} {st : St S} {l : List (Ev K V)}
    (h : l ∈ iterLogs g iter n d st) : ∃ d' st', l = (run g (iter d') st').log := by
  induction n generalizing d st with
  | zero => exact nomatch h
  | succ n ih =>
    rcases List.mem_cons.mp h with rfl | h
    · exact ⟨d, st, rfl⟩
    · exact ih h

theorem run_iterateN_log (g : KGen K S V) (iter : A → Prog K S V A) (n : Nat) (d : A) (st : St S) :
    (run g (iterateN iter n d) st).log = (iterLogs g iter n d st).flatten := by
  induction n generalizing d st with
  | zero => rfl
  | succ n ih =>
    show (run g ((iter d).bind _) st).log = _
    rw [run_bind, run_bind_ret, ih]; rfl

/-- **Successive iterations never replay**: in a run whose iterations do not seed, iteration `i` receives the segment of
    the stream that starts where iterations `0 … i-1` stopped (offset = the number of requests they consumed) and is as long
    as what it consumes itself.  Segments of different iterations are therefore consecutive and disjoint. -/
theorem C09_iterations_consume_consecutive_segments (g : KGen K S V) (iter : A → Prog K S V A)
    (hiter : ∀ d, SeedFree (iter d)) (n : Nat) (d : A) (st : St S) (i : Nat) (hi : i < n) :
    let logs := iterLogs g iter n d st
    gvals (logs[i]'(by rw [iterLogs_length]; exact hi)) =
      emit g (gkinds (logs[i]'(by rw [iterLogs_length]; exact hi)))
        (advance g (gkinds (logs.take i).flatten) st.glob) := by
  induction n generalizing d st i with
  | zero => exact absurd hi (Nat.not_lt_zero i)
  | succ n ih =>
    obtain ⟨h1, h2, _⟩ := C09_seedfree_on_orbit g (hiter d) st
    cases i with
    | zero => exact h2
    | succ i =>
      have := ih (run g (iter d) st).res (run g (iter d) st).st i (Nat.lt_of_succ_lt_succ hi)
      simp only [iterLogs, List.getElem_cons_succ, List.take_succ_cons, List.flatten_cons, gkinds_append, advance_append]
      rw [← h1]
      exact this

/-- generator states at which the successive iterations start -/
def iterStarts (g : KGen K S V) (iter : A → Prog K S V A) : Nat → A → St S → List S
  | 0, _, _ => []
  | n + 1, d, st => st.glob :: iterStarts g iter n (run g (iter d) st).res (run g (iter d) st).st

theorem iterStarts_eq (g : KGen K S V) (iter : A → Prog K S V A) (hiter : ∀ d, SeedFree (iter d)) (n : Nat) (d : A)
    (st : St S) (i : Nat) (hi : i < n) :
    (iterStarts g iter n d st)[i]? = some (advance g (gkinds ((iterLogs g iter n d st).take i).flatten) st.glob) := by
  induction n generalizing d st i with
  | zero => exact absurd hi (Nat.not_lt_zero i)
  | succ n ih =>
    cases i with
    | zero => rfl
    | succ i =>
      have := ih (run g (iter d) st).res (run g (iter d) st).st i (Nat.lt_of_succ_lt_succ hi)
      simp only [iterStarts, iterLogs, List.getElem?_cons_succ, List.take_succ_cons, List.flatten_cons, gkinds_append,
        advance_append]
      rw [← (C09_seedfree_on_orbit g (hiter d) st).1]
      exact this

/-- … and if, in addition, every iteration draws at least once and the stream does not return to an earlier state
    within the requests the run consumes (true of MT19937 for any feasible run: period 2^19937−1), then no two iterations
    start from the same generator state — none can receive the numbers an earlier one received. -/
theorem C09_iteration_starts_distinct (g : KGen K S V) (iter : A → Prog K S V A) (hiter : ∀ d, SeedFree (iter d))
    (n : Nat) (d : A) (st : St S)
    (hdraws : ∀ l ∈ iterLogs g iter n d st, gkinds l ≠ [])
    (hnocycle : ∀ p q, p < q → q ≤ (gkinds (iterLogs g iter n d st).flatten).length →
      advance g ((gkinds (iterLogs g iter n d st).flatten).take p) st.glob ≠
        advance g ((gkinds (iterLogs g iter n d st).flatten).take q) st.glob)
    (i j : Nat) (hij : i < j) (hj : j < n) :
    (iterStarts g iter n d st)[i]? ≠ (iterStarts g iter n d st)[j]? := by
  rw [iterStarts_eq g iter hiter n d st i (Nat.lt_trans hij hj), iterStarts_eq g iter hiter n d st j hj]
  -- iteration t starts after the requests of the first t logs: a prefix of all requests, strictly longer for a later t
  have e : ∀ t, gkinds ((iterLogs g iter n d st).take t).flatten = (gkinds (iterLogs g iter n d st).flatten).take
      ((((iterLogs g iter n d st).map gkinds).take t).flatten.length) := fun t => by
    rw [gkinds_flatten, gkinds_flatten, List.map_take]; exact take_flatten_prefix _ _
  rw [e i, e j]
  refine fun h => hnocycle _ _ (flatten_take_length_lt _ i j hij ?_ ?_) ?_ (Option.some.inj h)
  · rw [List.length_map, iterLogs_length]; exact Nat.le_of_lt hj
  · exact fun x hx => by obtain ⟨l, hl, rfl⟩ := List.mem_map.mp hx; exact hdraws l hl
  · rw [gkinds_flatten]; exact flatten_take_length_le _ j

/-! ### non-vacuity -/

/-- a toy generator: linear congruential state, the value handed out is the old state mod 4 -/
def lcgK : KGen Unit Nat Nat := ⟨fun _ s => ((5 * s + 3) % 16, s % 4), fun k => k % 16⟩

/-- an adaptive program: draws once more when the first value is 0 -/
def adaptiveEx : Prog Unit Nat Nat Nat := .draw () fun v => if v = 0 then .draw () fun w => .ret (v + w) else .ret v

example : SeedFree adaptiveEx := by
  refine .draw _ _ fun v => ?_
  split
  · exact .draw _ _ fun _ => .ret _
  · exact .ret _
-- the two ambient states 4 and 1 take different branches (2 draws / 1 draw), each ends on its own orbit
example : gkinds (run lcgK adaptiveEx ⟨4, none⟩).log = [(), ()] ∧ gkinds (run lcgK adaptiveEx ⟨1, none⟩).log = [()] := by decide +kernel
example : (run lcgK adaptiveEx ⟨4, none⟩).st.glob = advance lcgK [(), ()] 4 := by decide +kernel
-- seeded: same result from ambient states 4 and 1
example : (run lcgK (.seed 7 adaptiveEx) ⟨4, none⟩).log = (run lcgK (.seed 7 adaptiveEx) ⟨1, none⟩).log ∧
    (run lcgK (.seed 7 adaptiveEx) ⟨4, none⟩).res = (run lcgK (.seed 7 adaptiveEx) ⟨1, none⟩).res ∧
    (run lcgK (.seed 7 adaptiveEx) ⟨4, none⟩).st.glob = (run lcgK (.seed 7 adaptiveEx) ⟨1, none⟩).st.glob := by decide +kernel
-- a fit with random_state: process-wide state untouched, two private values; without: two process-wide values
example : (run lcgK (gmmFit () (some 42) 1 2) ⟨5, none⟩).st.glob = 5 ∧
    (pvals (run lcgK (gmmFit () (some 42) 1 2) ⟨5, none⟩).log).length = 2 := by decide +kernel
example : gkinds (run lcgK (gmmFit () none 1 2) ⟨5, none⟩).log = [(), ()] := by decide +kernel
-- the OLD resume rule: the run resumed with the stored seed 7 drew the numbers the fresh run drew first
example :
    (gvals (run lcgK (runSampling (some 7) none (fun d => 0 < d) (fun d => d < 3) (fun d => (drawN () 2).bind fun _ => .ret (d + 1)) 5 0) ⟨1, none⟩).log).take 2
      = (gvals (run lcgK (runSamplingOldResume (some 7) (fun d => d < 3) (fun d => (drawN () 2).bind fun _ => .ret (d + 1)) 5 2) ⟨9, none⟩).log).take 2 := by
  decide +kernel
-- the present rule: save after 1 iteration, resume for 2 more = the uninterrupted 3 iterations (state, result, log suffix)
example :
    let it : Nat → Prog Unit Nat Nat Nat := fun d => (drawN () 2).bind fun _ => .ret (d + 1)
    let w := run lcgK (iterate (fun d => d < 3) it 1 0) ⟨7, none⟩
    let full := run lcgK (iterate (fun d => d < 3) it 3 0) ⟨7, none⟩
    let res := run lcgK (runSampling none (some ⟨some w.st.glob, w.res⟩) (fun d => 0 < d) (fun d => d < 3) it 2 0) ⟨9, none⟩
    res.st.glob = full.st.glob ∧ res.res = full.res ∧ full.log = w.log ++ res.log.tail := by decide +kernel
-- extending a finished run: seeded run for 1 iteration, `run()` again for 2 more (history non-empty: no seeding) = one run of 3
example :
    let it : Nat → Prog Unit Nat Nat Nat := fun d => (drawN () 2).bind fun _ => .ret (d + 1)
    let first := run lcgK (runSampling (some 7) none (fun d => 0 < d) (fun d => d < 3) it 1 0) ⟨1, none⟩
    let second := run lcgK (runSampling (some 7) none (fun d => 0 < d) (fun d => d < 3) it 2 first.res) first.st
    let single := run lcgK (runSampling (some 7) none (fun d => 0 < d) (fun d => d < 3) it 3 0) ⟨1, none⟩
    second.st.glob = single.st.glob ∧ second.res = single.res ∧ single.log = first.log ++ second.log ∧
      hasGseed second.log = false := by decide +kernel
-- successive iterations: positions 0, 2, 4 of one stream
example : iterStarts lcgK (fun d => (drawN () 2).bind fun _ => .ret (d + 1)) 3 0 ⟨1, none⟩ = [1, advance lcgK [(), ()] 1, advance lcgK [(), (), (), ()] 1] := by
  decide +kernel

end Props.C09
