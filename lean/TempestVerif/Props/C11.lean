import TempestVerif.Model.Warmup
import TempestVerif.Model.WarmupR
import TempestVerif.Lemmas.ScReal
import TempestVerif.Lemmas.MIS
import TempestVerif.Lemmas.Records
import Mathlib.Algebra.BigOperators.Pi
import Mathlib.Data.Fintype.BigOperators
import Mathlib.Analysis.SpecialFunctions.Log.Basic
/-
  C11 — zero-likelihood prior regions are excluded and counted exactly once.
  Linear-space model (Z = exp logz) of the warm-up phase: a batch that had −inf draws, or for which blocks were drawn again
  (/repo 959029e), SETS its evidence to `n_finite / n_drawn`; every other batch records the harmonic mean `reweightZ` of the
  earlier values.  `run batchZ` is the rule without redraws, `runR` the rule of /repo 959029e; they agree when `n_drawn = n`
  (`runR_no_redraw`), so the envelope is proved once, for `runR`.  Also here: the scatter that overwrites the −inf draws
  (`C11_no_inf_stored`), the mixture-importance identity restricted to the supported region (`C11_final`), and the redraw loop
  under a map of the blocks (`drawLoop_map`; what the loop returns is in `Lemmas/WarmupR.lean`).
-/
namespace Props.C11
open Model.Warmup
open Model.Records (scatterFrom)

/-! ### the sums behind the reweighting step -/

theorem foldl_add_sum (l : List ℝ) (a : ℝ) : l.foldl (· + ·) a = a + l.sum :=
  ScReal.foldl_add l a

theorem total_eq (h : List (Nat × ℝ)) : total h = (h.map (·.1)).sum := by
  rw [total, List.sum_eq_foldl]

theorem total_cast (h : List (Nat × ℝ)) : ((total h : ℕ) : ℝ) = (h.map fun b => (b.1 : ℝ)).sum := by
  rw [total_eq, Nat.cast_list_sum, List.map_map]; rfl

theorem total_pos (h : List (Nat × ℝ)) (hne : h ≠ []) (hn : ∀ b ∈ h, 0 < b.1) : 0 < total h := by
  rw [total_eq]
  cases h with
  | nil => exact absurd rfl hne
  | cons x l =>
    have := hn x List.mem_cons_self
    rw [List.map_cons, List.sum_cons]
    omega

noncomputable def invMixAt (N : ℝ) (h : List (Nat × ℝ)) : ℝ := (h.map fun b => ((b.1 : ℝ) / N) / b.2).sum

theorem invMix_eq (h : List (Nat × ℝ)) : invMix h = invMixAt (total h : ℝ) h := by
  unfold invMix invMixAt
  simp only [sc_real]
  rw [← List.foldl_map, foldl_add_sum, zero_add]

theorem reweightZ_nil : reweightZ ([] : List (Nat × ℝ)) = 1 := by simp [reweightZ]

theorem reweightZ_of_ne_nil (h : List (Nat × ℝ)) (hne : h ≠ []) : reweightZ h = 1 / invMixAt (total h : ℝ) h := by
  have hemp : h.isEmpty = false := List.isEmpty_eq_false_iff.mpr hne
  simp only [reweightZ, hemp, Bool.false_eq_true, if_false, invMix_eq, ScReal.div_def, ScReal.one_def]

theorem reweightZ_single (n : Nat) (hn : 0 < n) (z : ℝ) : reweightZ [(n, z)] = z := by
  have hn' : (n : ℝ) ≠ 0 := by exact_mod_cast hn.ne'
  rw [reweightZ_of_ne_nil _ (List.cons_ne_nil _ _), total_cast]
  simp only [invMixAt, List.map_cons, List.map_nil, List.sum_cons, List.sum_nil, add_zero, div_self hn', one_div_one_div]

theorem reweightZ_pair (n : Nat) (hn : 0 < n) (a b : ℝ) : reweightZ [(n, a), (n, b)] = 2 / (1 / a + 1 / b) := by
  have hn' : (n : ℝ) ≠ 0 := by exact_mod_cast hn.ne'
  have h2 : (n : ℝ) / ((n : ℝ) + n) = 1 / 2 := by rw [← two_mul, div_mul_eq_div_div_swap, div_self hn']
  rw [reweightZ_of_ne_nil _ (List.cons_ne_nil _ _), total_cast]
  simp only [invMixAt, List.map_cons, List.map_nil, List.sum_cons, List.sum_nil, add_zero, h2]
  rw [show (1 : ℝ) / 2 / a + 1 / 2 / b = (1 / a + 1 / b) / 2 by ring, one_div_div]

theorem invMixAt_bounds (N lo hi : ℝ) (hN : 0 < N) (hlo : 0 < lo) (h : List (Nat × ℝ))
    (hb : ∀ b ∈ h, lo ≤ b.2 ∧ b.2 ≤ hi) :
    ((h.map (·.1)).sum : ℝ) / N / hi ≤ invMixAt N h ∧ invMixAt N h ≤ ((h.map (·.1)).sum : ℝ) / N / lo := by
  induction h with
  | nil => simp [invMixAt]
  | cons x l ih =>
    have hx := hb x (by simp)
    have hl := ih (fun b hb' => hb b (by simp [hb']))
    have hx0 : 0 < x.2 := lt_of_lt_of_le hlo hx.1
    have hn : (0 : ℝ) ≤ (x.1 : ℝ) / N := div_nonneg (Nat.cast_nonneg _) hN.le
    have e1 : (x.1 : ℝ) / N / hi ≤ (x.1 : ℝ) / N / x.2 := div_le_div_of_nonneg_left hn hx0 hx.2
    have e2 : (x.1 : ℝ) / N / x.2 ≤ (x.1 : ℝ) / N / lo := div_le_div_of_nonneg_left hn hlo hx.1
    simp only [invMixAt, List.map_cons, List.sum_cons, add_div] at *
    exact ⟨add_le_add e1 hl.1, add_le_add e2 hl.2⟩

theorem reweightZ_bounds (lo hi : ℝ) (hlo : 0 < lo) (h : List (Nat × ℝ)) (hne : h ≠ [])
    (hn : ∀ b ∈ h, 0 < b.1) (hb : ∀ b ∈ h, lo ≤ b.2 ∧ b.2 ≤ hi) :
    lo ≤ reweightZ h ∧ reweightZ h ≤ hi := by
  have hT : (0 : ℝ) < (total h : ℝ) := by exact_mod_cast total_pos h hne hn
  obtain ⟨x, hx⟩ := List.exists_mem_of_ne_nil h hne
  have hhi : 0 < hi := lt_of_lt_of_le hlo (le_trans (hb x hx).1 (hb x hx).2)
  -- the weights `n_t/N` sum to 1, so `1/hi ≤ invMixAt ≤ 1/lo`
  have hs := invMixAt_bounds (total h : ℝ) lo hi hT hlo h hb
  rw [← total_cast, div_self hT.ne'] at hs
  have hpos : 0 < invMixAt (total h : ℝ) h := lt_of_lt_of_le (by positivity) hs.1
  rw [reweightZ_of_ne_nil h hne, le_div_iff₀ hpos, div_le_iff₀ hpos]
  constructor
  · have := hs.2; rwa [le_div_iff₀ hlo, mul_comm] at this
  · have := hs.1; rwa [div_le_iff₀ hhi, mul_comm] at this

theorem reweightZ_pos (h : List (Nat × ℝ)) (hn : ∀ b ∈ h, 0 < b.1) (hz : ∀ b ∈ h, 0 < b.2) : 0 < reweightZ h := by
  cases h with
  | nil => rw [reweightZ_nil]; exact one_pos
  | cons x l =>
    have hT : (0 : ℝ) < (total (x :: l) : ℝ) := by exact_mod_cast total_pos _ (by simp) hn
    rw [reweightZ_of_ne_nil _ (by simp)]
    refine one_div_pos.mpr (List.sum_pos _ ?_ (List.cons_ne_nil _ _))
    intro t ht
    obtain ⟨b, hb, rfl⟩ := List.mem_map.mp ht
    exact div_pos (div_pos (by exact_mod_cast hn b hb) hT) (hz b hb)

/-! ### the envelope of the recorded values: counted once -/

def Inv (lo hi : ℝ) (h : List (Nat × ℝ)) : Prop := ∀ b ∈ h, 0 < b.1 ∧ lo ≤ b.2 ∧ b.2 ≤ hi

/-- a batch is admissible when it is non-empty and, if it had -inf draws, its finite fraction lies in [lo, hi] -/
def BatchOk (lo hi : ℝ) (b : Nat × Nat) : Prop :=
  0 < b.1 ∧ (b.2 < b.1 → lo ≤ (b.2 : ℝ) / (b.1 : ℝ) ∧ (b.2 : ℝ) / (b.1 : ℝ) ≤ hi)

/-- a committed batch `(n, nfin, ndrawn)` is admissible when it is non-empty and, if its evidence was SET (it had −inf draws or
    blocks were discarded), the recorded fraction `nfin/ndrawn` lies in [lo, hi] -/
def BatchOkR (lo hi : ℝ) (b : Nat × Nat × Nat) : Prop :=
  0 < b.1 ∧ ((b.2.1 < b.1 ∨ b.1 < b.2.2) → lo ≤ (b.2.1 : ℝ) / (b.2.2 : ℝ) ∧ (b.2.1 : ℝ) / (b.2.2 : ℝ) ≤ hi)

theorem batchZR_no_redraw (h : List (Nat × ℝ)) (n nfin : Nat) : batchZR h n nfin n = batchZ h n nfin := by
  simp [batchZR, batchZ]

theorem runR_no_redraw (bs : List (Nat × Nat)) : ∀ h : List (Nat × ℝ),
    runR h (bs.map fun b => (b.1, b.2, b.1)) = run batchZ h bs := by
  induction bs with
  | nil => intro h; rfl
  | cons b bs ih =>
    intro h
    obtain ⟨n, nfin⟩ := b
    simp only [List.map_cons, runR, run, batchZR_no_redraw]
    exact ih _

theorem batchZR_eq (h : List (Nat × ℝ)) (n nfin nd : Nat) :
    batchZR h n nfin nd = if nfin < n ∨ n < nd then (nfin : ℝ) / (nd : ℝ) else reweightZ h := rfl

theorem batchZR_nil (n nfin nd : Nat) :
    batchZR ([] : List (Nat × ℝ)) n nfin nd = if nfin < n ∨ n < nd then (nfin : ℝ) / (nd : ℝ) else 1 := by
  rw [batchZR_eq, reweightZ_nil]

theorem batchZR_first (n nfin nd : Nat) (hn : 0 < n) (hle : nfin ≤ n) (hnd : n ≤ nd) :
    batchZR ([] : List (Nat × ℝ)) n nfin nd = (nfin : ℝ) / (nd : ℝ) := by
  rw [batchZR_nil]
  split
  · rfl
  · have h1 : nfin = n := by omega
    have h2 : nd = n := by omega
    rw [h1, h2, div_self (by exact_mod_cast hn.ne')]

theorem batchZ_first (n nfin : Nat) (hn : 0 < n) (hle : nfin ≤ n) :
    batchZ ([] : List (Nat × ℝ)) n nfin = (nfin : ℝ) / (n : ℝ) := by
  rw [← batchZR_no_redraw, batchZR_first n nfin n hn hle (le_refl n)]

theorem run_ne_nil (bz : List (Nat × ℝ) → Nat → Nat → ℝ) (bs : List (Nat × Nat)) :
    ∀ h : List (Nat × ℝ), h ≠ [] → run bz h bs ≠ [] := by
  induction bs with
  | nil => intro h hh; simpa [run] using hh
  | cons b bs ih => intro h _; obtain ⟨n, nfin⟩ := b; simp only [run]; exact ih _ (by simp)

/-- the envelope is an invariant of the run: a set evidence is the batch's own fraction, any other one the harmonic mean of the
    earlier ones -/
theorem runR_inv (lo hi : ℝ) (hlo : 0 < lo) (bs : List (Nat × Nat × Nat)) (h : List (Nat × ℝ)) (hne : h ≠ [])
    (hh : Inv lo hi h) (hbs : ∀ b ∈ bs, BatchOkR lo hi b) : Inv lo hi (runR h bs) := by
  induction bs generalizing h with
  | nil => exact hh
  | cons b bs ih =>
    have hb := hbs b List.mem_cons_self
    refine ih _ (List.append_ne_nil_of_right_ne_nil _ (List.cons_ne_nil _ _)) ?_ fun c hc => hbs c (List.mem_cons_of_mem _ hc)
    intro c hc
    rcases List.mem_append.mp hc with hc | hc
    · exact hh c hc
    · obtain rfl := List.mem_singleton.mp hc
      refine ⟨hb.1, ?_⟩
      show lo ≤ batchZR h b.1 b.2.1 b.2.2 ∧ batchZR h b.1 b.2.1 b.2.2 ≤ hi
      rw [batchZR_eq]
      split
      · exact hb.2 ‹_›
      · exact reweightZ_bounds lo hi hlo h hne (fun b hb' => (hh b hb').1) (fun b hb' => (hh b hb').2)

theorem runR_nil_inv (lo hi : ℝ) (hlo : 0 < lo) (b0 : Nat × Nat × Nat) (rest : List (Nat × Nat × Nat)) (h0 : 0 < b0.1)
    (hz : lo ≤ batchZR ([] : List (Nat × ℝ)) b0.1 b0.2.1 b0.2.2 ∧ batchZR ([] : List (Nat × ℝ)) b0.1 b0.2.1 b0.2.2 ≤ hi)
    (hb : ∀ b ∈ rest, BatchOkR lo hi b) : Inv lo hi (runR [] (b0 :: rest)) :=
  runR_inv lo hi hlo rest _ (List.cons_ne_nil _ _)
    (fun c hc => by obtain rfl := List.mem_singleton.mp hc; exact ⟨h0, hz⟩) hb

/-- the rule without redraws: the first batch had −inf draws, or 1 itself lies in [lo, hi] (an all-finite first batch records 1) -/
theorem run_nil_inv (lo hi : ℝ) (hlo : 0 < lo) (b0 : Nat × Nat) (rest : List (Nat × Nat))
    (hb : ∀ b ∈ b0 :: rest, BatchOk lo hi b) (hfirst : b0.2 < b0.1 ∨ (lo ≤ 1 ∧ 1 ≤ hi)) :
    Inv lo hi (run batchZ [] (b0 :: rest)) := by
  have toR : ∀ b, BatchOk lo hi b → BatchOkR lo hi (b.1, b.2, b.1) := fun b h =>
    ⟨h.1, fun hset => h.2 (hset.resolve_right (lt_irrefl _))⟩
  rw [← runR_no_redraw]
  refine runR_nil_inv lo hi hlo _ _ (hb b0 List.mem_cons_self).1 ?_
    (List.forall_mem_map.mpr fun b h => toR b (hb b (List.mem_cons_of_mem _ h)))
  rw [batchZR_nil]
  split
  · exact (toR b0 (hb b0 List.mem_cons_self)).2 ‹_›
  · exact hfirst.resolve_left fun h => ‹¬ _› (Or.inl h)

/-- C11 (counted once, rule of /repo 959029e): if the first warm-up batch had its evidence set and every batch whose evidence is set
    records a fraction `n_finite/n_drawn` in [lo, hi], EVERY recorded warm-up evidence lies in [lo, hi] — however many
    warm-up iterations occur and however many blocks were discarded on the way -/
theorem C11_onceR (lo hi : ℝ) (hlo : 0 < lo) (b0 : Nat × Nat × Nat) (hfirst : b0.2.1 < b0.1 ∨ b0.1 < b0.2.2)
    (rest : List (Nat × Nat × Nat)) (hb : ∀ b ∈ b0 :: rest, BatchOkR lo hi b) :
    ∀ e ∈ runR [] (b0 :: rest), lo ≤ e.2 ∧ e.2 ≤ hi := by
  have h0 := hb b0 List.mem_cons_self
  exact fun e he => (runR_nil_inv lo hi hlo b0 rest h0.1 (by rw [batchZR_nil, if_pos hfirst]; exact h0.2 hfirst)
    (fun b h => hb b (List.mem_cons_of_mem _ h)) e he).2

/-- C11 (counted once): if the first warm-up batch had -inf draws and every batch that had -inf draws has a
    finite fraction in [lo, hi], then EVERY recorded warm-up evidence lies in [lo, hi] — however many
    warm-up iterations occur.  Nothing compounds. -/
theorem C11_once (lo hi : ℝ) (hlo : 0 < lo) (n nfin : Nat) (hfirst : nfin < n) (rest : List (Nat × Nat))
    (hb : ∀ b ∈ (n, nfin) :: rest, BatchOk lo hi b) :
    ∀ e ∈ run batchZ [] ((n, nfin) :: rest), lo ≤ e.2 ∧ e.2 ≤ hi :=
  fun e he => (run_nil_inv lo hi hlo (n, nfin) rest hb (Or.inl hfirst) e he).2

/-- … in particular, when every batch that had -inf draws shows the same fraction `f`, every recorded warm-up
    evidence is exactly `f`: the fraction is counted once -/
theorem C11_once_exact (f : ℝ) (hf : 0 < f) (n nfin : Nat) (hfirst : nfin < n) (rest : List (Nat × Nat))
    (hb : ∀ b ∈ (n, nfin) :: rest, 0 < b.1 ∧ (b.2 < b.1 → (b.2 : ℝ) / (b.1 : ℝ) = f)) :
    ∀ e ∈ run batchZ [] ((n, nfin) :: rest), e.2 = f := by
  intro e he
  have := C11_once f f hf n nfin hfirst rest
    (fun b hb' => ⟨(hb b hb').1, fun hlt => by rw [(hb b hb').2 hlt]; exact ⟨le_refl _, le_refl _⟩⟩) e he
  exact le_antisymm this.2 this.1

/-- without any assumption on the first batch: every recorded value is at least the smallest fraction and at most 1 -/
theorem C11_bounds_unit (lo : ℝ) (hlo : 0 < lo) (hlo1 : lo ≤ 1) (bs : List (Nat × Nat))
    (hb : ∀ b ∈ bs, BatchOk lo 1 b) : ∀ e ∈ run batchZ [] bs, lo ≤ e.2 ∧ e.2 ≤ 1 := by
  cases bs with
  | nil => intro e he; simp [run] at he
  | cons b rest => exact fun e he => (run_nil_inv lo 1 hlo b rest hb (Or.inr ⟨hlo1, le_refl 1⟩) e he).2

/-- … in log space (what the code stores): `log lo ≤ logz_t ≤ log hi` for every warm-up iteration -/
theorem C11_once_log (lo hi : ℝ) (hlo : 0 < lo) (n nfin : Nat) (hfirst : nfin < n) (rest : List (Nat × Nat))
    (hb : ∀ b ∈ (n, nfin) :: rest, BatchOk lo hi b) :
    ∀ e ∈ run batchZ [] ((n, nfin) :: rest), Real.log lo ≤ Real.log e.2 ∧ Real.log e.2 ≤ Real.log hi := by
  intro e he
  have h := C11_once lo hi hlo n nfin hfirst rest hb e he
  exact ⟨Real.log_le_log hlo h.1, Real.log_le_log (lt_of_lt_of_le hlo h.1) h.2⟩

/-! ### … within `ε` of the supported prior mass `f` -/

theorem abs_sub_le_iff_interval (x f ε : ℝ) : |x - f| ≤ ε ↔ f - ε ≤ x ∧ x ≤ f + ε :=
  abs_le.trans (and_congr (neg_le_sub_iff_le_add.trans sub_le_iff_le_add.symm) sub_le_iff_le_add')

/-- consistency envelope: if the finite fraction of every batch that had -inf draws is within `ε` of the supported prior
    mass `f`, so is every recorded warm-up evidence — for any number of warm-up iterations and any batch sizes -/
theorem C11_once_eps (f ε : ℝ) (hε : ε < f) (n nfin : Nat) (hfirst : nfin < n) (rest : List (Nat × Nat))
    (hb : ∀ b ∈ (n, nfin) :: rest, 0 < b.1 ∧ (b.2 < b.1 → |(b.2 : ℝ) / (b.1 : ℝ) - f| ≤ ε)) :
    ∀ e ∈ run batchZ [] ((n, nfin) :: rest), |e.2 - f| ≤ ε := by
  intro e he
  exact (abs_sub_le_iff_interval _ f ε).mpr (C11_once (f - ε) (f + ε) (sub_pos.mpr hε) n nfin hfirst rest
    (fun b hb' => ⟨(hb b hb').1, fun hlt => (abs_sub_le_iff_interval _ f ε).mp ((hb b hb').2 hlt)⟩) e he)

/-- if the recorded fraction of EVERY warm-up iteration is within `ε < f` of `f`, every recorded evidence is (no assumption on
    the first batch: one that is not set has the fraction 1) -/
theorem C11_onceR_eps_all (f ε : ℝ) (hε : ε < f) (bs : List (Nat × Nat × Nat))
    (hb : ∀ b ∈ bs, 0 < b.1 ∧ b.2.1 ≤ b.1 ∧ b.1 ≤ b.2.2 ∧ |(b.2.1 : ℝ) / (b.2.2 : ℝ) - f| ≤ ε) :
    ∀ e ∈ runR [] bs, |e.2 - f| ≤ ε := by
  cases bs with
  | nil => intro e he; simp [runR] at he
  | cons b rest =>
    obtain ⟨hn, hle, hnd, habs⟩ := hb b List.mem_cons_self
    exact fun e he => (abs_sub_le_iff_interval _ f ε).mpr (runR_nil_inv (f - ε) (f + ε) (sub_pos.mpr hε) b rest hn
      (by rw [batchZR_first _ _ _ hn hle hnd]; exact (abs_sub_le_iff_interval _ f ε).mp habs)
      (fun c hc => ⟨(hb c (List.mem_cons_of_mem _ hc)).1,
        fun _ => (abs_sub_le_iff_interval _ f ε).mp (hb c (List.mem_cons_of_mem _ hc)).2.2.2⟩) e he).2

/-- if the finite fraction of EVERY batch (also of the batches with no −inf draw, whose fraction is 1) is within `ε < f` of
    `f`, every recorded warm-up evidence is within `ε` of `f` — any number of iterations, any batch sizes -/
theorem C11_once_eps_all (f ε : ℝ) (hε : ε < f) (bs : List (Nat × Nat))
    (hb : ∀ b ∈ bs, 0 < b.1 ∧ b.2 ≤ b.1 ∧ |(b.2 : ℝ) / (b.1 : ℝ) - f| ≤ ε) :
    ∀ e ∈ run batchZ [] bs, |e.2 - f| ≤ ε := by
  rw [← runR_no_redraw]
  refine C11_onceR_eps_all f ε hε _ fun c hc => ?_
  obtain ⟨b, hb', rfl⟩ := List.mem_map.mp hc
  exact ⟨(hb b hb').1, (hb b hb').2.1, le_refl _, (hb b hb').2.2⟩

/-- `|Z − f| ≤ ε < f` in linear space gives `|log Z − log f| ≤ ε/(f − ε)` in log space (what the code stores) -/
theorem C11_log_close (f ε z : ℝ) (hε0 : 0 ≤ ε) (hε : ε < f) (hz : |z - f| ≤ ε) :
    |Real.log z - Real.log f| ≤ ε / (f - ε) := by
  have hf : 0 < f := lt_of_le_of_lt hε0 hε
  have hd : 0 < f - ε := sub_pos.mpr hε
  obtain ⟨h1, h2⟩ := (abs_sub_le_iff_interval z f ε).mp hz
  have hzpos : 0 < z := lt_of_lt_of_le hd h1
  -- `log (a/b) ≤ a/b − 1 = (a − b)/b`, with `a − b ≤ ε` and `b ≥ f − ε`, for (a, b) = (f, z) and (z, f)
  have key : ∀ a b : ℝ, 0 < a → a - b ≤ ε → f - ε ≤ b → Real.log a - Real.log b ≤ ε / (f - ε) := by
    intro a b ha hab hb
    have hb0 : 0 < b := lt_of_lt_of_le hd hb
    have h3 := Real.log_le_sub_one_of_pos (div_pos ha hb0)
    rw [Real.log_div ha.ne' hb0.ne', div_sub_one hb0.ne'] at h3
    exact h3.trans (div_le_div₀ hε0 hab hd hb)
  rw [abs_le, neg_le, neg_sub]
  exact ⟨key f z hf (sub_le_comm.mp h1) h1, key z f hzpos (sub_le_iff_le_add'.mpr h2) (sub_le_self f hε0)⟩

/-! ### the rule of /repo before 787b496 (`batchZOld`), and a batch without a finite draw -/

/-- finding F7: `batchZOld` (the rule of /repo before 787b496: the correction is MULTIPLIED onto the history-based estimate)
    records 1/2 and then 1/4 for two half-supported batches; `batchZ` records 1/2 twice -/
theorem C11_old_rule_compounded :
    (run batchZOld ([] : List (Nat × ℝ)) [(2, 1), (2, 1)]).map (·.2) = [1 / 2, 1 / 4] ∧
    (run batchZ ([] : List (Nat × ℝ)) [(2, 1), (2, 1)]).map (·.2) = [1 / 2, 1 / 2] := by
  constructor
  · simp [run, batchZOld, reweightZ_single, reweightZ_nil]; norm_num
  · simp [run, batchZ]

/-- finding F8: under `batchZ` a batch with no finite draw records Z = 0 (logz = -inf) -/
theorem C11_all_inf_batch (h : List (Nat × ℝ)) (n : Nat) (hn : 0 < n) : batchZ h n 0 = 0 := by
  simp [batchZ, hn]

/-! ### the redraw loop (`Model.WarmupR.drawLoop`, generic in what a block is) -/
section loop
open Model.WarmupR

/-- the loop commutes with any map of the blocks that preserves "has a finite draw": in particular the loop on blocks and the
    loop on their finite COUNTS keep the same block after the same number of draws -/
theorem drawLoop_map {β γ : Type} (g : β → γ) (hf : β → Bool) (hf' : γ → Bool) (hcomp : ∀ b, hf' (g b) = hf b) (n : Nat) :
    ∀ (pending : List β) (cur : β) (nd : Nat),
      drawLoop hf' n (pending.map g) (g cur) nd = (drawLoop hf n pending cur nd).map fun r => (g r.1, r.2) := by
  intro pending
  induction pending with
  | nil => intro cur nd; simp only [List.map_nil, drawLoop, hcomp]; split <;> rfl
  | cons b rest ih =>
    intro cur nd
    simp only [List.map_cons, drawLoop, hcomp]
    split
    · rfl
    · split
      · rfl
      · exact ih b (nd + n)

end loop

section scatter
variable {L : Type}

/-- C11 (no -inf stored): `logl[infinite_idx] = logl[idx]` with `infinite_idx` = all positions holding a
    non-finite value and `idx` drawn among positions holding finite values leaves only finite values -/
theorem C11_no_inf_stored (fin : L → Prop) (l : List L) (tgt src : List Nat)
    (hlen : tgt.length = src.length)
    (hsrc : ∀ s ∈ src, ∃ v, l[s]? = some v ∧ fin v)
    (hcover : ∀ (i : Nat) (v : L), l[i]? = some v → ¬ fin v → i ∈ tgt) :
    ∀ (i : Nat) (v : L), (scatterFrom l tgt src)[i]? = some v → fin v :=
  Model.Records.scatterFrom_forall fin l tgt src hlen hsrc hcover

end scatter

/-! ### the final evidence is the integral over the supported region -/
section final
open Lemmas.MIS Finset
variable {Ω T : Type} [Fintype Ω] [Fintype T]

theorem sum_supported (L g : Ω → ℝ) : ∑ x : {x : Ω // 0 < L x}, g x.1 = ∑ x, if 0 < L x then g x else 0 := by
  rw [← Finset.sum_subtype (Finset.univ.filter fun y : Ω => 0 < L y)
    (fun x => Finset.mem_filter.trans (and_iff_right (Finset.mem_univ x))) g, Finset.sum_filter]

theorem sum_supported_eq (L g : Ω → ℝ) (hg : ∀ y, ¬ 0 < L y → g y = 0) : ∑ x : {x : Ω // 0 < L x}, g x.1 = ∑ x, g x := by
  refine (sum_supported L g).trans (Finset.sum_congr rfl fun y _ => ?_)
  split
  · rfl
  · exact (hg y ‹_›).symm

/-- C11 (final evidence): let the likelihood vanish on part of the prior.  Restricted to the supported region
    `Ω⁺ = {x | 0 < L x}` every stored batch — the warm-up batches are draws from the prior RESTRICTED to Ω⁺, recorded with the
    normaliser `Z_0 = p(Ω⁺)`, the supported prior mass counted once — has its nominal tempered law on Ω⁺, so the
    mixture-importance estimator is exactly unbiased for the integral over Ω⁺, and for β > 0 that integral is the whole integral
    (the likelihood contributes nothing outside Ω⁺). -/
theorem C11_final (p L : Ω → ℝ) (n bt : T → ℝ) (β : ℝ) (f : Ω → ℝ)
    (hp : ∀ x, 0 ≤ p x) (hsupp : ∃ x, 0 < L x ∧ 0 < p x) (hL : ∀ x, 0 ≤ L x)
    (hn : ∀ t, 0 ≤ n t) (hN : 0 < ∑ s, n s) (hβ : 0 < β) :
    let S := {x : Ω // 0 < L x}
    let p' : S → ℝ := fun x => p x.1
    let L' : S → ℝ := fun x => L x.1
    let f' : S → ℝ := fun x => f x.1
    -- unbiased for the supported integral …
    (∑ t, (n t / ∑ s, n s) * ∑ x, piB p' L' (bt t) x * (f' x * misW p' L' n bt β x) = ∑ x, gam p' L' β x * f' x) ∧
    -- … the β = 0 normaliser is the supported prior mass …
    Zf p' L' 0 = ∑ x : S, p x.1 ∧
    -- … and the supported integral is the whole integral
    ∑ x : S, gam p' L' β x * f' x = ∑ x, p x * L x ^ β * f x := by
  intro S p' L' f'
  obtain ⟨x0, hx0L, hx0p⟩ := hsupp
  refine ⟨?_, Zf_zero p' L', ?_⟩
  · exact mis_core p' L' n bt β f' fun x _ =>
      (den_pos p' L' n bt hn hN (fun x => x.2)
        (fun t => Zf_pos p' L' (fun x => hp x.1) ⟨⟨x0, hx0L⟩, hx0p⟩ (fun x => x.2) (bt t)) x).ne'
  · exact sum_supported_eq L (fun y => p y * L y ^ β * f y) fun y hy => by
      rw [le_antisymm (not_lt.mp hy) (hL y), Real.zero_rpow hβ.ne']; ring

/-- non-vacuity: two states, the likelihood vanishes on the first; one warm-up batch (β = 0) and one at β = 1 -/
example : ∑ x : {x : Fin 2 // 0 < (fun i : Fin 2 => if i = 0 then (0 : ℝ) else 2) x},
    gam (fun y => (1 / 2 : ℝ)) (fun y => if y.1 = 0 then (0 : ℝ) else 2) 1 x * 1
    = ∑ x : Fin 2, (1 / 2 : ℝ) * (if x = 0 then (0 : ℝ) else 2) ^ (1 : ℝ) * 1 :=
  (C11_final (fun _ : Fin 2 => (1 / 2 : ℝ)) (fun i => if i = 0 then 0 else 2) (fun _ : Fin 2 => (1 : ℝ))
    (fun t : Fin 2 => if t = 0 then 0 else 1) 1 (fun _ => 1) (by intro x; norm_num)
    ⟨1, by simp, by norm_num⟩ (by intro x; split <;> norm_num) (by intro t; norm_num) (by simp) one_pos).2.2

end final

example : scatterFrom [5, 0, 7, 0] [1, 3] [2, 0] = [5, 7, 7, 5] := by decide
example : ∀ e ∈ run batchZ ([] : List (Nat × ℝ)) [(4, 2), (4, 4), (8, 4)], e.2 = 1 / 2 := by
  apply C11_once_exact (1 / 2) (by norm_num) 4 2 (by norm_num)
  intro b hb
  simp at hb
  rcases hb with rfl | rfl | rfl <;> norm_num

end Props.C11
