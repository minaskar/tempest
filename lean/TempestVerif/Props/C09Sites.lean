import TempestVerif.Model.RngSites
import TempestVerif.Gen.Rng
import TempestVerif.Props.C09Run
/-
  C09, call-site level — the iteration program of `Model.RngSites` (every RNG call site of one sampler iteration, in
  program order, with adaptive control flow):
    * it never seeds the process-wide stream (so the run-level theorems of `Props/C09Run.lean` apply to the real
      iteration shape, for every `Numerics`);
    * what it requests from the process-wide stream is `iterReqs cfg obs` for the observables `obs` of that execution —
      the per-site draw counts as a function of the configuration (`iterValues`);
    * it requests at least `n_particles` values, hence at least one: the hypothesis "every iteration draws" of
      `C09_iteration_starts_distinct` is a theorem for this program.
-/
namespace Props.C09
open Model.RngRun Model.RngSites

variable {S V D M : Type}

/-! ### the iteration never seeds -/

theorem seedFree_forEach {X Y : Type} (f : X → Prog Kind S V Y) (hf : ∀ x, SeedFree (f x)) (xs : List X) :
    SeedFree (forEach f xs) := by
  induction xs with
  | nil => exact .ret _
  | cons x xs ih => exact (hf x).bind fun y => ih.bind fun ys => .ret _

section
variable (c : Cfg) (nu : Numerics V D M)

theorem seedFree_warmRedraw (d : D) (fuel k : Nat) (us : List V) :
    SeedFree (warmRedraw c nu d fuel k us : Prog Kind S V _) := by
  induction fuel generalizing k us with
  | zero => exact .ret _
  | succ f ih =>
    simp only [warmRedraw]
    split
    · exact (seedFree_drawN _ _).bind fun us' => ih _ us'
    · exact .ret _

theorem seedFree_warmIter (d : D) : SeedFree (warmIter c nu d : Prog Kind S V D) := by
  refine (seedFree_drawN _ _).bind fun us => (seedFree_warmRedraw c nu d _ _ us).bind fun r => ?_
  match r with
  | none => exact .ret _
  | some (k, us') =>
    simp only
    split
    · exact (seedFree_drawN _ _).bind fun _ => .ret _
    · exact .ret _

theorem seedFree_trainDraws (d : D) : SeedFree (trainDraws c nu d : Prog Kind S V _) := by
  unfold trainDraws
  split
  · refine SeedFree.bind ?_ fun _ => seedFree_forEach _ (fun n => seedFree_drawN _ _) _
    split
    · exact seedFree_hgmmFit _ _ _
    · exact .ret _
  · exact (seedFree_drawN _ _).bind fun _ => .ret _

theorem seedFree_resampleDraws : SeedFree (resampleDraws c : Prog Kind S V (List V)) := by
  unfold resampleDraws
  split
  · exact (C09_syst_unseeded_seedfree _).bind fun _ => .ret _
  · exact seedFree_drawN _ _

theorem seedFree_propose : SeedFree (propose c : Prog Kind S V _) := by
  unfold propose
  split
  · exact (seedFree_draw1 _).bind fun _ => (seedFree_drawN _ _).bind fun _ => .ret _
  · exact (seedFree_drawN _ _).bind fun _ => .ret _

theorem seedFree_proposeAll (n : Nat) : SeedFree (proposeAll c n : Prog Kind S V _) := by
  induction n with
  | zero => exact .ret _
  | succ n ih => exact (seedFree_propose c).bind fun _ => ih.bind fun _ => .ret _

theorem seedFree_mcmcLoop (m : M) (fuel : Nat) (d : D) :
    SeedFree (mcmcLoop c nu m fuel d : Prog Kind S V D) := by
  induction fuel generalizing d with
  | zero => exact (seedFree_proposeAll c _).bind fun _ => (seedFree_drawN _ _).bind fun _ => .ret _
  | succ f ih =>
    refine (seedFree_proposeAll c _).bind fun ps => (seedFree_drawN _ _).bind fun us => ?_
    split
    · exact .ret _
    · exact ih _

end

/-- **One sampler iteration never seeds the process-wide stream** — for every configuration (clustering on/off, both
    kernels, both resamplers), every data state and every numerics. -/
theorem C09_iteration_seedfree (c : Cfg) (nu : Numerics V D M) (fuel : Nat) (d : D) :
    SeedFree (iteration c nu fuel d : Prog Kind S V D) := by
  unfold iteration
  split
  · exact seedFree_warmIter c nu _
  · exact (seedFree_trainDraws c nu _).bind fun _ => (seedFree_resampleDraws c).bind fun _ =>
      (seedFree_mcmcLoop c nu _ fuel _).bind fun _ => .ret _

/-- **Writing checkpoints does not perturb the run**: an iteration that first saves a checkpoint leaves the same streams,
    the same data state and the same log as the iteration without the save (so a run with `save_every=k` is the run without) -/
theorem C09_saving_does_not_perturb (g : KGen Kind S V) (c : Cfg) (nu : Numerics V D M) (fuel : Nat) (saving : D → Bool)
    (d : D) (st : St S) :
    (run g (execIteration c nu fuel saving d) st).st = (run g (iteration c nu fuel d) st).st ∧
    (run g (execIteration c nu fuel saving d) st).res = (run g (iteration c nu fuel d) st).res ∧
    (run g (execIteration c nu fuel saving d) st).log = (run g (iteration c nu fuel d) st).log := by
  unfold execIteration
  split
  · obtain ⟨h1, h2, _⟩ := C09_save_reads_position (V := V) g d st
    rw [run_bind]
    simp only [h1, h2, List.nil_append, and_self]
  · exact ⟨rfl, rfl, rfl⟩

theorem C09_execIteration_seedfree (c : Cfg) (nu : Numerics V D M) (fuel : Nat) (saving : D → Bool) (d : D) :
    SeedFree (execIteration c nu fuel saving d : Prog Kind S V D) := by
  unfold execIteration
  split
  · exact (seedFree_saveState d).bind fun _ => C09_iteration_seedfree c nu fuel d
  · exact C09_iteration_seedfree c nu fuel d

/-! ### what each step requests -/

section
variable (g : KGen Kind S V) (c : Cfg) (nu : Numerics V D M)

theorem gkinds_forEach_drawN (rf : Nat) (xs : List Nat) (st : St S) :
    gkinds (run g (forEach (fun n => (drawN Kind.uniform (rf * n) : Prog Kind S V _)) xs) st).log =
      (xs.map fun n => List.replicate (rf * n) Kind.uniform).flatten := by
  induction xs generalizing st with
  | nil => rfl
  | cons x xs ih => rw [forEach, gkinds_bind, gkinds_drawN, run_bind_ret, ih]; rfl

theorem gkinds_trainDraws (d : D) (st : St S) :
    gkinds (run g (trainDraws c nu d) st).log =
      ((if c.clustering then nu.groups d else [nu.pool d]).map fun n =>
        List.replicate (c.resampleFactor * n) Kind.uniform).flatten := by
  unfold trainDraws
  split
  · rw [gkinds_bind, gkinds_forEach_drawN]
    split
    · rw [(C09_hgmm_fit_global_untouched g Kind.uniform c.clusterInit (nu.fits d) st).2.1]; rfl
    · rfl
  · rw [run_bind_ret, gkinds_drawN]
    exact (List.append_nil _).symm

theorem gkinds_resampleDraws (st : St S) :
    gkinds (run g (resampleDraws c) st).log = List.replicate (if c.syst then 1 else c.nParticles) Kind.uniform := by
  unfold resampleDraws
  split
  · rfl
  · exact gkinds_drawN g _ _ st

theorem gkinds_propose (st : St S) :
    gkinds (run g (propose c) st).log =
      (if c.tpcn then [Kind.gamma] else []) ++ List.replicate c.nDim Kind.normal := by
  unfold propose
  split
  · rw [gkinds_bind, run_bind_ret, gkinds_drawN]; rfl
  · rw [run_bind_ret, gkinds_drawN]; rfl

theorem gkinds_proposeAll (n : Nat) (st : St S) :
    gkinds (run g (proposeAll c n) st).log =
      (List.replicate n ((if c.tpcn then [Kind.gamma] else []) ++ List.replicate c.nDim Kind.normal)).flatten := by
  induction n generalizing st with
  | zero => rfl
  | succ n ih => rw [proposeAll, gkinds_bind, gkinds_propose, run_bind_ret, ih]; rfl

theorem gkinds_warmRedraw (d : D) (fuel k : Nat) (us : List V) (st : St S) :
    ∃ j, j ≤ fuel ∧
      gkinds (run g (warmRedraw c nu d fuel k us) st).log = List.replicate (j * (c.nParticles * c.nDim)) Kind.uniform ∧
      (∀ k' us', (run g (warmRedraw c nu d fuel k us) st).res = some (k', us') → (nu.infFin d k' us').2 ≠ 0) := by
  induction fuel generalizing k us st with
  | zero =>
    refine ⟨0, Nat.le_refl _, by rw [Nat.zero_mul]; rfl, fun k' us' h => ?_⟩
    rw [warmRedraw] at h
    split at h
    · cases h
    · cases h; assumption
  | succ f ih =>
    rw [warmRedraw]
    split
    · obtain ⟨j, hj, hk, hres⟩ := ih (k + 1) (run g (drawN Kind.uniform (c.nParticles * c.nDim)) st).res
        (run g (drawN Kind.uniform (c.nParticles * c.nDim)) st).st
      refine ⟨j + 1, Nat.succ_le_succ hj, ?_, fun k' us' h => ?_⟩
      · rw [gkinds_bind, gkinds_drawN, hk, ← List.replicate_add, Nat.succ_mul, Nat.add_comm]
      · rw [run_bind] at h
        exact hres k' us' h
    · rename_i hz
      refine ⟨0, Nat.zero_le _, by rw [Nat.zero_mul]; rfl, fun k' us' h => ?_⟩
      cases h; exact hz

/-- a warm-up iteration requests `disc + 1` batches of uniforms and, when the kept batch has draws on both sides of the
    support, one index per draw outside it -/
theorem gkinds_warmIter (d : D) (st : St S) :
    ∃ disc nInf nFin, disc + 1 ≤ max c.warmCap 1 ∧ gkinds (run g (warmIter c nu d) st).log = iterReqs c (.warm disc nInf nFin) := by
  obtain ⟨j, hj, hkr, hresr⟩ := gkinds_warmRedraw g c nu d (c.warmCap - 1) 0
    (run g (drawN Kind.uniform (c.nParticles * c.nDim)) st).res (run g (drawN Kind.uniform (c.nParticles * c.nDim)) st).st
  have hcap : j + 1 ≤ max c.warmCap 1 := by omega
  unfold warmIter
  rw [gkinds_bind, gkinds_drawN, gkinds_bind, hkr, ← List.append_assoc, ← List.replicate_add,
    show c.nParticles * c.nDim + j * (c.nParticles * c.nDim) = (j + 1) * (c.nParticles * c.nDim) by
      rw [Nat.succ_mul, Nat.add_comm]]
  cases hr : (run g (warmRedraw c nu d (c.warmCap - 1) 0
      (run g (drawN Kind.uniform (c.nParticles * c.nDim)) st).res)
      (run g (drawN Kind.uniform (c.nParticles * c.nDim)) st).st).res with
  | none => exact ⟨j, 0, 0, hcap, congrArg _ (if_neg fun h => Nat.lt_irrefl 0 h.1).symm⟩
  | some p =>
    obtain ⟨k', us'⟩ := p
    refine ⟨j, (nu.infFin d k' us').1, (nu.infFin d k' us').2, hcap, congrArg _ ?_⟩
    have hfin : 0 < (nu.infFin d k' us').2 := Nat.pos_of_ne_zero (hresr k' us' hr)
    show gkinds (run g (if 0 < (nu.infFin d k' us').1 then _ else _) _).log = _
    split
    · rw [if_pos ⟨‹_›, hfin⟩, run_bind_ret, gkinds_drawN]
    · rw [if_neg fun h => ‹¬ _› h.1]; rfl

theorem gkinds_mcmcLoop (m : M) (fuel : Nat) (d : D) (st : St S) :
    ∃ steps, 1 ≤ steps ∧ steps ≤ fuel + 1 ∧
      gkinds (run g (mcmcLoop c nu m fuel d) st).log = (List.replicate steps (sweepReqs c)).flatten := by
  have one : sweepReqs c ++ [] = (List.replicate 1 (sweepReqs c)).flatten := rfl
  induction fuel generalizing d st with
  | zero =>
    rw [mcmcLoop, gkinds_bind, run_bind_ret, gkinds_proposeAll, gkinds_drawN]
    exact ⟨1, Nat.le_refl _, Nat.le_refl _, (List.append_nil (sweepReqs c)).symm.trans one⟩
  | succ f ih =>
    rw [mcmcLoop, gkinds_bind, gkinds_bind, gkinds_proposeAll, gkinds_drawN, ← List.append_assoc]
    change ∃ steps, _ ∧ _ ∧ sweepReqs c ++ _ = _
    split
    · exact ⟨1, Nat.le_refl _, Nat.le_add_left _ _, one⟩
    · obtain ⟨k, hk1, hk2, hk⟩ := ih _ _
      exact ⟨k + 1, Nat.le_add_left _ _, Nat.succ_le_succ hk2, hk ▸ rfl⟩

end

/-- **Per-site draw counts as a function of the configuration.**  Whatever the numerics and the generator, the requests
    one iteration makes of the process-wide stream are `iterReqs cfg obs`, where `obs` is what happened in that
    execution: a warm-up iteration with the number of batches it threw away for lack of a finite draw (at most `warmCap − 1`)
    and the (outside-support, inside-support) counts of the batch it kept, or an annealing iteration with its
    label-group sizes and its number of MCMC sweeps (between 1 and `fuel + 1`). -/
theorem C09_iteration_requests (g : KGen Kind S V) (c : Cfg) (nu : Numerics V D M) (fuel : Nat) (d : D) (st : St S) :
    (∃ disc nInf nFin, disc + 1 ≤ max c.warmCap 1 ∧ nu.isWarm (nu.reweight d) = true ∧
        gkinds (run g (iteration c nu fuel d) st).log = iterReqs c (.warm disc nInf nFin)) ∨
    (∃ steps, 1 ≤ steps ∧ steps ≤ fuel + 1 ∧ nu.isWarm (nu.reweight d) = false ∧
        gkinds (run g (iteration c nu fuel d) st).log =
          iterReqs c (.anneal (if c.clustering then nu.groups (nu.reweight d) else [nu.pool (nu.reweight d)]) steps)) := by
  unfold iteration
  split
  · obtain ⟨disc, nInf, nFin, hcap, h⟩ := gkinds_warmIter g c nu (nu.reweight d) st
    exact .inl ⟨disc, nInf, nFin, hcap, ‹_›, h⟩
  · obtain ⟨k, hk1, hk2, hk⟩ := gkinds_mcmcLoop g c nu
      (nu.train (nu.reweight d) (run g (trainDraws c nu (nu.reweight d)) st).res) fuel
      (nu.resampled (nu.reweight d) (nu.train (nu.reweight d) (run g (trainDraws c nu (nu.reweight d)) st).res)
        (run g (resampleDraws c) (run g (trainDraws c nu (nu.reweight d)) st).st).res)
      (run g (resampleDraws c) (run g (trainDraws c nu (nu.reweight d)) st).st).st
    refine .inr ⟨k, hk1, hk2, Bool.eq_false_iff.mpr ‹_›, ?_⟩
    rw [gkinds_bind, gkinds_bind, run_bind_ret, gkinds_trainDraws, gkinds_resampleDraws, hk, ← List.append_assoc]
    rfl

/-! ### how many values an iteration requests: `iterReqs` has length `iterValues`, at least `n_particles` -/

theorem length_flatten_replicate {α : Type} (n : Nat) (l : List α) : (List.replicate n l).flatten.length = n * l.length := by
  induction n with
  | zero => rw [Nat.zero_mul]; rfl
  | succ n ih => rw [List.replicate_succ, List.flatten_cons, List.length_append, ih, Nat.succ_mul, Nat.add_comm]

theorem sweepReqs_length (c : Cfg) :
    (sweepReqs c).length = c.nParticles * ((if c.tpcn then 1 else 0) + c.nDim) + c.nParticles := by
  unfold sweepReqs
  rw [List.length_append, length_flatten_replicate, List.length_append, List.length_replicate, List.length_replicate]
  cases c.tpcn <;> rfl

theorem C09_iterReqs_length (c : Cfg) (o : Obs) : (iterReqs c o).length = iterValues c o := by
  cases o with
  | warm disc nInf nFin =>
    simp only [iterReqs, iterValues, List.length_append, List.length_replicate]
    split
    · rw [List.length_replicate]
    · rfl
  | anneal groups steps =>
    simp only [iterReqs, iterValues, List.length_append, List.length_replicate, length_flatten_replicate,
      sweepReqs_length]
    congr 2
    induction groups with
    | nil => rfl
    | cons x xs ih =>
      rw [List.map_cons, List.flatten_cons, List.length_append, List.length_replicate, ih, List.sum_cons, Nat.mul_add]

/-- every iteration takes at least `n_particles` values from the process-wide stream -/
theorem C09_iterValues_ge (c : Cfg) (o : Obs) (hD : 1 ≤ c.nDim) (hsteps : ∀ gr k, o = .anneal gr k → 1 ≤ k) :
    c.nParticles ≤ iterValues c o := by
  cases o with
  | warm disc nInf nFin =>
    -- N ≤ N·D ≤ (disc + 1)·(N·D)
    exact Nat.le_trans (Nat.le_mul_of_pos_right _ hD)
      (Nat.le_trans (Nat.le_mul_of_pos_left _ (Nat.succ_pos disc)) (Nat.le_add_right _ _))
  | anneal groups steps =>
    -- N ≤ one sweep ≤ steps sweeps
    exact Nat.le_trans (Nat.le_add_left _ _)
      (Nat.le_trans (Nat.le_mul_of_pos_left _ (hsteps groups steps rfl)) (Nat.le_add_left _ _))

/-- … so, with `n_particles ≥ 1` and `n_dim ≥ 1` (enforced by `SamplerConfig.validate`), EVERY iteration draws: the
    hypothesis `hdraws` of `C09_iteration_starts_distinct` holds for the real iteration shape -/
theorem C09_iteration_draws (g : KGen Kind S V) (c : Cfg) (nu : Numerics V D M) (fuel : Nat) (d : D) (st : St S)
    (hN : 1 ≤ c.nParticles) (hD : 1 ≤ c.nDim) :
    gkinds (run g (iteration c nu fuel d) st).log ≠ [] := by
  refine List.ne_nil_of_length_pos (Nat.lt_of_lt_of_le hN ?_)
  rcases C09_iteration_requests g c nu fuel d st with ⟨j, a, b, _, _, e⟩ | ⟨k, hk1, _, _, e⟩
  · rw [e, C09_iterReqs_length]
    exact C09_iterValues_ge c _ hD fun _ _ h => nomatch h
  · rw [e, C09_iterReqs_length]
    exact C09_iterValues_ge c _ hD fun _ _ h => by cases h; exact hk1

/-- the run-level "never replay" theorem instantiated with the real iteration shape: in a run of `n` iterations no two
    iterations start from the same generator state, provided the stream does not cycle within the run -/
theorem C09_sampler_iterations_never_replay (g : KGen Kind S V) (c : Cfg) (nu : Numerics V D M) (fuel : Nat)
    (hN : 1 ≤ c.nParticles) (hD : 1 ≤ c.nDim) (n : Nat) (d : D) (st : St S)
    (hnocycle : ∀ p q, p < q → q ≤ (gkinds (iterLogs g (iteration c nu fuel) n d st).flatten).length →
      advance g ((gkinds (iterLogs g (iteration c nu fuel) n d st).flatten).take p) st.glob ≠
        advance g ((gkinds (iterLogs g (iteration c nu fuel) n d st).flatten).take q) st.glob)
    (i j : Nat) (hij : i < j) (hj : j < n) :
    (iterStarts g (iteration c nu fuel) n d st)[i]? ≠ (iterStarts g (iteration c nu fuel) n d st)[j]? := by
  refine C09_iteration_starts_distinct g _ (C09_iteration_seedfree c nu fuel) n d st (fun l hl => ?_) hnocycle i j hij hj
  obtain ⟨d', st', rfl⟩ := mem_iterLogs hl
  exact C09_iteration_draws g c nu fuel d' st' hN hD

/-! ### the model's call sites are the table's call sites -/

/-- the drawing call sites the programs of `Model.RngRun` / `Model.RngSites` mirror: (enclosing function, numpy call) -/
def modelledDraws : List (String × String) :=
  [("GaussianMixture._initialize_parameters", "self._rng.rand"),   -- gmmInits (first centre, remaining centres)
   ("BaseMCMCRunner.run", "np.random.rand"),                        -- mcmcLoop: accept uniforms
   ("TPCNRunner._propose", "np.random.gamma"),                      -- propose (tpCN)
   ("TPCNRunner._propose", "np.random.randn"),
   ("RWMRunner._propose", "np.random.randn"),                       -- propose (RWM)
   ("ModeStatistics.from_particles", "np.random.choice"),           -- trainDraws (clustering)
   ("ModeStatistics.from_global", "np.random.choice"),              -- trainDraws (no clustering)
   ("Mutator.run", "np.random.rand"),                               -- warmIter: prior draws
   ("Mutator.run", "np.random.choice"),                             -- warmIter: replacement picks
   ("Resampler.run", "np.random.choice"),                           -- resampleDraws (mult)
   ("systematic_resample", "np.random.random")]                     -- systematicResample (syst, posterior(resample=True))

/-- **No drawing call site outside the model, none modelled that does not exist**: the draw sites of the effect table
    regenerated from /repo are exactly the sites the model programs mirror.  A new `np.random.<f>` anywhere in the package
    breaks this obligation before any run is made. -/
theorem C09_model_sites_are_table_sites :
    (∀ s ∈ Gen.Rng.sites, s.kind = "draw" → (s.func, s.what) ∈ modelledDraws) ∧
    (∀ m ∈ modelledDraws, ∃ s ∈ Gen.Rng.sites, s.kind = "draw" ∧ (s.func, s.what) = m) := by decide +kernel

/-- **the adaptive call sites are the ones modelled by a loop**: the draw sites that sit lexically inside a `while` / `for`
    of their function are exactly the Metropolis uniforms (`mcmcLoop`), the k-means++ centres (`gmmInits`), the per-label
    resample (`forEach` over the label groups) and — since 959029e — the warm-up redraw (`warmRedraw`); and `Mutator.run` has
    exactly two `np.random.rand` sites (first batch, redraw) and one `np.random.choice` -/
theorem C09_loop_sites_are_modelled_loops :
    Gen.Rng.loopDrawSites =
      [("BaseMCMCRunner.run", "np.random.rand", "while"), ("GaussianMixture._initialize_parameters", "self._rng.rand", "for"),
       ("ModeStatistics.from_particles", "np.random.choice", "for"), ("Mutator.run", "np.random.rand", "while")] ∧
    ((Gen.Rng.sites.filter fun s => s.func == "Mutator.run" && s.kind == "draw").map fun s => s.what) =
      ["np.random.rand", "np.random.rand", "np.random.choice"] := by decide +kernel

/-- … and so are the seeding sites (`initFresh`, `systematicResample`), the save / restore pair (`saveState`, `loadState`)
    and the private-generator site (`gmmFit`) -/
theorem C09_model_seed_sites_are_table_sites :
    (Gen.Rng.sites.filter fun s => s.kind == "seed").map (fun s => (s.func, s.arg)) =
      [("SamplerCore._initialize_fresh", "config:random_state"), ("systematic_resample", "param:random_state")] ∧
    (Gen.Rng.sites.filter fun s => s.kind == "getstate").map (fun s => s.func) = ["SamplerCore.save_sampler_state"] ∧
    (Gen.Rng.sites.filter fun s => s.kind == "setstate").map (fun s => (s.func, s.arg)) =
      [("SamplerCore.load_sampler_state", "loaded:rng_state")] ∧
    (Gen.Rng.sites.filter fun s => s.kind == "private").map (fun s => (s.func, s.arg)) =
      [("GaussianMixture.fit", "attr:random_state")] := by decide +kernel

/-! ### non-vacuity: the scripted numerics on the counting generator -/

theorem advance_counter (ks : List Kind) (s : Nat) : advance counter ks s = s + ks.length := by
  induction ks generalizing s with
  | nil => rfl
  | cons k ks ih =>
    exact (ih (s + 1)).trans (Nat.add_right_comm s 1 _)

/-- the no-cycle hypothesis is satisfiable: on the counting generator it holds for every run, so there
    `C09_sampler_iterations_never_replay` applies to every configuration with `n_particles, n_dim ≥ 1` -/
example (c : Cfg) (nu : Numerics Nat D M) (fuel : Nat) (hN : 1 ≤ c.nParticles) (hD : 1 ≤ c.nDim) (n : Nat) (d : D)
    (i j : Nat) (hij : i < j) (hj : j < n) :
    (iterStarts counter (iteration c nu fuel) n d ⟨0, none⟩)[i]? ≠ (iterStarts counter (iteration c nu fuel) n d ⟨0, none⟩)[j]? := by
  refine C09_sampler_iterations_never_replay counter c nu fuel hN hD n d ⟨0, none⟩ ?_ i j hij hj
  intro p q hpq hq
  rw [advance_counter, advance_counter, List.length_take, List.length_take]
  omega

def cfgEx : Cfg := ⟨3, 2, true, false, true, 4, 1, 1000⟩
def warmEx : Script := ⟨true, 2, 1, 2, false, [], [], 0, 0⟩
def annealEx : Script := ⟨false, 0, 0, 0, true, [1, 2, 1], [2, 1], 3, 2⟩

example : gkinds (run counter (iteration cfgEx scripted 5 warmEx) ⟨0, none⟩).log = iterReqs cfgEx (.warm 2 1 2) := by decide +kernel
example : gkinds (run counter (iteration cfgEx scripted 5 annealEx) ⟨0, none⟩).log = iterReqs cfgEx (.anneal [2, 1] 2) := by
  decide +kernel
example : iterValues cfgEx (.anneal [2, 1] 2) = 4 * 3 + 3 + 2 * (3 * (1 + 2) + 3) := by decide +kernel
/-- two successive iterations: the second starts where the first stopped (position 19 = 3 batches of 3·2 prior draws, two of
    them discarded, + 1 replacement pick) -/
example : iterStarts counter (iteration cfgEx scripted 5) 2 warmEx ⟨0, none⟩ = [0, 19] := by decide +kernel
/-- the cap: with `warmCap = 2` and no finite draw ever, the iteration draws exactly 2 batches and takes no pick -/
example : gkinds (run counter (iteration { cfgEx with warmCap := 2 } scripted 5 { warmEx with disc := 9 }) ⟨0, none⟩).log
    = iterReqs cfgEx (.warm 1 0 0) := by decide +kernel
/-- the clustering fit inside the annealing iteration drew 1 + 2 + 1 numbers, all from the private generator -/
example : (pvals (run counter (iteration cfgEx scripted 5 annealEx) ⟨0, none⟩).log).length = 4 := by decide +kernel

end Props.C09
