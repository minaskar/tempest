import TempestVerif.Props.C17
import TempestVerif.Lemmas.StateMgrX
/-
  C17, whole-run statements: append-only over any run, one sampler iteration, `posterior()`, resume, and the results cache.
  Same model and `Inv` as `Props/C17.lean`; composite accessors and run shapes from `Model/StateMgrX.lean`.
-/
namespace Props.C17
open Model.StateMgr

def histP (s : State) (k : Key) : Option (List PVal) := (lookup k s.history).map fun l => l.map (deref s.heap)

/-- Append-only over a whole run: whatever the caller does — any operations except `update_from_dict`, any number of
    in-place writes to arrays it holds, `copy=False` stores included — the committed batches of every key, as payloads,
    stay a prefix of what is committed later. -/
theorem C17_run_history_prefix (ops : List Op) (s : State) (h : Inv s) (hni : ∀ o ∈ ops, o.isImport = false)
    (k : Key) (l : List Val) (hl : lookup k s.history = some l) :
    ∃ l' : List Val, lookup k (run s ops).history = some l' ∧
      l.map (deref s.heap) <+: l'.map (deref (run s ops).heap) := by
  induction ops generalizing s l with
  | nil => exact ⟨l, hl, List.prefix_refl _⟩
  | cons o os ih =>
    obtain ⟨l1, h1, p1⟩ := C17_history_prefix_stable s o h (hni o (by simp)) k l hl
    obtain ⟨l2, h2, p2⟩ := ih (step s o).1 (C17_step_inv s o h) (fun x hx => hni x (List.mem_cons_of_mem _ hx)) l1 h1
    exact ⟨l2, h2, p1.trans p2⟩

/-- … from a fresh manager in particular -/
theorem C17_reachable_history_prefix (pre ops : List Op) (hni : ∀ o ∈ ops, o.isImport = false)
    (k : Key) (l : List Val) (hl : lookup k (run init pre).history = some l) :
    ∃ l' : List Val, lookup k (run init (pre ++ ops)).history = some l' ∧
      l.map (deref (run init pre).heap) <+: l'.map (deref (run init (pre ++ ops)).heap) := by
  rw [run_append]
  exact C17_run_history_prefix ops _ (C17_reachable_inv pre) hni k l hl

/-- what one operation adds to the history list of key `k`: one batch at a successful commit at which `k` is recorded
    (a current key, a history key, current value not `None`), nothing otherwise -/
def commitInc (k : Key) (s : State) : Op → Nat
  | .commit strict =>
    if (step s (.commit strict)).2 = .unit ∧ k ∈ commitKeys ∧ isNone (lookup k s.current) = false then 1 else 0
  | _ => 0

def commitsOf (k : Key) : State → List Op → Nat
  | _, [] => 0
  | s, o :: os => commitInc k s o + commitsOf k (step s o).1 os

theorem commitInc_of_not_commit {k : Key} {s : State} {o : Op} (h : o.isCommit = false) : commitInc k s o = 0 := by
  cases o <;> first | rfl | cases h

/-- "each iteration appends exactly one batch per recorded quantity", counted over a whole run: the history list of
    key `k` grows by exactly the number of successful commits at which `k` was recorded — nothing else ever appends,
    nothing ever removes -/
theorem C17_run_history_length (ops : List Op) (s : State) (h : Inv s) (hni : ∀ o ∈ ops, o.isImport = false)
    (k : Key) (l : List Val) (hl : lookup k s.history = some l) :
    ∃ l' : List Val, lookup k (run s ops).history = some l' ∧ l'.length = l.length + commitsOf k s ops := by
  induction ops generalizing s l with
  | nil => exact ⟨l, hl, rfl⟩
  | cons o os ih =>
    have hI' := C17_step_inv s o h
    have hos : ∀ x ∈ os, x.isImport = false := fun x hx => hni x (List.mem_cons_of_mem _ hx)
    have key : ∃ l1 : List Val, lookup k (step s o).1.history = some l1 ∧
        l1.length = l.length + commitInc k s o := by
      cases hcm : o.isCommit with
      | false =>
        exact ⟨l, by rw [step_history_eq s o hcm (hni o (by simp))]; exact hl, by rw [commitInc_of_not_commit hcm]; rfl⟩
      | true =>
        cases o with
        | commit strict =>
          by_cases hok : (step s (.commit strict)).2 = .unit
          · obtain ⟨ext, e1, _, e3⟩ := C17_commit_appends_one s strict h hok k l hl
            refine ⟨l ++ ext, e1, ?_⟩
            have hlen := congrArg List.length e3
            rw [List.length_map] at hlen
            rw [List.length_append, hlen]
            simp only [commitInc, hok, true_and]
            by_cases hk : k ∈ commitKeys
            · simp only [hk, if_true, true_and]
              cases lookup k s.current with
              | none => rfl
              | some v => cases v <;> rfl
            · simp only [hk, if_false, false_and, List.length_nil]
          · rcases step_commit s strict with hst | hst
            · exact ⟨l, by rw [hst]; exact hl, by simp [commitInc, hok]⟩
            · exact absurd (by rw [hst]) hok
        | _ => simp [Op.isCommit] at hcm
    obtain ⟨l1, h1, n1⟩ := key
    obtain ⟨l2, h2, n2⟩ := ih (step s o).1 hI' hos l1 h1
    refine ⟨l2, h2, ?_⟩
    simp only [commitsOf]
    omega

/-- One sampler iteration.  `body` is whatever the four pipeline steps do to the manager — any operations except commit
    and import (in particular their own in-place writes to arrays they created and `copy=False` stores are allowed).
    Then: (1) the commit succeeds; (2) the history list of every key is the old list plus `ext`; (3) the old batches keep
    their payloads; (4) `ext` holds exactly one batch — the payload of the current value at commit time — when the key is
    recorded, and nothing otherwise; (5) the dictionary `sample()` returns carries the current payloads, (6) in arrays
    allocated by that very call: none of them is reachable from internal state. -/
theorem C17_iteration_appends_one_batch (s : State) (body : List Op) (h : Inv s) (hb : ∀ o ∈ body, o.isBody = true) :
    (step (run s body) (.commit false)).2 = .unit ∧
    (∀ (k : Key) (l : List Val), lookup k s.history = some l →
      ∃ ext : List Val,
        lookup k (iteration s body).1.history = some (l ++ ext) ∧
        l.map (deref (iteration s body).1.heap) = l.map (deref s.heap) ∧
        ext.map (deref (iteration s body).1.heap) =
          (if k ∈ commitKeys then
            match lookup k (run s body).current with
            | some v => if v = Val.none then [] else [deref (run s body).heap v]
            | none => []
           else [])) ∧
    (∃ d : List (Key × Val), (iteration s body).2 = .dict d ∧
      derefDict (iteration s body).1.heap d = derefDict (run s body).heap (run s body).current ∧
      ∀ b : Nat, b ∈ dictAddrs d → b ∉ reach (iteration s body).1 ∧ b ∈ (iteration s body).1.escaped) := by
  have hI1 : Inv (run s body) := (C17_inv_iff _).2 (run_inv body s ((C17_inv_iff s).1 h))
  have hok : (step (run s body) (.commit false)).2 = .unit := by rw [step_commit_false]
  have hM1 := (C17_inv_iff _).1 hI1
  have hM2 := step_inv _ (.commit false) hM1
  -- the final `get_current()` only allocates
  have hext : Ext (step (run s body) (.commit false)).1.heap (iteration s body).1.heap := step_ext _ (.getCurrent none) rfl
  have hhist : (iteration s body).1.history = (step (run s body) (.commit false)).1.history :=
    step_history_eq _ (.getCurrent none) rfl rfl
  refine ⟨hok, fun k l hl => ?_, _, rfl, ?_, fun b hb => ?_⟩
  · have hl1 : lookup k (run s body).history = some l := by rw [run_history_eq body s hb]; exact hl
    obtain ⟨ext, e1, e2, e3⟩ := C17_commit_appends_one (run s body) false hI1 hok k l hl1
    -- payload of the old batches across the body: a prefix of the same length
    obtain ⟨l', hl', hp⟩ := C17_run_history_prefix body s h (fun o ho => (isBody_spec (hb o ho)).2) k l hl
    rw [hl1] at hl'
    rw [← Option.some.inj hl'] at hp
    have hbody : l.map (deref (run s body).heap) = l.map (deref s.heap) := (hp.eq_of_length (by simp)).symm
    have hfin := reader_list.ext hext (v := l ++ ext) fun b hb => hM2.hist_lt b (histAddrs_of_mem (lookup_mem e1) hb)
    rw [List.map_append, List.map_append] at hfin
    obtain ⟨f1, f2⟩ := List.append_inj hfin (by simp)
    exact ⟨ext, by rw [hhist]; exact e1, by rw [f1, e2, hbody], by rw [f2]; exact e3⟩
  · have hcur : (step (run s body) (.commit false)).1.current = (run s body).current :=
      (commitLoop_frame commitKeys (run s body)).1
    refine (copier_dict.payload _ _ hM2.cur_lt).trans ?_
    rw [hcur]
    exact reader_dict.ext (step_ext _ (.commit false) rfl) hM1.cur_lt
  · refine ⟨fun hr => ?_, List.mem_append_left _ hb⟩
    have := hM2.reach_lt b hr
    have := (copier_dict.fresh hb).1
    omega

def demoBody : List Op :=
  [.setCurrent "iter" (.scalar 1) true, .updateCurrent [("u", .fresh [1, 2]), ("logl", .fresh [5]), ("beta", .scalar 0)] true,
   .scribble 0 [7, 7], .setCurrent "u" (.held 0) true, .getHistory "u" none true]

example : ∀ o ∈ demoBody, o.isBody = true := by decide +kernel
example : lookup "u" (iteration init demoBody).1.history = some [Val.ref 5] ∧
    rd (iteration init demoBody).1.heap 5 = some [7, 7] ∧
    lookup "x" (iteration init demoBody).1.history = some [] := by decide +kernel

/-- Any number of iterations, with anything the caller likes in between (accessor calls, in-place writes to what it
    was given — everything except import): the batches committed so far stay, as payloads, a prefix of the history. -/
theorem C17_iterations_append_only (s : State) (h : Inv s) (rounds : List (List Op × List Op))
    (hr : ∀ r ∈ rounds, (∀ o ∈ r.1, o.isBody = true) ∧ (∀ o ∈ r.2, o.isImport = false))
    (k : Key) (l : List Val) (hl : lookup k s.history = some l) :
    ∃ l' : List Val, lookup k (run s (rounds.flatMap fun r => iterationOps r.1 ++ r.2)).history = some l' ∧
      l.map (deref s.heap) <+: l'.map (deref (run s (rounds.flatMap fun r => iterationOps r.1 ++ r.2)).heap) := by
  apply C17_run_history_prefix _ s h _ k l hl
  intro o ho
  simp only [List.mem_flatMap, List.mem_append, iterationOps, List.mem_cons, List.not_mem_nil, or_false] at ho
  obtain ⟨r, hrm, ho⟩ := ho
  rcases ho with (ho | ho | ho) | ho
  · exact (isBody_spec ((hr r hrm).1 o ho)).2
  · subst ho; rfl
  · subst ho; rfl
  · exact (hr r hrm).2 o ho

theorem run_iterationOps (s : State) (body : List Op) : run s (iterationOps body) = (iteration s body).1 := by
  simp [iterationOps, run_append, run, iteration]

/-! ### `Sampler.posterior()` -/

/-- `compute_posterior` does not touch the manager's dictionaries (it never commits, never fills the results cache),
    keeps the invariant, and therefore leaves every observable read as it was. -/
theorem C17_posterior_read_only (s : State) (o : PostOpts) (h : Inv s) :
    (posterior s o).1.current = s.current ∧ (posterior s o).1.history = s.history ∧
    (posterior s o).1.cache = s.cache ∧ (posterior s o).1.imported = s.imported ∧ Inv (posterior s o).1 := by
  have sp := (posterior_spec s o).1
  exact ⟨sp.cur, sp.hist, sp.cache, sp.imp, (C17_inv_iff _).2 (sp.inv ((C17_inv_iff s).1 h))⟩

/-- Every array in the tuple `posterior()` returns — for every combination of `resample`, `return_blobs`,
    `trim_importance_weights`, `return_logw`, with or without a declared blobs dtype, in every state — was allocated
    during the call, is recorded as held by the caller, and is not reachable from internal state. -/
theorem C17_posterior_returns_new_arrays (s : State) (o : PostOpts) (h : Inv s) (b : Nat)
    (hb : b ∈ (posterior s o).2.addrs) :
    s.next ≤ b ∧ b ∈ (posterior s o).1.escaped ∧ b ∉ reach (posterior s o).1 := by
  have sp := posterior_spec s o
  have h1 := sp.2 b hb
  refine ⟨h1.1, h1.2, fun hr => ?_⟩
  rw [sp.1.reach_eq] at hr
  have := ((C17_inv_iff s).1 h).reach_lt b hr
  have := h1.1
  omega

/-- the slots of the returned tuple, by option (the documented signatures) -/
theorem C17_posterior_tuple (o : PostOpts) (v : PostVals) (w : Val) :
    (postTuple o v w).map Prod.fst =
      ["x", "weights", "logl"] ++ (if o.returnBlobs && v.blobs != Val.none then ["blobs"] else []) ++
        (if o.returnLogw then ["logw"] else []) := by
  simp only [postTuple]
  split <;> split <;> simp

/-- non-vacuity: after two commits, `posterior(return_logw=True, trim_importance_weights=False)` hands out `x`, `logl`
    (the concatenated batches), `weights`, `logw`: addresses 12..16 are new, nothing internal points to them -/
def demoPost : List Op :=
  [.updateCurrent [("u", .fresh [1, 2]), ("x", .fresh [3, 4]), ("logl", .fresh [5]), ("beta", .scalar 0), ("logz", .scalar 0)] true,
   .commit false, .commit false]

example : (posterior (run init demoPost) ⟨false, false, false, true, false⟩).2 =
    .dict [("x", .ref 15), ("weights", .ref 13), ("logl", .ref 16), ("logw", .ref 12)] ∧
    rd (posterior (run init demoPost) ⟨false, false, false, true, false⟩).1.heap 15 = some [3, 4, 3, 4] ∧
    (run init demoPost).next = 12 := by decide +kernel
example : (posterior (run init demoPost) ⟨true, true, true, true, false⟩).2 =
    .dict [("x", .ref 23), ("weights", .ref 26), ("logl", .ref 24), ("logw", .ref 25)] := by decide +kernel
/-- with an empty history `np.max(logw)` raises -/
example : (posterior init ⟨false, false, true, false, false⟩).2 = .err .valueError := by decide +kernel

/-! ### internal state only acquires arrays the manager allocated itself -/

/-- For every operation except the two `copy=False` stores: an array reachable from `_current`, `_history` or the
    results cache afterwards was reachable before, or was allocated by this very operation.  No array the caller ever
    held — none it created, none it was handed — becomes internal. -/
theorem C17_internal_arrays_are_library_allocated (s : State) (o : Op) (ho : o.optIn = false) (a : Nat)
    (ha : a ∈ reach (step s o).1) : a ∈ reach s ∨ s.next ≤ a :=
  step_reach_new s o ho a ha

/-! ### resume: `update_from_dict` of an exported dictionary into a newly constructed manager -/

/-- a newly constructed manager beside `s` satisfies the invariant -/
theorem C17_freshIn_inv (s : State) (h : Inv s) : Inv (freshIn s) :=
  (C17_inv_iff _).2 (freshIn_inv ((C17_inv_iff s).1 h))

/-- The resumed manager (export, `update_from_dict` into a fresh manager, the defaults of `load_sampler_state`) satisfies
    the invariant — so every theorem above applies to the run that continues from it — and shares NOTHING with what
    existed before: every array it reaches was allocated after the export, hence is neither one of the old manager's
    arrays nor one of the arrays of the exported dictionary (which stay in the caller's hands). -/
theorem C17_resume_shares_nothing (s : State) (h : Inv s) :
    Inv (resume s) ∧ (∀ a : Nat, a ∈ reach (resume s) → (step s .toDict).1.next ≤ a) ∧
    (∀ a : Nat, a ∈ reach (resume s) → a ∉ reach s ∧ a ∉ (step s .toDict).2.addrs) := by
  have hI := (C17_inv_iff s).1 h
  have hI1 := step_inv s .toDict hI
  obtain ⟨hInv, hAb⟩ := resume_above s hI
  refine ⟨(C17_inv_iff _).2 hInv, hAb, fun a ha => ⟨fun hr => ?_, fun hr => ?_⟩⟩
  · have := hI.reach_lt a hr
    have := hAb a ha
    have := step_heap_length_le s .toDict
    omega
  · have h1 := hI1.esc_lt a (step_res_escaped s .toDict a hr)
    have := hAb a ha
    omega

/-- Resume restores the committed history exactly (payloads, key by key, batch by batch), in new arrays
    (`C17_resume_shares_nothing`): what was committed before the checkpoint is what the resumed run starts from. -/
theorem C17_resume_restores_history (s : State) (h : Inv s) (hk : s.history.map Prod.fst = historyKeys) :
    derefHist (resume s).heap (resume s).history = derefHist s.heap s.history :=
  resume_history s ((C17_inv_iff s).1 h) hk

/-- … for every state reached from a fresh manager without imports (any number of iterations, accessor calls, caller
    writes), and the run that continues from the resumed manager only appends to the restored batches. -/
theorem C17_resume_then_append_only (pre post : List Op) (hpre : ∀ o ∈ pre, o.isImport = false)
    (hpost : ∀ o ∈ post, o.isImport = false) (k : Key) (l : List Val) (hl : lookup k (run init pre).history = some l) :
    ∃ l' : List Val, lookup k (run (resume (run init pre)) post).history = some l' ∧
      l.map (deref (run init pre).heap) <+: l'.map (deref (run (resume (run init pre)) post).heap) := by
  have hI := C17_reachable_inv pre
  have hk : (run init pre).history.map Prod.fst = historyKeys := by
    rw [run_history_keys pre init hpre]; rfl
  have hr := C17_resume_restores_history _ hI hk
  have h1 : lookup k (derefHist (run init pre).heap (run init pre).history) = some (l.map (deref (run init pre).heap)) := by
    simp only [derefHist, lookup_map, hl, Option.map_some]
  rw [← hr] at h1
  simp only [derefHist, lookup_map] at h1
  cases hl2 : lookup k (resume (run init pre)).history with
  | none => rw [hl2] at h1; cases h1
  | some l2 =>
    rw [hl2] at h1
    simp only [Option.map_some, Option.some.injEq] at h1
    obtain ⟨l', e1, e2⟩ := C17_run_history_prefix post _ (C17_resume_shares_nothing _ hI).1 hpost k l2 hl2
    exact ⟨l', e1, by rw [← h1]; exact e2⟩

/-- non-vacuity: the resumed manager of `demo` holds copies at new addresses -/
example : reach (resume (run init demo)) = [7, 8] ∧ reach (run init demo) = [1, 2] ∧
    (step (run init demo) .toDict).2.addrs = [5, 6] ∧
    lookup "u" (observe (resume (run init demo))).history = some [PVal.arr [3, 4]] ∧
    lookup "iter" (observe (resume (run init demo))).current = some (PVal.scalar 0) := by rw [run_demo]; decide +kernel

/-! ### `compute_results()` caching -/

/-- After ANY operation sequence from a fresh manager (imports restricted to history keys `get_history` accepts — every
    exported dictionary qualifies), what `compute_results()` returns — whether it comes from the cache or is computed
    now — is `resultsP` of the committed history payloads: a function of the committed history alone.  In particular
    the cache is never stale, and nothing the caller writes anywhere can change it (the history payloads do not depend
    on caller-held arrays: `C17_history_indep_of_scribble`). -/
theorem C17_results_function_of_history (ops : List Op) (hvi : ∀ o ∈ ops, o.validImport = true) :
    (observe (run init ops)).results = .dict (resultsP (derefHist (run init ops).heap (run init ops).history)) := by
  obtain ⟨h1, h2⟩ := run_cacheOk ops init init_inv init_cacheOk.1 init_cacheOk.2 hvi
  exact results_eq_resultsP _ (run_inv ops init init_inv) h1 h2

/-- caching is transparent: dropping the cache does not change what `compute_results()` returns -/
theorem C17_cache_transparent (ops : List Op) (hvi : ∀ o ∈ ops, o.validImport = true) :
    (observe { run init ops with cache := none }).results = (observe (run init ops)).results := by
  obtain ⟨h1, h2⟩ := run_cacheOk ops init init_inv init_cacheOk.1 init_cacheOk.2 hvi
  have hI := run_inv ops init init_inv
  rw [results_eq_resultsP _ hI h1 h2]
  exact results_eq_resultsP { run init ops with cache := none } ((Lib.cacheNone false _).inv hI) h1 (cacheOk_none rfl)

/-- non-vacuity: a cached result, then more commits through the cache-invalidating path, then the cached result again -/
def demoCache : List Op :=
  demo ++ [.setCurrent "logl" (.fresh [5, 6]) true, .setCurrent "logz" (.scalar 0) true, .commit false, .computeResults,
           .scribble 9 [-9, -9], .computeResults, .commit false, .computeResults]

example : ∀ o ∈ demoCache, o.validImport = true := by decide +kernel
example : (run init demoCache).cache ≠ none ∧
    lookup "u" (resultsP (derefHist (run init demoCache).heap (run init demoCache).history)) = some (PVal.arr [3, 4, 3, 4, 3, 4]) := by
  decide +kernel

end Props.C17
