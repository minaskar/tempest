import TempestVerif.Props.C16
import Mathlib.MeasureTheory.Constructions.Pi
import Mathlib.MeasureTheory.Integral.Lebesgue.Map
/-
  C16, clause 8f (row 8f of clauses/C16.md) — "a symmetric random-walk proposal followed by the map is a symmetric proposal on the folded space" on the
  WHOLE vector, as a statement about measures on `ℝ^d = Fin d → ℝ` (product Lebesgue measure).  Lebesgue measure on `ℝ^d`
  unfolds over the preimage labels of the folded box (`lintegral_unfold_pi`: Fubini–Tonelli induction on `d` from the
  one-coordinate unfoldings of `Props/C16.lean`); hence the preimage sum `KvecE` is the density of the law of `fold (x + ξ)`,
  and the folded kernel — also the sub-kernel that rejects out-of-cube proposals (fix 9001dc4) — is reversible under the
  (sharp: `Props.C03.C03_reflect_correlated_asymmetric`) sign invariance of the increment density.  `C16_apply_ofFn` ties the coordinate-wise fold to the executed
  `Model.Boundary.apply`.
-/
namespace Props.C16
open Model.Boundary MeasureTheory Set Lemmas.FoldPush
open scoped ENNReal

/-! ### one coordinate, by kind -/

noncomputable def fold1 : Kind → ℝ → ℝ
  | .fixed => id
  | .per => periodic
  | .refl => reflect

/-- where a coordinate of a given kind lives after the fold (up to null sets: the end points) -/
def Kind.I : Kind → Set ℝ
  | .fixed => univ
  | .per => Ico 0 1
  | .refl => Ioo 0 1

/-- preimage labels of one coordinate -/
abbrev Kind.L (κ : Kind) : Type := {p : ℤ × Bool // κ.ok p}

theorem Kind.measurableSet_I (κ : Kind) : MeasurableSet κ.I := by
  cases κ
  · exact MeasurableSet.univ
  · exact measurableSet_Ico
  · exact measurableSet_Ioo

theorem measurable_fold1 (κ : Kind) : Measurable (fold1 κ) := by
  cases κ
  · exact measurable_id
  · exact measurable_periodic
  · exact measurable_reflect

theorem measurable_pre1 (κ : Kind) (p : ℤ × Bool) : Measurable (pre1 κ p) := by
  rcases p with ⟨m, b⟩
  cases b
  · exact measurable_const.add measurable_id.neg
  · exact measurable_const.add measurable_id

/-- the model's coordinate map is the fold of the coordinate's kind (an index listed as periodic AND
    reflective is wrapped, and the reflection is then the identity on `[0,1)`) -/
theorem coordMap_eq_fold1 (per refl : List Nat) (i : Nat) (x : ℝ) :
    coordMap per refl i x = fold1 (kind per refl i) x := by
  unfold coordMap kind
  by_cases hp : i ∈ per
  · by_cases hr : i ∈ refl
    · simp only [hp, hr, if_true, fold1]; exact reflect_periodic x
    · simp only [hp, hr, if_true, if_false, fold1]
  · by_cases hr : i ∈ refl
    · simp only [hp, hr, if_true, if_false, fold1]
    · simp only [hp, hr, if_false, fold1, id]

theorem fold1_pre1 (κ : Kind) (p : κ.L) (t : ℝ) (ht : t ∈ κ.I) : fold1 κ (pre1 κ p.1 t) = t := by
  rcases p with ⟨p, hp⟩
  change fold1 κ (pre1 κ p t) = t
  cases κ
  · rw [show p = (0, true) from hp, pre1_fixed]; rfl
  · rw [pre1_per p t hp]; exact periodic_intCast_add _ ht.1 ht.2
  · rw [pre1_refl]; exact reflPre_reflects p t ht.1.le ht.2.le

theorem lintegral_unfold_kind (κ : Kind) (f : ℝ → ℝ≥0∞) (hf : Measurable f) :
    ∫⁻ w, f w = ∫⁻ t in κ.I, ∑' p : κ.L, f (pre1 κ p.1 t) := by
  cases κ
  · -- fixed: the single label (0, true)
    have : ∀ t, ∑' p : Kind.L .fixed, f (pre1 .fixed p.1 t) = f t := fun t => by
      rw [tsum_eq_single (⟨(0, true), rfl⟩ : Kind.L .fixed) fun p hp => absurd (Subtype.ext (show p.1 = (0, true) from p.2)) hp, pre1_fixed]
    simp only [this, Kind.I, Measure.restrict_univ]
  · -- periodic: labels (m, true), preimages m + t
    let e : ℤ ≃ Kind.L .per :=
      { toFun := fun m => ⟨(m, true), rfl⟩
        invFun := fun p => p.1.1
        left_inv := fun m => rfl
        right_inv := by
          rintro ⟨⟨m, b⟩, hp⟩
          have : b = true := hp
          subst this; rfl }
    rw [lintegral_unfold f hf]
    refine setLIntegral_congr_fun measurableSet_Ico fun t _ => ?_
    rw [← e.tsum_eq]
    exact tsum_congr fun m => by rw [pre1_per _ _ rfl]; rfl
  · -- reflective: all labels, preimages 2m ± t
    rw [lintegral_unfold_refl f hf]
    refine setLIntegral_congr_fun measurableSet_Ioo fun t _ => ?_
    rw [← (Equiv.subtypeUnivEquiv (p := Kind.ok .refl) fun _ => trivial).symm.tsum_eq]
    exact tsum_congr fun p => by rw [pre1_refl]; rfl

/-! ### d coordinates: Fubini–Tonelli induction -/

/-- inserting a first coordinate is measurable in both arguments.  (Coordinate by coordinate: composing with the
    measurable equivalence `piFinSuccAbove` instead makes Lean unify `Fin.insertNth` terms up to unfolding, which is slow.) -/
theorem measurable_insertNth_zero {β : Type*} [MeasurableSpace β] {n : ℕ} {g : β → ℝ} {h : β → Fin n → ℝ}
    (hg : Measurable g) (hh : Measurable h) :
    Measurable fun z => (Fin.insertNth 0 (g z) (h z) : Fin (n + 1) → ℝ) :=
  measurable_pi_lambda _ fun i => by
    rcases Fin.eq_self_or_eq_succAbove 0 i with rfl | ⟨j, rfl⟩
    · simp only [Fin.insertNth_apply_same]; exact hg
    · simp only [Fin.insertNth_apply_succAbove]; exact (measurable_pi_apply j).comp hh

theorem lintegral_pi_eq_prod {n : ℕ} (μ : Fin (n + 1) → Measure ℝ) [∀ i, SigmaFinite (μ i)]
    (f : (Fin (n + 1) → ℝ) → ℝ≥0∞) :
    ∫⁻ w, f w ∂(Measure.pi μ) =
      ∫⁻ z : ℝ × (Fin n → ℝ), f (Fin.insertNth 0 z.1 z.2)
        ∂((μ 0).prod (Measure.pi fun j => μ (Fin.succAbove 0 j))) :=
  (measurePreserving_piFinSuccAbove (α := fun _ : Fin (n + 1) => ℝ) μ 0).symm.lintegral_map_equiv f

/-- preimage labels of a point of the folded space, one label per coordinate -/
abbrev LblK {n : ℕ} (κ : Fin n → Kind) : Type := (i : Fin n) → (κ i).L

def preK {n : ℕ} (κ : Fin n → Kind) (p : LblK κ) (t : Fin n → ℝ) : Fin n → ℝ :=
  fun i => pre1 (κ i) (p i).1 (t i)

/-- Lebesgue measure on the folded space `∏ᵢ I(κᵢ)` -/
noncomputable def μK {n : ℕ} (κ : Fin n → Kind) : Measure (Fin n → ℝ) :=
  Measure.pi fun i => (volume : Measure ℝ).restrict (κ i).I

theorem measurable_preK {n : ℕ} (κ : Fin n → Kind) (p : LblK κ) : Measurable (preK κ p) :=
  measurable_pi_lambda _ fun i => (measurable_pre1 (κ i) (p i).1).comp (measurable_pi_apply i)

theorem preK_ins {n : ℕ} (κ : Fin (n + 1) → Kind) (p0 : (κ 0).L)
    (p' : LblK fun j => κ (Fin.succAbove 0 j)) (t0 : ℝ) (t' : Fin n → ℝ) :
    preK κ (Fin.insertNth (α := fun i => (κ i).L) 0 p0 p') (Fin.insertNth 0 t0 t') =
      Fin.insertNth 0 (pre1 (κ 0) p0.1 t0) (preK (fun j => κ (Fin.succAbove 0 j)) p' t') := by
  funext i
  rcases Fin.eq_self_or_eq_succAbove 0 i with rfl | ⟨j, rfl⟩
  · simp only [preK, Fin.insertNth_apply_same]
  · simp only [preK, Fin.insertNth_apply_succAbove]

theorem tsum_LblK_succ {n : ℕ} (κ : Fin (n + 1) → Kind) (F : LblK κ → ℝ≥0∞) :
    ∑' p : LblK κ, F p =
      ∑' p' : LblK fun j => κ (Fin.succAbove 0 j), ∑' p0 : (κ 0).L,
        F (Fin.insertNth (α := fun i => (κ i).L) 0 p0 p') := by
  rw [← (Fin.insertNthEquiv (fun i => (κ i).L) 0).tsum_eq F,
    ENNReal.tsum_prod' (f := fun z : (κ 0).L × (LblK fun j => κ (Fin.succAbove 0 j)) =>
      F (Fin.insertNthEquiv (fun i => (κ i).L) 0 z)), ENNReal.tsum_comm]
  rfl

/-- **d-dimensional unfolding**, any mixture of untouched, periodic and reflective coordinates -/
theorem lintegral_unfold_pi : ∀ (n : ℕ) (κ : Fin n → Kind) (f : (Fin n → ℝ) → ℝ≥0∞), Measurable f →
    ∫⁻ w, f w = ∫⁻ t, ∑' p : LblK κ, f (preK κ p t) ∂(μK κ)
  | 0, κ, f, _ => by
    have hμ : (fun _ : Fin 0 => (volume : Measure ℝ)) = fun i => (volume : Measure ℝ).restrict (κ i).I :=
      funext fun i => i.elim0
    show ∫⁻ w, f w ∂(Measure.pi fun _ : Fin 0 => (volume : Measure ℝ)) = _
    unfold μK
    rw [hμ]
    congr 1; funext t
    rw [tsum_eq_single (default : LblK κ) (fun p hp => absurd (Subsingleton.elim p default) hp)]
    congr 1; exact Subsingleton.elim _ _
  | n + 1, κ, f, hf => by
    -- `κ'`: the kinds of the last `n` coordinates; `F t0 b`: the first coordinate unfolded at `t0`, the others at `b`
    let κ' : Fin n → Kind := fun j => κ (Fin.succAbove 0 j)
    let F : ℝ → (Fin n → ℝ) → ℝ≥0∞ := fun t0 b => ∑' p0 : (κ 0).L, f (Fin.insertNth 0 (pre1 (κ 0) p0.1 t0) b)
    have hF : Measurable (Function.uncurry F) :=
      Measurable.ennreal_tsum fun p0 => hf.comp
        (measurable_insertNth_zero ((measurable_pre1 (κ 0) p0.1).comp measurable_fst) measurable_snd)
    have hFt : ∀ t0, Measurable (F t0) := fun t0 =>
      Measurable.ennreal_tsum fun p0 => hf.comp (measurable_insertNth_zero measurable_const measurable_id')
    calc ∫⁻ w, f w
        = ∫⁻ b : Fin n → ℝ, ∫⁻ a : ℝ, f (Fin.insertNth 0 a b) :=
          (lintegral_pi_eq_prod (fun _ => (volume : Measure ℝ)) f).trans
            (lintegral_prod_symm _ (hf.comp (measurable_insertNth_zero measurable_fst measurable_snd)).aemeasurable)
      _ = ∫⁻ b : Fin n → ℝ, ∫⁻ t0 in (κ 0).I, F t0 b :=
          lintegral_congr fun b => lintegral_unfold_kind (κ 0) (fun a => f (Fin.insertNth 0 a b))
            (hf.comp (measurable_insertNth_zero measurable_id' measurable_const))
      _ = ∫⁻ t0 in (κ 0).I, ∫⁻ b : Fin n → ℝ, F t0 b :=
          lintegral_lintegral_swap (hF.comp measurable_swap).aemeasurable
      _ = ∫⁻ t0 in (κ 0).I, ∫⁻ t', ∑' p' : LblK κ', F t0 (preK κ' p' t') ∂(μK κ') :=
          lintegral_congr fun t0 => lintegral_unfold_pi n κ' (F t0) (hFt t0)
      _ = ∫⁻ t0 in (κ 0).I, ∫⁻ t', ∑' p : LblK κ, f (preK κ p (Fin.insertNth 0 t0 t')) ∂(μK κ') :=
          lintegral_congr fun t0 => lintegral_congr fun t' => by
            rw [tsum_LblK_succ]
            exact tsum_congr fun p' => tsum_congr fun p0 => by rw [preK_ins]
      _ = ∫⁻ t, ∑' p : LblK κ, f (preK κ p t) ∂(μK κ) :=
          ((lintegral_pi_eq_prod (fun i => (volume : Measure ℝ).restrict (κ i).I)
              fun t => ∑' p : LblK κ, f (preK κ p t)).trans
            (lintegral_prod _ ((Measurable.ennreal_tsum fun p => hf.comp (measurable_preK κ p)).comp
              (measurable_insertNth_zero measurable_fst measurable_snd)).aemeasurable)).symm

/-! ### the law of the folded proposal on the whole vector -/

noncomputable def foldK {n : ℕ} (κ : Fin n → Kind) (w : Fin n → ℝ) : Fin n → ℝ :=
  fun i => fold1 (κ i) (w i)

def boxK {n : ℕ} (κ : Fin n → Kind) : Set (Fin n → ℝ) := Set.univ.pi fun i => (κ i).I

theorem measurable_foldK {n : ℕ} (κ : Fin n → Kind) : Measurable (foldK κ) :=
  measurable_pi_lambda _ fun i => (measurable_fold1 (κ i)).comp (measurable_pi_apply i)

theorem measurableSet_boxK {n : ℕ} (κ : Fin n → Kind) : MeasurableSet (boxK κ) :=
  MeasurableSet.univ_pi fun i => (κ i).measurableSet_I

theorem μK_eq_restrict {n : ℕ} (κ : Fin n → Kind) :
    μK κ = (volume : Measure (Fin n → ℝ)).restrict (boxK κ) :=
  (Measure.restrict_pi_pi (fun _ : Fin n => (volume : Measure ℝ)) fun i => (κ i).I).symm

theorem foldK_preK {n : ℕ} (κ : Fin n → Kind) (p : LblK κ) (t : Fin n → ℝ) (ht : t ∈ boxK κ) :
    foldK κ (preK κ p t) = t :=
  funext fun i => fold1_pre1 (κ i) (p i) (t i) (ht i (mem_univ i))

/-- density at `y` (w.r.t. Lebesgue measure on the folded space) of `fold (x + ξ)`, `ξ ~ k` on `ℝ^n` -/
noncomputable def KvecE {n : ℕ} (κ : Fin n → Kind) (k : (Fin n → ℝ) → ℝ≥0∞) (x y : Fin n → ℝ) : ℝ≥0∞ :=
  ∑' p : LblK κ, k (preK κ p y - x)

/-- **the preimage sum IS the law of the folded proposal, on the whole vector**: for every measurable
    test function `g` and increment density `k` on `ℝ^n` (no integrability, evenness or independence assumed) -/
theorem vector_pushforward {n : ℕ} (κ : Fin n → Kind) (k g : (Fin n → ℝ) → ℝ≥0∞)
    (hk : Measurable k) (hg : Measurable g) (x : Fin n → ℝ) :
    ∫⁻ ξ, g (foldK κ (x + ξ)) * k ξ = ∫⁻ y in boxK κ, g y * KvecE κ k x y :=
  pushforward_of_unfold volume (foldK κ) (measurable_foldK κ) (preK κ) _ (measurableSet_boxK κ)
    (fun f hf => by rw [lintegral_unfold_pi n κ f hf, μK_eq_restrict]) (foldK_preK κ) k g hk hg x

def flipK {n : ℕ} (κ : Fin n → Kind) : LblK κ ≃ LblK κ where
  toFun p := fun i => ⟨flipE (p i).1, flipE_ok _ _ (p i).2⟩
  invFun p := fun i => ⟨flipE (p i).1, flipE_ok _ _ (p i).2⟩
  left_inv p := by funext i; apply Subtype.ext; exact flipE.left_inv _
  right_inv p := by funext i; apply Subtype.ext; exact flipE.left_inv _

/-- the sign-invariance of the increment density under which the folded proposal is symmetric:
    negating all coordinates except an arbitrary subset of the purely reflective ones (sharp: `Props.C03.C03_reflect_correlated_asymmetric`) -/
def SignInv {n : ℕ} (κ : Fin n → Kind) (k : (Fin n → ℝ) → ℝ≥0∞) : Prop :=
  ∀ (s : Fin n → Bool) (z : Fin n → ℝ), (∀ i, s i = false → κ i = .refl) →
    k (fun i => if s i then -z i else z i) = k z

theorem KvecE_symmetric {n : ℕ} (κ : Fin n → Kind) (k : (Fin n → ℝ) → ℝ≥0∞) (hk : SignInv κ k)
    (x y : Fin n → ℝ) : KvecE κ k x y = KvecE κ k y x := by
  unfold KvecE
  rw [← (flipK κ).tsum_eq]
  exact tsum_congr fun p => term_flip κ k hk x y (fun i => (p i).1) fun i => (p i).2

theorem measurable_KvecE {n : ℕ} (κ : Fin n → Kind) (k : (Fin n → ℝ) → ℝ≥0∞) (hk : Measurable k) :
    Measurable (Function.uncurry (KvecE κ k)) := by
  unfold KvecE Function.uncurry
  exact Measurable.ennreal_tsum
    (fun p => hk.comp (((measurable_preK κ p).comp measurable_snd).sub measurable_fst))

/-- **the folded proposal kernel on the whole vector is reversible w.r.t. Lebesgue measure on the folded
    space** — `∫ f(x) E g(fold(x+ξ)) dx = ∫ g(y) E f(fold(y+ξ)) dy` — for every increment density with the
    sign-invariance `SignInv` -/
theorem vector_kernel_reversible {n : ℕ} (κ : Fin n → Kind) (k f g : (Fin n → ℝ) → ℝ≥0∞)
    (hk : Measurable k) (hf : Measurable f) (hg : Measurable g) (hsign : SignInv κ k) :
    ∫⁻ x in boxK κ, f x * ∫⁻ ξ, g (foldK κ (x + ξ)) * k ξ =
    ∫⁻ y in boxK κ, g y * ∫⁻ ξ, f (foldK κ (y + ξ)) * k ξ := by
  simp only [vector_pushforward κ k _ hk hg, vector_pushforward κ k _ hk hf]
  exact reversible_of_symmetric_density _ _ (measurable_KvecE κ k hk)
    (KvecE_symmetric κ k hsign) f g hf hg

/-! ### the same for the model's `apply per refl` (what the driver executes) -/

variable {d : ℕ}

def kindV (per refl : List Nat) (d : ℕ) : Fin d → Kind := fun i => kind per refl i.val

noncomputable def foldV (per refl : List Nat) (w : Fin d → ℝ) : Fin d → ℝ :=
  fun i => coordMap per refl i.val (w i)

/-- the folded space of the model: `[0,1)` for periodic, `(0,1)` for reflective coordinates, `ℝ` otherwise -/
def boxV (per refl : List Nat) (d : ℕ) : Set (Fin d → ℝ) := boxK (kindV per refl d)

theorem foldV_eq_foldK (per refl : List Nat) : (foldV per refl : (Fin d → ℝ) → _) = foldK (kindV per refl d) := by
  funext w i; exact coordMap_eq_fold1 per refl i.val (w i)

/-- `foldV` IS `Model.Boundary.apply` (the executed definition) on the list of coordinates -/
theorem C16_apply_ofFn (per refl : List Nat) (w : Fin d → ℝ) :
    apply per refl (List.ofFn w) = List.ofFn (foldV per refl w) := by
  apply List.ext_getElem?
  intro i
  rw [C16_apply_coord]
  by_cases hi : i < d
  · rw [List.getElem?_eq_getElem (by simpa using hi), List.getElem?_eq_getElem (by simpa using hi)]
    simp [foldV]
  · rw [List.getElem?_eq_none (by simpa using hi), List.getElem?_eq_none (by simpa using hi)]
    rfl

/-- **clause 8f, pushforward**: the law of `apply (x + ξ)` has density `KvecE` w.r.t. Lebesgue measure on the
    folded space, for every measurable density `k` of the increment on `ℝ^d` and every index lists -/
theorem C16_vector_pushforward (per refl : List Nat) (k g : (Fin d → ℝ) → ℝ≥0∞)
    (hk : Measurable k) (hg : Measurable g) (x : Fin d → ℝ) :
    ∫⁻ ξ, g (foldV per refl (x + ξ)) * k ξ =
      ∫⁻ y in boxV per refl d, g y * KvecE (kindV per refl d) k x y := by
  rw [foldV_eq_foldK]; exact vector_pushforward _ k g hk hg x

/-- the same, literally about `Model.Boundary.apply` on lists -/
theorem C16_vector_pushforward_apply (per refl : List Nat) (k : (Fin d → ℝ) → ℝ≥0∞) (G : List ℝ → ℝ≥0∞)
    (hk : Measurable k) (hG : Measurable fun y : Fin d → ℝ => G (List.ofFn y)) (x : Fin d → ℝ) :
    ∫⁻ ξ, G (apply per refl (List.ofFn (x + ξ))) * k ξ =
      ∫⁻ y in boxV per refl d, G (List.ofFn y) * KvecE (kindV per refl d) k x y := by
  simp only [C16_apply_ofFn]
  exact C16_vector_pushforward per refl k (fun y => G (List.ofFn y)) hk hG x

/-- **clause 8f, reversibility**: the folded proposal kernel is symmetric on the folded space -/
theorem C16_vector_kernel_reversible (per refl : List Nat) (k f g : (Fin d → ℝ) → ℝ≥0∞)
    (hk : Measurable k) (hf : Measurable f) (hg : Measurable g) (hsign : SignInv (kindV per refl d) k) :
    ∫⁻ x in boxV per refl d, f x * ∫⁻ ξ, g (foldV per refl (x + ξ)) * k ξ =
    ∫⁻ y in boxV per refl d, g y * ∫⁻ ξ, f (foldV per refl (y + ξ)) * k ξ := by
  rw [foldV_eq_foldK]; exact vector_kernel_reversible _ k f g hk hf hg hsign

/-- no purely reflective coordinate: ANY even increment density (correlated covariances included) -/
theorem C16_vector_kernel_reversible_periodic (per refl : List Nat) (k f g : (Fin d → ℝ) → ℝ≥0∞)
    (hk : Measurable k) (hf : Measurable f) (hg : Measurable g)
    (hR : ∀ i : Fin d, i.val ∈ refl → i.val ∈ per) (heven : ∀ z : Fin d → ℝ, k (fun i => -z i) = k z) :
    ∫⁻ x in boxV per refl d, f x * ∫⁻ ξ, g (foldV per refl (x + ξ)) * k ξ =
    ∫⁻ y in boxV per refl d, g y * ∫⁻ ξ, f (foldV per refl (y + ξ)) * k ξ :=
  C16_vector_kernel_reversible per refl k f g hk hf hg (even_sign_invariant per refl k hR heven)

/-- independent coordinates, each with an even density: every choice of periodic / reflective coordinates -/
theorem C16_vector_kernel_reversible_product (per refl : List Nat) (k1 : Fin d → ℝ → ℝ≥0∞)
    (f g : (Fin d → ℝ) → ℝ≥0∞) (hk1 : ∀ i, Measurable (k1 i)) (hf : Measurable f) (hg : Measurable g)
    (heven : ∀ i z, k1 i (-z) = k1 i z) :
    ∫⁻ x in boxV per refl d, f x * ∫⁻ ξ, g (foldV per refl (x + ξ)) * ∏ i, k1 i (ξ i) =
    ∫⁻ y in boxV per refl d, g y * ∫⁻ ξ, f (foldV per refl (y + ξ)) * ∏ i, k1 i (ξ i) :=
  C16_vector_kernel_reversible per refl (fun ξ => ∏ i, k1 i (ξ i)) f g
    (Finset.measurable_prod _ fun i _ => (hk1 i).comp (measurable_pi_apply i)) hf hg
    fun s z _ => prod_sign_invariant k1 heven s z

/-- the folded density integrates to the mass of the increment density: the folded proposal is a Markov kernel
    (nothing is lost or counted twice by the preimage sum) -/
theorem C16_vector_density_mass (per refl : List Nat) (k : (Fin d → ℝ) → ℝ≥0∞) (hk : Measurable k) (x : Fin d → ℝ) :
    ∫⁻ y in boxV per refl d, KvecE (kindV per refl d) k x y = ∫⁻ ξ, k ξ := by
  have h := C16_vector_pushforward per refl k (fun _ => 1) hk measurable_const x
  simp only [one_mul] at h
  exact h.symm

/-! ### the sub-kernel the sampler uses after fix 9001dc4: out-of-cube proposals are rejected -/

/-- indicator of `check_bounds` (the model's `checkBounds`, on the list of coordinates) -/
noncomputable def cubeInd (per refl : List Nat) (y : Fin d → ℝ) : ℝ≥0∞ :=
  if checkBounds per refl (List.ofFn y) = true then 1 else 0

theorem measurable_cubeInd (per refl : List Nat) : Measurable (cubeInd per refl : (Fin d → ℝ) → ℝ≥0∞) := by
  unfold cubeInd
  refine Measurable.ite ?_ measurable_const measurable_const
  have : {y : Fin d → ℝ | checkBounds per refl (List.ofFn y) = true} =
      ⋂ i : Fin d, {y | i.val ∉ per → i.val ∉ refl → y i ∈ Icc (0:ℝ) 1} := by
    ext y; simp only [mem_setOf_eq, mem_iInter]; exact checkBounds_ofFn_iff per refl y
  rw [this]
  refine MeasurableSet.iInter fun i => ?_
  by_cases hs : i.val ∉ per ∧ i.val ∉ refl
  · have e : {y : Fin d → ℝ | i.val ∉ per → i.val ∉ refl → y i ∈ Icc (0:ℝ) 1} = (fun y => y i) ⁻¹' Icc 0 1 :=
      Set.ext fun y => ⟨fun h => h hs.1 hs.2, fun h _ _ => h⟩
    rw [e]; exact (measurable_pi_apply i) measurableSet_Icc
  · have e : {y : Fin d → ℝ | i.val ∉ per → i.val ∉ refl → y i ∈ Icc (0:ℝ) 1} = univ :=
      Set.ext fun y => ⟨fun _ => trivial, fun _ hp hr => absurd ⟨hp, hr⟩ hs⟩
    rw [e]; exact MeasurableSet.univ

/-- the check at `mcmc.py:163` is made on the folded proposal; it is the check of the raw one -/
theorem cubeInd_foldV (per refl : List Nat) (w : Fin d → ℝ) :
    cubeInd per refl (foldV per refl w) = cubeInd per refl w := by
  unfold cubeInd
  rw [← C16_apply_ofFn, C16_check_after_apply]

/-- **the proposal sub-kernel of the sampler** (fold, then reject when `check_bounds` fails — fix 9001dc4)
    is reversible w.r.t. Lebesgue measure on the part of the folded space inside the cube.  With `f`, `g`
    ranging over all measurable functions this is the detailed-balance identity
    `1_C(x) q̃(x→y) 1_C(y) = 1_C(y) q̃(y→x) 1_C(x)` that a Metropolis step with `alpha = 0` outside needs. -/
theorem C16_vector_subkernel_reversible_cube (per refl : List Nat) (k f g : (Fin d → ℝ) → ℝ≥0∞)
    (hk : Measurable k) (hf : Measurable f) (hg : Measurable g) (hsign : SignInv (kindV per refl d) k) :
    ∫⁻ x in boxV per refl d, (f x * cubeInd per refl x) *
        ∫⁻ ξ, (g (foldV per refl (x + ξ)) * cubeInd per refl (x + ξ)) * k ξ =
    ∫⁻ y in boxV per refl d, (g y * cubeInd per refl y) *
        ∫⁻ ξ, (f (foldV per refl (y + ξ)) * cubeInd per refl (y + ξ)) * k ξ := by
  have h := C16_vector_kernel_reversible per refl k (fun x => f x * cubeInd per refl x)
    (fun y => g y * cubeInd per refl y) hk (hf.mul (measurable_cubeInd per refl))
    (hg.mul (measurable_cubeInd per refl)) hsign
  simpa only [cubeInd_foldV] using h

/-! ### the real-valued label sums of `Props/C16.lean` are these densities -/

/-- the label set `Lbl` of `Props/C16.lean` and the per-coordinate labels are the same thing -/
def lblEquiv (per refl : List Nat) (d : ℕ) : Lbl per refl d ≃ LblK (kindV per refl d) :=
  Equiv.subtypePiEquivPi

theorem Kvec_ofReal (per refl : List Nat) (k : (Fin d → ℝ) → ℝ) (hk0 : ∀ z, 0 ≤ k z) (x y : Fin d → ℝ)
    (hs : Summable (fun p : Lbl per refl d => k (fun i => preV per refl p y i - x i))) :
    ENNReal.ofReal (Kvec per refl k x y) =
      KvecE (kindV per refl d) (fun z => ENNReal.ofReal (k z)) x y := by
  unfold Kvec KvecE
  rw [ENNReal.ofReal_tsum_of_nonneg (fun _ => hk0 _) hs, ← (lblEquiv per refl d).tsum_eq]
  rfl

/-! ### non-vacuity -/

/-- d = 2 written out: coordinate 0 periodic, coordinate 1 reflective; the density of the folded proposal
    is the double lattice sum over `m ∈ ℤ` and `(j, ±)`. -/
example (k g : (Fin 2 → ℝ) → ℝ≥0∞) (hk : Measurable k) (hg : Measurable g) (x : Fin 2 → ℝ) :
    ∫⁻ ξ, g (foldV [0] [1] (x + ξ)) * k ξ =
      ∫⁻ y in boxV [0] [1] 2, g y * KvecE (kindV [0] [1] 2) k x y :=
  C16_vector_pushforward [0] [1] k g hk hg x

example : (kindV [0] [1] 3) 0 = .per ∧ (kindV [0] [1] 3) 1 = .refl ∧ (kindV [0] [1] 3) 2 = .fixed :=
  ⟨rfl, rfl, rfl⟩

/-- d = 3, coordinate 0 periodic, 1 reflective, 2 untouched, independent Cauchy-shaped increments -/
example (f g : (Fin 3 → ℝ) → ℝ≥0∞) (hf : Measurable f) (hg : Measurable g) :
    ∫⁻ x in boxV [0] [1] 3, f x * ∫⁻ ξ, g (foldV [0] [1] (x + ξ)) * ∏ i, ENNReal.ofReal (1 / (1 + (ξ i) ^ 2)) =
    ∫⁻ y in boxV [0] [1] 3, g y * ∫⁻ ξ, f (foldV [0] [1] (y + ξ)) * ∏ i, ENNReal.ofReal (1 / (1 + (ξ i) ^ 2)) :=
  C16_vector_kernel_reversible_product [0] [1] (fun _ z => ENNReal.ofReal (1 / (1 + z ^ 2))) f g
    (fun _ => ((measurable_const.add (measurable_id'.pow_const 2)).const_div 1).ennreal_ofReal)
    hf hg (fun _ z => by rw [neg_sq])

/-- periodic folds with a CORRELATED even density -/
example (f g : (Fin 2 → ℝ) → ℝ≥0∞) (hf : Measurable f) (hg : Measurable g) :
    ∫⁻ x in boxV [0, 1] [] 2, f x * ∫⁻ ξ, g (foldV [0, 1] [] (x + ξ)) *
        ENNReal.ofReal (1 / (1 + (ξ 0 + ξ 1) ^ 2 + (ξ 0) ^ 2)) =
    ∫⁻ y in boxV [0, 1] [] 2, g y * ∫⁻ ξ, f (foldV [0, 1] [] (y + ξ)) *
        ENNReal.ofReal (1 / (1 + (ξ 0 + ξ 1) ^ 2 + (ξ 0) ^ 2)) :=
  C16_vector_kernel_reversible_periodic [0, 1] [] _ f g
    (((measurable_const.add (((measurable_pi_apply 0).add (measurable_pi_apply 1)).pow_const 2)).add
      ((measurable_pi_apply 0).pow_const 2)).const_div 1).ennreal_ofReal
    hf hg (fun _ h => absurd h List.not_mem_nil) (fun z => by simp only [← neg_add, neg_sq])

/-- the fold of these theorems on a concrete point is the executed `apply` -/
example : apply [0] [1] (List.ofFn ![(5 / 4 : ℝ), -1 / 4, 7]) = List.ofFn (foldV [0] [1] ![(5 / 4 : ℝ), -1 / 4, 7]) :=
  C16_apply_ofFn _ _ _

end Props.C16
