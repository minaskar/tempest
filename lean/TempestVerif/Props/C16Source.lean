import TempestVerif.Model.BoundaryPy
import TempestVerif.Gen.BoundarySrc
import TempestVerif.Props.C16Py
/-
  C16 — the executable boundary model is built from the statements that are in /repo's `tempest/mcmc.py` when the check runs.

  `Gen/BoundarySrc.lean` is regenerated from the source on every run of the check (translator G15, `translate/g15_boundary.py`):
  `apply_boundary_conditions` and `check_bounds` COMPILED statement by statement — scalar expressions into terms over the scalar
  interface `Sc α`, statements into `applySrc` / `checkSrc` over the numpy dictionary `Model.Np` — plus the statement skeleton,
  signatures and call sites as string tables.

  The theorems say that the hand-written model (`Model.Boundary`, `Model.BoundaryPy.applyPy / checkPy`: what the driver
  executes) IS that compiled source, for EVERY scalar type.  The scalar ones hold by `rfl`; `C16_src_checkPy` is a proof (the
  model folds the set arithmetic into a membership test and the two `np.all` passes into `List.all`), valid for every scalar
  type because it never looks inside a scalar operation.  A change of a literal, an operator, an operand order, a test, a
  branch or a statement in the source breaks the theorem that pins it (table in clauses/C16.md).
-/
namespace Props.C16Src
open Model Model.Boundary Model.BoundaryPy Gen.BoundarySrc
open Props.C16Py (idx)

variable {α : Type} [Sc α]

/-! ### scalar expressions (by `rfl`, every scalar type) -/

/-- `u[..., idx] = u[..., idx] % 1.0`: the model's `periodic` is the source's right-hand side (operator `%`, literal `1.0`) -/
theorem C16_src_periodic (x : α) : periodic x = applyLoop0 x := rfl

/-- `val = u[..., idx]; n_reflect = np.floor(val); remainder = val - n_reflect;
    u[..., idx] = np.where(np.mod(n_reflect, 2.0) == 0, remainder, 1.0 - remainder)`: the model's `reflect` is this body
    (floor, operand order of the subtraction, modulus `2.0`, comparison with `0`, order of the `np.where` branches, `1.0 - r`) -/
theorem C16_src_reflect (x : α) : reflect x = applyLoop1 x := rfl

/-- `u_strict >= 0`, `u_strict <= 1` (1-D pair and 2-D pair): the model's closed-interval test -/
theorem C16_src_inUnit (x : α) :
    inUnit x = (checkCmp0 x && checkCmp1 x) ∧ inUnit x = (checkCmp2 x && checkCmp3 x) := ⟨rfl, rfl⟩

/-- the two passes of `rowCheck` are the source's comparisons, in the source's order, for the 1-D and the 2-D return -/
theorem C16_src_rowCheck (strict : List Nat) (u : List α) :
    rowCheck strict u =
      ((strict.all fun i => match u[i]? with | some x => checkCmp0 x | none => true) &&
       (strict.all fun i => match u[i]? with | some x => checkCmp1 x | none => true)) ∧
    rowCheck strict u =
      ((strict.all fun i => match u[i]? with | some x => checkCmp2 x | none => true) &&
       (strict.all fun i => match u[i]? with | some x => checkCmp3 x | none => true)) := ⟨rfl, rfl⟩

/-! ### `apply_boundary_conditions` -/

/-- **the whole function**: `u = u.copy()`; `if periodic is not None: for idx in periodic: u[..., idx] = …`;
    `if reflective is not None: for idx in reflective: …`; `return u` — periodic loop first, `None` skips a loop,
    whole columns `u[..., idx]` are updated.  (Python argument order `(u, periodic, reflective)`.) -/
theorem C16_src_applyPy (per refl : Option (List Nat)) (a : Arr α) : applyPy per refl a = applySrc a per refl := by
  cases per <;> cases refl <;> rfl

/-- the core `apply` on one point (what `bc.Q` / `bc.F` execute) is the compiled `apply_boundary_conditions` on a 1-D array -/
theorem C16_src_apply (per refl : List Nat) (u : List α) :
    Arr.d1 (apply per refl u) = applySrc (Arr.d1 u) (some per) (some refl) := by
  rw [← C16_src_applyPy, Props.C16Py.C16_applyPy_d1]; rfl

/-- … and row by row on a 2-D array -/
theorem C16_src_apply2 (per refl : List Nat) (n : Nat) (us : List (List α)) :
    Arr.d2 n (apply2 per refl us) = applySrc (Arr.d2 n us) (some per) (some refl) := by
  rw [← C16_src_applyPy, Props.C16Py.C16_applyPy_d2]; rfl

/-! ### `check_bounds` -/

theorem all_take {β : Type} (p : β → Bool) (u : List β) (l : List Nat) :
    ((l.filterMap fun i => u[i]?).map p).all id = l.all fun i => match u[i]? with | some x => p x | none => true := by
  rw [List.all_map, List.all_filterMap]
  exact List.all_congr rfl fun i => by cases u[i]? <;> rfl

theorem isEmpty_len (l : List Nat) : (l.length == 0) = l.isEmpty := by cases l <;> rfl

/-- `n_dim = u.shape[-1]` … `strict_indices = list(all_indices - special_indices)`: the source's set arithmetic (statements 1–5
    of `check_bounds`: `set(range(n_dim))`, `set()`, the two guarded `update`s, the difference, `list`) is the model's `strictIdx` -/
theorem C16_src_strictIdx (per refl : Option (List Nat)) (n : Nat) :
    Np.toList (Np.setDiff (Np.setOf (List.range n))
      (Np.ifSome refl (Np.ifSome per Np.setEmpty fun l => Np.setUpdate Np.setEmpty l)
        fun l' => Np.setUpdate (Np.ifSome per Np.setEmpty fun l => Np.setUpdate Np.setEmpty l) l'))
      = strictIdx per refl n := by
  cases per <;> cases refl <;>
    simp [Np.ifSome, Np.toList, Np.setDiff, Np.setOf, Np.setEmpty, Np.setUpdate, strictIdx, special]

/-- **the whole function**: the index bookkeeping, `if len(strict_indices) == 0:` with its two early exits (`True` for 1-D,
    `np.ones(u.shape[0], dtype=bool)` otherwise), `u_strict = u[..., strict_indices]`, `if u.ndim == 1:` `np.all(u_strict >= 0) and
    np.all(u_strict <= 1)`, else `np.all(…, axis=-1) & np.all(…, axis=-1)` -/
theorem C16_src_checkPy (per refl : Option (List Nat)) (a : Arr α) : checkPy per refl a = checkSrc a per refl := by
  cases a with
  | d1 u =>
    simp only [checkSrc, checkPy, Np.shapeAt, Np.ndim, true_or, ite_true, C16_src_strictIdx, isEmpty_len, BEq.rfl]
    split
    · rfl
    · simp only [Np.take, Np.cmp, Np.allFlat, Np.andPy, all_take, rowCheck]; rfl
  | d2 n us =>
    have h21 : ((2 : Nat) == 1) = false := rfl
    have h0 : ¬ ((0 : Int) = -1 ∨ (0 : Int) = 1) := by decide
    simp only [checkSrc, checkPy, Np.shapeAt, Np.ndim, true_or, ite_true, C16_src_strictIdx, isEmpty_len, h21, h0, ite_false,
      Bool.false_eq_true]
    split
    · rfl
    · simp only [Np.take, Np.cmp, Np.allAxis, Np.andBit, true_or, ite_true, List.map_map, List.zipWith_map, List.zipWith_self, Res.vec.injEq]
      apply List.map_congr_left
      intro row _
      simp only [Function.comp, all_take, rowCheck]; rfl

/-- the core `checkBounds` on one point is the compiled `check_bounds` on a 1-D array (a scalar answer) -/
theorem C16_src_checkBounds (per refl : List Nat) (u : List α) :
    Res.scalar (checkBounds per refl u) = checkSrc (Arr.d1 u) (some per) (some refl) := by
  rw [← C16_src_checkPy, Props.C16Py.C16_checkPy_d1]; rfl

/-- … and one flag per row on an (n_walkers, n_dim) array -/
theorem C16_src_checkBounds2 (per refl : List Nat) (n : Nat) (us : List (List α)) (hrows : ∀ row ∈ us, row.length = n) :
    Res.vec (checkBounds2 per refl us) = checkSrc (Arr.d2 n us) (some per) (some refl) := by
  rw [← C16_src_checkPy, Props.C16Py.C16_checkPy_d2 _ _ _ _ hrows]; rfl

/-- `check_bounds` does not distinguish the two index lists (only their union is read): the order of the two arguments at a
    call site is immaterial, which is why `callSites` lists them sorted for `check_bounds` (and in call order for
    `apply_boundary_conditions`, where the periodic wrap comes first) -/
theorem C16_src_check_symm (per refl : Option (List Nat)) (a : Arr α) : checkSrc a per refl = checkSrc a refl per := by
  have hs : ∀ n, strictIdx per refl n = strictIdx refl per n := by
    intro n; unfold strictIdx special; simp only [Bool.or_comm]
  rw [← C16_src_checkPy, ← C16_src_checkPy]
  cases a <;> simp only [checkPy, hs]

/-! ### the compiled source, run (non-vacuity: the generated terms compute; `Rat` instance, kernel evaluation) -/

example : applyLoop0 (-7/4 : Rat) = 1/4 := by decide +kernel
example : applyLoop1 (5/2 : Rat) = 1/2 ∧ applyLoop1 (7/2 : Rat) = 1/2 ∧ applyLoop1 (-1/4 : Rat) = 1/4 := by decide +kernel
example : applySrc (Arr.d1 [(5/2 : Rat), -7/4, 9]) (some [1]) (some [0]) = Arr.d1 [1/2, 1/4, 9] := by decide +kernel
example : checkSrc (Arr.d1 [(5/2 : Rat), 1, 9]) (some [2]) (some [0]) = Res.scalar true ∧
          checkSrc (Arr.d2 2 [[(5/2 : Rat), 1], [0, 9/8]]) none (some [0]) = Res.vec [true, false] ∧
          checkSrc (Arr.d2 2 [[(5/2 : Rat), 1], [0, 9/8]]) (some [1]) (some [0]) = Res.vec [true, true] := by decide +kernel

/-! ### the statement skeletons, signatures and call sites the model was written against

  `path: statement` in program order (`t` / `e` = then / else block; docstrings and comments dropped; local variables renamed
  `v0, v1, …` in order of first assignment, so a renamed local or a re-formatted line changes nothing).  This is the catch-all:
  whatever the compiled terms abstract (`u.copy()` is the identity of a functional model, `dtype=bool`, the defaults `=None` of
  the signature) or cannot express (a construct outside the term language keeps the previous terms) still changes a row here. -/

def expected_applySkeleton : List String :=
  ["def apply_boundary_conditions(u, periodic=None, reflective=None)",
   "0: u = u.copy()",
   "1: if periodic is not None",
   "1t.0: for v0 in periodic",
   "1t.0.0: u[..., v0] = u[..., v0] % 1.0",
   "2: if reflective is not None",
   "2t.0: for v0 in reflective",
   "2t.0.0: v1 = u[..., v0]",
   "2t.0.1: v2 = np.floor(v1)",
   "2t.0.2: v3 = v1 - v2",
   "2t.0.3: u[..., v0] = np.where(np.mod(v2, 2.0) == 0, v3, 1.0 - v3)",
   "3: return u"]

theorem C16_src_applySkeleton : Gen.BoundarySrc.applySkeleton = expected_applySkeleton := rfl

def expected_checkSkeleton : List String :=
  ["def check_bounds(u, periodic=None, reflective=None)",
   "0: v0 = u.shape[-1]",
   "1: v1 = set(range(v0))",
   "2: v2 = set()",
   "3: if periodic is not None",
   "3t.0: v2.update(periodic)",
   "4: if reflective is not None",
   "4t.0: v2.update(reflective)",
   "5: v3 = list(v1 - v2)",
   "6: if len(v3) == 0",
   "6t.0: if u.ndim == 1",
   "6t.0t.0: return True",
   "6t.1: return np.ones(u.shape[0], dtype=bool)",
   "7: v4 = u[..., v3]",
   "8: if u.ndim == 1",
   "8t.0: return np.all(v4 >= 0) and np.all(v4 <= 1)",
   "9: return np.all(v4 >= 0, axis=-1) & np.all(v4 <= 1, axis=-1)"]

theorem C16_src_checkSkeleton : Gen.BoundarySrc.checkSkeleton = expected_checkSkeleton := rfl

/-- every call of the two functions in the package: the ONE 2-D check of `BaseMCMCRunner.run` (`proposeAll`) and the two 1-D folds
    of `TPCNRunner._propose` / `RWMRunner._propose` (`proposeRow`), each handing over `(<array>, periodic, reflective)` — in this
    order for the fold; for the check the two names are listed sorted (`C16_src_check_symm`) -/
def expected_callSites : List String :=
  ["tempest/mcmc.py check_bounds(#, periodic, reflective)",
   "tempest/mcmc.py apply_boundary_conditions(#, periodic, reflective)",
   "tempest/mcmc.py apply_boundary_conditions(#, periodic, reflective)"]

theorem C16_src_callSites : Gen.BoundarySrc.callSites = expected_callSites := rfl

end Props.C16Src
