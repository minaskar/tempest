import TempestVerif.Lemmas.ProdLaw
import Mathlib.Algebra.BigOperators.Ring.Finset
import Mathlib.Data.Fintype.BigOperators
import Mathlib.Analysis.Convex.Jensen
import Mathlib.Analysis.Convex.SpecificFunctions.Basic
import Mathlib.Analysis.SpecialFunctions.Log.Basic
import Mathlib.Probability.Independence.Basic
import Mathlib.Probability.Moments.Variance
/-
  C02 — statistics of the reported log-evidence: Jensen (an unbiased evidence estimate yields a log-evidence that is biased LOW) and the
  `1/R` law for the mean of `R` independent runs, each a function of its OWN random tape — on a finite tape space in exact arithmetic
  (mean, variance `v / R`, mean-square error `(m - z)² + v / R`: the systematic part does not shrink with `R`) and in measure-theoretic form.
-/
namespace Props.C02

/-! ### Jensen: the log-evidence is biased low -/

/-- `E log X ≤ log E X` for a positive random variable on a finite probability space: with `X = Ẑ` an unbiased
    evidence estimate (`E Ẑ = Z`), the reported log-evidence satisfies `E log Ẑ ≤ log Z` — it is biased low -/
theorem C02_log_evidence_biased_low {ι : Type} [Fintype ι] (μ : ι → ℝ) (hμ : ∀ i, 0 ≤ μ i) (hμ1 : ∑ i, μ i = 1)
    (X : ι → ℝ) (hX : ∀ i, 0 < X i) :
    ∑ i, μ i * Real.log (X i) ≤ Real.log (∑ i, μ i * X i) := by
  exact strictConcaveOn_log_Ioi.concaveOn.le_map_sum (t := Finset.univ) (w := μ) (p := X)
    (fun i _ => hμ i) hμ1 (fun i _ => hX i)

/-- non-vacuity, and the bias is STRICT as soon as the estimate is not constant: `μ = (1/2,1/2)`, `X = (1,4)` gives
    `E log X = log 2 < log (5/2) = log E X` -/
example : ∑ i, (![1/2, 1/2] : Fin 2 → ℝ) i * Real.log ((![1, 4] : Fin 2 → ℝ) i)
    < Real.log (∑ i, (![1/2, 1/2] : Fin 2 → ℝ) i * (![1, 4] : Fin 2 → ℝ) i) := by
  have h4 : Real.log 4 = 2 * Real.log 2 := by
    rw [show (4 : ℝ) = 2 ^ 2 by norm_num, Real.log_pow]; norm_num
  simp only [Fin.sum_univ_two, Matrix.cons_val_zero, Matrix.cons_val_one, Real.log_one, h4]
  have : Real.log 2 < Real.log (1 / 2 * 1 + 1 / 2 * 4) := Real.log_lt_log (by norm_num) (by norm_num)
  linarith

example : ∑ i, (![1/2, 1/2] : Fin 2 → ℝ) i * Real.log ((![1, 4] : Fin 2 → ℝ) i)
    ≤ Real.log (∑ i, (![1/2, 1/2] : Fin 2 → ℝ) i * (![1, 4] : Fin 2 → ℝ) i) :=
  C02_log_evidence_biased_low _ (by intro i; fin_cases i <;> norm_num) (by norm_num [Fin.sum_univ_two]) _
    (by intro i; fin_cases i <;> norm_num)

/-! ### independent runs: the `1/R` law on a finite tape space -/

section runs
variable {T : Type} [Fintype T]

/-- the mean of `R` independent runs is unbiased for the one-run mean `m` -/
theorem C02_mean_of_runs_unbiased (μ : T → ℝ) (hμ1 : ∑ t, μ t = 1) (e : T → ℝ) (R : ℕ) (hR : 0 < R) :
    ∑ ω : Fin R → T, (∏ r, μ (ω r)) * ((1 / (R : ℝ)) * ∑ r, e (ω r)) = ∑ t, μ t * e t :=
  Lemmas.ProdLaw.mean_unbiased μ hμ1 e R hR

/-- the variance of the mean of `R` independent runs is EXACTLY the one-run variance divided by `R` -/
theorem C02_mean_of_runs_variance (μ : T → ℝ) (hμ1 : ∑ t, μ t = 1) (e : T → ℝ) (R : ℕ) (hR : 0 < R) :
    ∑ ω : Fin R → T, (∏ r, μ (ω r)) * ((1 / (R : ℝ)) * ∑ r, e (ω r) - ∑ t, μ t * e t) ^ 2
      = (∑ t, μ t * (e t - ∑ t', μ t' * e t') ^ 2) / R :=
  Lemmas.ProdLaw.mean_variance μ hμ1 e R hR

/-- mean-square error of the mean of `R` independent runs against ANY target `z`: the systematic part `(m - z)²`
    does not shrink with `R`, the random part is `v / R` (RMS ∝ 1/√R) -/
theorem C02_mean_of_runs_mse (μ : T → ℝ) (hμ1 : ∑ t, μ t = 1) (e : T → ℝ) (R : ℕ) (hR : 0 < R) (z : ℝ) :
    ∑ ω : Fin R → T, (∏ r, μ (ω r)) * ((1 / (R : ℝ)) * ∑ r, e (ω r) - z) ^ 2
      = (∑ t, μ t * e t - z) ^ 2 + (∑ t, μ t * (e t - ∑ t', μ t' * e t') ^ 2) / R := by
  set m : ℝ := ∑ t, μ t * e t with hm
  have h1 : ∀ x : Fin R → T, (∏ i, μ (x i)) * ((1 / (R : ℝ)) * ∑ r, e (x r) - z) ^ 2
      = (∏ i, μ (x i)) * ((1 / (R : ℝ)) * ∑ r, e (x r) - m) ^ 2
        + (2 * (m - z)) * ((∏ i, μ (x i)) * ((1 / (R : ℝ)) * ∑ r, e (x r)))
        + ((m - z) ^ 2 - 2 * (m - z) * m) * (∏ i, μ (x i)) := by
    intro x; ring
  simp_rw [h1]
  rw [Finset.sum_add_distrib, Finset.sum_add_distrib, ← Finset.mul_sum, ← Finset.mul_sum,
    C02_mean_of_runs_variance μ hμ1 e R hR, C02_mean_of_runs_unbiased μ hμ1 e R hR,
    Lemmas.ProdLaw.total μ hμ1, ← hm]
  ring

end runs

/-! non-vacuity of the `1/R` law: tape space `Fin 2`, law `(1/3, 2/3)`, reported value `e = (0, 3)` (one-run mean `2`,
    one-run variance `2`), `R = 4` runs -/

noncomputable def muEx : Fin 2 → ℝ := ![1/3, 2/3]
noncomputable def eEx : Fin 2 → ℝ := ![0, 3]

theorem muEx_sum : ∑ t, muEx t = 1 := by norm_num [muEx, Fin.sum_univ_two]
theorem muEx_mean : ∑ t, muEx t * eEx t = 2 := by norm_num [muEx, eEx, Fin.sum_univ_two]
theorem muEx_var : ∑ t, muEx t * (eEx t - 2) ^ 2 = 2 := by norm_num [muEx, eEx, Fin.sum_univ_two]

example : ∑ ω : Fin 4 → Fin 2, (∏ r, muEx (ω r)) * ((1 / ((4 : ℕ) : ℝ)) * ∑ r, eEx (ω r)) = 2 := by
  rw [C02_mean_of_runs_unbiased muEx muEx_sum eEx 4 (by norm_num), muEx_mean]

example : ∑ ω : Fin 4 → Fin 2, (∏ r, muEx (ω r)) * ((1 / ((4 : ℕ) : ℝ)) * ∑ r, eEx (ω r) - 2) ^ 2 = 1 / 2 := by
  have h := C02_mean_of_runs_variance muEx muEx_sum eEx 4 (by norm_num)
  rw [muEx_mean, muEx_var] at h
  rw [h]; norm_num

/-- against the target `z = 5/2` the systematic error `(2 - 5/2)² = 1/4` stays, whatever `R`; here `R = 4` -/
example : ∑ ω : Fin 4 → Fin 2, (∏ r, muEx (ω r)) * ((1 / ((4 : ℕ) : ℝ)) * ∑ r, eEx (ω r) - 5 / 2) ^ 2
    = 1 / 4 + 1 / 2 := by
  have h := C02_mean_of_runs_mse muEx muEx_sum eEx 4 (by norm_num) (5 / 2)
  rw [muEx_mean, muEx_var] at h
  rw [h]; norm_num

/-! ### measure-theoretic form: runs with separate tapes are independent -/

section measure
open MeasureTheory ProbabilityTheory

/-- the values reported by `R` runs, each a measurable function of ITS OWN coordinate of the product measure of the
    tapes, are mutually independent random variables (any tape space, not only finite) -/
theorem C02_runs_independent {T : Type*} [MeasurableSpace T] (μ : Measure T) [IsProbabilityMeasure μ] (R : ℕ)
    (f : T → ℝ) (hf : Measurable f) :
    iIndepFun (fun (r : Fin R) (ω : Fin R → T) => f (ω r)) (Measure.pi fun _ : Fin R => μ) :=
  iIndepFun_pi (μ := fun _ : Fin R => μ) (X := fun _ => f) (fun _ => hf.aemeasurable)

example : iIndepFun (fun (r : Fin 3) (ω : Fin 3 → ℝ) => Real.exp (ω r)) (Measure.pi fun _ : Fin 3 => Measure.dirac 0) :=
  C02_runs_independent (Measure.dirac (0 : ℝ)) 3 Real.exp Real.measurable_exp

example : IndepFun (fun ω : Fin 3 → ℝ => Real.exp (ω 0)) (fun ω : Fin 3 → ℝ => Real.exp (ω 2))
    (Measure.pi fun _ : Fin 3 => Measure.dirac 0) :=
  (C02_runs_independent (Measure.dirac (0 : ℝ)) 3 Real.exp Real.measurable_exp).indepFun (by decide)

/-- general `1/R` law: under the product measure of the tapes the variance of the mean of `R` runs is the one-run
    variance divided by `R`, for any square-integrable reported value -/
theorem C02_runs_variance_general {T : Type*} [MeasurableSpace T] (μ : Measure T) [IsProbabilityMeasure μ] (R : ℕ)
    (hR : 0 < R) (f : T → ℝ) (hf : MemLp f 2 μ) :
    Var[fun ω : Fin R → T => (1 / (R : ℝ)) * ∑ r, f (ω r); Measure.pi fun _ : Fin R => μ] = Var[f; μ] / R := by
  have h := variance_sum_pi (μ := fun _ : Fin R => μ) (X := fun _ => f) (fun _ => hf)
  have h2 : (fun ω : Fin R → T => (1 / (R : ℝ)) * ∑ r, f (ω r))
      = fun ω => (1 / (R : ℝ)) * (∑ i : Fin R, fun ω : Fin R → T => f (ω i)) ω := by
    funext ω; rw [Finset.sum_apply]
  rw [h2, variance_const_mul, h, Finset.sum_const, Finset.card_univ, Fintype.card_fin, nsmul_eq_mul,
    Lemmas.ProdLaw.inv_sq_mul_nat R hR]

example (μ : Measure ℝ) [IsProbabilityMeasure μ] :
    Var[fun ω : Fin 5 → ℝ => (1 / ((5 : ℕ) : ℝ)) * ∑ r, Real.sin (ω r); Measure.pi fun _ : Fin 5 => μ]
      = Var[Real.sin; μ] / (5 : ℕ) :=
  C02_runs_variance_general μ 5 (by norm_num) Real.sin
    (MemLp.of_bound Real.measurable_sin.aestronglyMeasurable 1
      (Filter.Eventually.of_forall fun x => by simpa [Real.norm_eq_abs] using Real.abs_sin_le_one x))

end measure

end Props.C02
