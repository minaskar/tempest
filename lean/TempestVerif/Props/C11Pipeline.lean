import TempestVerif.Model.Pipeline
import TempestVerif.Props.C11
import TempestVerif.Props.C04
import TempestVerif.Props.C05
import TempestVerif.Props.C05Warmup
import TempestVerif.Lemmas.Records
import TempestVerif.Lemmas.Pipeline
/-
  C11 on the pipeline model `Model.Pipeline.iterate` — the executable composition of the step models, with the warm-up branch
  WITHOUT the redraw loop of /repo 959029e (with the loop: `Model.PipelineR.iterateL`, `Props/C11Redraw.lean`): the warm-up
  replacement step leaves no −inf draw, invents no value and keeps (tag, logl) records whole; an
  accept/reject step never accepts a −inf proposal; the evidence the reweighting step writes at beta = 0 over an all-beta-0
  history (C04's model of `compute_logw_and_logz`) IS the linear-space `Model.Warmup.reweightZ`; hence any number of warm-up
  iterations of `iterate`, in either reweighting mode, commit exactly the evidences of `Model.Warmup.run batchZ`.
-/
namespace Props.C11
open Model.Pipeline Model.Weights Model.Records Model.Warmup Props.C04

/-! ### the replacement step of the pipeline model -/
section replacement
variable {α : Type}

/-- `infinite_idx = all_idx[np.isinf(logl)]` as `Model.Pipeline.warmup` computes it -/
def infIdx (dl : List (Option α)) : List Nat :=
  (List.range dl.length).filter fun i => !((dl[i]?).join.isSome)

/-- what `np.random.choice(finite_idx, size=len(infinite_idx), replace=True)` guarantees: as many picks as -inf draws,
    every pick a position holding a finite draw (numpy is modelled, not verified) -/
def PicksOk (dl : List (Option α)) (picks : List Nat) : Prop :=
  picks.length = (infIdx dl).length ∧ ∀ p ∈ picks, ∃ v, dl[p]? = some (some v)

theorem mem_infIdx (dl : List (Option α)) (i : Nat) (v : Option α) (hi : dl[i]? = some v) (hv : ¬ v.isSome = true) :
    i ∈ infIdx dl := by
  unfold infIdx
  rw [List.mem_filter, List.mem_range]
  have hlt : i < dl.length := by
    by_contra hc
    rw [List.getElem?_eq_none (by omega)] at hi; cases hi
  refine ⟨hlt, ?_⟩
  rw [hi]; cases v <;> simp_all

theorem isSome_of_countSome (dl : List (Option α)) (h : ¬ countSome dl < dl.length) : ∀ v ∈ dl, v.isSome = true :=
  List.countP_eq_length.mp (le_antisymm List.countP_le_length (not_lt.mp h))

theorem infIdx_eq_nil (dl : List (Option α)) (h : ¬ countSome dl < dl.length) : infIdx dl = [] := by
  refine List.filter_eq_nil_iff.mpr fun i hi => ?_
  rw [List.getElem?_eq_getElem (List.mem_range.mp hi)]
  simpa [Option.isSome_iff_ne_none] using isSome_of_countSome dl h _ (List.getElem_mem (List.mem_range.mp hi))

theorem infIdx_ne_nil (dl : List (Option α)) (h : countSome dl < dl.length) : infIdx dl ≠ [] := by
  have hex : ∃ v ∈ dl, ¬ v.isSome = true := by
    by_contra hall
    exact absurd (List.countP_eq_length.mpr fun v hv => not_not.mp fun hn => hall ⟨v, hv, hn⟩) (ne_of_lt h)
  obtain ⟨v, hv, hvn⟩ := hex
  obtain ⟨i, hi⟩ := List.mem_iff_getElem?.mp hv
  exact List.ne_nil_of_mem (mem_infIdx dl i v hi hvn)

variable [ScT α]

theorem warmup_ls (t : Tape α) (z : α) :
    (warmup t z).2.1 = if countSome t.drawL < t.drawL.length ∧ 0 < countSome t.drawL
      then scatterFrom t.drawL (infIdx t.drawL) t.picks else t.drawL :=
  congrArg (·.2.1) (Lemmas.Pipeline.warmup_eq t z)

theorem warmup_tags (t : Tape α) (z : α) :
    (warmup t z).1 = if countSome t.drawL < t.drawL.length ∧ 0 < countSome t.drawL
      then scatterFrom t.drawTags (infIdx t.drawL) t.picks else t.drawTags :=
  congrArg (·.1) (Lemmas.Pipeline.warmup_eq t z)

theorem warmup_logz (t : Tape α) (z : α) :
    (warmup t z).2.2 = if countSome t.drawL < t.drawL.length
      then ScT.log (Sc.div (Sc.ofNat (countSome t.drawL)) (Sc.ofNat t.drawL.length)) else z :=
  congrArg (·.2.2) (Lemmas.Pipeline.warmup_eq t z)

/-- C11 (no -inf stored, on the executable replacement step): when the batch has a finite draw, after
    `Model.Pipeline.warmup` every stored log-likelihood is finite (`allSome … = some l`: the batch can be committed),
    the batch keeps its size, and every stored value is one of the finite values that were drawn -/
theorem C11_warmup_all_finite (t : Tape α) (z : α) (hfin : 0 < countSome t.drawL)
    (hp : PicksOk t.drawL t.picks) :
    ∃ l, allSome (warmup t z).2.1 = some l ∧ l.length = t.drawL.length ∧ ∀ v ∈ l, some v ∈ t.drawL := by
  -- what is stored is the scattered list when draws were −inf, else the draws themselves: finite, as long, and drawn either way
  have h : (∀ v ∈ (warmup t z).2.1, v.isSome = true) ∧ ((warmup t z).2.1).length = t.drawL.length ∧
      ∀ v ∈ (warmup t z).2.1, v ∈ t.drawL := by
    rw [warmup_ls]
    by_cases hlt : countSome t.drawL < t.drawL.length
    · rw [if_pos ⟨hlt, hfin⟩]
      refine ⟨fun v hv => ?_, Model.Records.scatterFrom_length _ _ _, Model.Records.scatterFrom_mem _ _ _⟩
      obtain ⟨i, hi⟩ := List.mem_iff_getElem?.mp hv
      exact C11_no_inf_stored (fun v : Option α => v.isSome = true) t.drawL (infIdx t.drawL) t.picks hp.1.symm
        (fun s hs => by obtain ⟨w, hw⟩ := hp.2 s hs; exact ⟨some w, hw, rfl⟩)
        (mem_infIdx t.drawL) i v hi
    · rw [if_neg fun hc => hlt hc.1]
      exact ⟨isSome_of_countSome t.drawL hlt, rfl, fun v hv => hv⟩
  obtain ⟨l, h1, h2⟩ := Lemmas.Pipeline.allSome_of_forall _ h.1
  refine ⟨l, h1, ?_, fun v hv => h.2.2 _ (h2 ▸ List.mem_map_of_mem hv)⟩
  rw [← h.2.1, ← h2, List.length_map]

/-- C11 (whole records): every stored (tag, logl) pair of a warm-up batch is one of the drawn pairs -/
theorem C11_warmup_records_whole (t : Tape α) (z : α) (hlen : t.drawTags.length = t.drawL.length) :
    ∀ q ∈ (warmup t z).1.zip (warmup t z).2.1, q ∈ t.drawTags.zip t.drawL := by
  rw [warmup_tags, warmup_ls]
  split
  · rw [← scatterFrom_zip _ _ hlen]; exact Model.Records.scatterFrom_mem _ _ _
  · exact fun q hq => hq

/-- the excluded point, on the pipeline model (recorded finding F8): a non-empty batch with NO finite draw is left as drawn, so
    it cannot be committed as a batch of real log-likelihoods — `iterate` leaves the model exactly there.  Hypothesis `hfin` of
    `C11_warmup_all_finite` (`TapeOk.fin`) is therefore necessary for `iterate`; the loop of `Model.PipelineR.iterateL` discharges it
    (`Props/C11Redraw.lean`). -/
theorem C11_warmup_all_inf_excluded (t : Tape α) (z : α) (h0 : countSome t.drawL = 0) (hn : 0 < t.drawL.length) :
    (warmup t z).2.1 = t.drawL ∧ (warmup t z).1 = t.drawTags ∧ allSome (warmup t z).2.1 = none := by
  have h1 : (warmup t z).2.1 = t.drawL := by rw [warmup_ls]; simp [h0]
  have h2 : (warmup t z).1 = t.drawTags := by rw [warmup_tags]; simp [h0]
  refine ⟨h1, h2, ?_⟩
  rw [h1]
  -- no draw is finite, in particular not the first
  cases hd : t.drawL with
  | nil => rw [hd] at hn; exact absurd hn (Nat.lt_irrefl 0)
  | cons x xs =>
    have hx : ¬ x.isSome = true := List.countP_eq_zero.mp h0 x (by rw [hd]; exact List.mem_cons_self)
    cases x with
    | none => rfl
    | some a => exact absurd rfl hx

theorem warmupR_eq_warmup (t : Tape α) (disc : Nat) (z : α) (hfin : 0 < countSome t.drawL) :
    warmupR t disc z = ((warmup t z).1, (warmup t z).2.1,
      if countSome t.drawL < t.drawL.length ∨ 0 < disc
        then ScT.log (Sc.div (Sc.ofNat (countSome t.drawL)) (Sc.ofNat (t.drawL.length + disc))) else z) := by
  rw [Lemmas.Pipeline.warmupR_eq, Lemmas.Pipeline.warmup_eq]
  by_cases h1 : countSome t.drawL < t.drawL.length
  · simp only [h1, hfin, true_or, and_self]
  · -- no −inf row: nothing is overwritten, whether or not draws were discarded
    have he : (List.range t.drawL.length).filter (fun i => !((t.drawL[i]?).join.isSome)) = [] := infIdx_eq_nil t.drawL h1
    simp only [he, h1, false_and, false_or, scatterFrom, ite_self]

example : ∃ l, allSome (warmup (⟨[10, 11, 12, 13], [some 1, none, some 2, none], [0, 2], [], []⟩ : Tape ℝ) 0).2.1 = some l ∧
    l.length = 4 ∧ ∀ v ∈ l, some v ∈ [some (1 : ℝ), none, some 2, none] :=
  C11_warmup_all_finite (⟨[10, 11, 12, 13], [some 1, none, some 2, none], [0, 2], [], []⟩ : Tape ℝ) 0
    (by decide) ⟨by decide, fun p hp => by rcases List.mem_pair.mp hp with rfl | rfl; exacts [⟨1, rfl⟩, ⟨2, rfl⟩]⟩

end replacement

/-! ### an accept/reject step never accepts a -inf proposal -/
section mcmc
variable {α : Type} [ScT α]

/-- C11 (beta > 0): whatever the uniforms and Hastings factors, a particle whose proposal has log-likelihood -inf is not
    accepted; an accepted particle carries the (finite) log-likelihood of its proposal, a rejected one keeps its own -/
theorem C11_mcmc_step (beta : α) (tg : List Nat) (l : List α) (pt : List Nat) (pl : List (Option α)) (f r : List α) :
    ∀ i : Nat,
      ((mcmcStep beta tg l pt pl f r).2.2[i]? = some true →
        ∃ lp, pl[i]? = some (some lp) ∧ (mcmcStep beta tg l pt pl f r).2.1[i]? = some lp) ∧
      ((mcmcStep beta tg l pt pl f r).2.2[i]? = some false →
        (mcmcStep beta tg l pt pl f r).2.1[i]? = l[i]?) := by
  fun_induction mcmcStep beta tg l pt pl f r with
  | case2 => exact fun i => ⟨fun h => (by cases h), fun h => (by cases h)⟩
  | case1 tg tgs l ls pt pts pl pls f fs r rs acc a b c hrec ih =>
    rw [hrec] at ih
    intro i
    cases i with
    | succ j => exact ih j
    | zero =>
      -- the head: a −inf proposal has `acc = false` by definition
      change (some acc = some true → ∃ lp, some pl = some (some lp) ∧ some _ = some lp) ∧
        (some acc = some false → some _ = some l)
      cases pl with
      | none => exact ⟨fun h => absurd (Option.some.inj h) Bool.false_ne_true, fun _ => rfl⟩
      | some lp =>
        refine ⟨fun h => ⟨lp, rfl, ?_⟩, fun h => ?_⟩
        · rw [if_pos (Option.some.inj h)]
        · rw [if_neg (by rw [Option.some.inj h]; exact Bool.false_ne_true)]

example : mcmcStep (1 : ℝ) [7] [-1] [8] [none] [0] [0] = ([7], [-1], [false]) := rfl

end mcmc

/-! ### the reweighting step at beta = 0 IS the linear-space harmonic mean -/

noncomputable def lin (h : List (Batch ℝ)) : List (Nat × ℝ) := h.map fun b => (b.logl.length, Real.exp b.logz)

theorem total_lin (h : List (Batch ℝ)) : total (lin h) = nTotal h := by
  rw [total_eq]; simp [lin, nTotal, Function.comp_def]

theorem mix_zero (h : List (Batch ℝ)) (h0 : ∀ b ∈ h, b.beta = 0) (l : ℝ) :
    mix h l = invMixAt (nTotal h : ℝ) (lin h) := by
  unfold mix invMixAt lin
  rw [List.map_map]
  congr 1
  apply List.map_congr_left
  intro b hb
  rw [h0 b hb]
  simp only [Function.comp_apply, zero_mul, zero_sub, Real.exp_neg, div_eq_mul_inv]

/-- C11 (the reweighting link): over a non-empty history whose batches are all at beta = 0, the evidence
    `compute_logw_and_logz(0)[1]` of the C04 model (max-shifted `logaddexp` folds and all) is exactly
    `log (1 / Σ_t (n_t/N) / Z_t)` with `Z_t = exp logz_t` — the `reweightZ` of the linear-space warm-up model -/
theorem C11_reweight_bridge (h : List (Batch ℝ)) (hwf : WF h) (h0 : ∀ b ∈ h, b.beta = 0) (nrm : Bool) :
    (logw h 0 nrm).2 = some (Real.log (reweightZ (lin h))) := by
  have hne : lin h ≠ [] := by simpa [lin] using hwf.1
  -- every stored particle has the same weight `1 / invMixAt`, so their mean is `1 / invMixAt`
  rw [C04_logz h hwf 0 nrm, (specLogz_specNorm_of_const h hwf 0 _ fun l _ => specRaw_of_beta_eq h hwf 0 h0 l).1, mix_zero h h0,
    reweightZ_of_ne_nil _ hne, total_lin, one_div, Real.log_inv]

example : (logw ([⟨0, Real.log (1 / 2), [-1, -2]⟩, ⟨0, 0, [-3 / 10]⟩] : List (Batch ℝ)) 0 true).2
    = some (Real.log (reweightZ [(2, Real.exp (Real.log (1 / 2))), (1, Real.exp 0)])) := by
  have hwf : WF ([⟨0, Real.log (1 / 2), [-1, -2]⟩, ⟨0, 0, [-3 / 10]⟩] : List (Batch ℝ)) := by
    refine ⟨by simp, ?_⟩
    intro b hb; simp at hb; rcases hb with rfl | rfl <;> simp
  have := C11_reweight_bridge _ hwf (by intro b hb; simp at hb; rcases hb with rfl | rfl <;> rfl) true
  simpa [lin] using this

/-! ### end to end: warm-up iterations of the pipeline model

  In volume-variation mode `Reweighter.run` first computes the ESS upper limit (`_find_beta_upper_limit`); while the pool is
  STRICTLY below the ESS target that limit is `beta_prev` itself, the code takes the branch "can't advance — stay at current
  beta" (`dynStuck`) and never looks at the volume metric.  So the prior-sampling phase is the same in both modes, and the
  statements for `volume_variation = None` are the case `PoolOk = Or.inl` of the general ones. -/

/-- a warm-up tape the statement covers: the batch has a finite draw (its negation is the recorded finding F8) and the
    replacement picks are what `np.random.choice` guarantees -/
structure TapeOk (t : Tape ℝ) : Prop where
  fin : 0 < countSome t.drawL
  picks : PicksOk t.drawL t.picks

def sizes (t : Tape ℝ) : Nat × Nat := (t.drawL.length, countSome t.drawL)

/-- still in the prior-sampling phase: current beta 0, every stored batch at beta 0 and non-empty -/
structure WInv (s : PState ℝ) : Prop where
  beta0 : s.beta = 0
  hist0 : ∀ b ∈ batches s.hist, b.beta = 0
  npos : ∀ b ∈ batches s.hist, 1 ≤ b.logl.length

/-- the pool is small enough for the reweighter to stay at β = 0: at most the ESS target in ESS mode, strictly below it in
    either mode -/
def PoolOk (c : Model.Reweight.Cfg ℝ) (N : ℝ) : Prop := (c.vv = none ∧ N ≤ c.target) ∨ N < c.target

theorem lin_pos (h : List (Batch ℝ)) (hn : ∀ b ∈ h, 1 ≤ b.logl.length) :
    (∀ e ∈ lin h, 0 < e.1) ∧ (∀ e ∈ lin h, 0 < e.2) := by
  constructor
  · intro e he
    obtain ⟨b, hb, rfl⟩ := List.mem_map.mp he
    exact hn b hb
  · intro e he
    obtain ⟨b, _, rfl⟩ := List.mem_map.mp he
    exact Real.exp_pos _

/-- what the reweighting step writes in the prior-sampling phase, in either mode: beta = 0 (C05: the reweighter stays where it
    is while the pool's ESS — at beta 0 its size — is below the target) and the log of the linear-space estimate -/
theorem warm_reweight (c : Model.Reweight.Cfg ℝ) (h : List (Batch ℝ))
    (h0 : ∀ b ∈ h, b.beta = 0) (hn : ∀ b ∈ h, 1 ≤ b.logl.length)
    (hpool : h ≠ [] → PoolOk c (nTotal h : ℝ)) :
    let r := Model.Reweight.run c h.isEmpty (oracleM h) (oracleZ h) isFin 0
    r.beta = 0 ∧ r.logz = Real.log (reweightZ (lin h)) := by
  intro r
  by_cases hne : h = []
  · subst hne
    obtain ⟨hb, hz, -⟩ := Props.C05.C05_first_iteration c (oracleM []) (oracleZ []) isFin 0
    exact ⟨hb, hz.trans (by rw [lin, List.map_nil, reweightZ_nil, Real.log_one])⟩
  · have hwf : WF h := ⟨hne, hn⟩
    have hr : r = Model.Reweight.run c false (oracleM h) (oracleZ h) isFin 0 := by
      simp only [r, List.isEmpty_eq_false_iff.mpr hne]
    have hb : r.beta = 0 := Props.C05.warm_pool c h _ _ _ rfl h0 hn fun hne => (hpool hne).symm
    refine ⟨hb, ?_⟩
    have ht := (Props.C05.C05_same_temperature c (oracleM h) (oracleZ h) isFin 0).2.2.1
    rw [← hr, hb] at ht
    rw [ht]
    exact Lemmas.Pipeline.oracleZ_of_some (C11_reweight_bridge h hwf h0 true)

theorem exp_warm_logz (h : List (Nat × ℝ)) (hpos : (∀ e ∈ h, 0 < e.1) ∧ ∀ e ∈ h, 0 < e.2) (n nfin nd : Nat)
    (hfin : 0 < nfin) (hnd : 0 < nd) :
    Real.exp (if nfin < n ∨ n < nd then Real.log ((nfin : ℝ) / (nd : ℝ)) else Real.log (reweightZ h))
      = batchZR h n nfin nd := by
  rw [batchZR_eq]
  split
  · exact Real.exp_log (div_pos (by exact_mod_cast hfin) (by exact_mod_cast hnd))
  · exact Real.exp_log (reweightZ_pos h hpos.1 hpos.2)

theorem winv_commit {s : PState ℝ} (hs : WInv s) (tags : List Nat) (l : List ℝ) (lz : ℝ) (hl : 1 ≤ l.length)
    (β : ℝ) (hβ : β = 0) :
    WInv ⟨s.hist ++ [⟨⟨β, lz, l⟩, tags⟩], β, lz, tags, l⟩ ∧
      lin (batches (s.hist ++ [⟨⟨β, lz, l⟩, tags⟩])) = lin (batches s.hist) ++ [(l.length, Real.exp lz)] ∧
      nTotal (batches (s.hist ++ [⟨⟨β, lz, l⟩, tags⟩])) = nTotal (batches s.hist) + l.length := by
  have hbat : batches (s.hist ++ [⟨⟨β, lz, l⟩, tags⟩]) = batches s.hist ++ [⟨β, lz, l⟩] := by simp [batches]
  have hmem : ∀ b ∈ batches (s.hist ++ [⟨⟨β, lz, l⟩, tags⟩]), b ∈ batches s.hist ∨ b = ⟨β, lz, l⟩ := fun b hb => by
    rw [hbat] at hb
    exact (List.mem_append.mp hb).imp_right List.mem_singleton.mp
  refine ⟨⟨hβ, fun b hb => ?_, fun b hb => ?_⟩, by simp [hbat, lin], by rw [hbat, nTotal_append, nTotal_cons, nTotal_nil, Nat.add_zero]⟩
  · rcases hmem b hb with h | rfl
    · exact hs.hist0 b h
    · exact hβ
  · rcases hmem b hb with h | rfl
    · exact hs.npos b h
    · exact hl

theorem warm_iterate (c : PCfg ℝ) (s : PState ℝ) (hs : WInv s) (t : Tape ℝ) (ht : TapeOk t)
    (hpool : s.hist ≠ [] → PoolOk c.rw (nTotal (batches s.hist) : ℝ)) :
    ∃ s' o, iterate c s t = some (s', o) ∧ WInv s' ∧ o.beta = 0 ∧
      lin (batches s'.hist) = lin (batches s.hist) ++
        [(t.drawL.length, batchZ (lin (batches s.hist)) t.drawL.length (countSome t.drawL))] ∧
      nTotal (batches s'.hist) = nTotal (batches s.hist) + t.drawL.length := by
  obtain ⟨hrb, hrz⟩ := warm_reweight c.rw (batches s.hist) hs.hist0 hs.npos
    (fun hne => hpool fun he => hne (by simp [batches, he]))
  rw [Lemmas.Pipeline.iterate_eq, Lemmas.Pipeline.rwStep, hs.beta0]
  generalize Model.Reweight.run c.rw (batches s.hist).isEmpty (oracleM (batches s.hist)) (oracleZ (batches s.hist))
    isFin 0 = r at hrb hrz ⊢
  obtain ⟨l, hl, hlen, _⟩ := C11_warmup_all_finite t r.logz ht.fin ht.picks
  have hnpos : 0 < t.drawL.length := lt_of_lt_of_le ht.fin List.countP_le_length
  have hexp : Real.exp (warmup t r.logz).2.2 = batchZ (lin (batches s.hist)) t.drawL.length (countSome t.drawL) := by
    rw [warmup_logz, hrz, ← batchZR_no_redraw, ← exp_warm_logz _ (lin_pos _ hs.npos) _ _ _ ht.fin hnpos]
    simp
  have heq : Model.Reweight.eqv r.beta Sc.zero = true := Model.Reweight.eqv_zero.mpr hrb
  simp only [if_pos heq, Lemmas.Pipeline.warmTail, hl]
  obtain ⟨hw, hlin, hnt⟩ := winv_commit hs (warmup t r.logz).1 l (warmup t r.logz).2.2 (by omega) r.beta hrb
  exact ⟨_, _, rfl, hw, hrb, by rw [hlin, hlen, hexp], by rw [hnt, hlen]⟩

/-- from ANY state of the prior-sampling phase.  The pool condition is asked before every iteration except the first one from an
    empty history: there the reweighter returns β = 0 by definition, whatever the target -/
theorem warm_runIters (c : PCfg ℝ) (ts : List (Tape ℝ)) :
    ∀ s : PState ℝ, WInv s → (∀ t ∈ ts, TapeOk t) →
      (∀ k, k < ts.length → (s.hist ≠ [] ∨ 0 < k) →
        PoolOk c.rw ((nTotal (batches s.hist) : ℝ) + (((ts.take k).map fun t => t.drawL.length).sum : ℝ))) →
      ∃ sf outs, runIters c s ts = some (sf, outs) ∧ WInv sf ∧ (∀ o ∈ outs, o.beta = 0) ∧ outs.length = ts.length ∧
        lin (batches sf.hist) = Model.Warmup.run batchZ (lin (batches s.hist)) (ts.map sizes) := by
  induction ts with
  | nil => intro s hs _ _; exact ⟨s, [], rfl, hs, by simp, rfl, by simp [Model.Warmup.run]⟩
  | cons t ts ih =>
    intro s hs hts hpool
    obtain ⟨s', o, hit, hs', hob, hlin, hnt⟩ := warm_iterate c s hs t (hts t (by simp))
      (fun hne => by
        have := hpool 0 (Nat.succ_pos _) (Or.inl hne)
        rwa [List.take_zero, List.map_nil, List.sum_nil, add_zero] at this)
    obtain ⟨sf, outs, hrun, hsf, hbeta, hlen, hfin⟩ := ih s' hs' (fun t' ht' => hts t' (by simp [ht']))
      (fun k hk _ => by
        have := hpool (k + 1) (Nat.succ_lt_succ hk) (Or.inr k.succ_pos)
        rwa [List.take_succ_cons, List.map_cons, List.sum_cons, ← add_assoc, ← Nat.cast_add, ← hnt] at this)
    refine ⟨sf, o :: outs, by simp [runIters, hit, hrun], hsf, List.forall_mem_cons.mpr ⟨hob, hbeta⟩, by simp [hlen], ?_⟩
    rw [hfin, hlin]; simp [Model.Warmup.run, sizes]

theorem winv_init : WInv (init : PState ℝ) := ⟨by simp [init], by simp [init, batches], by simp [init, batches]⟩

/-- C11 (pipeline, counted once, BOTH reweighting modes): run ANY number of iterations of the pipeline model from the initial
    state on tapes whose batches each have a finite draw, the pool before each iteration below the ESS target (`≤` in ESS
    mode, `<` in volume-variation mode).  Then every iteration succeeds, every iteration is at beta = 0, and the committed
    `(n_t, exp logz_t)` are exactly the evidences of the linear-space model `run batchZ` — the volume metric is never
    consulted. -/
theorem C11_pipeline_warmup_gen (c : PCfg ℝ) (ts : List (Tape ℝ)) (hts : ∀ t ∈ ts, TapeOk t)
    (hpool : ∀ k, 0 < k → k < ts.length → PoolOk c.rw (((ts.take k).map fun t => t.drawL.length).sum : ℝ)) :
    ∃ sf outs, runIters c init ts = some (sf, outs) ∧ (∀ o ∈ outs, o.beta = 0) ∧ outs.length = ts.length ∧
      (∀ b ∈ batches sf.hist, b.beta = 0) ∧
      lin (batches sf.hist) = Model.Warmup.run batchZ [] (ts.map sizes) := by
  obtain ⟨sf, outs, h1, h2, h3, h4, h5⟩ := warm_runIters c ts init winv_init hts
    (fun k hk hor => by
      rcases hor with h | h
      · exact absurd rfl h
      · have := hpool k h hk
        show PoolOk c.rw (((0 : ℕ) : ℝ) + _)
        rwa [Nat.cast_zero, zero_add])
  exact ⟨sf, outs, h1, h3, h4, h2.hist0, h5⟩

theorem logz_bounds_of_lin (h : List (Batch ℝ)) (lo hi : ℝ) (hlo : 0 < lo)
    (hH : ∀ e ∈ lin h, lo ≤ e.2 ∧ e.2 ≤ hi) : ∀ b ∈ h, Real.log lo ≤ b.logz ∧ b.logz ≤ Real.log hi := by
  intro b hb
  have := hH (b.logl.length, Real.exp b.logz) (List.mem_map.mpr ⟨b, hb, rfl⟩)
  exact ⟨(Real.log_le_iff_le_exp hlo).mpr this.1,
    (Real.le_log_iff_exp_le (lt_of_lt_of_le (lt_of_lt_of_le hlo this.1) this.2)).mpr this.2⟩

/-- … hence the counted-once envelope on the pipeline model in either mode -/
theorem C11_pipeline_once_gen (c : PCfg ℝ) (t0 : Tape ℝ) (ts : List (Tape ℝ))
    (hts : ∀ t ∈ t0 :: ts, TapeOk t)
    (hpool : ∀ k, 0 < k → k < (t0 :: ts).length →
      PoolOk c.rw ((((t0 :: ts).take k).map fun t => t.drawL.length).sum : ℝ))
    (lo hi : ℝ) (hlo : 0 < lo) (hfirst : countSome t0.drawL < t0.drawL.length)
    (hb : ∀ t ∈ t0 :: ts, BatchOk lo hi (sizes t)) :
    ∃ sf outs, runIters c init (t0 :: ts) = some (sf, outs) ∧
      ∀ b ∈ batches sf.hist, b.beta = 0 ∧ Real.log lo ≤ b.logz ∧ b.logz ≤ Real.log hi := by
  obtain ⟨sf, outs, h1, _, _, h4, h5⟩ := C11_pipeline_warmup_gen c (t0 :: ts) hts hpool
  refine ⟨sf, outs, h1, fun b hb' => ⟨h4 b hb', logz_bounds_of_lin _ lo hi hlo ?_ b hb'⟩⟩
  rw [h5]
  exact C11_once lo hi hlo _ _ hfirst (ts.map sizes) (List.forall_mem_map (l := t0 :: ts).mpr hb)

/-- C11 (pipeline, counted once) in ESS mode (`volume_variation = None`): the case `PoolOk = Or.inl` of `C11_pipeline_warmup_gen` -/
theorem C11_pipeline_warmup (c : PCfg ℝ) (hvv : c.rw.vv = none) (ts : List (Tape ℝ)) (hts : ∀ t ∈ ts, TapeOk t)
    (hpool : ∀ k, 0 < k → k < ts.length → (((ts.take k).map fun t => t.drawL.length).sum : ℝ) ≤ c.rw.target) :
    ∃ sf outs, runIters c init ts = some (sf, outs) ∧ (∀ o ∈ outs, o.beta = 0) ∧ outs.length = ts.length ∧
      (∀ b ∈ batches sf.hist, b.beta = 0) ∧
      lin (batches sf.hist) = Model.Warmup.run batchZ [] (ts.map sizes) :=
  C11_pipeline_warmup_gen c ts hts fun k hk0 hk => Or.inl ⟨hvv, hpool k hk0 hk⟩

/-- … and of `C11_pipeline_once_gen` -/
theorem C11_pipeline_once (c : PCfg ℝ) (hvv : c.rw.vv = none) (t0 : Tape ℝ) (ts : List (Tape ℝ))
    (hts : ∀ t ∈ t0 :: ts, TapeOk t)
    (hpool : ∀ k, 0 < k → k < (t0 :: ts).length →
      ((((t0 :: ts).take k).map fun t => t.drawL.length).sum : ℝ) ≤ c.rw.target)
    (lo hi : ℝ) (hlo : 0 < lo) (hfirst : countSome t0.drawL < t0.drawL.length)
    (hb : ∀ t ∈ t0 :: ts, BatchOk lo hi (sizes t)) :
    ∃ sf outs, runIters c init (t0 :: ts) = some (sf, outs) ∧
      ∀ b ∈ batches sf.hist, b.beta = 0 ∧ Real.log lo ≤ b.logz ∧ b.logz ≤ Real.log hi :=
  C11_pipeline_once_gen c t0 ts hts (fun k hk0 hk => Or.inl ⟨hvv, hpool k hk0 hk⟩) lo hi hlo hfirst hb

/-! ### non-vacuity: n_particles = 2, ess_ratio = 3/2 (target 3): two warm-up iterations, the first with one -inf draw; the
    committed evidences are those of `run batchZ [] [(2,1),(2,2)]` = 1/2, 1/2 -/

theorem exTapes_ok : ∀ t ∈ ([⟨[0, 1], [some (-1), none], [0], [], []⟩, ⟨[2, 3], [some (-2), some (-3)], [], [], []⟩] :
    List (Tape ℝ)), TapeOk t := by
  intro t ht
  simp only [List.mem_cons, List.mem_nil_iff, or_false] at ht
  rcases ht with rfl | rfl
  · exact ⟨by decide, by decide, fun p hp => by rw [List.mem_singleton.mp hp]; exact ⟨-1, rfl⟩⟩
  · exact ⟨by decide, by decide, fun _ hp => absurd hp List.not_mem_nil⟩

example : ∃ sf outs, runIters (⟨⟨3 / 2, 2, none, 1 / 100, 1 / 10000, 20⟩, true⟩ : PCfg ℝ) init
      [⟨[0, 1], [some (-1), none], [0], [], []⟩, ⟨[2, 3], [some (-2), some (-3)], [], [], []⟩] = some (sf, outs) ∧
    (∀ o ∈ outs, o.beta = 0) ∧ outs.length = 2 ∧ (∀ b ∈ batches sf.hist, b.beta = 0) ∧
    lin (batches sf.hist) = Model.Warmup.run batchZ [] [(2, 1), (2, 2)] :=
  C11_pipeline_warmup (⟨⟨3 / 2, 2, none, 1 / 100, 1 / 10000, 20⟩, true⟩ : PCfg ℝ) rfl _ exTapes_ok (by
    intro k hk0 hk
    obtain rfl : k = 1 := by simp at hk; omega
    simp [Model.Reweight.Cfg.target]; norm_num)

example : ∃ sf outs, runIters (⟨⟨3 / 2, 2, some (1 / 2), 1 / 100, 1 / 10000, 20⟩, true⟩ : PCfg ℝ) init
      [⟨[0, 1], [some (-1), none], [0], [], []⟩, ⟨[2, 3], [some (-2), some (-3)], [], [], []⟩] = some (sf, outs) ∧
    (∀ o ∈ outs, o.beta = 0) ∧ outs.length = 2 ∧ (∀ b ∈ batches sf.hist, b.beta = 0) ∧
    lin (batches sf.hist) = Model.Warmup.run batchZ [] [(2, 1), (2, 2)] :=
  C11_pipeline_warmup_gen (⟨⟨3 / 2, 2, some (1 / 2), 1 / 100, 1 / 10000, 20⟩, true⟩ : PCfg ℝ) _ exTapes_ok (by
    intro k hk0 hk
    obtain rfl : k = 1 := by simp at hk; omega
    right
    simp [Model.Reweight.Cfg.target]; norm_num)

end Props.C11
