import TempestVerif.Gen.LogLikeSrc
import TempestVerif.Gen.Dispatch
import Mathlib.Tactic.Conv
import Mathlib.Algebra.Order.Ring.Int
/-
  C13 — the executable model is built from the tests and the arithmetic that are in /repo's source as the check finds it.

  `Gen/LogLikeSrc.lean` is regenerated on every run of the check by translator G21 (translate/g21_loglike.py): a symbolic
  evaluation of `FunctionWrapper.__init__/__call__`, `SamplerCore._get_distribute_func`, `SamplerCore._log_like`,
  `SamplerCore.run_sampling`, `BaseMCMCRunner._evaluate_likelihood` and `Mutator.run`, compiled to Lean terms over the model's
  value domains, with one hand-written definition per Python primitive (Model/LLPy.lean).  The theorems say that the model the
  driver executes, interpreting the string tables of translator G6 (`Gen/Dispatch.lean`), computes exactly those terms FOR EVERY
  INPUT: an equivalent rewriting of the source regenerates other terms for which the same proofs go through; a different literal,
  comparison, operand, index, branch order or a dropped / duplicated counter statement makes a theorem false and the build fail.

  How they are proved.  After `cases` on the input (pool value, shape of the first result, a loop test) the generated term holds
  no string and evaluates by `rfl`, whatever its shape.  The model side interprets string tables: `simp` walks a table by the
  equations of the interpreter; `rfl` / `decide` would evaluate string equality instead, which is many times slower to check.
  Arithmetic is needed in one place, an int pool (`k ≤ 1` or `1 < k`).
-/
namespace Props.C13.Src
open Model.LLEval Model.LLPy Model.CallsRun Model.Dispatch
open Gen.LogLikeSrc

variable {X Y B R A S M V : Type}

/-! ### `FunctionWrapper` (tools.py) -/

/-- `__init__`: the function is stored as it is, `None` extras become empty -/
theorem C13_src_wrapper_init (f : R) (args : Option (List A)) (kwargs : Option (List (String × A))) :
    (Wrapper.init f args kwargs).f = f ∧ (Wrapper.init f args kwargs).args = wrapArgs args ∧
    (Wrapper.init f args kwargs).kwargs = wrapKwargs kwargs := ⟨rfl, rfl, rfl⟩

/-- `__call__`: `self.f(x, *self.args, **self.kwargs)` -/
theorem C13_src_wrapper_call (f : X → List A → List (String × A) → R) (args : Option (List A))
    (kwargs : Option (List (String × A))) (x : X) :
    (Wrapper.init f args kwargs).call x = wrapCall f args kwargs x := rfl

example : wrapCall (fun (x : Nat) (a : List Nat) (k : List (String × Nat)) => (x, a, k)) (some [4, 5]) none 3 = (3, [4, 5], []) := rfl

/-! ### `_get_distribute_func` and the dispatch of `_log_like` (core.py) -/

theorem pIf_some {β : Type} (b : Bool) (t e : Option β) : pIf (some b) t e = if b then t else e := by cases b <;> rfl
theorem pAnd_some (a : Bool) (x : Option Bool) : pAnd (some a) x = if a then x else some false := by cases a <;> rfl
theorem pOr_some (a : Bool) (x : Option Bool) : pOr (some a) x = if a then some true else x := by cases a <;> rfl
theorem pNot_some (a : Bool) : pNot (some a) = some (!a) := rfl
theorem pIf_none {β : Type} (t e : Option β) : pIf none t e = none := rfl
theorem pAnd_none (x : Option Bool) : pAnd none x = none := rfl
theorem pOr_none (x : Option Bool) : pOr none x = none := rfl
theorem pNot_none : pNot none = none := rfl

theorem testHoldsV_obj (test : String) (h : Bool) : testHoldsV test (.obj h) = decide (test = "else") := by
  unfold testHoldsV
  split <;> simp_all

set_option linter.unusedSimpArgs false in
/-- `_get_distribute_func` on an int, as the source tests it: `isinstance(pool, int) and pool <= 1`, then `… and pool > 1`.
    The `simp` set names every pool primitive of `Model/LLPy.lean`: the term is regenerated from the source and may use any of them. -/
theorem getDistribute_int (k : Int) : getDistribute (.int k) = if k ≤ 1 then some .map else some (.newPoolMap k) := by
  by_cases h : k ≤ 1 <;>
    simp [getDistribute, PoolV.isNone, PoolV.isInt, PoolV.hasMap, PoolV.le?, PoolV.lt?, PoolV.gt?, PoolV.ge?, PoolV.eq?,
      PoolV.newPoolMap, PoolV.attrMap, builtinMap, pIf_some, pAnd_some, pOr_some, pNot_some, h]

/-- every branch test of `_get_distribute_func` on every pool value: `None`, every int (bools and negatives included), objects
    with and without a `map` attribute — the table of G6 interpreted by the model is the function the source computes -/
theorem C13_src_distribute (p : PoolV) : distributeV Gen.Dispatch.distribute p = getDistribute p := by
  cases p with
  | none =>
    simp [Gen.Dispatch.distribute, distributeV, testHoldsV]
    rfl
  | obj h => cases h <;> simp [Gen.Dispatch.distribute, distributeV, testHoldsV_obj] <;> rfl
  | int k =>
    rw [getDistribute_int]
    by_cases h : k ≤ 1 <;> simp [Gen.Dispatch.distribute, distributeV, testHoldsV, h]

/-- the three dispatch branches of `_log_like` (with `_get_distribute_func` inlined) for every `vectorize` and pool value -/
theorem C13_src_logLikeHow (v : Bool) (p : PoolV) :
    logLikeHowV Gen.Dispatch.logLike Gen.Dispatch.distribute v p = Gen.LogLikeSrc.logLikeHow v p := by
  -- G6's table is the pattern of the model's `match`
  unfold Gen.Dispatch.logLike
  rw [logLikeHowV]
  cases v with
  | true => rfl
  | false =>
    cases p with
    | none => rfl
    | _ =>
      -- on a pool that is not `None` both sides are their `_get_distribute_func`
      rw [if_neg Bool.false_ne_true, if_pos nofun, C13_src_distribute]
      rfl

/-- the source's dispatch (`_get_distribute_func` inlined) in closed form; it holds no string, so this is where the closed forms of
    the two table interpreters come from (`C13_dispatchV_table`, `C13_dispatch_table`) -/
theorem logLikeHow_closed (v : Bool) (p : PoolV) :
    Gen.LogLikeSrc.logLikeHow v p =
      if v then some .direct else
      match p with
      | .none => some .map
      | .int k => if k ≤ 1 then some .map else some (.newPoolMap k)
      | .obj true => some .objMap
      | .obj false => none := by
  cases v with
  | true => rfl
  | false =>
    cases p with
    | none => rfl
    | obj h => cases h <;> rfl
    | int k => exact getDistribute_int k

/-- a pool value of `Model.Dispatch` as one of `Model.LLEval`: an unsigned int as that int, "an object" as an object with `map` -/
def embedPool : PoolCfg → PoolV
  | .none => .none
  | .int k => .int k
  | .obj => .obj true

/-- a strategy of `Model.LLEval` as one of `Model.Dispatch`: both pool strategies become `poolMap` (the size of a new pool is dropped) -/
def forgetHow : HowV → How
  | .direct => .direct
  | .map => .map
  | .newPoolMap _ => .poolMap
  | .objMap => .poolMap

/-- the dispatch model of `Model.Dispatch` (the one of Props/C13.lean: `pool` an unsigned int, any object has `map`) computes the same
    function as the source, through `embedPool` on its pool values and `forgetHow` on the strategies -/
theorem C13_src_logLikeHow_cfg (c : Cfg) :
    Model.Dispatch.logLikeHow Gen.Dispatch.logLike Gen.Dispatch.distribute c =
      (Gen.LogLikeSrc.logLikeHow c.vectorize (embedPool c.pool)).map forgetHow := by
  unfold Gen.Dispatch.logLike
  rw [Model.Dispatch.logLikeHow]
  rcases c with ⟨v, p⟩
  cases v with
  | true => rfl
  | false =>
    cases p with
    | none => rfl
    | obj =>
      show _ = some How.poolMap
      simp [Gen.Dispatch.distribute, distributeHow, testHolds]
    | int k =>
      show _ = (getDistribute (.int k)).map forgetHow
      rw [getDistribute_int]
      by_cases h : k ≤ 1 <;> simp [Gen.Dispatch.distribute, distributeHow, testHolds, forgetHow, h]

/-- the pool class comes from `multiprocess` (dill-pickled callables), as the suites' doubles assume -/
theorem C13_src_poolModule : poolModule = ["multiprocess"] := rfl

example : Gen.LogLikeSrc.logLikeHow false (.int 1) = some .map ∧ Gen.LogLikeSrc.logLikeHow false (.int (-2)) = some .map ∧
    Gen.LogLikeSrc.logLikeHow false (.int 2) = some (.newPoolMap 2) ∧ Gen.LogLikeSrc.logLikeHow false (.obj false) = none ∧
    Gen.LogLikeSrc.logLikeHow true (.obj false) = some .direct ∧ Gen.LogLikeSrc.logLikeHow false .none = some .map := by decide

/-! ### `_log_like`: from the per-point results to the returned pair -/

/-- the vectorised path returns the user's value unconverted, and no blobs -/
theorem C13_src_direct (sched : List Nat) (f : X → Res Y B) (fvec : List X → List Y) (xs : List X) :
    logLike .direct sched f fvec xs = some (directOut fvec xs) := rfl

/-- the model's per-point primitives are the source's subscripts: `float(item[0])` and `item[1:]` -/
theorem C13_src_split (r : Res Y B) :
    r.split? = (Res.floatAt? r 0).bind fun y => (Res.tailFrom? r 1).map fun bs => (y, bs) := by
  cases r <;> rfl

/-- the blob test `results and isinstance(results[0], (tuple, list)) and len(results[0]) > 1`: decided by the FIRST result only,
    true exactly for a tuple/list with at least one blob (literal `1`, index `0`, both classes, the emptiness guard) -/
theorem C13_src_hasBlobs (r0 : Res Y B) (rs : List (Res Y B)) :
    blobTest (r0 :: rs) = some r0.hasBlobs ∧ blobTest ([] : List (Res Y B)) = some false := by
  refine ⟨?_, rfl⟩
  cases r0 with
  | val y => rfl
  | bad => rfl
  | seq y bs => cases bs <;> rfl

theorem tailFrom_seq (y : Y) (bs : List B) : Res.tailFrom? (.seq y bs : Res Y B) 1 = some bs := rfl
theorem floatAt_seq (y : Y) (bs : List B) : Res.floatAt? (.seq y bs : Res Y B) 0 = some y := rfl

theorem allSome_pair {α β γ δ : Type} (a : α → Option β) (b : α → Option γ) (k : List β → List γ → Option δ) (l : List α) :
    (allSome (l.map fun r => (a r).bind fun y => (b r).map fun z => (y, z))).bind (fun ps => k (ps.map (·.1)) (ps.map (·.2))) =
      (allSome (l.map b)).bind fun zs => (allSome (l.map a)).bind fun ys => k ys zs := by
  induction l generalizing k with
  | nil => rfl
  | cons r l ih =>
    simp only [List.map_cons]
    cases a r with
    | none => cases allSome (b r :: l.map b) <;> rfl
    | some y =>
      cases b r with
      | none => rfl
      | some z =>
        simp only [allSome, Option.bind_some, Option.map_some, Option.bind_map]
        exact ih fun ys zs => k (y :: ys) (z :: zs)

/-- everything `_log_like` does after the results exist — which path is taken, `float(value)` on the plain path,
    `item[1:]` / `float(item[0])` on the blobs path, what is returned in which component — is the model's `assemble`, with the
    numpy part (dtype, `np.array`, squeeze) standing as `mkBlobs` -/
theorem C13_src_assemble (rs : List (Res Y B)) : Model.LLEval.assemble rs = Gen.LogLikeSrc.assemble mkBlobs rs := by
  cases rs with
  | nil => rfl
  | cons r0 rs =>
    -- the first result sends both sides down the same path; on the plain path they are the same term
    cases r0 with
    | val y => rfl
    | bad => rfl
    | seq y bs =>
      cases bs with
      | nil => rfl
      | cons b bs =>
        have h := allSome_pair (fun r : Res Y B => Res.floatAt? r 0) (fun r => Res.tailFrom? r 1)
          (fun l rows => (mkBlobs rows).map fun b => (⟨l, some b⟩ : Out Y B)) (.seq y (b :: bs) :: rs)
        simp only [← C13_src_split] at h
        exact h

/-- `_log_like` on the point-by-point strategies: the list of results (serial map, or a pool's map) then the source's assembly -/
theorem C13_src_logLike (sched : List Nat) (f : X → Res Y B) (fvec : List X → List Y) (xs : List X) (k : Int) :
    logLike .map sched f fvec xs = Gen.LogLikeSrc.assemble mkBlobs (xs.map f) ∧
    logLike (.newPoolMap k) sched f fvec xs = (poolMap sched f xs).bind (Gen.LogLikeSrc.assemble mkBlobs) ∧
    logLike .objMap sched f fvec xs = (poolMap sched f xs).bind (Gen.LogLikeSrc.assemble mkBlobs) :=
  have h : Model.LLEval.assemble (Y := Y) (B := B) = Gen.LogLikeSrc.assemble mkBlobs := funext C13_src_assemble
  ⟨C13_src_assemble _, congrArg (Option.bind _) h, congrArg (Option.bind _) h⟩

example : Gen.LogLikeSrc.assemble (Y := Int) (B := Int) mkBlobs [.seq 5 [6, 7], .seq 8 [9, 10]] =
    some ⟨[5, 8], some (.rows 2 [[6, 7], [9, 10]])⟩ := rfl
example : Gen.LogLikeSrc.assemble (Y := Int) (B := Int) mkBlobs [.val 5, .seq 8 [9]] = none := by decide
example : Gen.LogLikeSrc.assemble (Y := Int) (B := Int) mkBlobs [.seq 5 [], .seq 8 []] = none := by decide
example : Gen.LogLikeSrc.assemble (Y := Int) (B := Int) mkBlobs [.val 5, .val 8] = some ⟨[5, 8], none⟩ := rfl

/-! ### G6's tables, and what the run model reads from them field by field

    This module imports no other `Props` module on purpose: its theorems are then checked (and reported by name) even when a
    change of the source already breaks a theorem of `Props/C13*.lean`.  The two tables below are verbatim those of
    `Props/C13Run.lean`, `Props/C13.lean` and of the driver (`Drv/C13.lean`); `Props/C13SourceTie.lean` proves the identities. -/

/-- the accounting expressions regenerated from /repo by G6, as the run model receives them -/
def runTable : RunTable :=
  ⟨⟨Gen.Dispatch.warmupIncrement, Gen.Dispatch.warmupBatch, Gen.Dispatch.stepIncrement, Gen.Dispatch.stepBatch⟩,
   Gen.Dispatch.nCallsInit, Gen.Dispatch.freshCalls, Gen.Dispatch.resumeDefault,
   Gen.Dispatch.warmupDrawnInit, Gen.Dispatch.warmupDrawnStep,
   Gen.Dispatch.warmupCap⟩

/-- the table of the op-list accounting model -/
def callTable : CallTable :=
  ⟨Gen.Dispatch.warmupDrawnStep, Gen.Dispatch.warmupBatch, Gen.Dispatch.stepIncrement, Gen.Dispatch.stepBatch⟩

theorem exprSize_nParticles (e : Env) : exprSize e "self.n_particles" = some e.nParticles := by simp [exprSize]

theorem exprSize_nWalkers (e : Env) : exprSize e "self.n_walkers" = some e.nWalkers := by simp [exprSize]

theorem stepInc_eval (nP nw : Nat) : exprSize ⟨nP, nw⟩ runTable.calls.stepIncrement = some nw := exprSize_nWalkers _

theorem warmStep_eval (nP nw : Nat) : exprSize ⟨nP, nw⟩ runTable.warmDrawnStep = some nP := exprSize_nParticles _

theorem warmInc_eval (e : Env) (nDrawn : Nat) : warmIncrement e nDrawn runTable.calls.warmupIncrement = some nDrawn := by
  simp [runTable, Gen.Dispatch.warmupIncrement, warmIncrement]

theorem warmCap_eval (nP : Nat) : capValue nP runTable.warmCap = some (some (1000 * nP)) := by
  simp [runTable, Gen.Dispatch.warmupCap, capValue]

theorem litNat_zero : litNat "0" = some 0 := by simp [litNat]

/-! ### `_evaluate_likelihood` (mcmc.py) and the per-run counter -/

/-- both paths: one `self.log_likelihood(x_prime)`, the blobs handed on only when the runner tracks blobs,
    `self.n_calls += self.n_walkers` -/
theorem C13_src_evaluateLikelihood (haveBlobs : Bool) (ll : List X → Option (Out Y B)) (xp : List X) (n w : Nat) :
    evaluateLikelihood haveBlobs ll xp n w = evalLik haveBlobs ll xp n w := by
  cases haveBlobs <;> rfl

/-- exactly one likelihood call on every path of `_evaluate_likelihood` -/
theorem C13_src_evalLik_calls : evalLikCallsMax = 1 ∧ evalLikCallsMin = 1 := ⟨rfl, rfl⟩

/-- `self.n_calls = 0` at construction -/
theorem C13_src_nCallsInit : litNat runTable.nCallsInit = some nCallsInit := litNat_zero

/-- the increment the run model reads from G6's table is the source's `self.n_calls += self.n_walkers` -/
theorem C13_src_nCallsStep (nP nW n : Nat) :
    (exprSize ⟨nP, nW⟩ runTable.calls.stepIncrement).map (n + ·) = some (nCallsStep n nW) := by
  rw [stepInc_eval]
  rfl

/-- one pass of `BaseMCMCRunner.run`'s loop in the run model, written with the source-derived counter step -/
theorem C13_src_mcmcLoop_succ (A : Algo S M X V) (ev : Nat → List X → Option V) (nP nW fuel : Nat) (m : M) (n : Nat)
    (asked : List (List X)) :
    mcmcLoop runTable A ev ⟨nP, nW⟩ (fuel + 1) m n asked =
      (ev asked.length (A.propose m)).bind fun v =>
        let m' := A.accept m (A.propose m) v
        if A.converged m' then some (m', nCallsStep n nW, asked ++ [A.propose m])
        else mcmcLoop runTable A ev ⟨nP, nW⟩ fuel m' (nCallsStep n nW) (asked ++ [A.propose m]) := by
  rw [mcmcLoop]
  dsimp only
  rw [stepInc_eval]
  rfl

/-- the counter travels unchanged from the runner to `Mutator.run`: `run` returns `self.n_calls` in the slot that
    `Mutator.run` unpacks as the increment, through `parallel_mcmc` and the kernel functions that return their callee's value -/
theorem C13_src_slots :
    runNCallsSlot = mutateCallsSlot ∧ runArity = mutateArity ∧ runNCallsSlot < runArity ∧
    mcmcReturnChain = ["parallel_mcmc -> parallel_random_walk_metropolis",
                       "parallel_mcmc -> parallel_t_preconditioned_crank_nicolson",
                       "parallel_random_walk_metropolis -> RWMRunner(…).run",
                       "parallel_t_preconditioned_crank_nicolson -> TPCNRunner(…).run"] ∧
    mcmcLikelihoodArg = "self.log_likelihood" := ⟨rfl, rfl, by decide, rfl, rfl⟩

/-! ### `Mutator.run` (mutate.py): the warm-up redraw loop and the two updates of `calls` -/

/-- `n_drawn = self.n_particles` -/
theorem C13_src_nDrawnInit (nP nW : Nat) : exprSize ⟨nP, nW⟩ runTable.warmDrawnInit = some (nDrawnInit nP) :=
  exprSize_nParticles _

theorem warmStep_eq (nDrawn nP : Nat) :
    warmStep nDrawn nP = if capReached (some (1000 * nP)) nDrawn then none else some (nDrawn + nP) := rfl

/-- the cap test `n_drawn >= 1000 * self.n_particles` and the step `n_drawn += self.n_particles`, as the run model reads them
    from G6's table, are the source's -/
theorem C13_src_warmStep (nP nW : Nat) :
    ∃ cap, capValue nP runTable.warmCap = some cap ∧
      ∀ nDrawn, (if capReached cap nDrawn then none else (exprSize ⟨nP, nW⟩ runTable.warmDrawnStep).map (nDrawn + ·)) =
        warmStep nDrawn nP := by
  refine ⟨some (1000 * nP), warmCap_eval nP, fun nDrawn => ?_⟩
  rw [warmStep_eval, warmStep_eq]
  rfl

/-- one pass of the redraw loop in the run model, written with the source-derived step -/
theorem C13_src_warmLoop_succ (A : Algo S M X V) (ev : Nat → List X → Option V) (nP nW fuel : Nat) (s : S) (x : List X) (v : V)
    (nDrawn : Nat) (asked : List (List X)) :
    warmLoop runTable A ev ⟨nP, nW⟩ (some (1000 * nP)) (fuel + 1) s x v nDrawn asked =
      if A.allInf v then
        match warmStep nDrawn nP with
        | none => none
        | some n' => (ev asked.length (A.draw s)).bind fun v' =>
            warmLoop runTable A ev ⟨nP, nW⟩ (some (1000 * nP)) fuel (A.afterDraw s) (A.draw s) v' n' (asked ++ [A.draw s])
      else some (s, x, v, nDrawn, asked) := by
  rw [warmStep_eq]
  -- the left-hand side only: the right-hand side contains the recursive call
  conv_lhs => rw [warmLoop]
  cases A.allInf v
  · rfl
  · cases capReached (some (1000 * nP)) nDrawn
    · dsimp only
      rw [warmStep_eval]
      rfl
    · rfl

/-- both updates of `state["calls"]`: `get_current("calls") + n_drawn` and `get_current("calls") + mcmc_calls` -/
theorem C13_src_calls (e : Env) (c nDrawn m : Nat) :
    (warmIncrement e nDrawn runTable.calls.warmupIncrement).map (c + ·) = some (warmCalls c nDrawn e.nParticles) ∧
    c + m = mcmcCalls c m e.nParticles := by
  rw [warmInc_eval]
  exact ⟨rfl, rfl⟩

/-- `Mutator.run` in the run model, written with the source-derived terms only: initial `n_drawn`, cap, what is added to
    `calls` on either path, initial `n_calls` -/
theorem C13_src_mutate (A : Algo S M X V) (ev : Nat → List X → Option V) (nP fuel : Nat) (r : RS S X) (wfuel : Nat) :
    mutate runTable A ev nP fuel r wfuel =
      if A.beta0 r.s then
        (ev r.asked.length (A.draw r.s)).bind fun v =>
          (warmLoop runTable A ev ⟨nP, A.nWalkers r.s⟩ (some (1000 * nP)) wfuel (A.afterDraw r.s) (A.draw r.s) v (nDrawnInit nP)
              (r.asked ++ [A.draw r.s])).map fun (s', x', v', nDrawn, asked') =>
            { s := A.warmStore s' x' v' nDrawn, calls := warmCalls r.calls nDrawn nP, asked := asked' }
      else
        (mcmcLoop runTable A ev ⟨nP, A.nWalkers r.s⟩ fuel (A.mcmcInit r.s) nCallsInit r.asked).map fun (m, mc, asked') =>
          { s := A.mcmcStore r.s m, calls := mcmcCalls r.calls mc nP, asked := asked' } := by
  unfold mutate
  by_cases hb : A.beta0 r.s
  · rw [if_pos hb, if_pos hb]
    dsimp only
    rw [C13_src_nDrawnInit, warmCap_eval]
    refine congrArg _ (funext fun v => ?_)
    simp only [warmInc_eval, Option.bind_some, Option.map_some]
    -- the model binds the loop's result and wraps the new state in `some`, the statement maps over it
    generalize warmLoop runTable A ev _ _ wfuel _ _ v _ _ = o
    cases o <;> rfl
  · rw [if_neg hb, if_neg hb, C13_src_nCallsInit]
    rfl

/-- the likelihood is called once before the redraw loop, once per completed pass, never in the loop test, never before the
    ValueError of the cap, never by `Mutator.run` itself on the annealing path; the redraw loop carries a counter -/
theorem C13_src_evals :
    warmOutsideEvals = [1] ∧ warmPassEvals = [1] ∧ warmRaiseEvals = [0] ∧ warmTestEvals = 0 ∧ coldOutsideEvals = [0] ∧
    counterCarried = true := ⟨rfl, rfl, rfl, rfl, rfl, rfl⟩

example : warmStep 3000 3 = none ∧ warmStep 2997 3 = some 3000 ∧ warmCalls 10 6 3 = 16 ∧ mcmcCalls 10 6 3 = 16 := by decide

/-! ### the accounting model of Props/C13.lean (`Model.Dispatch.stepAcc`) -/

-- `Acc` alone would first be tried as `_root_.Acc`
export Model.Dispatch (Acc)

theorem C13_src_stepAcc (e : Env) (a : Acc) :
    stepAcc callTable e a .warmup = some ⟨warmCalls a.calls (nDrawnInit e.nParticles) e.nParticles, a.evaluated + e.nParticles⟩ ∧
    stepAcc callTable e a (.mcmc 1) = some ⟨nCallsStep a.calls e.nWalkers, a.evaluated + e.nWalkers⟩ := by
  constructor <;>
    simp only [stepAcc, callTable, Gen.Dispatch.warmupDrawnStep, Gen.Dispatch.warmupBatch, Gen.Dispatch.stepIncrement,
      Gen.Dispatch.stepBatch, exprSize_nParticles, exprSize_nWalkers, Option.bind_eq_bind, Option.bind_some, one_mul] <;>
    rfl

/-! ### how a run starts (core.py `run_sampling`, `_initialize_fresh`, `load_sampler_state`) -/

/-- the if-chain at the top of `run_sampling`: a resume path wins, else a committed history continues, else a fresh start -/
theorem C13_src_startKind (havePath : Bool) (n : Nat) :
    Model.CallsRun.startKind Gen.Dispatch.runStart havePath n = Gen.LogLikeSrc.startKind havePath n := by
  cases havePath <;> by_cases h : n > 0 <;>
    simp [Model.CallsRun.startKind, Gen.Dispatch.runStart, Gen.LogLikeSrc.startKind, startOf, h]

/-- initial value of the counter: `set_current("calls", 0)` on a fresh start, the default `0` of `load_sampler_state` for a
    state file without the entry -/
theorem C13_src_begin (s : S) :
    begin (X := X) runTable (.fresh s) = some ⟨s, freshCalls, []⟩ ∧
    begin (X := X) runTable (.resume s none) = some ⟨s, resumeDefaultCalls, []⟩ := by
  constructor <;> simp only [begin, runTable, Gen.Dispatch.freshCalls, Gen.Dispatch.resumeDefault, litNat_zero] <;> rfl

end Props.C13.Src
