import TempestVerif.Props.C08
import TempestVerif.Model.Resume
import TempestVerif.Model.Cadence
import TempestVerif.Model.Dispatch
import TempestVerif.Gen.CheckpointCore
import Std.Data.String.ToInt
/-
  C08 — the whole SamplerCore around a checkpoint (`Model.Resume`): what the dictionary holds and what loading restores (obligations
  on `Gen/CheckpointCore.lean`), `load fresh (save s) = s` literally for every state a run can write, a resumed run as the
  continuation of the uninterrupted one under H_comp (`CompIrrelevant`; what it means for the shared clusterer, `Model.Cadence`),
  and the files of a whole run: they are the complete saves of its log (`saveAll`), under names that keep apart.
-/
namespace Props.C08

section StateSide
open Model.Checkpoint Model.Resume

/-! ## The dictionary and what is restored -/

/-- OBLIGATION (regenerated from `save_sampler_state`): the pickled dictionary is `self.state.to_dict()` plus exactly the five
    modelled keys with the modelled expressions, all stored before the file is written, and that dictionary is what is dumped -/
theorem C08_gen_ckpt_keys :
    Gen.Checkpoint.ckptBaseToDict = true ∧ Gen.Checkpoint.ckptExtraKeys = ckptExtraKeys ∧
    Gen.Checkpoint.ckptDumpsDict = true ∧ Gen.Checkpoint.ckptKeysBeforeWrite = true := ⟨rfl, rfl, rfl, rfl⟩

/-- OBLIGATION: saving changes no attribute of the core and touches the random generator only through `get_state` -/
theorem C08_gen_save_pure :
    Gen.Checkpoint.saveAssignsAttrs = [] ∧ Gen.Checkpoint.saveRandomCalls = ["np.random.get_state"] := ⟨rfl, rfl⟩

/-- OBLIGATION (regenerated from `load_sampler_state`): besides `update_from_dict(d)` + the defaults loop, exactly `n_total`,
    `logz_err` (when the key is present) and `rng_state` (when not `None`, through `np.random.set_state`) are restored;
    no other key of the dictionary is read — in particular neither `sampler` (the pickled core) nor `random_state` -/
theorem C08_gen_load_table :
    Gen.Checkpoint.loadTable = loadTable ∧ Gen.Checkpoint.loadKeysRead = ["logz_err", "n_total", "rng_state"] ∧
    Gen.Checkpoint.loadDictPassedTo = ["self.state.update_from_dict(d)"] ∧
    Gen.Checkpoint.loadAssignsAttrs = ["logz_err", "n_total"] ∧
    Gen.Checkpoint.loadSelfCalls = ["self.state.get_current", "self.state.set_current", "self.state.update_from_dict"] :=
  ⟨rfl, rfl, rfl, rfl, rfl⟩

/-- OBLIGATION: loading (and `_initialize_from_resume`) never seeds: the only call into `np.random` is `set_state`;
    `_initialize_from_resume` assigns only `t0`; the resume branch of `run_sampling` does not call `_initialize_fresh`;
    nothing else in `run_sampling` touches the generator -/
theorem C08_gen_load_no_reseed :
    Gen.Checkpoint.loadRandomCalls = ["np.random.set_state"] ∧
    Gen.Checkpoint.resumeInitAssignsAttrs = ["t0"] ∧
    Gen.Checkpoint.resumeInitSelfCalls = ["self.load_sampler_state", "self.state.get_current"] ∧
    Gen.Checkpoint.runResumeBranchCalls = ["self._initialize_from_resume", "self.state.get_current", "self.state.set_current"] ∧
    Gen.Checkpoint.runFreshBranchCalls = ["self._initialize_fresh"] ∧
    Gen.Checkpoint.runRandomCallsOutsideFresh = [] := ⟨rfl, rfl, rfl, rfl, rfl, rfl⟩

/-- OBLIGATION: the attributes `SamplerCore` ever assigns on itself are the modelled ones (a new attribute — e.g. a cached worker
    pool — would be pickled with the core by `dill.dumps(self)` and is not covered by the pool detachment) -/
theorem C08_gen_core_attrs : Gen.Checkpoint.coreSelfAttrs = coreAttrs := rfl

/-- OBLIGATION: `run_sampling` assigns `self.n_total = int(n_total)` (this call's argument) and `self.t0 = t0` after the
    resume/fresh branch and before the loop; after the loop: evidence at β = 1, `logz_err = None`, THEN the final save -/
theorem C08_gen_run_shape :
    Gen.Checkpoint.runNTotalAssign = true ∧
    Gen.Checkpoint.runEpilogueOrder = ["z1", "set_logz", "logz_err_none", "final_save", "pbar_close"] := ⟨rfl, rfl⟩

/-- OBLIGATION: `_initialize_fresh` seeds iff `random_state is not None` and sets the four counters the model sets -/
theorem C08_gen_fresh :
    Gen.Checkpoint.freshSeedsIffRandomState = true ∧
    Gen.Checkpoint.freshSets = [("iter", "0"), ("calls", "0"), ("beta", "0.0"), ("logz", "0.0")] ∧
    Gen.Checkpoint.freshRandomCalls = ["np.random.seed"] := ⟨rfl, rfl, rfl⟩

section Core
variable {G C B : Type}

theorem loadCore_some {w w' : World G C} {d : CkDict G B} (h : loadCore w d = some w') :
    ∃ sm', loadDict w.core.sm d.base = some sm' ∧
      w' = { core := { w.core with
                       sm := sm'
                       nTotal := (match d.nTotal with | some v => some v | none => w.core.nTotal)
                       logzErr := (match d.logzErr with | some v => some v | none => w.core.logzErr) }
             rng := (match d.rngState with | some (some g) => g | _ => w.rng) } :=
  (Option.map_eq_some_iff.mp h).imp fun _ h => ⟨h.1, h.2.symm⟩

/-- the pickled sampler object and the stored `random_state` have NO influence on the
    loaded sampler: every component (reweighter, trainer, resampler, mutator, the shared clusterer), the configuration and
    `t0` are those of the RECEIVING sampler -/
theorem C08_load_ignores_sampler_and_seed (w : World G C) (d : CkDict G B) (b : Option B) (r : Option (Option Int)) :
    loadCore w { d with sampler := b, randomState := r } = loadCore w d ∧
    ∀ w', loadCore w d = some w' →
      w'.core.comp = w.core.comp ∧ w'.core.randomState = w.core.randomState ∧ w'.core.t0 = w.core.t0 := by
  refine ⟨rfl, ?_⟩
  intro w' h
  obtain ⟨sm', _, rfl⟩ := loadCore_some h
  exact ⟨rfl, rfl, rfl⟩

/-- after `load_state` the global generator is at the position stored in the checkpoint; a file without the
    key (written before /repo db2b14b) or with `None` leaves the generator where it was.  No other outcome exists — in
    particular the generator is never re-seeded from `random_state` (F31). -/
theorem C08_load_rng (w w' : World G C) (d : CkDict G B) (h : loadCore w d = some w') :
    w'.rng = match d.rngState with | some (some g) => g | _ => w.rng := by
  obtain ⟨sm', _, rfl⟩ := loadCore_some h
  rfl

/-- `n_total` / `logz_err`: taken from the file when the key is present (also when its value is `None`), kept otherwise -/
theorem C08_load_meta (w w' : World G C) (d : CkDict G B) (h : loadCore w d = some w') :
    w'.core.nTotal = (match d.nTotal with | some v => some v | none => w.core.nTotal) ∧
    w'.core.logzErr = (match d.logzErr with | some v => some v | none => w.core.logzErr) := by
  obtain ⟨sm', _, rfl⟩ := loadCore_some h
  exact ⟨rfl, rfl⟩

end Core

/-! ## `load fresh (save s) = s`, literally -/

theorem init_wellKeyed (n : Nat) : WellKeyed (init n) := by
  constructor <;> simp [init, Function.comp_def]

/-- for EVERY state whose maps have the StateManager's keys (true of every state a sampler can be in,
    `C08_run_invariants`) and whose seven default keys are set (true after every committed iteration), and for a fresh
    StateManager of ANY dimension: loading the saved dictionary returns that very state — every key of `_current`, every
    history list, `n_dim`; nothing is defaulted, dropped, reordered or added. -/
theorem C08_restore_identity (s : State) (hw : WellKeyed s) (hd : DefaultsSet s) (n : Nat) :
    loadDict (init n) (toDict s) = some s := by
  obtain ⟨hc, hh⟩ := hw
  have h1 : updateAll (init n).current s.current = s.current :=
    updateAll_same_keys _ _ ((init_wellKeyed n).1.trans hc.symm) (hc ▸ currentKeys_nodup)
  have h2 : updateAll (init n).history s.history = s.history :=
    updateAll_same_keys _ _ ((init_wellKeyed n).2.trans hh.symm) (hh ▸ historyKeys_nodup)
  simp only [loadDict, updateFromDict, toDict, h1, h2]
  rw [applyDefaults_id defaults s.current hd]
  rfl

/-- `C08_restore_identity` through the bytes, with dill trusted (`dec (enc d) = some d`) -/
theorem C08_restore_identity_bytes (enc : Dict → Bytes) (dec : Bytes → Option Dict) (hdec : ∀ d, dec (enc d) = some d)
    (s : State) (hw : WellKeyed s) (hd : DefaultsSet s) (n : Nat) :
    load dec (init n) (save enc s) = some s := by
  simp [load, save, hdec, C08_restore_identity s hw hd n]

/-! ### the two invariants hold along every run -/

theorem appendHist_keys {k : Key} {v : Val} {h h' : List (Key × List Val)} (ha : appendHist k v h = some h') :
    h'.map (·.1) = h.map (·.1) := by
  obtain ⟨l, hl, rfl⟩ := appendHist_some ha
  exact setKey_keys _ (List.mem_map_of_mem (f := (·.1)) (lookup_mem hl))

theorem commitLoop_keys (cur : List (Key × Val)) (ks : List Key) (h h' : List (Key × List Val))
    (hc : commitLoop cur ks h = some h') : h'.map (·.1) = h.map (·.1) := by
  induction ks generalizing h with
  | nil =>
    obtain rfl := Option.some.inj hc
    rfl
  | cons k ks ih =>
    rw [commitLoop] at hc
    split at hc
    · cases hc
    · exact ih _ hc
    · obtain ⟨h1, ha, hc⟩ := Option.bind_eq_some_iff.mp hc
      rw [ih _ hc, appendHist_keys ha]

/-- the four keys `_initialize_fresh` sets are, in this order, the first four entries of the defaults table, whose keys are
    StateManager keys (`defaults_sub_current`); read off by position: deciding string membership again costs many times more -/
theorem fresh_keys_mem :
    "iter" ∈ currentKeys ∧ "calls" ∈ currentKeys ∧ "beta" ∈ currentKeys ∧ "logz" ∈ currentKeys :=
  ⟨defaults_sub_current _ (.head _), defaults_sub_current _ (.tail _ (.head _)),
   defaults_sub_current _ (.tail _ (.tail _ (.head _))), defaults_sub_current _ (.tail _ (.tail _ (.tail _ (.head _))))⟩

theorem stepCur_keys {cur : List (Key × Val)} (hc : cur.map (·.1) = currentKeys) {i : StepIn}
    (hi : ∀ kv ∈ i.vals, kv.1 ∈ currentKeys) (it ca : Int) : (stepCur cur it ca i).map (·.1) = currentKeys := by
  have k1 := setKey_keys_eq (Val.int (it + 1)) hc fresh_keys_mem.1
  refine setKey_keys_eq _ ?_ fresh_keys_mem.2.1
  rw [updateAll_keys _ _ (fun kv hkv => by rw [k1]; exact hi kv (List.mem_of_mem_filter hkv)), k1]

theorem iteration_wellKeyed {s s' : State} {i : StepIn} (hw : WellKeyed s) (hi : ∀ kv ∈ i.vals, kv.1 ∈ currentKeys)
    (h : iteration s i = some s') : WellKeyed s' := by
  obtain ⟨it, ca, hist, _, _, hcl, rfl⟩ := iteration_some h
  exact ⟨stepCur_keys hw.1 hi it ca, (commitLoop_keys _ _ _ _ hcl).trans hw.2⟩

theorem iteration_defaultsSet {s s' : State} {i : StepIn} (hi : StepOK i) (h : iteration s i = some s') : DefaultsSet s' := by
  obtain ⟨it, ca, hist, _, _, _, rfl⟩ := iteration_some h
  have hne : ∀ k ∈ ["beta", "logz", "steps", "acceptance", "efficiency"], k ≠ "calls" := by decide
  intro kv hkv
  -- the keys of the defaults table: the two counters, then the five keys `StepOK` speaks of
  have hk : kv.1 ∈ "iter" :: "calls" :: ["beta", "logz", "steps", "acceptance", "efficiency"] :=
    List.mem_map_of_mem (f := (·.1)) hkv
  rcases List.mem_cons.mp hk with h1 | hk
  · rw [h1]
    exact ⟨_, lookup_stepCur_iter .., fun h => Val.noConfusion h⟩
  rcases List.mem_cons.mp hk with h2 | hk
  · rw [h2]
    exact ⟨_, lookup_stepCur_calls .., fun h => Val.noConfusion h⟩
  · obtain ⟨v, hv, hvn⟩ := hi.2 _ hk
    exact ⟨v, by rw [lookup_stepCur (hne _ hk), hv, Option.some_or], hvn⟩

/-! ## A resumed run is the continuation of the uninterrupted run -/

section Continue
variable {G C B : Type}

def WorldOK (w : World G C) : Prop := WellKeyed w.core.sm ∧ DefaultsSet w.core.sm

/-- whatever the iteration oracle `F` writes is admissible (`Model.Resume.StepOK`) -/
def FOK (F : State → G → C → StepIn × G × C) : Prop := ∀ s g c, StepOK (F s g c).1

theorem iterate_eq_some {F : State → G → C → StepIn × G × C} {w w' : World G C} :
    iterate F w = some w' ↔ ∃ sm', iteration w.core.sm (F w.core.sm w.rng w.core.comp).1 = some sm' ∧
      { core := { w.core with sm := sm', comp := (F w.core.sm w.rng w.core.comp).2.2 }, rng := (F w.core.sm w.rng w.core.comp).2.1 } = w' :=
  Option.map_eq_some_iff

theorem iterate_ok {F : State → G → C → StepIn × G × C} (hF : FOK F) {w w' : World G C} (hw : WellKeyed w.core.sm)
    (h : iterate F w = some w') : WorldOK w' := by
  obtain ⟨sm', hs, rfl⟩ := iterate_eq_some.mp h
  exact ⟨iteration_wellKeyed hw (hF _ _ _).1 hs, iteration_defaultsSet (hF _ _ _) hs⟩

/-- after ANY positive number of iterations from a sampler whose StateManager has its keys (a fresh one after
    `_initialize_fresh`: `prologueFresh_wellKeyed`, or a loaded one) the hypotheses of `C08_restore_identity` hold — so of every
    periodic checkpoint of a run, which is written after at least one iteration (`C08_every_checkpoint_restores`). -/
theorem C08_run_invariants (F : State → G → C → StepIn × G × C) (hF : FOK F) (n : Nat) (w w' : World G C)
    (hw : WellKeyed w.core.sm) (h : iterateN F (n + 1) w = some w') : WorldOK w' := by
  induction n generalizing w with
  | zero =>
    obtain ⟨w1, h1, h2⟩ := Option.bind_eq_some_iff.mp h
    obtain rfl := Option.some.inj h2
    exact iterate_ok hF hw h1
  | succ n ih =>
    obtain ⟨w1, h1, h2⟩ := Option.bind_eq_some_iff.mp h
    exact ih w1 (iterate_ok hF hw h1).1 h2

theorem prologueFresh_wellKeyed (seed : Int → G) (w : World G C) (hw : WellKeyed w.core.sm) (nT : Int) :
    WellKeyed (prologueFresh seed w nT).core.sm := by
  obtain ⟨hi, hca, hb, hl⟩ := fresh_keys_mem
  exact ⟨setKey_keys_eq _ (setKey_keys_eq _ (setKey_keys_eq _ (setKey_keys_eq _ hw.1 hi) hca) hb) hl, hw.2⟩

/-- loading the checkpoint written from world `w` into ANY freshly constructed sampler `f` gives: the
    StateManager of `w` (literally), the generator position of `w`, `n_total` and `logz_err` of `w`; components,
    configuration and `t0` stay those of `f`. -/
theorem C08_core_restore (pickle : Core C → B) (w : World G C) (hw : WorldOK w) (f : World G C) (n : Nat)
    (hf : f.core.sm = init n) :
    loadCore f (saveDict pickle w) = some
      { core := { f.core with sm := w.core.sm, nTotal := some (attrOrNone w.core.nTotal),
                              logzErr := some (attrOrNone w.core.logzErr) }
        rng := w.rng } := by
  simp [loadCore, saveDict, hf, C08_restore_identity _ hw.1 hw.2 n]

/-- `run(resume_state_path=…, n_total=nT)` starts its loop from the StateManager and generator
    position of the writer, with `t0` = the restored iteration counter and `n_total` = THIS call's argument (the stored
    one is overwritten). -/
theorem C08_resume_prologue (pickle : Core C → B) (w : World G C) (hw : WorldOK w) (it : Int)
    (hit : getInt "iter" w.core.sm.current = some it) (f : World G C) (n : Nat) (hf : f.core.sm = init n) (nT : Int) :
    prologueResume f (saveDict pickle w) nT = some
      { core := { f.core with sm := w.core.sm, nTotal := some (Val.int nT),
                              logzErr := some (attrOrNone w.core.logzErr), t0 := it }
        rng := w.rng } := by
  simp [prologueResume, C08_core_restore pickle w hw f n hf, hit]

theorem prologueResume_nTotal {f r : World G C} {d : CkDict G B} {nT : Int} (h : prologueResume f d nT = some r) :
    r.core.nTotal = some (Val.int nT) := by
  obtain ⟨w1, -, h⟩ := Option.bind_eq_some_iff.mp h
  split at h
  · cases h; rfl
  · cases h

/-- OBLIGATION (regenerated from `run_sampling`, /repo aeb0399): between the `resume_state_path` branch and the fresh branch there
    is the branch `elif self.state.get_history_length() > 0:` whose body only reads `iter` into `t0` -/
theorem C08_gen_manual_branch :
    Gen.Checkpoint.manualContinueBranch = true ∧
    Gen.Checkpoint.runManualBranchTest = "self.state.get_history_length() > 0" ∧
    Gen.Checkpoint.runManualBranchBody =
      ["iter_val = self.state.get_current('iter')", "t0 = int(iter_val) if iter_val is not None else 0"] := ⟨rfl, rfl, rfl⟩

/-- the documented manual resume `load_state(path); run(n_total)` IS `run(resume_state_path=path, n_total)`:
    for every checkpoint dictionary whose loaded history is not empty (a committed iteration makes it so,
    `iteration_history_nonempty`; the hypothesis is not discharged here for the checkpoints of a run) the two prologues produce the
    same world — counters NOT reset, generator NOT reseeded whatever `random_state` the receiver has, `t0` = restored `iter`,
    `n_total` = this call's argument.  Everything that follows is a function of that world. -/
theorem C08_manual_resume_eq (seed : Int → G) (f : World G C) (d : CkDict G B) (nT : Int)
    (hne : ∀ w1, loadCore f d = some w1 → ∃ n, historyLength w1.core.sm = some (n + 1)) :
    (loadCore f d).bind (fun w1 => prologueRun seed w1 nT) = prologueResume f d nT := by
  simp only [prologueResume]
  cases h : loadCore f d with
  | none => rfl
  | some w1 =>
    obtain ⟨n, hn⟩ := hne w1 h
    simp only [Option.bind_some, prologueRun, hn]

/-- a second `run()` on a sampler that has committed history (a finished run being extended) continues: counters, temperature,
    generator and history are untouched, `t0` = the current iteration number -/
theorem C08_second_run_continues (seed : Int → G) (w : World G C) (nT : Int) (n : Nat) (it : Int)
    (hh : historyLength w.core.sm = some (n + 1)) (hit : getInt "iter" w.core.sm.current = some it) :
    prologueRun seed w nT = some { w with core := { w.core with t0 := it, nTotal := some (Val.int nT) } } := by
  simp [prologueRun, hh, hit]

/-- a sampler WITHOUT committed history is initialised afresh by `run()` (counters to 0, seeded iff `random_state` is set); one
    with history continues (`C08_second_run_continues`) -/
theorem C08_run_fresh_iff_empty (seed : Int → G) (w : World G C) (nT : Int) (hh : historyLength w.core.sm = some 0) :
    prologueRun seed w nT = some (prologueFresh seed w nT) := by
  simp [prologueRun, hh]

/-- every committed iteration makes the history non-empty: the fact behind the hypothesis `hne` of `C08_manual_resume_eq` -/
theorem iteration_history_nonempty {s s' : State} {i : StepIn} (hi : StepOK i) (hw : WellKeyed s)
    (h : iteration s i = some s') : ∃ n, historyLength s' = some (n + 1) := by
  -- `beta` is the third entry of `defaults`
  obtain ⟨v, hv, hvn⟩ := iteration_defaultsSet hi h ("beta", Val.real 0) (.tail _ (.tail _ (.head _)))
  obtain ⟨it, ca, hist, _, _, hc, rfl⟩ := iteration_some h
  have hin : "beta" ∈ commitKeys := mem_commitKeys.mpr ⟨fresh_keys_mem.2.2.1, by decide +kernel⟩
  obtain ⟨l, hl⟩ := Option.isSome_iff_exists.mp (lookup_isSome_of_mem (l := s.history) (k := "beta")
    (hw.2 ▸ (mem_commitKeys.mp hin).2))
  refine ⟨l.length, ?_⟩
  simp only [historyLength, commitLoop_lookup _ commitKeys commitKeys_nodup _ _ hc "beta", hl, Option.map_some, commitAdd,
    hin, if_true]
  simp only at hv
  rw [hv]
  simp [hvn]

def SameRun (a b : World G C) : Prop := a.core.sm = b.core.sm ∧ a.rng = b.rng

/-- H_comp: what an iteration writes and where it leaves the generator does not depend on the component state carried
    over from earlier iterations -/
def CompIrrelevant (F : State → G → C → StepIn × G × C) : Prop :=
  ∀ s g c c', (F s g c).1 = (F s g c').1 ∧ (F s g c).2.1 = (F s g c').2.1

theorem iterate_sameRun {F : State → G → C → StepIn × G × C} (hc : CompIrrelevant F) {a b a' : World G C}
    (h : SameRun a b) (ha : iterate F a = some a') :
    ∃ b', iterate F b = some b' ∧ SameRun a' b' ∧ b'.core.nTotal = b.core.nTotal ∧ a'.core.nTotal = a.core.nTotal := by
  obtain ⟨hs, hg⟩ := h
  simp only [iterate_eq_some] at ha ⊢
  obtain ⟨sm', hsm, rfl⟩ := ha
  obtain ⟨e1, e2⟩ := hc a.core.sm a.rng a.core.comp b.core.comp
  refine ⟨_, ⟨sm', ?_, rfl⟩, ⟨rfl, ?_⟩, rfl, rfl⟩
  · rw [← hs, ← hg, ← e1]; exact hsm
  · show (F a.core.sm a.rng a.core.comp).2.1 = (F b.core.sm b.rng b.core.comp).2.1
    rw [← hs, ← hg]; exact e2

theorem iterateN_sameRun {F : State → G → C → StepIn × G × C} (hc : CompIrrelevant F) (m : Nat) {a b a' : World G C}
    (h : SameRun a b) (ha : iterateN F m a = some a') : ∃ b', iterateN F m b = some b' ∧ SameRun a' b' := by
  induction m generalizing a b with
  | zero =>
    obtain rfl := Option.some.inj ha
    exact ⟨b, rfl, h⟩
  | succ m ih =>
    obtain ⟨a1, h1, h2⟩ := Option.bind_eq_some_iff.mp ha
    obtain ⟨b1, hb1, hs1, _, _⟩ := iterate_sameRun hc h h1
    obtain ⟨b', hb', hs'⟩ := ih hs1 h2
    exact ⟨b', by rw [iterateN, hb1]; exact hb', hs'⟩

/-- `w` the sampler when a checkpoint is written (after ≥ 1 iterations), `f` ANY freshly constructed sampler, whatever the
    position of the generator in the resuming process.  Under H_comp the resumed and the uninterrupted run coincide from that
    point on, for every number `m` of further iterations: the same StateManager (counters, temperatures, evidence, particles,
    history) and the same generator position.  The resumed sampler has `t0` = the restored iteration number, its own
    components, and the `n_total` of the resuming call. -/
theorem C08_resume_continues_run (F : State → G → C → StepIn × G × C) (hc : CompIrrelevant F) (pickle : Core C → B)
    (w : World G C) (hw : WorldOK w) (it : Int) (hit : getInt "iter" w.core.sm.current = some it)
    (f : World G C) (n : Nat) (hf : f.core.sm = init n) (nT : Int) :
    ∃ r, prologueResume f (saveDict pickle w) nT = some r ∧
      r.core.sm = w.core.sm ∧ r.rng = w.rng ∧ r.core.comp = f.core.comp ∧ r.core.t0 = it ∧ r.core.nTotal = some (Val.int nT) ∧
      ∀ m wU, iterateN F m w = some wU → ∃ wR, iterateN F m r = some wR ∧ wR.core.sm = wU.core.sm ∧ wR.rng = wU.rng := by
  refine ⟨_, C08_resume_prologue pickle w hw it hit f n hf nT, rfl, rfl, rfl, rfl, rfl, ?_⟩
  intro m wU hU
  obtain ⟨wR, hR, h1, h2⟩ := iterateN_sameRun hc m (a := w)
    (b := { core := { f.core with sm := w.core.sm, nTotal := some (Val.int nT),
                                  logzErr := some (attrOrNone w.core.logzErr), t0 := it }
            rng := w.rng }) ⟨rfl, rfl⟩ hU
  exact ⟨wR, hR, h1.symm, h2.symm⟩

theorem loopW_exit (F : State → G → C → StepIn × G × C)
    (cont : State → Option Val → Bool) (fuel : Nat) (r wE : World G C)
    (h : loopW F cont fuel r = some wE) : cont wE.core.sm wE.core.nTotal = false ∧ wE.core.nTotal = r.core.nTotal := by
  induction fuel generalizing r with
  | zero =>
    simp only [loopW] at h
    split at h
    · cases h
    · next hc =>
      obtain rfl := Option.some.inj h
      exact ⟨Bool.eq_false_iff.mpr hc, rfl⟩
  | succ fuel ih =>
    simp only [loopW] at h
    split at h
    · obtain ⟨r1, h1, h2⟩ := Option.bind_eq_some_iff.mp h
      obtain ⟨e1, e2⟩ := ih r1 h2
      obtain ⟨sm', _, rfl⟩ := iterate_eq_some.mp h1
      exact ⟨e1, e2⟩
    · next hc =>
      obtain rfl := Option.some.inj h
      exact ⟨Bool.eq_false_iff.mpr hc, rfl⟩

/-- because the loop guard reads only the StateManager and `n_total`, a resumed run
    called with the `n_total` of the uninterrupted run stops after exactly the same iteration, in the same final state: it
    "terminates with the same postconditions" in the strongest sense. -/
theorem C08_resume_same_termination (F : State → G → C → StepIn × G × C) (hc : CompIrrelevant F)
    (cont : State → Option Val → Bool) (fuel : Nat) {a b a' : World G C} (h : SameRun a b)
    (hn : a.core.nTotal = b.core.nTotal) (ha : loopW F cont fuel a = some a') :
    ∃ b', loopW F cont fuel b = some b' ∧ SameRun a' b' := by
  induction fuel generalizing a b with
  | zero =>
    simp only [loopW] at ha ⊢
    rw [← h.1, ← hn]
    split at ha
    · cases ha
    · next hc0 =>
      obtain rfl := Option.some.inj ha
      exact ⟨b, if_neg hc0, h⟩
  | succ fuel ih =>
    simp only [loopW] at ha ⊢
    rw [← h.1, ← hn]
    split at ha
    · next hc1 =>
      obtain ⟨a1, h1, h2⟩ := Option.bind_eq_some_iff.mp ha
      obtain ⟨b1, hb1, hs1, hnb, hna⟩ := iterate_sameRun hc h h1
      obtain ⟨b', hb', hs'⟩ := ih hs1 (by rw [hna, hnb, hn]) h2
      exact ⟨b', by rw [if_pos hc1, hb1]; exact hb', hs'⟩
    · next hc0 =>
      obtain rfl := Option.some.inj ha
      exact ⟨b, if_neg hc0, h⟩

/-- a toy iteration oracle: the "generator" is a counter, what is written does not depend on the component state -/
def exF : State → Nat → Bool → StepIn × Nat × Bool := fun _ g c =>
  (⟨32 + g, [("beta", .real (g + 1)), ("logz", .real 7), ("steps", .int 1), ("acceptance", .real 3), ("efficiency", .real 4),
             ("u", .arr (100 + g))]⟩, g + 5, !c)

def exW0 : World Nat Bool :=
  prologueFresh (fun r => r.toNat) ⟨⟨init 2, false, some 11, none, none, 0⟩, 0⟩ 64

example : CompIrrelevant exF := fun _ _ _ _ => ⟨rfl, rfl⟩

example : FOK exF := by
  intro s g c
  constructor
  · intro kv hkv
    have hk : kv.1 ∈ ["beta", "logz", "steps", "acceptance", "efficiency", "u"] := List.mem_map_of_mem (f := (·.1)) hkv
    exact (by decide +kernel : ∀ k ∈ ["beta", "logz", "steps", "acceptance", "efficiency", "u"], k ∈ currentKeys) _ hk
  · have hf : (exF s g c).1.vals.filter (fun kv => !counterKeys.contains kv.1) = (exF s g c).1.vals := by
      simp [exF, counterKeys]
    rw [hf]
    intro k hk
    simp only [List.mem_cons, List.not_mem_nil, or_false] at hk
    rcases hk with rfl | rfl | rfl | rfl | rfl <;> simp [exF, lookup]

-- one iteration, save, load into a fresh sampler whose generator sits elsewhere, two more iterations on both sides: identical
-- StateManagers and generators
example : ((iterateN exF 1 exW0).bind fun w =>
      (prologueResume (⟨⟨init 5, false, none, none, none, 0⟩, 999⟩ : World Nat Bool) (saveDict (fun _ => ()) w) 64).bind fun r =>
        (iterateN exF 2 r).bind fun wR => (iterateN exF 2 w).map fun wU =>
          (decide (wR.core.sm.current = wU.core.sm.current ∧ wR.core.sm.history = wU.core.sm.history) && wR.rng == wU.rng,
           r.core.t0, lookup "iter" wR.core.sm.current, lookup "calls" wR.core.sm.current, wR.core.comp, wU.core.comp))
    = some (true, 1, some (.int 3), some (.int 144), false, true) := by decide +kernel

def exFresh5 : World Nat Bool := ⟨⟨init 5, false, some 5, none, none, 0⟩, 999⟩

-- the toy checkpoint again: `load_state` + `run()` and `run(resume_state_path=…)` give the same world; the receiver's
-- `random_state = 5` is NOT used to reseed (generator 16 = the writer's position), counters are not reset

example : ((iterateN exF 1 exW0).bind fun w =>
      ((loadCore exFresh5 (saveDict (fun _ => ()) w)).bind fun w1 => prologueRun (fun r => r.toNat) w1 64).bind fun a =>
        (prologueResume exFresh5 (saveDict (fun _ => ()) w) 64).map fun b =>
          decide (a.core.sm.current = b.core.sm.current ∧ a.core.sm.history = b.core.sm.history ∧ a.core.nTotal = b.core.nTotal ∧
                  a.rng = 16 ∧ b.rng = 16 ∧ a.core.t0 = 1 ∧ b.core.t0 = 1 ∧ lookup "calls" a.core.sm.current = some (.int 43)))
    = some true := by decide +kernel

end Continue

end StateSide

/-! ### what H_comp means for the shared clusterer (`Model.Cadence`, C14's model of Trainer.run / Resampler.run) -/

section Cadence
open Model.Cadence

def noFresh (t : List Event) : List Event := t.filter (· != Event.fresh)

/-- simulation between a run and the same run with fresh components somewhere in its past -/
def CadSim (s s' : St) : Prop :=
  s.iter = s'.iter ∧ s.verdict = .ok ∧ s'.verdict = .ok ∧ noFresh s.trace = noFresh s'.trace

theorem noFresh_append (a b : List Event) : noFresh (a ++ b) = noFresh a ++ noFresh b := by simp [noFresh]

theorem cadStep_sim (c : Cfg) (hc : c.clusterEvery = 1 ∨ c.clustering = false) (warm : Bool) {s s' : St}
    (h : CadSim s s') : CadSim (step c s (.iter warm)) (step c s' (.iter warm)) := by
  obtain ⟨hi, hv, hv', ht⟩ := h
  rcases hc with hc | hc
  · -- every annealing iteration fits: the flag and the state of the object do not matter
    cases warm with
    | true => simp [CadSim, step, hv, hv', trainer, resampler, hi, ht]
    | false =>
      by_cases hcl : c.clustering
      · simp [CadSim, step, hv, hv', trainer, resampler, fitCond, onCadence, hc, Nat.mod_one, hcl, emitFit, emitPredict, hi,
          noFresh_append, ht]
      · simp [CadSim, step, hv, hv', trainer, resampler, hcl, hi, ht]
  · cases warm <;> simp [CadSim, step, hv, hv', trainer, resampler, hc, hi, ht]

theorem cadRun_sim (c : Cfg) (hc : c.clusterEvery = 1 ∨ c.clustering = false) (sched : List Bool) {s s' : St}
    (h : CadSim s s') : CadSim ((sched.map Step.iter).foldl (step c) s) ((sched.map Step.iter).foldl (step c) s') := by
  induction sched generalizing s s' with
  | nil => exact h
  | cons w r ih => exact ih (cadStep_sim c hc w h)

/-- with `cluster_every = 1` (the default) or clustering off, constructing fresh components at
    ANY point `r` of ANY temperature schedule changes nothing about which clusterer fit serves which iteration: the
    fit/predict events of the resumed run are those of the uninterrupted run, and `predict` never meets an unfitted object.
    This is H_comp of `C08_resume_continues_run` read on the cadence model. -/
theorem C08_components_irrelevant (c : Cfg) (hc : c.clusterEvery = 1 ∨ c.clustering = false) (iter0 : Nat)
    (sched : List Bool) (r : Nat) :
    noFresh (run c iter0 (withResume sched (some r))).trace = noFresh (run c iter0 (withResume sched none)).trace ∧
    (run c iter0 (withResume sched (some r))).verdict = .ok ∧ (run c iter0 (withResume sched none)).verdict = .ok ∧
    (run c iter0 (withResume sched (some r))).iter = (run c iter0 (withResume sched none)).iter := by
  have hsplit : sched.map Step.iter = (sched.take r).map Step.iter ++ (sched.drop r).map Step.iter := by
    rw [← List.map_append, List.take_append_drop]
  have h0 : CadSim (init iter0) (init iter0) := ⟨rfl, rfl, rfl, rfl⟩
  have h1 := cadRun_sim c hc (sched.take r) h0
  set s1 := ((sched.take r).map Step.iter).foldl (step c) (init iter0) with hs1
  have h2 : CadSim (step c s1 .resume) s1 := by
    obtain ⟨_, hv, _, _⟩ := h1
    simp [CadSim, step, hv, noFresh]
  have h3 := cadRun_sim c hc (sched.drop r) h2
  simp only [run, withResume, hsplit, List.foldl_append, List.foldl_cons, ← hs1]
  exact ⟨h3.2.2.2, h3.2.1, h3.2.2.1, h3.1⟩

/-- the hypothesis of `C08_components_irrelevant` is NECESSARY: with `cluster_every = 3`, resuming before the 4th annealing iteration makes the fresh Trainer fit
    at an iteration where the uninterrupted run reuses the fit of iteration 3 — the runs may differ from there on
    (both are valid runs; the statement asks for the same postconditions, not the same trajectory). -/
theorem C08_components_matter_cluster_every_3 :
    noFresh (run ⟨3, true, true⟩ 0 (withResume [false, false, false, false] (some 3))).trace ≠
    noFresh (run ⟨3, true, true⟩ 0 (withResume [false, false, false, false] none)).trace := by decide +kernel

example : noFresh (run ⟨1, true, true⟩ 0 (withResume [true, false, false, false] (some 2))).trace
    = [.fit, .predict, .predict, .fit, .predict, .predict, .fit, .predict, .predict] := by decide +kernel

end Cadence

/-! ### every kind of worker pool -/

section PoolKinds
open Model.Checkpoint

/-- the `pool` slot of the frozen config as `save_sampler_state` tests it (`self.config.pool is not None`): an integer
    (any the model has — `PoolCfg.int` carries a `Nat` —, also 0 and 1), a `multiprocess` pool object and a pool-like object with `.map` are all "not None" -/
def poolSlot : Model.Dispatch.PoolCfg → Option Model.Dispatch.PoolCfg
  | .none => none
  | p => some p

/-- if dill can pickle a core whose config carries no pool (H_dill; that no OTHER attribute of the core
    holds a pool is the obligation `C08_gen_core_attrs`), then `save_state` succeeds for EVERY kind of pool — none, integer,
    pool object, pool-like — and leaves the core exactly as it was (pool re-attached). -/
theorem C08_pool_kinds_save {R E B : Type} (pickle : Core Model.Dispatch.PoolCfg R → Except E B)
    (hp : ∀ r, ∃ b, pickle ⟨none, r⟩ = .ok b) (kind : Model.Dispatch.PoolCfg) (r : R) :
    (∃ b, (pickleDetached pickle ⟨poolSlot kind, r⟩).2 = .ok b) ∧
    (pickleDetached pickle ⟨poolSlot kind, r⟩).1 = ⟨poolSlot kind, r⟩ := by
  obtain ⟨b, hb⟩ := hp r
  obtain ⟨h1, h2, _⟩ := C08_pool_detach pickle ⟨poolSlot kind, r⟩
  exact ⟨⟨b, by rw [h2]; exact hb⟩, h1⟩

example : (pickleDetached (fun (c : Core Model.Dispatch.PoolCfg String) =>
      if c.pool.isSome then (Except.error "cannot pickle a pool" : Except String Nat) else .ok c.rest.length)
    ⟨poolSlot (.int 2), "core"⟩) = (⟨some (.int 2), "core"⟩, .ok 4) := by rfl

end PoolKinds

/-! ## The files of a whole run -/

section Files
open Model.FS

theorem samplerSave_eq_smSave (dir final : Path) (payload : Bytes) : samplerSave dir final payload = smSave dir final payload := rfl

/-- a save of `final` — complete or interrupted anywhere — changes no other file than `final` and `final + ".temp"` (so a later
    checkpoint of a run can never damage an earlier one) -/
theorem C08_save_frame (dir final q : Path) (payload : Bytes) (h1 : q ≠ final) (h2 : q ≠ tmpOf final) (fs fs' : FS)
    (hm : fs' ∈ crashStates (samplerSave dir final payload) fs) : lookup q fs' = lookup q fs := by
  rw [samplerSave_eq] at hm
  exact crash_frame (tempShape_frame [dir] h2 h1 [payload]) hm

/-- from ANY file system — in particular one holding a stale `final + ".temp"` left by an
    earlier crash, with any content — a complete `save_state` ends with the payload under the final name and NO temporary file -/
theorem C08_sampler_save_completes (dir final : Path) (payload : Bytes) (fs : FS) :
    lookup final (run fs (samplerSave dir final payload)) = some payload ∧
    lookup (tmpOf final) (run fs (samplerSave dir final payload)) = none := by
  rw [samplerSave_eq_smSave]
  exact C08_state_manager_save_completes dir final payload fs

/-- a save interrupted ANYWHERE (it may leave a partial `.temp` behind) followed by a later save of
    the same name: the later save is again atomic over whatever the crash left, and when it completes the final name holds
    its payload and the leftover temporary file is gone -/
theorem C08_crash_then_resave (dir final : Path) (p1 p2 : Bytes) (fs fs1 : FS)
    (h1 : fs1 ∈ crashStates (samplerSave dir final p1) fs) :
    (∀ fs2 ∈ crashStates (samplerSave dir final p2) fs1,
        lookup final fs2 = lookup final fs ∨ lookup final fs2 = some p1 ∨ lookup final fs2 = some p2) ∧
    lookup final (run fs1 (samplerSave dir final p2)) = some p2 ∧
    lookup (tmpOf final) (run fs1 (samplerSave dir final p2)) = none := by
  refine ⟨?_, (C08_sampler_save_completes dir final p2 fs1).1, (C08_sampler_save_completes dir final p2 fs1).2⟩
  intro fs2 h2
  rcases samplerSave_atomic dir final p2 fs1 fs2 h2 with h | h
  · rcases samplerSave_atomic dir final p1 fs fs1 h1 with h' | h'
    · left; rw [h, h']
    · right; left; rw [h, h']
  · right; right; exact h

/-- stale temporary with arbitrary bytes, old checkpoint [1,1,1]: contents under the final name over all crash states -/
example : ((crashStates (samplerSave "ck/" "ck/ps_3.state" [2, 2, 2, 2]) [("ck/ps_3.state", [1, 1, 1]), ("ck/ps_3.state.temp", [9, 9])]).map
    (lookup "ck/ps_3.state")).eraseDups = [some [1, 1, 1], some [2, 2, 2, 2]] := by decide +kernel

-- `Bool`s, this and `inside`: traces are filtered by them
def foreign (final : Path) (o : FsOp) : Bool := final ∉ opPaths o ∧ tmpOf final ∉ opPaths o

def inside (final : Path) (o : FsOp) : Bool := (opPaths o).all fun p => p == final || p == tmpOf final

def Agree (final : Path) (a b : FS) : Prop :=
  ∀ q, q = final ∨ q = tmpOf final → lookup q a = lookup q b

theorem Agree.trans {final : Path} {a b c : FS} (h1 : Agree final a b) (h2 : Agree final b c) : Agree final a c :=
  fun q hq => (h1 q hq).trans (h2 q hq)

theorem exec_foreign {final : Path} {o : FsOp} (h : foreign final o = true) (fs : FS) : Agree final (exec fs o) fs := by
  obtain ⟨h1, h2⟩ := of_decide_eq_true h
  rintro q (rfl | rfl)
  exacts [exec_frame h1 fs, exec_frame h2 fs]

theorem exec_inside {final : Path} {o : FsOp} (h : inside final o = true) {a b : FS} (hab : Agree final a b) :
    Agree final (exec a o) (exec b o) := by
  have ho : ∀ p ∈ opPaths o, p = final ∨ p = tmpOf final := by simpa [inside] using h
  intro q hq
  cases o with
  | write p c => simp only [lookup_exec, hab q hq, hab p (ho p (.head _))]
  | rename p r => simp only [lookup_exec, hab q hq, hab p (ho p (.head _))]
  | _ => simp only [lookup_exec, hab q hq]

theorem run_foreign (final : Path) (tr : List FsOp) (h : ∀ o ∈ tr, foreign final o = true ∨ inside final o = true) {a b : FS}
    (hab : Agree final a b) : Agree final (run a tr) (run b (tr.filter fun o => !foreign final o)) := by
  induction tr generalizing a b with
  | nil => exact hab
  | cons o os ih =>
    have ih := @ih fun o' ho' => h o' (.tail _ ho')
    rw [List.filter_cons]
    by_cases hf : foreign final o = true
    · rw [hf]
      exact ih ((exec_foreign hf a).trans hab)
    · rw [Bool.not_eq_true] at hf
      rw [hf]
      exact ih (exec_inside ((h o (.head _)).resolve_left (by simp [hf])) hab)

/-- in a trace whose operations each concern only `final` and its temporary file, or neither of them (any interleaving of a save
    of `final` with saves of other checkpoints), every crash state agrees on the two names with what a cut of the trace without
    the foreign operations leaves -/
theorem C08_foreign_ops_irrelevant (final : Path) (tr : List FsOp) (a b : FS)
    (h : ∀ o ∈ tr, foreign final o = true ∨ inside final o = true) (hab : Agree final a b) :
    ∀ fs' ∈ crashStates tr a, ∃ c, Cut c (tr.filter fun o => !foreign final o) ∧ Agree final fs' (run b c) := by
  intro fs' hm
  obtain ⟨c, hc, rfl⟩ := crashStates_cut hm
  exact ⟨_, hc.filter _ (fun _ _ _ => rfl), run_foreign final c (hc.forall (fun _ _ _ h => h) h) hab⟩

theorem interleave_mem {a b t : List FsOp} (h : Interleave a b t) : ∀ o ∈ t, o ∈ a ∨ o ∈ b := by
  induction h with
  | nil => exact fun _ ho => nomatch ho
  | left x _ ih =>
    intro o ho
    rcases List.mem_cons.mp ho with rfl | ho
    · exact .inl (List.mem_cons_self ..)
    · exact (ih o ho).imp_left (List.mem_cons_of_mem _)
  | right y _ ih =>
    intro o ho
    rcases List.mem_cons.mp ho with rfl | ho
    · exact .inr (List.mem_cons_self ..)
    · exact (ih o ho).imp_right (List.mem_cons_of_mem _)

theorem interleave_filter {a b t : List FsOp} (p : FsOp → Bool) (h : Interleave a b t) (hb : ∀ o ∈ b, p o = false) :
    t.filter p = a.filter p := by
  induction h with
  | nil => rfl
  | left x _ ih => simp only [List.filter_cons]; rw [ih hb]
  | right y _ ih =>
    have hy : p y = false := hb y (by simp)
    simp only [List.filter_cons, hy, Bool.false_eq_true, if_false]
    exact ih (fun o ho => hb o (by simp [ho]))

/-- a save of `f1` interleaved IN ANY WAY with a save of another name `f2` (another
    process writing another checkpoint into the same directory), where neither name is the other's temporary name: in every
    crash state of the interleaving — either process may die anywhere — `f1` holds its old content or its complete payload. -/
theorem C08_concurrent_distinct_names_safe (d1 d2 f1 f2 : Path) (p1 p2 : Bytes)
    (h12 : f2 ≠ f1) (h1 : f2 ≠ tmpOf f1) (h2 : tmpOf f2 ≠ f1) (tr : List FsOp)
    (hi : Interleave (samplerSave d1 f1 p1) (samplerSave d2 f2 p2) tr) (fs fs' : FS) (hm : fs' ∈ crashStates tr fs) :
    lookup f1 fs' = lookup f1 fs ∨ lookup f1 fs' = some p1 := by
  have h3 : tmpOf f2 ≠ tmpOf f1 := fun e => h12 (C08_sm_temp_name_injective _ _ e)
  rw [samplerSave_eq, samplerSave_eq] at hi
  have hA : ∀ o ∈ tempShape [d1] (tmpOf f1) f1 [p1], inside f1 o = true := fun o ho =>
    List.all_eq_true.mpr fun q hq => by simpa [or_comm] using tempShape_paths [d1] (tmpOf f1) f1 [p1] o ho q hq
  have hB : ∀ o ∈ tempShape [d2] (tmpOf f2) f2 [p2], foreign f1 o = true := fun o ho =>
    decide_eq_true ⟨tempShape_frame [d2] h2.symm h12.symm [p2] o ho, tempShape_frame [d2] h3.symm h1.symm [p2] o ho⟩
  have hall : ∀ o ∈ tr, foreign f1 o = true ∨ inside f1 o = true := fun o ho =>
    (interleave_mem hi o ho).elim (fun h => .inr (hA o h)) fun h => .inl (hB o h)
  obtain ⟨c, hc, hag⟩ := C08_foreign_ops_irrelevant f1 tr fs fs hall (fun _ _ => rfl) fs' hm
  rw [interleave_filter _ hi (by intro o ho; simp [hB o ho])] at hc
  -- without its `mkdir` the save is the bare temp-file protocol
  have hfil : (tempShape [d1] (tmpOf f1) f1 [p1]).filter (fun o => !foreign f1 o) = tempShape [] (tmpOf f1) f1 [p1] := by
    simp [foreign, opPaths, tempShape, tempPre]
  rw [hfil] at hc
  rw [hag f1 (.inl rfl)]
  simpa using tempShape_atomic [] (tmpOf_ne f1) [p1] fs hc

/-- two writers saving the SAME final name at the same time share one temporary file.
    In this interleaving (both open, both write, the first renames) the final name holds the concatenation of the two
    payloads — neither the old content nor either complete payload.  The ASSUMPTION "no second process writes the same
    checkpoint name concurrently" is therefore needed; within one sampler saves are sequential (`Model.Resume.loop`). -/
theorem C08_concurrent_same_name_mixes :
    ∃ tr, Interleave (tempRename "ck" [1, 1]) (tempRename "ck" [2, 2]) tr ∧
      lookup "ck" (run [("ck", [7])] tr) = some [1, 1, 2, 2] := by
  refine ⟨[.openTrunc "ck.temp", .openTrunc "ck.temp", .write "ck.temp" [1, 1], .write "ck.temp" [2, 2], .flush "ck.temp",
           .fsync "ck.temp", .close "ck.temp", .rename "ck.temp" "ck", .flush "ck.temp", .fsync "ck.temp", .close "ck.temp",
           .rename "ck.temp" "ck"], ?_, by decide +kernel⟩
  -- `.left` = an operation of the first writer, `.right` = of the second
  exact .left _ (.right _ (.left _ (.right _ (.left _ (.left _ (.left _ (.left _ (.right _ (.right _ (.right _ (.right _ .nil)))))))))))

end Files

section RunFiles
open Model.Resume
variable {G C B : Type}

/-- what the run-level theorem needs of the checkpoint file names (`C08_state_names_ok` proves it of the names `… .state`) -/
structure NamesOK (env : Env G C B) : Prop where
  inj : ∀ i j, env.periodic i = env.periodic j → i = j
  fin : ∀ i, env.periodic i ≠ env.final
  tmpP : ∀ i j, Model.FS.tmpOf (env.periodic i) ≠ env.periodic j
  tmpPF : ∀ i, Model.FS.tmpOf (env.periodic i) ≠ env.final
  tmpFP : ∀ i, Model.FS.tmpOf env.final ≠ env.periodic i

theorem saveTo_spec (env : Env G C B) (p : Model.FS.Path) (w : World G C) (fs : Model.FS.FS) :
    Model.FS.lookup p (saveTo env p w fs) = some (env.enc (saveDict env.pickle w)) ∧
    Model.FS.lookup (Model.FS.tmpOf p) (saveTo env p w fs) = none ∧
    ∀ q, q ≠ p → q ≠ Model.FS.tmpOf p → Model.FS.lookup q (saveTo env p w fs) = Model.FS.lookup q fs :=
  ⟨(C08_sampler_save_completes _ _ _ _).1, (C08_sampler_save_completes _ _ _ _).2,
   fun _ h1 h2 => by rw [saveTo, samplerSave_eq]; exact run_frame _ (tempShape_frame [env.dir] h2 h1 [_]) _⟩

theorem iterate_iter {F : Model.Checkpoint.State → G → C → Model.Checkpoint.StepIn × G × C} {w w' : World G C} {it : Int}
    (hit : Model.Checkpoint.getInt "iter" w.core.sm.current = some it) (h : iterate F w = some w') :
    Model.Checkpoint.getInt "iter" w'.core.sm.current = some (it + 1) ∧ w'.core.t0 = w.core.t0 := by
  obtain ⟨sm', hs, rfl⟩ := iterate_eq_some.mp h
  obtain ⟨_, it', _, hit', _, hit'', _⟩ := iteration_spec hs
  rw [hit] at hit'
  obtain rfl := Option.some.inj hit'
  exact ⟨hit'', rfl⟩

theorem iterateN_iter {F : Model.Checkpoint.State → G → C → Model.Checkpoint.StepIn × G × C} (k : Nat) {a b : World G C}
    {i0 : Int} (ha : Model.Checkpoint.getInt "iter" a.core.sm.current = some i0) (hb : iterateN F k a = some b) :
    Model.Checkpoint.getInt "iter" b.core.sm.current = some (i0 + (k : Int)) := by
  induction k generalizing a i0 with
  | zero =>
    obtain rfl := Option.some.inj hb
    rwa [Nat.cast_zero, add_zero]
  | succ k ih =>
    obtain ⟨a1, h1, h2⟩ := Option.bind_eq_some_iff.mp hb
    rw [ih (iterate_iter ha h1).1 h2]
    congr 1
    omega

def saveAll (env : Env G C B) (log : List (Model.FS.Path × World G C)) (fs : Model.FS.FS) : Model.FS.FS :=
  log.foldl (fun fs e => saveTo env e.1 e.2 fs) fs

theorem saveAll_nil (env : Env G C B) (fs : Model.FS.FS) : saveAll env [] fs = fs :=
  rfl

theorem saveAll_cons (env : Env G C B) (e : Model.FS.Path × World G C) (r : List (Model.FS.Path × World G C))
    (fs : Model.FS.FS) : saveAll env (e :: r) fs = saveAll env r (saveTo env e.1 e.2 fs) :=
  List.foldl_cons ..

theorem saveAll_append (env : Env G C B) (a b : List (Model.FS.Path × World G C)) (fs : Model.FS.FS) :
    saveAll env (a ++ b) fs = saveAll env b (saveAll env a fs) :=
  List.foldl_append ..

def Apart (p q : Model.FS.Path) : Prop := p ≠ q ∧ p ≠ Model.FS.tmpOf q ∧ Model.FS.tmpOf p ≠ q

theorem saveAll_frame (env : Env G C B) (q : Model.FS.Path) (log : List (Model.FS.Path × World G C)) (fs : Model.FS.FS)
    (hq : ∀ e ∈ log, q ≠ e.1 ∧ q ≠ Model.FS.tmpOf e.1) :
    Model.FS.lookup q (saveAll env log fs) = Model.FS.lookup q fs := by
  induction log generalizing fs with
  | nil => rfl
  | cons e r ih =>
    have h0 := hq e (List.mem_cons_self ..)
    rw [saveAll_cons, ih _ fun e' h => hq e' (List.mem_cons_of_mem _ h)]
    exact (saveTo_spec env e.1 e.2 fs).2.2 q h0.1 h0.2

theorem saveAll_holds (env : Env G C B) (log : List (Model.FS.Path × World G C)) (fs : Model.FS.FS)
    (hsep : (log.map (·.1)).Pairwise Apart) (e : Model.FS.Path × World G C) (he : e ∈ log) :
    Model.FS.lookup e.1 (saveAll env log fs) = some (env.enc (saveDict env.pickle e.2)) ∧
    Model.FS.lookup (Model.FS.tmpOf e.1) (saveAll env log fs) = none := by
  induction log generalizing fs with
  | nil => cases he
  | cons e0 r ih =>
    rw [List.map_cons, List.pairwise_cons] at hsep
    rw [saveAll_cons]
    rcases List.mem_cons.mp he with rfl | he
    · -- the later saves touch neither `e.1` nor its temporary name
      have hfr : ∀ e' ∈ r, (e.1 ≠ e'.1 ∧ e.1 ≠ Model.FS.tmpOf e'.1) ∧
          (Model.FS.tmpOf e.1 ≠ e'.1 ∧ Model.FS.tmpOf e.1 ≠ Model.FS.tmpOf e'.1) := by
        intro e' he'
        obtain ⟨h1, h2, h3⟩ := hsep.1 e'.1 (List.mem_map_of_mem he')
        exact ⟨⟨h1, h2⟩, h3, fun h => h1 (C08_sm_temp_name_injective _ _ h)⟩
      rw [saveAll_frame env _ r _ fun e' he' => (hfr e' he').1, saveAll_frame env _ r _ fun e' he' => (hfr e' he').2]
      exact ⟨(saveTo_spec env e.1 e.2 fs).1, (saveTo_spec env e.1 e.2 fs).2.1⟩
    · exact ih _ hsep.2 he

theorem NamesOK.apart {env : Env G C B} (hN : NamesOK env) {is : List Int} (hnd : is.Nodup) :
    (is.map env.periodic ++ [env.final]).Pairwise Apart := by
  refine List.pairwise_append.mpr ⟨List.pairwise_map.mpr ?_, List.pairwise_singleton _ _, ?_⟩
  · exact hnd.imp fun {i j} hij => ⟨fun h => hij (hN.inj i j h), fun h => hN.tmpP j i h.symm, hN.tmpP i j⟩
  · intro p hp q hq
    obtain ⟨i, _, rfl⟩ := List.mem_map.mp hp
    obtain rfl := List.mem_singleton.mp hq
    exact ⟨hN.fin i, fun h => hN.tmpFP i h.symm, hN.tmpPF i⟩

theorem iterStarts_nodup (t0 : Int) (n : Nat) : (Model.Checkpoint.iterStarts t0 n).Nodup :=
  List.nodup_range.map fun _ _ h => Int.ofNat_inj.mp (add_left_cancel h)

theorem periodicSave_eq (env : Env G C B) (kk : Int) (w : World G C) (fs : Model.FS.FS) (it : Int)
    (hit : Model.Checkpoint.getInt "iter" w.core.sm.current = some it) :
    periodicSave env (some kk) w fs =
      some (saveAll env (if Model.Checkpoint.savesAt w.core.t0 kk it then [(env.periodic it, w)] else []) fs,
            if Model.Checkpoint.savesAt w.core.t0 kk it then [(env.periodic it, w)] else []) := by
  simp only [periodicSave, hit]
  split
  · rw [saveAll_cons, saveAll_nil]
  · rw [saveAll_nil]

/-- the loop of `run_sampling` with `save_every = kk`: the worlds are those of `iterateN`, the log holds the world at the start of
    every iteration whose number passes the save test, and the files are the saves of the log -/
theorem loop_files (env : Env G C B) (kk : Int) :
    ∀ (fuel : Nat) (w : World G C) (fs : Model.FS.FS) (it : Int) (wE : World G C) (fsE : Model.FS.FS)
      (log : List (Model.FS.Path × World G C)),
      Model.Checkpoint.getInt "iter" w.core.sm.current = some it →
      loop env (some kk) fuel w fs = some (wE, fsE, log) →
      ∃ n : Nat, iterateN env.F n w = some wE ∧ fsE = saveAll env log fs ∧
        log.map (·.1) = ((Model.Checkpoint.iterStarts it n).filter (Model.Checkpoint.savesAt w.core.t0 kk)).map env.periodic ∧
        (∀ e ∈ log, ∃ j : Nat, j < n ∧ e.1 = env.periodic (it + (j : Int)) ∧ iterateN env.F j w = some e.2 ∧
                    Model.Checkpoint.savesAt w.core.t0 kk (it + (j : Int)) = true) := by
  intro fuel
  induction fuel with
  | zero =>
    intro w fs it wE fsE log hit h
    simp only [loop] at h
    split at h
    · cases h
    · cases h
      exact ⟨0, rfl, rfl, rfl, fun _ he => nomatch he⟩
  | succ fuel ih =>
    intro w fs it wE fsE log hit h
    simp only [loop] at h
    split at h
    · rw [periodicSave_eq env kk w fs it hit, Option.bind_some] at h
      generalize hl1 : (if Model.Checkpoint.savesAt w.core.t0 kk it then [(env.periodic it, w)] else []) = l1 at h
      simp only [Option.bind_eq_some_iff, Option.map_eq_some_iff] at h
      obtain ⟨w', hw', ⟨wE', fsE', log'⟩, hl, heq⟩ := h
      simp only [Prod.mk.injEq] at heq
      obtain ⟨rfl, rfl, rfl⟩ := heq
      obtain ⟨hit', ht0'⟩ := iterate_iter hit hw'
      obtain ⟨n', hN', hfs, hnames, hlog⟩ := ih w' _ (it + 1) wE' fsE' log' hit' hl
      have hshift : ∀ j : Nat, it + 1 + (j : Int) = it + ((j + 1 : Nat) : Int) := fun j => by omega
      refine ⟨n' + 1, by rw [iterateN, hw']; exact hN', ?_, ?_, ?_⟩
      · rw [hfs, saveAll_append]
      · rw [iterStarts_succ, List.map_append, hnames, ht0', ← hl1, List.filter_cons]
        split <;> rfl
      · intro e he
        rcases List.mem_append.mp he with he | he
        · rw [← hl1] at he
          split at he
          · next hs =>
            obtain rfl := List.mem_singleton.mp he
            exact ⟨0, Nat.succ_pos _, by rw [Nat.cast_zero, add_zero], rfl, by rwa [Nat.cast_zero, add_zero]⟩
          · cases he
        · obtain ⟨j, hj, hp, hw, hsv⟩ := hlog e he
          exact ⟨j + 1, Nat.succ_lt_succ hj, by rw [hp, hshift], by rw [iterateN, hw']; exact hw, by rw [← hshift, ← ht0']; exact hsv⟩
    · cases h
      exact ⟨0, rfl, rfl, rfl, fun _ he => nomatch he⟩

/-- the whole `run(save_every = kk)` from a sampler whose prologue has run (`t0 = iter = it`: fresh with `it = 0`, or resumed),
    for EVERY iteration oracle, guard, encoding and initial file system.  When the run returns after `n` iterations: the files
    written are, in order, `<label>_<i>.state` for exactly the `i` of the cadence (`C08_save_cadence`) and `<label>_final.state`;
    each holds — at the END of the run, after all later saves — the complete pickle of the sampler as it was when written
    (after exactly `j ≥ 1` iterations; the final one: the sampler the run returns, epilogue included), no temporary file is
    left; every other path is untouched. -/
theorem C08_run_checkpoints (env : Env G C B) (hN : NamesOK env) (kk : Int) (fuel : Nat) (w : World G C)
    (fs : Model.FS.FS) (it : Int) (hit : Model.Checkpoint.getInt "iter" w.core.sm.current = some it) (ht0 : w.core.t0 = it)
    (wE : World G C) (fsE : Model.FS.FS) (log : List (Model.FS.Path × World G C))
    (h : runFrom env (some kk) fuel w fs = some (wE, fsE, log)) :
    ∃ (n : Nat) (wL : World G C), iterateN env.F n w = some wL ∧ wE = (epilogue env (some kk) wL fs).1 ∧
      log.map (·.1) = (Model.Checkpoint.periodicSaves it kk n).map env.periodic ++ [env.final] ∧
      (∀ e ∈ log, Model.FS.lookup e.1 fsE = some (env.enc (saveDict env.pickle e.2)) ∧
                  Model.FS.lookup (Model.FS.tmpOf e.1) fsE = none) ∧
      (∀ e ∈ log, (e.1 = env.final ∧ e.2 = wE) ∨
                  ∃ j : Nat, 1 ≤ j ∧ j < n ∧ e.1 = env.periodic (it + (j : Int)) ∧ iterateN env.F j w = some e.2) ∧
      (∀ q, q ≠ env.final → q ≠ Model.FS.tmpOf env.final →
            (∀ j : Nat, j < n → q ≠ env.periodic (it + (j : Int)) ∧ q ≠ Model.FS.tmpOf (env.periodic (it + (j : Int)))) →
            Model.FS.lookup q fsE = Model.FS.lookup q fs) := by
  simp only [runFrom, Option.map_eq_some_iff] at h
  obtain ⟨⟨wL, fsL, logL⟩, hl, heq⟩ := h
  obtain ⟨n, hN', rfl, hnames, hlog⟩ := loop_files env kk fuel w fs it wL _ logL hit hl
  simp only [epilogue, Prod.mk.injEq] at heq
  obtain ⟨rfl, rfl, rfl⟩ := heq
  -- the final save is one more save of the log
  have hfs : ∀ w1, saveTo env env.final w1 (saveAll env logL fs) = saveAll env (logL ++ [(env.final, w1)]) fs := by
    intro w1
    rw [saveAll_append, saveAll_cons, saveAll_nil]
  have hnm : ∀ w1 : World G C, (logL ++ [(env.final, w1)]).map (·.1) =
      (Model.Checkpoint.periodicSaves it kk n).map env.periodic ++ [env.final] := by
    intro w1
    rw [List.map_append, hnames, ht0]
    rfl
  refine ⟨n, wL, hN', by simp [epilogue], hnm _, ?_, ?_, ?_⟩
  · intro e he
    rw [hfs]
    exact saveAll_holds env _ fs (by rw [hnm]; exact hN.apart ((iterStarts_nodup it n).filter _)) e he
  · intro e he
    rcases List.mem_append.mp he with he | he
    · obtain ⟨j, hj, hp, hw, hsv⟩ := hlog e he
      refine .inr ⟨j, Nat.pos_of_ne_zero ?_, hj, hp, hw⟩
      -- the save test is false at `t0` itself
      rintro rfl
      simp [Model.Checkpoint.savesAt, ht0] at hsv
    · obtain rfl := List.mem_singleton.mp he
      exact .inl ⟨rfl, rfl⟩
  · intro q h1 h2 hq
    rw [hfs]
    refine saveAll_frame env q _ fs fun e he => ?_
    rcases List.mem_append.mp he with he | he
    · obtain ⟨j, hj, hp, _⟩ := hlog e he
      rw [hp]
      exact hq j hj
    · obtain rfl := List.mem_singleton.mp he
      exact ⟨h1, h2⟩

/-- "every checkpoint written during a run, loaded into a freshly constructed sampler, restores exactly the particle state and the
    full history that existed when it was written": for every periodic checkpoint file of the run of `C08_run_checkpoints`,
    decoding what it holds at the end of the run and loading it into ANY fresh sampler yields — literally — the StateManager
    and the generator position the writer had after exactly `j` iterations; the components stay the receiver's.  (`n_total` /
    `logz_err`: `C08_core_restore`; not repeated here.  dill trusted: `dec ∘ enc = some`.) -/
theorem C08_every_checkpoint_restores (env : Env G C B) (hN : NamesOK env) (hF : FOK env.F)
    (dec : Model.FS.Bytes → Option (CkDict G B)) (hdec : ∀ d, dec (env.enc d) = some d)
    (kk : Int) (fuel : Nat) (w : World G C) (hw : Model.Resume.WellKeyed w.core.sm)
    (fs : Model.FS.FS) (it : Int) (hit : Model.Checkpoint.getInt "iter" w.core.sm.current = some it) (ht0 : w.core.t0 = it)
    (wE : World G C) (fsE : Model.FS.FS) (log : List (Model.FS.Path × World G C))
    (h : runFrom env (some kk) fuel w fs = some (wE, fsE, log))
    (e : Model.FS.Path × World G C) (he : e ∈ log) (hper : e.1 ≠ env.final)
    (f : World G C) (m : Nat) (hf : f.core.sm = Model.Checkpoint.init m) :
    ∃ c r, Model.FS.lookup e.1 fsE = some c ∧ (dec c).bind (loadCore f) = some r ∧
      r.core.sm = e.2.core.sm ∧ r.rng = e.2.rng ∧ r.core.comp = f.core.comp ∧
      ∃ j : Nat, 1 ≤ j ∧ iterateN env.F j w = some e.2 ∧
        Model.Checkpoint.getInt "iter" e.2.core.sm.current = some (it + (j : Int)) := by
  obtain ⟨n, wL, _, _, _, hcont, hwho, _⟩ := C08_run_checkpoints env hN kk fuel w fs it hit ht0 wE fsE log h
  rcases hwho e he with ⟨hfin, _⟩ | ⟨j, hj1, _, _, hjw⟩
  · exact absurd hfin hper
  · obtain ⟨j', rfl⟩ : ∃ j', j = j' + 1 := ⟨j - 1, by omega⟩
    have hok : WorldOK e.2 := C08_run_invariants env.F hF j' w e.2 hw hjw
    refine ⟨_, { core := { f.core with sm := e.2.core.sm, nTotal := some (attrOrNone e.2.core.nTotal),
                                       logzErr := some (attrOrNone e.2.core.logzErr) }
                 rng := e.2.rng }, (hcont e he).1, ?_, rfl, rfl, rfl, j' + 1, hj1, hjw, ?_⟩
    · rw [hdec]
      exact C08_core_restore env.pickle e.2 hok f m hf
    · exact iterateN_iter _ hit hjw

/-! ### the names `output_dir / f"{label}_{iter}.state"` meet `NamesOK` -/

theorem repr_ne_final (i : Int) : Int.repr i ≠ "final" := by
  intro h
  have h1 : ("final" : String).isInt = true := by rw [← h]; exact Int.isInt_repr i
  rw [String.isInt_iff] at h1
  rcases h1 with h1 | ⟨t, ht, _⟩
  · rw [String.isNat_iff] at h1
    have := h1.2.1 'f' (by decide)
    revert this; decide
  · have := congrArg String.toList ht
    simp [String.toList_append] at this

theorem tmpOf_ne_state (a b : String) : Model.FS.tmpOf a ≠ b ++ ".state" := by
  intro h
  have h2 := congrArg String.toList h
  simp only [Model.FS.tmpOf, String.toList_append] at h2
  have h3 := congrArg List.getLast? h2
  simp at h3

/-- with `pre = output_dir/label_`, the names the sampler really uses — `pre ++ str(iter) ++ ".state"`
    (Python's `f"{iter_val}"` of an int is its decimal representation, `Int.repr`) and `pre ++ "final.state"` — satisfy every
    requirement of the run-level theorems: no hypothesis about file names is left open. -/
theorem C08_state_names_ok (env : Env G C B) (pre : String)
    (hp : ∀ i, env.periodic i = pre ++ Int.repr i ++ ".state") (hf : env.final = pre ++ "final" ++ ".state") : NamesOK env where
  inj := by
    intro i j h
    rw [hp, hp] at h
    exact Int.repr_injective ((String.append_right_inj pre).mp ((String.append_left_inj ".state").mp h))
  fin := by
    intro i h
    rw [hp, hf] at h
    exact repr_ne_final i ((String.append_right_inj pre).mp ((String.append_left_inj ".state").mp h))
  tmpP := by intro i j; rw [hp j]; exact tmpOf_ne_state _ _
  tmpPF := by intro i; rw [hf]; exact tmpOf_ne_state _ _
  tmpFP := by intro i; rw [hp i]; exact tmpOf_ne_state _ _

/-- a toy environment: three iterations, an encoding that keeps only the generator position, file names for the iterations
    1 and 2 only (all others share one name, so `NamesOK exEnv` does NOT hold: the example below shows what the run model
    computes, it does not instantiate `C08_run_checkpoints`) -/
def exEnv : Env Nat Bool Unit :=
  { F := exF
    cont := fun s _ => match Model.Checkpoint.getInt "iter" s.current with | some i => decide (i < 3) | none => false
    z1 := fun _ => Model.Checkpoint.Val.real 9
    enc := fun d => match d.rngState with | some (some g) => [g] | _ => []
    pickle := fun _ => ()
    dir := "out/"
    periodic := fun i => if i = 1 then "out/ps_1.state" else if i = 2 then "out/ps_2.state" else "out/ps_other.state"
    final := "out/ps_final.state" }

-- a run of three iterations with `save_every = 1` from a fresh sampler, over a stale temporary file.  The files at the end:
-- `ps_1`, `ps_2` (written before iterations 2 and 3) and `ps_final`, each holding the generator position of the moment it was
-- written, no temporary file left
example : (runFrom exEnv (some 1) 10 exW0 [("out/ps_1.state.temp", [7, 7])]).map
      (fun r => (r.2.2.map (·.1), r.2.1, Model.Checkpoint.lookup "iter" r.1.core.sm.current, r.1.core.logzErr)) =
    some (["out/ps_1.state", "out/ps_2.state", "out/ps_final.state"],
          [("out/ps_1.state", [16]), ("out/ps_2.state", [21]), ("out/ps_final.state", [26])],
          some (Model.Checkpoint.Val.int 3), some Model.Checkpoint.Val.none) := by decide +kernel

end RunFiles

end Props.C08
