import TempestVerif.Props.C05Robust
import TempestVerif.Lemmas.ScReal
/-
  C05 — temperature schedule monotone, bounded, ESS-controlled; everything recorded for an iteration refers to
  the same temperature.

  Theorems are about `Model.Reweight` at `ℝ`, for EVERY metric oracle `M`, evidence oracle `Z` and finiteness
  predicate `fin` (no monotonicity, no continuity assumed).  Over ℝ `≤` is a bracket relation, so the range and
  same-temperature statements are the instances of `Props/C05Robust.lean`; what is proved here is what needs real
  arithmetic: the bracket is halved by every pass (termination within the fuel, tightness) and a comparison or its
  converse holds (the ESS floor).  IEEE rounding / NaN behaviour: `Props/C05Ieee.lean` and the bit-exact correspondence.
-/
namespace Props.C05
open Model.Reweight
variable {W : Type}

theorem mid_real (hi lo : ℝ) : mid hi lo = (hi + lo) / 2 := by
  simp [mid]; ring

theorem sub_mid (hi lo : ℝ) : hi - mid hi lo = (hi - lo) / 2 := by rw [mid_real]; ring

theorem mid_sub (hi lo : ℝ) : mid hi lo - lo = (hi - lo) / 2 := by rw [mid_real]; ring

/-- over ℝ, `≤` is a bracket relation: the range theorems of `Props/C05.lean` are this instance -/
theorem Robust.bracket_real : Bracket (fun a b : ℝ => a ≤ b) where
  trans := fun h1 h2 => le_trans h1 h2
  left := fun _ => le_refl _
  right := fun _ => le_refl _
  mid := fun {lo hi} h => ⟨by rw [mid_real]; linarith, by rw [mid_real]; linarith⟩

/-! ### `_find_beta_upper_limit` -/

theorem half_le {w t : ℝ} {k : Nat} (h : w ≤ 2 ^ (k + 1) * t) : w / 2 ≤ 2 ^ k * t :=
  (div_le_iff₀ (zero_lt_two' ℝ)).mpr (by rw [mul_right_comm, ← pow_succ]; exact h)

theorem half_lt {w t : ℝ} {k : Nat} (h : w < 2 ^ (k + 1) * t) : w / 2 < 2 ^ k * t :=
  (div_lt_iff₀ (zero_lt_two' ℝ)).mpr (by rw [mul_right_comm, ← pow_succ]; exact h)

theorem halving_step {w tol d : ℝ} {s : Nat} (hw : tol < w) (a : d = w / 2 / 2 ^ s)
    (b : ∀ k, w / 2 ≤ 2 ^ k * tol → s ≤ k) :
    d = w / 2 ^ (s + 1) ∧ ∀ k, w ≤ 2 ^ k * tol → s + 1 ≤ k := by
  refine ⟨by rw [a, div_div, ← pow_succ'], fun k hk => ?_⟩
  cases k with
  | zero => rw [pow_zero, one_mul] at hk; exact absurd hw (not_lt.mpr hk)
  | succ k => exact Nat.succ_le_succ (b k (half_le hk))

/-- Every pass of the `while` halves the bracket: after `k` passes its width is `(hi − lo)/2^k`; and a pass is made only
    while the width exceeds `tol`, so there are at most `k` of them once `hi − lo ≤ 2^k · tol`. -/
theorem upLoop_halving (M : ℝ → W × ℝ × ℝ) (target tol : ℝ) :
    ∀ (n : Nat) (lo hi : ℝ),
      (upLoop M target tol n lo hi).hi - (upLoop M target tol n lo hi).beta
        = (hi - lo) / 2 ^ (upLoop M target tol n lo hi).steps ∧
      ∀ k, hi - lo ≤ 2 ^ k * tol → (upLoop M target tol n lo hi).steps ≤ k := by
  have stop : ∀ lo hi : ℝ, hi - lo = (hi - lo) / 2 ^ 0 ∧ ∀ k, hi - lo ≤ 2 ^ k * tol → 0 ≤ k :=
    fun lo hi => ⟨by rw [pow_zero, div_one], fun k _ => Nat.zero_le k⟩
  intro n
  induction n with
  | zero => exact stop
  | succ n ih =>
    intro lo hi
    cases hw : Sc.gt (Sc.sub hi lo) tol with
    | false => rw [upLoop_stop_any M target tol n lo hi hw]; exact stop lo hi
    | true =>
      have hw' : tol < hi - lo := (ScReal.gt_def _ _).mp hw
      cases he : Sc.ge (M (mid hi lo)).2.1 target with
      | true =>
        obtain ⟨a, b⟩ := ih (mid hi lo) hi
        rw [upLoop_up_any M target tol n lo hi hw he]
        exact halving_step hw' (by rw [← sub_mid]; exact a) (by rw [← sub_mid]; exact b)
      | false =>
        obtain ⟨a, b⟩ := ih lo (mid hi lo)
        rw [upLoop_down_any M target tol n lo hi hw he]
        exact halving_step hw' (by rw [← mid_sub]; exact a) (by rw [← mid_sub]; exact b)

theorem upLoop_fuel (M : ℝ → W × ℝ × ℝ) (target tol : ℝ) (n : Nat) (lo hi : ℝ) (k : Nat)
    (hk : hi - lo ≤ 2 ^ k * tol) (hn : k ≤ n) :
    (upLoop M target tol n lo hi).branch = Branch.upLoop ∧ (upLoop M target tol n lo hi).steps ≤ k ∧
    (upLoop M target tol n lo hi).hi - (upLoop M target tol n lo hi).beta ≤ tol := by
  obtain ⟨hw, hs⟩ := upLoop_halving M target tol n lo hi
  rcases (Robust.upLoop_R Robust.bracket_true M target tol n lo hi _ rfl trivial).2.2.2 with ⟨hb, ht⟩ | ⟨_, hf, ht⟩
  · exact ⟨hb, hs k hk, (ScReal.lt_false _ _).mp ht⟩
  · -- stopped by the fuel after `n ≥ k` passes with the width `(hi − lo)/2^n` still above `tol`
    exfalso
    have hnk : (upLoop M target tol n lo hi).steps = k := le_antisymm (hs k hk) (by rw [hf]; exact hn)
    have ht' : tol < (hi - lo) / 2 ^ k := by rw [← hnk, ← hw]; exact (ScReal.gt_def _ _).mp ht
    rw [lt_div_iff₀ (by positivity)] at ht'
    linarith

theorem upperLimit_cases (M : ℝ → W × ℝ × ℝ) (target tol : ℝ) (fuel : Nat) (prev : ℝ) :
    ((M prev).2.1 < target ∧ upperLimit M target tol fuel prev = ⟨prev, 1, 0, Branch.upStay, [prev]⟩) ∨
    (target ≤ (M prev).2.1 ∧ target ≤ (M 1).2.1 ∧
      upperLimit M target tol fuel prev = ⟨1, 1, 0, Branch.upOne, [prev, 1]⟩) ∨
    (target ≤ (M prev).2.1 ∧ (M 1).2.1 < target ∧
      upperLimit M target tol fuel prev =
        { upLoop M target tol fuel prev 1 with calls := prev :: 1 :: (upLoop M target tol fuel prev 1).calls }) := by
  have h := upperLimit_cases_any M target tol fuel prev
  simp only [sc_real] at h
  exact h

theorem C05_upper_in_range (M : ℝ → W × ℝ × ℝ) (target tol : ℝ) (fuel : Nat) (prev : ℝ) (h1 : prev ≤ 1) :
    prev ≤ (upperLimit M target tol fuel prev).beta ∧ (upperLimit M target tol fuel prev).beta ≤ 1 := by
  have h := Robust.C05_R_upper Robust.bracket_real M target tol fuel prev
  rw [ScReal.one_def] at h
  exact ⟨(h h1).1, (h h1).2.1⟩

theorem C05_upper_ess (M : ℝ → W × ℝ × ℝ) (target tol : ℝ) (fuel : Nat) (prev : ℝ) (h1 : prev ≤ 1)
    (hne : (upperLimit M target tol fuel prev).beta ≠ prev) :
    target ≤ (M (upperLimit M target tol fuel prev).beta).2.1 :=
  (ScReal.ge_def _ _).mp ((Robust.C05_any_upper_ess M target tol fuel prev).resolve_left hne)

/-- the arithmetic behind the fuel bound: `2^-14 < 1e-4`, so a bracket inside `[0, 1]` is narrower than `2^14` tolerances -/
theorem unit_width {a b tol : ℝ} (h0 : 0 ≤ a) (h1 : b ≤ 1) (htol : 1 / 10000 ≤ tol) : b - a < 2 ^ 14 * tol :=
  calc b - a ≤ 1 := by linarith
    _ < 2 ^ 14 * (1 / 10000) := by norm_num
    _ ≤ 2 ^ 14 * tol := mul_le_mul_of_nonneg_left htol (by positivity)

/-- Fuel is never the reason the loop stops: with `BETA_TOLERANCE = 1e-4` (any tolerance ≥ 1e-4) and
    `β_prev ∈ [0,1]` the interval `[β_prev, 1]` is halved at most 14 times (2^-14 < 1e-4), after `k` steps
    its width is exactly `(1 − β_prev)/2^k`, and every fuel ≥ 14 (the driver uses 64) leaves through the
    `while` condition. -/
theorem C05_upper_fuel (M : ℝ → W × ℝ × ℝ) (target tol : ℝ) (fuel : Nat) (prev : ℝ)
    (h0 : 0 ≤ prev) (h1 : prev ≤ 1) (htol : 1 / 10000 ≤ tol) (hfuel : 14 ≤ fuel) :
    (upperLimit M target tol fuel prev).branch ≠ Branch.upFuel ∧
    (upperLimit M target tol fuel prev).steps ≤ 14 ∧
    ((upperLimit M target tol fuel prev).branch = Branch.upLoop →
      (upperLimit M target tol fuel prev).hi - (upperLimit M target tol fuel prev).beta
        = (1 - prev) / 2 ^ (upperLimit M target tol fuel prev).steps ∧
      (upperLimit M target tol fuel prev).hi - (upperLimit M target tol fuel prev).beta ≤ tol) := by
  rcases upperLimit_cases M target tol fuel prev with ⟨_, e⟩ | ⟨_, _, e⟩ | ⟨_, _, e⟩
  · rw [e]
    exact ⟨(by decide : Branch.upStay ≠ Branch.upFuel), Nat.zero_le _,
      fun h => absurd h (by decide : Branch.upStay ≠ Branch.upLoop)⟩
  · rw [e]
    exact ⟨(by decide : Branch.upOne ≠ Branch.upFuel), Nat.zero_le _,
      fun h => absurd h (by decide : Branch.upOne ≠ Branch.upLoop)⟩
  · rw [e]
    obtain ⟨hb, hs, hw⟩ := upLoop_fuel M target tol fuel prev 1 14 (unit_width h0 le_rfl htol).le hfuel
    exact ⟨by rw [hb]; decide, hs, fun _ => ⟨(upLoop_halving M target tol fuel prev 1).1, hw⟩⟩

/-! ### `_find_beta_bisection` -/

/-- with `β_max − β_min < 2^n · BETA_TOLERANCE` the fuel `n` is not what stops the bisection, and it makes at
    most `n` halvings (the `beta_converged` test fires at the latest when the width drops below the tolerance) -/
theorem bisect_fuel (M : ℝ → W × ℝ × ℝ) (fin : ℝ → Bool) (dyn : Bool) (target tolE tolB : ℝ) :
    ∀ (n : Nat) (fuel : Nat) (bmin bmax : ℝ), n ≤ fuel → bmax - bmin < 2 ^ n * tolB →
      (bisect M fin dyn target tolE tolB fuel bmin bmax).branch ≠ Branch.bisFuel ∧
      (bisect M fin dyn target tolE tolB fuel bmin bmax).steps ≤ n := by
  intro n
  induction n with
  | zero =>
    intro fuel bmin bmax _ hw
    rw [pow_zero, one_mul] at hw
    rcases bisect_unfold_any M fin dyn target tolE tolB fuel bmin bmax with
      ⟨t, ht, _, e⟩ | ⟨_, hb, _⟩ | ⟨k, lo, hi, _, hb, _, _⟩
    · rw [e]; exact ⟨ht, le_refl _⟩
    · exact absurd hw (not_lt.mpr ((ScReal.lt_false _ _).mp hb))
    · exact absurd hw (not_lt.mpr ((ScReal.lt_false _ _).mp hb))
  | succ n ih =>
    intro fuel bmin bmax hf hw
    rcases bisect_unfold_any M fin dyn target tolE tolB fuel bmin bmax with
      ⟨t, ht, _, e⟩ | ⟨hk, _, _⟩ | ⟨k, lo, hi, hk, _, hlh, e⟩
    · rw [e]; exact ⟨ht, Nat.zero_le _⟩
    · exact absurd (hk ▸ hf) (Nat.not_succ_le_zero n)
    · rw [e]
      -- either half has half the width
      have hw' : hi - lo < 2 ^ n * tolB := by
        have hw2 : (bmax - bmin) / 2 < 2 ^ n * tolB := half_lt hw
        rcases hlh with ⟨rfl, rfl⟩ | ⟨rfl, rfl⟩
        · rw [sub_mid]; exact hw2
        · rw [mid_sub]; exact hw2
      obtain ⟨b1, b2⟩ := ih k lo hi (Nat.le_of_succ_le_succ (hk ▸ hf : n + 1 ≤ k + 1)) hw'
      exact ⟨b1, Nat.succ_le_succ b2⟩

/-! ### `run` -/

theorem lands_range {M : ℝ → W × ℝ × ℝ} {fin : ℝ → Bool} {dyn : Bool} {target tg tolE tolB : ℝ} {fuel : Nat}
    {prev : ℝ} {f : (ℝ → ℝ) → RunOut ℝ W} (h : Lands M fin dyn target tg tolE tolB fuel prev f) (Z : ℝ → ℝ)
    (h1 : prev ≤ 1) :
    prev ≤ (f Z).beta ∧ (f Z).beta ≤ (upperLimit M target tolB fuel prev).beta ∧ (upperLimit M target tolB fuel prev).beta ≤ 1 := by
  have hr := Robust.lands_range_R h Z Robust.bracket_real
  rw [ScReal.one_def] at hr
  exact hr h1

theorem runEss_cases (M : ℝ → W × ℝ × ℝ) (fin : ℝ → Bool) (target tolE tolB : ℝ) (fuel : Nat) (prev : ℝ) :
    let up := upperLimit M target tolB fuel prev
    let b := bisect M fin false target tolE tolB fuel prev up.beta
    ((M prev).2.1 ≤ target ∧ ∀ Z, runEss M Z fin target tolE tolB fuel prev =
        finalize prev (M prev).1 (M prev).2.1 (Z prev) Branch.essStay [up.branch]
          (up.calls ++ [prev, up.beta])) ∨
    (target < (M prev).2.1 ∧ target ≤ (M up.beta).2.1 ∧ ∀ Z, runEss M Z fin target tolE tolB fuel prev =
        finalize up.beta (M up.beta).1 (M up.beta).2.1 (Z up.beta) Branch.essUpper [up.branch]
          (up.calls ++ [prev, up.beta])) ∨
    (target < (M prev).2.1 ∧ (M up.beta).2.1 < target ∧ ∀ Z, runEss M Z fin target tolE tolB fuel prev =
        finalize b.beta b.w b.ess (Z b.beta) Branch.essBisect [up.branch, b.branch]
          (up.calls ++ [prev, up.beta] ++ b.calls)) := by
  have h := runEss_cases_any M fin target tolE tolB fuel prev
  simp only [sc_real] at h
  exact h

theorem runDyn_cases (M : ℝ → W × ℝ × ℝ) (fin : ℝ → Bool) (target vv tolE tolB : ℝ) (fuel : Nat) (prev : ℝ) :
    let up := upperLimit M target tolB fuel prev
    let b := bisect M fin true vv tolE tolB fuel prev up.beta
    (up.beta = prev ∧ ∀ Z, runDyn M Z fin target vv tolE tolB fuel prev =
        finalize prev (M prev).1 (M prev).2.1 (Z prev) Branch.dynStuck [up.branch] (up.calls ++ [prev])) ∨
    (up.beta ≠ prev ∧ (M up.beta).2.2 ≤ vv ∧ ∀ Z, runDyn M Z fin target vv tolE tolB fuel prev =
        finalize up.beta (M up.beta).1 (M up.beta).2.1 (Z up.beta) Branch.dynUpper [up.branch]
          (up.calls ++ [prev, up.beta, up.beta])) ∨
    (up.beta ≠ prev ∧ vv < (M up.beta).2.2 ∧ vv ≤ (M prev).2.2 ∧
      ∀ Z, runDyn M Z fin target vv tolE tolB fuel prev =
        finalize prev (M prev).1 (M prev).2.1 (Z prev) Branch.dynStay [up.branch]
          (up.calls ++ [prev, up.beta, prev])) ∨
    (up.beta ≠ prev ∧ vv < (M up.beta).2.2 ∧ (M prev).2.2 < vv ∧
      ∀ Z, runDyn M Z fin target vv tolE tolB fuel prev =
        finalize b.beta b.w b.ess (Z b.beta) Branch.dynBisect [up.branch, b.branch]
          (up.calls ++ [prev, up.beta] ++ b.calls)) := by
  have h := runDyn_cases_any M fin target vv tolE tolB fuel prev
  simp only [eqv_real, Bool.eq_false_iff, ne_eq, ScReal.le_def, ScReal.ge_def, not_le] at h
  exact h

/-- Side result: for a deterministic (function-valued, NaN-free) oracle the third branch of ESS mode —
    the call of `_find_beta_bisection` at `reweight.py:331` — is dead code: whenever the ESS at `β_prev` is
    above the target, `_find_beta_upper_limit` has already returned a point whose ESS is at least the target. -/
theorem C05_ess_bisection_unreachable (M : ℝ → W × ℝ × ℝ) (Z : ℝ → ℝ) (fin : ℝ → Bool)
    (target tolE tolB : ℝ) (fuel : Nat) (prev : ℝ) (h1 : prev ≤ 1) :
    (runEss M Z fin target tolE tolB fuel prev).branch ≠ Branch.essBisect := by
  rcases Robust.C05_any_ess_floor M Z fin target tolE tolB fuel prev with ⟨h, _⟩ | ⟨h, _⟩ | ⟨_, h2, h3⟩
  · rw [h]; decide
  · rw [h]; decide
  · -- both `ess_prev ≤ target` and `ess_prev ≥ target` False: impossible for real numbers
    exact absurd ((ScReal.le_false _ _).mp h2).le (not_le.mpr ((ScReal.le_false _ _).mp h3))

/-- ESS mode: `β_prev ≤ β ≤ β_upper ≤ 1`, and if β advanced, the ESS at the new β is at least the target -/
theorem C05_ess_mode (M : ℝ → W × ℝ × ℝ) (Z : ℝ → ℝ) (fin : ℝ → Bool) (target tolE tolB : ℝ) (fuel : Nat)
    (prev : ℝ) (h1 : prev ≤ 1) :
    prev ≤ (runEss M Z fin target tolE tolB fuel prev).beta ∧
    (runEss M Z fin target tolE tolB fuel prev).beta ≤ (upperLimit M target tolB fuel prev).beta ∧
    (upperLimit M target tolB fuel prev).beta ≤ 1 ∧
    ((runEss M Z fin target tolE tolB fuel prev).beta ≠ prev →
      target ≤ (M (runEss M Z fin target tolE tolB fuel prev).beta).2.1) := by
  obtain ⟨r1, r2, r3⟩ := lands_range (runEss_lands M fin target tolE tolB fuel prev) Z h1
  refine ⟨r1, r2, r3, fun hadv => ?_⟩
  rcases Robust.C05_any_ess_floor M Z fin target tolE tolB fuel prev with ⟨_, h⟩ | ⟨_, h⟩ | ⟨h, _⟩
  · exact absurd h hadv
  · exact (ScReal.ge_def _ _).mp h
  · exact absurd h (C05_ess_bisection_unreachable M Z fin target tolE tolB fuel prev h1)

/-- volume-variation mode: `β_prev ≤ β ≤ β_upper ≤ 1` — never beyond the ESS-limited temperature — in every
    branch, the bisection included (its iterate stays in `[β_min, β_max] = [β_prev, β_upper]`) -/
theorem C05_dyn_mode (M : ℝ → W × ℝ × ℝ) (Z : ℝ → ℝ) (fin : ℝ → Bool) (target vv tolE tolB : ℝ) (fuel : Nat)
    (prev : ℝ) (h1 : prev ≤ 1) :
    prev ≤ (runDyn M Z fin target vv tolE tolB fuel prev).beta ∧
    (runDyn M Z fin target vv tolE tolB fuel prev).beta ≤ (upperLimit M target tolB fuel prev).beta ∧
    (upperLimit M target tolB fuel prev).beta ≤ 1 :=
  lands_range (runDyn_lands M fin target vv tolE tolB fuel prev) Z h1

/-- In volume-variation mode too, an advance beyond `β_prev` implies the ESS-limited temperature itself advanced,
    hence the ESS *there* is at least the target (the bound the statement refers to is a genuine ESS bound). -/
theorem C05_dyn_upper_ess (M : ℝ → W × ℝ × ℝ) (Z : ℝ → ℝ) (fin : ℝ → Bool) (target vv tolE tolB : ℝ)
    (fuel : Nat) (prev : ℝ) (h1 : prev ≤ 1)
    (hadv : (runDyn M Z fin target vv tolE tolB fuel prev).beta ≠ prev) :
    target ≤ (M (upperLimit M target tolB fuel prev).beta).2.1 := by
  apply C05_upper_ess M target tolB fuel prev h1
  intro h
  obtain ⟨d1, d2, _⟩ := C05_dyn_mode M Z fin target vv tolE tolB fuel prev h1
  rw [h] at d2
  exact hadv (le_antisymm d2 d1)

/-- In all 7 branches of `run` (3 in ESS mode, 4 in volume-variation mode) the returned weights, the recorded
    ESS and the recorded logZ are `(M β).1`, `(M β).2.1` and `Z β` for the SAME β that is written to state
    (and `compute_logw_and_logz` is called by `run` exactly once, at that β) — for every oracle and every β_prev. -/
theorem C05_same_temperature (c : Cfg ℝ) (M : ℝ → W × ℝ × ℝ) (Z : ℝ → ℝ) (fin : ℝ → Bool) (prev : ℝ) :
    (run c false M Z fin prev).weightsTag = WTag.of (M (run c false M Z fin prev).beta).1 ∧
    (run c false M Z fin prev).ess = (M (run c false M Z fin prev).beta).2.1 ∧
    (run c false M Z fin prev).logz = Z (run c false M Z fin prev).beta ∧
    (run c false M Z fin prev).zcalls = [(run c false M Z fin prev).beta] :=
  Robust.C05_any_same_temperature c M Z fin prev

/-- the first iteration (empty history): β = 0, logZ = 0, ESS = ess_ratio · n_particles, uniform weights of
    length n_particles, and no oracle is consulted -/
theorem C05_first_iteration (c : Cfg ℝ) (M : ℝ → W × ℝ × ℝ) (Z : ℝ → ℝ) (fin : ℝ → Bool) (prev : ℝ) :
    (run c true M Z fin prev).beta = 0 ∧ (run c true M Z fin prev).logz = 0 ∧
    (run c true M Z fin prev).ess = c.essRatio * c.nPart ∧
    (run c true M Z fin prev).weightsTag = WTag.uniform c.nPart ∧
    (run c true M Z fin prev).calls = [] ∧ (run c true M Z fin prev).zcalls = [] :=
  ⟨ScReal.zero_def, ScReal.zero_def, rfl, rfl, rfl, rfl⟩

/-- one `run` on a non-empty history: the new β lies between the old one and 1 -/
theorem C05_run_range (c : Cfg ℝ) (M : ℝ → W × ℝ × ℝ) (Z : ℝ → ℝ) (fin : ℝ → Bool) (prev : ℝ)
    (h1 : prev ≤ 1) :
    prev ≤ (run c false M Z fin prev).beta ∧ (run c false M Z fin prev).beta ≤ 1 := by
  obtain ⟨a, b, d⟩ := lands_range (run_lands c M fin prev) Z h1
  exact ⟨a, le_trans b d⟩

theorem run_limit (c : Cfg ℝ) (M : ℝ → W × ℝ × ℝ) (Z : ℝ → ℝ) (fin : ℝ → Bool) (prev : ℝ) (h1 : prev ≤ 1) :
    prev ≤ (run c false M Z fin prev).beta ∧
    (run c false M Z fin prev).beta ≤ (upperLimit M c.target c.tolB c.fuel prev).beta ∧
    (upperLimit M c.target c.tolB c.fuel prev).beta ≤ 1 ∧
    ((run c false M Z fin prev).beta ≠ prev → c.target ≤ (M (upperLimit M c.target c.tolB c.fuel prev).beta).2.1) ∧
    (c.vv = none → (run c false M Z fin prev).beta ≠ prev → c.target ≤ (M (run c false M Z fin prev).beta).2.1) := by
  obtain ⟨a, b, d⟩ := lands_range (run_lands c M fin prev) Z h1
  refine ⟨a, b, d, fun hadv => ?_, fun hv => ?_⟩
  · -- β moved and β ≤ β_upper, so β_upper moved
    exact C05_upper_ess M c.target c.tolB c.fuel prev h1 fun he => hadv (le_antisymm (b.trans_eq he) a)
  · rw [run_ess c M Z fin prev hv]
    exact (C05_ess_mode M Z fin c.target c.tolE c.tolB c.fuel prev h1).2.2.2

/-- While the ESS at `β_prev` is below the target `_find_beta_upper_limit` returns `β_prev`, and `run` stays there in both
    modes; ESS mode also stays when the ESS equals the target (branch `essStay`). -/
theorem run_stays (c : Cfg ℝ) (M : ℝ → W × ℝ × ℝ) (Z : ℝ → ℝ) (fin : ℝ → Bool) (prev : ℝ) (h1 : prev ≤ 1)
    (h : (M prev).2.1 < c.target ∨ (c.vv = none ∧ (M prev).2.1 ≤ c.target)) :
    (run c false M Z fin prev).beta = prev := by
  rcases h with h | ⟨hv, h⟩
  · obtain ⟨a, b, _⟩ := lands_range (run_lands c M fin prev) Z h1
    rcases upperLimit_cases M c.target c.tolB c.fuel prev with ⟨_, e⟩ | ⟨h', _⟩ | ⟨h', _⟩
    · rw [e] at b; exact le_antisymm b a
    · exact absurd h (not_lt.mpr h')
    · exact absurd h (not_lt.mpr h')
  · rw [run_ess c M Z fin prev hv]
    rcases runEss_cases M fin c.target c.tolE c.tolB c.fuel prev with ⟨_, e⟩ | ⟨h', _⟩ | ⟨h', _⟩
    · rw [e Z]; rfl
    · exact absurd h (not_le.mpr h')
    · exact absurd h (not_le.mpr h')

/-- with the real constants (`BETA_TOLERANCE ≥ 1e-4`) and fuel ≥ 14 no loop of `run` is ever stopped by the
    model's fuel: the model's `while` loops and the Python's terminate together -/
theorem C05_fuel (c : Cfg ℝ) (hemp : Bool) (M : ℝ → W × ℝ × ℝ) (Z : ℝ → ℝ) (fin : ℝ → Bool) (prev : ℝ)
    (h0 : 0 ≤ prev) (h1 : prev ≤ 1) (htol : 1 / 10000 ≤ c.tolB) (hfuel : 14 ≤ c.fuel) :
    Branch.upFuel ∉ (run c hemp M Z fin prev).sub ∧ Branch.bisFuel ∉ (run c hemp M Z fin prev).sub := by
  cases hemp with
  | true => exact ⟨List.not_mem_nil, List.not_mem_nil⟩
  | false =>
    have hu1 := (C05_upper_fuel M c.target c.tolB c.fuel prev h0 h1 htol hfuel).1
    have hu2 := (Robust.C05_R_upper Robust.bracket_true M c.target c.tolB c.fuel prev trivial).2.2.2
    have u2 := (C05_upper_in_range M c.target c.tolB c.fuel prev h1).2
    -- the bisection starts from a bracket inside `[β_prev, 1]`, narrower than `2^14 · BETA_TOLERANCE`
    have hb2 := (bisect_fuel M fin c.vv.isSome (c.vv.getD c.target) c.tolE c.tolB 14 c.fuel prev
      (upperLimit M c.target c.tolB c.fuel prev).beta hfuel (unit_width h0 u2 htol)).1
    have hb1 := (bisect_out M fin c.vv.isSome (c.vv.getD c.target) c.tolE c.tolB c.fuel prev
      (upperLimit M c.target c.tolB c.fuel prev).beta).2.2
    rcases (run_lands c M fin prev).sub Z with e | e
    · rw [e]
      exact ⟨fun h => hu1 (List.mem_singleton.mp h).symm, fun h => hu2 (List.mem_singleton.mp h).symm⟩
    · rw [e]
      exact ⟨fun h => (List.mem_cons.mp h).elim (fun h => hu1 h.symm) fun h => hb1 (List.mem_singleton.mp h).symm,
        fun h => (List.mem_cons.mp h).elim (fun h => hu2 h.symm) fun h => hb2 (List.mem_singleton.mp h).symm⟩

/-! ### the schedule -/

/-- resumed runs: starting from a non-empty history with `state["beta"] = β_start ≤ 1` the sequence continues
    monotonically from `β_start` -/
theorem C05_schedule_resume {σ : Type} (c : Cfg ℝ) (env : σ → Oracles ℝ W) (emp : σ → Bool)
    (next : σ → RunOut ℝ W → σ) (s0 : σ) (p0 : ℝ)
    (h0 : emp s0 = false) (hne : ∀ s r, emp (next s r) = false) (hp : p0 ≤ 1) (n : Nat) :
    (∀ b ∈ betas c env emp next n s0 p0, p0 ≤ b ∧ b ≤ 1) ∧
    (∀ k a b, (betas c env emp next n s0 p0)[k]? = some a →
      (betas c env emp next n s0 p0)[k+1]? = some b → a ≤ b) := by
  have h := Robust.C05_R_schedule Robust.bracket_real c env emp next hne n s0 p0 h0
  rw [ScReal.one_def] at h
  exact h hp

/-- For every run of the schedule iteration (every environment: any pool dynamics `next`, any oracles `env`,
    provided the history is empty at the start and never empty after a commit; any configuration, either mode;
    any initial `state["beta"]`):  β_0 = 0,  0 ≤ β_k ≤ 1  and  β_k ≤ β_{k+1}. -/
theorem C05_schedule {σ : Type} (c : Cfg ℝ) (env : σ → Oracles ℝ W) (emp : σ → Bool)
    (next : σ → RunOut ℝ W → σ) (s0 : σ) (p0 : ℝ)
    (h0 : emp s0 = true) (hne : ∀ s r, emp (next s r) = false) (n : Nat) :
    (0 < n → (betas c env emp next n s0 p0)[0]? = some 0) ∧
    (∀ b ∈ betas c env emp next n s0 p0, 0 ≤ b ∧ b ≤ 1) ∧
    (∀ k a b, (betas c env emp next n s0 p0)[k]? = some a →
      (betas c env emp next n s0 p0)[k+1]? = some b → a ≤ b ∧ b ≤ 1) := by
  have h := Robust.C05_R_schedule_fresh Robust.bracket_real (by simp) c env emp next hne s0 p0 h0 n
  rw [ScReal.one_def, ScReal.zero_def] at h
  exact ⟨h.1, h.2.1, fun k a b ha hb => ⟨h.2.2 k a b ha hb, (h.2.1 b (List.mem_of_getElem? hb)).2⟩⟩

/-! ### the ESS-limited temperature is tight, and for a monotone ESS it is the statement's supremum -/

/-- The ESS-limited temperature is not slack: unless it is 1, there is a temperature at most `BETA_TOLERANCE`
    above it at which the ESS is BELOW the target (for `upStay` that temperature is `β_prev` itself).
    Needs only that the loop was not stopped by the model's fuel (`C05_upper_fuel`). -/
theorem C05_upper_tight (M : ℝ → W × ℝ × ℝ) (target tol : ℝ) (fuel : Nat) (prev : ℝ) (h1 : prev ≤ 1)
    (htol : 0 ≤ tol) (hf : (upperLimit M target tol fuel prev).branch ≠ Branch.upFuel) :
    (upperLimit M target tol fuel prev).beta = 1 ∨
    ∃ b, (upperLimit M target tol fuel prev).beta ≤ b ∧ b ≤ (upperLimit M target tol fuel prev).beta + tol ∧
      b ≤ 1 ∧ (M b).2.1 < target := by
  rcases upperLimit_cases M target tol fuel prev with ⟨h, e⟩ | ⟨_, _, e⟩ | ⟨_, h, e⟩
  · right; rw [e]; exact ⟨prev, le_refl _, le_add_of_nonneg_right htol, h1, h⟩
  · left; rw [e]
  · right
    rw [e] at hf ⊢
    -- the final `beta_high`: within `tol` of the result because the `while` test ended the loop, and the ESS test failed
    -- there (it is still 1, or it was a midpoint that failed it)
    obtain ⟨⟨_, a2, a3⟩, _, a5, a6⟩ := Robust.upLoop_R Robust.bracket_real M target tol fuel prev 1 _ rfl h1
    refine ⟨(upLoop M target tol fuel prev 1).hi, a2, ?_, a3, ?_⟩
    · rcases a6 with ⟨_, hw⟩ | ⟨hb, _⟩
      · exact sub_le_iff_le_add'.mp ((ScReal.lt_false _ _).mp hw)
      · exact absurd hb hf
    · rcases a5 with a5 | a5
      · rw [a5]; exact h
      · exact (ScReal.le_false _ _).mp a5

/-- ESS non-increasing in β on `[β_prev, 1]` (the situation the algorithm is designed for) -/
def EssAntitone (M : ℝ → W × ℝ × ℝ) (prev : ℝ) : Prop :=
  ∀ a b, prev ≤ a → a ≤ b → b ≤ 1 → (M b).2.1 ≤ (M a).2.1

/-- For a non-increasing ESS the upper limit is the statement's "largest temperature with ESS ≥ target" up to
    `BETA_TOLERANCE`: the ESS is ≥ target on all of `[β_prev, β_upper]` (if the limit moved at all) and < target
    everywhere from `β_upper + BETA_TOLERANCE` on. -/
theorem C05_upper_antitone (M : ℝ → W × ℝ × ℝ) (target tol : ℝ) (fuel : Nat) (prev : ℝ) (h1 : prev ≤ 1)
    (htol : 0 ≤ tol) (hf : (upperLimit M target tol fuel prev).branch ≠ Branch.upFuel)
    (hmono : EssAntitone M prev) :
    ((upperLimit M target tol fuel prev).beta ≠ prev →
      ∀ b, prev ≤ b → b ≤ (upperLimit M target tol fuel prev).beta → target ≤ (M b).2.1) ∧
    (∀ b, (upperLimit M target tol fuel prev).beta + tol ≤ b → b ≤ 1 →
      (upperLimit M target tol fuel prev).beta = 1 ∨ (M b).2.1 < target) := by
  obtain ⟨u1, u2⟩ := C05_upper_in_range M target tol fuel prev h1
  constructor
  · intro hne b hb1 hb2
    exact le_trans (C05_upper_ess M target tol fuel prev h1 hne) (hmono b _ hb1 hb2 u2)
  · intro b hb1 hb2
    rcases C05_upper_tight M target tol fuel prev h1 htol hf with h | ⟨x, x1, x2, x3, x4⟩
    · left; exact h
    · right; exact lt_of_le_of_lt (hmono x b (le_trans u1 x1) (le_trans x2 hb1) hb2) x4

/-- volume-variation mode with a non-increasing ESS: an advance always lands on a temperature whose ESS is at
    least the target (because it lands in `[β_prev, β_upper]`) -/
theorem C05_dyn_ess_antitone (M : ℝ → W × ℝ × ℝ) (Z : ℝ → ℝ) (fin : ℝ → Bool) (target vv tolE tolB : ℝ)
    (fuel : Nat) (prev : ℝ) (h1 : prev ≤ 1) (hmono : EssAntitone M prev)
    (hadv : (runDyn M Z fin target vv tolE tolB fuel prev).beta ≠ prev) :
    target ≤ (M (runDyn M Z fin target vv tolE tolB fuel prev).beta).2.1 := by
  obtain ⟨d1, d2, d3⟩ := C05_dyn_mode M Z fin target vv tolE tolB fuel prev h1
  have hu := C05_dyn_upper_ess M Z fin target vv tolE tolB fuel prev h1 hadv
  exact le_trans hu (hmono _ _ d1 d2 d3)

/-! ### non-vacuity: a concrete oracle  (ESS(β) = 100·(1 − β), metric(β) = β, target 40) -/

noncomputable def Mex : ℝ → Unit × ℝ × ℝ := fun β => ((), 100 * (1 - β), β)

theorem Mex_loop (n : Nat) : upLoop Mex 40 (1/4) (n+2) (1/2) 1 = ⟨1/2, 3/4, 1, Branch.upLoop, [3/4]⟩ := by
  have m : mid (1 : ℝ) (1/2) = 3/4 := by rw [mid_real]; norm_num
  rw [upLoop_down_any Mex 40 (1/4) (n+1) (1/2) 1 ((ScReal.gt_def _ _).mpr (by norm_num))
      ((ScReal.ge_false _ _).mpr (by rw [m]; norm_num [Mex])), m,
    upLoop_stop_any Mex 40 (1/4) n (1/2) (3/4) ((ScReal.lt_false _ _).mpr (by norm_num))]

/-- the upper-limit search from 0 (short enough to follow by hand): ESS 100 ≥ 40 at 0, 0 < 40 at 1, 50 ≥ 40 at 1/2, then
    the loop above -/
theorem Mex_upper : upperLimit Mex 40 (1/4) 3 0 = ⟨1/2, 3/4, 2, Branch.upLoop, [0, 1, 1/2, 3/4]⟩ := by
  have m : mid (1 : ℝ) 0 = 1/2 := by rw [mid_real]; norm_num
  rcases upperLimit_cases Mex 40 (1/4) 3 0 with ⟨h, _⟩ | ⟨_, h, _⟩ | ⟨_, _, e⟩
  · norm_num [Mex] at h
  · norm_num [Mex] at h
  · rw [e, upLoop_up_any Mex 40 (1/4) 2 0 1 ((ScReal.gt_def _ _).mpr (by norm_num))
      ((ScReal.ge_def _ _).mpr (by rw [m]; norm_num [Mex])), m, Mex_loop 0]

theorem Mex_bisect : bisect Mex (fun _ => true) true (3/10) (1/100) (1/4) 3 0 (1/2)
    = ⟨5/16, (), 100 * (1 - 5/16), 2, Branch.bisBeta, [1/4, 3/8, 5/16]⟩ := by
  norm_num [bisect, bisStop, bisVal, bisRaise, eqv, Mex, mid, ScReal.abs_def]

theorem Mex_runEss : runEss Mex id (fun _ => true) 40 (1/100) (1/4) 3 0
    = (finalize (1/2) () (100 * (1 - 1/2)) (1/2) Branch.essUpper [Branch.upLoop] [0, 1, 1/2, 3/4, 0, 1/2] :
        RunOut ℝ Unit) := by
  rcases runEss_cases Mex (fun _ => true) 40 (1/100) (1/4) 3 0 with ⟨h, _⟩ | ⟨_, _, e⟩ | ⟨_, h, _⟩
  · norm_num [Mex] at h
  · rw [e id, Mex_upper]; rfl
  · rw [Mex_upper] at h; norm_num [Mex] at h

theorem Mex_runDyn : runDyn Mex id (fun _ => true) 40 (3/10) (1/100) (1/4) 3 0
    = (finalize (5/16) () (100 * (1 - 5/16)) (5/16) Branch.dynBisect [Branch.upLoop, Branch.bisBeta]
        [0, 1, 1/2, 3/4, 0, 1/2, 1/4, 3/8, 5/16] : RunOut ℝ Unit) := by
  rcases runDyn_cases Mex (fun _ => true) 40 (3/10) (1/100) (1/4) 3 0 with
    ⟨h, _⟩ | ⟨_, h, _⟩ | ⟨_, _, h, _⟩ | ⟨_, _, _, e⟩
  · rw [Mex_upper] at h; norm_num at h
  · rw [Mex_upper] at h; norm_num [Mex] at h
  · norm_num [Mex] at h
  · rw [e id, Mex_upper, Mex_bisect]; rfl

-- the upper limit really advances …
example : (upperLimit Mex 40 (1/4) 3 0).beta = 1/2 := by
  rw [Mex_upper]
example : (upperLimit Mex 40 (1/4) 3 0).branch = Branch.upLoop := by
  rw [Mex_upper]
-- … so the hypothesis of `C05_upper_ess` is met and its conclusion is `40 ≤ 50`
example : (40 : ℝ) ≤ (Mex (upperLimit Mex 40 (1/4) 3 0).beta).2.1 :=
  C05_upper_ess Mex 40 (1/4) 3 0 (by norm_num) (by rw [Mex_upper]; norm_num)
-- with the real tolerance and fuel 64 the loop is entered, leaves through its own condition within 14 steps,
-- and the final bracket has width 2^-steps ≤ 1e-4
example : (upperLimit Mex 40 (1/10000) 64 0).branch = Branch.upLoop ∧
    (upperLimit Mex 40 (1/10000) 64 0).steps ≤ 14 ∧
    (upperLimit Mex 40 (1/10000) 64 0).hi - (upperLimit Mex 40 (1/10000) 64 0).beta ≤ 1/10000 := by
  rcases upperLimit_cases Mex 40 (1/10000) 64 0 with ⟨h, _⟩ | ⟨_, h, _⟩ | ⟨_, _, e⟩
  · norm_num [Mex] at h
  · norm_num [Mex] at h
  · rw [e]; exact upLoop_fuel Mex 40 (1/10000) 64 0 1 14 (by norm_num) (by norm_num)
-- ESS mode advances to the upper limit (second branch); `C05_ess_mode` then says 40 ≤ ESS(1/2) = 50
example : (runEss Mex id (fun _ => true) 40 (1/100) (1/4) 3 0).beta = 1/2 ∧
    (runEss Mex id (fun _ => true) 40 (1/100) (1/4) 3 0).branch = Branch.essUpper := by
  rw [Mex_runEss]; exact ⟨rfl, rfl⟩
example : (40 : ℝ) ≤ (Mex (runEss Mex id (fun _ => true) 40 (1/100) (1/4) 3 0).beta).2.1 :=
  (C05_ess_mode Mex id (fun _ => true) 40 (1/100) (1/4) 3 0 (by norm_num)).2.2.2
    (by rw [Mex_runEss]; norm_num [finalize])
-- volume-variation mode, bisection branch: target 0.3 lies strictly between metric(0) = 0 and metric(1/2) = 1/2
example : (runDyn Mex id (fun _ => true) 40 (3/10) (1/100) (1/4) 3 0).beta = 5/16 ∧
    (runDyn Mex id (fun _ => true) 40 (3/10) (1/100) (1/4) 3 0).branch = Branch.dynBisect ∧
    (runDyn Mex id (fun _ => true) 40 (3/10) (1/100) (1/4) 3 0).sub = [Branch.upLoop, Branch.bisBeta] := by
  rw [Mex_runDyn]; exact ⟨rfl, rfl, rfl⟩
-- the same-temperature statement on that run: recorded ESS is ESS(5/16) = 68.75, logZ is Z(5/16)
example : (run ⟨2, 20, some (3/10), 1/100, 1/4, 3⟩ false Mex id (fun _ => true) 0).ess = 100 * (1 - 5/16) := by
  have e : run ⟨2, 20, some (3/10), 1/100, 1/4, 3⟩ false Mex id (fun _ => true) 0
      = runDyn Mex id (fun _ => true) 40 (3/10) (1/100) (1/4) 3 0 := by
    rw [run_dyn _ _ _ _ _ (3/10) rfl]; norm_num [Cfg.target]
  rw [(C05_same_temperature ⟨2, 20, some (3/10), 1/100, 1/4, 3⟩ Mex id (fun _ => true) 0).2.1, e, Mex_runDyn]
  rfl
-- a schedule: state = number of commits, the same pool oracle throughout; β = 0, 1/2, 1/2
example : betas (σ := Nat) ⟨2, 20, none, 1/100, 1/4, 3⟩ (fun _ => ⟨Mex, id, fun _ => true⟩) (fun s => s == 0)
    (fun s _ => s + 1) 3 0 0 = [0, 1/2, 1/2] := by
  have e : ∀ p, run ⟨2, 20, none, 1/100, 1/4, 3⟩ false Mex id (fun _ => true) p
      = runEss Mex id (fun _ => true) 40 (1/100) (1/4) 3 p := fun p => by
    rw [run_ess _ _ _ _ _ rfl]; norm_num [Cfg.target]
  -- from 1/2 the upper limit is 1/2 again, so β stays
  have r2 : (runEss Mex id (fun _ => true) 40 (1/100) (1/4) 3 (1/2)).beta = 1/2 := by
    obtain ⟨a, b, _⟩ := C05_ess_mode Mex id (fun _ => true) 40 (1/100) (1/4) 3 (1/2) (by norm_num)
    rcases upperLimit_cases Mex 40 (1/4) 3 (1/2) with ⟨h, _⟩ | ⟨_, h, _⟩ | ⟨_, _, e⟩
    · norm_num [Mex] at h
    · norm_num [Mex] at h
    · rw [e, Mex_loop 1] at b; exact le_antisymm b a
  have r0 := (C05_first_iteration ⟨2, 20, none, 1/100, 1/4, 3⟩ Mex id (fun _ => true) 0).1
  have r1 : (runEss Mex id (fun _ => true) 40 (1/100) (1/4) 3 0).beta = 1/2 := by rw [Mex_runEss]; rfl
  simp only [betas, schedule, List.map_cons, List.map_nil, beq_self_eq_true, (by decide : (0 + 1 == 0) = false),
    (by decide : (0 + 1 + 1 == 0) = false), r0, e, r1, r2]
example := C05_schedule (σ := Nat) ⟨2, 20, none, 1/100, 1/4, 3⟩ (fun _ => ⟨Mex, id, fun _ => true⟩)
    (fun s => s == 0) (fun s _ => s + 1) 0 0 (by simp) (by simp) 3

-- tightness / monotone characterisation on the same oracle (it is non-increasing): the limit 1/2 found with
-- tolerance 1/4 has ESS 50 ≥ 40, and ESS(3/4) = 25 < 40 one tolerance above it
theorem Mex_antitone : EssAntitone Mex 0 := by
  intro a b _ hab _; simp only [Mex]; linarith
example : EssAntitone Mex 0 := Mex_antitone
example : ∀ b, (0 : ℝ) ≤ b → b ≤ 1/2 → (40 : ℝ) ≤ (Mex b).2.1 := by
  have h := (C05_upper_antitone Mex 40 (1/4) 3 0 (by norm_num) (by norm_num)
    (by rw [Mex_upper]; decide) Mex_antitone).1
    (by rw [Mex_upper]; norm_num)
  rw [Mex_upper] at h; exact h
example : (40 : ℝ) ≤ (Mex (runDyn Mex id (fun _ => true) 40 (3/10) (1/100) (1/4) 3 0).beta).2.1 :=
  C05_dyn_ess_antitone Mex id (fun _ => true) 40 (3/10) (1/100) (1/4) 3 0 (by norm_num)
    Mex_antitone
    (by rw [Mex_runDyn]; norm_num [finalize])

end Props.C05
