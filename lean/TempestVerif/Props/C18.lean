import TempestVerif.Model.ConfigSpec
import TempestVerif.Lemmas.ConfigSpec
import TempestVerif.Lemmas.Covering
import TempestVerif.Gen.Validate
import TempestVerif.Gen.Ctor
import TempestVerif.Gen.Covering
/-
  C18 — invalid configurations are rejected when the sampler is constructed, before any likelihood call;
        valid ones are accepted (and run: executed, see harness/c18.py).

  The tables of Gen/Validate and Gen/Ctor are REGENERATED from /repo on every run and interpreted by Model/ConfigSpec.lean
  (Python's semantics of the operators on the value universe `V`); Gen/Covering holds the arrays harness/c18.py generates and
  executes, read by the checkers of Lemmas/Covering.lean.  The documented constraints are written BY HAND below (`ValidListed`, `WellTyped`) without reference to the tables; `C18_config_accept_iff` /
  `C18_construct_accept_iff` say the tables accept exactly those configurations.

  A Python `bool` is NOT a valid dimension / particle count / index and the two targets must be finite (`math.isfinite`)
  in `validate()`: `ValidListed` says so and `C18_config_accept_iff` proves the tables agree.  `True` is a valid
  `ess_ratio` / `volume_variation` (the number 1); an empty string is an (empty) iterable of indices.
  "Every valid combination runs to completion" is NOT a theorem (numerics): it is executed row by row; what is proved is
  that the executed rows cover every pair (quick) / triple (thorough) of option values (`C18_covering_array_ok*`).
-/
namespace Props.C18
open Model.ConfigSpec
/-! ### the five default assignments of `__post_init__` as functions -/

def updDir (c : Cfg) : Cfg := if (c .output_dir).isNone || (c .output_dir).isStr then c.set .output_dir .path else c
def updLabel (c : Cfg) : Cfg := if (c .output_label).isNone then c.set .output_label (.str "ps") else c
def updNp (d : Int) (c : Cfg) : Cfg := if (c .n_particles).isNone then c.set .n_particles (.int (2 * d)) else c
def updSteps (c : Cfg) : Cfg := if noneOrLe0 (c .n_steps) then c.set .n_steps (.int 1) else c
def updMax (c : Cfg) : Cfg := if noneOrLe0 (c .n_max_steps) then c.set .n_max_steps (mulNum 20 (c .n_steps)) else c

theorem updDir_other (c : Cfg) (g : Field) (h : g ≠ .output_dir) : updDir c g = c g := by
  simp [updDir, ite_set_apply, h]
theorem updLabel_other (c : Cfg) (g : Field) (h : g ≠ .output_label) : updLabel c g = c g := by
  simp [updLabel, ite_set_apply, h]
theorem updNp_other (d : Int) (c : Cfg) (g : Field) (h : g ≠ .n_particles) : updNp d c g = c g := by
  simp [updNp, ite_set_apply, h]
theorem updSteps_other (c : Cfg) (g : Field) (h : g ≠ .n_steps) : updSteps c g = c g := by
  simp [updSteps, ite_set_apply, h]
theorem updMax_other (c : Cfg) (g : Field) (h : g ≠ .n_max_steps) : updMax c g = c g := by
  simp [updMax, ite_set_apply, h]

/-- the stored configuration after the defaults of `__post_init__` (for an integer `n_dim` of value `d`) -/
def postCfg (c : Cfg) (d : Int) : Cfg := updMax (updSteps (updNp d (updLabel (updDir c))))

/-- the options `__post_init__` may replace by a default -/
def defaultedFields : List Field := [.output_dir, .output_label, .n_particles, .n_steps, .n_max_steps]

theorem postCfg_frame (c : Cfg) (d : Int) (g : Field) (h : g ∉ defaultedFields) : postCfg c d g = c g := by
  simp only [defaultedFields, List.mem_cons, List.not_mem_nil, or_false, not_or] at h
  simp [postCfg, updMax_other, updSteps_other, updNp_other, updLabel_other, updDir_other, h]

theorem postCfg_output_dir (c : Cfg) (d : Int) :
    postCfg c d .output_dir = if (c .output_dir).isNone || (c .output_dir).isStr then .path else c .output_dir := by
  simp [postCfg, updMax_other, updSteps_other, updNp_other, updLabel_other, updDir, ite_set_apply]

theorem postCfg_output_label (c : Cfg) (d : Int) :
    postCfg c d .output_label = if (c .output_label).isNone then .str "ps" else c .output_label := by
  simp [postCfg, updMax_other, updSteps_other, updNp_other, updDir_other, updLabel, ite_set_apply]

theorem postCfg_n_particles (c : Cfg) (d : Int) :
    postCfg c d .n_particles = if (c .n_particles).isNone then .int (2 * d) else c .n_particles := by
  simp [postCfg, updMax_other, updSteps_other, updNp, updLabel_other, updDir_other, ite_set_apply]

theorem postCfg_n_steps (c : Cfg) (d : Int) :
    postCfg c d .n_steps = if noneOrLe0 (c .n_steps) then .int 1 else c .n_steps := by
  simp [postCfg, updMax_other, updSteps, updNp_other, updLabel_other, updDir_other, ite_set_apply]

theorem postCfg_n_max_steps (c : Cfg) (d : Int) :
    postCfg c d .n_max_steps =
      if noneOrLe0 (c .n_max_steps) then mulNum 20 (if noneOrLe0 (c .n_steps) then .int 1 else c .n_steps) else c .n_max_steps := by
  have h1 : updSteps (updNp d (updLabel (updDir c))) .n_max_steps = c .n_max_steps := by
    simp [updSteps_other, updNp_other, updLabel_other, updDir_other]
  have h2 : updSteps (updNp d (updLabel (updDir c))) .n_steps = if noneOrLe0 (c .n_steps) then .int 1 else c .n_steps := by
    simp [updSteps, updNp_other, updLabel_other, updDir_other, ite_set_apply]
  simp only [postCfg, updMax, h1, h2]
  by_cases h : noneOrLe0 (c .n_max_steps) = true <;> simp [h, Cfg.set, h1]

/-! ### the statements of `__post_init__` before and after `validate()`, in closed form -/

theorem pre_notInt (c : Cfg) (h : (c .n_dim).isInt = false) :
    runStmts Gen.Validate.pre c = .error (.reject ["n_dim must be int, got {}"]) := by
  simp [Gen.Validate.pre, runStmts, run_raise_notInt, h]

theorem pre_closed (c : Cfg) (d : Int) (hd : (c .n_dim).intVal? = some d) :
    runStmts Gen.Validate.pre c =
      if noneOrNum (c .n_steps) && noneOrNum (c .n_max_steps) then .ok (postCfg c d) else .error (.raise .typeError) := by
  have hi := isInt_of_intVal_some hd
  have hDir : Stmt.run c (.chain [(.isNone .output_dir, .output_dir, .const .path), (.isStr .output_dir, .output_dir, .pathOf .output_dir)])
      = .ok (updDir c) := run_chain_dir c _
  have hLabel : ∀ x : Cfg, Stmt.run x (.chain [(.isNone .output_label, .output_label, .const (.str "ps"))]) = .ok (updLabel x) :=
    fun x => run_chain_none x _ _ _ rfl
  have hNp : ∀ x : Cfg, x .n_dim = c .n_dim →
      Stmt.run x (.chain [(.isNone .n_particles, .n_particles, .mulInt 2 .n_dim)]) = .ok (updNp d x) :=
    fun x hx => run_chain_none x _ _ _ (by
      rw [VExpr.eval, hx]; cases hv : c .n_dim <;> simp [hv, V.intVal?] at hd <;> simp [V.mulInt, hd])
  have hSteps : ∀ x : Cfg, Stmt.run x (.chain [(.or (.isNone .n_steps) (.cmp0 .le .n_steps), .n_steps, .const (.int 1))])
      = if noneOrNum (x .n_steps) then .ok (updSteps x) else .error (.raise .typeError) :=
    fun x => run_chain_default x _ _ _ rfl
  have hMax : ∀ x : Cfg, (x .n_steps).isNum = true →
      Stmt.run x (.chain [(.or (.isNone .n_max_steps) (.cmp0 .le .n_max_steps), .n_max_steps, .mulInt 20 .n_steps)])
      = if noneOrNum (x .n_max_steps) then .ok (updMax x) else .error (.raise .typeError) :=
    fun x hx => run_chain_default x _ _ _ (mulInt_num 20 hx)
  simp only [Gen.Validate.pre, runStmts, run_raise_notInt, hi, if_true, hDir, hLabel]
  rw [hNp _ (by simp [updLabel_other, updDir_other])]
  simp only [hSteps, updNp_other, updLabel_other, updDir_other, ne_eq, reduceCtorEq, not_false_eq_true]
  by_cases h5 : noneOrNum (c .n_steps) = true
  · simp only [h5, if_true, Bool.true_and]
    rw [hMax]
    · simp only [updSteps_other, updNp_other, updLabel_other, updDir_other, ne_eq, reduceCtorEq, not_false_eq_true, postCfg]
      by_cases h6 : noneOrNum (c .n_max_steps) = true <;> simp [h6]
    · by_cases h7 : noneOrLe0 (c .n_steps) = true
      · simp [updSteps, updNp_other, updLabel_other, updDir_other, h7, Cfg.set, V.isNum]
      · simp only [Bool.not_eq_true] at h7
        simp [updSteps, updNp_other, updLabel_other, updDir_other, h7, isNum_of_not_le0 h5 h7]
  · simp [h5]

theorem post_ok (c : Cfg) (h1 : (c .n_dim).isInt = true) (h2 : (c .n_particles).isInt = true) :
    ∃ c'', runStmts Gen.Validate.post c = .ok c'' := by
  simp only [Gen.Validate.post, runStmts, Stmt.run, eval]
  cases h : c .n_dim <;> simp [h, V.isInt] at h1 <;> cases h' : c .n_particles <;> simp [h', V.isInt] at h2 <;>
    cases (c .volume_variation).isNone <;> simp [V.addInt, V.cmpNum, V.intVal?]

/-! ### the documented constraints, written by hand -/

/-- a positive genuine Python `int` — a `bool` is NOT one (`validate()` excludes `isinstance(·, bool)`) -/
def posInt : V → Bool
  | .int n => decide (0 < n)
  | _ => false

/-- a positive FINITE number (int, float, or the bool `True`, which Python counts as the number 1): `> 0` and
    `math.isfinite` — so neither `nan` nor `+inf` -/
def posNum : V → Bool
  | .int n => decide (0 < n)
  | .bool b => b
  | .float (.fin q) => decide (0 < q)
  | _ => false

def isOneOf (v : V) (names : List String) : Bool :=
  match v with
  | .str s => names.contains s
  | _ => false

/-- a genuine int `k` (not a bool) with `0 ≤ k < d` -/
def intItem (d : Int) (i : V) : Bool :=
  match i with
  | .int k => decide (0 ≤ k) && decide (k < d)
  | _ => false

/-- an iterable all of whose items are genuine Python ints `i` with `0 ≤ i < d` -/
def indexList (d : Int) (v : V) : Bool :=
  match v.iter? with
  | some l => l.all (intItem d)
  | none => false

/-- two index collections have an item in common; items are compared by integer VALUE (as Python's `set` does: `True` and `1`
    are the same index) -/
def shareIndex (p r : V) : Bool :=
  match p.iter?, r.iter? with
  | some a, some b => a.any fun x => b.any fun y => match x.intVal?, y.intVal? with
    | some i, some j => i == j
    | _, _ => false
  | _, _ => false

/-- the constraints listed in the property statement -/
structure ValidListed (c : Cfg) : Prop where
  n_dim : posInt (c .n_dim) = true
  n_particles : (c .n_particles).isNone = true ∨ posInt (c .n_particles) = true
  ess_ratio : posNum (c .ess_ratio) = true
  volume_variation : (c .volume_variation).isNone = true ∨ posNum (c .volume_variation) = true
  sample : isOneOf (c .sample) ["tpcn", "rwm"] = true
  resample : isOneOf (c .resample) ["mult", "syst"] = true
  vec_blobs : ¬ ((c .vectorize).truthy = true ∧ (c .blobs_dtype).isNone = false)
  periodic : (c .periodic).isNone = true ∨ ∃ d, (c .n_dim).intVal? = some d ∧ indexList d (c .periodic) = true
  reflective : (c .reflective).isNone = true ∨ ∃ d, (c .n_dim).intVal? = some d ∧ indexList d (c .reflective) = true
  disjoint : (c .periodic).isNone = false → (c .reflective).isNone = false → shareIndex (c .periodic) (c .reflective) = false

/-- the remaining options the constructor looks at have their documented types -/
structure WellTyped (c : Cfg) : Prop where
  prior_transform : (c .prior_transform).isCallable = true
  log_likelihood : (c .log_likelihood).isCallable = true
  n_steps : noneOrNum (c .n_steps) = true
  n_max_steps : noneOrNum (c .n_max_steps) = true
  output_dir : (c .output_dir).isNone = true ∨ (c .output_dir).isStr = true ∨ (c .output_dir).isPath = true
  output_label : (c .output_label).isNone = true ∨ (c .output_label).isStr = true

/-! ### bridges between the hand-written predicates and the primitive tests -/

theorem posInt_iff (v : V) : posInt v = true ↔ v.isBool = false ∧ v.isInt = true ∧ v.cmp0 .le = .ok false := by
  cases v with
  | int n => simp [posInt, V.isBool, V.isInt, V.cmp0, Cmp.int]
  | bool b => simp [posInt, V.isBool]
  | _ => simp [posInt, V.isInt, V.cmp0]

theorem posInt_intVal {v : V} (h : posInt v = true) : ∃ d, v.intVal? = some d ∧ 0 < d := by
  cases v <;> simp_all [posInt, V.intVal?]

theorem posNum_iff (v : V) : posNum v = true ↔ v.isNum = true ∧ v.cmp0 .gt = .ok true ∧ v.isFinite = .ok true := by
  cases v with
  | int n => simp [posNum, V.isNum, V.cmp0, V.isFinite, Cmp.int]
  | bool b => cases b <;> simp [posNum, V.isNum, V.cmp0, V.isFinite, Cmp.int]
  | float f => cases f <;> simp [posNum, V.isNum, V.cmp0, V.isFinite, FV.cmp, FV.lt]
  | _ => simp [posNum, V.isNum, V.cmp0]

theorem isOneOf_iff (v : V) (l : List String) : isOneOf v l = true ↔ v.notIn l = false := by
  cases v <;> simp [isOneOf, V.notIn]

theorem idxOkStrict_eq (d : Int) (nd : V) (hd : nd.intVal? = some d) (x : V) :
    idxOkStrict .le 0 .lt nd x = .ok (intItem d x) := by
  unfold idxOkStrict intItem
  cases x <;> try rfl
  rename_i k
  have hk : (V.int k).intVal? = some k := rfl
  simp only [Cmp.int, V.cmpNum, hk, hd]
  by_cases h : (0 : Int) ≤ k <;> simp [h]

theorem allM_idxOkStrict (d : Int) (nd : V) (hd : nd.intVal? = some d) (l : List V) :
    allM (idxOkStrict .le 0 .lt nd) l = .ok (l.all (intItem d)) := by
  induction l with
  | nil => rfl
  | cons x xs ih =>
    simp only [allM, idxOkStrict_eq d nd hd, List.all_cons, ih]
    cases intItem d x <;> simp

theorem allIdxStrict_iff (d : Int) (nd : V) (hd : nd.intVal? = some d) (p : V) :
    V.allIdxStrict p .le 0 .lt nd = .ok true ↔ indexList d p = true := by
  unfold V.allIdxStrict
  unfold indexList
  cases h : p.iter? with
  | none => simp
  | some l => simp [allM_idxOkStrict d nd hd]

theorem intItem_intVal {d : Int} {x : V} (h : intItem d x = true) : ∃ k, x.intVal? = some k := by
  cases x <;> simp [intItem] at h
  exact ⟨_, rfl⟩

theorem overlap_of_indexLists (d d' : Int) (p r : V) (hp : indexList d p = true) (hr : indexList d' r = true) :
    p.overlap r = .ok (shareIndex p r) := by
  unfold indexList at hp hr
  unfold V.overlap V.toSet shareIndex
  cases h1 : p.iter? with
  | none => simp [h1] at hp
  | some a =>
    cases h2 : r.iter? with
    | none => simp [h2] at hr
    | some b =>
      simp only [h1, h2] at hp hr ⊢
      rw [List.all_eq_true] at hp hr
      have hashable : ∀ {d : Int} {l : List V}, (∀ x ∈ l, intItem d x = true) → l.all V.hashable = true := fun hl =>
        List.all_eq_true.mpr fun x hx => by
          obtain ⟨k, hk⟩ := intItem_intVal (hl x hx)
          exact hashable_of_intVal hk
      -- on two items with integer values Python's `==` is equality of the values
      have key : ∀ x ∈ a, ∀ y ∈ b, x.pyEq y = match x.intVal?, y.intVal? with
          | some i, some j => i == j
          | _, _ => false := fun x hx y hy => by
        obtain ⟨i, hi⟩ := intItem_intVal (hp x hx)
        obtain ⟨j, hj⟩ := intItem_intVal (hr y hy)
        rw [pyEq_of_intVal hi hj, hi, hj]
      simp only [hashable hp, hashable hr, if_true]
      congr 1
      rw [Bool.eq_iff_iff]
      simp only [List.any_eq_true]
      constructor <;> rintro ⟨x, hx, y, hy, hxy⟩ <;> exact ⟨x, hx, y, hy, by rw [key x hx y hy] at *; exact hxy⟩

/-! what each rule (or pair of rules, where `validate()` has two messages for one constraint) of the generated table tests, in the
    terms of the hand-written constraints; `s` is the configuration the rules run on -/

section
variable (s : Cfg) (f g : Field)

theorem callable_rule : eval s (.not (.isCallable f)) = .ok false ↔ (s f).isCallable = true := by
  simp only [eval_not, eval_isCallable, Except.ok.injEq, Bool.not_false]

/-- "n_dim must be positive int" -/
theorem posInt_rule : eval s (.or (.isBool f) (.or (.not (.isInt f)) (.cmp0 .le f))) = .ok false ↔ posInt (s f) = true := by
  simp only [eval_or_false, eval_not, eval_isBool, eval_isInt, eval_cmp0, Except.ok.injEq, Bool.not_false, posInt_iff]

/-- "n_particles must be int", "n_particles must be positive integer" -/
theorem posInt_rules :
    eval s (.or (.isBool f) (.not (.isInt f))) = .ok false ∧ eval s (.cmp0 .le f) = .ok false ↔ posInt (s f) = true := by
  simp only [eval_or_false, eval_not, eval_isBool, eval_isInt, eval_cmp0, Except.ok.injEq, Bool.not_false, posInt_iff, and_assoc]

/-- "ess_ratio must be numeric", "ess_ratio must be positive and finite" -/
theorem posNum_rules :
    eval s (.not (.isNum f)) = .ok false ∧ eval s (.or (.not (.cmp0 .gt f)) (.not (.isFinite f))) = .ok false ↔
      posNum (s f) = true := by
  simp only [eval_or_false, eval_not, eval_isNum, eval_cmp0, eval_isFinite, Except.ok.injEq, Bool.not_false, posNum_iff]

/-- "volume_variation must be numeric or None", "volume_variation ({}) must be positive and finite" -/
theorem nonePosNum_rules :
    eval s (.and (.not (.isNone f)) (.not (.isNum f))) = .ok false ∧
      eval s (.and (.and (.not (.isNone f)) (.not (.not (.isNum f)))) (.or (.not (.cmp0 .gt f)) (.not (.isFinite f)))) = .ok false ↔
      (s f).isNone = true ∨ posNum (s f) = true := by
  simp only [eval_and_false, eval_and_true, eval_or_false, eval_not, eval_isNone, eval_isNum, eval_cmp0, eval_isFinite,
    Except.ok.injEq, Bool.not_false, Bool.not_true, posNum_iff]
  cases (s f).isNone <;> cases (s f).isNum <;> simp

theorem name_rule (l : List String) : eval s (.notIn f l) = .ok false ↔ isOneOf (s f) l = true := by
  simp only [eval_notIn, Except.ok.injEq, isOneOf_iff]

/-- "Cannot vectorize likelihood with blobs" -/
theorem vec_blobs_rule :
    eval s (.and (.truthy f) (.not (.isNone g))) = .ok false ↔ ¬ ((s f).truthy = true ∧ (s g).isNone = false) := by
  simp only [eval_and_false, eval_not, eval_truthy, eval_isNone, Except.ok.injEq, Bool.not_false]
  cases (s f).truthy <;> cases (s g).isNone <;> simp

/-- "periodic / reflective indices must be integers in [0, {}]" -/
theorem index_rule (nd : Field) (d : Int) (hd : (s nd).intVal? = some d) :
    eval s (.and (.not (.isNone f)) (.not (.allIdxStrict f .le 0 .lt nd))) = .ok false ↔
      (s f).isNone = true ∨ indexList d (s f) = true := by
  simp only [eval_and_false, eval_not, eval_isNone, eval_allIdxStrict, Except.ok.injEq, Bool.not_false, Bool.not_true,
    allIdxStrict_iff d _ hd]
  cases (s f).isNone <;> simp

/-- "Parameters cannot be both periodic and reflective" -/
theorem overlap_rule (d : Int) (hp : (s f).isNone = true ∨ indexList d (s f) = true)
    (hr : (s g).isNone = true ∨ indexList d (s g) = true) :
    eval s (.and (.and (.not (.isNone f)) (.not (.isNone g))) (.overlap f g)) = .ok false ↔
      ((s f).isNone = false → (s g).isNone = false → shareIndex (s f) (s g) = false) := by
  simp only [eval_and_false, eval_and_true, eval_not, eval_isNone, eval_overlap, Except.ok.injEq, Bool.not_false, Bool.not_true]
  by_cases h1 : (s f).isNone = true
  · simp [h1]
  by_cases h2 : (s g).isNone = true
  · simp [h1, h2]
  rw [overlap_of_indexLists d d _ _ (hp.resolve_left h1) (hr.resolve_left h2)]
  simp [h1, h2]

theorem path_rule : eval s (.not (.isPath f)) = .ok false ↔ (s f).isPath = true := by
  simp only [eval_not, eval_isPath, Except.ok.injEq, Bool.not_false]

theorem label_rule :
    eval s (.and (.not (.isNone f)) (.not (.isStr f))) = .ok false ↔ (s f).isNone = true ∨ (s f).isStr = true := by
  simp only [eval_and_false, eval_not, eval_isNone, eval_isStr, Except.ok.injEq, Bool.not_false, Bool.not_true]
  cases (s f).isNone <;> simp

end

theorem stored_particles (v : V) (d : Int) (hd : 0 < d) :
    posInt (if v.isNone = true then V.int (2 * d) else v) = true ↔ v.isNone = true ∨ posInt v = true := by
  by_cases h : v.isNone = true
  · simpa [h, posInt] using by omega
  · simp [h]

theorem stored_dir (v : V) :
    (if (v.isNone || v.isStr) = true then V.path else v).isPath = true ↔ v.isNone = true ∨ v.isStr = true ∨ v.isPath = true := by
  cases v <;> simp [V.isNone, V.isStr, V.isPath]

theorem stored_label (v : V) :
    ((if v.isNone = true then V.str "ps" else v).isNone = true ∨ (if v.isNone = true then V.str "ps" else v).isStr = true) ↔
      v.isNone = true ∨ v.isStr = true := by
  cases v <;> simp [V.isNone, V.isStr]

theorem rules_pass_stored (s : Cfg) (d : Int) (hd : (s .n_dim).intVal? = some d) :
    (∀ r ∈ Gen.Validate.rules, eval s r.cond = .ok false) ↔
      (s .prior_transform).isCallable = true ∧ (s .log_likelihood).isCallable = true ∧ posInt (s .n_dim) = true ∧
      posInt (s .n_particles) = true ∧ posNum (s .ess_ratio) = true ∧
      ((s .volume_variation).isNone = true ∨ posNum (s .volume_variation) = true) ∧
      isOneOf (s .sample) ["tpcn", "rwm"] = true ∧ isOneOf (s .resample) ["mult", "syst"] = true ∧
      ¬ ((s .vectorize).truthy = true ∧ (s .blobs_dtype).isNone = false) ∧
      ((s .periodic).isNone = false → (s .reflective).isNone = false → shareIndex (s .periodic) (s .reflective) = false) ∧
      ((s .periodic).isNone = true ∨ indexList d (s .periodic) = true) ∧
      ((s .reflective).isNone = true ∨ indexList d (s .reflective) = true) ∧
      (s .output_dir).isPath = true ∧ ((s .output_label).isNone = true ∨ (s .output_label).isStr = true) := by
  simp only [Gen.Validate.rules, List.forall_mem_cons, List.not_mem_nil, false_imp_iff, implies_true, and_true]
  constructor
  · rintro ⟨hpt, hll, hnd, hnp1, hnp2, hes1, hes2, hvv1, hvv2, hs, hr, hvb, hov, hper, href, hod, hol⟩
    have hP := (index_rule s _ _ d hd).mp hper
    have hR := (index_rule s _ _ d hd).mp href
    exact ⟨(callable_rule s _).mp hpt, (callable_rule s _).mp hll, (posInt_rule s _).mp hnd, (posInt_rules s _).mp ⟨hnp1, hnp2⟩,
      (posNum_rules s _).mp ⟨hes1, hes2⟩, (nonePosNum_rules s _).mp ⟨hvv1, hvv2⟩, (name_rule s _ _).mp hs, (name_rule s _ _).mp hr,
      (vec_blobs_rule s _ _).mp hvb, (overlap_rule s _ _ d hP hR).mp hov, hP, hR, (path_rule s _).mp hod, (label_rule s _).mp hol⟩
  · rintro ⟨hpt, hll, hnd, hnp, hes, hvv, hs, hr, hvb, hov, hP, hR, hod, hol⟩
    obtain ⟨hnp1, hnp2⟩ := (posInt_rules s _).mpr hnp
    obtain ⟨hes1, hes2⟩ := (posNum_rules s _).mpr hes
    obtain ⟨hvv1, hvv2⟩ := (nonePosNum_rules s _).mpr hvv
    exact ⟨(callable_rule s _).mpr hpt, (callable_rule s _).mpr hll, (posInt_rule s _).mpr hnd, hnp1, hnp2, hes1, hes2, hvv1, hvv2,
      (name_rule s _ _).mpr hs, (name_rule s _ _).mpr hr, (vec_blobs_rule s _ _).mpr hvb, (overlap_rule s _ _ d hP hR).mpr hov,
      (index_rule s _ _ d hd).mpr hP, (index_rule s _ _ d hd).mpr hR, (path_rule s _).mpr hod, (label_rule s _).mpr hol⟩

theorem index_field {nd v : V} {d : Int} (hd : nd.intVal? = some d) :
    (v.isNone = true ∨ ∃ d', nd.intVal? = some d' ∧ indexList d' v = true) ↔ (v.isNone = true ∨ indexList d v = true) := by
  simp [hd]

/-- the part of the constraints that `validate()` itself decides (stated of the input; the rules run on `postCfg c d`) -/
structure RulesOK (c : Cfg) : Prop where
  listed : ValidListed c
  prior_transform : (c .prior_transform).isCallable = true
  log_likelihood : (c .log_likelihood).isCallable = true
  output_dir : (c .output_dir).isNone = true ∨ (c .output_dir).isStr = true ∨ (c .output_dir).isPath = true
  output_label : (c .output_label).isNone = true ∨ (c .output_label).isStr = true

theorem rules_pass_iff (c : Cfg) (d : Int) (hd : (c .n_dim).intVal? = some d) :
    (∀ r ∈ Gen.Validate.rules, eval (postCfg c d) r.cond = .ok false) ↔ RulesOK c := by
  rw [rules_pass_stored _ d (by rw [postCfg_frame _ _ _ (by decide)]; exact hd)]
  simp (discharger := decide) only [postCfg_frame, postCfg_n_particles, postCfg_output_dir, postCfg_output_label]
  constructor
  · rintro ⟨hpt, hll, hnd, hnp, hes, hvv, hs, hr, hvb, hov, hP, hR, hod, hol⟩
    obtain ⟨d', hd', hpos⟩ := posInt_intVal hnd
    rw [hd] at hd'; cases hd'
    exact ⟨⟨hnd, (stored_particles _ d hpos).mp hnp, hes, hvv, hs, hr, hvb, (index_field hd).mpr hP, (index_field hd).mpr hR, hov⟩,
      hpt, hll, (stored_dir _).mp hod, (stored_label _).mp hol⟩
  · rintro ⟨⟨hnd, hnp, hes, hvv, hs, hr, hvb, hper, href, hdis⟩, hpt, hll, hod, hol⟩
    obtain ⟨d', hd', hpos⟩ := posInt_intVal hnd
    rw [hd] at hd'; cases hd'
    exact ⟨hpt, hll, hnd, (stored_particles _ d hpos).mpr hnp, hes, hvv, hs, hr, hvb, hdis, (index_field hd).mp hper,
      (index_field hd).mp href, (stored_dir _).mpr hod, (stored_label _).mpr hol⟩

/-! ### the property at the level of `SamplerConfig(...)` -/

theorem runCfg_ok_iff_valid (c c' : Cfg) :
    runCfg Gen.Validate.spec c = .ok c' ↔
      ∃ d, (c .n_dim).intVal? = some d ∧ c' = postCfg c d ∧ ValidListed c ∧ WellTyped c := by
  rw [runCfg_ok_iff]
  show runStmts Gen.Validate.pre c = .ok c' ∧ validate Gen.Validate.rules c' = .accept ∧
      (∃ c'', runStmts Gen.Validate.post c' = .ok c'') ↔ _
  cases hd : (c .n_dim).intVal? with
  | none => rw [pre_notInt c (isInt_of_intVal_none hd)]; simp
  | some d =>
    rw [pre_closed c d hd]
    simp only [Option.some.injEq, exists_eq_left']
    constructor
    · rintro ⟨hpre, hv, -⟩
      by_cases hb : (noneOrNum (c .n_steps) && noneOrNum (c .n_max_steps)) = true
      · simp only [hb, if_true, Except.ok.injEq] at hpre
        subst hpre
        obtain ⟨hL, h1, h2, h3, h4⟩ := (rules_pass_iff c d hd).mp ((validate_accept_iff _ _).mp hv)
        simp only [Bool.and_eq_true] at hb
        exact ⟨rfl, hL, h1, h2, hb.1, hb.2, h3, h4⟩
      · simp [hb] at hpre
    · rintro ⟨rfl, hL, hW⟩
      refine ⟨by simp [hW.n_steps, hW.n_max_steps], (validate_accept_iff _ _).mpr ((rules_pass_iff c d hd).mpr
        ⟨hL, hW.prior_transform, hW.log_likelihood, hW.output_dir, hW.output_label⟩), post_ok _ ?_ ?_⟩
      · rw [postCfg_frame _ _ _ (by decide)]; exact isInt_of_intVal_some hd
      · rw [postCfg_n_particles]
        by_cases h' : (c .n_particles).isNone = true
        · simp [h', V.isInt]
        · simp [h', ((posInt_iff _).mp (hL.n_particles.resolve_left h')).2.1]

theorem C18_config_accept_iff (c : Cfg) :
    run Gen.Validate.spec c = .accept ↔ ValidListed c ∧ WellTyped c := by
  rw [run_accept_iff_runCfg]
  constructor
  · rintro ⟨c', h⟩
    obtain ⟨_, _, _, hL, hW⟩ := (runCfg_ok_iff_valid c c').mp h
    exact ⟨hL, hW⟩
  · rintro ⟨hL, hW⟩
    obtain ⟨d, hd, -⟩ := posInt_intVal hL.n_dim
    exact ⟨_, (runCfg_ok_iff_valid c _).mpr ⟨d, hd, rfl, hL, hW⟩⟩

/-- **C18 (rejection).**  Every configuration violating a documented constraint — in any combination, whatever the other
    options are — is not accepted by `SamplerConfig(...)`: the generated rule table rejects it (or evaluating it raises). -/
theorem C18_reject (c : Cfg) (h : ¬ ValidListed c) : run Gen.Validate.spec c ≠ .accept :=
  fun hacc => h ((C18_config_accept_iff c).mp hacc).1

/-- **C18 (no spurious rejection).** -/
theorem C18_accept (c : Cfg) (h : ValidListed c) (hw : WellTyped c) : run Gen.Validate.spec c = .accept :=
  (C18_config_accept_iff c).mpr ⟨h, hw⟩

/-- the options `validate()` reads in the current source -/
def validatedFields : List Field :=
  [.prior_transform, .log_likelihood, .n_dim, .n_particles, .ess_ratio, .volume_variation, .sample, .resample, .vectorize,
   .blobs_dtype, .periodic, .reflective, .output_dir, .output_label]

/-- **C18 (frame).**  The generated rule table reads no option outside the list above: configurations that agree on these
    get the same verdict from `validate()`, whatever pool, clustering, cadence, seeds … are. -/
theorem C18_validate_reads_only (c c' : Cfg) (h : ∀ f ∈ validatedFields, c f = c' f) :
    validate Gen.Validate.rules c = validate Gen.Validate.rules c' :=
  validate_congr _ c c' fun r hr f hf =>
    h f (List.contains_iff_mem.mp (List.all_eq_true.mp (List.all_eq_true.mp
      (by decide : (Gen.Validate.rules.all fun r => (exprFields r.cond).all validatedFields.contains) = true) r hr) f hf))

/-! ### one lemma per documented constraint (the offending option takes ANY value of the universe that violates it,
    every other option is arbitrary) -/

theorem C18_reject_n_dim (c : Cfg) (h : posInt (c .n_dim) = false) : run Gen.Validate.spec c ≠ .accept :=
  C18_reject c fun hv => by have := hv.n_dim; simp_all

theorem C18_reject_n_particles (c : Cfg) (h1 : (c .n_particles).isNone = false) (h2 : posInt (c .n_particles) = false) :
    run Gen.Validate.spec c ≠ .accept :=
  C18_reject c fun hv => by have := hv.n_particles; simp_all

theorem C18_reject_ess_ratio (c : Cfg) (h : posNum (c .ess_ratio) = false) : run Gen.Validate.spec c ≠ .accept :=
  C18_reject c fun hv => by have := hv.ess_ratio; simp_all

theorem C18_reject_volume_variation (c : Cfg) (h1 : (c .volume_variation).isNone = false)
    (h2 : posNum (c .volume_variation) = false) : run Gen.Validate.spec c ≠ .accept :=
  C18_reject c fun hv => by have := hv.volume_variation; simp_all

theorem C18_reject_kernel (c : Cfg) (h : isOneOf (c .sample) ["tpcn", "rwm"] = false) : run Gen.Validate.spec c ≠ .accept :=
  C18_reject c fun hv => by have := hv.sample; simp_all

theorem C18_reject_resampler (c : Cfg) (h : isOneOf (c .resample) ["mult", "syst"] = false) :
    run Gen.Validate.spec c ≠ .accept :=
  C18_reject c fun hv => by have := hv.resample; simp_all

theorem C18_reject_vectorize_blobs (c : Cfg) (h1 : (c .vectorize).truthy = true) (h2 : (c .blobs_dtype).isNone = false) :
    run Gen.Validate.spec c ≠ .accept :=
  C18_reject c fun hv => hv.vec_blobs ⟨h1, h2⟩

theorem C18_reject_periodic_index (c : Cfg) (d : Int) (hd : (c .n_dim).intVal? = some d) (h1 : (c .periodic).isNone = false)
    (h2 : indexList d (c .periodic) = false) : run Gen.Validate.spec c ≠ .accept :=
  C18_reject c fun hv => by have := (index_field hd).mp hv.periodic; simp_all

theorem C18_reject_reflective_index (c : Cfg) (d : Int) (hd : (c .n_dim).intVal? = some d) (h1 : (c .reflective).isNone = false)
    (h2 : indexList d (c .reflective) = false) : run Gen.Validate.spec c ≠ .accept :=
  C18_reject c fun hv => by have := (index_field hd).mp hv.reflective; simp_all

theorem C18_reject_overlap (c : Cfg) (h1 : (c .periodic).isNone = false) (h2 : (c .reflective).isNone = false)
    (h3 : shareIndex (c .periodic) (c .reflective) = true) : run Gen.Validate.spec c ≠ .accept :=
  C18_reject c fun hv => by have := hv.disjoint h1 h2; simp_all

/-! ### the property at the level of `Sampler(...)`: FunctionWrapper, then `SamplerConfig(...)`, then the wiring -/

theorem wrap_other (c : Cfg) (f : Field) (h : f ≠ .log_likelihood) : wrapFields Gen.Validate.wrapped c f = c f := by
  simp [wrapFields, Gen.Validate.wrapped, h]

theorem wrap_like (c : Cfg) : wrapFields Gen.Validate.wrapped c .log_likelihood = .callable := by
  simp [wrapFields, Gen.Validate.wrapped]

theorem validListed_wrap (c : Cfg) : ValidListed (wrapFields Gen.Validate.wrapped c) ↔ ValidListed c := by
  constructor
  · rintro ⟨h1, h2, h3, h4, h5, h6, h7, h8, h9, h10⟩
    simp only [wrap_other, ne_eq, reduceCtorEq, not_false_eq_true] at h1 h2 h3 h4 h5 h6 h7 h8 h9 h10
    exact ⟨h1, h2, h3, h4, h5, h6, h7, h8, h9, h10⟩
  · rintro ⟨h1, h2, h3, h4, h5, h6, h7, h8, h9, h10⟩
    constructor <;> simp only [wrap_other, ne_eq, reduceCtorEq, not_false_eq_true] <;> assumption

/-- the options `Sampler(...)` type-checks besides the listed constraints (the likelihood is wrapped, hence not among them) -/
structure SamplerTyped (c : Cfg) : Prop where
  prior_transform : (c .prior_transform).isCallable = true
  n_steps : noneOrNum (c .n_steps) = true
  n_max_steps : noneOrNum (c .n_max_steps) = true
  output_dir : (c .output_dir).isNone = true ∨ (c .output_dir).isStr = true ∨ (c .output_dir).isPath = true
  output_label : (c .output_label).isNone = true ∨ (c .output_label).isStr = true

theorem wellTyped_wrap (c : Cfg) : WellTyped (wrapFields Gen.Validate.wrapped c) ↔ SamplerTyped c := by
  constructor <;> rintro ⟨⟩ <;> constructor <;>
    simp only [wrap_other, wrap_like, ne_eq, reduceCtorEq, not_false_eq_true] at * <;> first | assumption | rfl

theorem runCfg_wrap_ok (c : Cfg) (d : Int) (hd : (c .n_dim).intVal? = some d) (hL : ValidListed c) (hT : SamplerTyped c) :
    runCfg Gen.Validate.spec (wrapFields Gen.Validate.wrapped c) = .ok (postCfg (wrapFields Gen.Validate.wrapped c) d) :=
  (runCfg_ok_iff_valid _ _).mpr ⟨d, by rw [wrap_other _ _ (by decide)]; exact hd, rfl,
    (validListed_wrap c).mpr hL, (wellTyped_wrap c).mpr hT⟩

/-- what `SamplerCore.__init__` / `HierarchicalGaussianMixture.__init__` need from the stored configuration -/
def WiringOK (c : Cfg) : Prop :=
  (c .clustering).truthy = true →
    noneOrNum (c .n_max_clusters) = true ∧ ∃ m, (c .split_threshold).toFloat = .ok m ∧ FV.le m (.fin 0) = false

theorem wire_ok_iff (c : Cfg) (hd : (c .n_dim).isInt = true) :
    (∃ w, wire Gen.Ctor.wiring c = .ok w) ↔ WiringOK c := by
  unfold WiringOK wire
  simp only [Gen.Ctor.wiring, WExpr.eval, mulInt_num 4 (isNum_of_isInt hd)]
  by_cases ht : (c .clustering).truthy = true
  · simp only [ht, if_true, true_implies]
    cases hm : c .n_max_clusters <;>
      simp [V.isNone, V.isNum, noneOrNum, V.addInt, FV.cmp] <;>
      cases hs : (c .split_threshold).toFloat <;> simp <;> (rename_i a; by_cases hle : a.le (.fin 0) = true <;> simp [hle])
  · simp [ht]

/-- **C18 at the constructor.**  `Sampler(...)` returns normally iff the listed constraints hold, the other options have
    their documented types, and the clusterer wiring is well defined (`split_threshold` positive when clustering is on). -/
theorem C18_construct_accept_iff (c : Cfg) :
    construct Gen.Validate.spec Gen.Ctor.wiring Gen.Validate.wrapped c = .accept ↔
      ValidListed c ∧ SamplerTyped c ∧ WiringOK c := by
  rw [construct_accept_iff]
  have hwire : ∀ d, (c .n_dim).intVal? = some d →
      ((∃ w, wire Gen.Ctor.wiring (postCfg (wrapFields Gen.Validate.wrapped c) d) = .ok w) ↔ WiringOK c) := fun d hd => by
    rw [wire_ok_iff _ (by rw [postCfg_frame _ _ _ (by decide), wrap_other _ _ (by decide)]; exact isInt_of_intVal_some hd)]
    unfold WiringOK
    simp (discharger := decide) only [postCfg_frame, wrap_other]
  constructor
  · rintro ⟨_, h, hw⟩
    obtain ⟨d, hd, rfl, hL, hT⟩ := (runCfg_ok_iff_valid _ _).mp h
    rw [wrap_other _ _ (by decide)] at hd
    exact ⟨(validListed_wrap c).mp hL, (wellTyped_wrap c).mp hT, (hwire d hd).mp hw⟩
  · rintro ⟨hL, hT, hW⟩
    obtain ⟨d, hd, -⟩ := posInt_intVal hL.n_dim
    exact ⟨_, runCfg_wrap_ok c d hd hL hT, (hwire d hd).mpr hW⟩

/-- **C18 (rejection, constructor level).**  Any violation of a listed constraint, in any combination and whatever the
    other options are, makes `Sampler(...)` raise. -/
theorem C18_construct_reject (c : Cfg) (h : ¬ ValidListed c) :
    construct Gen.Validate.spec Gen.Ctor.wiring Gen.Validate.wrapped c ≠ .accept :=
  fun hacc => h ((C18_construct_accept_iff c).mp hacc).1

/-- **C18 (wiring).**  When the clusterer is built: `max_iterations = n_max_clusters − 1` (1000 when None),
    `min_points = 4·n_dim` (None when no cap), `threshold_modifier = float(split_threshold)` and it is not `<= 0`. -/
theorem C18_wiring_sound (c : Cfg) (w : Wired) (h : wire Gen.Ctor.wiring c = .ok w) (hc : (c .clustering).truthy = true) :
    (∀ n, c .n_max_clusters = .int n → w.maxIter = .int (n - 1)) ∧
    (c .n_max_clusters = .none → w.maxIter = .int 1000 ∧ w.minPoints = .none) ∧
    (∀ n d, c .n_max_clusters = .int n → c .n_dim = .int d → w.minPoints = .int (4 * d)) ∧
    (c .split_threshold).toFloat = .ok w.threshold ∧ FV.le w.threshold (.fin 0) = false := by
  unfold wire at h
  simp only [Gen.Ctor.wiring, WExpr.eval, hc, if_true] at h
  -- `min_points` is the only place where `n_dim` matters: by cases on whether `4 * n_dim` is defined, not on `n_dim`
  cases hm : c .n_max_clusters <;> simp only [hm, V.isNone] at h <;>
    cases hmp : (c .n_dim).mulInt 4 <;> simp [hmp, V.addInt] at h <;>
    cases hs : (c .split_threshold).toFloat <;> simp [hs, FV.cmp] at h <;>
    (rename_i a; by_cases hle : a.le (.fin 0) = true <;> simp [hle] at h <;> subst h <;> simp_all <;> try omega)
  refine ⟨by omega, ?_⟩
  rintro n d rfl hd
  rw [hd] at hmp
  cases hmp
  rfl

/-- a cluster cap of at least one gives a non-negative split budget -/
theorem C18_wiring_cap_nonneg (c : Cfg) (w : Wired) (h : wire Gen.Ctor.wiring c = .ok w) (hc : (c .clustering).truthy = true)
    (n : Int) (hn : c .n_max_clusters = .int n) (h1 : 1 ≤ n) : ∃ m, w.maxIter = .int m ∧ 0 ≤ m :=
  ⟨n - 1, (C18_wiring_sound c w h hc).1 n hn, by omega⟩

/-- a number that is not `<= 0` (what `HierarchicalGaussianMixture.__init__` asks of `split_threshold`: `nan` and `+inf` pass) -/
def notLe0 : V → Bool
  | .int n => decide (0 < n)
  | .bool b => b
  | .float f => !(f.le (.fin 0))
  | _ => false

theorem toFloat_num_le (v : V) (hn : v.isNum = true) (hp : notLe0 v = false) :
    ∃ m, v.toFloat = .ok m ∧ FV.le m (.fin 0) = true := by
  cases v with
  | int n =>
    refine ⟨_, rfl, ?_⟩
    simp only [notLe0, decide_eq_false_iff_not] at hp
    simp only [FV.le, decide_eq_true_eq]
    exact Rat.intCast_nonpos.mpr (by omega)
  | bool b =>
    cases b
    · exact ⟨_, rfl, by simp [FV.le]⟩
    · simp [notLe0] at hp
  | float f => exact ⟨f, rfl, by simpa [notLe0] using hp⟩
  | _ => simp [V.isNum] at hn

/-- **C18 (split_threshold).**  With clustering on, the wiring step of the constructor fails for a numeric `split_threshold <= 0`
    (`HierarchicalGaussianMixture.__init__` raises `ValueError`) — still before any likelihood call.  Stated of `wire` on the
    configuration it is given; that `Sampler(...)` is then not accepted is the `WiringOK` part of `C18_construct_accept_iff`. -/
theorem C18_split_threshold_rejected (c : Cfg) (hc : (c .clustering).truthy = true) (hn : (c .split_threshold).isNum = true)
    (hp : notLe0 (c .split_threshold) = false) : ∀ w, wire Gen.Ctor.wiring c ≠ .ok w := by
  intro w h
  obtain ⟨_, _, _, h4, h5⟩ := C18_wiring_sound c w h hc
  obtain ⟨m, hm, hle⟩ := toFloat_num_le _ hn hp
  rw [h4] at hm
  cases hm
  rw [hle] at h5
  cases h5

/-! ### rejection happens before any likelihood call (structural, decided on the regenerated constructor table) -/

/-- callees that cannot reach user code -/
def harmlessCallees : List String :=
  ["isinstance", "callable", "type", "ValueError", "TypeError", "object.__setattr__", "Path", "warnings.warn", "errors.append",
   "set", "set().intersection", "all", "float", "math.isfinite", "dict.fromkeys", "<expr>.join", "len", "int", "str", "list", "dict", "tuple"]

/-- every call made by a constructor on the path of `Sampler(...)` is harmless or is itself an analysed constructor /
    `self.validate` -/
def ctorCallsClosed (t : List (String × String × List String)) : Bool :=
  t.all fun e => e.2.2.all fun callee =>
    harmlessCallees.contains callee || t.any (fun e' => e'.1 == callee) ||
      (callee == "self.validate" && t.any fun e' => e'.1 == e.1 && e'.2.1 == "validate")

def callsOf (t : List (String × String × List String)) (cls fn : String) : Option (List String) :=
  (t.find? fun e => e.1 == cls && e.2.1 == fn).map (·.2.2)

/-- **C18 (before any likelihood call).**  In the current source: no constructor on the path of `Sampler(...)` calls
    (an alias of) the likelihood; their calls are closed under the analysed set; `Sampler.__init__` builds
    `SamplerConfig(...)` — whose `__post_init__` calls `self.validate()` exactly once — before `SamplerCore(...)`;
    and `SamplerCore.__init__` is where the clusterer (hence the `split_threshold` check) is built. -/
theorem C18_before_likelihood :
    Gen.Ctor.likelihoodCalls = [] ∧
    ctorCallsClosed Gen.Ctor.ctorCalls = true ∧
    (callsOf Gen.Ctor.ctorCalls "Sampler" "__init__").map (·.filter fun x => x == "SamplerConfig" || x == "SamplerCore")
      = some ["SamplerConfig", "SamplerCore"] ∧
    (callsOf Gen.Ctor.ctorCalls "SamplerConfig" "__post_init__").map (·.count "self.validate") = some 1 ∧
    (callsOf Gen.Ctor.ctorCalls "SamplerCore" "__init__").map (·.count "HierarchicalGaussianMixture") = some 1 := by
  decide +kernel

/-! ### the covering arrays executed by the harness -/

theorem C18_covering_array_ok : wellFormed (levels Gen.Covering.pairFactors) Gen.Covering.pairRows = true ∧
    coversAllPairs (levels Gen.Covering.pairFactors) Gen.Covering.pairRows = true := by
  refine ⟨by decide +kernel, ?_⟩
  simp only [coversAllPairs, coversPair_eq_bits]
  decide +kernel

/-- thorough tier: the executed rows cover every TRIPLE of option values -/
theorem C18_covering_array_ok_3wise :
    wellFormed (levels Gen.Covering.tripleFactors) Gen.Covering.tripleRows = true ∧
    coversAllTriples (levels Gen.Covering.tripleFactors) Gen.Covering.tripleRows = true := by
  refine ⟨by decide +kernel, ?_⟩
  simp only [coversAllTriples, coversTriple_eq_bits]
  decide +kernel

def combos : List Nat → List (List Nat)
  | [] => [[]]
  | n :: ns => (List.range n).flatMap fun a => (combos ns).map (a :: ·)

def coversCombos (rows : List (List Nat)) (cols : List Nat) (want : List (List Nat)) : Bool :=
  want.all fun cb => rows.any fun r => cols.map (r[·]?) == cb.map some

/-- the interaction block executed in both tiers is the FULL factorial of the four columns `Gen.Covering.blockCols` lists (as
    generated: pool kind × save_every × likelihood kind × fresh/resumed; the statement does not name them): every combination of
    their values occurs in an executed row -/
theorem C18_interaction_block_full :
    wellFormed (levels Gen.Covering.pairFactors) Gen.Covering.blockRows = true ∧
    Gen.Covering.blockCols.length = 4 ∧
    coversCombos Gen.Covering.blockRows Gen.Covering.blockCols
      (combos (Gen.Covering.blockCols.map fun c => (levels Gen.Covering.pairFactors).getD c 0)) = true := by decide +kernel

/-- what `C18_covering_array_ok` means: for any two options and any pair of their values some executed row has both -/
theorem C18_pairs_covered (i j a b : Nat) (hij : i < j) (hj : j < (levels Gen.Covering.pairFactors).length)
    (ha : a < (levels Gen.Covering.pairFactors)[i]'(by omega)) (hb : b < (levels Gen.Covering.pairFactors)[j]) :
    ∃ r ∈ Gen.Covering.pairRows, r[i]? = some a ∧ r[j]? = some b :=
  coversAllPairs_sound _ _ C18_covering_array_ok.2 i j a b hij hj ha hb

theorem C18_triples_covered (i j k a b c : Nat) (hij : i < j) (hjk : j < k) (hk : k < (levels Gen.Covering.tripleFactors).length)
    (ha : a < (levels Gen.Covering.tripleFactors)[i]'(by omega)) (hb : b < (levels Gen.Covering.tripleFactors)[j]'(by omega))
    (hc : c < (levels Gen.Covering.tripleFactors)[k]) :
    ∃ r ∈ Gen.Covering.tripleRows, r[i]? = some a ∧ r[j]? = some b ∧ r[k]? = some c :=
  coversAllTriples_sound _ _ C18_covering_array_ok_3wise.2 i j k a b c hij hjk hk ha hb hc

/-! ### non-vacuity: concrete configurations through the generated tables -/

/-- `Sampler(prior, like, 3)` with every other option at the default regenerated from `Sampler.__init__` -/
def exampleCfg : Cfg := fun f =>
  match f with
  | .prior_transform => .callable
  | .log_likelihood => .callable
  | .n_dim => .int 3
  | f => match Gen.Validate.defaults.find? (·.1 == f) with
    | some (_, v) => v
    | none => .none

-- the default configuration is accepted, by `SamplerConfig(...)` and by `Sampler(...)`
example : run Gen.Validate.spec exampleCfg = .accept := by decide +kernel
example : construct Gen.Validate.spec Gen.Ctor.wiring Gen.Validate.wrapped exampleCfg = .accept := by decide +kernel
-- … and it satisfies the hand-written constraints (the hypotheses of `C18_accept` are satisfiable)
example : ValidListed exampleCfg ∧ WellTyped exampleCfg := (C18_config_accept_iff _).mp (by decide +kernel)
-- a valid non-default configuration: boundary indices, dynamic mode, string output_dir, wrapped non-callable likelihood
example : construct Gen.Validate.spec Gen.Ctor.wiring Gen.Validate.wrapped
    ((((((exampleCfg.set .periodic (.list [.int 0])).set .reflective (.list [.int 2, .int 1])).set .volume_variation
      (.float (.fin (1 / 2)))).set .output_dir (.str "out")).set .log_likelihood (.int 5)).set .n_max_clusters (.int 2)) = .accept := by
  decide +kernel
-- one violation: rejected with exactly the expected message(s), in order (n_dim = 0 also makes the default n_particles 0)
example : run Gen.Validate.spec (exampleCfg.set .n_dim (.int 0)) =
    .reject ["n_dim must be positive int, got {}", "n_particles must be positive integer, got {}"] := by decide +kernel
example : run Gen.Validate.spec (exampleCfg.set .resample (.str "systematic")) =
    .reject ["Invalid resample '{}': must be 'mult' or 'syst'"] := by decide +kernel
example : run Gen.Validate.spec (exampleCfg.set .n_dim (.float (.fin 3))) = .reject ["n_dim must be int, got {}"] := by
  decide +kernel
-- the upper index bound is exclusive: [2] is fine for n_dim = 3, [3] is not
example : run Gen.Validate.spec (exampleCfg.set .periodic (.list [.int 2])) = .accept := by decide +kernel
example : run Gen.Validate.spec (exampleCfg.set .periodic (.list [.int 3])) =
    .reject ["periodic indices must be integers in [0, {}], got {}"] := by decide +kernel
-- several violations at once are all reported; overlapping indices
example : run Gen.Validate.spec (((exampleCfg.set .periodic (.list [.int 0, .int 1])).set .reflective (.list [.int 1])).set
    .ess_ratio (.int 0)) =
    .reject ["ess_ratio must be positive and finite, got {}", "Parameters cannot be both periodic and reflective: {}"] := by decide +kernel
-- a bool is not a dimension / count / index, and a target must be finite
example : run Gen.Validate.spec (exampleCfg.set .n_dim (.bool true)) = .reject ["n_dim must be positive int, got {}"] := by
  decide +kernel
example : run Gen.Validate.spec (exampleCfg.set .n_particles (.bool true)) = .reject ["n_particles must be int, got {}"] := by
  decide +kernel
example : run Gen.Validate.spec (exampleCfg.set .ess_ratio (.float (.inf false))) =
    .reject ["ess_ratio must be positive and finite, got {}"] := by decide +kernel
example : run Gen.Validate.spec (exampleCfg.set .ess_ratio (.float .nan)) =
    .reject ["ess_ratio must be positive and finite, got {}"] := by decide +kernel
example : run Gen.Validate.spec (exampleCfg.set .volume_variation (.float (.inf false))) =
    .reject ["volume_variation ({}) must be positive and finite"] := by decide +kernel
example : run Gen.Validate.spec (exampleCfg.set .periodic (.list [.bool true])) =
    .reject ["periodic indices must be integers in [0, {}], got {}"] := by decide +kernel
-- Python facts the model carries: a str particle count raises TypeError (not ValueError); an unhashable index raises TypeError
example : run Gen.Validate.spec (exampleCfg.set .n_particles (.str "8")) = .raise .typeError := by decide +kernel
example : run Gen.Validate.spec ((exampleCfg.set .periodic (.list [.list [.int 0]])).set .reflective (.list [.int 1])) =
    .raise .typeError := by decide +kernel
-- split_threshold <= 0 passes SamplerConfig but not the constructor (HierarchicalGaussianMixture raises ValueError) …
example : run Gen.Validate.spec (exampleCfg.set .split_threshold (.int 0)) = .accept := by decide +kernel
example : construct Gen.Validate.spec Gen.Ctor.wiring Gen.Validate.wrapped (exampleCfg.set .split_threshold (.int 0)) =
    .raise .valueError := by decide +kernel
-- … unless clustering is off
example : construct Gen.Validate.spec Gen.Ctor.wiring Gen.Validate.wrapped
    ((exampleCfg.set .split_threshold (.int 0)).set .clustering (.bool false)) = .accept := by decide +kernel
-- hypotheses of the per-constraint lemmas are satisfiable
example : run Gen.Validate.spec (exampleCfg.set .sample (.str "hmc")) ≠ .accept :=
  C18_reject_kernel _ (by decide)
example : run Gen.Validate.spec (((exampleCfg.set .periodic (.list [.int 0])).set .reflective (.list [.bool false]))) ≠ .accept :=
  C18_reject_overlap _ (by decide) (by decide) (by decide)
-- wiring: with n_max_clusters = 2 the clusterer is built, max_iterations = 1 and min_points = 12
example : ∃ w, wire Gen.Ctor.wiring (exampleCfg.set .n_max_clusters (.int 2)) = .ok w :=
  (wire_ok_iff _ (by decide)).mpr fun _ => ⟨by decide, .fin 1, rfl, by decide +kernel⟩
example (w : Wired) (h : wire Gen.Ctor.wiring (exampleCfg.set .n_max_clusters (.int 2)) = .ok w) :
    w.maxIter = .int 1 ∧ w.minPoints = .int 12 :=
  ⟨(C18_wiring_sound _ w h (by decide)).1 2 rfl, (C18_wiring_sound _ w h (by decide)).2.2.1 2 3 rfl rfl⟩

end Props.C18
