import TempestVerif.Model.LogLike
import TempestVerif.Model.RecSM
/-
  C07 (clause audit) — `_log_like` hands back row-aligned arrays: row i of `logl` and of `blobs` is what the user's
  likelihood returned for row i of `x`, in every evaluation mode; a batch whose results do not all have the shape of
  the first one raises instead of producing misaligned arrays.  So `_log_like` IS the abstract `Model.RecSM.logLike`
  the run theorems are stated on.
-/
namespace Props.C07LogLike
open Model.LogLike

variable {X L I R : Type}

theorem tupParts_eq {rs : List (Ret L I)} {p : List L × List (List I)} (h : tupParts rs = some p) :
    p.1 = rs.map Ret.logl ∧ p.2 = rs.map Ret.items ∧ ∀ r ∈ rs, ∃ l items, r = Ret.tup l items := by
  induction rs generalizing p with
  | nil => cases h; exact ⟨rfl, rfl, fun _ hr => nomatch hr⟩
  | cons r rs ih =>
    cases r with
    | num l => cases h
    | tup l items =>
      obtain ⟨q, hq, rfl⟩ := Option.map_eq_some_iff.mp h
      obtain ⟨h1, h2, h3⟩ := ih hq
      exact ⟨congrArg (l :: ·) h1, congrArg (items :: ·) h2,
        fun r hr => (List.mem_cons.mp hr).elim (fun e => ⟨l, items, e⟩) (h3 r)⟩

theorem numParts_eq {rs : List (Ret L I)} {ls : List L} (h : numParts rs = some ls) :
    ls = rs.map Ret.logl ∧ ∀ r ∈ rs, ∃ l, r = Ret.num l := by
  induction rs generalizing ls with
  | nil => cases h; exact ⟨rfl, fun _ hr => nomatch hr⟩
  | cons r rs ih =>
    cases r with
    | tup l items => cases h
    | num l =>
      obtain ⟨q, hq, rfl⟩ := Option.map_eq_some_iff.mp h
      obtain ⟨h1, h2⟩ := ih hq
      exact ⟨congrArg (l :: ·) h1, fun r hr => (List.mem_cons.mp hr).elim (fun e => ⟨l, e⟩) (h2 r)⟩

theorem logLike_eq_some {mode : Mode} (hm : mode ≠ .vectorized) {lkVec : List X → List L} {lk : X → Ret L I}
    {pack : List (List I) → Option (List R)} {xs : List X} {out : List L × Option (List R)}
    (h : logLike mode lkVec lk pack xs = some out) :
    out.1 = xs.map (fun x => (lk x).logl) ∧
    ((firstHasBlobs (xs.map lk) = true ∧ (∀ x ∈ xs, ∃ l items, lk x = Ret.tup l items) ∧
        ∃ b, pack (xs.map fun x => (lk x).items) = some b ∧ out.2 = some b) ∨
      (firstHasBlobs (xs.map lk) = false ∧ (∀ x ∈ xs, ∃ l, lk x = Ret.num l) ∧ out.2 = none)) := by
  have h' : (if firstHasBlobs (xs.map lk) then
      (tupParts (xs.map lk)).bind fun p => (pack p.2).map fun b => (p.1, some b)
      else (numParts (xs.map lk)).map fun ls => (ls, none)) = some out := by
    cases mode <;> first | exact absurd rfl hm | exact h
  split at h'
  · rename_i hf
    obtain ⟨p, hp1, h'⟩ := Option.bind_eq_some_iff.mp h'
    obtain ⟨b, hb, rfl⟩ := Option.map_eq_some_iff.mp h'
    obtain ⟨e1, e2, e3⟩ := tupParts_eq hp1
    rw [e2, List.map_map] at hb
    exact ⟨e1.trans (List.map_map ..), .inl ⟨hf, fun x hx => e3 (lk x) (List.mem_map_of_mem hx), b, hb, rfl⟩⟩
  · rename_i hf
    obtain ⟨ls, hls, rfl⟩ := Option.map_eq_some_iff.mp h'
    obtain ⟨e1, e2⟩ := numParts_eq hls
    exact ⟨e1.trans (List.map_map ..),
      .inr ⟨Bool.eq_false_iff.mpr hf, fun x hx => e2 (lk x) (List.mem_map_of_mem hx), rfl⟩⟩

/-- serial and pool evaluation: `logl[i]` is the number the likelihood returned for `x[i]`; the blobs array exists exactly
    when the FIRST result carries blobs, and then row i is (the packed form of) the items returned for `x[i]` — for one
    fixed per-row function `norm`, the same for all rows -/
theorem C07_loglike_rows (mode : Mode) (hm : mode ≠ .vectorized) (lkVec : List X → List L) (lk : X → Ret L I)
    (pack : List (List I) → Option (List R)) (norm : List I → R) (hp : RowWise pack norm) (xs : List X)
    {out : List L × Option (List R)} (h : logLike mode lkVec lk pack xs = some out) :
    out.1 = xs.map (fun x => (lk x).logl) ∧
    out.2 = (if firstHasBlobs (xs.map lk) then some (xs.map fun x => norm (lk x).items) else none) := by
  obtain ⟨h1, ⟨hf, -, b, hb, e⟩ | ⟨hf, -, e⟩⟩ := logLike_eq_some hm h
  · rw [hf, e, hp _ _ hb, List.map_map]; exact ⟨h1, rfl⟩
  · rw [hf, e]; exact ⟨h1, rfl⟩

/-- a batch that mixes the two shapes raises: if `_log_like` returns, every result has the shape of the first one -/
theorem C07_loglike_uniform (mode : Mode) (hm : mode ≠ .vectorized) (lkVec : List X → List L) (lk : X → Ret L I)
    (pack : List (List I) → Option (List R)) (xs : List X)
    {out : List L × Option (List R)} (h : logLike mode lkVec lk pack xs = some out) :
    (firstHasBlobs (xs.map lk) = true ∧ ∀ x ∈ xs, ∃ l items, lk x = Ret.tup l items) ∨
    (firstHasBlobs (xs.map lk) = false ∧ ∀ x ∈ xs, ∃ l, lk x = Ret.num l) :=
  (logLike_eq_some hm h).2.imp (fun h => ⟨h.1, h.2.1⟩) (fun h => ⟨h.1, h.2.1⟩)

/-- vectorised evaluation hands the user's array through untouched and never has blobs -/
theorem C07_loglike_vectorized (lkVec : List X → List L) (lk : X → Ret L I) (pack : List (List I) → Option (List R))
    (xs : List X) : logLike .vectorized lkVec lk pack xs = some (lkVec xs, none) := rfl

/-- hence `_log_like` is the abstract likelihood of `Model.RecSM`: for a user function that always returns tuples with
    blobs (resp. always bare numbers) the wrapper's result is `RecSM.logLike` of the per-point function
    `x ↦ (logl, norm items)` with `lkBlobs` = "the first result has blobs" -/
theorem C07_loglike_refines (mode : Mode) (hm : mode ≠ .vectorized) (lkVec : List X → List L) (lk : X → Ret L I)
    (pack : List (List I) → Option (List R)) (norm : List I → R) (hp : RowWise pack norm) (xs : List X)
    (cfg : Model.RecSM.Cfg) (hcfg : cfg.lkBlobs = firstHasBlobs (xs.map lk))
    {out : List L × Option (List R)} (h : logLike mode lkVec lk pack xs = some out) :
    out = Model.RecSM.logLike cfg (fun x => ((lk x).logl, norm (lk x).items)) xs := by
  obtain ⟨h1, h2⟩ := C07_loglike_rows mode hm lkVec lk pack norm hp xs h
  exact Prod.ext h1 (h2.trans (hcfg ▸ rfl))

theorem packFlat_rowwise : RowWise (packFlat) (List.flatten) := by
  intro bs out h
  cases bs with
  | nil => cases h; rfl
  | cons b bs =>
    rw [packFlat] at h
    split at h
    · exact (Option.some.inj h).symm
    · cases h

/-- non-vacuity: two tuple results with a scalar and a 2-vector blob -/
example : logLike .serial (fun _ => ([] : List Int)) (fun x : Int => Ret.tup x [[x + 1], [x, 2 * x]]) packFlat [3, 5]
    = some ([3, 5], some [[4, 3, 6], [6, 5, 10]]) := by decide +kernel
/-- a later bare number after a tuple, and a tuple after a bare number, both raise -/
example : logLike .serial (fun _ => ([] : List Int))
    (fun x : Int => if x = 3 then Ret.tup x [[x]] else Ret.num x) packFlat [3, 5] = none := by decide +kernel
example : logLike .pool (fun _ => ([] : List Int))
    (fun x : Int => if x = 3 then Ret.num x else Ret.tup x [[x]]) packFlat [3, 5] = none := by decide +kernel
/-- a 1-tuple `(logl,)` is not "blobs" and `float((logl,))` raises -/
example : logLike .serial (fun _ => ([] : List Int)) (fun x : Int => Ret.tup x ([] : List (List Int))) packFlat [3] = none := by
  decide +kernel

end Props.C07LogLike
