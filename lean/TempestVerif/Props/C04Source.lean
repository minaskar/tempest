import TempestVerif.Model.Weights
import TempestVerif.Model.WeightsKeys
import TempestVerif.Model.PosteriorX
import TempestVerif.Model.ClosedLoop
import TempestVerif.Gen.WeightSrc
/-
  C04 — the executable models `Model.Weights` / `Model.WeightsKeys` (the weight function) and the arithmetic / decision
  part of `Model.Posterior` / `Model.PosteriorX` (what `posterior()` / `evidence()` hand out) are built from the expressions
  that are in /repo's `state_manager.py: compute_logw_and_logz` and `core.py: compute_posterior / compute_evidence` as they stand.

  `Gen/WeightSrc.lean` is regenerated from the source on every run of the check (translator G13b, second half of
  `translate/g13_wsites.py`): locals renamed `v0, v1, …` in order of first binding; every arithmetic right-hand side
  compiled, elementwise, to a term over `ScT α` (`logw_<path>`, `post_<path>`; `…_full` = with the arithmetic definitions of
  the locals substituted; parameters `a0 a1 …` = the leaves in a canonical order that does not depend on where a leaf stands in the
  expression — locals by number, then other leaves by text — so a swap of operands changes the TERM); every `if` test
  compiled to a Bool term (`…_test`); the `return` tree compiled to a function
  (`post_9_ret`); the statement skeleton, the source text of every parameter of every term (`…Leaves`) and the index gathers
  as tables.  The theorems below hold by `rfl` (or `cases <;> rfl` on Booleans / list constructors) for EVERY scalar type,
  `Float` — what the driver executes — included: the model's definitions unfold to the generated terms.  A changed operator,
  operand order, literal, test or branch in the source changes a generated term and breaks a theorem here; a dropped, added
  or reordered statement changes the paths (the names of the generated terms) and the skeleton tables.

  Canonical locals (rows of `logwCanon` / `postCanon`, pinned below):
    compute_logw_and_logz:  v0 beta  v1 logz_iter  v2 logl_all  v3 A  v4 logl_per_iter  v5 n_per_iter  (v6 comprehension index)
                            v7 N_total  v8 b  v9 log_mixture_weights  v10 b_weighted  v11 B  v12 logw  v13 logz_new
    compute_posterior:      v0 logw  v1 logz  v2 weights  v3 u  v4 x  v5 logl  v6 blobs  v7 idx

  Still hand-written (not part of /repo, or not arithmetic): numpy's primitives — `logaddexp` / `logaddexpReduce1`
  (`npy_logaddexp`, `ufunc.reduce` as a left fold), `Model.Ess.maxOf` / `Sc.sum` (`np.max`, `np.sum` as left folds),
  `np.ones(n)` = n ones, elementwise broadcasting as nested `map`, `get_history(.., flat=True)` as `flatMap` (`flatLogl`);
  and WHICH list each parameter of a generated term is instantiated with — that wiring is what the `…Leaves` tables and the
  skeletons pin as text.
-/
namespace Props.C04Src
open Gen.WeightSrc
variable {α : Type} [ScT α]

/-! ## `compute_logw_and_logz` → `Model.Weights` -/
section weights
open Model.Weights

/-- `b_weighted[s, t]`: statements 8–10 (`b`, `log_mixture_weights`, `b_weighted`), composed by the source's data flow
    (`logw_10_full`) and statement by statement.  `N` is `N_total` as a scalar; the model passes its logarithm. -/
theorem C04_src_entry (N l : α) (b : Batch α) :
    entry (ScT.log N) l b = logw_10_full b.beta b.logz l (Sc.ofNat b.logl.length) N ∧
    entry (ScT.log N) l b = logw_10 (logw_8 b.beta b.logz l) (logw_9 (Sc.ofNat b.logl.length) N) := ⟨rfl, rfl⟩

/-- `B[s] = np.logaddexp.reduce(b_weighted[s, :])` (statement 11: a leaf — numpy's reduction — over the generated entries) -/
theorem C04_src_mixLog (b0 : Batch α) (bs : List (Batch α)) (N l : α) :
    mixLog b0 bs (ScT.log N) l =
      logaddexpReduce1 (logw_10_full b0.beta b0.logz l (Sc.ofNat b0.logl.length) N)
        (bs.map fun b => logw_10_full b.beta b.logz l (Sc.ofNat b.logl.length) N) := rfl

/-- `A = logl_all * beta_final`, `logw = A - B` (statements 4, 12), with `N_total = n_per_iter.sum()` converted by `np.log` -/
theorem C04_src_rawLogw (b0 : Batch α) (bs : List (Batch α)) (beta : α) :
    rawLogw b0 bs beta =
      (flatLogl (b0 :: bs)).map (fun l =>
        logw_12 (logw_4 l beta) (mixLog b0 bs (ScT.log (Sc.ofNat (nTotal (b0 :: bs)))) l)) ∧
    rawLogw b0 bs beta =
      (flatLogl (b0 :: bs)).map (fun l =>
        logw_12_full l (mixLog b0 bs (ScT.log (Sc.ofNat (nTotal (b0 :: bs)))) l) beta) := ⟨rfl, rfl⟩

/-- the whole per-particle expression in the source's own terms: `β·ℓ − lae_t((ℓ·β_t − z_t) + (log n_t − log N))` -/
theorem C04_src_rawLogw_row (b0 : Batch α) (bs : List (Batch α)) (beta : α) :
    rawLogw b0 bs beta =
      (flatLogl (b0 :: bs)).map (fun l =>
        logw_12_full l
          (logaddexpReduce1
            (logw_10_full b0.beta b0.logz l (Sc.ofNat b0.logl.length) (Sc.ofNat (nTotal (b0 :: bs))))
            (bs.map fun b => logw_10_full b.beta b.logz l (Sc.ofNat b.logl.length) (Sc.ofNat (nTotal (b0 :: bs)))))
          beta) := rfl

/-- statements 13–15: `logz_new = lae(logw) − log(logw.size)`; `if normalize and logw.size: logw = logw − lae(logw)`.
    On the empty array the source's test is false (no normalisation) — the model returns `[]` there. -/
theorem C04_src_finish (w : List α) (normalize : Bool) :
    finish w normalize =
      (match w with
       | [] => ([], none)
       | w0 :: ws =>
         let lse := logaddexpReduce1 w0 ws
         (if logw_14_test normalize (w0 :: ws).length then (w0 :: ws).map (fun x => logw_14t_0 x lse) else w0 :: ws,
          some (logw_13 lse (Sc.ofNat (w0 :: ws).length)))) ∧
    logw_14_test normalize ([] : List α).length = false := by
  refine ⟨?_, by cases normalize <;> rfl⟩
  cases w with
  | nil => rfl
  | cons w0 ws => cases normalize <;> rfl

/-- statement 1 (`if beta.size == 0: return np.array([]), -np.inf`) and the rest of the function -/
theorem C04_src_logw (h : List (Batch α)) (beta : α) (normalize : Bool) :
    logw h beta normalize =
      if logw_1_test (h.map (·.beta)).length then ([], none)
      else match h with
        | [] => ([], none)
        | b0 :: bs => finish (rawLogw b0 bs beta) normalize := by
  cases h <;> rfl

end weights

/-! ## … → the key-level model `Model.WeightsKeys` -/
section keys
open Model.Weights Model.WeightsKeys

theorem C04_src_entryK (N l : α) (c : Col α) :
    entryK (ScT.log N) l c = logw_10_full c.beta c.logz l (Sc.ofNat c.n) N := rfl

theorem C04_src_rawK (c0 : Col α) (cr : List (Col α)) (N : α) (ls : List α) (betaF : α) :
    rawK (c0 :: cr) (ScT.log N) ls betaF =
      some (ls.map fun l =>
        logw_12_full l
          (logaddexpReduce1 (logw_10_full c0.beta c0.logz l (Sc.ofNat c0.n) N)
            (cr.map fun c => logw_10_full c.beta c.logz l (Sc.ofNat c.n) N))
          betaF) := rfl

/-- the early return is taken exactly when the source's test `beta.size == 0` holds, whatever the other keys hold -/
theorem C04_src_logwK_guard (k : KHist α) (betaF : α) (normalize : Bool) :
    k.beta.isEmpty = logw_1_test k.beta.length ∧
    (logw_1_test k.beta.length = true → logwK k betaF normalize = .ok [] none) := by
  rcases k with ⟨b, z, l⟩
  cases b with
  | nil => exact ⟨rfl, fun _ => rfl⟩
  | cons b0 bs => exact ⟨rfl, fun h => by cases h⟩

/-- `compute_results`: the cache test, then `logw, _ = self.compute_logw_and_logz(1.0)` — the literal target of the source and the
    signature's default `normalize=True` (no caller passes it: `C04_src_call_sites`) -/
theorem C04_src_computeResults (s : SMK α) :
    computeResults s =
      match s.cache with
      | some d => (s, .dict d)
      | none =>
        if ragged s.hist.logl then ({ s with cache := some .nologw }, .raised)
        else
          match logwK s.hist res_0t_2_arg0 logw_default_2 with
          | .ok w _ => ({ s with cache := some (.logw w) }, .dict (.logw w))
          | .outside => ({ s with cache := some .outside }, .dict .outside)
          | _ => ({ s with cache := some .nologw }, .raised) := rfl

omit [ScT α] in
/-- the cache is consulted exactly when the source's test `self._results_dict is None` fails -/
theorem C04_src_cache_test (s : SMK α) : res_0_test s.cache.isNone = s.cache.isNone := rfl

end keys

/-! ## the four observation points that fix the target temperature → `Model.ClosedLoop` (C10's closed-loop model):
      the literal `1.0` and the default `normalize=True` are the source's -/
section sites
open Model.Weights Model.ClosedLoop
variable {P TS G : Type}

theorem C04_src_finalLogz (s : CState α P TS G) :
    finalLogz s = (logw (batchesOf s.hist) site0_arg0 logw_default_2).2 := rfl

theorem C04_src_posteriorArrs (s : CState α P TS G) :
    posteriorArrs s =
      ⟨poolOf s.hist, flatLogl (batchesOf s.hist), poolOf s.hist, (logw (batchesOf s.hist) post_0_arg0 logw_default_2).1, []⟩ ∧
    (post_0_arg0 : α) = site1_arg0 := ⟨rfl, rfl⟩

theorem C04_src_contGuard (c : CCfg α) (s : CState α P TS G) :
    contGuard c s =
      Model.Run.notTermination c.tolTerm s.beta (logw (batchesOf s.hist) site2_arg0 logw_default_2).1 c.nTotal := rfl

/-- closed world: these are all the calls, each passes ONE positional argument (so `normalize` is the default everywhere) -/
theorem C04_src_call_sites : callSites =
    [("site0", "SamplerCore.run_sampling", "1.0"),
     ("site1", "SamplerCore.compute_posterior", "1.0"),
     ("site2", "SamplerCore._not_termination", "1.0"),
     ("site3", "StateManager.compute_results", "1.0"),
     ("site4", "Reweighter._compute_metric_and_weights", "beta"),
     ("site5", "Reweighter.run", "beta"),
     ("site6", "Reweighter.run", "beta")] ∧ (site3_arg0 : α) = res_0t_2_arg0 := ⟨rfl, rfl⟩

end sites

/-! ## `compute_posterior` → `Model.Posterior` / `Model.PosteriorX` -/
section posterior
open Model.Posterior Model.PosteriorX
variable {X L B : Type}

/-- `weights = np.exp(logw - np.max(logw))` -/
theorem C04_src_expShift (x : α) (xs : List α) :
    expShift x xs = (x :: xs).map fun l => post_1 l (Model.Ess.maxOf x xs) := rfl

/-- `weights /= np.sum(weights)` (the expression `Model.Ess.normalise` is used for here) -/
theorem C04_src_normalise (w : List α) : Model.Ess.normalise w = w.map fun y => post_2 y (Sc.sum w) := rfl

/-- statements 1–2 together; `none` = `np.max` of an empty array raises -/
theorem C04_src_weights0 :
    weights0 ([] : List α) = none ∧
    ∀ (x : α) (xs : List α), weights0 (x :: xs) =
      some (((x :: xs).map fun l => post_1 l (Model.Ess.maxOf x xs)).map fun y =>
        post_2 y (Sc.sum ((x :: xs).map fun l => post_1 l (Model.Ess.maxOf x xs)))) := ⟨rfl, fun _ _ => rfl⟩

/-- `weights = np.ones(len(idx)) / len(idx)` (leaves: `len(v7)` ↦ n, `np.ones(len(v7))` ↦ 1) -/
theorem C04_src_uniformW (n : Nat) :
    (uniformW n : List α) = List.replicate n (post_8t_7 (Sc.ofNat n) (Sc.ofNat 1)) := rfl

omit [ScT α] in
/-- the blob gate `if config.blobs_dtype is not None or state.get_current('blobs') is not None` -/
theorem C04_src_blobsOf (h : Hist X L B α) :
    blobsOf h =
      if post_6_test h.declared h.curBlobs then
        (match h.blobsHist with
         | [] => none
         | bs => some (some bs.flatten))
      else some none := rfl

omit [ScT α] in
/-- `if trim_importance_weights: …` then `if resample: …`, in this order, each on its own flag -/
theorem C04_src_bodyOWith (trimFields resFields : List String) (trimFn : List α → Option (List Nat × List α))
    (resFn : List α → Option (List Nat)) (uniform : Nat → List α) (o : Opts) (a : ArrsO X L B α) :
    bodyOWith trimFields resFields trimFn resFn uniform o a =
      (if post_7_test o.trim then
          (trimFn a.w).bind fun t => (gatherArrsO trimFields t.1 a).map fun a' => { a' with w := t.2 }
        else some a).bind fun a1 =>
      if post_8_test o.resample then
        (resFn a1.w).bind fun idx => (gatherArrsO resFields idx a1).map fun a' => { a' with w := uniform idx.length }
      else some a1 := rfl

/-- `if blobs is not None: blobs = blobs[idx]` — blobs are gathered only when present (tests `post_7t_6_test`, `post_8t_6_test`) -/
theorem C04_src_gatherBlobs (fields : List String) (idx : List Nat) (b : Option (List B)) (hf : fields.contains "blobs" = true) :
    gatherBlobs fields idx b =
      (if post_7t_6_test b.isSome then b.bind fun v => (Model.Records.gather? v idx).map some else some none) ∧
    gatherBlobs fields idx b =
      (if post_8t_6_test b.isSome then b.bind fun v => (Model.Records.gather? v idx).map some else some none) := by
  cases b with
  | none => exact ⟨rfl, rfl⟩
  | some v =>
    have hm : "blobs" ∈ fields := by simpa using hf
    simp [gatherBlobs, hm, post_7t_6_test, post_8t_6_test]

/-- the model's name for a canonical local of `compute_posterior` (rows 0–6 of `postCanon`: `v0, v1 = compute_logw_and_logz(1.0)`,
    `v2 = np.exp(…)`, `v3/v4/v5 = get_history('u'/'x'/'logl', flat=True)`, `v6 = get_history('blobs', flat=True) | None`) -/
def postVar : String → String
  | "v0" => "logw" | "v2" => "weights" | "v3" => "u" | "v4" => "x" | "v5" => "logl" | "v6" => "blobs" | s => s

omit [ScT α] in
/-- the four `return` statements: `return_blobs and blobs is not None`, then `return_logw` -/
theorem C04_src_select (o : Opts) (a : ArrsO X L B α) :
    (select o a).map Col.name = (post_9_ret o.returnBlobs o.returnLogw a.b.isSome).map postVar := by
  rcases o with ⟨rs, tr, rb, rl⟩
  rcases a with ⟨x, l, b, lw, w⟩
  cases rb
  · cases rl <;> rfl
  · cases rl <;> cases b <;> rfl

theorem C04_src_returnNames (haveBlobs : Bool) (o : Opts) :
    returnNames haveBlobs o = (post_9_ret o.returnBlobs o.returnLogw haveBlobs).map postVar := by
  rcases o with ⟨rs, tr, rb, rl⟩
  cases rb
  · cases rl <;> rfl
  · cases rl <;> cases haveBlobs <;> rfl

theorem C04_src_ret_tree (rb present rl : Bool) :
    post_9_ret rb rl present = (if post_9_test rb present then post_9t_0_ret rl else post_9e_0_ret rl) ∧
    post_9t_0_test rl = rl ∧ post_9e_0_test rl = rl := ⟨rfl, rfl, rfl⟩

/-- which arrays each branch gathers, and by which index: the field lists the models are instantiated with
    (`Gen.Tables.posteriorTrimGather / posteriorResampleGather` of G5) re-derived with their paths; the blob gathers are the
    guarded ones (`7t.6t.0`, `8t.6t.0`) -/
theorem C04_src_post_gathers :
    postGathers.map (fun g => (g.1, postVar g.2.1, g.2.2)) =
      [("7t.2", "u", "v7"), ("7t.3", "x", "v7"), ("7t.4", "logl", "v7"), ("7t.5", "logw", "v7"), ("7t.6t.0", "blobs", "v7"),
       ("8t.2", "u", "v7"), ("8t.3", "x", "v7"), ("8t.4", "logl", "v7"), ("8t.5", "logw", "v7"), ("8t.6t.0", "blobs", "v7")] := rfl

end posterior

/-! ## the statement skeletons and the leaf tables the models were written against (locals canonical) -/

def expected_logwCanon : List String :=
  ["0: v0 = np.asarray(self.get_history('beta'))",
   "1: if v0.size == 0",
   "1t.0: return (np.array([]), -np.inf)",
   "2: v1 = np.asarray(self.get_history('logz'))",
   "3: v2 = self.get_history('logl', flat=True)",
   "4: v3 = v2 * beta_final",
   "5: v4 = self._history.get('logl')",
   "6: v5 = np.array([len(v4[v6]) for v6 in range(len(v0))])",
   "7: v7 = v5.sum()",
   "8: v8 = v2[:, None] * v0[None, :] - v1[None, :]",
   "9: v9 = np.log(v5) - np.log(v7)",
   "10: v10 = v8 + v9[None, :]",
   "11: v11 = np.logaddexp.reduce(v10, axis=1)",
   "12: v12 = v3 - v11",
   "13: v13 = np.logaddexp.reduce(v12) - np.log(v12.size)",
   "14: if normalize and v12.size",
   "14t.0: v12 = v12 - np.logaddexp.reduce(v12)",
   "15: return (v12, v13)"]

theorem C04_src_logw_canon : logwCanon = expected_logwCanon := rfl

/-- what every parameter of every generated term of `compute_logw_and_logz` IS in the source: in particular the axes
    (`v2[:, None]` per particle, `v0[None, :]`, `v1[None, :]`, `v5` per iteration), that `B` (`v11`) is the reduction of
    `b_weighted` (`v10`, row 11 of the skeleton), that the evidence and the normalisation reduce the SAME `v12`, and that the
    mean is over `v12.size` -/
def expected_logwLeaves : List (String × List String) :=
  [("logw_default_1", ["beta_final=1.0"]),
   ("logw_default_2", ["normalize=True"]),
   ("logw_1_test", ["v0.size"]),
   ("logw_4", ["v2", "beta_final"]),
   ("logw_8", ["v0[None, :]", "v1[None, :]", "v2[:, None]"]),
   ("logw_9", ["v5", "v7"]),
   ("logw_10", ["v8", "v9[None, :]"]),
   ("logw_10_full", ["v0[None, :]", "v1[None, :]", "v2[:, None]", "v5", "v7"]),
   ("logw_12", ["v3", "v11"]),
   ("logw_12_full", ["v2", "v11", "beta_final"]),
   ("logw_13", ["np.logaddexp.reduce(v12)", "v12.size"]),
   ("logw_14_test", ["normalize", "v12.size"]),
   ("logw_14t_0", ["v12", "np.logaddexp.reduce(v12)"]),
   ("logw_14t_0_full", ["v2", "v11", "beta_final", "np.logaddexp.reduce(v12)"])]

theorem C04_src_logw_leaves : logwLeaves = expected_logwLeaves := rfl

def expected_postCanon : List String :=
  ["0: v0, v1 = self.state.compute_logw_and_logz(1.0)",
   "1: v2 = np.exp(v0 - np.max(v0))",
   "2: v2 /= np.sum(v2)",
   "3: v3 = self.state.get_history('u', flat=True)",
   "4: v4 = self.state.get_history('x', flat=True)",
   "5: v5 = self.state.get_history('logl', flat=True)",
   "6: if self.config.blobs_dtype is not None or self.state.get_current('blobs') is not None",
   "6t.0: v6 = self.state.get_history('blobs', flat=True)",
   "6e.0: v6 = None",
   "7: if trim_importance_weights",
   "7t.0: from .tools import trim_weights",
   "7t.1: v7, v2 = trim_weights(np.arange(len(v2)), v2, ess=ess_trim, bins=bins_trim)",
   "7t.2: v3 = v3[v7]",
   "7t.3: v4 = v4[v7]",
   "7t.4: v5 = v5[v7]",
   "7t.5: v0 = v0[v7]",
   "7t.6: if v6 is not None",
   "7t.6t.0: v6 = v6[v7]",
   "8: if resample",
   "8t.0: from .tools import systematic_resample",
   "8t.1: v7 = systematic_resample(len(v2), v2)",
   "8t.2: v3 = v3[v7]",
   "8t.3: v4 = v4[v7]",
   "8t.4: v5 = v5[v7]",
   "8t.5: v0 = v0[v7]",
   "8t.6: if v6 is not None",
   "8t.6t.0: v6 = v6[v7]",
   "8t.7: v2 = np.ones(len(v7)) / len(v7)",
   "9: if return_blobs and v6 is not None",
   "9t.0: if return_logw",
   "9t.0t.0: return (v4, v2, v5, v6, v0)",
   "9t.0e.0: return (v4, v2, v5, v6)",
   "9e.0: if return_logw",
   "9e.0t.0: return (v4, v2, v5, v0)",
   "9e.0e.0: return (v4, v2, v5)"]

theorem C04_src_post_canon : postCanon = expected_postCanon := rfl

def expected_postLeaves : List (String × List String) :=
  [("post_default_1", ["resample=False"]),
   ("post_default_2", ["return_blobs=False"]),
   ("post_default_3", ["trim_importance_weights=True"]),
   ("post_default_4", ["return_logw=False"]),
   ("post_default_5", ["ess_trim=0.99"]),
   ("post_default_6", ["bins_trim=1000"]),
   ("post_0_arg0", []),
   ("post_1", ["v0", "np.max(v0)"]),
   ("post_2", ["v2", "np.sum(v2)"]),
   ("post_2_full", ["v0", "np.max(v0)", "np.sum(v2)"]),
   ("post_6_test", ["self.config.blobs_dtype is not None", "self.state.get_current('blobs') is not None"]),
   ("post_7_test", ["trim_importance_weights"]),
   ("post_7t_6_test", ["v6 is not None"]),
   ("post_8_test", ["resample"]),
   ("post_8t_6_test", ["v6 is not None"]),
   ("post_8t_7", ["len(v7)", "np.ones(len(v7))"]),
   ("post_9_test", ["return_blobs", "v6 is not None"]),
   ("post_9_ret", ["return_blobs", "return_logw", "v6 is not None"]),
   ("post_9t_0_test", ["return_logw"]),
   ("post_9t_0_ret", ["return_logw"]),
   ("post_9e_0_test", ["return_logw"]),
   ("post_9e_0_ret", ["return_logw"])]

theorem C04_src_post_leaves : postLeaves = expected_postLeaves := rfl

/-- `compute_results` (mirrored by `Model.WeightsKeys.computeResults`): the cache is assigned BEFORE the loop that can raise -/
theorem C04_src_res_canon : resCanon =
    ["0: if self._results_dict is None",
     "0t.0: self._results_dict = dict()",
     "0t.1: for v0 in self._history.keys()",
     "0t.1.0: self._results_dict[v0] = self.get_history(v0)",
     "0t.2: v1, _ = self.compute_logw_and_logz(1.0)",
     "0t.3: self._results_dict['logw'] = v1",
     "1: return {v2: self._ensure_copy(v3) for v2, v3 in self._results_dict.items()}"] ∧
    resLeaves = [("res_0_test", ["self._results_dict is None"]), ("res_0t_2_arg0", [])] := ⟨rfl, rfl⟩

/-- `evidence()` hands out the current `logz` slot (what the epilogue of `run_sampling` wrote: `Model.ClosedLoop.evidence`) -/
theorem C04_src_evid_canon :
    evidCanon = ["0: v0 = self.state.get_current('logz')", "1: return (v0, getattr(self, 'logz_err', None))"] ∧
    evidLeaves = [] := ⟨rfl, rfl⟩

/-! ## non-vacuity: the model runs at `Float`; the generated return tree and tests on concrete flags -/

example : (Model.Weights.logw [⟨(0.0 : Float), 0.0, [1.0, 2.0]⟩, ⟨1.0, 0.5, [3.0]⟩] 1.0 true).1.length = 3 := by
  simp [Model.Weights.logw, Model.Weights.finish, Model.Weights.rawLogw, Model.Weights.flatLogl]

example : post_9_ret true false true = ["v4", "v2", "v5", "v6"] := rfl
example : logw_14_test true 3 = true ∧ logw_14_test true 0 = false ∧ logw_1_test 0 = true ∧ logw_1_test 2 = false := by decide

end Props.C04Src
