import TempestVerif.Model.ClosedLoop
import TempestVerif.Model.TrimSites
import TempestVerif.Lemmas.ClosedLoop
import TempestVerif.Props.C05Pipeline
/-
  C05 on the CLOSED-LOOP model of a whole run (`Model.ClosedLoop`, tied to the real sampler by the trace replay `cl.F`):
  BOTH metric modes, with nothing about the schedule read from a tape.

  In `Props/C05Pipeline.lean` (ESS mode only) the proposals and the number of accept/reject steps arrive on a tape and the trainer
  is invisible.  Here the oracle the reweighting step consults is

      clM W c s β = (w, ess w, metric)      w = exp(logw − max logw)  for the C04 log-weights of the stored history of `s`,
                                            ess = the C20 effective sample size,
                                            metric = ess w  (ESS mode)  |  W.volvar pool (normalise w) β  (volume-variation mode)

  and `Trainer.run`, `Resampler.run`, the mutation loop and the `while _not_termination()` loop are part of the model.
-/
namespace Props.C05
open Model.ClosedLoop Model.Weights Model.Reweight Model.Ess
open Model.Records (gather?)
open Model.Pipeline (oracleM oracleZ isFin returnedWeights)

variable {P MS TS G : Type}

/-- the metric oracle the reweighting step of state `s` consults -/
noncomputable def clM (W : World ℝ P MS TS G) (c : CCfg ℝ) (s : CState ℝ P TS G) : ℝ → List ℝ × ℝ × ℝ :=
  oracleMV W c.rw.vv (poolOf s.hist) (batchesOf s.hist)

theorem clM_w (W : World ℝ P MS TS G) (c : CCfg ℝ) (s : CState ℝ P TS G) (β : ℝ) :
    (clM W c s β).1 = (oracleM (batchesOf s.hist) β).1 :=
  Lemmas.ClosedLoop.oracleMV_fst W _ _ _ β

theorem clM_ess (W : World ℝ P MS TS G) (c : CCfg ℝ) (s : CState ℝ P TS G) (β : ℝ) :
    (clM W c s β).2.1 = ess (oracleM (batchesOf s.hist) β).1 :=
  Lemmas.ClosedLoop.oracleMV_ess W _ _ _ β

/-- volume-variation mode: the metric is the world's `volume_variation` of the pool records and the NORMALISED weights at β -/
theorem clM_metric (W : World ℝ P MS TS G) (c : CCfg ℝ) (s : CState ℝ P TS G) (v β : ℝ) (hv : c.rw.vv = some v) :
    (clM W c s β).2.2 = W.volvar (poolOf s.hist) (normalise (oracleM (batchesOf s.hist) β).1) β := by
  unfold clM; rw [hv]; rfl

theorem reweightStep_clM (W : World ℝ P MS TS G) (c : CCfg ℝ) (s : CState ℝ P TS G) :
    reweightStep W c s = run c.rw s.hist.isEmpty (clM W c s) (oracleZ (batchesOf s.hist)) isFin s.beta :=
  Lemmas.ClosedLoop.reweightStep_eq W c s

theorem trainStep_of_zero (W : World ℝ P MS TS G) (c : CCfg ℝ) (ts : TS) (g : G) (w : List ℝ) (pool : List P) (β : ℝ) (iter : Nat)
    (hβ : β = 0) : trainStep W c ts g w pool β iter = some (W.dummy, ts, g) :=
  Lemmas.ClosedLoop.trainStep_zero W c ts g w pool β iter (eqv_zero.mpr hβ)

theorem trainStep_of_ne_zero (W : World ℝ P MS TS G) (c : CCfg ℝ) (ts : TS) (g : G) (w : List ℝ) (pool : List P) (β : ℝ) (iter : Nat)
    (hβ : β ≠ 0) : trainStep W c ts g w pool β iter = (trainInput c w pool).map fun t => W.train ts g t.1 t.2 β iter :=
  Lemmas.ClosedLoop.trainStep_pos W c ts g w pool β iter (Bool.eq_false_iff.mpr (mt eqv_zero.mp hβ))

/-- **One iteration, either metric mode** (state `s` with a non-empty history and β ≤ 1):
    the recorded β lies between the previous β and the ESS-limited temperature `β_upper` (`_find_beta_upper_limit` on the pool's
    own ESS), which is at most 1; if β advanced, the pool's effective sample size AT `β_upper` — the C20 ESS of the C04 weights
    of the stored history — is at least `ess_ratio · n_particles`; in ESS mode it is at least the target at the new β itself
    (and that is the ESS recorded for the iteration). -/
theorem C05_cl_iteration (W : World ℝ P MS TS G) (c : CCfg ℝ) (s s1 : CState ℝ P TS G) (o : CIterOut ℝ P)
    (h : Model.ClosedLoop.iterate W c s = some (s1, o)) (hne : s.hist ≠ []) (hb : s.beta ≤ 1) :
    s.beta ≤ o.beta ∧
    o.beta ≤ (upperLimit (clM W c s) c.rw.target c.rw.tolB c.rw.fuel s.beta).beta ∧
    (upperLimit (clM W c s) c.rw.target c.rw.tolB c.rw.fuel s.beta).beta ≤ 1 ∧
    (o.beta ≠ s.beta → c.rw.target ≤
      ess (oracleM (batchesOf s.hist) (upperLimit (clM W c s) c.rw.target c.rw.tolB c.rw.fuel s.beta).beta).1) ∧
    (c.rw.vv = none → o.beta ≠ s.beta →
      c.rw.target ≤ ess (oracleM (batchesOf s.hist) o.beta).1 ∧ c.rw.target ≤ o.ess) := by
  have f := Lemmas.ClosedLoop.iterated W c s s1 o h
  have ob := f.beta
  have oe := f.ess
  rw [reweightStep_clM, List.isEmpty_eq_false_iff.mpr hne] at ob oe
  obtain ⟨a1, a2, a3, a4, a5⟩ := run_limit c.rw (clM W c s) (oracleZ (batchesOf s.hist)) isFin s.beta hb
  rw [← ob] at a1 a2 a4 a5
  rw [clM_ess] at a4 a5
  refine ⟨a1, a2, a3, a4, fun hv hadv => ⟨a5 hv hadv, ?_⟩⟩
  -- the recorded ESS is the oracle's at the recorded β
  rw [oe, (C05_same_temperature c.rw (clM W c s) (oracleZ (batchesOf s.hist)) isFin s.beta).2.1, ← ob, clM_ess]
  exact a5 hv hadv

/-- **The ESS-limited temperature of the pool is tight** (either mode; it depends on the state only): with the BETA_TOLERANCE regenerated
    from /repo (translator G1) and the driver's fuel, `β_upper = 1`, or there is a temperature at most BETA_TOLERANCE above it at
    which the pool's ESS is BELOW the target; the search made at most 14 halvings and was not cut short by the model's fuel. -/
theorem C05_cl_limit_tight (W : World ℝ P MS TS G) (c : CCfg ℝ) (s : CState ℝ P TS G) (h0 : 0 ≤ s.beta) (hb : s.beta ≤ 1)
    (htol : c.rw.tolB = genBetaTol) (hfuel : c.rw.fuel = 64) :
    ((upperLimit (clM W c s) c.rw.target c.rw.tolB c.rw.fuel s.beta).beta = 1 ∨
      ∃ b, (upperLimit (clM W c s) c.rw.target c.rw.tolB c.rw.fuel s.beta).beta ≤ b ∧
        b ≤ (upperLimit (clM W c s) c.rw.target c.rw.tolB c.rw.fuel s.beta).beta + genBetaTol ∧ b ≤ 1 ∧
        ess (oracleM (batchesOf s.hist) b).1 < c.rw.target) ∧
    (upperLimit (clM W c s) c.rw.target c.rw.tolB c.rw.fuel s.beta).steps ≤ 14 ∧
    (upperLimit (clM W c s) c.rw.target c.rw.tolB c.rw.fuel s.beta).branch ≠ Branch.upFuel := by
  have ht : (1 : ℝ) / 10000 ≤ c.rw.tolB := by rw [htol]; exact C05_gen_tolerances.1
  obtain ⟨f1, f2, _⟩ := C05_upper_fuel (clM W c s) c.rw.target c.rw.tolB c.rw.fuel s.beta h0 hb ht (by omega)
  refine ⟨?_, f2, f1⟩
  rcases C05_upper_tight (clM W c s) c.rw.target c.rw.tolB c.rw.fuel s.beta hb (by linarith) f1 with e | ⟨b, b1, b2, b3, b4⟩
  · left; exact e
  · right; refine ⟨b, b1, by rw [← htol]; exact b2, b3, ?_⟩
    rw [← clM_ess W c s]; exact b4

/-- **Same temperature** (either mode, non-empty history): the weights handed on by `Reweighter.run` are the pool's normalised
    weights at the recorded β, the recorded ESS is the C20 ESS of the pool's weights at that β, the evidence written by the
    reweighting step is the pool's estimate at that β; the state carries that β into the trainer / resampler / mutation and the
    committed batch is labelled with it. -/
theorem C05_cl_same_temperature (W : World ℝ P MS TS G) (c : CCfg ℝ) (s s1 : CState ℝ P TS G) (o : CIterOut ℝ P)
    (h : Model.ClosedLoop.iterate W c s = some (s1, o)) (hne : s.hist ≠ []) :
    o.weights = normalise (oracleM (batchesOf s.hist) o.beta).1 ∧
    o.ess = ess (oracleM (batchesOf s.hist) o.beta).1 ∧
    o.logzRw = oracleZ (batchesOf s.hist) o.beta ∧
    s1.beta = o.beta ∧ s1.ess = o.ess ∧
    ∃ b : CBatch ℝ P, s1.hist = s.hist ++ [b] ∧ b.beta = o.beta ∧ b.ess = o.ess := by
  have f := Lemmas.ClosedLoop.iterated W c s s1 o h
  have ob := f.beta
  have oe := f.ess
  have oz := f.logzRw
  have ow := f.weights
  rw [reweightStep_clM, List.isEmpty_eq_false_iff.mpr hne] at ob oe oz ow
  obtain ⟨t1, t2, t3, _⟩ := C05_same_temperature c.rw (clM W c s) (oracleZ (batchesOf s.hist)) isFin s.beta
  rw [← ob] at t1 t2 t3
  refine ⟨?_, ?_, ?_, f.sbeta, f.sess, _, f.hist, f.sbeta, f.sess⟩
  · rw [ow, t1, clM_w]; rfl
  · rw [oe, t2, clM_ess]
  · rw [oz, t3]

/-- the first iteration of a fresh run (empty history): β = 0, evidence 0, ESS = target, uniform weights, training skipped -/
theorem C05_cl_first (W : World ℝ P MS TS G) (c : CCfg ℝ) (s s1 : CState ℝ P TS G) (o : CIterOut ℝ P)
    (h : Model.ClosedLoop.iterate W c s = some (s1, o)) (he : s.hist = []) :
    o.beta = 0 ∧ o.logzRw = 0 ∧ o.ess = c.rw.essRatio * c.rw.nPart ∧
    o.weights = List.replicate c.rw.nPart (1 / (c.rw.nPart : ℝ)) ∧ o.trainIn = none ∧ s1.ts = s.ts ∧ s1.beta = 0 := by
  have f := Lemmas.ClosedLoop.iterated W c s s1 o h
  have ob := f.beta
  have oe := f.ess
  have oz := f.logzRw
  have ow := f.weights
  obtain ⟨tr, htr, hts, hw, _⟩ := f.train
  have hemp : s.hist.isEmpty = true := by rw [he]; rfl
  rw [reweightStep_clM, hemp] at ob oe oz ow
  obtain ⟨f1, f2, f3, f4, _⟩ := C05_first_iteration c.rw (clM W c s) (oracleZ (batchesOf s.hist)) isFin s.beta
  rw [f1] at ob; rw [f3] at oe; rw [f2] at oz; rw [f4] at ow
  have htr' : tr = (W.dummy, s.ts, s.g) := by
    rw [trainStep_of_zero W c s.ts s.g _ _ o.beta _ ob] at htr
    exact (Option.some.inj htr).symm
  refine ⟨ob, oz, oe, ?_, (hw (eqv_zero.mpr ob)).2.1, by rw [hts, htr'], f.sbeta.trans ob⟩
  rw [ow]; simp [returnedWeights]

/-! ### what `Trainer.run` and `Resampler.run` receive -/

/-- the closed-loop model's trainer input is the C20 call-site model of `Trainer.run` (`Model.TrimSites.trainerRun`) -/
theorem trainerRun_eq_trainInput (c : CCfg ℝ) (w : List ℝ) (pool : List P) :
    Model.TrimSites.trainerRun false pool w c.trimEss c.trimBins
      = (trainInput c w pool).map fun t => (some t, normalise w) := by
  unfold Model.TrimSites.trainerRun trainInput
  rw [if_neg Bool.false_ne_true]
  -- the same trim and gather on both sides; the pairing with `normalise w` is pushed through them
  exact Lemmas.OptionList.bind_map_comm (sa := id) Option.map_id'.symm fun t _ => by rw [Option.map_map]; rfl

/-- **`Trainer.run` receives the weights of the recorded temperature** (either mode, non-empty history).
    With `w` = the pool's normalised weights at the recorded β: at β = 0 training is skipped and the clusterer state untouched;
    at β ≠ 0 `trim_weights(np.arange(len(w)), w, TRIM_ESS, TRIM_BINS)` is applied to exactly `w` (C20's call-site model
    `trainerRun`), the fit receives the kept pool records with the trimmed weights, the recorded β and the iteration number,
    and what it returns is the trainer state of the next iteration; the resampler is handed `w/Σw` afterwards. -/
theorem C05_cl_trainer (W : World ℝ P MS TS G) (c : CCfg ℝ) (s s1 : CState ℝ P TS G) (o : CIterOut ℝ P)
    (h : Model.ClosedLoop.iterate W c s = some (s1, o)) (hne : s.hist ≠ []) :
    o.weights = normalise (oracleM (batchesOf s.hist) o.beta).1 ∧
    (o.beta = 0 → s1.ts = s.ts ∧ o.trainIn = none) ∧
    (o.beta ≠ 0 → ∃ u wt,
      Model.TrimSites.trainerRun false (poolOf s.hist) (normalise (oracleM (batchesOf s.hist) o.beta).1) c.trimEss c.trimBins
        = some (some (u, wt), normalise (normalise (oracleM (batchesOf s.hist) o.beta).1)) ∧
      o.trainIn = some (u, wt) ∧
      s1.ts = (W.train s.ts s.g u wt o.beta (s.iter + 1)).2.1) := by
  obtain ⟨hw, _⟩ := C05_cl_same_temperature W c s s1 o h hne
  obtain ⟨tr, htr, hts, hz, hnz⟩ := (Lemmas.ClosedLoop.iterated W c s s1 o h).train
  rw [hw] at htr hnz
  refine ⟨hw, ?_, ?_⟩
  · intro hb0
    rw [trainStep_of_zero W c s.ts s.g _ _ o.beta _ hb0] at htr
    cases htr
    exact ⟨hts, (hz (eqv_zero.mpr hb0)).2.1⟩
  · intro hb0
    rw [trainStep_of_ne_zero W c s.ts s.g _ _ o.beta _ hb0] at htr
    obtain ⟨t, ht, rfl⟩ := Option.map_eq_some_iff.mp htr
    refine ⟨t.1, t.2, ?_, ?_, hts⟩
    · rw [trainerRun_eq_trainInput, ht]; rfl
    · rw [(hnz (Bool.eq_false_iff.mpr (mt eqv_zero.mp hb0))).1, ht]

/-- the weights of the pool are a valid weight vector, so normalising them twice is normalising them once: the in-place
    division `weights /= weights.sum()` inside `trim_weights` does not change what the resampler sees (over ℝ) -/
theorem normalise_oracle_idem (hb : List (Batch ℝ)) (β : ℝ) :
    normalise (normalise (oracleM hb β).1) = normalise (oracleM hb β).1 := by
  cases hl : (logw hb β true).1 with
  | nil => rw [Lemmas.Pipeline.oracleM_fst_of_nil hl]; rfl
  | cons x xs =>
    rw [Lemmas.Pipeline.oracleM_fst_of_cons hl]
    have hv : (∀ y ∈ Model.TrimSites.expShift x xs, 0 < y ∧ y ≤ 1) ∧ _ ∧ 1 ≤ (Model.TrimSites.expShift x xs).sum ∧ _ :=
      Model.Ess.expShift_valid x xs
    have h1 := (Model.Ess.wn_facts (Model.TrimSites.expShift x xs) (fun y hy => (hv.1 y hy).1.le) (by linarith [hv.2.2.1])).1
    exact Model.Ess.normalise_of_sum_one _ h1

/-- **`Resampler.run` receives the weights of the recorded temperature** (either mode, β ≠ 0): the resampled indices of the
    iteration are `Model.Resample` applied to the pool's normalised weights at the recorded β (and renormalising them, as
    `trim_weights` does in place before the resampler runs, changes nothing). -/
theorem C05_cl_resampler (W : World ℝ P MS TS G) (c : CCfg ℝ) (s s1 : CState ℝ P TS G) (o : CIterOut ℝ P)
    (h : Model.ClosedLoop.iterate W c s = some (s1, o)) (hne : s.hist ≠ []) (hb0 : o.beta ≠ 0) :
    ∃ tr rs, trainStep W c s.ts s.g (normalise (oracleM (batchesOf s.hist) o.beta).1) (poolOf s.hist) o.beta (s.iter + 1) = some tr ∧
      resampleStep W c s.hist (normalise (normalise (oracleM (batchesOf s.hist) o.beta).1)) tr.2.1 tr.2.2 = some rs ∧
      o.idx = rs.idx := by
  obtain ⟨hw, _⟩ := C05_cl_same_temperature W c s s1 o h hne
  obtain ⟨tr, htr, _, _, hnz⟩ := (Lemmas.ClosedLoop.iterated W c s s1 o h).train
  obtain ⟨_, rs, hrs, hidx⟩ := hnz (Bool.eq_false_iff.mpr (mt eqv_zero.mp hb0))
  rw [hw] at htr hrs
  exact ⟨tr, rs, htr, by rw [normalise_oracle_idem]; exact hrs, hidx⟩

/-! ### the whole run: `while _not_termination(): execute_iteration()` -/

/-- a state a run can start from: β ∈ [0, 1], and β = 0 if nothing has been committed yet -/
def Start (s : CState ℝ P TS G) : Prop := 0 ≤ s.beta ∧ s.beta ≤ 1 ∧ (s.hist = [] → s.beta = 0)

/-- one iteration from a start state: β moves inside [β_prev, 1] and the result is again a start state with a non-empty history -/
theorem C05_cl_step (W : World ℝ P MS TS G) (c : CCfg ℝ) (s s1 : CState ℝ P TS G) (o : CIterOut ℝ P)
    (h : Model.ClosedLoop.iterate W c s = some (s1, o)) (hs : Start s) :
    s.beta ≤ o.beta ∧ o.beta ≤ 1 ∧ s1.beta = o.beta ∧ s1.hist ≠ [] ∧ Start s1 ∧ (s.hist = [] → o.beta = 0) := by
  obtain ⟨h0, h1, h2⟩ := hs
  have f := Lemmas.ClosedLoop.iterated W c s s1 o h
  have sb := f.sbeta
  have hne1 : s1.hist ≠ [] := f.hist ▸ List.append_ne_nil_of_right_ne_nil _ (List.cons_ne_nil _ [])
  -- the new β lies in `[β_prev, 1]`: it is 0 = β_prev on an empty history, and `C05_cl_iteration` otherwise
  have hr : s.beta ≤ o.beta ∧ o.beta ≤ 1 ∧ (s.hist = [] → o.beta = 0) := by
    by_cases he : s.hist = []
    · have ho := (C05_cl_first W c s s1 o h he).1
      exact ⟨(h2 he).trans_le ho.ge, ho.trans_le zero_le_one, fun _ => ho⟩
    · obtain ⟨a1, a2, a3, _⟩ := C05_cl_iteration W c s s1 o h he h1
      exact ⟨a1, le_trans a2 a3, fun e => absurd e he⟩
  exact ⟨hr.1, hr.2.1, sb, hne1, ⟨sb ▸ le_trans h0 hr.1, sb ▸ hr.2.1, fun e => absurd e hne1⟩, hr.2.2⟩

theorem start_step (W : World ℝ P MS TS G) (c : CCfg ℝ) (β₀ : ℝ) (a a' : CState ℝ P TS G) (o : CIterOut ℝ P)
    (ia : Start a ∧ β₀ ≤ a.beta) (hi : Model.ClosedLoop.iterate W c a = some (a', o)) : Start a' ∧ β₀ ≤ a'.beta := by
  obtain ⟨s1, _, s3, _, s5, _⟩ := C05_cl_step W c a a' o hi ia.1
  exact ⟨s5, s3 ▸ ia.2.trans s1⟩

/-- **The schedule of a whole run of the closed-loop model, continued from ANY start state** (fresh, restored from a checkpoint,
    a finished run that is extended), either metric mode, every world: every recorded β lies in `[β_start, 1]`; the sequence never
    decreases, also across what the `save_every` checkpoints hold; each iteration's β is handed on unchanged to the next. -/
theorem C05_cl_schedule_from (W : World ℝ P MS TS G) (c : CCfg ℝ) (fuel : Nat) (s sf : CState ℝ P TS G)
    (tr : List (CState ℝ P TS G)) (os : List (CIterOut ℝ P)) (h : runLoop W c fuel s = some (sf, tr, os)) (hs : Start s) :
    (∀ o ∈ os, s.beta ≤ o.beta ∧ o.beta ≤ 1) ∧
    (∀ k a b, os[k]? = some a → os[k+1]? = some b → a.beta ≤ b.beta) ∧
    (∀ k o a', os[k]? = some o → tr[k+1]? = some a' → a'.beta = o.beta) ∧
    (∀ k a a', tr[k]? = some a → tr[k+1]? = some a' → a.beta ≤ a'.beta) ∧
    (s.hist = [] → ∀ o, os[0]? = some o → o.beta = 0) ∧
    s.beta ≤ sf.beta ∧ sf.beta ≤ 1 := by
  obtain ⟨t1, t2, t3, hst, lk⟩ := Lemmas.ClosedLoop.runLoop_at W c fuel s sf tr os h (fun _ a => Start a ∧ s.beta ≤ a.beta)
    ⟨hs, le_rfl⟩ fun _ a a' o _ => start_step W c s.beta a a' o
  refine ⟨?_, ?_, ?_, ?_, ?_, (hst _ sf t3).2, (hst _ sf t3).1.2.1⟩
  · intro o ho
    obtain ⟨k, ho⟩ := List.getElem?_of_mem ho
    obtain ⟨a, a', _, _, ia, hi, _⟩ := lk k o ho
    obtain ⟨s1, s2, _⟩ := C05_cl_step W c a a' o hi ia.1
    exact ⟨ia.2.trans s1, s2⟩
  · intro k a b ha hb
    obtain ⟨x, x', _, x2, ix, hx, _⟩ := lk k a ha
    obtain ⟨y, y', y1, _, iy, hy, _⟩ := lk (k+1) b hb
    cases x2.symm.trans y1
    exact (C05_cl_step W c x x' a hx ix.1).2.2.1 ▸ (C05_cl_step W c x' y' b hy iy.1).1
  · intro k o a' ho ha'
    obtain ⟨x, x', _, x2, ix, hx, _⟩ := lk k o ho
    cases ha'.symm.trans x2
    exact (C05_cl_step W c x a' o hx ix.1).2.2.1
  · intro k a a' ha ha'
    have hk : k < os.length := Nat.lt_of_succ_lt_succ (lt_of_lt_of_eq (List.getElem?_eq_some_iff.mp ha').1 t1)
    obtain ⟨x, x', x1, x2, ix, hx, _⟩ := lk k _ (List.getElem?_eq_getElem hk)
    cases ha.symm.trans x1
    cases ha'.symm.trans x2
    obtain ⟨s1, _, s3, _⟩ := C05_cl_step W c a a' _ hx ix.1
    exact s3 ▸ s1
  · intro he o ho
    obtain ⟨x, x', x1, _, ix, hx, _⟩ := lk 0 o ho
    cases t2.symm.trans x1
    obtain ⟨-, -, -, -, -, h0⟩ := C05_cl_step W c s x' o hx ix.1
    exact h0 he

/-- **The schedule of a fresh run** (`init`: empty history, β = 0): β₀ = 0, 0 ≤ β_k ≤ 1, β_k ≤ β_{k+1} — either metric mode. -/
theorem C05_cl_schedule (W : World ℝ P MS TS G) (c : CCfg ℝ) (fuel : Nat) (ts : TS) (g : G) (sf : CState ℝ P TS G)
    (tr : List (CState ℝ P TS G)) (os : List (CIterOut ℝ P))
    (h : runLoop W c fuel (Model.ClosedLoop.init ts g) = some (sf, tr, os)) :
    (∀ o, os[0]? = some o → o.beta = 0) ∧
    (∀ o ∈ os, 0 ≤ o.beta ∧ o.beta ≤ 1) ∧
    (∀ k a b, os[k]? = some a → os[k+1]? = some b → a.beta ≤ b.beta) := by
  have hs : Start (Model.ClosedLoop.init ts g : CState ℝ P TS G) := by
    refine ⟨?_, ?_, fun _ => ?_⟩ <;> simp [Model.ClosedLoop.init]
  obtain ⟨a1, a2, _, _, a5, _⟩ := C05_cl_schedule_from W c fuel _ sf tr os h hs
  refine ⟨a5 (by simp [Model.ClosedLoop.init]), fun o ho => ?_, a2⟩
  have := a1 o ho
  simp only [Model.ClosedLoop.init, ScReal.zero_def] at this
  exact this

/-- **Every iteration of a run refers to one temperature and respects the ESS limit** (either mode; fresh or continued run):
    `C05_cl_iteration` and `C05_cl_same_temperature` for iteration `k`, which ran on the loop-top state `tr[k]`, whenever that
    state already holds history. -/
theorem C05_cl_run_iterations (W : World ℝ P MS TS G) (c : CCfg ℝ) (fuel : Nat) (s sf : CState ℝ P TS G)
    (tr : List (CState ℝ P TS G)) (os : List (CIterOut ℝ P)) (h : runLoop W c fuel s = some (sf, tr, os)) (hs : Start s) :
    ∀ (k : Nat) (a : CState ℝ P TS G) (o : CIterOut ℝ P), tr[k]? = some a → os[k]? = some o → a.hist ≠ [] →
      a.beta ≤ o.beta ∧
      o.beta ≤ (upperLimit (clM W c a) c.rw.target c.rw.tolB c.rw.fuel a.beta).beta ∧
      (upperLimit (clM W c a) c.rw.target c.rw.tolB c.rw.fuel a.beta).beta ≤ 1 ∧
      (o.beta ≠ a.beta → c.rw.target ≤
        ess (oracleM (batchesOf a.hist) (upperLimit (clM W c a) c.rw.target c.rw.tolB c.rw.fuel a.beta).beta).1) ∧
      (c.rw.vv = none → o.beta ≠ a.beta → c.rw.target ≤ ess (oracleM (batchesOf a.hist) o.beta).1 ∧ c.rw.target ≤ o.ess) ∧
      o.weights = normalise (oracleM (batchesOf a.hist) o.beta).1 ∧
      o.ess = ess (oracleM (batchesOf a.hist) o.beta).1 ∧
      o.logzRw = oracleZ (batchesOf a.hist) o.beta := by
  obtain ⟨_, _, _, _, lk⟩ := Lemmas.ClosedLoop.runLoop_at W c fuel s sf tr os h (fun _ a => Start a ∧ s.beta ≤ a.beta)
    ⟨hs, le_rfl⟩ fun _ a a' o _ => start_step W c s.beta a a' o
  intro k a o ha ho hne
  obtain ⟨x, x', x1, _, ix, hx, _⟩ := lk k o ho
  cases ha.symm.trans x1
  obtain ⟨a1, a2, a3, a4, a5⟩ := C05_cl_iteration W c a x' o hx hne ix.1.2.1
  obtain ⟨b1, b2, b3, _⟩ := C05_cl_same_temperature W c a x' o hx hne
  exact ⟨a1, a2, a3, a4, a5, b1, b2, b3⟩

/-! ### warm-up, both metric modes: β stays 0 while the pool is smaller than the ESS target -/

/-- `Warm` of `Props/C05Pipeline.lean` on the closed-loop state -/
def WarmC (s : CState ℝ P TS G) (n k : Nat) : Prop := s.beta = 0 ∧ WarmH (batchesOf s.hist) n k

/-- the reweighting step of a warming-up state whose pool (`k·n` particles) is smaller than the ESS target stays at β = 0 —
    ESS mode (also at equality) and volume-variation mode (`_find_beta_upper_limit` returns β_prev: branch `dynStuck`) -/
theorem warm_reweight (W : World ℝ P MS TS G) (c : CCfg ℝ) (s : CState ℝ P TS G) (n k : Nat) (hn : 1 ≤ n)
    (hw : WarmC s n k) (hsz : ((k * n : Nat) : ℝ) < c.rw.target ∨ (c.rw.vv = none ∧ ((k * n : Nat) : ℝ) ≤ c.rw.target)) :
    (reweightStep W c s).beta = 0 := by
  rw [reweightStep_clM, ← Lemmas.ClosedLoop.batchesOf_isEmpty, hw.1]
  exact hw.2.stays hn c.rw (clM W c s) _ _ (clM_ess W c s 0) hsz

theorem warm_step_cl (W : World ℝ P MS TS G) (c : CCfg ℝ) (hd : ∀ g, (W.priorDraw g c.rw.nPart).1.length = c.rw.nPart)
    (hn : 1 ≤ c.rw.nPart) (k : Nat) (s s1 : CState ℝ P TS G) (o : CIterOut ℝ P) (hw : WarmC s c.rw.nPart k)
    (hsz : ((k * c.rw.nPart : Nat) : ℝ) < c.rw.target ∨ (c.rw.vv = none ∧ ((k * c.rw.nPart : Nat) : ℝ) ≤ c.rw.target))
    (h : Model.ClosedLoop.iterate W c s = some (s1, o)) :
    o.beta = 0 ∧ WarmC s1 c.rw.nPart (k + 1) := by
  have hr := warm_reweight W c s c.rw.nPart k hn hw hsz
  have f := Lemmas.ClosedLoop.iterated W c s s1 o h
  have ho : o.beta = 0 := f.beta.trans hr
  obtain ⟨tr, _, _, hz, _⟩ := f.train
  obtain ⟨⟨d, hd1, hd2⟩, _⟩ := hz (eqv_zero.mpr ho)
  refine ⟨ho, f.sbeta.trans ho, ?_⟩
  rw [f.hist, Lemmas.ClosedLoop.batchesOf_append]
  exact hw.2.snoc (f.sbeta.trans ho) ((congrArg List.length hd2).trans (Lemmas.ClosedLoop.warmupStep_length W c hd _ d hd1))

/-- **Warm-up over a whole run of the closed-loop model, BOTH metric modes** (fresh run; every world whose prior draw returns
    `n_particles` records): iteration `k` (counting from 0) reports β = 0 whenever the pool it sees, `k·n_particles`
    particles, is SMALLER than the ESS target — in ESS mode also when it is equal.  The temperature cannot leave 0 before the
    pool has reached `ess_ratio · n_particles`. -/
theorem C05_cl_warmup (W : World ℝ P MS TS G) (c : CCfg ℝ) (hd : ∀ g, (W.priorDraw g c.rw.nPart).1.length = c.rw.nPart)
    (hn : 1 ≤ c.rw.nPart) (fuel : Nat) (ts : TS) (g : G) (sf : CState ℝ P TS G) (tr : List (CState ℝ P TS G))
    (os : List (CIterOut ℝ P)) (h : runLoop W c fuel (Model.ClosedLoop.init ts g) = some (sf, tr, os)) :
    ∀ k o, os[k]? = some o →
      (((k * c.rw.nPart : Nat) : ℝ) < c.rw.target ∨ (c.rw.vv = none ∧ ((k * c.rw.nPart : Nat) : ℝ) ≤ c.rw.target)) →
      o.beta = 0 := by
  -- the pool only grows: the size condition at iteration `k` implies it at every earlier iteration
  have mono : ∀ j k : Nat, j ≤ k →
      (((k * c.rw.nPart : Nat) : ℝ) < c.rw.target ∨ (c.rw.vv = none ∧ ((k * c.rw.nPart : Nat) : ℝ) ≤ c.rw.target)) →
      (((j * c.rw.nPart : Nat) : ℝ) < c.rw.target ∨ (c.rw.vv = none ∧ ((j * c.rw.nPart : Nat) : ℝ) ≤ c.rw.target)) := by
    intro j k hjk hk
    have : ((j * c.rw.nPart : Nat) : ℝ) ≤ ((k * c.rw.nPart : Nat) : ℝ) := Nat.cast_le.mpr (Nat.mul_le_mul_right _ hjk)
    exact hk.imp (fun hk => lt_of_le_of_lt this hk) fun ⟨hv, hk⟩ => ⟨hv, le_trans this hk⟩
  intro k o ho hsz
  -- up to iteration `k` the loop-top state `j` is still warming up
  obtain ⟨_, _, _, _, lk⟩ := Lemmas.ClosedLoop.runLoop_at W c fuel _ sf tr os h (fun j a => j ≤ k → WarmC a c.rw.nPart j)
    (fun _ => ⟨ScReal.zero_def, rfl, fun b hb => nomatch hb⟩)
    fun j a a' o _ ih hi hj => (warm_step_cl W c hd hn j a a' o (ih (Nat.le_of_succ_le hj)) (mono j k (Nat.le_of_succ_le hj) hsz) hi).2
  obtain ⟨a, a', _, _, hw, hi, _⟩ := lk k o ho
  exact (warm_step_cl W c hd hn k a a' o (hw le_rfl) hsz hi).1

/-- with `n_particles` draws per iteration: β_k = 0 for every `k < ess_ratio` (either mode) and, in ESS mode, for `k = ess_ratio` too -/
theorem C05_cl_warmup_count (W : World ℝ P MS TS G) (c : CCfg ℝ) (hd : ∀ g, (W.priorDraw g c.rw.nPart).1.length = c.rw.nPart)
    (hn : 1 ≤ c.rw.nPart) (fuel : Nat) (ts : TS) (g : G) (sf : CState ℝ P TS G) (tr : List (CState ℝ P TS G))
    (os : List (CIterOut ℝ P)) (h : runLoop W c fuel (Model.ClosedLoop.init ts g) = some (sf, tr, os)) :
    ∀ (k : Nat) (o : CIterOut ℝ P), os[k]? = some o →
      ((k : ℝ) < c.rw.essRatio ∨ (c.rw.vv = none ∧ (k : ℝ) ≤ c.rw.essRatio)) → o.beta = 0 := by
  intro k o ho hk
  refine C05_cl_warmup W c hd hn fuel ts g sf tr os h k o ho ?_
  have hpos : (0 : ℝ) < (c.rw.nPart : ℝ) := by exact_mod_cast hn
  rw [target_real]
  push_cast
  rcases hk with hk | ⟨hv, hk⟩
  · left; exact mul_lt_mul_of_pos_right hk hpos
  · right; exact ⟨hv, mul_le_mul_of_nonneg_right hk hpos.le⟩

end Props.C05
