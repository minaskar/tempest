import TempestVerif.Props.C20
/-
  C20 — ESS and trimming, further consequences, at `ℝ`.  ESS: equality cases and invariances read off the Kish form.  Trimming: why the
  search from the top of the grid returns THE most aggressive admissible trim — removing the smallest weights never raises the ESS,
  `np.percentile` is monotone in `p`, hence the ESS ratio is antitone along the grid and the passing indices form an initial segment.
  `C20_trim_contract` is the whole contract of `trim_weights` in one statement.
-/
namespace Props.C20
open Model.Ess Model.Trim

/-! ### ESS: consequences of the Kish form -/

/-- a single particle has ESS 1, whatever its (non-zero) weight -/
theorem C20_ess_single (c : ℝ) (hc : c ≠ 0) : ess [c] = 1 := by
  rw [ess_eq_kish]
  simp only [List.sum_cons, List.sum_nil, List.map_cons, List.map_nil, add_zero]
  exact div_self (mul_ne_zero hc hc)

/-- the ESS does not depend on the order of the weights -/
theorem C20_ess_perm (l1 l2 : List ℝ) (h : l1.Perm l2) : ess l1 = ess l2 :=
  ess_perm l1 l2 h

theorem sum_map_filter_ne_zero (f : ℝ → ℝ) (hf : f 0 = 0) (w : List ℝ) :
    ((w.filter (fun x => !decide (x = 0))).map f).sum = (w.map f).sum := by
  induction w with
  | nil => rfl
  | cons a l ih =>
    by_cases h : a = 0
    · simp [h, hf, ih]
    · simp [h, ih]

theorem sum_filter_ne_zero (w : List ℝ) : (w.filter (fun x => !decide (x = 0))).sum = w.sum := by
  simpa only [List.map_id] using sum_map_filter_ne_zero id rfl w

/-- samples of weight zero do not count: the ESS is that of the non-zero weights -/
theorem C20_ess_zeros (w : List ℝ) : ess (w.filter (fun x => !decide (x = 0))) = ess w := by
  rw [ess_eq_kish, ess_eq_kish, sum_filter_ne_zero, sum_map_filter_ne_zero (fun x => x * x) (mul_zero 0)]

/-- hence with zero weights present the bound is sharper: `ESS ≤ #{i | w_i ≠ 0}` -/
theorem C20_ess_le_support (w : List ℝ) (h0 : ∀ x ∈ w, 0 ≤ x) (hs : 0 < w.sum) :
    ess w ≤ ((w.filter (fun x => !decide (x = 0))).length : ℝ) := by
  rw [← C20_ess_zeros]
  refine (C20_ess_bounds _ (fun x hx => h0 x (List.mem_filter.mp hx).1) ?_).2
  rw [sum_filter_ne_zero]; exact hs

/-- the equality case of Cauchy–Schwarz `S² ≤ N·Q`; the sign of the single weights plays no part -/
theorem ess_eq_length_iff (w : List ℝ) (hs : 0 < w.sum) :
    ess w = w.length ↔ ∀ x ∈ w, x = w.sum / w.length := by
  have hne : w ≠ [] := ScReal.ne_nil_of_sum_pos hs
  have hN : (0 : ℝ) < w.length := by exact_mod_cast List.length_pos_iff.mpr hne
  -- `S² = N·Q` says that the squared deviations from the mean sum to zero
  have hdev : w.sum * w.sum = w.length * (w.map (fun x => x * x)).sum ↔
      (w.map (fun x => (x - w.sum / w.length) * (x - w.sum / w.length))).sum = 0 := by
    rw [sum_sq_dev_mean w hne, sub_eq_zero, eq_div_iff hN.ne', mul_comm _ (w.length : ℝ), eq_comm]
  rw [ess_eq_kish, div_eq_iff (sum_sq_pos_of_sum_pos w hs).ne', hdev]
  constructor
  · intro hz x hx
    have := List.all_zero_of_le_zero_le_of_sum_eq_zero
      (fun y hy => by obtain ⟨z, _, rfl⟩ := List.mem_map.mp hy; exact mul_self_nonneg _) hz
      (List.mem_map.mpr ⟨x, hx, rfl⟩)
    exact sub_eq_zero.mp (mul_self_eq_zero.mp this)
  · intro h
    apply List.sum_eq_zero
    intro y hy
    obtain ⟨x, hx, rfl⟩ := List.mem_map.mp hy
    rw [h x hx, sub_self, mul_zero]

/-- **ESS = N exactly for uniform weights** (equality case of Cauchy–Schwarz): for non-negative weights with positive sum,
    `ESS = N` iff all weights are equal -/
theorem C20_ess_eq_length_iff (w : List ℝ) (h0 : ∀ x ∈ w, 0 ≤ x) (hs : 0 < w.sum) :
    ess w = w.length ↔ ∀ x ∈ w, x = w.sum / w.length :=
  have _ := h0
  ess_eq_length_iff w hs

example : ess [(2 : ℝ), 2, 2] = 3 := by
  have := (C20_ess_eq_length_iff [(2 : ℝ), 2, 2] (by simp) (by norm_num)).mpr (by simp; norm_num)
  simpa using this

/-- `compute_ess` of a single log-weight is 1 -/
theorem C20_compute_ess_single (l : ℝ) : computeEss [l] = some 1 := by
  rw [C20_compute_ess _ (by simp)]
  simp [C20_ess_single _ (Real.exp_pos l).ne']

/-! ### trimming: dropping the smallest weights never raises the ESS -/

/-- **ESS of the upper set is non-increasing in the threshold**: a higher threshold keeps fewer samples and a smaller ESS -/
theorem C20_upper_set_ess_antitone (w : List ℝ) (h0 : ∀ x ∈ w, 0 ≤ x) (θ1 θ2 : ℝ) (h : θ1 ≤ θ2)
    (hpos : 0 < (w.filter (fun x => decide (θ2 ≤ x))).sum) :
    ess (w.filter (fun x => decide (θ2 ≤ x))) ≤ ess (w.filter (fun x => decide (θ1 ≤ x))) := by
  set L1 := w.filter (fun x => decide (θ1 ≤ x)) with hL1
  have hK : L1.filter (fun x => decide (θ2 ≤ x)) = w.filter (fun x => decide (θ2 ≤ x)) := by
    rw [hL1, List.filter_filter]
    exact List.filter_congr fun x _ => by simpa using fun hx => h.trans hx
  -- the upper set at `θ2` is the upper set at `θ2` of the upper set at `θ1`
  rw [← hK]
  exact upper_set_ess_le L1 (fun x hx => h0 x (List.mem_filter.mp hx).1) θ2 (hK ▸ hpos)

/-- in particular no upper set has a larger ESS than the whole vector -/
theorem C20_upper_set_ess_le (w : List ℝ) (h0 : ∀ x ∈ w, 0 ≤ x) (θ : ℝ)
    (hpos : 0 < (w.filter (fun x => decide (θ ≤ x))).sum) :
    ess (w.filter (fun x => decide (θ ≤ x))) ≤ ess w :=
  upper_set_ess_le w h0 θ hpos

example : ess ([(1 : ℝ), 1, 2].filter (fun x => decide ((2 : ℝ) ≤ x))) ≤ ess [(1 : ℝ), 1, 2] :=
  C20_upper_set_ess_le _ (by simp) 2 (by norm_num [List.filter])

/-- **no pass reaches a ratio above 1**: trimming can only lower the ESS -/
theorem C20_step_ratio_le_one (w : List ℝ) (h0 : ∀ x ∈ w, 0 ≤ x) (hs : 0 < w.sum) (p : ℝ) (hp0 : 0 ≤ p) (s : Step ℝ)
    (hstep : step (normalise w) (sortAsc (normalise w)) (ess w) p = some s) : s.ratio ≤ 1 := by
  obtain ⟨h1, hnn, _⟩ := wn_facts w h0 hs
  have hv := step_valid _ h1 hnn _ p hp0 s hstep
  rw [hv.ratio, div_le_one (ess_pos w hs), ← ess_normalise w hs.ne']
  exact C20_upper_set_ess_le (normalise w) hnn s.thr hv.kept_pos

/-- **a requested fraction above 1 keeps everything** (e.g. the default `TRIM_ESS = 512` of `Trainer.__init__`):
    every pass fails the test, the loop runs to the bottom of the grid and returns all samples with the normalised weights -/
theorem C20_trim_ess_gt_one {σ : Type} (samples : List σ) (w : List ℝ) (e : ℝ) (bins : Nat)
    (h0 : ∀ x ∈ w, 0 ≤ x) (hs : 0 < w.sum) (hl : samples.length = w.length) (hb : 0 < bins) (he : 1 < e) :
    trim samples w e bins = some (samples, normalise w) := by
  obtain ⟨⟨s', w'⟩, h⟩ := C20_trim_terminates_any samples w e bins h0 hs hb
  obtain ⟨h1, h2⟩ := C20_trim_bottom samples w e bins h0 hs hl s' w' h (by
    intro k _ hk st hst
    exact (C20_step_ratio_le_one w h0 hs _ (linspace0_99_range bins k hk).1 st hst).trans_lt he)
  rw [h, h1, h2]

/-- **`bins = 1`**: the grid is `[0.]`, the only pass keeps everything -/
theorem C20_trim_bins_one {σ : Type} (samples : List σ) (w : List ℝ) (e : ℝ)
    (h0 : ∀ x ∈ w, 0 ≤ x) (hs : 0 < w.sum) (hl : samples.length = w.length) :
    trim samples w e 1 = some (samples, normalise w) :=
  trim_bins_one samples w e h0 hs hl

/-- **the whole contract of `trim_weights` in one statement.**  The call returns, and for a threshold `θ` the surviving (sample,
    normalised weight) pairs are exactly the original pairs of weight `≥ θ`, in order; `w'` is the kept weights renormalised; the result
    is non-empty and aligned; `e · ESS(all) ≤ ESS(w') ≤ ESS(all)`. -/
theorem C20_trim_contract {σ : Type} (samples : List σ) (w : List ℝ) (e : ℝ) (bins : Nat)
    (h0 : ∀ x ∈ w, 0 ≤ x) (hs : 0 < w.sum) (hl : samples.length = w.length) (hb : 0 < bins) (he : e ≤ 1) :
    ∃ s' w' θ, trim samples w e bins = some (s', w') ∧
      s'.zip ((normalise w).filter (fun x => decide (θ ≤ x)))
        = (samples.zip (normalise w)).filter (fun q => decide (θ ≤ q.2)) ∧
      w' = ((normalise w).filter (fun x => decide (θ ≤ x))).map
            (fun x => x / ((normalise w).filter (fun x => decide (θ ≤ x))).sum) ∧
      s'.length = w'.length ∧ s' ≠ [] ∧ s'.Sublist samples ∧
      w'.sum = 1 ∧ (∀ x ∈ w', 0 ≤ x) ∧ e * ess w ≤ ess w' ∧ ess w' ≤ ess w := by
  obtain ⟨θ, hpos, h, hess⟩ := trim_valid samples w e bins h0 hs hb
  obtain ⟨_, hnn, _⟩ := wn_facts w h0 hs
  obtain ⟨hz, hlen, hsub⟩ := C20_trim_aligned samples (normalise w) θ (by rw [length_normalise, hl])
  have hf := mask_le_eq_filter (normalise w) θ
  have hsum := sum_normalise _ hpos.ne'
  rw [hf] at hz hlen
  have hwlen : (filterMask samples ((normalise w).map fun x => Sc.le θ x)).length
      = (normalise ((normalise w).filter fun x => decide (θ ≤ x))).length := by rw [length_normalise]; exact hlen
  refine ⟨_, _, θ, h, hz, normalise_def _, hwlen, ?_, hsub, hsum,
    normalise_def _ ▸ ScReal.div_sum_nonneg (fun y hy => hnn y (List.mem_filter.mp hy).1) hpos.le, ?_, ?_⟩
  · intro hnil
    rw [hnil, List.length_nil] at hwlen
    rw [List.length_eq_zero_iff.mp hwlen.symm] at hsum
    exact zero_ne_one hsum
  · rw [ess_normalise _ hpos.ne']; exact hess he
  · -- ESS(w') = ESS(kept) ≤ ESS(normalise w) = ESS(w)
    rw [ess_normalise _ hpos.ne', ← ess_normalise w hs.ne']
    exact C20_upper_set_ess_le (normalise w) hnn θ hpos

/-- non-vacuity of the contract: three weights, the sampler's constants -/
example : ∃ s' w', trim ["a", "b", "c"] [(1 : ℝ), 1, 2] (99 / 100) 1000 = some (s', w') ∧ w'.sum = 1 ∧ s' ≠ [] := by
  obtain ⟨s', w', _, h, _, _, _, hne, _, hsum, _⟩ :=
    C20_trim_contract ["a", "b", "c"] [(1 : ℝ), 1, 2] (99 / 100) 1000 (by simp) (by norm_num) rfl (by norm_num) (by norm_num)
  exact ⟨s', w', h, hsum, hne⟩

/-- **trimming does not depend on the scale of the weights**: they are normalised before anything else, so `c·w` (any `c ≠ 0`)
    selects the same samples and returns the same weights -/
theorem C20_trim_scale_invariant {σ : Type} (samples : List σ) (w : List ℝ) (c : ℝ) (hc : c ≠ 0) (e : ℝ) (bins : Nat) :
    trim samples (w.map (fun y => c * y)) e bins = trim samples w e bins := by
  unfold trim trimStop
  simp only [normalise_smul c hc]

/-- in particular `compute_posterior`, which hands over weights that already sum to one, gets them back unchanged by the
    in-place normalisation -/
theorem C20_trim_inplace_noop_on_normalised (w : List ℝ) (h : w.sum = 1) : normalise w = w :=
  normalise_of_sum_one w h

/-! ### the passing grid indices form an initial segment: the search from the top finds THE largest one -/

/-- **the ESS ratio is non-increasing along the grid**: a higher grid percentile trims more and keeps a smaller ESS -/
theorem C20_step_ratio_antitone (w : List ℝ) (h0 : ∀ x ∈ w, 0 ≤ x) (hs : 0 < w.sum) (bins j k : Nat)
    (hjk : j ≤ k) (hk : k < bins) (sj sk : Step ℝ)
    (hsj : step (normalise w) (sortAsc (normalise w)) (ess w) (linspace0_99 bins j) = some sj)
    (hsk : step (normalise w) (sortAsc (normalise w)) (ess w) (linspace0_99 bins k) = some sk) :
    sk.ratio ≤ sj.ratio := by
  obtain ⟨h1, hnn, _, hne⟩ := wn_facts w h0 hs
  have hpj := (linspace0_99_range bins j (by omega)).1
  have hvj := step_valid _ h1 hnn _ _ hpj sj hsj
  have hvk := step_valid _ h1 hnn _ _ (linspace0_99_range bins k hk).1 sk hsk
  have hθ : sj.thr ≤ sk.thr :=
    percentile_mono _ (sortAsc_sorted _) (sortAsc_ne_nil hne) _ _ hpj (linspace0_99_mono bins j k hjk) _ _ hvj.thr hvk.thr
  rw [hvj.ratio, hvk.ratio]
  exact div_le_div_of_nonneg_right (C20_upper_set_ess_antitone (normalise w) hnn sj.thr sk.thr hθ hvk.kept_pos) (ess_pos w hs).le

/-- **the search result is the largest passing grid index, and everything below it passes too** (`e ≤ 1`): the linear search from
    the top returns exactly the most aggressive trim the grid allows. -/
theorem C20_trim_passing_initial_segment {σ : Type} (samples : List σ) (w : List ℝ) (e : ℝ) (bins : Nat)
    (h0 : ∀ x ∈ w, 0 ≤ x) (hs : 0 < w.sum) (he : e ≤ 1)
    (s' : List σ) (w' : List ℝ) (h : trim samples w e bins = some (s', w')) :
    ∃ j, j < bins ∧ ∀ k, k < bins → ∀ st,
      step (normalise w) (sortAsc (normalise w)) (ess w) (linspace0_99 bins k) = some st →
        (e ≤ st.ratio ↔ k ≤ j) := by
  obtain ⟨j, stj, hj, hstepj, _, _, hr, hmax⟩ := C20_trim_maximal samples w e bins s' w' h
  have hrj := stop_pass_meets_test w h0 hs he bins j stj hstepj hr
  refine ⟨j, hj, fun k hk st hst => ⟨fun hpass => ?_, fun hkj => ?_⟩⟩
  · by_contra hnot
    obtain ⟨st', hst', hlt⟩ := hmax k (by omega) hk
    rw [hst] at hst'
    exact absurd hpass (not_le.mpr (Option.some.inj hst' ▸ hlt))
  · exact le_trans hrj (C20_step_ratio_antitone w h0 hs bins k j hkj hj st stj hst hstepj)

section Generic
variable {α : Type} [Sc α]

/-- **upper set + alignment in every arithmetic.**  Whatever scalar type the model is run at — `ℝ`, `Rat`, or the `Float` the driver
    executes next to the real code — the result is obtained from ONE mask `m_i = (θ ≤ wn_i)` (the instance's own comparison) on the
    computed normalised weights, `θ` the computed percentile at a grid point. -/
theorem C20_trim_upper_set_generic {σ : Type} (samples : List σ) (w : List α) (e : α) (bins : Nat)
    (s' : List σ) (w' : List α) (h : trim samples w e bins = some (s', w')) :
    ∃ (θ : α) (j : Nat), j < bins ∧
      percentileLinear (sortAsc (normalise w)) (linspace0_99 bins j) = some θ ∧
      s' = filterMask samples ((normalise w).map (fun x => Sc.le θ x)) ∧
      w' = normalise (filterMask (normalise w) ((normalise w).map (fun x => Sc.le θ x))) ∧
      (samples.length = w.length → s'.length = w'.length) := by
  obtain ⟨⟨j, st⟩, hts, heq⟩ := Option.map_eq_some_iff.mp h
  obtain ⟨rfl, rfl⟩ := Prod.mk.inj heq
  obtain ⟨hj, hstep, _⟩ := trimStop_spec_generic w e bins j st hts
  obtain ⟨hp, hm, hw, _⟩ := step_spec_generic _ _ _ _ _ hstep
  refine ⟨st.thr, j, hj, hp, by rw [hm], by rw [hw, hm], fun hl => ?_⟩
  rw [hw, length_normalise]
  exact filterMask_length_eq _ _ _ (by rw [length_normalise]; exact hl)

end Generic

end Props.C20
