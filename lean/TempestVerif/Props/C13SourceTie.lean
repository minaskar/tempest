import TempestVerif.Props.C13Source
import TempestVerif.Props.C13Run
import TempestVerif.Drv.C13
/-
  C13 — the tables `Props/C13Source.lean` states its theorems about are the ones the other C13 theorems are about and the ones
  the compiled driver hands to the model (kept in a module of its own so that `Props/C13Source.lean` depends on no other
  `Props` module).
-/
namespace Props.C13.Src

theorem C13_src_runTable_same : runTable = Props.C13.runTable ∧ runTable = Drv.C13.runTable := ⟨Props.C13.runTable_eq.symm, rfl⟩

theorem C13_src_callTable_same : callTable = Props.C13.callTable ∧ callTable = Drv.C13.callTable := ⟨rfl, rfl⟩

end Props.C13.Src
