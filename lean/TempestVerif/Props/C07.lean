import TempestVerif.Lemmas.Records
import TempestVerif.Gen.Tables
/-
  C07 — every stored or returned particle is a coherent (u, x, logL, blob) record.

  `T` (prior transform) and `Lk` (likelihood with blob) are uninterpreted pure functions, `inCube` an
  uninterpreted predicate on unit-cube coordinates.  The field sets each site touches are the GENERATED
  tables `Gen.Tables.*`; `C07_tables_complete` is the obligation that they are complete — a site that
  forgets an array makes that `decide` fail.
-/
namespace Props.C07
open Model.Records

variable {U X L B α β : Type}

/-! ### coherent records, and why moving whole rows keeps them coherent -/

def CohRec (T : U → X) (Lk : X → L × B) (inCube : U → Prop) (u : U) (x : X) (l : L) (b : B) : Prop :=
  x = T u ∧ (l, b) = Lk x ∧ inCube u

def Coherent (T : U → X) (Lk : X → L × B) (inCube : U → Prop) (p : Pop U X L B) : Prop :=
  p.x.length = p.u.length ∧ p.l.length = p.u.length ∧ p.b.length = p.u.length ∧
  ∀ (i : Nat) (u : U) (x : X) (l : L) (b : B), p.u[i]? = some u → p.x[i]? = some x → p.l[i]? = some l → p.b[i]? = some b →
    CohRec T Lk inCube u x l b

def Aligned (p : Pop U X L B) : Prop :=
  p.x.length = p.u.length ∧ p.l.length = p.u.length ∧ p.b.length = p.u.length

def RowFrom (q : Pop U X L B) (k : Nat) (p : Pop U X L B) (i : Nat) : Prop :=
  q.u[k]? = p.u[i]? ∧ q.x[k]? = p.x[i]? ∧ q.l[k]? = p.l[i]? ∧ q.b[k]? = p.b[i]?

def AllFour (fields : List String) : Prop :=
  fields.contains "u" = true ∧ fields.contains "x" = true ∧ fields.contains "logl" = true ∧ fields.contains "blobs" = true

def AllFourPairs (pairs : List (String × String)) : Prop :=
  pairs.contains ("u", "u_prime") = true ∧ pairs.contains ("x", "x_prime") = true ∧
  pairs.contains ("logl", "logl_prime") = true ∧ pairs.contains ("blobs", "blobs_prime") = true

variable (T : U → X) (Lk : X → L × B) (inCube : U → Prop)

variable {T Lk inCube} in
theorem Coherent.aligned {p : Pop U X L B} (hp : Coherent T Lk inCube p) : Aligned p := ⟨hp.1, hp.2.1, hp.2.2.1⟩

variable {T Lk inCube} in
/-- The one reason every movement preserves coherence: aligned arrays whose every row is, as a whole record, a row of some
    coherent population are coherent. -/
theorem coherent_of_rows {q : Pop U X L B} (hq : Aligned q)
    (hrow : ∀ k, k < q.u.length → ∃ p i, Coherent T Lk inCube p ∧ RowFrom q k p i) : Coherent T Lk inCube q := by
  refine ⟨hq.1, hq.2.1, hq.2.2, fun k u x l b hu hx hl hb => ?_⟩
  obtain ⟨p, i, hp, r1, r2, r3, r4⟩ := hrow k (List.getElem?_eq_some_iff.mp hu).1
  exact hp.2.2.2 i u x l b (r1 ▸ hu) (r2 ▸ hx) (r3 ▸ hl) (r4 ▸ hb)

theorem gatherFields_eq_some {fields : List String} (hf : AllFour fields) {idx : List Nat} {p q : Pop U X L B}
    (h : gatherFields fields idx p = some q) :
    gather? p.u idx = some q.u ∧ gather? p.x idx = some q.x ∧ gather? p.l idx = some q.l ∧ gather? p.b idx = some q.b := by
  unfold gatherFields at h
  rw [if_pos hf.1, if_pos hf.2.1, if_pos hf.2.2.1, if_pos hf.2.2.2] at h
  split at h
  · cases h; exact ⟨‹_›, ‹_›, ‹_›, ‹_›⟩
  · cases h

theorem maskedFields_allFour {pairs : List (String × String)} (hf : AllFourPairs pairs) (mask : List Bool)
    (cur prop : Pop U X L B) :
    maskedFields pairs mask cur prop =
      ⟨maskSet cur.u prop.u mask, maskSet cur.x prop.x mask, maskSet cur.l prop.l mask, maskSet cur.b prop.b mask⟩ := by
  unfold maskedFields
  rw [if_pos hf.1, if_pos hf.2.1, if_pos hf.2.2.1, if_pos hf.2.2.2]

theorem replaceFields_allFour {fields : List String} (hf : AllFour fields) (tgt src : List Nat) (p : Pop U X L B) :
    replaceFields fields tgt src p =
      ⟨scatterFrom p.u tgt src, scatterFrom p.x tgt src, scatterFrom p.l tgt src, scatterFrom p.b tgt src⟩ := by
  unfold replaceFields
  rw [if_pos hf.1, if_pos hf.2.1, if_pos hf.2.2.1, if_pos hf.2.2.2]

theorem gather_whole_records {fields : List String} (hf : AllFour fields) {idx : List Nat}
    {p q : Pop U X L B} (h : gatherFields fields idx p = some q) :
    q.u.length = idx.length ∧ q.x.length = idx.length ∧ q.l.length = idx.length ∧ q.b.length = idx.length ∧
    ∀ k i, idx[k]? = some i → RowFrom q k p i := by
  obtain ⟨hu, hx, hl, hb⟩ := gatherFields_eq_some hf h
  exact ⟨gather?_length hu, gather?_length hx, gather?_length hl, gather?_length hb, fun k i hk =>
    ⟨gather?_get hu k i hk, gather?_get hx k i hk, gather?_get hl k i hk, gather?_get hb k i hk⟩⟩

theorem gather_coherent {fields : List String} (hf : AllFour fields) {idx : List Nat}
    {p q : Pop U X L B} (hp : Coherent T Lk inCube p) (h : gatherFields fields idx p = some q) :
    Coherent T Lk inCube q := by
  obtain ⟨lu, lx, ll, lb, rows⟩ := gather_whole_records hf h
  refine coherent_of_rows ⟨lx.trans lu.symm, ll.trans lu.symm, lb.trans lu.symm⟩ fun k hk => ?_
  exact ⟨p, idx[k]'(lu ▸ hk), hp, rows k _ (List.getElem?_eq_getElem _)⟩

theorem masked_whole_records {pairs : List (String × String)} (hf : AllFourPairs pairs)
    (mask : List Bool) {cur prop : Pop U X L B} (hc : Aligned cur) (hq : Aligned prop) (k : Nat) :
    RowFrom (maskedFields pairs mask cur prop) k cur k ∨ RowFrom (maskedFields pairs mask cur prop) k prop k := by
  rw [maskedFields_allFour hf]
  unfold RowFrom
  simp only [maskSet_get, hc.1, hc.2.1, hc.2.2, hq.1, hq.2.1, hq.2.2]
  cases takes cur.u.length prop.u.length mask k
  · exact .inl ⟨rfl, rfl, rfl, rfl⟩
  · exact .inr ⟨rfl, rfl, rfl, rfl⟩

theorem masked_coherent {pairs : List (String × String)} (hf : AllFourPairs pairs)
    (mask : List Bool) {cur prop : Pop U X L B}
    (hc : Coherent T Lk inCube cur) (hq : Coherent T Lk inCube prop) :
    Coherent T Lk inCube (maskedFields pairs mask cur prop) := by
  refine coherent_of_rows ?_ fun k _ => ?_
  · rw [maskedFields_allFour hf]
    exact ⟨by rw [maskSet_length, maskSet_length, hc.1], by rw [maskSet_length, maskSet_length, hc.2.1],
      by rw [maskSet_length, maskSet_length, hc.2.2.1]⟩
  · rcases masked_whole_records hf mask hc.aligned hq.aligned k with r | r
    · exact ⟨cur, k, hc, r⟩
    · exact ⟨prop, k, hq, r⟩

theorem replace_whole_records {fields : List String} (hf : AllFour fields) (tgt src : List Nat)
    {p : Pop U X L B} (hp : Aligned p) (k : Nat) (hk : k < p.u.length) :
    RowFrom (replaceFields fields tgt src p) k p (srcOf p.u.length tgt src k) := by
  rw [replaceFields_allFour hf]
  refine ⟨scatterFrom_get _ _ _ _ hk, ?_, ?_, ?_⟩
  · rw [← hp.1]; exact scatterFrom_get _ _ _ _ (hp.1 ▸ hk)
  · rw [← hp.2.1]; exact scatterFrom_get _ _ _ _ (hp.2.1 ▸ hk)
  · rw [← hp.2.2]; exact scatterFrom_get _ _ _ _ (hp.2.2 ▸ hk)

theorem replace_coherent {fields : List String} (hf : AllFour fields) (tgt src : List Nat)
    {p : Pop U X L B} (hp : Coherent T Lk inCube p) :
    Coherent T Lk inCube (replaceFields fields tgt src p) := by
  have hu : (replaceFields fields tgt src p).u.length = p.u.length := by
    rw [replaceFields_allFour hf]; exact scatterFrom_length _ _ _
  refine coherent_of_rows ?_ fun k hk =>
    ⟨p, _, hp, replace_whole_records hf tgt src hp.aligned k (hu ▸ hk)⟩
  rw [replaceFields_allFour hf]
  exact ⟨by rw [scatterFrom_length, scatterFrom_length, hp.1], by rw [scatterFrom_length, scatterFrom_length, hp.2.1],
    by rw [scatterFrom_length, scatterFrom_length, hp.2.2.1]⟩

theorem build_coherent (us : List U) (hin : ∀ u ∈ us, inCube u) :
    Coherent T Lk inCube (build T Lk us) := by
  have hx : (us.map T).length = us.length := List.length_map _
  refine ⟨hx, (List.length_map _).trans hx, (List.length_map _).trans hx, fun i u x l b hu hx hl hb => ?_⟩
  simp only [build, List.getElem?_map] at hu hx hl hb
  rw [hu] at hx hl hb
  cases hx; cases hl; cases hb
  exact ⟨rfl, rfl, hin u (List.mem_of_getElem? hu)⟩

theorem pool_coherent (h : List (Pop U X L B)) (hh : ∀ p ∈ h, Coherent T Lk inCube p) :
    Coherent T Lk inCube (pool h) := by
  induction h with
  | nil => exact ⟨rfl, rfl, rfl, fun i u x l b hu => by cases hu⟩
  | cons p h ih =>
    have hp := hh p List.mem_cons_self
    have ht := ih fun q hq => hh q (List.mem_cons_of_mem _ hq)
    have e : pool (p :: h) = ⟨p.u ++ (pool h).u, p.x ++ (pool h).x, p.l ++ (pool h).l, p.b ++ (pool h).b⟩ := rfl
    rw [e]
    refine coherent_of_rows ?_ fun k _ => ?_
    · exact ⟨by rw [List.length_append, List.length_append, hp.1, ht.1],
        by rw [List.length_append, List.length_append, hp.2.1, ht.2.1],
        by rw [List.length_append, List.length_append, hp.2.2.1, ht.2.2.1]⟩
    · by_cases hk : k < p.u.length
      · exact ⟨p, k, hp, List.getElem?_append_left hk, List.getElem?_append_left (hp.1 ▸ hk),
          List.getElem?_append_left (hp.2.1 ▸ hk), List.getElem?_append_left (hp.2.2.1 ▸ hk)⟩
      · have hk' : p.u.length ≤ k := Nat.le_of_not_lt hk
        refine ⟨pool h, k - p.u.length, ht, List.getElem?_append_right hk', ?_, ?_, ?_⟩
        · rw [← hp.1]; exact List.getElem?_append_right (hp.1 ▸ hk')
        · rw [← hp.2.1]; exact List.getElem?_append_right (hp.2.1 ▸ hk')
        · rw [← hp.2.2.1]; exact List.getElem?_append_right (hp.2.2.1 ▸ hk')

/-! ### every reachable state of the pipeline is coherent -/

def TablesComplete (tb : Tables) : Prop :=
  AllFour tb.resampleGather ∧ AllFourPairs tb.mcmcMasked ∧ AllFour tb.warmupReplace

def Inv (s : St U X L B) : Prop :=
  (∀ p ∈ s.hist, Coherent T Lk inCube p) ∧ Coherent T Lk inCube s.cur

/-- the unit-cube coordinates the pipeline creates passed the bounds check (C16) -/
def OpOk : Op U → Prop
  | .mutate props _ => ∀ u ∈ props, inCube u
  | .priorDraw us => ∀ u ∈ us, inCube u
  | _ => True

theorem C07_step_inv {tb : Tables} (htb : TablesComplete tb) {s s' : St U X L B} (o : Op U)
    (ho : OpOk inCube o) (hs : Inv T Lk inCube s) (h : step tb T Lk s o = some s') : Inv T Lk inCube s' := by
  obtain ⟨t1, t2, t3⟩ := htb
  cases o with
  | resample idx =>
    obtain ⟨c, hc, rfl⟩ := Option.map_eq_some_iff.mp h
    exact ⟨hs.1, gather_coherent T Lk inCube t1 (pool_coherent T Lk inCube _ hs.1) hc⟩
  | mutate props mask =>
    cases h
    exact ⟨hs.1, masked_coherent T Lk inCube t2 mask hs.2 (build_coherent T Lk inCube props ho)⟩
  | priorDraw us =>
    cases h
    exact ⟨hs.1, build_coherent T Lk inCube us ho⟩
  | replaceInf tgt src =>
    cases h
    exact ⟨hs.1, replace_coherent T Lk inCube t3 tgt src hs.2⟩
  | commit =>
    cases h
    refine ⟨fun p hp => ?_, hs.2⟩
    rcases List.mem_append.mp hp with hp | hp
    · exact hs.1 p hp
    · cases List.mem_singleton.mp hp; exact hs.2

/-- C07: for EVERY sequence of pipeline operations, every state reached — the current population and
    every committed batch — consists of coherent records. -/
theorem C07_reachable {tb : Tables} (htb : TablesComplete tb) (ops : List (Op U))
    (hops : ∀ o ∈ ops, OpOk inCube o) {s s' : St U X L B} (hs : Inv T Lk inCube s)
    (h : run tb T Lk s ops = some s') : Inv T Lk inCube s' := by
  induction ops generalizing s with
  | nil => cases h; exact hs
  | cons o os ih =>
    obtain ⟨s1, h1, h2⟩ := Option.bind_eq_some_iff.mp h
    exact ih (fun o' ho' => hops o' (List.mem_cons_of_mem _ ho')) (C07_step_inv T Lk inCube htb o (hops o List.mem_cons_self) hs h1) h2

theorem C07_init : Inv T Lk inCube (⟨[], ⟨[], [], [], []⟩⟩ : St U X L B) :=
  ⟨fun p hp => (nomatch hp), rfl, rfl, rfl, fun i u x l b hu => (nomatch hu)⟩

/-! ### the tables regenerated from the current source are complete -/

def genTables : Tables :=
  { resampleGather := Gen.Tables.resampleGather
    mcmcMasked := Gen.Tables.mcmcMasked
    warmupReplace := Gen.Tables.warmupReplace }

/-- OBLIGATION on the generated tables: each movement site applies its index / mask to all of
    u, x, logl, blobs.  Fails to check as soon as a site in /repo forgets one of them. -/
theorem C07_tables_complete : TablesComplete genTables := by
  refine ⟨⟨?_, ?_, ?_, ?_⟩, ⟨?_, ?_, ?_, ?_⟩, ⟨?_, ?_, ?_, ?_⟩⟩ <;> decide

/-- one index vector per site (blobs are not gathered with a second, independent draw) -/
theorem C07_single_index_vector :
    Gen.Tables.resampleIndexNames.length = 1 ∧ Gen.Tables.mcmcMaskNames.length = 1 ∧
    Gen.Tables.warmupReplaceIndexPairs.length = 1 := by decide

/-- proposals are built from the proposed unit-cube point: x' = T(u'), (logl', blob') = Lk(x') -/
theorem C07_proposal_defuse :
    ("x_prime", "prior_transform", "u_p,u_prime") ∈ Gen.Tables.mcmcDefUse ∧
    ("logl_prime", "_evaluate_likelihood", "x_prime") ∈ Gen.Tables.mcmcDefUse ∧
    ("blobs_prime", "_evaluate_likelihood", "x_prime") ∈ Gen.Tables.mcmcDefUse := by decide +kernel

/-- posterior(): trimming and resampling gather x, logl, logw (and blobs) with the same index -/
theorem C07_posterior_gathers :
    (∀ f ∈ ["x", "logl", "logw", "blobs"], f ∈ Gen.Tables.posteriorTrimGather) ∧
    (∀ f ∈ ["x", "logl", "logw", "blobs"], f ∈ Gen.Tables.posteriorResampleGather) := by decide +kernel

theorem C07_reachable_gen (ops : List (Op U)) (hops : ∀ o ∈ ops, OpOk inCube o) {s' : St U X L B}
    (h : run genTables T Lk ⟨[], ⟨[], [], [], []⟩⟩ ops = some s') : Inv T Lk inCube s' :=
  C07_reachable T Lk inCube C07_tables_complete ops hops (C07_init T Lk inCube) h

/-! ### non-vacuity: a concrete run (draw, commit, resample, mutate, commit) -/
example :
    (run genTables (fun u : Nat => 10 * u) (fun x : Nat => (x + 1, x + 2)) ⟨[], ⟨[], [], [], []⟩⟩
      [.priorDraw [1, 2, 3], .commit, .resample [2, 2, 0], .mutate [7, 8, 9] [true, false, true], .commit]).map
      (fun s => (s.cur.u, s.cur.x, s.cur.l, s.cur.b, s.hist.length))
      = some ([7, 3, 9], [70, 30, 90], [71, 31, 91], [72, 32, 92], 2) := by decide +kernel

end Props.C07
