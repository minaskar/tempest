import TempestVerif.Model.WeightsKeys
/-
  C04 — the glue between the stored per-key history lists and the batch-list model.

  Everything here is STRUCTURAL: it holds for every scalar type (`ℝ`, rounded reals, `Float`), so the statements of
  `Props.C04` (about `Model.Weights.logw` on a list of batches) transfer to the function as it reads the real
  `_history` dictionary, whenever the three lists line up — and the theorems say exactly what happens when they do not.
-/
namespace Props.C04Keys
open Model.Weights Model.WeightsKeys

variable {α : Type} [ScT α]

/-! ### aligned histories: the key-level function IS the batch-list function -/

def colOf (b : Batch α) : Col α := ⟨b.beta, b.logz, b.logl.length⟩

omit [ScT α] in
theorem cols_ofBatches (h : List (Batch α)) :
    cols (h.map (·.beta)) (h.map (·.logz)) (h.map fun b => b.logl.length) = h.map colOf := by
  induction h with
  | nil => rfl
  | cons b bs ih => simp only [List.map_cons, cols, ih]; rfl

theorem entryK_colOf (logN l : α) (b : Batch α) : entryK logN l (colOf b) = entry logN l b := rfl

theorem bshape_self (n : Nat) : bshape n n = some n := by simp [bshape]

theorem bcast_self {γ : Type} (xs : List γ) : bcast xs xs.length = some xs := by simp [bcast]

theorem bcast_of_length {γ : Type} (xs : List γ) (n : Nat) (h : xs.length = n) : bcast xs n = some xs := by
  subst h; exact bcast_self xs

theorem bcast_singleton {γ : Type} (z : γ) (n : Nat) : bcast [z] n = some (List.replicate n z) := by
  unfold bcast
  split
  · next h => subst h; rfl
  · rfl

/-- `logwK` once the three lists have a common number `T ≥ 1` of columns; `zs` = the stored evidence values as numpy
    broadcasts them against the `T` temperatures -/
theorem logwK_cols (k : KHist α) (β : α) (nrm : Bool) (zs : List α) (hb : k.beta ≠ [])
    (hl : k.logl.length = k.beta.length) (hs : bshape k.beta.length k.logz.length = some k.beta.length)
    (hz : bcast k.logz k.beta.length = some zs) :
    logwK k β nrm =
      match rawK (cols k.beta zs (k.logl.map List.length)) (ScT.log (Sc.ofNat (k.logl.map List.length).sum))
        k.logl.flatten β with
      | none => .outside
      | some raw => .ok (finish raw nrm).1 (finish raw nrm).2 := by
  have h1 : k.beta.isEmpty = false := List.isEmpty_eq_false_iff.mpr hb
  have h2 : k.logl.isEmpty = false :=
    List.isEmpty_eq_false_iff.mpr (List.ne_nil_of_length_pos (hl ▸ List.length_pos_iff.mpr hb))
  simp only [logwK, h1, h2, hl, Nat.lt_irrefl, Bool.false_eq_true, if_false, hs, bcast_self, hz,
    List.take_of_length_le (Nat.le_of_eq hl), bcast_of_length _ _ ((List.length_map _).trans hl)]
  rfl

theorem rawK_colOf (b0 : Batch α) (bs : List (Batch α)) (logN : α) (ls : List α) (β : α) :
    rawK ((b0 :: bs).map colOf) logN ls β = some (ls.map fun l => Sc.sub (Sc.mul l β) (mixLog b0 bs logN l)) := by
  simp only [List.map_cons, rawK, List.map_map]
  rfl

/-- **the key-level function on an aligned history is `Model.Weights.logw`** — for every history (also the empty one),
    every target, both values of `normalize`, and every scalar type -/
theorem C04K_aligned (h : List (Batch α)) (β : α) (nrm : Bool) :
    logwK (ofBatches h) β nrm = .ok (logw h β nrm).1 (logw h β nrm).2 := by
  cases h with
  | nil => rfl
  | cons b0 bs =>
    have hlen : ((b0 :: bs).map (·.logl)).length = ((b0 :: bs).map (·.beta)).length := by simp
    rw [logwK_cols (ofBatches (b0 :: bs)) β nrm _ (List.cons_ne_nil _ _) hlen
      (by simp [ofBatches, bshape_self]) (bcast_of_length _ _ (by simp [ofBatches]))]
    simp only [ofBatches, List.map_map]
    rw [show (b0 :: bs).map (List.length ∘ fun b => b.logl) = (b0 :: bs).map fun b => b.logl.length from rfl,
      cols_ofBatches, rawK_colOf]
    rfl

/-! ### how the lists come into being: `commit_current_to_history` -/

omit [ScT α] in
theorem C04K_commit_full (h : List (Batch α)) (b z : α) (l : List α) :
    commitK ⟨some b, some z, some l⟩ (ofBatches h) = ofBatches (h ++ [⟨b, z, l⟩]) := by
  simp [commitK, ofBatches, appendSome]

/-- the calls the sampler (and the `weights-T` suite) makes for one iteration -/
def fullOps (b : Batch α) : List (Op α) :=
  [.setBeta (some b.beta), .setLogz (some b.logz), .setLogl (some b.logl), .commit]

theorem runOps_append (s : SMK α) (a b : List (Op α)) :
    runOps s (a ++ b) = ((runOps (runOps s a).1 b).1, (runOps s a).2 ++ (runOps (runOps s a).1 b).2) := by
  induction a generalizing s with
  | nil => simp [runOps]
  | cons op ops ih =>
    simp only [List.cons_append, runOps, ih]
    cases (step s op).2 <;> simp

theorem runOps_fullOps (s : SMK α) (b : Batch α) :
    runOps s (fullOps b) = (⟨⟨some b.beta, some b.logz, some b.logl⟩,
      commitK ⟨some b.beta, some b.logz, some b.logl⟩ s.hist, none⟩, []) := rfl

/-- **any number of complete iterations through the public API** leaves the three lists aligned, and they are the
    lists of exactly the committed batches, in order -/
theorem C04K_api_history (bs : List (Batch α)) :
    (runOps SMK.init (bs.flatMap fullOps)).1.hist = ofBatches bs ∧
    (runOps SMK.init (bs.flatMap fullOps)).2 = [] := by
  suffices H : ∀ (h : List (Batch α)) (s : SMK α), s.hist = ofBatches h →
      (runOps s (bs.flatMap fullOps)).1.hist = ofBatches (h ++ bs) ∧ (runOps s (bs.flatMap fullOps)).2 = [] by
    simpa using H [] SMK.init rfl
  induction bs with
  | nil => intro h s hs; simp [runOps, hs]
  | cons b bs ih =>
    intro h s hs
    rw [List.flatMap_cons, runOps_append, runOps_fullOps]
    have := ih (h ++ [b]) ⟨⟨some b.beta, some b.logz, some b.logl⟩,
      commitK ⟨some b.beta, some b.logz, some b.logl⟩ s.hist, none⟩ (by rw [hs]; exact C04K_commit_full h _ _ _)
    simpa using this

/-- `compute_logw_and_logz` called after any number of complete iterations through the public API returns the batch-list
    model's value (to which every theorem of `Props.C04` applies) -/
theorem C04K_api_weights (bs : List (Batch α)) (β : α) (nrm : Bool) :
    (runOps SMK.init (bs.flatMap fullOps ++ [.weights β nrm])).2
      = [.out (.ok (logw bs β nrm).1 (logw bs β nrm).2)] := by
  rw [runOps_append]
  obtain ⟨h1, h2⟩ := C04K_api_history bs
  rw [h2]
  simp only [runOps, step, List.nil_append, h1, C04K_aligned]

/-! ### histories that do NOT line up: what the function does, exactly -/

/-- no stored beta: `(array([]), -inf)` whatever the other keys hold -/
theorem C04K_no_beta (zs : List α) (ls : List (List α)) (β : α) (nrm : Bool) :
    logwK ⟨[], zs, ls⟩ β nrm = .ok [] none := rfl

/-- betas but no log-likelihood array: `np.concatenate([])` raises -/
theorem C04K_no_logl (b : α) (bs zs : List α) (β : α) (nrm : Bool) :
    logwK ⟨b :: bs, zs, []⟩ β nrm = .valueError := rfl

/-- fewer log-likelihood arrays than betas: `logl_per_iter[t]` raises -/
theorem C04K_fewer_logl (k : KHist α) (β : α) (nrm : Bool) (h0 : k.logl ≠ []) (h : k.logl.length < k.beta.length) :
    logwK k β nrm = .indexError := by
  have hb : k.beta.isEmpty = false :=
    List.isEmpty_eq_false_iff.mpr (List.ne_nil_of_length_pos (Nat.lt_of_le_of_lt (Nat.zero_le _) h))
  simp [logwK, hb, List.isEmpty_eq_false_iff.mpr h0, h]

/-- `bshape` is the only broadcasting test that can fail: once it succeeds the `bcast`s do (of a list as long as the betas —
    `n_per_iter` is one too — and of a list as long as the evidence values) -/
theorem C04K_bcast_total (T Z C : Nat) (hs : bshape T Z = some C) {γ δ : Type} (xs : List γ) (ys : List δ)
    (hx : xs.length = T) (hy : ys.length = Z) : (bcast xs C).isSome ∧ (bcast ys C).isSome := by
  unfold bshape at hs
  have one : ∀ {ε : Type} (l : List ε), l.length = 1 → ∀ n, (bcast l n).isSome := by
    intro ε l hl n
    match l, hl with
    | [x], _ => unfold bcast; split <;> simp
  by_cases h1 : T = Z
  · simp only [h1, if_true, Option.some.injEq] at hs
    subst hs; subst h1
    exact ⟨by simp [bcast, hx], by simp [bcast, hy]⟩
  · simp only [h1, if_false] at hs
    by_cases h2 : T = 1
    · simp only [h2, if_true, Option.some.injEq] at hs
      subst hs
      exact ⟨one xs (hx.trans h2) _, by simp [bcast, hy]⟩
    · simp only [h2, if_false] at hs
      by_cases h3 : Z = 1
      · simp only [h3, if_true, Option.some.injEq] at hs
        subst hs
        exact ⟨by simp [bcast, hx], one ys (hy.trans h3) _⟩
      · simp [h3] at hs

/-- **the silent path.**  Every iteration stored its beta and its particles, but only ONE evidence value was ever
    stored (all other commits left `logz` at `None`): numpy broadcasts that single value over all iterations and the
    function returns, without any error, the weights of the history in which every iteration has that evidence value.
    (With two or more but not all values stored it raises — `C04K_logz_mismatch_raises`.) -/
theorem C04K_single_logz_broadcast (h : List (Batch α)) (z : α) (β : α) (nrm : Bool) :
    logwK ⟨h.map (·.beta), [z], h.map (·.logl)⟩ β nrm
      = .ok (logw (h.map fun b => ⟨b.beta, z, b.logl⟩) β nrm).1 (logw (h.map fun b => ⟨b.beta, z, b.logl⟩) β nrm).2 := by
  rw [← C04K_aligned]
  cases h with
  | nil => rfl
  | cons b0 bs =>
    simp only [ofBatches, List.map_map, Function.comp_def]
    have hlen : ((b0 :: bs).map (·.logl)).length = ((b0 :: bs).map (·.beta)).length := by simp
    rw [logwK_cols ⟨(b0 :: bs).map (·.beta), [z], (b0 :: bs).map (·.logl)⟩ β nrm _ (List.cons_ne_nil _ _) hlen
        (by simp [bshape]) (bcast_singleton z _),
      logwK_cols ⟨(b0 :: bs).map (·.beta), (b0 :: bs).map (fun _ => z), (b0 :: bs).map (·.logl)⟩ β nrm _
        (List.cons_ne_nil _ _) hlen (by simp [bshape_self])
        (by rw [List.map_const']; exact bcast_of_length _ _ (by simp))]
    simp only [List.length_map]

/-- two or more, but not all, evidence values stored (and at least two iterations): the broadcast fails, `ValueError` -/
theorem C04K_logz_mismatch_raises (k : KHist α) (β : α) (nrm : Bool) (hT : 2 ≤ k.beta.length)
    (hK : k.beta.length ≤ k.logl.length) (hZ1 : k.logz.length ≠ 1) (hZ : k.logz.length ≠ k.beta.length) :
    logwK k β nrm = .valueError := by
  have hb : k.beta.isEmpty = false := List.isEmpty_eq_false_iff.mpr (List.ne_nil_of_length_pos (by omega))
  have hl : k.logl.isEmpty = false := List.isEmpty_eq_false_iff.mpr (List.ne_nil_of_length_pos (by omega))
  have h1 : ¬ k.logl.length < k.beta.length := by omega
  have hs : bshape k.beta.length k.logz.length = none := by
    unfold bshape
    have : ¬ k.beta.length = k.logz.length := fun h => hZ h.symm
    have : ¬ k.beta.length = 1 := by omega
    simp [*]
  simp [logwK, hb, hl, h1, hs]

/-! ### the cache of `compute_results` -/

/-- what a `compute_results()` that starts from an empty cache stores under `"logw"` (`none`: it raised) -/
def freshEntry (k : KHist α) : Option (Entry α) :=
  if ragged k.logl then none
  else match logwK k Sc.one true with
    | .ok w _ => some (.logw w)
    | .outside => some .outside
    | _ => none

theorem freshEntry_eq_logw {k : KHist α} {w : List α} (hf : freshEntry k = some (.logw w)) :
    ∃ z, logwK k Sc.one true = .ok w z := by
  unfold freshEntry at hf
  split at hf
  · cases hf
  · split at hf
    · rename_i w' z heq
      simp only [Option.some.injEq, Entry.logw.injEq] at hf
      exact ⟨z, by rw [heq, hf]⟩
    · simp at hf
    · cases hf

/-- the cache a computation from scratch leaves (`.nologw`: the half-filled dictionary of a call that raised) -/
def cacheOf : Option (Entry α) → Entry α
  | some e => e
  | none => .nologw

def resOf : Option (Entry α) → Res α
  | some e => .dict e
  | none => .raised

theorem computeResults_fresh (s : SMK α) (hc : s.cache = none) :
    computeResults s = ({ s with cache := some (cacheOf (freshEntry s.hist)) }, resOf (freshEntry s.hist)) := by
  unfold computeResults freshEntry
  rw [hc]
  by_cases hr : ragged s.hist.logl = true
  · simp [hr, resOf, cacheOf]
  · simp only [hr, Bool.false_eq_true, if_false]
    cases logwK s.hist Sc.one true <;> simp [resOf, cacheOf]

omit [ScT α] in
theorem resOf_eq_dict {x : Option (Entry α)} {e : Entry α} (h : resOf x = .dict e) : x = some e := by
  cases x with
  | none => cases h
  | some e' => exact congrArg some (Res.dict.inj h)

omit [ScT α] in
theorem cacheOf_eq_logw {x : Option (Entry α)} {w : List α} (h : cacheOf x = .logw w) : x = some (.logw w) := by
  cases x with
  | none => cases h
  | some e => exact congrArg some h

theorem computeResults_cached (s : SMK α) (d : Entry α) (hc : s.cache = some d) :
    computeResults s = (s, .dict d) := by
  unfold computeResults; rw [hc]

/-- the cache, when filled, holds what a computation from scratch on the CURRENT history would leave -/
def Coherent (s : SMK α) : Prop := ∀ d, s.cache = some d → d = cacheOf (freshEntry s.hist)

theorem coherent_step (s : SMK α) (op : Op α) (hs : Coherent s) : Coherent (step s op).1 := by
  cases op with
  | weights b n => exact hs
  | results =>
    simp only [step]
    cases hc : s.cache with
    | none =>
      rw [computeResults_fresh s hc]
      exact fun d hd => (Option.some.inj hd).symm
    | some d0 => rw [computeResults_cached s d0 hc]; exact hs
  -- every other operation changes the state and resets the cache
  | _ => intro d hd; simp [step] at hd

theorem coherent_runOps (s : SMK α) (ops : List (Op α)) (hs : Coherent s) : Coherent (runOps s ops).1 := by
  induction ops generalizing s with
  | nil => exact hs
  | cons op ops ih => exact ih _ (coherent_step s op hs)

/-- **cache coherence at every point of every call sequence**: whatever was set, committed, loaded or computed
    before, a `compute_results()` that hands out a `"logw"` array hands out the normalised β = 1 weights of the history
    as it is at that moment (never those of an earlier history) -/
theorem C04K_results_never_stale (ops : List (Op α)) (w : List α)
    (h : (computeResults (runOps SMK.init ops).1).2 = .dict (.logw w)) :
    ∃ z, logwK (runOps SMK.init ops).1.hist Sc.one true = .ok w z := by
  have hco : Coherent (runOps (SMK.init : SMK α) ops).1 :=
    coherent_runOps _ ops (by intro d hd; simp [SMK.init] at hd)
  generalize (runOps (SMK.init : SMK α) ops).1 = s at h hco
  have hf : freshEntry s.hist = some (.logw w) := by
    cases hc : s.cache with
    | none =>
      rw [computeResults_fresh s hc] at h
      exact resOf_eq_dict h
    | some d =>
      rw [computeResults_cached s d hc] at h
      exact cacheOf_eq_logw ((hco d hc).symm.trans (Res.dict.inj h))
  exact freshEntry_eq_logw hf

/-- on an aligned history of equal batch sizes the entry is the batch-list model's normalised weight vector -/
theorem C04K_results_value (h : List (Batch α)) (hr : ragged (h.map (·.logl)) = false) :
    freshEntry (ofBatches h) = some (.logw (logw h Sc.one true).1) := by
  unfold freshEntry
  have : ragged (ofBatches h).logl = false := hr
  rw [this, C04K_aligned]
  simp

/-- **recorded observation about the code as it is.**  `_results_dict = dict()` is assigned before the dictionary is
    filled; when `get_history` raises inside the loop (two batches of different size: `np.array` of a ragged list)
    the half-filled dictionary stays, and the NEXT `compute_results()` returns it — a dictionary without `"logw"` —
    instead of raising again or recomputing.  The call sequence below uses the public API only. -/
theorem C04K_results_partial_after_raise :
    (runOps (SMK.init : SMK α)
      [.setBeta (some Sc.zero), .setLogz (some Sc.zero), .setLogl (some [Sc.zero]), .commit,
       .setBeta (some Sc.one), .setLogl (some [Sc.zero, Sc.zero]), .commit, .results, .results]).2
      = [.res .raised, .res (.dict .nologw)] := rfl

/-! ### non-vacuity -/

section examples
variable (a b c z1 z2 : α)

example : (runOps SMK.init ((([⟨a, z1, [b, c]⟩, ⟨b, z2, [a]⟩] : List (Batch α)).flatMap fullOps) ++ [.weights c true])).2
    = [.out (.ok (logw [⟨a, z1, [b, c]⟩, ⟨b, z2, [a]⟩] c true).1 (logw [⟨a, z1, [b, c]⟩, ⟨b, z2, [a]⟩] c true).2)] :=
  C04K_api_weights _ c true

/-- the second commit forgot `logz`: the lists are (2, 1, 2) long and the one evidence value is used twice -/
example : logwK ⟨[a, b], [z1], [[b, c], [a]]⟩ c false
    = .ok (logw [⟨a, z1, [b, c]⟩, ⟨b, z1, [a]⟩] c false).1 (logw [⟨a, z1, [b, c]⟩, ⟨b, z1, [a]⟩] c false).2 :=
  C04K_single_logz_broadcast [⟨a, z2, [b, c]⟩, ⟨b, z2, [a]⟩] z1 c false

example : logwK ⟨[a, b, c], [z1, z2], [[b, c], [a], [a]]⟩ c false = .valueError :=
  C04K_logz_mismatch_raises _ c false (by simp) (by simp) (by simp) (by simp)

example : logwK ⟨[a, b], [z1, z2], [[b, c]]⟩ c false = .indexError :=
  C04K_fewer_logl _ c false (by simp) (by simp)

/-- one beta, no stored evidence value: zero mixture columns -/
example : logwK ⟨[a], [], [[b, c]]⟩ c false = .outside := rfl

end examples

end Props.C04Keys
