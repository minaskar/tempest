import TempestVerif.Model.Modes
import TempestVerif.Model.Cadence
import TempestVerif.Model.CadenceX
import TempestVerif.Model.ModeGate
import TempestVerif.Model.TrainStep
import TempestVerif.Model.StudentModes
import TempestVerif.Model.Reweight
import TempestVerif.Gen.ModesSrc
/-
  C14 — the executable model (`Model/Modes.lean`, `Model/Cadence.lean`, `Model/CadenceX.lean`, `Model/ModeGate.lean`,
  `Model/TrainStep.lean`, and the `Trainer.run` part of `Model/StudentModes.lean`) is built from the expressions that are in
  /repo's `tempest/modes.py`, `steps/train.py` and `steps/resample.py` when the check runs.

  `Gen/ModesSrc.lean` is regenerated from the source on every run of the check (translator G20, `translate/g20_modes.py`):
  a substituting evaluator reads `ModeStatistics.mode_index`, the label handling of `from_particles`, the gate of
  `ModeStatistics.__init__`, `Trainer.run` and `Resampler.run` and compiles every index expression, comparison, literal and
  branch condition to a term over `Nat` / `List Nat` / `Bool` / `Sc α` and the numpy vocabulary `Model/NpModes.lean`
  (namespace `NpL`), plus the effects (clusterer calls, trimming, constructors, state writes, raises) in program order with
  their path conditions.  The theorems below say that the hand-written model IS these terms: by `rfl` wherever model and source
  have the same form, by a two-line argument about `Nat` / `Bool` / `List` where they differ in form but not in value
  (`min x h` versus `clip x 0 h`, `if p == q then i else n` versus `if p != q then n else i`, a fused `zipWith` versus
  `map ∘ zipWith`, `∧` of two `decide`s versus a comparison of shape lists) — such a statement holds for every input and every
  scalar type (`Float`, which the driver executes, included) and assumes nothing.  A change of a literal, an operator, an operand
  order, a comparison, a branch condition, the order / arguments / path condition of an effect changes the generated file and
  breaks the theorem named after the definition.
-/
namespace Props.C14.Src
open Model.Modes Gen.ModesSrc

/-! ### `ModeStatistics.mode_index` -/

/-- `np.clip(x, 0, h)` on indices is `min x h` -/
theorem clip_zero (x h : Nat) : NpL.clip x 0 h = min x h := by simp [NpL.clip]

/-- `index = np.clip(np.searchsorted(self.labels, assignments), 0, self.K - 1)` with `K` = the number of stored labels -/
theorem C14_src_index0 (stored : List Nat) (a : Nat) :
    min (searchsorted stored a) (stored.length - 1) = miIndex0 stored stored.length a := by
  rw [miIndex0, clip_zero]

/-- `missing = self.labels[index] != assignments` is the negation of the model's test -/
theorem C14_src_missing (stored : List Nat) (i a : Nat) : (stored[i]? == some a) = !(miMissing stored i a) := by
  simp [miMissing, bne]

/-- `mode_index`, first component, `self.labels` stored: clip of searchsorted, masked store of the nearest mode -/
theorem C14_src_modeIndex (stored : List Nat) (nearest a : Nat) :
    modeIndex stored nearest a = miIndex stored stored.length nearest a := by
  simp only [modeIndex, miIndex, ← C14_src_index0, C14_src_missing]
  cases miMissing stored (min (searchsorted stored a) (stored.length - 1)) a <;> rfl

/-- the same with the fallback inside the model: `np.argmin(dist, axis=1)` of the particle's row, only where `missing` -/
theorem C14_src_modeIndexD {α : Type} [ScT α] (stored : List Nat) (drow : List α) (a : Nat) :
    modeIndexD stored drow a =
      (let i := miIndex0 stored stored.length a
       if miMissing stored i a then miNearest drow else some i) := by
  simp only [modeIndexD, miNearest, ← C14_src_index0, C14_src_missing]
  cases miMissing stored (min (searchsorted stored a) (stored.length - 1)) a <;> rfl

/-- `if self.labels is None: return assignments, assignments`; otherwise the index above -/
theorem C14_src_modeIndexOpt (stored : Option (List Nat)) (nearest a : Nat) :
    modeIndexOpt stored nearest a =
      (match stored with
       | none => (miNoLabels a).1
       | some st => (miResult st st.length nearest a).1) := by
  cases stored with
  | none => rfl
  | some st => exact C14_src_modeIndex st nearest a

theorem C14_src_noLabels (a : Nat) : miNoLabels a = (a, some a) := rfl

/-- second component `self.labels[index]` (what `Mutator.run` writes back), taken at the index RETURNED -/
theorem C14_src_relabel (stored : List Nat) (nearest a : Nat) :
    relabel stored nearest a = (miResult stored stored.length nearest a).2 := by
  simp only [relabel, miResult, miLabel, C14_src_modeIndex]

/-- the rows of `u` whose distances are computed are selected by the mask the store uses -/
theorem C14_src_masks : miRowMask = miStoreMask := rfl

/-- `ModeStatistics.K` (read by `np.clip(…, 0, self.K - 1)`) is the number of rows of `means` -/
theorem C14_src_K : kDef = ["self.means.shape[0]"] := rfl

/-- the distances whose `argmin` is taken: `np.linalg.norm(u[:, None, :] - means[None, :, :], axis=2)`; the model's squared
    distances are these before the square root (operand order `u − mean` included) -/
theorem C14_src_distRow {α : Type} [ScT α] (means : List (List α)) (u : List α) :
    miDistRow means u = (Model.TrainStep.sqDistRow means u).map ScT.sqrt := by
  simp [miDistRow, Model.TrainStep.sqDistRow, Model.TrainStep.sqDist, NpL.norm, NpL.sumSq, List.map_zipWith]

/-- `Model.TrainStep.mapIndex` (the `mode_index` call of `Mutator.run` for all active particles) on the generated terms -/
theorem C14_src_mapIndex_cons {P α : Type} [ScT α] (stored : List Nat) (dist : P → List α) (u : P) (us : List P) (a : Nat)
    (as : List Nat) :
    Model.TrainStep.mapIndex stored dist (u :: us) (a :: as) =
      (match (let i := miIndex0 stored stored.length a
              if miMissing stored i a then miNearest (dist u) else some i),
             Model.TrainStep.mapIndex stored dist us as with
       | some i, some r => (miLabel stored i).map fun l => ⟨u, a, i, l⟩ :: r
       | _, _ => none) := by
  rw [Model.TrainStep.mapIndex, C14_src_modeIndexD]; rfl

/-! ### label handling of `ModeStatistics.from_particles` -/

/-- `for label in np.unique(labels)`: `idx_cluster = np.where(labels == label)[0]`, one mode appended per pass -/
theorem C14_src_fromParticles (labels : List Nat) : fromParticles labels = fpModes labels := rfl

/-- `labels=unique_labels` of the constructor call is what the loop ran over -/
theorem C14_src_labelsOf (labels : List Nat) :
    labelsOf labels = fpLoopLabels labels ∧ some (labelsOf labels) = fpStored labels := ⟨rfl, rfl⟩

/-- the three constructor arguments are filled once per pass of the same loop: `K` = number of distinct labels present =
    number of stored labels (which is why `self.K - 1` in `mode_index` is `stored.length - 1`) -/
theorem C14_src_ctorArgs (labels : List Nat) :
    fpMeansOver labels = fpLoopLabels labels ∧ fpCovsOver labels = fpLoopLabels labels ∧ fpDofsOver labels = fpLoopLabels labels ∧
    fpStored labels = some (fpMeansOver labels) := ⟨rfl, rfl, rfl, rfl⟩

theorem C14_src_numModes (labels : List Nat) :
    numModes labels = (fpMeansOver labels).length ∧ numModes labels = (labelsOf labels).length := by
  simp [numModes, fromParticles, fpMeansOver, labelsOf]

/-- which rows each fit is fed (`Model.Modes.fitInput`: the tape indexes the MEMBERS of the mode, drawn from
    `range(len(members))`), and what each pass appends -/
def expected_fpFitFlow : List String :=
  ["r0 = np.random.choice(len(u[MEMBERS]), size=len(u[MEMBERS]) * resample_factor, replace=True, p=(weights / np.sum(weights))[MEMBERS] / np.sum((weights / np.sum(weights))[MEMBERS]))",
   "r1 = fit_mvstud(u[MEMBERS][r0])",
   "append: r1[0]",
   "append: r1[1]",
   "append: dof_fallback if ~np.isfinite(r1[2]) else r1[2]"]

theorem C14_src_fitFlow : fpFitFlow = expected_fpFitFlow := rfl

/-! ### the gate of `ModeStatistics.__init__` (on array shapes) -/

/-- `K` modes of dimension `d`: the constructor passes the shape checks iff there are as many covariances and degrees of
    freedom as means -/
theorem C14_src_initGate (K d kc kd : Nat) :
    initGate [K, d] [kc, d, d] [kd] = decide (kc = K ∧ kd = K) := by
  simp [initGate, initMeansShape, initCovShape, initDofShape]
  by_cases h1 : kc = K <;> by_cases h2 : kd = K <;> simp [h1, h2]

/-- no label at all (`np.array([])` three times, shape `(0,)`): `means` becomes `(1, 0)` and the covariance check raises -/
theorem C14_src_initGate_empty : initGate [0] [0] [0] = false := by decide

/-- `Model.Modes.mkModeStats`: the shape gate, then `np.linalg.inv`, then `np.linalg.cholesky` of every covariance -/
theorem C14_src_mkModeStats {V M D : Type} (inv? cholesky? : M → Option M) (means : List V) (covs : List M) (dofs : List D)
    (d : Nat) :
    (mkModeStats inv? cholesky? means covs dofs).isSome =
      (initGate [means.length, d] [covs.length, d, d] [dofs.length] && (mapOpt inv? covs).isSome && (mapOpt cholesky? covs).isSome) := by
  rw [C14_src_initGate]
  unfold mkModeStats
  by_cases h : covs.length = means.length ∧ dofs.length = means.length
  · simp only [h, and_self, if_true, decide_true, Bool.true_and]
    cases mapOpt inv? covs <;> cases mapOpt cholesky? covs <;> rfl
  · simp [h]

/-- the shape `np.array` gives a list of `n` arrays of shape `s` -/
def npArrayShape (n : Nat) (s : List Nat) : List Nat := if n = 0 then [0] else n :: s

/-- `Model.ModeGate.construct` (dimension `d ≥ 1`): `K = 0` raises, otherwise the length checks and the inverses -/
theorem C14_src_construct {α : Type} [Sc α] (ms : Model.StudentModes.MS α) (d : Nat) (hd : 0 < d) :
    (Model.ModeGate.construct ms).isSome =
      (initGate (npArrayShape ms.means.length [d]) (npArrayShape ms.covs.length [d, d]) [ms.dofs.length]
        && (mapOpt Model.Student.inv ms.covs).isSome) := by
  unfold Model.ModeGate.construct npArrayShape
  by_cases h0 : ms.means.length = 0
  · have : d ≠ 0 := by omega
    by_cases hc : ms.covs.length = 0 <;>
      simp [h0, hc, initGate, initMeansShape, initCovShape, initDofShape, NpL.numel, this]
  · by_cases hc : ms.covs.length = 0
    · have : ¬ (0 = ms.means.length) := fun h => h0 h.symm
      simp [h0, hc, initGate, initMeansShape, initCovShape, initDofShape, this]
    · simp only [h0, hc, if_false, C14_src_initGate]
      by_cases h : ms.covs.length = ms.means.length ∧ ms.dofs.length = ms.means.length
      · simp [h]
      · simp [h]

def expected_initEffects : List String :=
  ["C0 := self.means.ndim == 1",
   "C1 := self.covariances.ndim == 2",
   "C2 := self.degrees_of_freedom.ndim == 0",
   "C3 := self.covariances.shape != (self.means.shape[0], self.means.shape[1], self.means.shape[1])",
   "C4 := self.degrees_of_freedom.shape != (self.means.shape[0],)",
   "self.means := means",
   "self.covariances := covariances",
   "self.degrees_of_freedom := degrees_of_freedom",
   "self.labels := None if labels is None else labels",
   "[C0] self.means := self.means.reshape(1, -1)",
   "[C1] self.covariances := self.covariances.reshape(1, *self.covariances.shape)",
   "[C2] self.degrees_of_freedom := np.array([self.degrees_of_freedom])",
   "[C3] raise ValueError",
   "[!C3 C4] raise ValueError",
   "[!C3 !C4] self.inv_covariances := np.linalg.inv(self.covariances)",
   "[!C3 !C4] self.chol_covariances := np.linalg.cholesky(self.covariances)"]

/-- program order of the constructor: attribute writes, the three `ndim` fix-ups, the two raises, then `inv` and `cholesky`
    of `self.covariances` — both only when no check raised -/
theorem C14_src_initEffects : initEffects = expected_initEffects := rfl

/-! ### `Trainer.run`

  The behaviour of the method is generated as a FUNCTION OF THE ATOMIC CONDITIONS of all its branch tests (`trAtoms`, sorted by
  their text; `trAtom0 …` compiled): `trTraceId` is the reduced decision tree telling which of the distinct TRACES
  (`trTrace0 …`: the effects in program order under one valuation, conditional expressions resolved, events renumbered) runs.
  A restructuring of the `if / elif / else` that keeps the behaviour regenerates the same tree and the same traces. -/

theorem C14_src_trAtoms :
    trAtoms = ["self._clusterer_fitted",
               "self.clustering",
               "self.state.get_current('beta') == 0.0",
               "self.state.get_current('iter') % self.cluster_every == 0",
               "self.state.get_current('iter') == 0"] := rfl

/-- the atomic conditions as terms: the Trainer's flag, `self.clustering`, `beta == 0.0` (`Model.Reweight.eqv`, the test the
    closed-loop model uses), and the two halves of the cadence test `Model.Cadence.onCadence` -/
theorem C14_src_trAtomDefs {α : Type} [ScT α] (beta : α) (cl : Bool) (iter ce : Nat) (f : Bool) :
    trAtom0 beta cl iter ce f = f ∧ trAtom1 beta cl iter ce f = cl ∧
    trAtom2 beta cl iter ce f = Model.Reweight.eqv beta Sc.zero ∧
    trAtom3 beta cl iter ce f = (iter % ce == 0) ∧ trAtom4 beta cl iter ce f = (iter == 0) := ⟨rfl, rfl, rfl, rfl, rfl⟩

def expected_trTrace0 : List String :=
  ["r0 = trim_weights(np.arange(len(weights)), weights, ess=self.TRIM_ESS, bins=self.TRIM_BINS)",
   "r1 = ModeStatistics.from_global(self.state.get_history('u', flat=True)[r0[0]], r0[1], dof_fallback=self.DOF_FALLBACK)",
   "return r1"]

def expected_trTrace1 : List String :=
  ["r0 = ModeStatistics(means=np.zeros((1, self.state.n_dim)), covariances=np.eye(self.state.n_dim).reshape(1, self.state.n_dim, self.state.n_dim), degrees_of_freedom=np.array([self.DOF_FALLBACK]))",
   "return r0"]

def expected_trTrace2 : List String :=
  ["r0 = trim_weights(np.arange(len(weights)), weights, ess=self.TRIM_ESS, bins=self.TRIM_BINS)",
   "self.clusterer.fit(self.state.get_history('u', flat=True)[r0[0]], r0[1])",
   "self._clusterer_fitted := True",
   "r1 = self.clusterer.predict(self.state.get_history('u', flat=True)[r0[0]])",
   "r2 = ModeStatistics.from_particles(self.state.get_history('u', flat=True)[r0[0]], r0[1], r1, dof_fallback=self.DOF_FALLBACK)",
   "return r2"]

def expected_trTrace3 : List String :=
  ["r0 = trim_weights(np.arange(len(weights)), weights, ess=self.TRIM_ESS, bins=self.TRIM_BINS)",
   "r1 = self.clusterer.predict(self.state.get_history('u', flat=True)[r0[0]])",
   "r2 = ModeStatistics.from_particles(self.state.get_history('u', flat=True)[r0[0]], r0[1], r1, dof_fallback=self.DOF_FALLBACK)",
   "return r2"]

/-- the four things `Trainer.run` can do — the data flow `Model.TrainStep.annealIter` / `annealCore` was written against:
    0 (no clustering) trim, `from_global(history[kept], trimmed weights)`;  1 (`beta == 0`) nothing but the constructor;
    2 trim FIRST, `fit(u, trimmed weights)` on the pool `u = history[kept]`, the flag, `predict(u)` on the SAME pool,
    `from_particles(u, trimmed weights, labels)`;  3 the same without `fit` and the flag.  The object built is returned. -/
theorem C14_src_trTraces :
    trTraceCount = ["4"] ∧ trTrace0 = expected_trTrace0 ∧ trTrace1 = expected_trTrace1 ∧ trTrace2 = expected_trTrace2 ∧
    trTrace3 = expected_trTrace3 := ⟨rfl, rfl, rfl, rfl, rfl⟩

/-- the clusterer calls of each trace, in order: `fit` BEFORE `predict` -/
theorem C14_src_trClusterer :
    trClusterer0 = [] ∧ trClusterer1 = [] ∧ trClusterer2 = ["fit", "predict"] ∧ trClusterer3 = ["predict"] := ⟨rfl, rfl, rfl, rfl⟩

/-- which path of the model a trace is (read off the tables above) -/
def pathOfTrace : Nat → Option Model.StudentModes.Path
  | 0 => some .global
  | 1 => some .dummy
  | 2 => some .fitPredict
  | 3 => some .predictOnly
  | _ => none

/-- the `if / elif / else` of `Trainer.run` (`Model.StudentModes.trainerPath`) is the generated decision tree -/
theorem C14_src_trainerPath (betaZero clustering a b fitted : Bool) :
    some (Model.StudentModes.trainerPath betaZero clustering (a || b) fitted) =
      pathOfTrace (trTraceId fitted clustering betaZero a b) := by
  cases betaZero <;> cases clustering <;> cases a <;> cases b <;> cases fitted <;> rfl

theorem C14_src_trainerPath_inputs {α : Type} [ScT α] (beta : α) (clustering fitted : Bool) (iter ce : Nat) :
    some (Model.StudentModes.trainerPath (Model.Reweight.eqv beta Sc.zero) clustering (iter % ce == 0 || iter == 0) fitted) =
      pathOfTrace (trTraceOf beta clustering iter ce fitted) :=
  C14_src_trainerPath _ _ _ _ _

/-- `Model.TrainStep.mustFit` (clustering on, `beta > 0`): exactly when the fitting trace runs -/
theorem C14_src_mustFit (ce : Nat) (flag : Bool) (iter : Nat) :
    Model.TrainStep.mustFit ce flag iter = (trTraceId flag true false (iter % ce == 0) (iter == 0) == 2) := by
  unfold Model.TrainStep.mustFit
  generalize (iter % ce == 0) = a
  generalize (iter == 0) = b
  cases a <;> cases b <;> cases flag <;> rfl

/-- the clusterer calls of a trace as events of `Model.Cadence` -/
def cadenceEvents (calls : List String) : List Model.Cadence.Event :=
  calls.filterMap fun c => if c = "fit" then some .fit else if c = "predict" then some .predict else none

def trClustererOf : Nat → List String
  | 0 => trClusterer0 | 1 => trClusterer1 | 2 => trClusterer2 | 3 => trClusterer3 | _ => []

/-- the three-way branch of the two cadence models on abstract cadence bits -/
theorem trainer_core {σ : Type} (cl warm flag a b : Bool) (s0 X Y : σ) :
    (if warm then s0 else if (cl && ((a || b) || !flag)) then X else if (cl && !(a || b)) then Y else s0) =
      (if trTraceId flag cl warm a b = 2 then X else if trTraceId flag cl warm a b = 3 then Y else s0) := by
  cases cl <;> cases warm <;> cases flag <;> cases a <;> cases b <;> rfl

/-- `Model.Cadence.trainer` (the code as it is now: `useFlag = true`): branch by the generated tree; the fitting trace fits,
    sets the flag, predicts; the predict-only trace predicts; the other two touch nothing -/
theorem C14_src_cadenceTrainer (ce : Nat) (cl warm : Bool) (s : Model.Cadence.St) :
    Model.Cadence.trainer ⟨ce, cl, true⟩ warm s =
      (if trTraceId s.flag cl warm (s.iter % ce == 0) (s.iter == 0) = 2 then
         Model.Cadence.emitPredict { Model.Cadence.emitFit s with flag := true }
       else if trTraceId s.flag cl warm (s.iter % ce == 0) (s.iter == 0) = 3 then Model.Cadence.emitPredict s
       else s) :=
  trainer_core cl warm s.flag (s.iter % ce == 0) (s.iter == 0) s _ _

/-- … and the events it appends are the clusterer calls of the trace, in the order of the source -/
theorem C14_src_cadenceTrainer_events (ce : Nat) (cl warm : Bool) (s : Model.Cadence.St) :
    (Model.Cadence.trainer ⟨ce, cl, true⟩ warm s).trace =
      s.trace ++ cadenceEvents (trClustererOf (trTraceId s.flag cl warm (s.iter % ce == 0) (s.iter == 0))) := by
  have hp : ∀ q : Model.Cadence.St, (Model.Cadence.emitPredict q).trace = q.trace ++ [.predict] := fun q => by
    unfold Model.Cadence.emitPredict; split <;> rfl
  have e2 : cadenceEvents ["fit", "predict"] = [.fit, .predict] := by decide
  have e3 : cadenceEvents ["predict"] = [.predict] := by decide
  rw [C14_src_cadenceTrainer]
  -- only the traces 2 and 3 call the clusterer
  generalize trTraceId s.flag cl warm (s.iter % ce == 0) (s.iter == 0) = n
  rcases n with _ | _ | _ | _ | n
  · exact (List.append_nil _).symm
  · exact (List.append_nil _).symm
  · show (Model.Cadence.emitPredict { Model.Cadence.emitFit s with flag := true }).trace = s.trace ++ cadenceEvents ["fit", "predict"]
    rw [hp, e2]; exact List.append_assoc ..
  · show (Model.Cadence.emitPredict s).trace = s.trace ++ cadenceEvents ["predict"]
    rw [hp, e3]
  · exact (List.append_nil _).symm

theorem C14_src_cadenceXTrainer (ce : Nat) (cl warm : Bool) (s : Model.CadenceX.St) :
    Model.CadenceX.trainer ⟨ce, cl⟩ warm s =
      (if trTraceId s.flag cl warm (s.iter % ce == 0) (s.iter == 0) = 2 then
         Model.CadenceX.emitPredict { Model.CadenceX.emitFit s with flag := true }
       else if trTraceId s.flag cl warm (s.iter % ce == 0) (s.iter == 0) = 3 then Model.CadenceX.emitPredict s
       else s) :=
  trainer_core cl warm s.flag (s.iter % ce == 0) (s.iter == 0) s _ _

/-- the object returned at `beta == 0`: one mode, zero mean, identity scale, `[self.DOF_FALLBACK]`, no labels -/
theorem C14_src_dummy {α : Type} [ScT α] (fitFns : List (Model.Student.Mat α → Option (Model.StudentModes.FitOut α))) (d : Nat)
    (u : Model.Student.Mat α) (w : List α) (labels : List Nat) (cfgFb : α) (us : List α) :
    Model.StudentModes.trainerRun .dummy fitFns d u w labels cfgFb us =
      .ok ⟨trDummyMeans d, trDummyCovs d, (trDummyDofs cfgFb).map .fin, trDummyLabels⟩ := rfl

/-- … and it passes the shape gate of the constructor for every dimension -/
theorem C14_src_dummy_gate (d : Nat) : initGate [1, d] [1, d, d] [1] = true := by
  rw [C14_src_initGate]; simp

/-! ### `Resampler.run`: the `assignments` hand-off (rows about `assignments`, `current['u']`, the clusterer, and the events
  they refer to) -/

theorem C14_src_rsAtoms :
    rsAtoms = ["self.clustering", "self.resample == 'mult'", "self.resample == 'syst'",
               "self.state.get_current('beta') == 0.0"] := rfl

/-- the skip test of `Resampler.run` is the SAME term as `Trainer.run`'s: one flag `warm` serves both steps in
    `Model.Cadence` / `Model.CadenceX` / `Model.TrainStep` -/
theorem C14_src_rsAtomDefs {α : Type} [ScT α] (beta : α) (cl mult syst f : Bool) (iter ce : Nat) :
    rsAtom0 beta cl mult syst = cl ∧ rsAtom1 beta cl mult syst = mult ∧ rsAtom2 beta cl mult syst = syst ∧
    rsAtom3 beta cl mult syst = trAtom2 beta cl iter ce f := ⟨rfl, rfl, rfl, rfl⟩

def expected_rsTrace1 : List String :=
  ["current['assignments'] := np.zeros(self.n_particles, dtype=int)",
   "return None"]

def expected_rsTrace2 : List String :=
  ["r0 = systematic_resample(self.n_particles, weights=weights)",
   "current['u'] := self.state.get_history('u', flat=True)[r0]",
   "current['assignments'] := np.zeros(self.n_particles, dtype=int)"]

def expected_rsTrace3 : List String :=
  ["r0 = np.random.choice(np.arange(len(weights)), size=self.n_particles, replace=True, p=weights)",
   "current['u'] := self.state.get_history('u', flat=True)[r0]",
   "current['assignments'] := np.zeros(self.n_particles, dtype=int)"]

def expected_rsTrace5 : List String :=
  ["r0 = systematic_resample(self.n_particles, weights=weights)",
   "r1 = self.clusterer.predict(self.state.get_history('u', flat=True)[r0])",
   "current['u'] := self.state.get_history('u', flat=True)[r0]",
   "current['assignments'] := r1"]

def expected_rsTrace6 : List String :=
  ["r0 = np.random.choice(np.arange(len(weights)), size=self.n_particles, replace=True, p=weights)",
   "r1 = self.clusterer.predict(self.state.get_history('u', flat=True)[r0])",
   "current['u'] := self.state.get_history('u', flat=True)[r0]",
   "current['assignments'] := r1"]

/-- `assignments` is the RAW `predict` output of the shared clusterer on exactly the rows `history[idx]` that are written to
    `current['u']` (`Model.TrainStep.annealCore`: `cpredict f ures` with `ures = gather hist idx`), zeros without clustering and
    at `beta == 0` (where nothing else is written).  Traces 0 and 4 are the unreachable `self.resample ∉ {mult, syst}`. -/
theorem C14_src_rsTraces :
    rsTraceCount = ["7"] ∧ rsTrace1 = expected_rsTrace1 ∧ rsTrace2 = expected_rsTrace2 ∧ rsTrace3 = expected_rsTrace3 ∧
    rsTrace5 = expected_rsTrace5 ∧ rsTrace6 = expected_rsTrace6 := ⟨rfl, rfl, rfl, rfl, rfl, rfl⟩

theorem C14_src_rsClusterer :
    rsClusterer1 = [] ∧ rsClusterer2 = [] ∧ rsClusterer3 = [] ∧ rsClusterer5 = ["predict"] ∧ rsClusterer6 = ["predict"] :=
  ⟨rfl, rfl, rfl, rfl, rfl⟩

/-- does the trace call `predict`? (read off the tables above; a valid scheme: exactly one of `mult`, `syst`) -/
def rsPredicts : Nat → Bool
  | 5 => true | 6 => true | _ => false

/-- `Model.Cadence.resampler`: `predict` iff `beta != 0` and `self.clustering`, for both resampling schemes -/
theorem C14_src_cadenceResampler (c : Model.Cadence.Cfg) (warm mult : Bool) (s : Model.Cadence.St) :
    Model.Cadence.resampler c warm s =
      if s.verdict != .ok then s
      else if rsPredicts (rsTraceId c.clustering mult (!mult) warm) then Model.Cadence.emitPredict s else s := by
  unfold Model.Cadence.resampler
  cases c.clustering <;> cases mult <;> cases warm <;> rfl

theorem C14_src_cadenceXResampler (c : Model.CadenceX.Cfg) (warm mult : Bool) (s : Model.CadenceX.St) :
    Model.CadenceX.resampler c warm s =
      if s.verdict != .ok then s
      else if rsPredicts (rsTraceId c.clustering mult (!mult) warm) then Model.CadenceX.emitPredict s else s := by
  unfold Model.CadenceX.resampler
  cases c.clustering <;> cases mult <;> cases warm <;> rfl

/-! ### non-vacuity: the generated terms compute -/

example : miResult [0, 2, 5] 3 1 2 = (1, some 2) := by decide
example : miResult [0, 2, 5] 3 1 4 = (1, some 2) := by decide     -- label 4 has no mode: nearest (= 1) is used
example : miResult [0, 2, 5] 3 0 9 = (0, some 0) := by decide     -- out of range: clipped, then the fallback
example : fpModes [2, 0, 2, 5] = [[1], [0, 2], [3]] := by decide
example : initGate [3, 2] [3, 2, 2] [3] = true ∧ initGate [3, 2] [2, 2, 2] [3] = false ∧ initGate [2] [1, 2, 2] [] = true := by decide
example : trTraceId false true false false false = 2 ∧ trTraceId true true false false false = 3 ∧
    trTraceId true false false true true = 0 ∧ trTraceId true true true true true = 1 := by decide

end Props.C14.Src
