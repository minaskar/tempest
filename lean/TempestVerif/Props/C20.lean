import TempestVerif.Model.Ess
import TempestVerif.Model.Trim
import TempestVerif.Lemmas.ScReal
import TempestVerif.Lemmas.Ess
import TempestVerif.Lemmas.Trim
import Mathlib.Analysis.SpecialFunctions.Exp
/-
  C20 — weight utilities at `ℝ` (exact arithmetic): `Model.Ess` (`effective_sample_size`, `compute_ess`), `Model.Trim` (`trim_weights`),
  over the facts of `Lemmas/Ess.lean` and `Lemmas/Trim.lean`.  `volume_variation`: `C20VolVar`; further consequences and the call sites:
  `C20Audit`, `C20Sites`; agreement with the compiled source: `C20Source`; IEEE rounding: correspondence check, `C20Round`, `C20RelRound`.
  Where a `C20_` theorem states a lemma of `Lemmas/` over again it is the property's claim under its name; proofs elsewhere cite the lemma.
-/
namespace Props.C20
open Model.Ess Model.Trim

theorem ess_eq_kish (w : List ℝ) : ess w = w.sum * w.sum / (w.map (fun x => x * x)).sum :=
  Model.Ess.ess_eq_kish w

/-! ### effective sample size -/

/-- ESS lies in [1, N] for non-negative weights with positive sum -/
theorem C20_ess_bounds (w : List ℝ) (h0 : ∀ x ∈ w, 0 ≤ x) (hs : 0 < w.sum) :
    1 ≤ ess w ∧ ess w ≤ w.length := ess_bounds w h0 hs

/-- ESS is invariant under rescaling of the weights -/
theorem C20_ess_scale_invariant (c : ℝ) (hc : 0 < c) (w : List ℝ) :
    ess (w.map (fun x => c * x)) = ess w := ess_smul c hc.ne' w

/-- ESS of `N ≥ 1` equal positive weights is `N` -/
theorem C20_ess_uniform (N : Nat) (hN : 0 < N) (c : ℝ) (hc : 0 < c) :
    ess (List.replicate N c) = N := by
  rw [ess_eq_kish]
  have hN' : (N : ℝ) ≠ 0 := by exact_mod_cast hN.ne'
  simp only [List.map_replicate, List.sum_replicate, nsmul_eq_mul]
  field_simp

/-- `compute_ess(logw)` = ESS of `exp(logw)` divided by `N`: the max-shift is mathematically a no-op -/
theorem C20_compute_ess (logw : List ℝ) (h : logw ≠ []) :
    computeEss logw = some (ess (logw.map Real.exp) / logw.length) := by
  cases logw with
  | nil => exact absurd rfl h
  | cons x xs =>
    rw [← ess_map_exp_add (x :: xs) (-(maxOf x xs))]
    simp only [computeEss, ess, sc_real, sub_eq_add_neg]

/-- `compute_ess` is invariant under adding a constant to all log-weights -/
theorem C20_compute_ess_shift (logw : List ℝ) (c : ℝ) :
    computeEss (logw.map (fun l => l + c)) = computeEss logw := by
  cases logw with
  | nil => rfl
  | cons x xs =>
    rw [C20_compute_ess _ (by simp), C20_compute_ess _ (by simp), List.map_map, List.length_map]
    exact congrArg (fun e => some (e / _)) (ess_map_exp_add (x :: xs) c)

theorem ess_div_length_bounds (w : List ℝ) (h0 : ∀ x ∈ w, 0 ≤ x) (hs : 0 < w.sum) :
    1 / (w.length : ℝ) ≤ ess w / w.length ∧ ess w / w.length ≤ 1 := by
  have hN : (0 : ℝ) < w.length :=
    Nat.cast_pos.mpr (List.length_pos_iff.mpr (ScReal.ne_nil_of_sum_pos hs))
  obtain ⟨h1, h2⟩ := C20_ess_bounds w h0 hs
  exact ⟨div_le_div_of_nonneg_right h1 hN.le, (div_le_one hN).mpr h2⟩

/-- `compute_ess ∈ [1/N, 1]` -/
theorem C20_compute_ess_bounds (logw : List ℝ) (h : logw ≠ []) :
    ∃ v, computeEss logw = some v ∧ 1 / (logw.length : ℝ) ≤ v ∧ v ≤ 1 := by
  have hpos : ∀ x ∈ logw.map Real.exp, 0 < x := by
    intro x hx; obtain ⟨y, _, rfl⟩ := List.mem_map.mp hx; exact Real.exp_pos y
  have hb := ess_div_length_bounds _ (fun x hx => (hpos x hx).le) (List.sum_pos _ hpos (by simpa using h))
  rw [List.length_map] at hb
  exact ⟨_, C20_compute_ess logw h, hb⟩

example : ess [(1 : ℝ), 1, 2] = 8 / 3 := by
  rw [ess_eq_kish]; norm_num
example : (1 : ℝ) ≤ ess [(1 : ℝ), 1, 2] ∧ ess [(1 : ℝ), 1, 2] ≤ 3 := by
  have := C20_ess_bounds [1, 1, 2] (by simp) (by norm_num); simpa using this
example : ess [(3 : ℝ), 0, 0] = 1 := by rw [ess_eq_kish]; norm_num
example : computeEss ([0, 0] : List ℝ) = some 1 := by
  rw [C20_compute_ess _ (List.cons_ne_nil _ _), ess_eq_kish]; norm_num

/-! ### `trim_weights` -/

/-- **maximality.** The search runs from the top of the grid: every grid percentile above the chosen one fails the test;
    the chosen one passes it or is the bottom of the grid -/
theorem C20_trim_maximal {σ : Type} (samples : List σ) (w : List ℝ) (e : ℝ) (bins : Nat)
    (s' : List σ) (w' : List ℝ) (h : trim samples w e bins = some (s', w')) :
    ∃ j st, j < bins ∧
      step (normalise w) (sortAsc (normalise w)) (ess w) (linspace0_99 bins j) = some st ∧
      s' = filterMask samples st.mask ∧ w' = st.wt ∧ (e ≤ st.ratio ∨ j = 0) ∧
      ∀ k, j < k → k < bins →
        ∃ st', step (normalise w) (sortAsc (normalise w)) (ess w) (linspace0_99 bins k) = some st' ∧ st'.ratio < e :=
  trim_spec samples w e bins s' w' h

/-- **upper set + alignment.** Whatever `trim_weights` returns is obtained from ONE boolean mask `m_i = (θ ≤ wn_i)` on the normalised
    weights `wn`, `θ` the percentile of `wn` at a grid point: samples `samples[m]`, weights `wn[m]` (exactly those `≥ θ`) renormalised. -/
theorem C20_trim_upper_set {σ : Type} (samples : List σ) (w : List ℝ) (e : ℝ) (bins : Nat)
    (s' : List σ) (w' : List ℝ) (h : trim samples w e bins = some (s', w')) :
    ∃ (θ : ℝ) (j : Nat), j < bins ∧
      percentileLinear (sortAsc (normalise w)) (linspace0_99 bins j) = some θ ∧
      let m := (normalise w).map (fun x => Sc.le θ x)
      s' = filterMask samples m ∧
      w' = normalise (filterMask (normalise w) m) ∧
      filterMask (normalise w) m = (normalise w).filter (fun x => decide (θ ≤ x)) := by
  obtain ⟨j, st, hj, hstep, rfl, rfl, _⟩ := C20_trim_maximal samples w e bins s' w' h
  obtain ⟨hp, hm, hw, _⟩ := step_spec _ _ _ _ _ hstep
  exact ⟨st.thr, j, hj, hp, by rw [hm], by rw [hw, hm], mask_le_eq_filter _ _⟩

/-- the same mask expressed on the raw (un-normalised) weights: `w_i ≥ θ·Σw` -/
theorem C20_trim_mask_raw (w : List ℝ) (hs : 0 < w.sum) (θ : ℝ) :
    (normalise w).map (fun x => Sc.le θ x) = w.map (fun x => Sc.le (θ * w.sum) x) := by
  rw [normalise_def, List.map_map]
  apply List.map_congr_left
  intro x _
  rw [Function.comp, Bool.eq_iff_iff, ScReal.le_def, ScReal.le_def, le_div_iff₀ hs]

/-- alignment, spelled out on pairs: for arrays of equal length the (sample, weight) pairs that survive are exactly
    the original pairs whose weight is `≥ θ`, in the original order -/
theorem C20_trim_aligned {σ : Type} (samples : List σ) (wn : List ℝ) (θ : ℝ) (hl : samples.length = wn.length) :
    let m := wn.map (fun x => Sc.le θ x)
    (filterMask samples m).zip (filterMask wn m) = (samples.zip wn).filter (fun q => decide (θ ≤ q.2)) ∧
    (filterMask samples m).length = (filterMask wn m).length ∧
    (filterMask samples m).Sublist samples := by
  intro m
  refine ⟨?_, filterMask_length_eq _ _ _ hl, filterMask_sublist _ _⟩
  have hm : ((samples.zip wn).map Prod.snd).map (fun x => Sc.le θ x) = m := by rw [List.map_snd_zip hl.ge]
  rw [filterMask_zip, ← hm, List.map_map, filterMask_map_eq_filter]
  rfl

/-- **normalisation.** The returned weights sum to 1 -/
theorem C20_trim_normalised {σ : Type} (samples : List σ) (w : List ℝ) (e : ℝ) (bins : Nat)
    (h0 : ∀ x ∈ w, 0 ≤ x) (hs : 0 < w.sum)
    (s' : List σ) (w' : List ℝ) (h : trim samples w e bins = some (s', w')) : w'.sum = 1 := by
  obtain ⟨_, st, _, _, rfl, hv, _⟩ := trim_spec_valid samples w e bins h0 hs s' w' h
  exact hv.wt_sum

/-- **ESS guarantee.** For a requested fraction `e ≤ 1` the ESS of what is returned is at least `e` times the untrimmed ESS
    (either the stop test held, or the loop reached grid index 0 where everything is kept and the ratio is 1) -/
theorem C20_trim_ess {σ : Type} (samples : List σ) (w : List ℝ) (e : ℝ) (bins : Nat)
    (h0 : ∀ x ∈ w, 0 ≤ x) (hs : 0 < w.sum) (he : e ≤ 1)
    (s' : List σ) (w' : List ℝ) (h : trim samples w e bins = some (s', w')) : e * ess w ≤ ess w' := by
  obtain ⟨_, st, _, _, rfl, hv, htest⟩ := trim_spec_valid samples w e bins h0 hs s' w' h
  have hr := htest he
  rwa [hv.ratio, le_div_iff₀ (ess_pos w hs), ← ess_normalise _ hv.kept_pos.ne', ← hv.wt] at hr

/-- **termination, any requested fraction.** The loop breaks at grid index 0 at the latest (`or i == 0`) and every pass is defined, so a
    result is always returned: the index never goes negative. -/
theorem C20_trim_terminates_any {σ : Type} (samples : List σ) (w : List ℝ) (e : ℝ) (bins : Nat)
    (h0 : ∀ x ∈ w, 0 ≤ x) (hs : 0 < w.sum) (hb : 0 < bins) :
    ∃ r, trim samples w e bins = some r := by
  obtain ⟨_, _, h, _⟩ := trim_valid samples w e bins h0 hs hb
  exact ⟨_, h⟩

/-- **termination** under the hypothesis `e ≤ 1` of the ESS guarantee (which the `or i == 0` stop makes unnecessary here) -/
theorem C20_trim_terminates {σ : Type} (samples : List σ) (w : List ℝ) (e : ℝ) (bins : Nat)
    (h0 : ∀ x ∈ w, 0 ≤ x) (hs : 0 < w.sum) (hb : 0 < bins) (he : e ≤ 1) :
    ∃ r, trim samples w e bins = some r :=
  have _ := he
  C20_trim_terminates_any samples w e bins h0 hs hb

/-- when every pass above grid index 0 fails the test, the loop returns every sample with the normalised weights -/
theorem C20_trim_bottom {σ : Type} (samples : List σ) (w : List ℝ) (e : ℝ) (bins : Nat)
    (h0 : ∀ x ∈ w, 0 ≤ x) (hs : 0 < w.sum) (hl : samples.length = w.length)
    (s' : List σ) (w' : List ℝ) (h : trim samples w e bins = some (s', w'))
    (hfail : ∀ k, 0 < k → k < bins → ∀ st, step (normalise w) (sortAsc (normalise w)) (ess w) (linspace0_99 bins k) = some st →
      st.ratio < e) : s' = samples ∧ w' = normalise w :=
  trim_bottom samples w e bins h0 hs hl s' w' h hfail

/-! ### non-vacuity: a run of the model on concrete numbers -/

/-- three weights, two grid points: the pass at percentile 99 keeps only the largest weight (ESS ratio 1 / (8/3) = 3/8 < 0.9),
    the pass at percentile 0 keeps everything -/
example : ∃ r, trim ["a", "b", "c"] [(1 : ℝ), 1, 2] 0.9 2 = some r :=
  C20_trim_terminates _ _ _ _ (by simp) (by norm_num) (by norm_num) (by norm_num)

example : ∃ s' w', trim ["a", "b", "c"] [(1 : ℝ), 1, 2] 0.9 2 = some (s', w') ∧ w'.sum = 1 ∧
    0.9 * ess [(1 : ℝ), 1, 2] ≤ ess w' ∧
    ∃ θ : ℝ, s' = filterMask ["a", "b", "c"] ((normalise [(1 : ℝ), 1, 2]).map (fun x => Sc.le θ x)) := by
  have h0 : ∀ x ∈ [(1 : ℝ), 1, 2], 0 ≤ x := by simp
  have hs : (0 : ℝ) < [(1 : ℝ), 1, 2].sum := by norm_num
  obtain ⟨⟨s', w'⟩, h⟩ := C20_trim_terminates ["a", "b", "c"] [(1 : ℝ), 1, 2] 0.9 2 h0 hs (by norm_num) (by norm_num)
  obtain ⟨θ, _, _, _, hm, _, _⟩ := C20_trim_upper_set _ _ _ _ _ _ h
  exact ⟨s', w', h, C20_trim_normalised _ _ _ _ h0 hs _ _ h, C20_trim_ess _ _ _ _ h0 hs (by norm_num) _ _ h, θ, hm⟩

example : sortAsc [(3 : ℝ), 1, 2] = [1, 2, 3] :=
  sortAsc_eq (List.perm_cons_append_cons 3 (List.Perm.refl [1, 2]) (l₁ := [1, 2]) (l₂ := [])) (by norm_num)

/-- the 75th percentile of `[1,2,4]` is 3 (numpy: `np.percentile([1,2,4], 75) = 3.0`) -/
example : percentileLinear [(1 : ℝ), 2, 4] 75 = some 3 := by
  have hv : ((3 - 1 : ℕ) : ℝ) * ((75 : ℝ) / 100) = 3 / 2 := by norm_num
  have hf : floorIdx ((3 : ℝ) / 2) 2 = 1 := by
    rw [floorIdx_succ_of_not_le (by norm_num), floorIdx_succ_of_le (by norm_num)]
  simp only [percentileLinear, List.length_cons, List.length_nil, sc_real, Nat.cast_ofNat]
  norm_num [hf, lerp_def]

end Props.C20
