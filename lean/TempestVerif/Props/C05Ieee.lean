import TempestVerif.Props.C05
import TempestVerif.Lemmas.ScNaN
/-
  C05 under IEEE-like arithmetic with NaN: the scalar-generic theorems of `Props/C05Robust.lean` at the instance `FN r`.

  `Model.Reweight.run` — the definition the driver executes — is evaluated at `α = FN r`: reals + NaN, every `+ − ·` rounded by an
  arbitrary monotone idempotent rounding `r` with `BinaryRounding r` (1/2 representable, doubling exact).  The oracle is ANY
  function `FN r → W × FN r × FN r` (it may answer NaN anywhere), `fin` (np.isfinite) is any predicate.

  The one new fact is `bracket_leRep`: the rounded midpoint of a bracket of representable numbers is a representable number inside
  the bracket; with it `leRep` is a `Bracket` and the range and schedule theorems follow.  The declarations stay in the namespace
  `Props.C05.Robust` of the layer they instantiate.
-/
namespace Props.C05.Robust
open Model.Reweight FN
variable {r : Rounding} {W : Type}

/-- the model's midpoint `(hi + lo) * 0.5` on numbers: the literal `5/10^1` is the representable `1/2` -/
theorem mid_num (hb : BinaryRounding r) (x y : ℝ) :
    mid (num r y) (num r x) = num r (r.rnd (r.rnd (y + x) * (1 / 2))) := by
  have h5 : r.rnd (((5 : ℕ) : ℝ) / 10 ^ 1) = 1 / 2 := by
    rw [show (((5 : ℕ) : ℝ) / 10 ^ 1) = 1 / 2 by norm_num, hb.half]
  show num r (r.rnd (r.rnd (y + x) * r.rnd (((5 : ℕ) : ℝ) / 10 ^ 1))) = _
  rw [h5]

/-- **the midpoint lemma under rounding**: for representable `x ≤ y`, `fl(fl(y + x)·0.5)` is representable and lies in `[x, y]` -/
theorem mid_in_bracket (hb : BinaryRounding r) (x y : ℝ) (hx : r.rnd x = x) (hy : r.rnd y = y) (hxy : x ≤ y) :
    r.rnd (r.rnd (r.rnd (y + x) * (1 / 2))) = r.rnd (r.rnd (y + x) * (1 / 2)) ∧
    x ≤ r.rnd (r.rnd (y + x) * (1 / 2)) ∧ r.rnd (r.rnd (y + x) * (1 / 2)) ≤ y := by
  -- `2x ≤ y + x ≤ 2y`, and rounding keeps the sum between the representable numbers `2x` and `2y`
  have s1 : 2 * x ≤ r.rnd (y + x) :=
    (hb.dbl x hx).ge.trans (r.mono (by rw [two_mul]; exact add_le_add_left hxy x))
  have s2 : r.rnd (y + x) ≤ 2 * y :=
    (r.mono (by rw [two_mul]; exact add_le_add_right hxy y)).trans (hb.dbl y hy).le
  refine ⟨r.idem _, ?_, ?_⟩
  · have h := r.mono ((le_div_iff₀' (zero_lt_two' ℝ)).mpr s1)
    rwa [hx, div_eq_mul_one_div] at h
  · have h := r.mono ((div_le_iff₀' (zero_lt_two' ℝ)).mpr s2)
    rwa [hy, div_eq_mul_one_div] at h

theorem bracket_leRep (hb : BinaryRounding r) : Bracket (leRep : FN r → FN r → Prop) where
  trans := fun h1 h2 => by
    obtain ⟨x, y, rfl, rfl, hx, _, hxy⟩ := leRep_unpack h1
    obtain ⟨z, rfl, _, hz, hyz⟩ := leRep_num_left.mp h2
    exact leRep_num.mpr ⟨hx, hz, le_trans hxy hyz⟩
  left := fun h => by obtain ⟨x, y, rfl, _, hx, _⟩ := leRep_unpack h; exact leRep_num.mpr ⟨hx, hx, le_refl x⟩
  right := fun h => by obtain ⟨x, y, _, rfl, _, hy, _⟩ := leRep_unpack h; exact leRep_num.mpr ⟨hy, hy, le_refl y⟩
  mid := fun h => by
    obtain ⟨x, y, rfl, rfl, hx, hy, hxy⟩ := leRep_unpack h
    obtain ⟨m0, m1, m2⟩ := mid_in_bracket hb x y hx hy hxy
    rw [mid_num hb x y]
    exact ⟨leRep_num.mpr ⟨hx, m0, m1⟩, leRep_num.mpr ⟨m0, hy, m2⟩⟩

/-- **One reweighting step under IEEE-like arithmetic with NaN.**  For every oracle (NaN answers anywhere), every `fin`, every
    configuration (even NaN tolerances / targets), both modes: starting from a representable number `p ≤ 1`, the new β is a
    representable NUMBER `b` — never NaN — with `p ≤ b ≤ u ≤ 1`, `u` the value `_find_beta_upper_limit` returned. -/
theorem C05_ieee_run (hb : BinaryRounding r) (c : Cfg (FN r)) (M : FN r → W × FN r × FN r) (Z : FN r → FN r)
    (fin : FN r → Bool) (p : ℝ) (hp : r.rnd p = p) (hp1 : p ≤ 1) :
    ∃ b u : ℝ, (run c false M Z fin (num r p)).beta = num r b ∧
      (upperLimit M c.target c.tolB c.fuel (num r p)).beta = num r u ∧
      r.rnd b = b ∧ r.rnd u = u ∧ p ≤ b ∧ b ≤ u ∧ u ≤ 1 := by
  have h1 : leRep (num r p) (Sc.one : FN r) := by rw [one_num]; exact leRep_num.mpr ⟨hp, r.rnd_one, hp1⟩
  obtain ⟨hpb, hbu, hu1⟩ := C05_R_run (bracket_leRep hb) c M Z fin (num r p) h1
  obtain ⟨b, hbv, _, hbr, hxb⟩ := leRep_num_left.mp hpb
  rw [hbv] at hbu
  obtain ⟨u, huv, _, hur, hbu⟩ := leRep_num_left.mp hbu
  rw [huv, one_num] at hu1
  exact ⟨b, u, hbv, huv, hbr, hur, hxb, hbu, (leRep_num.mp hu1).2.2⟩

/-- **The whole schedule under IEEE-like arithmetic with NaN** (any environment: any pool dynamics `next`, any oracles `env` —
    NaN answers anywhere —, history empty at the start and never empty after a commit; any configuration, either mode):
    β₀ = 0, every β is a representable number in [0, 1] (never NaN), and the sequence never decreases. -/
theorem C05_ieee_schedule (hb : BinaryRounding r) {σ : Type} (c : Cfg (FN r)) (env : σ → Oracles (FN r) W) (emp : σ → Bool)
    (next : σ → RunOut (FN r) W → σ) (s0 : σ) (p0 : FN r) (h0 : emp s0 = true) (hne : ∀ s q, emp (next s q) = false) (n : Nat) :
    (0 < n → (betas c env emp next n s0 p0)[0]? = some (num r 0)) ∧
    (∀ b ∈ betas c env emp next n s0 p0, ∃ x : ℝ, b = num r x ∧ r.rnd x = x ∧ 0 ≤ x ∧ x ≤ 1) ∧
    (∀ k a b, (betas c env emp next n s0 p0)[k]? = some a → (betas c env emp next n s0 p0)[k+1]? = some b →
      ∃ x y : ℝ, a = num r x ∧ b = num r y ∧ x ≤ y) := by
  have h01 : leRep (Sc.zero : FN r) (Sc.one : FN r) := by
    rw [one_num, zero_num]; exact leRep_num.mpr ⟨r.rnd_zero, r.rnd_one, zero_le_one⟩
  obtain ⟨a1, a2, a3⟩ := C05_R_schedule_fresh (bracket_leRep hb) h01 c env emp next hne s0 p0 h0 n
  refine ⟨fun hn => (a1 hn).trans (congrArg some zero_num), fun b hbm => ?_, fun k a b ha hb' => ?_⟩
  · -- `0 R b R 1` unpacked: `b` is a representable number between 0 and 1
    obtain ⟨h0b, hb1⟩ := a2 b hbm
    rw [zero_num] at h0b
    obtain ⟨y, hy, _, hyr, h0y⟩ := leRep_num_left.mp h0b
    rw [hy, one_num] at hb1
    exact ⟨y, hy, hyr, h0y, (leRep_num.mp hb1).2.2⟩
  · obtain ⟨x, y, hx, hy, _, _, hxy⟩ := leRep_unpack (a3 k a b ha hb')
    exact ⟨x, y, hx, hy, hxy⟩

/-- **ESS mode, NaN-free ESS at β_prev and NaN-free target**: `_find_beta_bisection` is not entered, and the returned β is
    β_prev itself or a point where the (rounded) test `ess >= target` evaluated to True — for every rounding, the ESS elsewhere
    may be NaN. -/
theorem C05_ieee_ess_floor (M : FN r → W × FN r × FN r) (Z : FN r → FN r) (fin : FN r → Bool) (target tolE tolB : FN r)
    (fuel : Nat) (prev : FN r) (e t : ℝ) (he : (M prev).2.1 = num r e) (ht : target = num r t) :
    (runEss M Z fin target tolE tolB fuel prev).branch ≠ Branch.essBisect ∧
    ((runEss M Z fin target tolE tolB fuel prev).beta = prev ∨
      Sc.ge (M (runEss M Z fin target tolE tolB fuel prev).beta).2.1 target = true) := by
  rcases C05_any_ess_floor M Z fin target tolE tolB fuel prev with ⟨h1, h2⟩ | ⟨h1, h2⟩ | ⟨_, h2, h3⟩
  · exact ⟨by rw [h1]; decide, Or.inl h2⟩
  · exact ⟨by rw [h1]; decide, Or.inr h2⟩
  · -- both `e ≤ t` and `t ≤ e` evaluated to False on numbers
    rw [he, ht] at h2 h3
    rcases le_total e t with h | h
    · exact absurd (h2.symm.trans ((le_num e t).mpr h)) Bool.false_ne_true
    · exact absurd (h3.symm.trans ((le_num t e).mpr h)) Bool.false_ne_true

/-- with a NaN ESS everywhere, ESS mode DOES enter the bisection branch that is dead code over ℝ (`C05_ess_bisection_unreachable`)
    — and by `C05_ieee_run` β still is a number in [β_prev, 1] -/
theorem C05_nan_ess_reaches_bisection (M : FN r → W × FN r × FN r) (hM : ∀ b, (M b).2.1 = nan) (Z : FN r → FN r)
    (fin : FN r → Bool) (target tolE tolB : FN r) (fuel : Nat) (prev : FN r) :
    (runEss M Z fin target tolE tolB fuel prev).branch = Branch.essBisect := by
  rcases runEss_cases_any M fin target tolE tolB fuel prev with ⟨h, _⟩ | ⟨_, h, _⟩ | ⟨_, _, e⟩
  · rw [hM, le_nan_left] at h; exact absurd h Bool.false_ne_true
  · rw [hM] at h; exact absurd ((le_nan_right target).symm.trans h) Bool.false_ne_true
  · rw [e Z]; rfl

/-! ### non-vacuity -/

/-- exact arithmetic is a binary rounding (so every statement above specialises to exact reals + NaN) -/
theorem exact_binary : BinaryRounding ScRound.exact := ⟨rfl, fun _ _ => rfl⟩

/-- a genuinely rounding instance: round UP to a multiple of 1/4 — monotone, idempotent, fixes 0, 1, 1/2, and doubling a
    multiple of 1/4 gives a multiple of 1/4.  (Coarser than binary64 by 50 binary digits: the theorems do not need accuracy.) -/
noncomputable def quarterUp : Rounding where
  rnd := fun x => (⌈4 * x⌉ : ℝ) / 4
  mono := fun a b h => by
    show ((⌈4 * a⌉ : ℤ) : ℝ) / 4 ≤ ((⌈4 * b⌉ : ℤ) : ℝ) / 4
    have : (⌈4 * a⌉ : ℤ) ≤ ⌈4 * b⌉ := Int.ceil_mono (by linarith)
    have h' : ((⌈4 * a⌉ : ℤ) : ℝ) ≤ ((⌈4 * b⌉ : ℤ) : ℝ) := by exact_mod_cast this
    linarith
  idem := fun x => by
    show ((⌈4 * (((⌈4 * x⌉ : ℤ) : ℝ) / 4)⌉ : ℤ) : ℝ) / 4 = ((⌈4 * x⌉ : ℤ) : ℝ) / 4
    have : 4 * (((⌈4 * x⌉ : ℤ) : ℝ) / 4) = ((⌈4 * x⌉ : ℤ) : ℝ) := by ring
    rw [this, Int.ceil_intCast]
  rnd_zero := by simp
  rnd_one := by
    show ((⌈(4 : ℝ) * 1⌉ : ℤ) : ℝ) / 4 = 1
    have : ((4 : ℝ) * 1) = ((4 : ℤ) : ℝ) := by norm_num
    rw [this, Int.ceil_intCast]; norm_num

theorem quarterUp_int (k : ℤ) : quarterUp.rnd ((k : ℝ) / 4) = (k : ℝ) / 4 := by
  show ((⌈4 * ((k : ℝ) / 4)⌉ : ℤ) : ℝ) / 4 = (k : ℝ) / 4
  rw [mul_div_cancel₀ _ (four_ne_zero' ℝ), Int.ceil_intCast]

theorem quarterUp_binary : BinaryRounding quarterUp where
  half := by
    have h := quarterUp_int 2
    norm_num at h
    exact h
  dbl := fun x hx => by
    -- `x = ⌈4x⌉/4`, so `2x` is the multiple `2⌈4x⌉/4`
    have h := quarterUp_int (2 * ⌈4 * x⌉)
    have e : ((2 * ⌈4 * x⌉ : ℤ) : ℝ) / 4 = 2 * x := by
      rw [Int.cast_mul, Int.cast_ofNat, mul_div_assoc]; exact congrArg (2 * ·) hx
    rwa [e] at h

-- an oracle that answers NaN everywhere, ESS mode, from β_prev = 0 under the coarse rounding: the dead branch is taken, and
-- still β is a representable number between 0 and 1
example : (runEss (fun _ => ((), (nan : FN quarterUp), (nan : FN quarterUp))) id (fun _ => false) (num _ 40) (num _ (1/100))
    (num _ (1/4)) 8 (num _ 0)).branch = Branch.essBisect :=
  C05_nan_ess_reaches_bisection _ (fun _ => rfl) _ _ _ _ _ _ _
example := C05_ieee_run quarterUp_binary ⟨num _ 2, 20, none, num _ (1/100), num _ (1/4), 8⟩
  (fun _ => ((), (nan : FN quarterUp), (nan : FN quarterUp))) id (fun _ => false) 0 quarterUp.rnd_zero (by norm_num)
-- a NaN-free ESS at β_prev: hypotheses of `C05_ieee_ess_floor` (ESS 100·(1−β) computed with rounding, target 40)
example := C05_ieee_ess_floor (r := quarterUp)
  (fun b => ((), Sc.mul (num _ 100) (Sc.sub (num _ 1) b), (nan : FN quarterUp))) id (fun _ => true) (num _ 40) (num _ (1/100))
  (num _ (1/4)) 8 (num _ 0) (quarterUp.rnd (100 * quarterUp.rnd (1 - 0))) 40 rfl rfl
example := C05_ieee_schedule (σ := Nat) quarterUp_binary ⟨num _ 2, 20, some (num _ (1/2)), num _ (1/100), num _ (1/4), 8⟩
  (fun _ => ⟨fun _ => ((), (nan : FN quarterUp), (nan : FN quarterUp)), id, fun _ => false⟩) (fun s => s == 0) (fun s _ => s + 1)
  0 nan (by simp) (by simp) 5

/-! ### the scalar-generic theorems at `Float` and at ℝ -/

/-- the structural theorems hold at `Float` — the type at which the driver executes the model against the real code -/
example (c : Cfg Float) (M : Float → Unit × Float × Float) (Z : Float → Float) (prev : Float) :
    CoherentAny M Z (run c false M Z Float.isFinite prev) := C05_any_same_temperature c M Z Float.isFinite prev
example (M : Float → Unit × Float × Float) (target tol : Float) (prev : Float) :
    (upperLimit M target tol 64 prev).beta = prev ∨ Sc.ge (M (upperLimit M target tol 64 prev).beta).2.1 target = true :=
  C05_any_upper_ess M target tol 64 prev

example (c : Cfg ℝ) (M : ℝ → Unit × ℝ × ℝ) (Z : ℝ → ℝ) (fin : ℝ → Bool) (prev : ℝ) (h : prev ≤ 1) :=
  C05_R_run bracket_real c M Z fin prev (by simpa using h)

end Props.C05.Robust
