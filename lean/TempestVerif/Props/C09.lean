import TempestVerif.Model.Rng
import TempestVerif.Gen.Rng
/-
  C09 — seeded runs are reproducible and the library never resets the global RNG.
  Two layers: (1) facts about effect programs over an abstract generator (MT19937 itself is not
  modelled: `next` is assumed injective on states where that matters); (2) obligations, decided on the
  RNG effect table regenerated from /repo's source on every run, that the library's programs have the
  shapes layer (1) talks about.
-/
namespace Props.C09
open Model.Rng

variable {S V : Type}

/-! ### layer 1: effect programs -/

/-- a program without any seeding keeps the dependence on the seed in force before it:
    if stepping the generator is injective, the post-state is an injective function of the pre-state -/
theorem C09_no_reseed_injective (g : Gen S V) (hinj : Function.Injective fun s => (g.next s).1)
    (a : Nat) (p : List Eff) (hp : hasSeed p = false) :
    Function.Injective fun s => (exec g a p s).1 := by
  induction p with
  | nil => exact fun s s' h => h
  | cons e p ih =>
    cases e with
    | draw => exact fun s s' h => hinj (ih hp h)
    | seedLit k => cases hp
    | seedArg => cases hp

/-- … whereas a program that reseeds with a constant forgets the seed in force before it:
    the state afterwards (and everything drawn after the reseed) is the same for ALL pre-states -/
theorem C09_const_reseed_forgets (g : Gen S V) (a : Nat) (p : List Eff) (hp : hasSeedLit p = true)
    (s s' : S) : (exec g a p s).1 = (exec g a p s').1 := by
  induction p generalizing s s' with
  | nil => cases hp
  | cons e p ih =>
    cases e with
    | draw => exact ih hp _ _
    | seedLit k => rfl
    | seedArg => rfl

/-- a run that starts by seeding with the user's random_state is a function of that seed alone:
    all draws and the final state are identical whatever the ambient state was -/
theorem C09_seeded_run_deterministic (g : Gen S V) (a : Nat) (p : List Eff) (s s' : S) :
    exec g a (.seedArg :: p) s = exec g a (.seedArg :: p) s' :=
  rfl

/-- different seeds give different runs as soon as the seeded generator's first draw distinguishes them -/
theorem C09_different_seeds_differ (g : Gen S V) (a b : Nat) (p : List Eff) (s : S)
    (hfirst : (g.next (g.seed a)).2 ≠ (g.next (g.seed b)).2) :
    (exec g a (.seedArg :: .draw :: p) s).2 ≠ (exec g b (.seedArg :: .draw :: p) s).2 :=
  fun h => hfirst (List.cons.inj h).1

/-! ### layer 2: obligations on the regenerated effect table -/

def isConstSeed (s : Gen.Rng.Site) : Bool := s.kind == "seed" && s.argKind == "literal"

/-- no `np.random.seed(<literal>)` anywhere in the package -/
theorem C09_no_literal_seed : (Gen.Rng.sites.filter isConstSeed) = [] := by decide +kernel

/-- no class seeds the global generator from an attribute that the package itself sets to a literal
    (how `HierarchicalGaussianMixture` → `GaussianMixture(random_state=42)` used to reset the stream) -/
theorem C09_no_literal_seed_via_attribute : Gen.Rng.literalSeedInstantiations = [] := by decide

/-- every global seeding is driven by the user's value: a config field, a loaded checkpoint field or an
    explicit function parameter -/
theorem C09_seed_args_user_driven :
    ∀ s ∈ Gen.Rng.sites, s.kind = "seed" →
      (s.argKind = "config" ∨ s.argKind = "loaded" ∨ s.argKind = "param") := by decide +kernel

/-- a seed taken from a function PARAMETER is user-driven only if the library never passes it itself: no call site
inside the package hands a seed to a function that seeds the global generator from its parameter -/
theorem C09_no_internal_param_seed : Gen.Rng.paramSeedCallSites = [] := by decide

/-- no RNG source outside what the table models (np.random attributes and private generators) -/
theorem C09_no_unknown_source : Gen.Rng.unknownSources = [] := by decide

/-- every private generator the package builds is created from an explicit value (an attribute, a literal, a config field or
    a parameter): none is created without argument, i.e. from operating-system entropy, which no seed could reproduce -/
theorem C09_private_generators_seeded :
    ∀ s ∈ Gen.Rng.sites, s.kind = "private" →
      (s.argKind = "attr" ∨ s.argKind = "literal" ∨ s.argKind = "config" ∨ s.argKind = "param") := by decide +kernel

/-- **A restore is not a reset to a fixed value**: every `np.random.set_state(…)` in the package takes its argument from a
    loaded checkpoint dictionary, under a key that `save_sampler_state` fills with `np.random.get_state()` — the position a
    run had when the checkpoint was written, never a literal and never something derived from the seed alone -/
theorem C09_restore_from_saved_position :
    (∀ s ∈ Gen.Rng.sites, s.kind = "setstate" → s.argKind = "loaded") ∧
    (Gen.Rng.sites.filter fun s => s.kind == "setstate").length = Gen.Rng.restoreKeys.length ∧
    (∀ r ∈ Gen.Rng.restoreKeys, ("save_sampler_state", r.2) ∈ Gen.Rng.savedStateKeys) := by decide +kernel

/-- the table is not empty where it matters: it knows the two kernels' draws, the resampler's, the warm-up's and the
    two seeding sites, the save / restore pair (a translator that silently finds nothing would make the obligations above vacuous) -/
theorem C09_table_nonvacuous :
    (Gen.Rng.sites.filter fun s => s.kind == "seed").length = 2 ∧
    (Gen.Rng.sites.filter fun s => s.kind == "setstate").length = 1 ∧
    (Gen.Rng.sites.filter fun s => s.kind == "getstate").length = 1 ∧
    8 ≤ (Gen.Rng.sites.filter fun s => s.kind == "draw" && s.argKind == "global").length ∧
    1 ≤ (Gen.Rng.sites.filter fun s => s.kind == "private").length := by decide +kernel

/-- a fresh run seeds from config.random_state (when given) before its first draw:
    `_initialize_fresh` does the seeding under `is not None` and `run_sampling` calls it before the loop -/
theorem C09_run_seeds_first :
    Gen.Rng.fresh_before_loop = 1 ∧ Gen.Rng.init_seeds_config = 1 ∧ Gen.Rng.seed_guarded_not_none = 1 := by decide

/-- **a run seeds only before the first committed batch**: the `_initialize_fresh()` call of `run_sampling` sits on the final
    `else` of `if resume_state_path is not None … elif self.state.get_history_length() > 0 … else`, and no earlier branch seeds
    (the hypothesis `hasHistory d0 = false` of the fresh-run theorems, `= true` of `C09_run_with_history_continues`) -/
theorem C09_run_seeds_only_on_empty_history : Gen.Rng.fresh_only_when_history_empty = 1 := by decide

/-! ### non-vacuity: a toy linear congruential generator -/
def lcg : Gen Nat Nat := ⟨fun s => ((5 * s + 3) % 16, s % 4), fun k => k % 16⟩

example : (exec lcg 7 [.draw, .draw] 1).1 ≠ (exec lcg 7 [.draw, .draw] 2).1 := by decide
example : (exec lcg 7 [.draw, .seedLit 42, .draw] 1).1 = (exec lcg 7 [.draw, .seedLit 42, .draw] 2).1 := by decide
example : exec lcg 7 [.seedArg, .draw, .draw] 1 = exec lcg 7 [.seedArg, .draw, .draw] 9 := by decide
example : hasSeed [Eff.draw, .draw] = false ∧ hasSeedLit [Eff.draw, .seedLit 42] = true := by decide

end Props.C09
