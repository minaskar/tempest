import TempestVerif.Props.C03InvD
import TempestVerif.Props.C16Vec
import TempestVerif.Lemmas.FoldPush
/-
  C03, clauses 7 and 9 (periodic coordinates, and periodic mixed with hard coordinates) — RWM, any dimension, correlated
  proposals: the law of one step of the executable list model leaves the tempered target invariant.  The proposal density after
  `% 1.0` is the sum of the increment density over the preimages (`Props.C16.C16_vector_pushforward`, the unfolding theorem of
  `Props/C16Vec.lean`).
-/
namespace Props.C03
open Real MeasureTheory ProbabilityTheory Set Model.Kernel Lemmas.MHKernel Matrix Lemmas.GaussianPi Lemmas.KernelOfFn
open Lemmas.FoldPush Props.C16
open Lemmas.GaussJordan (matOf)
open scoped ENNReal

variable {d : ℕ}

/-- model input with periodic coordinates `per` (no reflective ones), RWM -/
noncomputable def inDP (per : List Nat) (μ : V d) (L S : Matrix (Fin d) (Fin d) ℝ) (ν σ β lx lp : ℝ) (x : V d) (g : ℝ)
    (z : V d) (r : ℝ) : StepIn ℝ :=
  { kind := .rwm, u := List.ofFn x, mu := List.ofFn μ, chol := matOf L, invcov := matOf S, nu := ν, sigma := σ, beta := β,
    l := lx, lp := lp, g := g, r := r, z := List.ofFn z, per := per, refl := [] }

theorem closedStep_rwm_per (ℓ : V d → ℝ) (per : List Nat) (μ : V d) (L S : Matrix (Fin d) (Fin d) ℝ) (ν σ β lx lp : ℝ)
    (x : V d) (g : ℝ) (z : V d) (r : ℝ) (hr : 0 ≤ r) :
    (closedStep (liftLV ℓ) (inDP per μ L S ν σ β lx lp x g z r)).newU
      = List.ofFn (acceptReject x (accR {y | hardOK per y} ℓ β x) (foldV per [] (candVR L σ x z), r)) := by
  have hraw : Model.Boundary.apply per [] (rwmProposal (List.ofFn x) (matOf L) σ (List.ofFn z))
      = List.ofFn (foldV per [] (candVR L σ x z)) := by
    rw [rwmProposal_ofFn, C16_apply_ofFn]; rfl
  classical
  rw [closedStep_rwm_newU _ _ rfl hraw, accR, acceptReject_mhAccept _ _ _ _ hr, apply_ite List.ofFn]
  simp only [inDP, liftLV_ofFn, checkBounds_per_ofFn, mem_ofPred_eq]

theorem mem_boxV_per (per : List Nat) (x : V d) :
    x ∈ boxV per [] d ↔ ∀ i : Fin d, i.val ∈ per → 0 ≤ x i ∧ x i < 1 := by
  simp only [boxV, boxK, Set.mem_univ_pi, kindV, kind]
  refine forall_congr' fun i => ?_
  -- `Kind` alone would be `Model.Kernel.Kind` (tpcn | rwm) here
  by_cases hi : i.val ∈ per <;> simp [hi, Props.C16.Kind.I]

/-- the cube with the periodic coordinates half-open: `[0,1)` on `per`, `[0,1]` elsewhere -/
def cubeP (per : List Nat) : Set (V d) := {x | x ∈ boxV per [] d ∧ hardOK per x}

theorem measurableSet_hardOK (per : List Nat) : MeasurableSet {y : V d | hardOK per y} := by
  simp only [hardOK, ofPred_forall]
  exact MeasurableSet.iInter fun i => MeasurableSet.iInter fun _ => measurable_pi_apply i measurableSet_Icc

noncomputable def targetVP (ℓ : V d → ℝ) (β : ℝ) (per : List Nat) : Measure (V d) :=
  volume.withDensity fun x => ENNReal.ofReal ((cubeP per).indicator (fun x => exp (β * ℓ x)) x)

noncomputable def newStateVP (ℓ : V d → ℝ) (per : List Nat) (μ : V d) (L S : Matrix (Fin d) (Fin d) ℝ) (ν σ β : ℝ) (x : V d)
    (g : ℝ) (z : V d) (r : ℝ) : V d :=
  listToV (closedStep (liftLV ℓ) (inDP per μ L S ν σ β 0 0 x g z r)).newU x

noncomputable def rwmLawVP (ℓ : V d → ℝ) (per : List Nat) (μ : V d) (L S : Matrix (Fin d) (Fin d) ℝ) (ν σ β : ℝ) (x : V d) :
    Measure (V d) :=
  ((stdN d).prod unif).map fun w => newStateVP ℓ per μ L S ν σ β x 0 w.1 w.2

theorem measurable_foldV (per refl : List Nat) : Measurable (foldV per refl : V d → V d) := by
  rw [foldV_eq_foldK]; exact measurable_foldK _

noncomputable def incDensity (L : Matrix (Fin d) (Fin d) ℝ) (σ : ℝ) (ξ : V d) : ℝ≥0∞ :=
  ENNReal.ofReal (affineGaussDensity L σ 0 ξ)

theorem measurable_incDensity (L : Matrix (Fin d) (Fin d) ℝ) (σ : ℝ) : Measurable (incDensity L σ) := by
  -- composed before it meets the goal: unifying `_ ∘ _` with the unfolded density is slow
  have h := (measurable_ofReal_affineGaussDensity L).comp
    (measurable_const.prodMk (measurable_const.prodMk measurable_id) : Measurable fun ξ : V d => (σ, (0 : V d), ξ))
  exact h

/-- the half-open cube differs from the closed cube by a Lebesgue-null set (faces `x i = 1`): same target measure -/
theorem targetVP_eq (ℓ : V d → ℝ) (β : ℝ) (per : List Nat) : targetVP ℓ β per = targetV ℓ β := by
  unfold targetVP targetV
  refine withDensity_congr_ae ?_
  have hae : ∀ᵐ x : V d ∂volume, ∀ i, x i ≠ 1 := by
    rw [ae_all_iff]
    intro i
    rw [volume_pi]
    exact Measure.ae_eval_ne (μ := fun _ : Fin d => (volume : Measure ℝ)) i 1
  refine hae.mono fun x hx => ?_
  have hiff : x ∈ cubeP per ↔ x ∈ cube d := by
    simp only [cubeP, cube, mem_ofPred_eq, mem_boxV_per, hardOK, mem_Icc, Pi.le_def, Pi.zero_apply,
      Pi.one_apply]
    constructor
    · rintro ⟨h1, h2⟩
      refine ⟨fun i => ?_, fun i => ?_⟩
      · by_cases hi : i.val ∈ per
        · exact (h1 i hi).1
        · exact (h2 i hi).1
      · by_cases hi : i.val ∈ per
        · exact (h1 i hi).2.le
        · exact (h2 i hi).2
    · rintro ⟨h0, h1⟩
      exact ⟨fun i _ => ⟨h0 i, lt_of_le_of_ne (h1 i) (hx i)⟩, fun i _ => ⟨h0 i, h1 i⟩⟩
  exact congrArg ENNReal.ofReal (indicator_eq_indicator hiff rfl)

/-- **RWM with periodic coordinates (and hard walls in the others), any dimension, correlated proposals: the law of the
    model's step leaves the tempered target invariant.**  `per` is the list handed to `apply_boundary_conditions` /
    `check_bounds`; `per = []` is the all-hard case, `per = range d` the torus. -/
theorem C03_rwm_periodic_step_law_invariant {ℓ : V d → ℝ} (hℓ : Measurable ℓ) (per : List Nat) (μ : V d)
    (L S : Matrix (Fin d) (Fin d) ℝ) (ν σ β : ℝ) (hL : L.det ≠ 0) (hσ : σ ≠ 0) :
    (targetV ℓ β).bind (rwmLawVP ℓ per μ L S ν σ β) = targetV ℓ β := by
  -- `x + σ L z` is `x` plus an increment with density `incDensity`; C16 gives the law of its fold as a sum over the preimages, on
  -- the half-open cube (same measure as the closed one); `check_bounds` tests the hard coordinates
  have hN : (stdN d).map (fun z => σ • (L *ᵥ z)) = volume.withDensity (incDensity L σ) := by
    unfold incDensity
    rw [← map_scaled_affine_pi_gaussian L hL σ hσ 0]
    exact congrArg (fun f => (stdN d).map f) (funext fun z => (zero_add (σ • (L *ᵥ z))).symm)
  -- no coordinate is reflective, so the only sign change C16 asks about is the total one, and the Gaussian is even
  have hsign : SignInv (kindV per [] d) (incDensity L σ) :=
    even_sign_invariant per [] _ (fun _ h => absurd h List.not_mem_nil) fun z =>
      congrArg ENNReal.ofReal (affineGaussDensity_of_sub_eq_neg L σ (by rw [sub_zero, sub_zero]; rfl))
  rw [← targetVP_eq ℓ β per]
  exact foldedStep_invariant volume (stdN d) ((measurable_mulVec L).const_smul σ) hN (measurable_foldV per [])
    (measurableSet_boxK _) (measurableSet_hardOK per) rfl (measurable_KvecE _ _ (measurable_incDensity L σ))
    (KvecE_symmetric _ _ hsign)
    (fun x B hB => C16_vector_pushforward per [] _ _ (measurable_incDensity L σ) (measurable_one.indicator hB) x)
    hℓ β fun x z r hr => by rw [newStateVP, closedStep_rwm_per ℓ per μ L S ν σ β 0 0 x 0 z r hr, listToV_ofFn]; rfl

/-- **RWM, any dimension, hard walls: the law of the model's step leaves the tempered target invariant** — every measurable
    log-likelihood, every β, every invertible Cholesky factor `L` (correlated proposals included), every step size σ ≠ 0. -/
theorem C03_rwm_step_law_invariant {ℓ : V d → ℝ} (hℓ : Measurable ℓ) (μ : V d) (L S : Matrix (Fin d) (Fin d) ℝ)
    (ν σ β : ℝ) (hL : L.det ≠ 0) (hσ : σ ≠ 0) :
    (targetV ℓ β).bind (rwmLawV ℓ μ L S ν σ β) = targetV ℓ β :=
  -- hard walls are the case of no periodic coordinate: the two laws are the same term
  C03_rwm_periodic_step_law_invariant hℓ [] μ L S ν σ β hL hσ

def negMP (P : Finset (Fin d)) : MP P ≃ MP P where
  toFun m := ⟨-m.1, fun i hi => by simp [m.2 i hi]⟩
  invFun m := ⟨-m.1, fun i hi => by simp [m.2 i hi]⟩
  left_inv m := Subtype.ext (neg_neg m.1)
  right_inv m := Subtype.ext (neg_neg m.1)

theorem negMP_val (P : Finset (Fin d)) (m : MP P) : (negMP P m).1 = -m.1 := rfl

/-- non-vacuity: d = 2, coordinate 0 periodic, coordinate 1 hard, correlated factor -/
example : (targetV (fun x : V 2 => 3 * x 0 - x 1) 1).bind
      (rwmLawVP (fun x : V 2 => 3 * x 0 - x 1) [0] 0 !![1 / 5, 0; 1 / 10, 1 / 5] 1 3 (1 / 2) 1)
    = targetV (fun x : V 2 => 3 * x 0 - x 1) 1 :=
  C03_rwm_periodic_step_law_invariant (by fun_prop) _ _ _ _ _ _ _ (by simp [Matrix.det_fin_two]) (by norm_num)

example : (targetV (fun x : V 2 => 3 * x 0 - x 1) 1).bind
      (rwmLawV (fun x : V 2 => 3 * x 0 - x 1) 0 !![1 / 5, 0; 1 / 10, 1 / 5] 1 3 (238 / 100) 1)
    = targetV (fun x : V 2 => 3 * x 0 - x 1) 1 :=
  C03_rwm_step_law_invariant (by fun_prop) _ _ _ _ _ _ (by simp [Matrix.det_fin_two]) (by norm_num)

end Props.C03
