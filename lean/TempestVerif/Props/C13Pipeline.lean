import TempestVerif.Model.Pipeline
import TempestVerif.Props.C13LogLike
/-
  C13 on the composed pipeline model (Model/Pipeline.lean: reweight → resample → accept/reject → commit, the model that the
  pipeline trace-replay suite ties to real runs): "histories, weights and evidence are bit-identical".

  The pipeline consumes a `Tape` holding the log-likelihood VALUES of the prior draws and of every proposal.  Here the tape is
  produced from the POINTS (`PTape`) by `_log_like` under a strategy (`fillTape`), one call per batch, each with its own pool
  completion order.  Theorem: the filled tapes — hence the whole run: committed history, weights handed to resampling, β, ESS,
  logZ of every iteration, accept masks, final evidence — do not depend on the strategy or on the completion orders.
  The statement is generic in the scalar type, so it holds verbatim at `Float`: identical, not merely close.
-/
namespace Props.C13
open Model.Pipeline Model.LLEval

variable {X α : Type}

/-- one accept/reject step before its likelihood evaluation: the proposal POINTS -/
structure PStep (X α : Type) where
  propTags : List Nat
  props : List X
  factor : List α
  r : List α

/-- one iteration's randomness and user-supplied points before any likelihood evaluation -/
structure PTape (X α : Type) where
  drawTags : List Nat
  draws : List X
  picks : List Nat
  resU : List α
  steps : List (PStep X α)

/-- an evaluator: call `j` of `_log_like` within the iteration (0 = the prior draws, i+1 = step i); a log-likelihood is
    `none` for −inf -/
abbrev Evaluator (X α : Type) := Nat → List X → Option (List (Option α))

/-- the accept/reject steps of one iteration with their proposals evaluated: step `i` is call `j + i` of `_log_like`;
    `none` as soon as one call raises -/
def fillSteps (ev : Evaluator X α) : Nat → List (PStep X α) → Option (List (Step α))
  | _, [] => some []
  | j, s :: ss =>
    (ev j s.props).bind fun l => (fillSteps ev (j + 1) ss).map fun rest => ⟨s.propTags, l, s.factor, s.r⟩ :: rest

def fillTape (ev : Evaluator X α) (pt : PTape X α) : Option (Tape α) :=
  (ev 0 pt.draws).bind fun dl => (fillSteps ev 1 pt.steps).map fun st => ⟨pt.drawTags, dl, pt.picks, pt.resU, st⟩

/-- all iterations; `evs k` is the evaluator during iteration k -/
def fillTapes (evs : Nat → Evaluator X α) : Nat → List (PTape X α) → Option (List (Tape α))
  | _, [] => some []
  | k, pt :: pts => (fillTape (evs k) pt).bind fun t => (fillTapes evs (k + 1) pts).map fun ts => t :: ts

/-- `_log_like` under a strategy, as an evaluator; `sched k j n`: completion order of the `n` tasks of call j of iteration k -/
def strategyEv (how : HowV) (sched : Nat → Nat → Nat → List Nat) (L : X → Option α) (fvec : List X → List (Option α)) :
    Nat → Evaluator X α :=
  fun k j xs => (logLike (B := Unit) how (sched k j xs.length) (fun x => .val (L x)) fvec xs).map (·.logl)

theorem strategyEv_eq (how : HowV) (sched : Nat → Nat → Nat → List Nat)
    (hs : ∀ k j n, (sched k j n).Perm (List.range n)) (L : X → Option α) (fvec : List X → List (Option α))
    (hvec : ∀ xs, fvec xs = xs.map L) :
    strategyEv how sched L fvec = fun _ _ xs => some (xs.map L) := by
  funext k j xs
  rw [strategyEv, C13_logLike_transparent how _ L fvec hvec xs (hs k j xs.length)]; rfl

/-- the tape the pipeline sees is the one with the pointwise values, whatever the strategy -/
theorem C13_tapes_strategy_independent (how how' : HowV) (sched sched' : Nat → Nat → Nat → List Nat)
    (hs : ∀ k j n, (sched k j n).Perm (List.range n)) (hs' : ∀ k j n, (sched' k j n).Perm (List.range n))
    (L : X → Option α) (fvec : List X → List (Option α)) (hvec : ∀ xs, fvec xs = xs.map L)
    (pts : List (PTape X α)) :
    fillTapes (strategyEv how sched L fvec) 0 pts = fillTapes (strategyEv how' sched' L fvec) 0 pts := by
  rw [strategyEv_eq how sched hs L fvec hvec, strategyEv_eq how' sched' hs' L fvec hvec]

variable [ScT α]

/-- the observable result of a run of the pipeline model: committed history (β_t, logZ_t, logl, tags of every batch), the
    per-iteration outputs (β, ESS, logZ, resampled indices, accept masks) and the final evidence -/
def runResult (c : PCfg α) (tapes : Option (List (Tape α))) : Option (PState α × List (IterOut α) × Option α) :=
  tapes.bind fun ts => (runIters c init ts).map fun (s, os) => (s, os, finalEvidence s)

/-- C13 (first sentence, on the composed pipeline): same seed (= same points, uniforms, picks on the tape), pointwise identical
    likelihood ⇒ the runs under any two strategies, with any completion orders, have identical histories, weights, evidence -/
theorem C13_pipeline_transparent (c : PCfg α) (how how' : HowV) (sched sched' : Nat → Nat → Nat → List Nat)
    (hs : ∀ k j n, (sched k j n).Perm (List.range n)) (hs' : ∀ k j n, (sched' k j n).Perm (List.range n))
    (L : X → Option α) (fvec : List X → List (Option α)) (hvec : ∀ xs, fvec xs = xs.map L)
    (pts : List (PTape X α)) :
    runResult c (fillTapes (strategyEv how sched L fvec) 0 pts)
      = runResult c (fillTapes (strategyEv how' sched' L fvec) 0 pts) := by
  rw [C13_tapes_strategy_independent how how' sched sched' hs hs' L fvec hvec pts]

/-! non-vacuity: a two-point warm-up batch evaluated through a pool completing in reverse order, and vectorised -/
example : (fillTape (strategyEv (X := Nat) (α := Int) .objMap (fun _ _ _ => [1, 0]) (fun x => some (x : Int))
      (fun xs => xs.map fun x => some (x : Int)) 0) ⟨[0, 1], [3, 4], [], [], []⟩).map (·.drawL) = some [some 3, some 4] := by
  decide
example : (fillTape (strategyEv (X := Nat) (α := Int) .direct (fun _ _ n => List.range n) (fun x => some (x : Int))
      (fun xs => xs.map fun x => some (x : Int)) 0) ⟨[0, 1], [3, 4], [], [], []⟩).map (·.drawL) = some [some 3, some 4] := by
  decide

end Props.C13
