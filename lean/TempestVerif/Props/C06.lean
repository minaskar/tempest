import TempestVerif.Props.C06Loop
import TempestVerif.Lemmas.CeilOffset
/-
  C06 — resampling returns exactly n valid indices and is unbiased: the theorems at exact arithmetic (`ℝ`) about
  `Model.Resample` (half-open cells `[C_{j-1}, C_j)`, index capped at the last index of positive weight).

  Systematic scheme: each index is the first whose cumulative sum exceeds its position (`C06_syst_spec`), so a position
  receives `j` iff it lies in the cell `[edge j, edge (j+1))` (`cell_iff_all`), and counting comb points in a cell gives
  `count_j = ⌈n·e_{j+1} − u0⌉ − ⌈n·e_j − u0⌉` for weights of ANY sum (`count_core`).  The count laws follow from the length of
  the cell (`edge_succ`, `edge_diff_bound`), the means from the count being a difference of shifted ceilings in the offset.
  Lemmas `*_eff` speak of the effective weights through a hypothesis `renorm s w = v`, so both branches of the switch are
  instances.  Multinomial scheme: the index one uniform draws is the first normalised cdf entry above it (`multIndex`).
-/
namespace Props.C06
open Model.Resample MeasureTheory Lemmas.CeilComb
open ScReal (sum_map_div_self div_sum_nonneg ne_nil_of_sum_pos)

/-! ### exact arithmetic: the loop finds the first cumulative sum above the position -/

/-- sum of the first `k` weights (`P v (j+1)` is the cumulative sum `C_j`, `P v j` is `C_{j-1}`, `P v 0 = 0`) -/
noncomputable def P (v : List ℝ) (k : ℕ) : ℝ := (v.take k).sum

theorem P_zero (v : List ℝ) : P v 0 = 0 := by simp [P]

theorem P_succ (v : List ℝ) (k : ℕ) (hk : k < v.length) : P v (k + 1) = P v k + v[k] := by
  simp [P, List.sum_take_succ _ _ hk]

theorem P_length (v : List ℝ) : P v v.length = v.sum := by simp [P]

theorem P_of_length_le {v : List ℝ} {k : ℕ} (h : v.length ≤ k) : P v k = v.sum := by
  rw [P, List.take_of_length_le h]

theorem P_mono (v : List ℝ) (hv : ∀ x ∈ v, 0 ≤ x) {a b : ℕ} (hab : a ≤ b) : P v a ≤ P v b := by
  induction b, hab using Nat.le_induction with
  | base => exact le_refl _
  | succ b _ ih =>
    refine ih.trans ?_
    rcases Nat.lt_or_ge b v.length with hb | hb
    · rw [P_succ v b hb]; exact le_add_of_nonneg_right (hv _ (List.getElem_mem hb))
    · rw [P_of_length_le hb, P_of_length_le (Nat.le_succ_of_le hb)]

theorem P_le_sum (v : List ℝ) (hv : ∀ x ∈ v, 0 ≤ x) (k : ℕ) : P v k ≤ v.sum := by
  rcases Nat.le_total k v.length with h | h
  · exact (P_mono v hv h).trans_eq (P_length v)
  · exact (P_of_length_le h).le

theorem P_nonneg (v : List ℝ) (hv : ∀ x ∈ v, 0 ≤ x) (k : ℕ) : 0 ≤ P v k := by
  rw [← P_zero v]; exact P_mono v hv (Nat.zero_le k)

theorem cum_real (c0 : ℝ) (t : List ℝ) (k : ℕ) : cum (c0 :: t) c0 k = P (c0 :: t) (k + 1) := by
  induction k with
  | zero => simp [cum, P]
  | succ k ih =>
    rcases Nat.lt_or_ge (k + 1) (c0 :: t).length with hk | hk
    · rw [cum_succ _ _ k hk, ih, P_succ _ (k + 1) hk, ScReal.add_def]
    · rw [cum_succ_of_le _ _ k hk, ih, P_of_length_le hk, P_of_length_le (Nat.le_succ_of_le hk)]

/-- `r` is the least index whose cumulative sum exceeds `p`, capped at `jm`: written out, this is
    `Lemmas.CeilComb.FirstAbove (fun k => P v (k + 1)) jm p r`, and the lemmas about `FirstAbove` apply to it as they stand -/
def CoverAt (jm : ℕ) (v : List ℝ) (p : ℝ) (r : ℕ) : Prop :=
  r ≤ jm ∧ (r < jm → p < P v (r + 1)) ∧ (∀ k < r, P v (k + 1) ≤ p)

/-- `r` is the least index whose cumulative sum exceeds `p`, capped at the last index of positive weight
    (`lastPositive v`; the last index when no weight is positive) -/
def Cover (v : List ℝ) (p : ℝ) (r : ℕ) : Prop := CoverAt (lastPositive v) v p r

theorem Cover_unique (v : List ℝ) (p : ℝ) (r r' : ℕ) (h : Cover v p r) (h' : Cover v p r') : r = r' :=
  FirstAbove.unique (c := fun k => P v (k + 1)) h h'

/-- **specification of the two-pointer loop**: for every position `(u0+i)/n` the returned index is the least
    `j` with `position < C_j` (capped at the last index of positive weight) — for any weights (of either sign), any sum,
    any offset. `renorm s w` is the weight vector the loop works on (`w` itself, or `w/s`). -/
theorem C06_syst_spec (s : ℝ) (n : ℕ) (w : List ℝ) (u0 : ℝ) (idx : List ℕ)
    (h : systematicWith s n w u0 = some idx) :
    List.Forall₂ (fun (i : ℕ) r => Cover (renorm s w) ((u0 + i) / n) r) (List.range n) idx := by
  obtain ⟨c0, t, hv, hL⟩ := C06_syst_loop_spec s n w u0 idx h
  rw [hv]
  -- over `ℝ` the loop's comparisons are exact and its running sums are the cumulative sums
  have hcov := hL.cover_range id (fun a b => ScReal.ge_def a b) (fun a b hab => position_mono n u0 hab)
  simp only [id, cum_real] at hcov
  exact hcov

/-! ### cells: which positions receive index `j` -/

theorem tail_zero (v : List ℝ) (hv : ∀ x ∈ v, 0 ≤ x) (j : ℕ) (hj : lastPositive v < j) (hjl : j < v.length) :
    v[j] = 0 := by
  have h := after_lastPositive v j hj v[j] (List.getElem?_eq_getElem hjl)
  have h1 : ¬ (0 : ℝ) < v[j] := by simpa [Sc.gt] using h
  exact le_antisymm (not_lt.mp h1) (hv _ (List.getElem_mem hjl))

theorem P_after_last (v : List ℝ) (hv : ∀ x ∈ v, 0 ≤ x) (k : ℕ) (hk : lastPositive v + 1 ≤ k) : P v k = v.sum := by
  have hz : (v.drop k).sum = 0 := List.sum_eq_zero fun x hx => by
    obtain ⟨i, hi, rfl⟩ := List.mem_drop_iff_getElem.mp hx
    exact tail_zero v hv (k + i) (by omega) (by omega)
  rw [← List.sum_take_add_sum_drop v k, hz, add_zero, P]

theorem lastPositive_pos (v : List ℝ) (hv : ∀ x ∈ v, 0 ≤ x) (hpos : 0 < v.sum) :
    ∃ h : lastPositive v < v.length, 0 < v[lastPositive v] := by
  have hex : ∃ x ∈ v, Sc.gt x Sc.zero = true := by
    by_contra hno
    have hz : ∀ x ∈ v, x = 0 := fun x hx =>
      le_antisymm (not_lt.mp fun h => hno ⟨x, hx, by simpa [Sc.gt] using h⟩) (hv x hx)
    exact hpos.ne' (List.sum_eq_zero hz)
  obtain ⟨h, hgt⟩ := lastPositive_gt v hex
  exact ⟨h, by simpa [Sc.gt] using hgt⟩

/-- cell boundaries in position units, clamped to the range `[0,1]` of the comb: `edge v k = min(C_{k−1}, 1)` up to the
    capping index `L = lastPositive v` and `1` beyond it (the capping index owns everything up to 1; indices after it,
    whose weights are 0, own nothing) -/
noncomputable def edge (v : List ℝ) (k : ℕ) : ℝ := if k ≤ lastPositive v then min (P v k) 1 else 1

theorem edge_of_le {v : List ℝ} {k : ℕ} (hk : k ≤ lastPositive v) : edge v k = min (P v k) 1 := if_pos hk

theorem edge_of_gt {v : List ℝ} {k : ℕ} (hk : lastPositive v < k) : edge v k = 1 := if_neg (Nat.not_le.mpr hk)

theorem edge_zero (v : List ℝ) : edge v 0 = 0 := by
  rw [edge_of_le (Nat.zero_le _), P_zero]; exact min_eq_left zero_le_one

theorem edge_le_one (v : List ℝ) (k : ℕ) : edge v k ≤ 1 := by
  unfold edge; split
  · exact min_le_right _ _
  · exact le_refl _

theorem edge_nonneg (v : List ℝ) (hv : ∀ x ∈ v, 0 ≤ x) (k : ℕ) : 0 ≤ edge v k := by
  unfold edge; split
  · exact le_min (P_nonneg v hv k) zero_le_one
  · exact zero_le_one

theorem edge_mono (v : List ℝ) (hv : ∀ x ∈ v, 0 ≤ x) {a b : ℕ} (hab : a ≤ b) : edge v a ≤ edge v b := by
  rcases Nat.lt_or_ge (lastPositive v) b with hb | hb
  · rw [edge_of_gt hb]; exact edge_le_one v a
  · rw [edge_of_le hb, edge_of_le (hab.trans hb)]
    exact min_le_min_right _ (P_mono v hv hab)

theorem edge_eq_min (v : List ℝ) (k : ℕ) :
    edge v k = min (cellEdge (fun k => P v (k + 1)) (lastPositive v + 1) 1 k) 1 := by
  cases k with
  | zero => rw [edge_zero, cellEdge_zero, min_eq_left zero_le_one]
  | succ k =>
    rcases Nat.lt_or_ge (k + 1) (lastPositive v + 1) with h | h
    · rw [cellEdge_succ_of_lt h, edge_of_le (Nat.le_of_lt_succ h)]
    · rw [cellEdge_succ_of_ge h, edge_of_gt h, min_self]

theorem cell_iff_all (v : List ℝ) (hv : ∀ x ∈ v, 0 ≤ x) (p : ℝ) (hp0 : 0 ≤ p) (hp1 : p < 1)
    (r j : ℕ) (hc : Cover v p r) : r = j ↔ (edge v j ≤ p ∧ p < edge v (j + 1)) := by
  rw [edge_eq_min, edge_eq_min, min_le_iff, lt_min_iff, or_iff_left (not_le.mpr hp1), and_iff_left hp1]
  exact FirstAbove.eq_iff hp0 hp1 (fun a b hab _ => P_mono v hv (Nat.succ_le_succ hab)) j hc

theorem edge_eq_P (v : List ℝ) (hv : ∀ x ∈ v, 0 ≤ x) (hS : v.sum ≤ 1) {k : ℕ} (hk : k ≤ lastPositive v) :
    edge v k = P v k := by
  rw [edge_of_le hk, min_eq_left ((P_le_sum v hv k).trans hS)]

theorem edge_eq_P_of_sum_one (v : List ℝ) (hv : ∀ x ∈ v, 0 ≤ x) (hS : v.sum = 1) (k : ℕ) : edge v k = P v k := by
  rcases Nat.lt_or_ge (lastPositive v) k with hk | hk
  · rw [edge_of_gt hk, P_after_last v hv k hk, hS]
  · exact edge_eq_P v hv hS.le hk

theorem edge_succ_last (v : List ℝ) (hv : ∀ x ∈ v, 0 ≤ x) (hS : v.sum ≤ 1) (hL : lastPositive v < v.length) :
    edge v (lastPositive v + 1) = edge v (lastPositive v) + v[lastPositive v] + (1 - v.sum) := by
  rw [edge_of_gt (Nat.lt_succ_self _), edge_eq_P v hv hS le_rfl, ← P_after_last v hv _ le_rfl, P_succ v _ hL]
  ring

theorem edge_succ (v : List ℝ) (hv : ∀ x ∈ v, 0 ≤ x) (hS : v.sum ≤ 1) {j : ℕ} (hj : j < v.length)
    (hjL : j ≠ lastPositive v ∨ v.sum = 1) : edge v (j + 1) = edge v j + v[j] := by
  rcases lt_trichotomy j (lastPositive v) with h | rfl | h
  · rw [edge_eq_P v hv hS h, edge_eq_P v hv hS h.le, P_succ v j hj]
  · rw [edge_succ_last v hv hS hj, hjL.resolve_left (fun h => h rfl), sub_self, add_zero]
  · rw [edge_of_gt h, edge_of_gt (Nat.lt_succ_of_lt h), tail_zero v hv j h hj, add_zero]

theorem edge_diff_bound (v : List ℝ) (hv : ∀ x ∈ v, 0 ≤ x) (j : ℕ) (hj : j < v.length) :
    |(edge v (j + 1) - edge v j) - v[j]| ≤ |v.sum - 1| := by
  have hPj := P_succ v j hj
  rcases lt_trichotomy j (lastPositive v) with h | rfl | h
  · -- below the cap: two cumulative sums clamped at 1; the loss is at most the overshoot of the larger one
    have hc := min_one_diff (P v j) (P v (j + 1)) (P_mono v hv j.le_succ)
    rw [edge_of_le h, edge_of_le h.le, abs_sub_comm, ← add_sub_cancel_left (P v j) v[j], ← hPj, abs_of_nonneg hc.1]
    exact hc.2.trans (max_le ((sub_le_sub_right (P_le_sum v hv _) 1).trans (le_abs_self _)) (abs_nonneg _))
  · -- the capping index: its cell reaches up to 1
    have hS : P v (lastPositive v) + v[lastPositive v] = v.sum := by rw [← hPj, P_after_last v hv _ le_rfl]
    rw [edge_of_gt (Nat.lt_succ_self _), edge_of_le le_rfl]
    rcases le_total (P v (lastPositive v)) 1 with hp | hp
    · have e : (1 - P v (lastPositive v)) - v[lastPositive v] = -(v.sum - 1) := by rw [← hS]; ring
      rw [min_eq_left hp, e, abs_neg]
    · rw [min_eq_right hp, sub_self, zero_sub, abs_neg, abs_of_nonneg (hv _ (List.getElem_mem hj))]
      exact le_trans (by linarith) (le_abs_self _)
  · -- beyond the cap: weight 0 and an empty cell
    rw [edge_of_gt h, edge_of_gt (Nat.lt_succ_of_lt h), tail_zero v hv j h hj, sub_self, sub_zero, abs_zero]
    exact abs_nonneg _

/-! ### the number of copies of an index: closed form, floor/ceil law, quantitative law -/

section
variable {s : ℝ} {n : ℕ} {w v : List ℝ} {u0 : ℝ} {idx : List ℕ} (hre : renorm s w = v) (hn : 1 ≤ n)
  (hv0 : ∀ x ∈ v, 0 ≤ x) (h0 : 0 ≤ u0) (h1 : u0 < 1) (h : systematicWith s n w u0 = some idx)
include hre hn hv0 h0 h1 h

theorem count_core (j : ℕ) :
    (idx.count j : ℤ) = ⌈n * edge v (j + 1) - u0⌉ - ⌈n * edge v j - u0⌉ := by
  subst hre
  rw [← comb_count n hn u0 h0 h1 _ _ (edge_nonneg _ hv0 j) (edge_mono _ hv0 j.le_succ) (edge_le_one _ _)]
  congr 1
  refine count_of_forall2 _ j _ _ ((forall2_mem (C06_syst_spec s n w u0 idx h)).imp fun i r ⟨hi, hc⟩ => ?_)
  obtain ⟨hp0, hp1⟩ := comb_mem_Ico h0 h1 (List.mem_range.mp hi)
  exact cell_iff_all _ hv0 _ hp0 hp1 r j hc

theorem floor_ceil_eff (hS : v.sum ≤ 1) (j : ℕ) (hj : j < v.length) (hjL : j ≠ lastPositive v ∨ v.sum = 1) :
    (idx.count j : ℤ) = ⌊n * v[j]⌋ ∨ (idx.count j : ℤ) = ⌈n * v[j]⌉ := by
  rw [count_core hre hn hv0 h0 h1 h j, edge_succ v hv0 hS hj hjL, mul_add, add_sub_right_comm]
  exact ceil_diff _ _

theorem count_bound_eff (j : ℕ) (hj : j < v.length) :
    |((idx.count j : ℕ) : ℝ) - n * v[j]| < 1 + n * |v.sum - 1| := by
  refine near_mul_of_near (Nat.cast_nonneg n) ?_ (edge_diff_bound v hv0 j hj)
  have := ceil_comb_sub_near n u0 (edge v j) (edge v (j + 1))
  rwa [← count_core hre hn hv0 h0 h1 h j, Int.cast_natCast] at this

end

/-- **closed form of the number of copies**, `Σw = 1` exactly, every offset in `[0,1)`:
    `count_j = ⌈n·C_j − u0⌉ − ⌈n·C_{j−1} − u0⌉`  (`P w (j+1) = C_j`, `P w j = C_{j−1}`, `P w 0 = 0`). -/
theorem C06_syst_count_closed_form (n : ℕ) (w : List ℝ) (u0 : ℝ) (idx : List ℕ) (hn : 1 ≤ n)
    (hw0 : ∀ x ∈ w, 0 ≤ x) (hw1 : w.sum = 1) (h0 : 0 ≤ u0) (h1 : u0 < 1)
    (h : systematic n w u0 = some idx) (j : ℕ) :
    (idx.count j : ℤ) = ⌈n * P w (j + 1) - u0⌉ - ⌈n * P w j - u0⌉ := by
  rw [systematic_real] at h
  rw [count_core (renorm_of_sum_one hw1) hn hw0 h0 h1 h j,
    edge_eq_P_of_sum_one w hw0 hw1, edge_eq_P_of_sum_one w hw0 hw1]

/-- **floor/ceil law**: with `Σw = 1` index `j` is copied `⌊n·w_j⌋` or `⌈n·w_j⌉` times, for every offset -/
theorem C06_syst_floor_ceil (n : ℕ) (w : List ℝ) (u0 : ℝ) (idx : List ℕ) (hn : 1 ≤ n)
    (hw0 : ∀ x ∈ w, 0 ≤ x) (hw1 : w.sum = 1) (h0 : 0 ≤ u0) (h1 : u0 < 1)
    (h : systematic n w u0 = some idx) (j : ℕ) (hj : j < w.length) :
    (idx.count j : ℤ) = ⌊n * w[j]⌋ ∨ (idx.count j : ℤ) = ⌈n * w[j]⌉ := by
  rw [systematic_real] at h
  exact floor_ceil_eff (renorm_of_sum_one hw1) hn hw0 h0 h1 h hw1.le j hj (Or.inr hw1)

/-- the same law when the sum is far from 1 and the routine renormalises: copies of `j` are
    `⌊n·w_j/Σw⌋` or `⌈n·w_j/Σw⌉` -/
theorem C06_syst_floor_ceil_renormalised (n : ℕ) (w : List ℝ) (u0 : ℝ) (idx : List ℕ) (hn : 1 ≤ n)
    (hw0 : ∀ x ∈ w, 0 ≤ x) (hpos : 0 < w.sum) (hfar : 1 / 2 ^ 26 < |w.sum - 1|)
    (h0 : 0 ≤ u0) (h1 : u0 < 1)
    (h : systematic n w u0 = some idx) (j : ℕ) (hj : j < w.length) :
    (idx.count j : ℤ) = ⌊n * (w[j] / w.sum)⌋ ∨ (idx.count j : ℤ) = ⌈n * (w[j] / w.sum)⌉ := by
  rw [systematic_real] at h
  have hS : (w.map (fun x => x / w.sum)).sum = 1 := sum_map_div_self hpos.ne'
  have := floor_ceil_eff (renorm_div _ w hfar) hn (div_sum_nonneg hw0 hpos.le) h0 h1 h hS.le j
    (by rw [List.length_map]; exact hj) (Or.inr hS)
  rwa [List.getElem_map] at this

theorem floor_ceil_normalised (n : ℕ) (w : List ℝ) (u0 : ℝ) (idx : List ℕ) (hn : 1 ≤ n)
    (hw0 : ∀ x ∈ w, 0 ≤ x) (hs : 0 < w.sum) (h0 : 0 ≤ u0) (h1 : u0 < 1)
    (h : systematic n (w.map (fun x => x / w.sum)) u0 = some idx) (j : ℕ) (hj : j < w.length) :
    (idx.count j : ℤ) = ⌊n * (w[j] / w.sum)⌋ ∨ (idx.count j : ℤ) = ⌈n * (w[j] / w.sum)⌉ := by
  have := C06_syst_floor_ceil n _ u0 idx hn (div_sum_nonneg hw0 hs.le) (sum_map_div_self hs.ne') h0 h1 h j
    (by rw [List.length_map]; exact hj)
  rwa [List.getElem_map] at this

/-- **closed form for every sum**: whatever the effective weights `v = renorm s w ≥ 0` add up to, index `j` is copied
    `⌈n·e_{j+1} − u0⌉ − ⌈n·e_j − u0⌉` times, where `e_k = min(C_{k−1}, 1)` up to the capping index (the last of positive weight)
    and `1` beyond it (`edge`). -/
theorem C06_syst_count_any_sum (s : ℝ) (n : ℕ) (w : List ℝ) (u0 : ℝ) (idx : List ℕ) (hn : 1 ≤ n)
    (hv0 : ∀ x ∈ renorm s w, 0 ≤ x) (h0 : 0 ≤ u0) (h1 : u0 < 1)
    (h : systematicWith s n w u0 = some idx) (j : ℕ) :
    (idx.count j : ℤ) = ⌈n * edge (renorm s w) (j + 1) - u0⌉ - ⌈n * edge (renorm s w) j - u0⌉ :=
  count_core rfl hn hv0 h0 h1 h j

/-- any sum (inside the tolerance band the weights are used un-normalised): every index **other than the capping one**
    (`lastPositive`: the last index of positive weight) still obeys the closed form, with the cumulative sums clamped at 1
    (positions never reach 1); the capping index receives the remaining copies (`C06_syst_length`). -/
theorem C06_syst_count_below_last (s : ℝ) (n : ℕ) (w : List ℝ) (u0 : ℝ) (idx : List ℕ) (hn : 1 ≤ n)
    (hv0 : ∀ x ∈ renorm s w, 0 ≤ x) (h0 : 0 ≤ u0) (h1 : u0 < 1)
    (h : systematicWith s n w u0 = some idx) (j : ℕ) (hj : j ≠ lastPositive (renorm s w)) :
    (idx.count j : ℤ) =
      min ⌈n * P (renorm s w) (j + 1) - u0⌉ (n : ℤ) - min ⌈n * P (renorm s w) j - u0⌉ (n : ℤ) := by
  rw [count_core rfl hn hv0 h0 h1 h j]
  rcases Nat.lt_or_ge j (lastPositive (renorm s w)) with hlt | hge
  · rw [edge_of_le hlt, edge_of_le hlt.le, ceil_comb_min n h0 h1, ceil_comb_min n h0 h1]
  · -- beyond the cap both edges are 1 and both cumulative sums are the total
    rw [edge_of_gt (by omega), edge_of_gt (by omega), P_after_last _ hv0 (j + 1) (by omega),
      P_after_last _ hv0 j (by omega), sub_self, sub_self]

/-- … in particular, when the (un-normalised) sum falls short of 1, floor/ceil holds for every index but the capping one -/
theorem C06_syst_floor_ceil_deficit (s : ℝ) (n : ℕ) (w : List ℝ) (u0 : ℝ) (idx : List ℕ) (hn : 1 ≤ n)
    (hv0 : ∀ x ∈ renorm s w, 0 ≤ x) (hv1 : (renorm s w).sum ≤ 1) (h0 : 0 ≤ u0) (h1 : u0 < 1)
    (h : systematicWith s n w u0 = some idx) (j : ℕ) (hjl : j < (renorm s w).length)
    (hj : j ≠ lastPositive (renorm s w)) :
    (idx.count j : ℤ) = ⌊n * (renorm s w)[j]⌋ ∨ (idx.count j : ℤ) = ⌈n * (renorm s w)[j]⌉ :=
  floor_ceil_eff rfl hn hv0 h0 h1 h hv1 j hjl (Or.inl hj)

/-- **quantitative count law for every sum**: the number of copies of `j` differs from `n·v_j` by less than
    `1 + n·|Σv − 1|` (for `Σv = 1` this is the floor/ceil law). -/
theorem C06_syst_count_bound (s : ℝ) (n : ℕ) (w : List ℝ) (u0 : ℝ) (idx : List ℕ) (hn : 1 ≤ n)
    (hv0 : ∀ x ∈ renorm s w, 0 ≤ x) (h0 : 0 ≤ u0) (h1 : u0 < 1)
    (h : systematicWith s n w u0 = some idx) (j : ℕ) (hj : j < (renorm s w).length) :
    |((idx.count j : ℕ) : ℝ) - n * (renorm s w)[j]| < 1 + n * |(renorm s w).sum - 1| :=
  count_bound_eff rfl hn hv0 h0 h1 h j hj

/-- … in particular on the whole tolerance band the routine accepts without renormalising:
    `|count_j − n·w_j| < 1 + n·2^-26` -/
theorem C06_syst_count_tolerance_band (n : ℕ) (w : List ℝ) (u0 : ℝ) (idx : List ℕ) (hn : 1 ≤ n)
    (hw0 : ∀ x ∈ w, 0 ≤ x) (hband : |w.sum - 1| ≤ 1 / 2 ^ 26) (h0 : 0 ≤ u0) (h1 : u0 < 1)
    (h : systematic n w u0 = some idx) (j : ℕ) (hj : j < w.length) :
    |((idx.count j : ℕ) : ℝ) - n * w[j]| < 1 + n * (1 / 2 ^ 26) := by
  rw [systematic_real] at h
  exact (count_bound_eff (renorm_id _ w hband) hn hw0 h0 h1 h j hj).trans_le
    ((add_le_add_iff_left 1).mpr (mul_le_mul_of_nonneg_left hband (Nat.cast_nonneg n)))

/-! ### unbiasedness: the count as a function of the offset -/

/-- **indicator decomposition** (`Σw = 1`): with `a = n·C_{j−1}`, `b = n·C_j`, `δ_x = ⌈x⌉ − x`,
    `count_j(u0) = ⌈b⌉ − ⌈a⌉ − [u0 ≥ 1 − δ_b] + [u0 ≥ 1 − δ_a]`; both indicator sets are intervals `[1 − δ, 1)`
    of length `δ`. -/
theorem C06_syst_indicator (n : ℕ) (w : List ℝ) (u0 : ℝ) (idx : List ℕ) (hn : 1 ≤ n)
    (hw0 : ∀ x ∈ w, 0 ≤ x) (hw1 : w.sum = 1) (h0 : 0 ≤ u0) (h1 : u0 < 1)
    (h : systematic n w u0 = some idx) (j : ℕ) :
    (idx.count j : ℤ) = (⌈n * P w (j + 1)⌉ - ⌈n * P w j⌉)
      - (if 1 - ((⌈n * P w (j + 1)⌉ : ℝ) - n * P w (j + 1)) ≤ u0 then 1 else 0)
      + (if 1 - ((⌈n * P w j⌉ : ℝ) - n * P w j) ≤ u0 then 1 else 0) := by
  rw [C06_syst_count_closed_form n w u0 idx hn hw0 hw1 h0 h1 h j,
    ceil_sub_offset _ u0 h0 h1, ceil_sub_offset _ u0 h0 h1]
  ring

/-- **unbiasedness, algebraic form**: the constant term minus the length `δ_b` of the first indicator interval
    plus the length `δ_a` of the second is exactly `n·w_j` — the mean of `count_j(u0)` over `u0 ~ U[0,1)`. -/
theorem C06_syst_unbiased_algebraic (n : ℕ) (w : List ℝ) (j : ℕ) (hj : j < w.length) :
    ((⌈n * P w (j + 1)⌉ - ⌈n * P w j⌉ : ℤ) : ℝ)
      - ((⌈n * P w (j + 1)⌉ : ℝ) - n * P w (j + 1)) + ((⌈n * P w j⌉ : ℝ) - n * P w j) = n * w[j] := by
  rw [P_succ w j hj]; push_cast; ring

/-! ### unbiasedness as an integral over the offset `u0 ~ U[0,1)` -/

/-- copies of index `j` as a function of the offset (`0` only in the `IndexError` case `w = []`) -/
noncomputable def copies (n : ℕ) (w : List ℝ) (j : ℕ) (u : ℝ) : ℝ :=
  match systematic n w u with
  | some idx => (idx.count j : ℝ)
  | none => 0

/-- copies of index `j` as a function of the offset, for a given value `s` of `np.sum(w)`
    (`0` only in the `IndexError` case `w = []`) -/
noncomputable def copiesWith (s : ℝ) (n : ℕ) (w : List ℝ) (j : ℕ) (u : ℝ) : ℝ :=
  match systematicWith s n w u with
  | some idx => (idx.count j : ℝ)
  | none => 0

theorem copies_eq_copiesWith (n : ℕ) (w : List ℝ) (j : ℕ) (u : ℝ) :
    copies n w j u = copiesWith (Sc.sum w) n w j u := rfl

section
variable {s : ℝ} {n : ℕ} {w v : List ℝ} (hre : renorm s w = v) (hn : 1 ≤ n) (hne : w ≠ []) (hv0 : ∀ x ∈ v, 0 ≤ x)
include hre hn hne hv0

theorem copiesWith_eqOn (j : ℕ) :
    Set.EqOn (copiesWith s n w j)
      (fun u => ((⌈n * edge v (j + 1) - u⌉ - ⌈n * edge v j - u⌉ : ℤ) : ℝ)) (Set.Ico (0:ℝ) 1) := by
  intro u hu
  obtain ⟨c0, t, _, hsome⟩ := systematicWith_some s n w u hne
  simp only [copiesWith, hsome]
  rw [← count_core hre hn hv0 hu.1 hu.2 hsome j, Int.cast_natCast]

theorem mean_eff (j : ℕ) :
    ∫ u in Set.Ico (0:ℝ) 1, copiesWith s n w j u = n * (edge v (j + 1) - edge v j) := by
  rw [setIntegral_congr_fun measurableSet_Ico (copiesWith_eqOn hre hn hne hv0 j), integral_ceil_diff, mul_sub]

theorem unbiased_eff (hv1 : v.sum = 1) (j : ℕ) (hj : j < v.length) :
    ∫ u in Set.Ico (0:ℝ) 1, copiesWith s n w j u = n * v[j] := by
  rw [mean_eff hre hn hne hv0 j, edge_succ v hv0 hv1.le hj (Or.inr hv1), add_sub_cancel_left]

end

/-- **mean number of copies for every sum**: over a uniform offset, index `j` receives `n·(e_{j+1} − e_j)` copies -/
theorem C06_syst_mean_any_sum (s : ℝ) (n : ℕ) (w : List ℝ) (hn : 1 ≤ n) (hne : w ≠ [])
    (hv0 : ∀ x ∈ renorm s w, 0 ≤ x) (j : ℕ) :
    ∫ u in Set.Ico (0:ℝ) 1, copiesWith s n w j u =
      n * (edge (renorm s w) (j + 1) - edge (renorm s w) j) :=
  mean_eff rfl hn hne hv0 j

/-- the bias of the mean is at most `n·|Σv − 1|` (≤ `n·2^-26` inside the tolerance band) -/
theorem C06_syst_mean_bias_bound (s : ℝ) (n : ℕ) (w : List ℝ) (hn : 1 ≤ n) (hne : w ≠ [])
    (hv0 : ∀ x ∈ renorm s w, 0 ≤ x) (j : ℕ) (hj : j < (renorm s w).length) :
    |(∫ u in Set.Ico (0:ℝ) 1, copiesWith s n w j u) - n * (renorm s w)[j]| ≤ n * |(renorm s w).sum - 1| := by
  rw [C06_syst_mean_any_sum s n w hn hne hv0 j, ← mul_sub, abs_mul, Nat.abs_cast]
  exact mul_le_mul_of_nonneg_left (edge_diff_bound _ hv0 j hj) (Nat.cast_nonneg n)

/-- exactly unbiased whenever the effective weights `renorm s w` sum to 1 -/
theorem C06_syst_unbiased_eff (s : ℝ) (n : ℕ) (w : List ℝ) (hn : 1 ≤ n) (hne : w ≠ [])
    (hv0 : ∀ x ∈ renorm s w, 0 ≤ x) (hv1 : (renorm s w).sum = 1) (j : ℕ) (hj : j < (renorm s w).length) :
    ∫ u in Set.Ico (0:ℝ) 1, copiesWith s n w j u = n * (renorm s w)[j] :=
  unbiased_eff rfl hn hne hv0 hv1 j hj

/-- **unbiasedness**: the mean number of copies of index `j` over a uniform offset is `n·w_j` (Lebesgue integral
    over `[0,1)`; `Σw = 1`) -/
theorem C06_syst_unbiased_integral (n : ℕ) (w : List ℝ) (hn : 1 ≤ n)
    (hw0 : ∀ x ∈ w, 0 ≤ x) (hw1 : w.sum = 1) (j : ℕ) (hj : j < w.length) :
    ∫ u in Set.Ico (0:ℝ) 1, copies n w j u = n * w[j] := by
  simp only [copies_eq_copiesWith, ScReal.sum_def]
  exact unbiased_eff (renorm_of_sum_one hw1) hn (List.ne_nil_of_length_pos (Nat.zero_lt_of_lt hj))
    hw0 hw1 j hj

/-- **unbiasedness in the renormalising branch** (`|Σw − 1| > 2^-26`): mean copies of `j` = `n·w_j/Σw` -/
theorem C06_syst_unbiased_renormalised (n : ℕ) (w : List ℝ) (hn : 1 ≤ n)
    (hw0 : ∀ x ∈ w, 0 ≤ x) (hpos : 0 < w.sum) (hfar : 1 / 2 ^ 26 < |w.sum - 1|) (j : ℕ) (hj : j < w.length) :
    ∫ u in Set.Ico (0:ℝ) 1, copies n w j u = n * (w[j] / w.sum) := by
  simp only [copies_eq_copiesWith, ScReal.sum_def]
  rw [unbiased_eff (renorm_div _ w hfar) hn (List.ne_nil_of_length_pos (Nat.zero_lt_of_lt hj))
    (div_sum_nonneg hw0 hpos.le) (sum_map_div_self hpos.ne') j (by rw [List.length_map]; exact hj),
    List.getElem_map]

/-- inside the band with a deficit (`Σv ≤ 1`) every index but the capping one (the last of positive weight) is exactly
    unbiased; the capping index absorbs the deficit `n·(1 − Σv)` -/
theorem C06_syst_unbiased_deficit (s : ℝ) (n : ℕ) (w : List ℝ) (hn : 1 ≤ n) (hne : w ≠ [])
    (hv0 : ∀ x ∈ renorm s w, 0 ≤ x) (hv1 : (renorm s w).sum ≤ 1) (j : ℕ) (hj : j < (renorm s w).length) :
    ∫ u in Set.Ico (0:ℝ) 1, copiesWith s n w j u =
      if j = lastPositive (renorm s w) then n * (renorm s w)[j] + n * (1 - (renorm s w).sum)
      else n * (renorm s w)[j] := by
  rw [C06_syst_mean_any_sum s n w hn hne hv0 j]
  split
  · rename_i hjL
    subst hjL
    rw [edge_succ_last _ hv0 hv1 hj]; ring
  · rename_i hjL
    rw [edge_succ _ hv0 hv1 hj (Or.inl hjL)]; ring

/-! ### multinomial scheme: inverse-cdf lookup -/

theorem cumsumFrom_eq (acc : ℝ) (xs : List ℝ) :
    cumsumFrom acc xs = (List.range xs.length).map (fun k => acc + (xs.take (k + 1)).sum) := by
  induction xs generalizing acc with
  | nil => simp [cumsumFrom]
  | cons x xs ih =>
    simp [cumsumFrom, ih, List.range_succ_eq_map, Function.comp_def, add_assoc]

theorem cumsum_eq (w : List ℝ) : cumsum w = (List.range w.length).map (fun k => P w (k + 1)) := by
  cases w with
  | nil => simp [cumsum]
  | cons x xs => simp [cumsum, cumsumFrom_eq, P, List.range_succ_eq_map, Function.comp_def]

/-- `cdf = cumsum p; cdf /= cdf[-1]` is the list of `C_k / Σw` -/
theorem normCdf_real (w : List ℝ) (hne : w ≠ []) :
    normCdf w = some ((List.range w.length).map (fun k => P w (k + 1) / w.sum)) := by
  have hlen : 0 < w.length := List.length_pos_iff.mpr hne
  have hlast : (cumsum w).getLast? = some w.sum := by
    rw [cumsum_eq, List.getLast?_eq_getElem?, List.length_map, List.length_range,
      List.getElem?_map, List.getElem?_range (Nat.sub_lt hlen one_pos), Option.map_some,
      Nat.sub_add_cancel (show 1 ≤ w.length from hlen), P_length]
  unfold normCdf
  simp only [hlast]
  rw [cumsum_eq]
  simp [List.map_map, Function.comp_def]

/-- the index a single uniform `u` draws: the number of normalised cdf entries `C_k/Σw ≤ u` -/
noncomputable def multIndex (w : List ℝ) (u : ℝ) : ℕ :=
  (List.range w.length).countP (fun k => decide (P w (k + 1) / w.sum ≤ u))

theorem multinomial_eq (w : List ℝ) (hne : w ≠ []) (us : List ℝ) :
    multinomial w us = some (us.map (multIndex w)) := by
  unfold multinomial
  rw [normCdf_real w hne, Option.map_some]
  congr 2
  funext u
  unfold searchsortedRight multIndex
  rw [List.countP_map]
  exact List.countP_congr fun k _ => by simp

theorem cdf_mono (w : List ℝ) (hw0 : ∀ x ∈ w, 0 ≤ x) (hpos : 0 < w.sum) :
    Monotone (fun k => P w (k + 1) / w.sum) := fun _ _ hab =>
  div_le_div_of_nonneg_right (P_mono w hw0 (Nat.succ_le_succ hab)) hpos.le

theorem multIndex_firstAbove (w : List ℝ) (hw0 : ∀ x ∈ w, 0 ≤ x) (hpos : 0 < w.sum) (u : ℝ) :
    FirstAbove (fun k => P w (k + 1) / w.sum) w.length u (multIndex w u) :=
  countP_mono_range _ (cdf_mono w hw0 hpos) u w.length

theorem multIndex_lt (w : List ℝ) (hw0 : ∀ x ∈ w, 0 ≤ x) (hpos : 0 < w.sum) (u : ℝ) (hu1 : u < 1) :
    multIndex w u < w.length := by
  have hlen : 0 < w.length := List.length_pos_iff.mpr (ne_nil_of_sum_pos hpos)
  -- the last cdf entry is 1, above `u`: the search has stopped by then
  have := ((multIndex_firstAbove w hw0 hpos u).le_iff (fun a b hab _ => cdf_mono w hw0 hpos hab) (w.length - 1)).mpr
    (.inr (by simpa only [Nat.sub_add_cancel hlen, P_length, div_self hpos.ne'] using hu1))
  omega

theorem multIndex_eq_iff (w : List ℝ) (hw0 : ∀ x ∈ w, 0 ≤ x) (hpos : 0 < w.sum) (u : ℝ) (hu0 : 0 ≤ u)
    (i : ℕ) (hi : i < w.length) :
    multIndex w u = i ↔ (P w i / w.sum ≤ u ∧ u < P w (i + 1) / w.sum) := by
  have h := FirstAbove.eq_iff (jmax := w.length) hu0 (lt_add_one u)
    (fun a b hab _ => cdf_mono w hw0 hpos hab) i (multIndex_firstAbove w hw0 hpos u)
  rw [cellEdge_succ_of_lt (Nat.succ_lt_succ hi)] at h
  cases i with
  | zero => rwa [cellEdge_zero, ← zero_div w.sum, ← P_zero w] at h
  | succ i => rwa [cellEdge_succ_of_lt (Nat.lt_succ_of_lt hi)] at h

/-- every multinomial index is a valid index into the weight vector -/
theorem C06_mult_range (w us : List ℝ) (idx : List ℕ) (hw0 : ∀ x ∈ w, 0 ≤ x) (hpos : 0 < w.sum)
    (hus : ∀ u ∈ us, 0 ≤ u ∧ u < 1) (h : multinomial w us = some idx) : ∀ r ∈ idx, r < w.length := by
  rw [multinomial_eq w (ne_nil_of_sum_pos hpos), Option.some.injEq] at h
  subst h
  intro r hr
  obtain ⟨u, hu, rfl⟩ := List.mem_map.mp hr
  exact multIndex_lt w hw0 hpos u (hus u hu).2

/-- **cell law**: the `k`-th draw `u` yields index `i` exactly when `cdf_{i−1} ≤ u < cdf_i` for the
    normalised cdf `cdf_i = C_i/Σw` (`cdf_{−1} = 0`) -/
theorem C06_mult_cell (w us : List ℝ) (idx : List ℕ) (hw0 : ∀ x ∈ w, 0 ≤ x) (hpos : 0 < w.sum)
    (hus : ∀ u ∈ us, 0 ≤ u ∧ u < 1) (h : multinomial w us = some idx)
    (k : ℕ) (hk : k < us.length) (hk' : k < idx.length) (i : ℕ) (hi : i < w.length) :
    idx[k] = i ↔ (P w i / w.sum ≤ us[k] ∧ us[k] < P w (i + 1) / w.sum) := by
  rw [multinomial_eq w (ne_nil_of_sum_pos hpos), Option.some.injEq] at h
  subst h
  rw [List.getElem_map]
  exact multIndex_eq_iff w hw0 hpos us[k] (hus _ (List.getElem_mem hk)).1 i hi

theorem C06_mult_cell_length (w : List ℝ) (i : ℕ) (hi : i < w.length) :
    P w (i + 1) / w.sum - P w i / w.sum = w[i] / w.sum := by
  rw [P_succ w i hi]; ring

theorem mult_cell_bounds (w : List ℝ) (hw0 : ∀ x ∈ w, 0 ≤ x) (hpos : 0 < w.sum) (i : ℕ) :
    0 ≤ P w i / w.sum ∧ P w i / w.sum ≤ P w (i + 1) / w.sum ∧ P w (i + 1) / w.sum ≤ 1 :=
  ⟨div_nonneg (P_nonneg w hw0 i) hpos.le, div_le_div_of_nonneg_right (P_mono w hw0 (Nat.le_succ i)) hpos.le,
    (div_le_one hpos).mpr (P_le_sum w hw0 _)⟩

theorem mult_draw_iff (w : List ℝ) (hw0 : ∀ x ∈ w, 0 ≤ x) (hpos : 0 < w.sum) (i : ℕ) (hi : i < w.length)
    (u : ℝ) (hu0 : 0 ≤ u) :
    multinomial w [u] = some [i] ↔ u ∈ Set.Ico (P w i / w.sum) (P w (i + 1) / w.sum) := by
  rw [multinomial_eq w (ne_nil_of_sum_pos hpos), Set.mem_Ico, ← multIndex_eq_iff w hw0 hpos u hu0 i hi]
  simp

theorem mult_draw_indicator (w : List ℝ) (hw0 : ∀ x ∈ w, 0 ≤ x) (hpos : 0 < w.sum) (i : ℕ) (hi : i < w.length)
    (u : ℝ) (hu0 : 0 ≤ u) :
    (if multinomial w [u] = some [i] then (1:ℝ) else 0)
      = (Set.Ico (P w i / w.sum) (P w (i + 1) / w.sum)).indicator (fun _ => (1:ℝ)) u := by
  have hiff := mult_draw_iff w hw0 hpos i hi u hu0
  by_cases hc : u ∈ Set.Ico (P w i / w.sum) (P w (i + 1) / w.sum)
  · rw [if_pos (hiff.mpr hc), Set.indicator_of_mem hc]
  · rw [if_neg (mt hiff.mp hc), Set.indicator_of_notMem hc]

/-- **unbiasedness of the multinomial scheme**: one uniform draw yields index `i` with probability `w_i/Σw`
    (Lebesgue measure of its cell), so `n` independent draws give `n·w_i/Σw` expected copies -/
theorem C06_mult_unbiased_integral (w : List ℝ) (hw0 : ∀ x ∈ w, 0 ≤ x) (hpos : 0 < w.sum)
    (i : ℕ) (hi : i < w.length) :
    ∫ u in Set.Ico (0:ℝ) 1, (if multinomial w [u] = some [i] then (1:ℝ) else 0) = w[i] / w.sum := by
  obtain ⟨hlo, hle, hhi⟩ := mult_cell_bounds w hw0 hpos i
  rw [setIntegral_congr_fun measurableSet_Ico fun u hu => mult_draw_indicator w hw0 hpos i hi u hu.1,
    setIntegral_indicator measurableSet_Ico,
    Set.inter_eq_self_of_subset_right (Set.Ico_subset_Ico hlo hhi), setIntegral_const,
    Real.volume_real_Ico_of_le hle, ← C06_mult_cell_length w i hi]
  simp

/-! ### multinomial scheme: `n` independent draws -/

/-- copies of index `i` among the indices drawn for the uniforms `us` (`0` only for the empty weight vector) -/
noncomputable def multCopies (w : List ℝ) (i : ℕ) (us : List ℝ) : ℝ :=
  match multinomial w us with
  | some idx => (idx.count i : ℝ)
  | none => 0

/-- the number of copies of `i` is the number of draws that fall into its cell -/
theorem C06_mult_count (w us : List ℝ) (idx : List ℕ) (hw0 : ∀ x ∈ w, 0 ≤ x) (hpos : 0 < w.sum)
    (hus : ∀ u ∈ us, 0 ≤ u) (h : multinomial w us = some idx) (i : ℕ) (hi : i < w.length) :
    idx.count i = us.countP (fun u => decide (P w i / w.sum ≤ u ∧ u < P w (i + 1) / w.sum)) := by
  rw [multinomial_eq w (ne_nil_of_sum_pos hpos), Option.some.injEq] at h
  subst h
  rw [List.count_eq_countP, List.countP_map]
  refine List.countP_congr fun u hu => ?_
  simp only [Function.comp, beq_iff_eq, decide_eq_true_eq]
  exact multIndex_eq_iff w hw0 hpos u (hus u hu) i hi

theorem multCopies_eq_sum (w : List ℝ) (hne : w ≠ []) (i : ℕ) (us : List ℝ) :
    multCopies w i us = (us.map (fun u => if multinomial w [u] = some [i] then (1:ℝ) else 0)).sum := by
  classical
  simp only [multCopies, multinomial_eq w hne us]
  rw [List.count_eq_countP, List.countP_map, ← countP_eq_sum_map (fun u => multinomial w [u] = some [i]) us]
  congr 2
  funext u
  simp [multinomial_eq w hne [u], beq_eq_decide]

/-- **expected number of copies, multinomial scheme**: for `n` independent uniform draws the mean number of copies
    of index `i` is `n·w_i/Σw` (product Lebesgue measure on `[0,1)^n`) -/
theorem C06_mult_expected_copies (w : List ℝ) (hw0 : ∀ x ∈ w, 0 ≤ x) (hpos : 0 < w.sum) (n : ℕ)
    (i : ℕ) (hi : i < w.length) :
    ∫ us : Fin n → ℝ, multCopies w i (List.ofFn us)
        ∂(Measure.pi fun _ : Fin n => volume.restrict (Set.Ico (0:ℝ) 1)) = n * (w[i] / w.sum) := by
  set μ := volume.restrict (Set.Ico (0:ℝ) 1)
  set F : ℝ → ℝ := fun u => if multinomial w [u] = some [i] then (1:ℝ) else 0 with hF
  have hae : F =ᵐ[μ] (Set.Ico (P w i / w.sum) (P w (i + 1) / w.sum)).indicator (fun _ => (1:ℝ)) := by
    filter_upwards [ae_restrict_mem measurableSet_Ico] with u hu
    exact mult_draw_indicator w hw0 hpos i hi u hu.1
  have hFm : AEStronglyMeasurable F μ :=
    ((stronglyMeasurable_const.indicator measurableSet_Ico).aestronglyMeasurable).congr hae.symm
  have hsum : ∀ us : Fin n → ℝ, multCopies w i (List.ofFn us) = ∑ k : Fin n, F (us k) := by
    intro us
    rw [multCopies_eq_sum w (ne_nil_of_sum_pos hpos) i, List.map_ofFn, List.sum_ofFn]
    rfl
  have hint : ∀ k ∈ (Finset.univ : Finset (Fin n)),
      Integrable (fun us : Fin n → ℝ => F (us k)) (Measure.pi fun _ : Fin n => μ) := by
    intro k _
    refine Integrable.of_bound (hFm.comp_measurePreserving (measurePreserving_eval (μ := fun _ : Fin n => μ) k)) 1
      (Filter.Eventually.of_forall fun us => ?_)
    simp only [hF]; split <;> simp
  simp only [hsum]
  rw [integral_finsetSum _ hint]
  have hFint : ∫ t, F t ∂μ = w[i] / w.sum := C06_mult_unbiased_integral w hw0 hpos i hi
  -- `μ` is a probability measure by the instance `Lemmas.CeilComb.uniform01_prob`
  simp only [integral_pi_eval μ F hFm, hFint, Finset.sum_const, Finset.card_univ, Fintype.card_fin, nsmul_eq_mul]

/-! ### `Resampler.run`, multinomial scheme: every index valid -/

theorem C06_run_mult_range (n : ℕ) (w : List ℝ) (u0 : ℝ) (us : List ℝ) (idx : List ℕ)
    (hw0 : ∀ x ∈ w, 0 ≤ x) (hpos : 0 < w.sum) (hus : ∀ u ∈ us, 0 ≤ u ∧ u < 1)
    (h : resamplerRun false Scheme.mult n w u0 us = RunResult.indices idx) : ∀ r ∈ idx, r < w.length := by
  rw [resamplerRun_mult_iff] at h
  exact C06_mult_range w us _ hw0 hpos hus h

/-! ### non-vacuity: the hypotheses are met by concrete inputs -/

theorem example_nonneg : ∀ x ∈ ([1/2, 1/4, 1/4] : List ℝ), 0 ≤ x := by
  intro x hx; simp at hx; rcases hx with rfl | rfl | rfl <;> norm_num

theorem example_run : systematic 4 ([1/2, 1/4, 1/4] : List ℝ) (1/2) = some [0, 0, 1, 2] := by
  have hr : List.range 4 = [0, 1, 2, 3] := by decide
  norm_num [systematic, systematicWith, renorm, Sc.sum, ScReal.abs_def, hr, run, position, advance.eq_def, Sc.ge,
    sqrtEps_real]

example : ([0, 0, 1, 2] : List ℕ).length = 4 :=
  C06_syst_length (α := ℝ) _ 4 [1/2, 1/4, 1/4] (1/2) _ example_run
example : ∀ r ∈ ([0, 0, 1, 2] : List ℕ), r < 3 :=
  C06_syst_range (α := ℝ) _ 4 [1/2, 1/4, 1/4] (1/2) _ example_run
example : ([0, 0, 1, 2] : List ℕ).Pairwise (· ≤ ·) :=
  C06_syst_monotone (α := ℝ) _ 4 [1/2, 1/4, 1/4] (1/2) _ example_run
example : List.Forall₂ (fun (i : ℕ) r => Cover (renorm (Sc.sum ([1/2, 1/4, 1/4] : List ℝ)) [1/2, 1/4, 1/4])
    ((1/2 + i) / (4 : ℕ)) r) (List.range 4) [0, 0, 1, 2] :=
  C06_syst_spec _ 4 [1/2, 1/4, 1/4] (1/2) _ example_run
example : ((([0, 0, 1, 2] : List ℕ).count 0 : ℕ) : ℤ) = ⌊((4 : ℕ) : ℝ) * (1/2)⌋ ∨
    ((([0, 0, 1, 2] : List ℕ).count 0 : ℕ) : ℤ) = ⌈((4 : ℕ) : ℝ) * (1/2)⌉ :=
  C06_syst_floor_ceil 4 [1/2, 1/4, 1/4] (1/2) _ (by norm_num)
    example_nonneg (by norm_num) (by norm_num) (by norm_num)
    example_run 0 (by simp)

/-- offset 0 (a value `numpy.random.random()` can return): position 0 goes to the first index with positive weight -/
example : systematic 1 ([0, 1] : List ℝ) 0 = some [1] := by
  have hr : List.range 1 = [0] := by decide
  norm_num [systematic, systematicWith, renorm, Sc.sum, ScReal.abs_def, hr, run, position, advance.eq_def, Sc.ge,
    sqrtEps_real]

example : systematic 2 ([1/2, 1/2] : List ℝ) 0 = some [0, 1] := by
  have hr : List.range 2 = [0, 1] := by decide
  norm_num [systematic, systematicWith, renorm, Sc.sum, ScReal.abs_def, hr, run, position, advance.eq_def, Sc.ge,
    sqrtEps_real]

/-- renormalising branch: `Σw = 2` -/
example : systematic 2 ([1, 1] : List ℝ) (1/2) = some [0, 1] := by
  rw [systematic, ScReal.sum_def, systematicWith, renorm_div _ _ (by norm_num)]
  norm_num [List.range_succ, run, position, advance.eq_def, Sc.ge, Sc.gt]

theorem example_band_hyp : (∀ x ∈ ([1 / 2 ^ 30, 1] : List ℝ), 0 ≤ x) ∧
    |([1 / 2 ^ 30, 1] : List ℝ).sum - 1| ≤ 1 / 2 ^ 26 := by
  constructor
  · intro x hx; simp at hx; rcases hx with rfl | rfl <;> norm_num
  · norm_num [abs_le]

/-- the tolerance-band witness (known finding F20): `w = [2^-30, 1]`, `n = 2`, `u0 = 0` gives `[0, 1]` -/
theorem example_band_run : systematic 2 ([1 / 2 ^ 30, 1] : List ℝ) 0 = some [0, 1] := by
  rw [systematic, ScReal.sum_def, systematicWith, renorm_id _ _ example_band_hyp.2]
  norm_num [List.range_succ, run, position, advance.eq_def, Sc.ge, Sc.gt]

/-- the hypothesis `Σw = 1` of the floor/ceil law cannot be relaxed to the tolerance band the routine accepts:
    `w = [2^-30, 1]` (sum `1 + 2^-30`, no renormalisation), `n = 2`, `u0 = 0` gives `[0, 1]`, so index 1 is copied
    once although `n·w_1 = 2`. -/
theorem C06_syst_floor_ceil_needs_exact_sum :
    ∃ (n : ℕ) (w : List ℝ) (u0 : ℝ) (idx : List ℕ), 1 ≤ n ∧ (∀ x ∈ w, 0 ≤ x) ∧ |w.sum - 1| ≤ 1 / 2 ^ 26 ∧
      0 ≤ u0 ∧ u0 < 1 ∧ systematic n w u0 = some idx ∧
      ∃ (j : ℕ) (hj : j < w.length), (idx.count j : ℤ) ≠ ⌊n * w[j]⌋ ∧ (idx.count j : ℤ) ≠ ⌈n * w[j]⌉ := by
  refine ⟨2, [1 / 2 ^ 30, 1], 0, [0, 1], by norm_num, example_band_hyp.1, example_band_hyp.2, le_refl _,
    by norm_num, example_band_run, 1, by simp, ?_, ?_⟩
  · norm_num
  · norm_num

/-- … while the quantitative law does hold there (and is nearly attained: `|1 − 2| < 1 + 2·2^-26`) -/
example : |(((([0, 1] : List ℕ).count 1 : ℕ) : ℝ)) - ((2 : ℕ) : ℝ) * ([1 / 2 ^ 30, 1] : List ℝ)[1]|
    < 1 + ((2 : ℕ) : ℝ) * (1 / 2 ^ 26) :=
  C06_syst_count_tolerance_band 2 [1 / 2 ^ 30, 1] 0 [0, 1] (by norm_num) example_band_hyp.1 example_band_hyp.2
    (le_refl _) (by norm_num) example_band_run 1 (by simp)

example : ((([0, 1] : List ℕ).count 1 : ℕ) : ℤ) =
    ⌈((2 : ℕ) : ℝ) * edge (renorm (Sc.sum ([1 / 2 ^ 30, 1] : List ℝ)) [1 / 2 ^ 30, 1]) 2 - 0⌉ -
    ⌈((2 : ℕ) : ℝ) * edge (renorm (Sc.sum ([1 / 2 ^ 30, 1] : List ℝ)) [1 / 2 ^ 30, 1]) 1 - 0⌉ :=
  C06_syst_count_any_sum _ 2 [1 / 2 ^ 30, 1] 0 [0, 1] (by norm_num)
    (by rw [ScReal.sum_def, renorm_id _ _ example_band_hyp.2]; exact example_band_hyp.1) (le_refl _) (by norm_num)
    example_band_run 1

example : |(∫ u in Set.Ico (0:ℝ) 1, copiesWith ([1 / 2 ^ 30, 1] : List ℝ).sum 2 [1 / 2 ^ 30, 1] 1 u)
      - ((2 : ℕ) : ℝ) * (renorm ([1 / 2 ^ 30, 1] : List ℝ).sum [1 / 2 ^ 30, 1])[1]'(by simp [renorm_length])|
    ≤ ((2 : ℕ) : ℝ) * |(renorm ([1 / 2 ^ 30, 1] : List ℝ).sum [1 / 2 ^ 30, 1]).sum - 1| :=
  C06_syst_mean_bias_bound _ 2 [1 / 2 ^ 30, 1] (by norm_num) (by simp)
    (by rw [renorm_id _ _ example_band_hyp.2]; exact example_band_hyp.1) 1 (by simp [renorm_length])

example : ∫ u in Set.Ico (0:ℝ) 1, copies 2 ([1, 1] : List ℝ) 0 u = ((2 : ℕ) : ℝ) * (1 / (1 + (1 + 0))) :=
  C06_syst_unbiased_renormalised 2 [1, 1] (by norm_num)
    (by intro x hx; simp at hx; subst hx; norm_num) (by norm_num) (by norm_num) 0 (by simp)

theorem example_mult_run :
    multinomial ([1/2, 1/4, 1/4] : List ℝ) [0, 1/2, 3/4, 7/8, 1/3] = some [0, 1, 2, 2, 0] := by
  norm_num [multinomial, normCdf, cumsum, cumsumFrom, searchsortedRight, List.countP_cons]

example : multinomial ([1/2, 1/4, 1/4] : List ℝ) [0, 1/2, 3/4, 7/8, 1/3] = some [0, 1, 2, 2, 0] := example_mult_run

example : ∫ u in Set.Ico (0:ℝ) 1, copies 4 ([1/2, 1/4, 1/4] : List ℝ) 0 u = ((4:ℕ):ℝ) * (1/2) :=
  C06_syst_unbiased_integral 4 [1/2, 1/4, 1/4] (by norm_num)
    example_nonneg (by norm_num) 0 (by simp)

example : ∫ u in Set.Ico (0:ℝ) 1, (if multinomial ([1/2, 1/4, 1/4] : List ℝ) [u] = some [1] then (1:ℝ) else 0)
    = (1/4) / (1/2 + (1/4 + (1/4 + 0))) :=
  C06_mult_unbiased_integral [1/2, 1/4, 1/4]
    example_nonneg (by norm_num) 1 (by simp)

example : ([0, 1, 2, 2, 0] : List ℕ).count 2 =
    ([0, 1/2, 3/4, 7/8, 1/3] : List ℝ).countP (fun u => decide
      (P [1/2, 1/4, 1/4] 2 / ([1/2, 1/4, 1/4] : List ℝ).sum ≤ u ∧ u < P [1/2, 1/4, 1/4] 3 / ([1/2, 1/4, 1/4] : List ℝ).sum)) :=
  C06_mult_count [1/2, 1/4, 1/4] [0, 1/2, 3/4, 7/8, 1/3] [0, 1, 2, 2, 0]
    example_nonneg (by norm_num)
    (by intro u hu; simp at hu; rcases hu with rfl | rfl | rfl | rfl | rfl <;> norm_num)
    example_mult_run 2 (by simp)

example : ∫ us : Fin 5 → ℝ, multCopies ([1/2, 1/4, 1/4] : List ℝ) 1 (List.ofFn us)
      ∂(Measure.pi fun _ : Fin 5 => volume.restrict (Set.Ico (0:ℝ) 1))
    = ((5 : ℕ) : ℝ) * (([1/2, 1/4, 1/4] : List ℝ)[1] / ([1/2, 1/4, 1/4] : List ℝ).sum) :=
  C06_mult_expected_copies [1/2, 1/4, 1/4]
    example_nonneg (by norm_num) 5 1 (by simp)

example : npSum ([1/2, 1/4, 1/8, 1/16, 1/32, 1/64, 1/128, 1/256, 1/256] : List ℝ) = 1 := by
  rw [npSum_real]; norm_num

theorem example_resampler_run :
    resamplerRun false Scheme.syst 4 ([1/2, 1/4, 1/4] : List ℝ) (1/2) [] = RunResult.indices [0, 0, 1, 2] := by
  simp only [resamplerRun, systematicNp_real, example_run]; rfl

example : ([0, 0, 1, 2] : List ℕ).length = 4 ∧ (∀ r ∈ ([0, 0, 1, 2] : List ℕ), r < 3) ∧
    ([0, 0, 1, 2] : List ℕ).Pairwise (· ≤ ·) :=
  C06_run_syst (α := ℝ) 4 [1/2, 1/4, 1/4] (1/2) [] _ example_resampler_run

end Props.C06
