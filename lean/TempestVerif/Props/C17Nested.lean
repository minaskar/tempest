import TempestVerif.Lemmas.StateMgrN
/-
  C17 for NESTED values: object-dtype arrays, lists, dicts — containers whose elements are references to
  further arrays.  Model: `Model/StateMgrN.lean` (heap of `data | objs | opaque` cells, each with a ghost owner
  `lib | usr`; every copy the manager makes goes through `copyVal deep`).  `deep = true` is the code as it is since
  b0f244e (`copy.deepcopy` for object arrays / list / tuple / dict; `get_history` deep-copies an object-dtype stack);
  `deep = false` is the rule before it, kept for the counter-example.
-/
namespace Props.C17N
open Model.StateMgr (Addr Content Key Val lookup dictAddrs listAddrs histAddrs cacheAddrs)
open Model.StateMgrN

/-- `_history` and the results cache point to library-owned cells only, `_current` too unless the caller stored its own object with
    `copy=False` (ghost `imported`), and every element of a library-owned container is library-owned
    (`Model.StateMgrN.Inv` written out: `C17N_inv_iff`) -/
def Inv (s : State) : Prop :=
  (∀ a : Nat, a ∈ dictAddrs s.current → ownerAt s.heap a = some .lib ∨ a ∈ s.imported) ∧
  (∀ a : Nat, a ∈ histAddrs s.history → ownerAt s.heap a = some .lib) ∧
  (∀ a : Nat, a ∈ cacheAddrs s.cache → ownerAt s.heap a = some .lib) ∧
  (∀ (a : Nat) (es : List Val), s.heap[a]? = some ⟨.objs es, .lib⟩ → ∀ b : Nat, b ∈ listAddrs es → ownerAt s.heap b = some .lib)

theorem C17N_inv_iff (s : State) : Inv s ↔ Model.StateMgrN.Inv s :=
  ⟨fun h => ⟨h.1, h.2.1, h.2.2.1, h.2.2.2⟩, fun h => ⟨h.cur, h.hist, h.cache, h.closed⟩⟩

/-- preserved by every operation of the alphabet: set (either copy flag, nested arguments included), all getters, commit,
    `compute_results`, `to_dict`, `update_from_dict`, and the caller's writes into arrays and into containers -/
theorem C17N_step_inv (s : State) (o : Op) (h : Inv s) : Inv (step true s o).1 :=
  (C17N_inv_iff _).2 (step_inv s o ((C17N_inv_iff s).1 h))

theorem C17N_reachable_inv (ops : List Op) : Inv (run true init ops) :=
  (C17N_inv_iff _).2 (run_inv ops init init_inv)

/-- Internal state is library-owned down to the elements: a root of `_history` / the cache (and of `_current`, when the
    caller never used `copy=False`), and every array inside a container such a root refers to. -/
theorem C17N_internal_is_library_owned (s : State) (h : Inv s) (a : Nat)
    (ha : a ∈ histAddrs s.history ∨ a ∈ cacheAddrs s.cache ∨ (a ∈ dictAddrs s.current ∧ s.imported = [])) :
    ownerAt s.heap a = some .lib ∧ ∀ b : Nat, b ∈ kids s.heap a → ownerAt s.heap b = some .lib := by
  have hI := (C17N_inv_iff s).1 h
  have hlib : ownerAt s.heap a = some .lib := by
    rcases ha with ha | ha | ⟨ha, himp⟩
    · exact hI.hist a ha
    · exact hI.cache a ha
    · rcases hI.cur a ha with h1 | h1
      · exact h1
      · rw [himp] at h1; cases h1
  refine ⟨hlib, fun b hb => ?_⟩
  obtain ⟨es, hes, hbe⟩ := kids_mem hb
  exact hI.closed a es (cell_of_body_owner hes hlib) b hbe

/-- What an operation returns is allocated by that call and caller-owned, down to the elements. -/
theorem C17N_returned_is_new_and_caller_owned (s : State) (o : Op) (a : Nat) (ha : a ∈ (step true s o).2.addrs) :
    (s.heap.length ≤ a ∧ ownerAt (step true s o).1.heap a = some .usr) ∧
    ∀ b : Nat, b ∈ kids (step true s o).1.heap a → s.heap.length ≤ b ∧ ownerAt (step true s o).1.heap b = some .usr :=
  step_res_new s o a ha

/-- Hence no cell — container or element — of a returned value is a cell of internal state (history, cache; current too
    when `copy=False` was never used). -/
theorem C17N_returned_shares_nothing (s : State) (o : Op) (h : Inv s) (a : Nat) (ha : a ∈ (step true s o).2.addrs)
    (x : Nat) (hx : x = a ∨ x ∈ kids (step true s o).1.heap a)
    (r : Nat) (hr : r ∈ histAddrs (step true s o).1.history ∨ r ∈ cacheAddrs (step true s o).1.cache ∨
      (r ∈ dictAddrs (step true s o).1.current ∧ (step true s o).1.imported = [])) :
    x ≠ r ∧ x ∉ kids (step true s o).1.heap r := by
  have hI := C17N_step_inv s o h
  have hint := C17N_internal_is_library_owned _ hI r hr
  have hret := step_res_new s o a ha
  have hxu : ownerAt (step true s o).1.heap x = some .usr := by
    rcases hx with hx | hx
    · subst hx; exact hret.1.2
    · exact (hret.2 x hx).2
  refine ⟨fun heq => ?_, fun hk => ?_⟩
  · subst heq
    rw [hint.1] at hxu
    cases hxu
  · have := hint.2 x hk
    rw [this] at hxu
    cases hxu

/-- The caller overwrites the buffer of an array it owns (possibly an element of a container it was handed): nothing
    readable changes. -/
theorem C17N_read_indep_of_scribble (s : State) (a : Addr) (p : Content) (h : Inv s) (himp : s.imported = []) :
    observe true (step true s (.scribble a p)).1 = observe true s := by
  obtain ⟨g, hg, ag⟩ := write_agree s (.scribble a p) (Or.inl ⟨a, p, rfl⟩)
  rw [hg]
  exact observe_agree ((C17N_inv_iff s).1 h) himp ag

/-- The caller overwrites every element of a container it owns (`o[...] = x`): nothing readable changes. -/
theorem C17N_read_indep_of_scribbleElems (s : State) (a : Addr) (x : Int) (h : Inv s) (himp : s.imported = []) :
    observe true (step true s (.scribbleElems a x)).1 = observe true s := by
  obtain ⟨g, hg, ag⟩ := write_agree s (.scribbleElems a x) (Or.inr ⟨a, x, rfl⟩)
  rw [hg]
  exact observe_agree ((C17N_inv_iff s).1 h) himp ag

/-- Even after `copy=False` stores: committed history and results never depend on anything the caller can write. -/
theorem C17N_history_indep_of_caller_writes (s : State) (o : Op) (h : Inv s)
    (ho : (∃ a p, o = .scribble a p) ∨ (∃ a x, o = .scribbleElems a x)) :
    (observe true (step true s o).1).history = (observe true s).history ∧
    (observe true (step true s o).1).results = (observe true s).results := by
  obtain ⟨g, hg, ag⟩ := write_agree s o ho
  rw [hg]
  exact observe_agree_hist ((C17N_inv_iff s).1 h) ag

/-- Append-only with nested values: for every operation other than `update_from_dict` — the caller's writes included —
    the history list of every key keeps its entries (the same cells, in the same order, new ones only at the end) and
    every old entry keeps its payload, elements of containers included. -/
theorem C17N_history_prefix_stable (s : State) (o : Op) (h : Inv s) (hni : o.isImport = false)
    (k : Key) (l : List Val) (hl : lookup k s.history = some l) :
    ∃ ext : List Val, lookup k (step true s o).1.history = some (l ++ ext) ∧
      l.map (deref (step true s o).1.heap) = l.map (deref s.heap) := by
  have hI := (C17N_inv_iff s).1 h
  have hpay : l.map (deref (step true s o).1.heap) = l.map (deref s.heap) :=
    deepReader_list.libSame (step_libSame s o) hI.closed l (fun a ha =>
      hI.hist a (Model.StateMgr.histAddrs_of_mem (Model.StateMgr.lookup_mem hl) ha))
  cases hcm : o.isCommit with
  | false => exact ⟨[], by rw [step_history_eq s o hcm hni]; simpa using hl, hpay⟩
  | true =>
    cases o with
    | commit strict =>
      rcases step_commit s strict with hst | hst
      · rw [hst] at hpay ⊢
        exact ⟨[], by simpa using hl, hpay⟩
      · obtain ⟨ext, he⟩ := commitLoop_appends Model.StateMgr.commitKeys s k
        refine ⟨ext, ?_, hpay⟩
        rw [hst]
        simp only [he, hl, Option.map_some]
    | _ => simp [Op.isCommit] at hcm

/-! ### the rule before b0f244e (`deep = false`): a copy of a container keeps the element references -/

/-- set an object array holding one array → commit → `get_history(key, 0)` → the caller writes into the element it
    finds in the returned container.  Cells: 0 the caller's array, 1 its container, 2 the stored container, 3 the
    committed container, 4 the returned container; under the old rule all four containers refer to cell 0. -/
def witness : List Op :=
  [.setCurrent "blobs" (.freshObjs [.fresh [3, 4]]) true, .commit false, .getHistory "blobs" (some 0) false,
   .scribble 0 [-9, -9]]

/-- Under the shallow rule the write is visible in the committed batch (and in `_current`): the accessor handed out an
    array that IS internal state. -/
theorem C17N_old_shallow_copy_aliases :
    lookup "blobs" (observe false (run false init witness)).history = some [PVal.objs [P1.arr [-9, -9]]] ∧
    lookup "blobs" (observe false (run false init (witness.take 3))).history = some [PVal.objs [P1.arr [3, 4]]] ∧
    kids (run false init witness).heap 4 = [0] ∧ kids (run false init witness).heap 3 = [0] := by decide +kernel

/-- Under the deep rule the same calls leave everything as it was: the element of the returned container (cell 7) is
    cell 6, a new array; the committed container (cell 5) refers to its own copy (cell 4), the stored one (3) to cell 2. -/
theorem C17N_deep_copy_protects_witness :
    lookup "blobs" (observe true (run true init (witness.take 3 ++ [.scribble 6 [-9, -9], .scribble 0 [-9, -9]]))).history
      = some [PVal.objs [P1.arr [3, 4]]] ∧
    lookup "blobs" (observe true (run true init (witness.take 3 ++ [.scribble 6 [-9, -9], .scribble 0 [-9, -9]]))).current
      = some (PVal.objs [P1.arr [3, 4]]) ∧
    kids (run true init (witness.take 3)).heap 7 = [6] ∧ kids (run true init (witness.take 3)).heap 5 = [4] ∧
    kids (run true init (witness.take 3)).heap 3 = [2] := by decide +kernel

theorem run_witness3 : run true init (witness.take 3) =
    { current := Model.StateMgr.insert "blobs" (.ref 3) init.current
      history := Model.StateMgr.adjust "blobs" (· ++ [.ref 5]) init.history
      cache := none
      heap := [⟨.data [3, 4], .usr⟩, ⟨.objs [.ref 0], .usr⟩, ⟨.data [3, 4], .lib⟩, ⟨.objs [.ref 2], .lib⟩,
               ⟨.data [3, 4], .lib⟩, ⟨.objs [.ref 4], .lib⟩, ⟨.data [3, 4], .usr⟩, ⟨.objs [.ref 6], .usr⟩]
      imported := [] } := by decide +kernel

/-- the general theorems apply to that run: their hypotheses are met, the writes are legal caller actions, and a write
    into a library cell is not a possible caller action -/
example : observe true (step true (run true init (witness.take 3)) (.scribble 6 [-9, -9])).1 =
    observe true (run true init (witness.take 3)) :=
  C17N_read_indep_of_scribble _ 6 [-9, -9] (C17N_reachable_inv _) (by rw [run_witness3])
example : (step true (run true init (witness.take 3)) (.scribble 6 [-9, -9])).2 = .unit := by rw [run_witness3]; decide +kernel
example : (step true (run true init (witness.take 3)) (.scribbleElems 7 0)).2 = .unit := by rw [run_witness3]; decide +kernel
example : (step true (run true init (witness.take 3)) (.scribble 4 [-9, -9])).2 = .err .illegal := by rw [run_witness3]; decide +kernel
example : (run true init (witness.take 3)).imported = [] := by rw [run_witness3]
example : (step true (run true init (witness.take 3)) (.getHistory "blobs" none true)).2.addrs = [9] ∧
    kids (step true (run true init (witness.take 3)) (.getHistory "blobs" none true)).1.heap 9 = [8] := by rw [run_witness3]; decide +kernel

end Props.C17N
