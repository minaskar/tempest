import TempestVerif.Gen.RngGraph
import TempestVerif.Gen.Rng
/-
  C09, call-graph level — obligations decided on `Gen/RngGraph.lean`, the over-approximated call graph of the package with
  the RNG role of every function, regenerated from /repo's source on every run (translate/g3_graph.py).

  The reachable sets are CERTIFICATES: the translator computes them, Lean checks that each is closed under `edges` and
  contains its roots — any closed superset of the roots contains everything reachable, so "the certificate meets no seeding
  function" implies "nothing reachable seeds".
-/
namespace Props.C09
open Gen.RngGraph

def closedUnderEdges (set : List Nat) : Bool :=
  set.all fun i => match edges[i]? with
    | some cs => cs.all fun c => set.contains c
    | none => false

def covers (roots set : List Nat) : Bool := roots.all fun r => set.contains r

def meets (set roles : List Nat) : List Nat := set.filter fun i => roles.contains i

def nameOf (i : Nat) : String := (funcNames[i]?).getD "?"

def anyRng : List Nat := seedFuncs ++ restoreFuncs ++ globalDrawFuncs ++ attrDrawFuncs ++ privateCtorFuncs

/-! ### the closure test in one pass

  `closedUnderEdges` does two list walks per edge; the kernel evaluates the test an order of magnitude faster when
  membership is read off a bit mask and `edges` is walked once (`closedUnderEdges_of_mask`: this test implies the other). -/

def maskOf (set : List Nat) : Nat := set.foldl (fun m i => m ||| 1 <<< i) 0

theorem testBit_foldl_or (set : List Nat) (m c : Nat) :
    (set.foldl (fun m i => m ||| 1 <<< i) m).testBit c = (m.testBit c || set.contains c) := by
  induction set generalizing m with
  | nil => exact (Bool.or_false _).symm
  | cons i set ih =>
    rw [List.foldl_cons, ih, Nat.testBit_or, Nat.one_shiftLeft, Nat.testBit_two_pow, List.contains_cons, Bool.or_assoc]
    exact congrArg (fun b => m.testBit c || (b || set.contains c)) (decide_eq_decide.mpr eq_comm)

theorem testBit_maskOf (set : List Nat) (c : Nat) : (maskOf set).testBit c = set.contains c :=
  (testBit_foldl_or set 0 c).trans (by rw [Nat.zero_testBit]; rfl)

/-- one pass over the adjacency lists `es` of the functions `k, k + 1, …`: every function in the mask has all its callees in
    the mask -/
def closedFrom (m : Nat) : List (List Nat) → Nat → Bool
  | [], _ => true
  | cs :: es, k => (!m.testBit k || cs.all fun c => m.testBit c) && closedFrom m es (k + 1)

theorem closedFrom_get {m : Nat} {es : List (List Nat)} {k : Nat} (h : closedFrom m es k = true) {j : Nat} {cs : List Nat}
    (hj : es[j]? = some cs) (hm : m.testBit (k + j) = true) : (cs.all fun c => m.testBit c) = true := by
  induction es generalizing k j with
  | nil => cases hj
  | cons c0 es ih =>
    obtain ⟨h0, h1⟩ := Bool.and_eq_true_iff.mp h
    cases j with
    | zero =>
      cases hj
      rcases Bool.or_eq_true_iff.mp h0 with h0 | h0
      · rw [Nat.add_zero] at hm; rw [hm] at h0; cases h0
      · exact h0
    | succ j => exact ih h1 hj (by rw [Nat.add_right_comm]; exact hm)

theorem closedUnderEdges_of_mask (set : List Nat) (hlt : (set.all fun i => decide (i < edges.length)) = true)
    (h : closedFrom (maskOf set) edges 0 = true) : closedUnderEdges set = true := by
  refine List.all_eq_true.mpr fun i hi => ?_
  have hi' : i < edges.length := of_decide_eq_true (List.all_eq_true.mp hlt i hi)
  rw [List.getElem?_eq_getElem hi']
  have := closedFrom_get h (List.getElem?_eq_getElem hi')
    (by rw [Nat.zero_add, testBit_maskOf]; exact List.contains_iff_mem.mpr hi)
  simp only [testBit_maskOf] at this
  exact this

/-- the graph is complete with respect to the effect table and has no construct it cannot follow -/
theorem C09_graph_wellformed :
    edges.length = funcNames.length ∧ orphanSites = [] ∧ dynamicFeatures = [] ∧
    rootsMissingIteration = [] ∧ rootsMissingCtor = [] ∧ rootsMissingReadSide = [] ∧ rootsMissingCluster = [] ∧
    rootsMissingSave = [] := by decide +kernel

/-- **One sampler iteration reaches no seeding and no restore of the process-wide stream** other than the parameter seed of
    `systematic_resample` (which no call inside the package passes: `C09_no_internal_param_seed`).  Ties the hypothesis
    `∀ d, SeedFree (iter d)` of the run-level theorems to the real `execute_iteration`. -/
theorem C09_iteration_reaches_no_seeding :
    rootsIteration ≠ [] ∧ covers rootsIteration reachIteration = true ∧ closedUnderEdges reachIteration = true ∧
    (meets reachIteration seedFuncs).all (fun i => some i == systId) = true ∧
    meets reachIteration restoreFuncs = [] ∧
    Gen.Rng.paramSeedCallSites = [] :=
  -- here and below: the closure conjunct goes through the bit mask, the last `decide` settles every conjunct after it
  ⟨by decide +kernel, by decide +kernel,
    closedUnderEdges_of_mask reachIteration (by decide +kernel) (by decide +kernel), by decide +kernel⟩

/-- constructing a sampler touches no random source at all: no seeding, no draw, no generator is built -/
theorem C09_construction_uses_no_rng :
    rootsCtor ≠ [] ∧ covers rootsCtor reachCtor = true ∧ closedUnderEdges reachCtor = true ∧
    meets reachCtor anyRng = [] :=
  ⟨by decide +kernel, by decide +kernel,
    closedUnderEdges_of_mask reachCtor (by decide +kernel) (by decide +kernel), by decide +kernel⟩

/-- posterior / evidence / results reach no seeding but the (never passed) parameter seed of `systematic_resample` -/
theorem C09_read_side_reaches_no_seeding :
    rootsReadSide ≠ [] ∧ covers rootsReadSide reachReadSide = true ∧ closedUnderEdges reachReadSide = true ∧
    (meets reachReadSide seedFuncs).all (fun i => some i == systId) = true ∧
    meets reachReadSide restoreFuncs = [] :=
  ⟨by decide +kernel, by decide +kernel,
    closedUnderEdges_of_mask reachReadSide (by decide +kernel) (by decide +kernel), by decide +kernel⟩

/-- **A clustering fit / predict reaches no process-wide draw and no seeding**; its only random source is the attribute
    generator of `GaussianMixture`, and every `GaussianMixture(…)` the package builds is given a literal `random_state`,
    i.e. a private generator (`Model.RngRun.gmmFit (some 42)`, `C09_hgmm_fit_global_untouched`) -/
theorem C09_cluster_fit_reaches_no_global_rng :
    rootsCluster ≠ [] ∧ covers rootsCluster reachCluster = true ∧ closedUnderEdges reachCluster = true ∧
    meets reachCluster (seedFuncs ++ restoreFuncs ++ globalDrawFuncs) = [] ∧
    gmmInstantiations ≠ [] ∧ gmmInstantiations.all (fun p => p.2 == "literal") = true :=
  ⟨by decide +kernel, by decide +kernel,
    closedUnderEdges_of_mask reachCluster (by decide +kernel) (by decide +kernel), by decide +kernel⟩

/-- writing a checkpoint uses no random source -/
theorem C09_save_uses_no_rng :
    rootsSave ≠ [] ∧ covers rootsSave reachSave = true ∧ closedUnderEdges reachSave = true ∧
    meets reachSave anyRng = [] :=
  ⟨by decide +kernel, by decide +kernel,
    closedUnderEdges_of_mask reachSave (by decide +kernel) (by decide +kernel), by decide +kernel⟩

/-- **Nothing that may draw runs before the seeding of a fresh run**: everything `run_sampling` can call on the fresh path
    before `_initialize_fresh` has seeded reaches no random source -/
theorem C09_nothing_draws_before_seeding :
    ∃ r, preSeedRoots = some r ∧ covers r reachPreSeed = true ∧ closedUnderEdges reachPreSeed = true ∧
      meets reachPreSeed anyRng = [] :=
  ⟨_, rfl, by decide +kernel,
    closedUnderEdges_of_mask reachPreSeed (by decide +kernel) (by decide +kernel), by decide +kernel⟩

/-- the functions that seed the process-wide stream are exactly the fresh-run initialisation and `systematic_resample`
    (parameter); the only function that restores it to a stored position is the checkpoint load -/
theorem C09_seeding_functions_exact :
    (∀ n ∈ seedFuncs.map nameOf, n ∈ ["SamplerCore._initialize_fresh", "systematic_resample"]) ∧
    (∀ e ∈ ["SamplerCore._initialize_fresh", "systematic_resample"], e ∈ seedFuncs.map nameOf) ∧
    restoreFuncs.map nameOf = ["SamplerCore.load_sampler_state"] := by decide +kernel

/-- … and the seeding / restoring entry points are mentioned only where documented: `_initialize_fresh` by `run_sampling`,
    `load_sampler_state` by the resume path and the public `load_state`, `run_sampling` by `Sampler.run` -/
theorem C09_seeding_entry_points_referrers :
    referrersInitFresh = ["SamplerCore.run_sampling"] ∧
    referrersLoadState = ["Sampler.load_state", "SamplerCore._initialize_from_resume"] ∧
    referrersRunSampling = ["Sampler.run"] := by decide +kernel

/-- **`random_state` plumbing**: `Sampler.__init__` hands its `random_state` argument unchanged to `SamplerConfig`, which
    declares the field and never rewrites it; `SamplerCore` keeps that configuration object (it is what `_initialize_fresh`
    reads); `save_sampler_state` stores `config.random_state` and the stream position `np.random.get_state()`; the
    `random_state` property reads the configuration back -/
theorem C09_random_state_plumbing :
    ctor_passes_random_state = 1 ∧ config_field_random_state = 1 ∧ config_never_rewrites_seed = 1 ∧
    core_stores_config = 1 ∧ save_stores_config_seed = 1 ∧ sampler_random_state_reads_config = 1 ∧
    save_stores_rng_state = 1 := by decide +kernel

/-- non-vacuity: the iteration certificate really contains the drawing functions of the kernels and the resampler -/
example : (meets reachIteration globalDrawFuncs).length ≥ 6 := by decide +kernel

end Props.C09
