import TempestVerif.Lemmas.RecSM
import TempestVerif.Lemmas.Records
/-
  C07 (clause audit) — coherence of every stored / returned record on the StateManager-level model
  `Model.RecSM`: per-key histories, `None` slots, the `have_blobs` gates, out-of-cube proposals replaced by
  the walker's own position, `execute_iteration`'s return value, `compute_posterior`, `results()`, checkpoints.

  Coherence is stated array-wise (`x = map T u`, `logl = map (fst ∘ Lk) x`, `blobs = map (snd ∘ Lk) x`): every
  movement primitive is natural in the element type (`gather?_map`, `maskSet_map`, `scatterFrom_map`,
  `List.map_flatten`), which is exactly "whole records move, never single fields"; `C07_sm_rowwise_current` and
  `C07_sm_rowwise_history` restate the invariant row by row, in the words of the property.
-/
namespace Props.C07SM
-- selective: `Model.Records.St`, `step`, `run` would clash with those of `Model.RecSM`
open Model.Records (gather? maskSet scatterFrom gather?_get gather?_length gather?_map gather?_mem maskSet_get maskSet_map
  maskSet_mem takes scatterFrom_get scatterFrom_map scatterFrom_mem scatterFrom_forall srcOf)
open Model.RecSM

variable {U X L B W α β : Type}

/-! ### coherence of the arrays of one record set, of the current slots, of the per-key history -/

section coh
variable (T : U → X) (Lk : X → L × B) (inCube : U → Prop) (cfg : Cfg)

/-- what the blobs slot must hold beside the physical coordinates `x` -/
def blobsOf (x : List X) : Option (List B) :=
  if cfg.lkBlobs then some (x.map fun x => (Lk x).2) else none

def CohArr (u : List U) (x : List X) (l : List L) (b : Option (List B)) : Prop :=
  x = u.map T ∧ l = x.map (fun x => (Lk x).1) ∧ (∀ v ∈ u, inCube v) ∧ b = blobsOf Lk cfg x

def CurCoh (c : Cur U X L B) : Prop :=
  ∃ u x l, c.u = some u ∧ c.x = some x ∧ c.l = some l ∧ CohArr T Lk inCube cfg u x l c.b

def HistInv (h : Hist U X L B) : Prop :=
  h.x = h.u.map (List.map T) ∧ h.l = h.x.map (List.map fun x => (Lk x).1) ∧
  (∀ bt ∈ h.u, ∀ v ∈ bt, inCube v) ∧
  h.b = if cfg.lkBlobs then h.x.map (List.map fun x => (Lk x).2) else []

/-- either nothing has happened yet (`StateManager.__init__`), or the current slots are coherent; the history always is -/
def Inv (s : St U X L B) : Prop :=
  (s = init ∨ CurCoh T Lk inCube cfg s.cur) ∧ HistInv T Lk inCube cfg s.hist

/-- the blob gate is the one of the code as it is (declared OR present); the pre-9130321 gate (declared only) is
    sound exactly when a blob-returning likelihood comes with a declaration -/
def GateOk : Prop := cfg.stateGate = true ∨ (cfg.lkBlobs = true → cfg.haveBlobs = true)

def Live (s : St U X L B) : Prop := CurCoh T Lk inCube cfg s.cur ∧ HistInv T Lk inCube cfg s.hist

theorem Live.inv {s : St U X L B} (h : Live T Lk inCube cfg s) : Inv T Lk inCube cfg s := ⟨Or.inr h.1, h.2⟩

def RunCoh (r : Runner U X L B) : Prop := CohArr T Lk inCube cfg r.u r.x r.l r.b

theorem C07_sm_init : Inv T Lk inCube cfg (init : St U X L B) :=
  ⟨Or.inl rfl, rfl, rfl, fun _ h => (List.not_mem_nil h).elim, by cases cfg.lkBlobs <;> rfl⟩

section
variable {T Lk inCube cfg}

variable (Lk cfg) in
/-- the blobs slot is the same function of the coordinates everywhere: the likelihood's blobs, or `None`.  Under either, a
    movement of the slot is the slot of the moved coordinates by the movement's `_map` lemma. -/
theorem blobsOf_cases :
    (cfg.lkBlobs = true ∧ blobsOf (X := X) Lk cfg = fun x => some (x.map fun x => (Lk x).2)) ∨
    (cfg.lkBlobs = false ∧ blobsOf (X := X) Lk cfg = fun _ => none) := by
  unfold blobsOf
  cases cfg.lkBlobs
  · exact .inr ⟨rfl, rfl⟩
  · exact .inl ⟨rfl, rfl⟩

theorem blobsOf_eq_some {x : List X} {b : List B} (h : blobsOf Lk cfg x = some b) :
    cfg.lkBlobs = true ∧ b = x.map fun x => (Lk x).2 := by
  obtain ⟨hk, e⟩ | ⟨-, e⟩ := blobsOf_cases Lk cfg <;> rw [e] at h
  · exact ⟨hk, (Option.some.inj h).symm⟩
  · cases h

theorem blobsOf_gather {x x' : List X} {idx : List Nat} (hx : gather? x idx = some x') :
    (blobsOf Lk cfg x).bind (gather? · idx) = blobsOf Lk cfg x' := by
  obtain ⟨-, e⟩ | ⟨-, e⟩ := blobsOf_cases Lk cfg <;> rw [e]
  · exact (gather?_map _ x idx).trans (congrArg _ hx)
  · rfl

theorem gate_of_coh (hg : GateOk cfg) {x : List X} (hk : cfg.lkBlobs = true) :
    cfg.gate (blobsOf Lk cfg x) = true := by
  obtain ⟨-, e⟩ | ⟨hf, -⟩ := blobsOf_cases Lk cfg
  · unfold Cfg.gate
    rw [e]
    rcases hg with h | h
    · rw [h]; exact Bool.or_true _
    · rw [h hk]; rfl
  · cases hk.symm.trans hf

theorem blobsOf_of_gate_false (hg : GateOk cfg) {x : List X} (h : cfg.gate (blobsOf Lk cfg x) = false) (y : List X) :
    blobsOf Lk cfg y = none :=
  if_neg fun hk => Bool.false_ne_true (h.symm.trans (gate_of_coh hg hk))

/-! a coherent array set stays coherent when ONE movement is applied to all its arrays -/

theorem CohArr.gather {u : List U} {x : List X} {l : List L} {b : Option (List B)} (h : CohArr T Lk inCube cfg u x l b)
    {idx : List Nat} {u' : List U} {x' : List X} {l' : List L} (hu : gather? u idx = some u')
    (hx : gather? x idx = some x') (hl : gather? l idx = some l') :
    CohArr T Lk inCube cfg u' x' l' (b.bind (gather? · idx)) := by
  obtain ⟨rfl, rfl, hc, rfl⟩ := h
  rw [gather?_map, hu] at hx
  cases hx
  rw [gather?_map, gather?_map, hu] at hl
  cases hl
  exact ⟨rfl, rfl, fun v hv => hc v (gather?_mem hu v hv), blobsOf_gather ((gather?_map T u idx).trans (congrArg _ hu))⟩

theorem CohArr.scatterFrom {u : List U} {x : List X} {l : List L} {b : Option (List B)}
    (h : CohArr T Lk inCube cfg u x l b) (tgt src : List Nat) :
    CohArr T Lk inCube cfg (scatterFrom u tgt src) (scatterFrom x tgt src) (scatterFrom l tgt src)
      (b.map (scatterFrom · tgt src)) := by
  obtain ⟨rfl, rfl, hc, rfl⟩ := h
  refine ⟨scatterFrom_map T u tgt src, scatterFrom_map _ _ tgt src, fun v hv => hc v (scatterFrom_mem _ _ _ v hv), ?_⟩
  obtain ⟨-, e⟩ | ⟨-, e⟩ := blobsOf_cases Lk cfg <;> rw [e]
  · exact congrArg some (scatterFrom_map _ _ tgt src)
  · rfl

theorem CohArr.maskSet {u u' : List U} {x x' : List X} {l l' : List L} {b b' : Option (List B)}
    (h : CohArr T Lk inCube cfg u x l b) (h' : CohArr T Lk inCube cfg u' x' l' b') (m : List Bool) :
    CohArr T Lk inCube cfg (maskSet u u' m) (maskSet x x' m) (maskSet l l' m)
      (b.bind fun c => b'.map fun c' => maskSet c c' m) := by
  obtain ⟨rfl, rfl, hc, rfl⟩ := h
  obtain ⟨rfl, rfl, hc', rfl⟩ := h'
  refine ⟨maskSet_map T u u' m, maskSet_map _ _ _ m, fun v hv => (maskSet_mem _ _ _ v hv).elim (hc v) (hc' v), ?_⟩
  obtain ⟨-, e⟩ | ⟨-, e⟩ := blobsOf_cases Lk cfg <;> rw [e]
  · exact congrArg some (maskSet_map _ _ _ m)
  · rfl

theorem histInv_append {h : Hist U X L B} (hh : HistInv T Lk inCube cfg h) {u : List U} {x : List X} {l : List L}
    {b : Option (List B)} (hc : CohArr T Lk inCube cfg u x l b) :
    HistInv T Lk inCube cfg ⟨h.u ++ [u], h.x ++ [x], h.l ++ [l], appendSome h.b b⟩ := by
  obtain ⟨hx, hl, hcube, hb⟩ := hh
  obtain ⟨rfl, rfl, hcu, rfl⟩ := hc
  refine ⟨by rw [hx, List.map_append]; rfl, by rw [hl, List.map_append]; rfl, fun bt hbt => ?_, ?_⟩
  · rcases List.mem_append.mp hbt with h | h
    · exact hcube bt h
    · cases List.mem_singleton.mp h; exact hcu
  · rw [hb]
    obtain ⟨hk, e⟩ | ⟨hk, e⟩ := blobsOf_cases Lk cfg <;> rw [e, hk]
    · show List.map _ h.x ++ [_] = List.map _ (h.x ++ [_])
      rw [List.map_append]; rfl
    · rfl

theorem commit_live {s : St U X L B} (hs : Live T Lk inCube cfg s) : Live T Lk inCube cfg (commit s) := by
  obtain ⟨u, x, l, h1, h2, h3, hco⟩ := hs.1
  refine ⟨hs.1, ?_⟩
  unfold commit
  rw [h1, h2, h3]
  exact histInv_append hs.2 hco

theorem flat_coherent {h : Hist U X L B} (hh : HistInv T Lk inCube cfg h) {u : List U} (hu : flat? h.u = some u) :
    ∃ x l, flat? h.x = some x ∧ flat? h.l = some l ∧ CohArr T Lk inCube cfg u x l (flat? h.b) := by
  obtain ⟨hx, hl, hcube, hb⟩ := hh
  have fx : flat? h.x = some (u.map T) := by rw [hx, flat?_map, hu]; rfl
  refine ⟨_, _, fx, by rw [hl, flat?_map, fx]; rfl, rfl, rfl, fun v hv => ?_, ?_⟩
  · obtain ⟨bt, hbt, hvb⟩ := flat?_mem hu v hv
    exact hcube bt hbt v hvb
  · rw [hb]
    obtain ⟨hk, e⟩ | ⟨hk, e⟩ := blobsOf_cases Lk cfg <;> rw [e, hk]
    · exact (flat?_map _ _).trans (congrArg _ fx)
    · rfl

/-- a state whose history holds a batch is past `__init__`: with the gate closed there are no blobs anywhere -/
theorem Inv.no_blobs_of_gate_false (hg : GateOk cfg) {s : St U X L B} (hs : Inv T Lk inCube cfg s) {u : List U}
    (hu : flat? s.hist.u = some u) (hgt : cfg.gate s.cur.b = false) : s.cur.b = none ∧ ∀ y, blobsOf Lk cfg y = none := by
  rcases hs.1 with rfl | ⟨_, x0, _, -, -, -, -, -, -, e0⟩
  · cases hu
  · rw [e0] at hgt ⊢
    exact ⟨blobsOf_of_gate_false hg hgt x0, blobsOf_of_gate_false hg hgt⟩

theorem resample_inv (hg : GateOk cfg) {s s' : St U X L B} (idx : List Nat) (hs : Inv T Lk inCube cfg s)
    (h : resample cfg idx s = some s') : Live T Lk inCube cfg s' := by
  obtain ⟨pu, px, pl, u', x', l', hpu, hpx, hpl, hu', hx', hl', hh, eu, ex, el, hb⟩ := resample_eq_some h
  obtain ⟨px', pl', fx, fl, hpool⟩ := flat_coherent hs.2 hpu
  cases hpx.symm.trans fx
  cases hpl.symm.trans fl
  have hco := hpool.gather hu' hx' hl'
  refine ⟨⟨u', x', l', eu, ex, el, hco.1, hco.2.1, hco.2.2.1, ?_⟩, hh ▸ hs.2⟩
  rcases hb with ⟨-, pb, b', hpb, hb', eb⟩ | ⟨hgt, eb⟩
  · rw [eb, ← hco.2.2.2, hpb]
    exact hb'.symm
  · obtain ⟨e0, hn⟩ := hs.no_blobs_of_gate_false hg hpu hgt
    rw [eb, e0, hn x']

variable (T Lk inCube cfg) in
theorem build_coh {us : List U} (hin : ∀ v ∈ us, inCube v) :
    CohArr T Lk inCube cfg us (us.map T) (logLike cfg Lk (us.map T)).1 (logLike cfg Lk (us.map T)).2 :=
  ⟨rfl, rfl, hin, rfl⟩

theorem warmupKept_inv (hg : GateOk cfg) (isInf : L → Bool) {s s' : St U X L B} (us : List U) (picks : List Nat)
    (hdraw : ∀ v ∈ us, inCube v) (hs : Inv T Lk inCube cfg s)
    (h : warmupKept cfg T Lk isInf us picks s = some s') : Live T Lk inCube cfg s' := by
  obtain ⟨ll, ii, rfl, rfl, -, hh, eu, ex, el, eb1, eb0⟩ := warmupKept_eq_some h
  have hco := (build_coh T Lk inCube cfg hdraw).scatterFrom (infIdx isInf (logLike cfg Lk (us.map T)).1) picks
  refine ⟨⟨_, _, _, eu, ex, el, hco.1, hco.2.1, hco.2.2.1, ?_⟩, hh ▸ hs.2⟩
  rw [← hco.2.2.2]
  cases hb : (logLike cfg Lk (us.map T)).2 with
  | none => exact (eb0 (.inl hb)).trans hb
  | some b =>
    refine eb1 b hb ?_
    exact gate_of_coh hg (blobsOf_eq_some hb).1

variable (T Lk inCube cfg) in
theorem warmupR_inv (hg : GateOk cfg) (isInf : L → Bool) {s s' : St U X L B} (batches : List (List U)) (picks : List Nat)
    (hdraw : ∀ b ∈ batches, ∀ v ∈ b, inCube v) (hs : Inv T Lk inCube cfg s)
    (h : warmupR cfg T Lk isInf batches picks s = some s') : Live T Lk inCube cfg s' := by
  obtain ⟨kept, hm, -, h⟩ := warmupR_eq_some h
  exact warmupKept_inv hg isInf kept picks (hdraw kept hm) hs h

/-- every point `prior_transform` / `log_likelihood` are evaluated at during one MCMC pass lies in the cube -/
theorem evaluated_inCube {fold : U → U} {chk : U → Bool} (hfold : ∀ p, chk (fold p) = true → inCube (fold p))
    (raw u : List U) (hu : ∀ v ∈ u, inCube v) :
    ∀ v ∈ substitute (raw.map fold) ((raw.map fold).map chk) u, inCube v := by
  intro v hv
  rcases substitute_mem _ _ _ v hv with ⟨h1, h2⟩ | h
  · obtain ⟨a, -, rfl⟩ := List.mem_map.mp h1
    exact hfold a h2
  · exact hu v h

theorem mcmcStepR_inv (negInf : L → Bool) (fold : U → U) (chk : U → Bool) (hfold : ∀ p, chk (fold p) = true → inCube (fold p))
    {r r' : Runner U X L B} (st : Step U) (hr : RunCoh T Lk inCube cfg r)
    (h : mcmcStepR cfg T Lk negInf fold chk r st = some r') : RunCoh T Lk inCube cfg r' := by
  obtain ⟨u', ll, m, mask, rfl, rfl, -, -, eu, ex, el, eb⟩ := mcmcStepR_eq_some h
  have hprop := build_coh T Lk inCube cfg (evaluated_inCube hfold st.raw r.u hr.2.2.1)
  unfold RunCoh
  rw [eu, ex, el, eb]
  exact CohArr.maskSet hr hprop mask

theorem mutateR_inv (hg : GateOk cfg) (negInf : L → Bool) (fold : U → U) (chk : U → Bool)
    (hfold : ∀ p, chk (fold p) = true → inCube (fold p)) (sts : List (Step U)) {s s' : St U X L B}
    (hs : Inv T Lk inCube cfg s) (h : mutateR cfg T Lk negInf fold chk sts s = some s') : Live T Lk inCube cfg s' := by
  obtain ⟨u, x, l, r, e1, e2, e3, hrun, hh, eu, ex, el, hb⟩ := mutateR_eq_some h
  rcases hs.1 with rfl | ⟨u0, x0, l0, f1, f2, f3, hco⟩
  · cases e1
  cases e1.symm.trans f1
  cases e2.symm.trans f2
  cases e3.symm.trans f3
  -- the runner starts from the current blobs in either position of the gate: when it is closed there are none
  have hb0 : (if cfg.gate s.cur.b = true then s.cur.b else none) = s.cur.b := by
    split
    · rfl
    · rename_i hgt
      rw [hco.2.2.2] at hgt ⊢
      exact (blobsOf_of_gate_false hg (Bool.eq_false_iff.mpr hgt) x).symm
  rw [hb0] at hrun
  have hr : RunCoh T Lk inCube cfg r := mcmcStepsR_induction _ (fun _ st _ => mcmcStepR_inv negInf fold chk hfold st)
    (r := ⟨u, x, l, s.cur.b⟩) hco hrun
  refine ⟨⟨r.u, r.x, r.l, eu, ex, el, hr.1, hr.2.1, hr.2.2.1, ?_⟩, hh ▸ hs.2⟩
  rcases hb with ⟨-, b, hrb, eb⟩ | ⟨hgt, eb⟩
  · rw [eb, ← hrb]; exact hr.2.2.2
  · rw [eb, hco.2.2.2]
    rw [hco.2.2.2] at hgt
    rw [blobsOf_of_gate_false hg hgt x, blobsOf_of_gate_false hg hgt r.x]

end

/-- `commit_current_to_history` appends the whole current record set: all keys or none -/
theorem commit_inv {s : St U X L B} (hs : Inv T Lk inCube cfg s) : Inv T Lk inCube cfg (commit s) := by
  rcases hs.1 with rfl | hc
  · exact C07_sm_init T Lk inCube cfg
  · exact (commit_live ⟨hc, hs.2⟩).inv

/-- the hypotheses about what is on the tape of one iteration: the prior draws lie in the cube (`np.random.rand`) -/
def TapeOk (t : TapeR U) : Prop := t.warm = true → ∀ b ∈ t.draws, ∀ v ∈ b, inCube v

/-- C07, "at every step boundary of an iteration": the state after `resampler.run`, after `mutator.run` and after the
    commit are all coherent (current set and every committed batch) -/
theorem C07_sm_step_boundaries (hg : GateOk cfg) (isInf : L → Bool) (fold : U → U) (chk : U → Bool)
    (hfold : ∀ p, chk (fold p) = true → inCube (fold p)) {s : St U X L B} {t : TapeR U}
    (ht : TapeOk inCube t) (hs : Inv T Lk inCube cfg s) {r : St U X L B × St U X L B × St U X L B}
    (h : iterateStatesR cfg T Lk isInf fold chk s t = some r) :
    Inv T Lk inCube cfg r.1 ∧ Live T Lk inCube cfg r.2.1 ∧ Live T Lk inCube cfg r.2.2 := by
  rcases iterateStatesR_eq_some h with ⟨hw, e1, h2, e3⟩ | ⟨h1, h2, e3⟩
  · have l2 := warmupR_inv T Lk inCube cfg hg isInf t.draws t.picks (ht hw) hs h2
    exact ⟨e1 ▸ hs, l2, e3 ▸ commit_live l2⟩
  · have l1 := resample_inv hg t.idx hs h1
    have l2 := mutateR_inv hg isInf fold chk hfold t.steps l1.inv h2
    exact ⟨l1.inv, l2, e3 ▸ commit_live l2⟩

/-- `Sampler.sample()`: the new state is coherent and the dictionary handed to the user is its current record set -/
theorem C07_sm_sample (hg : GateOk cfg) (isInf : L → Bool) (fold : U → U) (chk : U → Bool)
    (hfold : ∀ p, chk (fold p) = true → inCube (fold p)) {s s' : St U X L B} {t : TapeR U} {ret : Cur U X L B}
    (ht : TapeOk inCube t) (hs : Inv T Lk inCube cfg s)
    (h : iterateR cfg T Lk isInf fold chk s t = some (s', ret)) :
    Live T Lk inCube cfg s' ∧ CurCoh T Lk inCube cfg ret := by
  obtain ⟨r, hr, rfl, rfl⟩ := iterateR_eq_some h
  have := (C07_sm_step_boundaries T Lk inCube cfg hg isInf fold chk hfold ht hs hr).2.2
  exact ⟨this, this.1⟩

/-- C07 over a whole run: for EVERY number of iterations and every tape, the final state is coherent and so is every
    dictionary `sample()` returned on the way -/
theorem C07_sm_run (hg : GateOk cfg) (isInf : L → Bool) (fold : U → U) (chk : U → Bool)
    (hfold : ∀ p, chk (fold p) = true → inCube (fold p)) (ts : List (TapeR U)) {s s' : St U X L B}
    {rets : List (Cur U X L B)} (hts : ∀ t ∈ ts, TapeOk inCube t) (hs : Inv T Lk inCube cfg s)
    (h : runItersR cfg T Lk isInf fold chk s ts = some (s', rets)) :
    Inv T Lk inCube cfg s' ∧ rets.length = ts.length ∧ ∀ c ∈ rets, CurCoh T Lk inCube cfg c :=
  runItersR_induction _ _ (fun t ht _ _ _ hs h =>
    (C07_sm_sample T Lk inCube cfg hg isInf fold chk hfold (hts t ht) hs h).imp_left (Live.inv T Lk inCube cfg)) hs h

theorem C07_sm_run_fresh (hg : GateOk cfg) (isInf : L → Bool) (fold : U → U) (chk : U → Bool)
    (hfold : ∀ p, chk (fold p) = true → inCube (fold p)) (ts : List (TapeR U)) {s' : St U X L B}
    {rets : List (Cur U X L B)} (hts : ∀ t ∈ ts, TapeOk inCube t)
    (h : runItersR cfg T Lk isInf fold chk init ts = some (s', rets)) :
    Inv T Lk inCube cfg s' ∧ rets.length = ts.length ∧ ∀ c ∈ rets, CurCoh T Lk inCube cfg c :=
  C07_sm_run T Lk inCube cfg hg isInf fold chk hfold ts hts (C07_sm_init T Lk inCube cfg) h

/-! ### the invariant in the words of the property: row by row -/

/-- C07 row by row, for the current particle set: all arrays have one length, the blobs array exists exactly when the
    likelihood returns blobs, and row i of x, logl, blobs is T(u_i), Lk(T(u_i)), with u_i in the cube -/
theorem C07_sm_rowwise_current {c : Cur U X L B} (h : CurCoh T Lk inCube cfg c) :
    ∃ u x l, c.u = some u ∧ c.x = some x ∧ c.l = some l ∧
      x.length = u.length ∧ l.length = u.length ∧ (∀ bs, c.b = some bs → bs.length = u.length) ∧
      (c.b.isSome = cfg.lkBlobs) ∧
      ∀ (i : Nat) (ui : U), u[i]? = some ui →
        x[i]? = some (T ui) ∧ l[i]? = some (Lk (T ui)).1 ∧ inCube ui ∧
        ∀ bs, c.b = some bs → bs[i]? = some (Lk (T ui)).2 := by
  obtain ⟨u, x, l, h1, h2, h3, rfl, rfl, hc, hb⟩ := h
  refine ⟨u, _, _, h1, h2, h3, ?_⟩
  rw [hb]
  have hsome : ∀ bs, blobsOf Lk cfg (u.map T) = some bs → bs = (u.map T).map fun x => (Lk x).2 :=
    fun bs hbs => (blobsOf_eq_some hbs).2
  have hx : (u.map T).length = u.length := List.length_map _
  refine ⟨hx, (List.length_map _).trans hx, fun bs hbs => ?_, ?_, fun i ui hui => ⟨?_, ?_, hc ui (List.mem_of_getElem? hui),
    fun bs hbs => ?_⟩⟩
  · rw [hsome bs hbs]; exact (List.length_map _).trans hx
  · obtain ⟨hk, e⟩ | ⟨hk, e⟩ := blobsOf_cases Lk cfg <;> rw [e, hk] <;> rfl
  · rw [List.getElem?_map, hui]; rfl
  · rw [List.getElem?_map, List.getElem?_map, hui]; rfl
  · rw [hsome bs hbs, List.getElem?_map, List.getElem?_map, hui]; rfl

/-- C07 row by row, for the history (what `results()` and `get_history` return): every key has the same number of
    committed batches, batch k has the same length under every key, and row i of batch k is one coherent record -/
theorem C07_sm_rowwise_history {h : Hist U X L B} (hh : HistInv T Lk inCube cfg h) :
    h.x.length = h.u.length ∧ h.l.length = h.u.length ∧ h.b.length = (if cfg.lkBlobs then h.u.length else 0) ∧
    ∀ (k : Nat) (uk : List U), h.u[k]? = some uk →
      ∃ xk lk, h.x[k]? = some xk ∧ h.l[k]? = some lk ∧
        CohArr T Lk inCube cfg uk xk lk (if cfg.lkBlobs then h.b[k]? else none) := by
  obtain ⟨hx, hl, hc, hb⟩ := hh
  have hxl : h.x.length = h.u.length := by rw [hx]; exact List.length_map _
  refine ⟨hxl, by rw [hl, List.length_map]; exact hxl, ?_, fun k uk huk => ?_⟩
  · rw [hb]; split
    · rw [List.length_map]; exact hxl
    · rfl
  · have hxk : h.x[k]? = some (uk.map T) := by rw [hx, List.getElem?_map, huk]; rfl
    refine ⟨_, _, hxk, by rw [hl, List.getElem?_map, hxk]; rfl, rfl, rfl, hc uk (List.mem_of_getElem? huk), ?_⟩
    obtain ⟨hk, e⟩ | ⟨hk, e⟩ := blobsOf_cases Lk cfg <;> rw [e, hk]
    · rw [if_pos rfl, hb, if_pos hk, List.getElem?_map, hxk]; rfl
    · rfl

/-! ### compute_posterior: every returned row is a whole pool row, hence coherent -/

def PoolCoh (w : Work U X L B W) : Prop := CohArr T Lk inCube cfg w.u w.x w.l w.b

section
variable {T Lk inCube cfg}

theorem gatherWork_coh {idx : List Nat} {w w' : Work U X L B W} (hw : PoolCoh T Lk inCube cfg w)
    (h : gatherWork idx w = some w') :
    PoolCoh T Lk inCube cfg w' ∧ w'.u.length = idx.length ∧ w'.lw.length = idx.length ∧
    ∀ (k i : Nat), idx[k]? = some i → w'.u[k]? = w.u[i]? ∧ w'.lw[k]? = w.lw[i]? := by
  obtain ⟨hu, hx, hl, hlw, hb⟩ := gatherWork_eq_some h
  have hc := hw.gather hu hx hl
  rw [hb] at hc
  exact ⟨hc, gather?_length hu, gather?_length hlw,
    fun k i hk => ⟨gather?_get hu k i hk, gather?_get hlw k i hk⟩⟩

theorem poolWork_coh (hg : GateOk cfg) {s : St U X L B} (hs : Inv T Lk inCube cfg s) (logw : List W)
    {w : Work U X L B W} (h : poolWork cfg logw s = some w) :
    PoolCoh T Lk inCube cfg w ∧ flat? s.hist.u = some w.u ∧ w.lw = logw := by
  unfold poolWork at h
  obtain ⟨u, hu, h⟩ := Option.bind_eq_some_iff.mp h
  obtain ⟨x, hx, h⟩ := Option.bind_eq_some_iff.mp h
  obtain ⟨l, hl, h⟩ := Option.bind_eq_some_iff.mp h
  obtain ⟨b?, hb?, e⟩ := Option.map_eq_some_iff.mp h
  cases e
  obtain ⟨x', l', fx, fl, hpool⟩ := flat_coherent hs.2 hu
  cases hx.symm.trans fx
  cases hl.symm.trans fl
  refine ⟨⟨hpool.1, hpool.2.1, hpool.2.2.1, ?_⟩, hu, rfl⟩
  show b? = _
  split at hb?
  · obtain ⟨pb, hpb, rfl⟩ := Option.map_eq_some_iff.mp hb?
    exact hpb.symm.trans hpool.2.2.2
  · rename_i hgt
    cases hb?
    exact ((hs.no_blobs_of_gate_false hg hu (Bool.eq_false_iff.mpr hgt)).2 x).symm

/-- row k of `w'` is, in every array, row i of `w` — for ONE i -/
def RowsFrom (w' w : Work U X L B W) : Prop :=
  w'.lw.length = w'.u.length ∧
  ∀ k, k < w'.u.length → ∃ i, i < w.u.length ∧ w'.u[k]? = w.u[i]? ∧ w'.lw[k]? = w.lw[i]?

theorem optGather_coh {idx? : Option (List Nat)} {w w' : Work U X L B W} (hw : PoolCoh T Lk inCube cfg w)
    (hlen : w.lw.length = w.u.length) (h : optGather idx? w = some w') :
    PoolCoh T Lk inCube cfg w' ∧ RowsFrom w' w := by
  cases idx? with
  | none => cases h; exact ⟨hw, hlen, fun k hk => ⟨k, hk, rfl, rfl⟩⟩
  | some idx =>
    obtain ⟨hc, hl1, hl2, hrows⟩ := gatherWork_coh hw h
    refine ⟨hc, hl2.trans hl1.symm, fun k hk => ?_⟩
    have hki : k < idx.length := hl1 ▸ hk
    obtain ⟨r1, r2⟩ := hrows k idx[k] (List.getElem?_eq_getElem hki)
    refine ⟨idx[k], ?_, r1, r2⟩
    rw [List.getElem?_eq_getElem hk] at r1
    exact (List.getElem?_eq_some_iff.mp r1.symm).1

end

theorem RowsFrom.trans {a b c : Work U X L B W} (h1 : RowsFrom a b) (h2 : RowsFrom b c) : RowsFrom a c := by
  refine ⟨h1.1, fun k hk => ?_⟩
  obtain ⟨i, hi, e1, e2⟩ := h1.2 k hk
  obtain ⟨j, hj, f1, f2⟩ := h2.2 i hi
  exact ⟨j, hj, e1.trans f1, e2.trans f2⟩

/-- C07 for `posterior()`: whatever the options and whatever index vectors trimming and resampling produce, every returned
    row is ONE row of the stored pool in x, logl, blobs and logw alike (`i` below), and it is a coherent record:
    logl and blob are the likelihood's values at the returned x, which is the transform of a cube point -/
theorem C07_sm_posterior (hg : GateOk cfg) {s : St U X L B} (hs : Inv T Lk inCube cfg s) (logw : List W)
    (trimIdx resIdx : Option (List Nat)) (rb : Bool) {p : Post X L B W}
    (hlw : ∀ u0, flat? s.hist.u = some u0 → logw.length = u0.length)
    (h : posterior cfg logw trimIdx resIdx rb s = some p) :
    ∃ u0 u', flat? s.hist.u = some u0 ∧
      CohArr T Lk inCube cfg u' p.x p.l (blobsOf Lk cfg p.x) ∧
      p.b = (if rb then blobsOf Lk cfg p.x else none) ∧ p.lw.length = u'.length ∧
      ∀ k, k < u'.length → ∃ i, i < u0.length ∧ u'[k]? = u0[i]? ∧ p.lw[k]? = logw[i]? := by
  obtain ⟨w2, hw2, rfl⟩ := Option.map_eq_some_iff.mp h
  obtain ⟨w0, h0, hw2⟩ := Option.bind_eq_some_iff.mp hw2
  obtain ⟨w1, h1, h2⟩ := Option.bind_eq_some_iff.mp hw2
  obtain ⟨c0, hu0, hlw0⟩ := poolWork_coh hg hs logw h0
  obtain ⟨c1, r1⟩ := optGather_coh c0 (hlw0 ▸ hlw _ hu0) h1
  obtain ⟨c2, r2⟩ := optGather_coh c1 r1.1 h2
  have r := r2.trans r1
  refine ⟨w0.u, w2.u, hu0, ⟨c2.1, c2.2.1, c2.2.2.1, rfl⟩, by rw [← c2.2.2.2], r.1, fun k hk => ?_⟩
  obtain ⟨i, hi, e1, e2⟩ := r.2 k hk
  exact ⟨i, hi, e1, hlw0 ▸ e2⟩

/-! ### results(), checkpoints -/

/-- what `results()` returns is the committed history itself: coherent batch by batch (`C07_sm_rowwise_history`) -/
theorem C07_sm_results {s : St U X L B} (hs : Inv T Lk inCube cfg s) : HistInv T Lk inCube cfg (results s) := hs.2

/-- saving and loading (`to_dict` → `update_from_dict` with every key present) gives back a coherent state, into whatever
    sampler it is loaded; `C07_sm_run` then applies to the resumed run, since it starts from ANY state with `Inv` -/
theorem C07_sm_resume {s : St U X L B} (s0 : St U X L B) (hs : Inv T Lk inCube cfg s) :
    Inv T Lk inCube cfg (updateFromDict s0 (toDict s)) ∧ updateFromDict s0 (toDict s) = s :=
  ⟨hs, rfl⟩

end coh

/-! ### "whole records, never individual fields": structural provenance, for ANY state (coherent or not) -/

/-- Resampler.run: row k of every array of the new current set is row `idx[k]` of that key's flat pool — the SAME pool row
    under every key (blobs included whenever the gate is open) -/
theorem C07_sm_resample_whole_rows (cfg : Cfg) {s s' : St U X L B} (idx : List Nat) (h : resample cfg idx s = some s') :
    ∃ pu px pl u' x' l', flat? s.hist.u = some pu ∧ flat? s.hist.x = some px ∧ flat? s.hist.l = some pl ∧
      s'.cur.u = some u' ∧ s'.cur.x = some x' ∧ s'.cur.l = some l' ∧ s'.hist = s.hist ∧
      (∀ (k i : Nat), idx[k]? = some i → u'[k]? = pu[i]? ∧ x'[k]? = px[i]? ∧ l'[k]? = pl[i]?) ∧
      (cfg.gate s.cur.b = true → ∃ pb b', flat? s.hist.b = some pb ∧ s'.cur.b = some b' ∧
        ∀ (k i : Nat), idx[k]? = some i → b'[k]? = pb[i]?) ∧
      (cfg.gate s.cur.b = false → s'.cur.b = s.cur.b) := by
  obtain ⟨pu, px, pl, u', x', l', hpu, hpx, hpl, hu', hx', hl', hh, eu, ex, el, hb⟩ := resample_eq_some h
  refine ⟨pu, px, pl, u', x', l', hpu, hpx, hpl, eu, ex, el, hh,
    fun k i hk => ⟨gather?_get hu' k i hk, gather?_get hx' k i hk, gather?_get hl' k i hk⟩, fun hg => ?_, fun hg => ?_⟩
  · rcases hb with ⟨-, pb, b', hpb, hb', eb⟩ | ⟨hf, -⟩
    · exact ⟨pb, b', hpb, eb, gather?_get hb'⟩
    · cases hg.symm.trans hf
  · rcases hb with ⟨ht, -⟩ | ⟨-, eb⟩
    · cases ht.symm.trans hg
    · exact eb

/-- Mutator.run at beta = 0, on the batch the redraw loop keeps: after the replacement of the −inf draws, row k of EVERY
    array is row `srcOf … k` of the freshly drawn arrays — one source row for u, x, logl (and blobs whenever the gate is
    open), never a mixture -/
theorem C07_sm_warmup_whole_rows (cfg : Cfg) (T : U → X) (Lk : X → L × B) (isInf : L → Bool) (us : List U)
    (picks : List Nat) {s s' : St U X L B} (h : warmupKept cfg T Lk isInf us picks s = some s') :
    ∃ (src : Nat → Nat) (u' : List U) (x' : List X) (l' : List L),
      s'.cur.u = some u' ∧ s'.cur.x = some x' ∧ s'.cur.l = some l' ∧ s'.hist = s.hist ∧
      ∀ k, k < us.length →
        u'[k]? = us[src k]? ∧ x'[k]? = (us.map T)[src k]? ∧ l'[k]? = (logLike cfg Lk (us.map T)).1[src k]? ∧
        ∀ b b', cfg.gate (logLike cfg Lk (us.map T)).2 = true → (logLike cfg Lk (us.map T)).2 = some b →
          s'.cur.b = some b' → b'[k]? = b[src k]? := by
  obtain ⟨ll, ii, rfl, rfl, -, hh, eu, ex, el, eb, -⟩ := warmupKept_eq_some h
  -- every array has the length of `us`, so `srcOf us.length …` is the source row under every key
  have hx : (us.map T).length = us.length := List.length_map _
  have hl : (logLike cfg Lk (us.map T)).1.length = us.length := (List.length_map _).trans hx
  refine ⟨srcOf us.length _ picks, _, _, _, eu, ex, el, hh, fun k hk =>
    ⟨scatterFrom_get _ _ _ k hk, hx ▸ scatterFrom_get _ _ _ k (hx.symm ▸ hk), hl ▸ scatterFrom_get _ _ _ k (hl.symm ▸ hk),
      fun b b' hg hb hb' => ?_⟩⟩
  cases (eb b hb hg).symm.trans hb'
  have hbl : b.length = us.length := (blobsOf_eq_some hb).2 ▸ (List.length_map _).trans hx
  exact hbl ▸ scatterFrom_get _ _ _ k (hbl.symm ▸ hk)

/-- one MCMC pass: row k of the runner's arrays afterwards is, under EVERY key at once, either its old row k or row k of
    the proposal arrays (`u' = substitute …`, `x' = map T u'`, `(logl', blobs') = logLike x'`) -/
theorem C07_sm_mcmc_whole_rows (cfg : Cfg) (T : U → X) (Lk : X → L × B) (negInf : L → Bool) (fold : U → U) (chk : U → Bool)
    {r r' : Runner U X L B} (st : Step U) (hx : r.x.length = r.u.length) (hl : r.l.length = r.u.length)
    (hb : ∀ b, r.b = some b → b.length = r.u.length) (h : mcmcStepR cfg T Lk negInf fold chk r st = some r') :
    ∃ (u' : List U), u'.length = r.u.length ∧ ∀ k : Nat,
      (r'.u[k]? = r.u[k]? ∧ r'.x[k]? = r.x[k]? ∧ r'.l[k]? = r.l[k]? ∧
        ∀ b b', r.b = some b → r'.b = some b' → b'[k]? = b[k]?) ∨
      (r'.u[k]? = u'[k]? ∧ r'.x[k]? = (u'.map T)[k]? ∧ r'.l[k]? = (logLike cfg Lk (u'.map T)).1[k]? ∧
        ∀ b b' pb, r.b = some b → r'.b = some b' → (logLike cfg Lk (u'.map T)).2 = some pb → b'[k]? = pb[k]?) := by
  obtain ⟨u', ll, m, mask, hu', rfl, -, hraw, eu, ex, el, eb⟩ := mcmcStepR_eq_some h
  have hlen : u'.length = r.u.length := hu' ▸ substitute_length _ _ _ ((List.length_map _).trans hraw)
    ((List.length_map _).trans ((List.length_map _).trans hraw))
  refine ⟨u', hlen, fun k => ?_⟩
  -- all arrays, old and proposed, have the length of `r.u`: one `takes` bit decides row k under every key
  have hx' : (u'.map T).length = r.u.length := (List.length_map _).trans hlen
  have hl' : (logLike cfg Lk (u'.map T)).1.length = r.u.length := (List.length_map _).trans hx'
  have hbk : ∀ b b' pb, r.b = some b → r'.b = some b' → (logLike cfg Lk (u'.map T)).2 = some pb →
      b'[k]? = if takes r.u.length r.u.length mask k then pb[k]? else b[k]? := by
    intro b b' pb h0 h1 h2
    rw [eb, h0, Option.bind_some, h2] at h1
    cases h1
    have hpb : pb.length = r.u.length := (blobsOf_eq_some h2).2 ▸ (List.length_map _).trans hx'
    rw [maskSet_get, hb b h0, hpb]
  rw [eu, ex, el, maskSet_get, maskSet_get, maskSet_get, hlen, hx, hx', hl, hl']
  cases ht : takes r.u.length r.u.length mask k
  · refine .inl ⟨rfl, rfl, rfl, fun b b' h0 h1 => ?_⟩
    cases hpb : (logLike cfg Lk (u'.map T)).2 with
    | none => rw [eb, h0, Option.bind_some, hpb] at h1; cases h1
    | some pb => rw [hbk b b' pb h0 h1 hpb, ht]; rfl
  · exact .inr ⟨rfl, rfl, rfl, fun b b' pb h0 h1 h2 => by rw [hbk b b' pb h0 h1 h2, ht]; rfl⟩

/-! ### no stored particle has an infinite log-likelihood (since /repo 959029e: for EVERY tape)

  Structural: no hypothesis about `T`, `Lk`, the cube or the tape.  The warm-up keeps only a batch with a finite draw and
  overwrites every infinite row by a row picked among the finite ones; a proposal of infinite log-likelihood is never
  accepted; resampling and commits only copy stored rows. -/

def NoInf (isInf : L → Bool) (l : List L) : Prop := ∀ v ∈ l, isInf v = false

def Finite (isInf : L → Bool) (s : St U X L B) : Prop :=
  (∀ l, s.cur.l = some l → NoInf isInf l) ∧ ∀ bt ∈ s.hist.l, NoInf isInf bt

section
variable {isInf negInf : L → Bool} {cfg : Cfg} {T : U → X} {Lk : X → L × B} {fold : U → U} {chk : U → Bool}

theorem Finite.of_cur {s s' : St U X L B} (hs : Finite isInf s) (hh : s'.hist = s.hist) {l : List L}
    (hl : s'.cur.l = some l) (hn : NoInf isInf l) : Finite isInf s' :=
  ⟨fun l0 hl0 => Option.some.inj (hl.symm.trans hl0) ▸ hn, hh ▸ hs.2⟩

theorem finite_commit {s : St U X L B} (h : Finite isInf s) : Finite isInf (commit s) := by
  refine ⟨h.1, fun bt hbt => ?_⟩
  rcases mem_appendSome.mp hbt with hb | hb
  · exact h.2 bt hb
  · exact h.1 _ hb

theorem finite_resample {s s' : St U X L B} {idx : List Nat} (hs : Finite isInf s)
    (h : resample cfg idx s = some s') : Finite isInf s' := by
  obtain ⟨-, -, pl, -, -, l', -, -, hpl, -, -, hl', hh, -, -, el, -⟩ := resample_eq_some h
  refine hs.of_cur hh el fun v hv => ?_
  obtain ⟨bt, hbt, hvb⟩ := flat?_mem hpl v (gather?_mem hl' v hv)
  exact hs.2 bt hbt v hvb

theorem noInf_scatterFrom (l : List L) (picks : List Nat)
    (h : infIdx isInf l = [] ∨ (picks.length = (infIdx isInf l).length ∧ ∀ p ∈ picks, p ∈ finIdx isInf l)) :
    NoInf isInf (scatterFrom l (infIdx isInf l) picks) := by
  -- the infinite rows are exactly the targets …
  have hcover : ∀ (i : Nat) (v : L), l[i]? = some v → ¬ isInf v = false → i ∈ infIdx isInf l :=
    fun i v hv hn => infIdx_mem.mpr ⟨v, hv, (Bool.not_eq_false _).mp hn⟩
  intro v hv
  obtain ⟨k, hk⟩ := List.getElem?_of_mem hv
  rcases h with h | ⟨hlen, hfin⟩
  · rw [h] at hk hcover
    exact Classical.byContradiction fun hn => nomatch hcover k v hk hn
  · -- … and every source is a finite row
    exact scatterFrom_forall (isInf · = false) l _ picks hlen.symm
      (fun p hp => (finIdx_mem.mp (hfin p hp)).imp fun w hw => ⟨hw.1, (Bool.not_eq_true' _).mp hw.2⟩) hcover k v hk

theorem finite_mutateR {sts : List (Step U)} {s s' : St U X L B} (hs : Finite negInf s)
    (h : mutateR cfg T Lk negInf fold chk sts s = some s') : Finite negInf s' := by
  obtain ⟨u, x, l, r, -, -, e3, hrun, hh, -, -, el, -⟩ := mutateR_eq_some h
  refine hs.of_cur hh el (mcmcStepsR_induction (fun r => NoInf negInf r.l) (fun r st r' hr h v hv => ?_)
    (r := ⟨u, x, l, _⟩) (hs.1 l e3) hrun)
  -- one pass: a row of the new logl is an old row, or a proposal row that the mask let in
  obtain ⟨u', ll, m, mask, -, -, rfl, -, -, -, el', -⟩ := mcmcStepR_eq_some h
  rw [el'] at hv
  exact (maskSet_andMask_mem (fun v => !negInf v) r.l _ m v hv).elim (hr v) (Bool.not_eq_true' _).mp

end

theorem finite_init (isInf : L → Bool) : Finite isInf (init : St U X L B) :=
  ⟨fun _ h => (nomatch h), fun _ h => (List.not_mem_nil h).elim⟩

theorem finite_warmupR (isInf : L → Bool) (cfg : Cfg) (T : U → X) (Lk : X → L × B) (batches : List (List U))
    (picks : List Nat) {s s' : St U X L B} (hs : Finite isInf s) (h : warmupR cfg T Lk isInf batches picks s = some s') :
    Finite isInf s' := by
  obtain ⟨kept, -, -, h⟩ := warmupR_eq_some h
  obtain ⟨ll, ii, rfl, rfl, hp, hh, -, -, el, -, -⟩ := warmupKept_eq_some h
  exact hs.of_cur hh el (noInf_scatterFrom _ picks hp)

/-- C07 (holds since /repo 959029e): for EVERY run — any number of iterations, any tape, any user functions — no
    particle of infinite log-likelihood is ever in the current set at a step boundary, in a committed batch, or in a
    dictionary `sample()` returns.  (Before 959029e a warm-up batch without a finite draw was stored as it was:
    `C07_old_warmup_stores_inf`.) -/
theorem C07_sm_run_finite (isInf : L → Bool) (cfg : Cfg) (T : U → X) (Lk : X → L × B) (fold : U → U) (chk : U → Bool)
    (ts : List (TapeR U)) {s s' : St U X L B} {rets : List (Cur U X L B)} (hs : Finite isInf s)
    (h : runItersR cfg T Lk isInf fold chk s ts = some (s', rets)) :
    Finite isInf s' ∧ ∀ c ∈ rets, ∀ l, c.l = some l → NoInf isInf l := by
  refine (fun r => ⟨r.1, r.2.2⟩) (runItersR_induction (Finite isInf) (fun c => ∀ l, c.l = some l → NoInf isInf l)
    (fun t _ s s1 c1 hs h1 => ?_) hs h)
  obtain ⟨r, hr, rfl, rfl⟩ := iterateR_eq_some h1
  suffices f1 : Finite isInf r.2.2 from ⟨f1, f1.1⟩
  rcases iterateStatesR_eq_some hr with ⟨-, -, h2, e3⟩ | ⟨ha, hb, e3⟩
  · exact e3 ▸ finite_commit (finite_warmupR isInf cfg T Lk _ _ hs h2)
  · exact e3 ▸ finite_commit (finite_mutateR (finite_resample hs ha) hb)

/-! ### the blob gate: why /repo 9130321 was needed, and non-vacuity -/

namespace Ex
/-- a concrete sampler on natural numbers: `T u = 10 u`, `Lk x = (logl, blob)` with logl = 0 ("−inf") on multiples of 70 -/
def T : Nat → Nat := fun u => 10 * u
def Lk : Nat → Nat × Nat := fun x => (if x % 70 = 0 then 0 else x + 1, x + 2)
def isInf : Nat → Bool := fun l => l == 0
/-- fold: numbers ≥ 1000 are "wrapped" back by 1000; the bounds check accepts u < 100 -/
def fold : Nat → Nat := fun u => if 1000 ≤ u then u - 1000 else u
def chk : Nat → Bool := fun u => decide (u < 100)
def inCube : Nat → Prop := fun u => u < 100

/-- two warm-up iterations (the second first draws a batch with no finite draw — 7, 14, 21 — which is discarded and drawn
    again; the redrawn batch has one −inf draw, u = 7, replaced by a copy of row 0) and one annealing iteration
    with a wrapped proposal (1004 ↦ 4), a proposal outside the cube (500: rejected, evaluated at the walker's own
    position) and a mixed accept mask -/
def tapes : List (TapeR Nat) :=
  [ ⟨true, [[1, 2, 3]], [], [], []⟩,
    ⟨true, [[7, 14, 21], [5, 7, 6]], [0], [], []⟩,
    ⟨false, [], [], [5, 5, 0], [⟨[1004, 500, 8], [true, true, true]⟩, ⟨[9, 11, 12], [false, true, false]⟩]⟩ ]

def declared : Cfg := ⟨true, true, true⟩
def undeclared : Cfg := ⟨false, true, true⟩       -- tuple-returning likelihood, no blobs_dtype: the documented form
def undeclaredOld : Cfg := ⟨false, true, false⟩   -- … under the gate as it was before /repo 9130321
def noBlobs : Cfg := ⟨false, false, true⟩
def declaredButNone : Cfg := ⟨true, false, true⟩

/-- the run of `tapes` under `cfg` as (history u, x, blobs; the blobs slot of each dictionary `sample()` returned); `none` = it raised -/
def xb (cfg : Cfg) : Option (List (List (List Nat)) × List (Option (List Nat))) :=
  (runItersR cfg T Lk isInf fold chk init tapes).map fun r => ([r.1.hist.u, r.1.hist.x, r.1.hist.b], r.2.map (·.b))
end Ex

theorem ex_hfold : ∀ p, Ex.chk (Ex.fold p) = true → Ex.inCube (Ex.fold p) :=
  fun p h => (of_decide_eq_true h : Ex.fold p < 100)

theorem ex_tapesOk : ∀ t ∈ Ex.tapes, TapeOk Ex.inCube t :=
  fun t ht _ => (by decide : ∀ t ∈ Ex.tapes, ∀ b ∈ t.draws, ∀ v ∈ b, v < 100) t ht

/-- with the present gate the undeclared-blobs run moves blobs with their records … -/
example : Ex.xb Ex.undeclared =
    some ([[[1, 2, 3], [5, 5, 6], [4, 11, 8]], [[10, 20, 30], [50, 50, 60], [40, 110, 80]],
           [[12, 22, 32], [52, 52, 62], [42, 112, 82]]],
          [some [12, 22, 32], some [52, 52, 62], some [42, 112, 82]]) := by decide +kernel

/-- … exactly as the declared one, and without blobs nothing is stored -/
example : Ex.xb Ex.declared = Ex.xb Ex.undeclared := by decide +kernel
example : Ex.xb Ex.noBlobs =
    some ([[[1, 2, 3], [5, 5, 6], [4, 11, 8]], [[10, 20, 30], [50, 50, 60], [40, 110, 80]], []], [none, none, none]) := by
  decide +kernel
/-- a declared dtype with a likelihood that returns bare numbers raises at the first blob movement (TypeError) -/
example : Ex.xb Ex.declaredButNone = none := by decide +kernel

/-- the hypotheses of `C07_sm_run_fresh` are satisfiable: the run above meets them -/
example : ∃ s' rets, runItersR Ex.undeclared Ex.T Ex.Lk Ex.isInf Ex.fold Ex.chk init Ex.tapes = some (s', rets) ∧
    Inv Ex.T Ex.Lk Ex.inCube Ex.undeclared s' ∧ ∀ c ∈ rets, CurCoh Ex.T Ex.Lk Ex.inCube Ex.undeclared c := by
  obtain ⟨⟨s', rets⟩, h⟩ := Option.isSome_iff_exists.mp
    (by decide +kernel : (runItersR Ex.undeclared Ex.T Ex.Lk Ex.isInf Ex.fold Ex.chk init Ex.tapes).isSome = true)
  have := C07_sm_run_fresh Ex.T Ex.Lk Ex.inCube Ex.undeclared (Or.inl rfl) Ex.isInf Ex.fold Ex.chk ex_hfold
    Ex.tapes ex_tapesOk h
  exact ⟨s', rets, h, this.1, this.2.2⟩

/-- non-vacuity of `C07_sm_posterior`: trimming to rows [0,2,4,8] of the 9-row pool, then resampling rows [3,3,1] of those;
    every returned row is one pool row under x, logl, blobs and logw alike (pool rows 8, 8, 2) -/
example : ((runItersR Ex.undeclared Ex.T Ex.Lk Ex.isInf Ex.fold Ex.chk init Ex.tapes).bind fun r =>
      (posterior Ex.undeclared [100, 101, 102, 103, 104, 105, 106, 107, 108] (some [0, 2, 4, 8]) (some [3, 3, 1]) true r.1).map
        fun p => (p.x, p.l, p.b, p.lw))
    = some ([80, 80, 30], [81, 81, 31], some [82, 82, 32], [108, 108, 102]) := by decide +kernel

/-- an out-of-range index (IndexError) makes `posterior` fail instead of returning misaligned arrays -/
example : ((runItersR Ex.undeclared Ex.T Ex.Lk Ex.isInf Ex.fold Ex.chk init Ex.tapes).bind fun r =>
      (posterior Ex.undeclared [100, 101, 102, 103, 104, 105, 106, 107, 108] (some [0, 9]) none true r.1).map
        fun p => p.x) = none := by decide +kernel

/-- FINDING F29 (fixed in /repo 9130321), on the model: with the OLD gate (`have_blobs = blobs_dtype is not None`
    alone) and a tuple-returning likelihood without `blobs_dtype`, the run completes and commits blobs that are not the
    likelihood's blobs of the committed x: the −inf replacement, the resampling and the accept mask all leave the blobs
    behind.  So `GateOk` cannot be dropped from the run theorems. -/
theorem C07_old_gate_stale :
    ∃ s' rets, runItersR Ex.undeclaredOld Ex.T Ex.Lk Ex.isInf Ex.fold Ex.chk init Ex.tapes = some (s', rets) ∧
      (∀ t ∈ Ex.tapes, TapeOk Ex.inCube t) ∧
      s'.hist.x = [[10, 20, 30], [50, 50, 60], [40, 110, 80]] ∧
      s'.hist.b = [[12, 22, 32], [52, 72, 62], [52, 72, 62]] ∧
      ¬ Inv Ex.T Ex.Lk Ex.inCube Ex.undeclaredOld s' := by
  obtain ⟨⟨s', rets⟩, h, e⟩ := Option.map_eq_some_iff.mp
    (by decide +kernel : (runItersR Ex.undeclaredOld Ex.T Ex.Lk Ex.isInf Ex.fold Ex.chk init Ex.tapes).map
        (fun r => (r.1.hist.x, r.1.hist.b)) =
      some ([[10, 20, 30], [50, 50, 60], [40, 110, 80]], [[12, 22, 32], [52, 72, 62], [52, 72, 62]]))
  obtain ⟨hx, hb⟩ := Prod.mk.inj e
  refine ⟨s', rets, h, ex_tapesOk, hx, hb, fun hinv => ?_⟩
  -- the committed blobs are not the likelihood's blobs of the committed x
  have := hinv.2.2.2.2
  rw [hb, hx] at this
  exact absurd this (by decide)

/-- F8 (fixed in /repo 959029e), on the model: the warm-up BEFORE 959029e (`Model.RecSM.warmup`, without the redraw loop) stored a batch without a single finite draw as it was -/
theorem C07_old_warmup_stores_inf :
    ∃ s' : St Nat Nat Nat Nat, warmup Ex.declared Ex.T Ex.Lk Ex.isInf [7, 14, 21] [] init = some s' ∧
      s'.cur.l = some [0, 0, 0] ∧ ¬ Finite Ex.isInf s' :=
  ⟨_, rfl, by decide, fun hf => absurd (hf.1 [0, 0, 0] (by decide) 0 List.mem_cons_self) (by decide)⟩

end Props.C07SM
