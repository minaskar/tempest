import TempestVerif.Props.C18
import TempestVerif.Lemmas.CtorPath
import TempestVerif.Gen.CtorPath
/-
  C18 (second part) — downstream of the validation: "a configuration the constructor accepts never meets an undefined
  dictionary lookup / name dispatch / division / index / conversion in the component constructors or in the per-iteration
  glue" — stated on the table of use sites REGENERATED from /repo (translate/g8_ctorpath.py → Gen/CtorPath.lean) and on the
  rule table of G2 (Gen/Validate.lean), interpreted by Model/CtorPath.lean.

  A table entry that passes the closed Boolean check `useSafe tyOf` is defined — or certainly unreachable — in EVERY
  configuration whose options have the types `tyOf` (`useSafe_sound`); `accTy` is what acceptance guarantees, `docTy` the
  documented types.
-/
namespace Props.C18
open Model.ConfigSpec Model.CtorPath

/-- the DOCUMENTED type of every option as the code downstream sees it (after the defaults of `__post_init__`): what
    `Sampler.__init__`'s docstring and the annotations of `SamplerConfig` say — genuine ints (not bools) for counts, finite
    positive numbers for targets, a positive int cadence, `None` / int / pool-like for `pool`, `None` or a 32-bit seed … -/
def docTy : Field → Ty
  | .prior_transform => [.callable]
  | .log_likelihood => [.callable]
  | .n_dim => [.int (some 1) none]
  | .n_particles => [.int (some 1) none]
  | .ess_ratio => [.int (some 1) none, .floatPosFin]
  | .volume_variation => [.none, .int (some 1) none, .floatPosFin]
  | .log_likelihood_args => [.none, .listAny]
  | .log_likelihood_kwargs => [.none]
  | .vectorize => [.boolAny]
  | .blobs_dtype => [.none, .strIn ["f8", "f4", "i8", "i4", "float", "int", "float64", "int64", "object", "O", "bool"]]
  | .periodic => [.none, .idxList]
  | .reflective => [.none, .idxList]
  | .pool => [.none, .int none none, .otherMap]
  | .clustering => [.boolAny]
  | .normalize => [.boolAny]
  | .cluster_every => [.int (some 1) none]
  | .split_threshold => [.int (some 1) none, .floatPosFin]
  | .n_max_clusters => [.none, .int (some 1) none]
  | .sample => [.strIn ["tpcn", "rwm"]]
  | .n_steps => [.int (some 1) none]
  | .n_max_steps => [.int (some 1) none]
  | .resample => [.strIn ["mult", "syst"]]
  | .output_dir => [.path]
  | .output_label => [.strAny]
  | .random_state => [.none, .int (some 0) (some 4294967295)]

/-- what ACCEPTANCE by `Sampler(...)` guarantees about the stored configuration — nothing at all for the options
    `validate()` does not look at.  The two counts are genuine ints and the two targets finite; the step counts are only
    "a number that is not `<= 0`" (`__post_init__` defaults, no rule) -/
def accTy : Field → Ty
  | .prior_transform => [.callable]
  | .n_dim => [.int (some 1) none]
  | .n_particles => [.int (some 1) none]
  | .ess_ratio => [.int (some 1) none, .boolTrue, .floatPosFin]
  | .volume_variation => [.none, .int (some 1) none, .boolTrue, .floatPosFin]
  | .periodic => [.none, .idxIter]
  | .reflective => [.none, .idxIter]
  | .sample => [.strIn ["tpcn", "rwm"]]
  | .resample => [.strIn ["mult", "syst"]]
  | .n_steps => [.int (some 1) none, .boolTrue, .floatNotLe0]
  | .n_max_steps => [.int (some 1) none, .boolTrue, .floatNotLe0]
  | .output_dir => [.path]
  | .output_label => [.strAny]
  | _ => [.any]

def Typed (tyOf : Field → Ty) (e : Ext) (c : Cfg) : Prop := ∀ f, Ty.has e c (tyOf f) (c f) = true

abbrev Documented := Typed docTy

/-- the configuration the code downstream of the constructor works with: the stored `SamplerConfig` (defaults filled in),
    except that the options wrapped in a `FunctionWrapper` are looked at RAW (the wrapper itself is always callable; what
    `FunctionWrapper.__call__` calls is the user's object) -/
def glueCfg (c : Cfg) : Cfg :=
  match runCfg Gen.Validate.spec (wrapFields Gen.Validate.wrapped c) with
  | .ok c' => fun f => if Gen.Validate.wrapped.contains f then c f else c' f
  | .error _ => c

theorem construct_accept_stored (c : Cfg)
    (h : construct Gen.Validate.spec Gen.Ctor.wiring Gen.Validate.wrapped c = .accept) :
    ∃ d, (c .n_dim).intVal? = some d ∧ 0 < d ∧
      runCfg Gen.Validate.spec (wrapFields Gen.Validate.wrapped c) = .ok (postCfg (wrapFields Gen.Validate.wrapped c) d) ∧
      ValidListed c ∧ SamplerTyped c ∧ WiringOK c := by
  obtain ⟨hL, hT, hW⟩ := (C18_construct_accept_iff c).mp h
  obtain ⟨d, hd, hpos⟩ := posInt_intVal hL.n_dim
  exact ⟨d, hd, hpos, runCfg_wrap_ok c d hd hL hT, hL, hT, hW⟩

/-- the `FunctionWrapper` around the likelihood is looked through, and no default reads or writes the likelihood -/
theorem glueCfg_stored (c : Cfg) (d : Int)
    (h : runCfg Gen.Validate.spec (wrapFields Gen.Validate.wrapped c) = .ok (postCfg (wrapFields Gen.Validate.wrapped c) d)) :
    glueCfg c = postCfg c d := by
  funext f
  unfold glueCfg
  rw [h]
  dsimp only
  by_cases hl : f = .log_likelihood
  · subst hl; exact (postCfg_frame c d _ (by decide)).symm
  · rw [show Gen.Validate.wrapped.contains f = false by simpa [Gen.Validate.wrapped] using hl]
    by_cases hf : f ∈ defaultedFields
    · simp only [defaultedFields, List.mem_cons, List.not_mem_nil, or_false] at hf
      rcases hf with rfl | rfl | rfl | rfl | rfl <;>
        simp (discharger := decide) only [postCfg_output_dir, postCfg_output_label, postCfg_n_particles, postCfg_n_steps,
          postCfg_n_max_steps, wrap_other, Bool.false_eq_true, if_false]
    · simp only [Bool.false_eq_true, if_false, postCfg_frame _ d f hf, wrap_other c f hl]

/-! the hand-written predicates of `ValidListed` / `SamplerTyped` give the shapes of `accTy` (for `posInt` and `isOneOf` the shape says no more) -/

section
variable {e : Ext} {c : Cfg} {v : V}

theorem posInt_shape : posInt v = true ↔ Ty.has e c [.int (some 1) none] v = true := by
  constructor <;> intro h
  · cases v <;> first | cases h | exact Ty.int_ge (by have := of_decide_eq_true h; omega)
  · obtain ⟨n, rfl, hn⟩ := Shape.int_has (Ty.has_one h)
    exact decide_eq_true (by simp [inBounds] at hn; omega)

theorem posNum_shape (h : posNum v = true) : Ty.has e c [.int (some 1) none, .boolTrue, .floatPosFin] v = true := by
  cases v with
  | int n => exact Ty.int_ge (by have := of_decide_eq_true h; omega)
  | bool b => exact Ty.of_tail _ (Ty.of_head h)
  | float f => cases f <;> first | cases h | exact Ty.of_tail _ (Ty.of_tail _ (Ty.of_head h))
  | _ => cases h

theorem isOneOf_shape {l : List String} : isOneOf v l = true ↔ Ty.has e c [.strIn l] v = true := by
  constructor <;> intro h
  · cases v <;> first | cases h | exact Ty.of_head h
  · cases v <;> first | (cases h; done) | exact Ty.has_one h

theorem indexList_idxIter {d : Int} (hd : (c .n_dim).intVal? = some d) (h : indexList d v = true) :
    Shape.has e c .idxIter v = true := by
  unfold indexList at h
  simp only [Shape.has]
  cases hi : v.iter? with
  | none => simp [hi] at h
  | some l =>
    simp only [hi, idxAll, hd, List.all_eq_true] at h ⊢
    exact fun x hx => by have := h x hx; cases x <;> first | exact this | cases this

theorem idxList_indexList {d : Int} (hd : (c .n_dim).intVal? = some d) (h : Shape.has e c .idxList v = true) :
    indexList d v = true := by
  obtain ⟨l, rfl, hl⟩ := Shape.idxList_has h
  obtain ⟨d', hd', hl⟩ := idxAll_elim hl
  rw [hd] at hd'; cases hd'
  exact List.all_eq_true.mpr hl

theorem steps_shape (h1 : noneOrNum v = true) (h2 : noneOrLe0 v = false) :
    Ty.has e c [.int (some 1) none, .boolTrue, .floatNotLe0] v = true := by
  cases v with
  | int n => exact Ty.int_ge (by have := of_decide_eq_false h2; omega)
  | bool b => exact Ty.of_tail _ (Ty.of_head (by cases b <;> first | rfl | cases h2))
  | float f => exact Ty.of_tail _ (Ty.of_tail _ (Ty.of_head (by simpa [noneOrLe0, Shape.has] using h2)))
  | none => cases h2
  | _ => cases h1

theorem mulNum20_shape (h : Ty.has e c [.int (some 1) none, .boolTrue, .floatNotLe0] v = true) :
    Ty.has e c [.int (some 1) none, .boolTrue, .floatNotLe0] (mulNum 20 v) = true := by
  cases v with
  | int n => exact Ty.int_ge (by simp [Ty.has, Shape.has, inBounds] at h; omega)
  | bool b => cases b <;> first | exact Ty.int_ge (by decide) | cases h
  | float f =>
    have hf : f.le (.fin 0) = false := by simpa [Ty.has, Shape.has] using h
    refine Ty.of_tail _ (Ty.of_tail _ (Ty.of_head ?_))
    cases f with
    | fin q =>
      simp only [FV.le, decide_eq_false_iff_not] at hf
      simp only [mulNum, Shape.has, FV.mulInt, FV.le, Bool.not_eq_true', decide_eq_false_iff_not]
      exact Rat.not_le.mpr (Rat.mul_pos (by decide) (Rat.not_le.mp hf))
    | inf neg => cases neg <;> first | exact absurd hf (by decide) | simp [mulNum, FV.mulInt, Shape.has, FV.le]
    | nan => rfl
  | _ => cases h

end

/-- **C18 (what acceptance guarantees downstream).**  If `Sampler(...)` returns normally then every option of the
    configuration the components work with has the type `accTy` — positive genuine ints for the two counts, finite
    positive numbers (or `True`) for the two targets, in-range int items for the two index collections, one of the two
    accepted names for kernel and resampler, a `Path` and a `str` for the output location, step counts that are numbers
    not `<= 0`. -/
theorem C18_stored_accTy (e : Ext) (c : Cfg)
    (h : construct Gen.Validate.spec Gen.Ctor.wiring Gen.Validate.wrapped c = .accept) : Typed accTy e (glueCfg c) := by
  obtain ⟨d, hd, hpos, hrun, hL, hT, hW⟩ := construct_accept_stored c h
  rw [glueCfg_stored c d hrun]
  have hfr := postCfg_frame c d
  have hnd : (postCfg c d .n_dim).intVal? = some d := by rw [hfr _ (by decide)]; exact hd
  have hidx : ∀ v, (v.isNone = true ∨ ∃ d', (c .n_dim).intVal? = some d' ∧ indexList d' v = true) →
      Ty.has e (postCfg c d) [.none, .idxIter] v = true := by
    rintro v (hn | ⟨d', hd', hi⟩)
    · exact Ty.of_head hn
    · rw [hd] at hd'; cases hd'
      exact Ty.of_tail _ (Ty.of_head (indexList_idxIter hnd hi))
  have hsteps : Ty.has e (postCfg c d) [.int (some 1) none, .boolTrue, .floatNotLe0]
      (if noneOrLe0 (c .n_steps) then .int 1 else c .n_steps) = true := by
    by_cases hs : noneOrLe0 (c .n_steps) = true
    · rw [if_pos hs]; exact Ty.int_ge (Int.le_refl 1)
    · rw [if_neg hs]; exact steps_shape hT.n_steps (by simpa using hs)
  intro f
  cases f
  case prior_transform => rw [hfr _ (by decide)]; exact Ty.of_head hT.prior_transform
  case n_dim => rw [hfr _ (by decide)]; exact posInt_shape.mp hL.n_dim
  case n_particles =>
    rw [postCfg_n_particles]
    by_cases hn : (c .n_particles).isNone = true
    · rw [if_pos hn]; exact Ty.int_ge (by omega)
    · rw [if_neg hn]; exact posInt_shape.mp (hL.n_particles.resolve_left hn)
  case ess_ratio => rw [hfr _ (by decide)]; exact posNum_shape hL.ess_ratio
  case volume_variation =>
    rw [hfr _ (by decide)]
    rcases hL.volume_variation with hn | hp
    · exact Ty.of_head hn
    · exact Ty.of_tail _ (posNum_shape hp)
  case periodic => rw [hfr _ (by decide)]; exact hidx _ hL.periodic
  case reflective => rw [hfr _ (by decide)]; exact hidx _ hL.reflective
  case sample => rw [hfr _ (by decide)]; exact isOneOf_shape.mp hL.sample
  case resample => rw [hfr _ (by decide)]; exact isOneOf_shape.mp hL.resample
  case n_steps =>
    rw [postCfg_n_steps]
    exact hsteps
  case n_max_steps =>
    rw [postCfg_n_max_steps]
    by_cases hs : noneOrLe0 (c .n_max_steps) = true
    · rw [if_pos hs]; exact mulNum20_shape hsteps
    · rw [if_neg hs]; exact steps_shape hT.n_max_steps (by simpa using hs)
  case output_dir =>
    rw [postCfg_output_dir]
    by_cases ho : ((c .output_dir).isNone || (c .output_dir).isStr) = true
    · rw [if_pos ho]; exact Ty.of_head rfl
    · rw [if_neg ho]
      rcases hT.output_dir with h1 | h1 | h1
      · exact absurd (by rw [h1]; rfl) ho
      · exact absurd (by rw [h1, Bool.or_true]) ho
      · exact Ty.of_head h1
  case output_label =>
    rw [postCfg_output_label]
    by_cases hn : (c .output_label).isNone = true
    · rw [if_pos hn]; exact Ty.of_head rfl
    · rw [if_neg hn]
      have hs := hT.output_label.resolve_left hn
      cases hv : c .output_label <;> rw [hv] at hs <;> first | exact Ty.of_head rfl | cases hs
  -- the options `validate()` does not look at are typed `any`
  all_goals exact Ty.of_head rfl

/-! ### the closed checks on the regenerated table of use sites -/

/-- options for which acceptance by the constructor does NOT imply that every downstream use is defined -/
def gapFields : List Field :=
  [.n_steps, .n_max_steps, .cluster_every, .n_max_clusters, .split_threshold, .pool,
   .random_state, .blobs_dtype, .log_likelihood, .log_likelihood_args, .log_likelihood_kwargs]

/-- no pool-like object, likelihood without blobs -/
def plainExt : Ext := ⟨false, false⟩

def accepts (c : Cfg) : Bool := construct Gen.Validate.spec Gen.Ctor.wiring Gen.Validate.wrapped c == .accept

def definiteErrs (e : Ext) (c : Cfg) : List PyErr := (predict e Gen.CtorPath.uses (glueCfg c)).definite

/-- Everything below that is decided on the generated table of use sites, as ONE proposition so that one evaluation proves it:
    resolving the context tag of an entry (`ctxOf`: string comparisons against `ctxTable`) is most of the work of each check and
    of each run of `predict`, and does not depend on the check or on the configuration. -/
structure UsesEvaluated : Prop where
  entries : Gen.CtorPath.uses.all (fun u => ctxOf u.ctx != .unknown && useSafe docTy u && (useSafe accTy u || gapFields.contains u.opt)) = true
  gapFields_minimal : gapFields.all (fun f => Gen.CtorPath.uses.any fun u => u.opt == f && !useSafe accTy u) = true
  default_glue_total : accepts exampleCfg = true ∧ predict plainExt Gen.CtorPath.uses (glueCfg exampleCfg) = ⟨[], [], 0⟩
  gap_cluster_every_zero :
    accepts (exampleCfg.set .cluster_every (.int 0)) = true ∧
      definiteErrs plainExt (exampleCfg.set .cluster_every (.int 0)) = [.zeroDivision] ∧
    accepts ((exampleCfg.set .cluster_every (.int 0)).set .clustering (.bool false)) = true ∧
      predict plainExt Gen.CtorPath.uses (glueCfg ((exampleCfg.set .cluster_every (.int 0)).set .clustering (.bool false))) = ⟨[], [], 0⟩
  gap_pool :
    accepts (exampleCfg.set .pool (.str "x")) = true ∧ definiteErrs plainExt (exampleCfg.set .pool (.str "x")) = [.attributeError] ∧
    definiteErrs plainExt (exampleCfg.set .pool (.int 1)) = [] ∧ definiteErrs plainExt (exampleCfg.set .pool (.int 2)) = [] ∧
    definiteErrs ⟨true, false⟩ (exampleCfg.set .pool .other) = [] ∧
    definiteErrs plainExt (exampleCfg.set .pool .other) = [.attributeError]
  gap_random_state :
    accepts (exampleCfg.set .random_state (.int (-1))) = true ∧
      definiteErrs plainExt (exampleCfg.set .random_state (.int (-1))) = [.valueError] ∧
    definiteErrs plainExt (exampleCfg.set .random_state (.str "a")) = [.typeError] ∧
    definiteErrs plainExt (exampleCfg.set .random_state (.int 5)) = []
  gap_wrapped_likelihood :
    accepts (exampleCfg.set .log_likelihood (.int 5)) = true ∧
      definiteErrs plainExt (exampleCfg.set .log_likelihood (.int 5)) = [.typeError] ∧
    accepts (exampleCfg.set .log_likelihood_args (.int 5)) = true ∧
      definiteErrs plainExt (exampleCfg.set .log_likelihood_args (.int 5)) = [.typeError] ∧
    accepts (exampleCfg.set .log_likelihood_kwargs (.list [])) = true ∧
      definiteErrs plainExt (exampleCfg.set .log_likelihood_kwargs (.list [])) = [.typeError]
  gap_blobs_dtype :
    accepts (exampleCfg.set .blobs_dtype (.str "a")) = true ∧
      definiteErrs ⟨false, true⟩ (exampleCfg.set .blobs_dtype (.str "a")) = [.typeError] ∧
    definiteErrs ⟨false, true⟩ (exampleCfg.set .blobs_dtype (.str "f8")) = []

-- as the conjunction of its fields, so that the kernel evaluates all of them in one run
instance : Decidable UsesEvaluated :=
  decidable_of_iff (_ ∧ _ ∧ _ ∧ _ ∧ _ ∧ _ ∧ _ ∧ _)
    ⟨fun ⟨a, b, c, d, e, f, g, h⟩ => ⟨a, b, c, d, e, f, g, h⟩, fun ⟨a, b, c, d, e, f, g, h⟩ => ⟨a, b, c, d, e, f, g, h⟩⟩

theorem uses_evaluated : UsesEvaluated := by decide +kernel

theorem uses_entry {u : Use} (hu : u ∈ Gen.CtorPath.uses) :
    (ctxOf u.ctx != .unknown) = true ∧ useSafe docTy u = true ∧ (useSafe accTy u || gapFields.contains u.opt) = true := by
  have := List.all_eq_true.mp uses_evaluated.entries u hu
  simp only [Bool.and_eq_true] at this
  exact ⟨this.1.1, this.1.2, this.2⟩

/-- every context tag the translator emitted for the current source has a semantics in `Model/CtorPath.lean` -/
theorem C18_uses_contexts_known : Gen.CtorPath.uses.all (fun u => ctxOf u.ctx != .unknown) = true :=
  List.all_eq_true.mpr fun _ hu => (uses_entry hu).1

/-- every use site of the current source is defined (or certainly unreachable) for every value of the documented type -/
theorem C18_uses_safe_documented : Gen.CtorPath.uses.all (useSafe docTy) = true :=
  List.all_eq_true.mpr fun _ hu => (uses_entry hu).2.1

/-- **C18 (documented configurations never meet an undefined use).**  In a configuration whose options have their
    documented types every consumption of an option downstream of the validation — in the component constructors, in
    `run_sampling` / `execute_iteration`, in the four steps, in the MCMC runners, in the boundary maps, in the pool dispatch,
    in `FunctionWrapper.__call__` — is defined, or sits behind a guard that is false.  The table of consumptions is the one
    regenerated from the source. -/
theorem C18_glue_total_documented (e : Ext) (c : Cfg) (h : Documented e c) : glueTotal e Gen.CtorPath.uses c = true :=
  glueTotal_of_safe e c docTy h _ C18_uses_safe_documented

theorem C18_uses_safe_accepted_except_gaps :
    Gen.CtorPath.uses.all (fun u => useSafe accTy u || gapFields.contains u.opt) = true :=
  List.all_eq_true.mpr fun _ hu => (uses_entry hu).2.2

/-- the list is minimal: each of its options has a use site that the acceptance typing does not make safe -/
theorem C18_gapFields_minimal :
    gapFields.all (fun f => Gen.CtorPath.uses.any fun u => u.opt == f && !useSafe accTy u) = true := uses_evaluated.gapFields_minimal

/-- **C18 (what acceptance alone buys).**  If `Sampler(...)` returned normally, every downstream consumption of an option
    OUTSIDE `gapFields` — kernel and resampler names, the two index collections, `volume_variation`, `prior_transform`,
    `vectorize`, `clustering`, `normalize`, output directory and label — is defined or unreachable. -/
theorem C18_glue_total_accepted (e : Ext) (c : Cfg)
    (h : construct Gen.Validate.spec Gen.Ctor.wiring Gen.Validate.wrapped c = .accept) :
    ∀ u ∈ Gen.CtorPath.uses, gapFields.contains u.opt = false → useOK e (glueCfg c) u = true := by
  intro u hu hg
  have h1 := (uses_entry hu).2.2
  simp only [hg, Bool.or_false] at h1
  exact useSafe_sound e (glueCfg c) accTy (C18_stored_accTy e c h) u h1

/-- the two gap options that are consumed at CONSTRUCTION time are covered by the constructor model itself: an accepted
    configuration with clustering on has a numeric-or-None cluster cap and a `split_threshold` that `float()` accepts -/
theorem C18_accept_wiring_uses (e : Ext) (c : Cfg)
    (h : construct Gen.Validate.spec Gen.Ctor.wiring Gen.Validate.wrapped c = .accept) (hc : (c .clustering).truthy = true) :
    sem e c .numOrNone (c .n_max_clusters) = .ok ∧ sem e c .toFloat (c .split_threshold) = .ok := by
  obtain ⟨_, _, hW⟩ := (C18_construct_accept_iff c).mp h
  obtain ⟨h1, m, hm, _⟩ := hW hc
  constructor
  · simp [sem, show (isNumV (c .n_max_clusters) || (c .n_max_clusters).isNone) = true from (Bool.or_comm _ _).trans h1]
  · simp [sem, hm]

/-! #### the gaps are real: accepted configurations with a use that is certainly reached and undefined -/

/-- the default configuration: accepted, and no use is undefined -/
theorem C18_default_glue_total :
    accepts exampleCfg = true ∧ predict plainExt Gen.CtorPath.uses (glueCfg exampleCfg) = ⟨[], [], 0⟩ := uses_evaluated.default_glue_total

/-- a bool dimension or particle count, a non-finite ESS ratio / volume-variation target and a bool among the boundary indices
    are NOT accepted by the rule table (accepted, the counts and a non-finite `ess_ratio` would raise in the first iteration; a
    bool index raises nowhere and is read as a mask, see `C18_accepted_index_faithful`).  This is why `gapFields` does not list
    `n_dim`, `n_particles`, `ess_ratio`. -/
theorem C18_closed_gaps_counts_and_targets :
    accepts (exampleCfg.set .n_dim (.bool true)) = false ∧ accepts (exampleCfg.set .n_particles (.bool true)) = false ∧
    accepts (exampleCfg.set .ess_ratio (.float (.inf false))) = false ∧ accepts (exampleCfg.set .ess_ratio (.float .nan)) = false ∧
    accepts (exampleCfg.set .volume_variation (.float (.inf false))) = false ∧
    accepts (exampleCfg.set .volume_variation (.float .nan)) = false ∧
    accepts (exampleCfg.set .periodic (.list [.bool true])) = false ∧
    accepts (exampleCfg.set .reflective (.list [.int 0, .bool false])) = false := by decide +kernel

/-- `cluster_every` is not validated: 0 is accepted and `iter % 0` raises at the first annealing iteration — unless
    clustering is off, in which case the expression is never evaluated -/
theorem C18_gap_cluster_every_zero :
    accepts (exampleCfg.set .cluster_every (.int 0)) = true ∧
      definiteErrs plainExt (exampleCfg.set .cluster_every (.int 0)) = [.zeroDivision] ∧
    accepts ((exampleCfg.set .cluster_every (.int 0)).set .clustering (.bool false)) = true ∧
      predict plainExt Gen.CtorPath.uses (glueCfg ((exampleCfg.set .cluster_every (.int 0)).set .clustering (.bool false))) = ⟨[], [], 0⟩ :=
  uses_evaluated.gap_cluster_every_zero

/-- `pool`: anything is accepted; an object without `.map` fails at the first likelihood batch; ints and `None` never do -/
theorem C18_gap_pool :
    accepts (exampleCfg.set .pool (.str "x")) = true ∧ definiteErrs plainExt (exampleCfg.set .pool (.str "x")) = [.attributeError] ∧
    definiteErrs plainExt (exampleCfg.set .pool (.int 1)) = [] ∧ definiteErrs plainExt (exampleCfg.set .pool (.int 2)) = [] ∧
    definiteErrs ⟨true, false⟩ (exampleCfg.set .pool .other) = [] ∧
    definiteErrs plainExt (exampleCfg.set .pool .other) = [.attributeError] := uses_evaluated.gap_pool

/-- `random_state` is handed to `np.random.seed` unchecked -/
theorem C18_gap_random_state :
    accepts (exampleCfg.set .random_state (.int (-1))) = true ∧
      definiteErrs plainExt (exampleCfg.set .random_state (.int (-1))) = [.valueError] ∧
    definiteErrs plainExt (exampleCfg.set .random_state (.str "a")) = [.typeError] ∧
    definiteErrs plainExt (exampleCfg.set .random_state (.int 5)) = [] := uses_evaluated.gap_random_state

/-- a non-callable likelihood is hidden by the `FunctionWrapper` until the first call; args / kwargs of the wrong kind too -/
theorem C18_gap_wrapped_likelihood :
    accepts (exampleCfg.set .log_likelihood (.int 5)) = true ∧
      definiteErrs plainExt (exampleCfg.set .log_likelihood (.int 5)) = [.typeError] ∧
    accepts (exampleCfg.set .log_likelihood_args (.int 5)) = true ∧
      definiteErrs plainExt (exampleCfg.set .log_likelihood_args (.int 5)) = [.typeError] ∧
    accepts (exampleCfg.set .log_likelihood_kwargs (.list [])) = true ∧
      definiteErrs plainExt (exampleCfg.set .log_likelihood_kwargs (.list [])) = [.typeError] := uses_evaluated.gap_wrapped_likelihood

/-- `blobs_dtype`: any non-None value is accepted; an invalid dtype string fails when the first blobs are packed -/
theorem C18_gap_blobs_dtype :
    accepts (exampleCfg.set .blobs_dtype (.str "a")) = true ∧
      definiteErrs ⟨false, true⟩ (exampleCfg.set .blobs_dtype (.str "a")) = [.typeError] ∧
    definiteErrs ⟨false, true⟩ (exampleCfg.set .blobs_dtype (.str "f8")) = [] := uses_evaluated.gap_blobs_dtype

theorem indexList_faithful (d : Int) (v : V) (h : indexList d v = true) : boolIndexMisread v = false := by
  unfold indexList at h
  cases v <;> simp [V.iter?] at h <;> simp [boolIndexMisread]
  intro x hx
  have := h x hx
  cases x <;> simp [intItem] at this ⊢

/-- **C18 (accepted index collections are read as coordinates).**  Whatever the constructor accepts as `periodic` /
    `reflective` contains no Python bool (numpy would read one as a MASK: `periodic=[True]` wraps every coordinate). -/
theorem C18_accepted_index_faithful (c : Cfg)
    (h : construct Gen.Validate.spec Gen.Ctor.wiring Gen.Validate.wrapped c = .accept) :
    boolIndexMisread (c .periodic) = false ∧ boolIndexMisread (c .reflective) = false := by
  obtain ⟨hL, _, _⟩ := (C18_construct_accept_iff c).mp h
  have key : ∀ v : V, (v.isNone = true ∨ ∃ d, (c .n_dim).intVal? = some d ∧ indexList d v = true) → boolIndexMisread v = false := by
    rintro v (hn | ⟨d, _, hi⟩)
    · cases v <;> first | rfl | cases hn
    · exact indexList_faithful d _ hi
  exact ⟨key _ hL.periodic, key _ hL.reflective⟩

/-- documented index lists contain no bool -/
theorem C18_documented_index_faithful (e : Ext) (c : Cfg) (v : V) (h : Shape.has e c .idxList v = true) :
    boolIndexMisread v = false := by
  obtain ⟨l, rfl, hl⟩ := Shape.idxList_has h
  obtain ⟨d, hd, _⟩ := idxAll_elim hl
  exact indexList_faithful d _ (idxList_indexList hd h)

/-! ### values computed by the wiring (`max_iterations`, `min_points`) -/

def slotVal (w : Wired) (slot : String) : V := if slot == "maxIter" then w.maxIter else w.minPoints

/-- the context tags of `wiredUses` and of the single entries checked at the end of the file, resolved once (as in `UsesEvaluated`) -/
theorem ctxOf_resolved :
    ctxOf "isNone" = .safe ∧ ctxOf "cmp:rlt:expr" = .numStrict ∧ ctxOf "orDefault|cmp:rlt:expr" = .numOrNone ∧
    ctxOf "orDefault|cmp:rge:expr" = .numOrNone ∧ ctxOf "mod:right:expr" = .modRight ∧ ctxOf "attr:map" = .attrMap := by
  decide +kernel

theorem C18_wired_uses_known :
    Gen.CtorPath.wiredUses.all (fun u =>
      (u.2.1 == "maxIter" && (ctxOf u.2.2 == .safe || ctxOf u.2.2 == .num || ctxOf u.2.2 == .numStrict || ctxOf u.2.2 == .numOrNone)) ||
      (u.2.1 == "minPoints" && (ctxOf u.2.2 == .safe || ctxOf u.2.2 == .numOrNone))) = true := by
  simp only [Gen.CtorPath.wiredUses, List.all_cons, List.all_nil, ctxOf_resolved]
  decide +kernel

theorem wire_slots (c : Cfg) (w : Wired) (h : wire Gen.Ctor.wiring c = .ok w) (hc : (c .clustering).truthy = true)
    (hd : (c .n_dim).isInt = true) : isNumV w.maxIter = true ∧ (w.minPoints.isNone = true ∨ isNumV w.minPoints = true) := by
  have hnum : isNumV (mulNum 4 (c .n_dim)) = true := by
    cases hn : c .n_dim <;> simp [hn, V.isInt] at hd <;> rfl
  unfold wire at h
  simp only [Gen.Ctor.wiring, WExpr.eval, hc, if_true, mulInt_num 4 (isNum_of_isInt hd)] at h
  cases hm : c .n_max_clusters <;> simp [hm, V.isNone, V.addInt] at h <;>
    cases hs : (c .split_threshold).toFloat <;> simp [hs, FV.cmp] at h <;>
    (rename_i a; by_cases hle : a.le (.fin 0) = true <;> simp [hle] at h <;> subst h <;>
      first | exact ⟨rfl, Or.inl rfl⟩ | exact ⟨rfl, Or.inr hnum⟩)

/-- **C18 (wired values).**  The values `SamplerCore.__init__` computes for the clusterer are consumed only where they are
    defined: `max_iterations` in an ordering against an int, `min_points` tested for `None` and, after its default, ordered -/
theorem C18_wired_uses_defined (e : Ext) (c : Cfg) (w : Wired) (h : wire Gen.Ctor.wiring c = .ok w)
    (hc : (c .clustering).truthy = true) (hd : (c .n_dim).isInt = true) :
    ∀ u ∈ Gen.CtorPath.wiredUses, sem e c (ctxOf u.2.2) (slotVal w u.2.1) = .ok := by
  obtain ⟨h1, h2⟩ := wire_slots c w h hc hd
  intro u hu
  have hk := List.all_eq_true.mp C18_wired_uses_known u hu
  simp only [Bool.or_eq_true, Bool.and_eq_true, beq_iff_eq] at hk
  rcases hk with ⟨hs, hk⟩ | ⟨hs, hk⟩
  · have : slotVal w u.2.1 = w.maxIter := by simp [slotVal, hs]
    rw [this]
    rcases hk with ((hk | hk) | hk) | hk <;> rw [hk] <;> simp [sem, h1]
  · have : slotVal w u.2.1 = w.minPoints := by simp [slotVal, hs]
    rw [this]
    rcases hk with hk | hk <;> rw [hk] <;> simp [sem]
    rcases h2 with h2 | h2 <;> simp [h2]

/-- functions that run while `Sampler(...)` is being constructed -/
def ctorSites : List String :=
  ["Sampler.__init__", "SamplerConfig.__post_init__", "SamplerConfig.validate", "StateManager.__init__", "SamplerCore.__init__",
   "Reweighter.__init__", "Trainer.__init__", "Resampler.__init__", "Mutator.__init__", "HierarchicalGaussianMixture.__init__",
   "FunctionWrapper.__init__"]

/-- contexts in which the consumed value is CALLED (or handed to `map` / a pool to be called) -/
def callingTags : List String :=
  ["call", "wrapped|call", "wrapped|arg:map:0", "wrapped|arg:self._get_distribute_func():0"]

/-- **C18 (before any likelihood call, second reading).**  G8 follows the two user functions through keyword arguments,
    constructor parameters, attribute stores and local aliases (G2's `C18_before_likelihood` goes by callee names): no site where
    `log_likelihood` or `prior_transform` is called lies in a function that runs during construction; the calls there are —
    the likelihood only in `FunctionWrapper.__call__` / `SamplerCore._log_like`, the prior transform only in `Mutator.run` /
    `BaseMCMCRunner.run`.  So every rejection raised by a constructor precedes every call of a user function. -/
theorem C18_user_functions_not_called_in_constructors :
    Gen.CtorPath.uses.all (fun u =>
      !((u.opt == .log_likelihood || u.opt == .prior_transform) && callingTags.contains u.ctx) || !ctorSites.contains u.site) = true ∧
    (Gen.CtorPath.uses.filter fun u => u.opt == .log_likelihood && callingTags.contains u.ctx).map (·.site)
      = ["FunctionWrapper.__call__", "SamplerCore._log_like", "SamplerCore._log_like", "SamplerCore._log_like"] ∧
    ((Gen.CtorPath.uses.filter fun u => u.opt == .prior_transform && callingTags.contains u.ctx).map (·.site)).eraseDups
      = ["BaseMCMCRunner.run", "Mutator.run"] := by decide +kernel

/-! ### the name dispatches: accepted by `validate()` ⇔ dispatched to a defined branch -/

theorem resample_names : acceptedNames Gen.Validate.rules .resample = some ["mult", "syst"] := by decide +kernel
theorem sample_names : acceptedNames Gen.Validate.rules .sample = some ["tpcn", "rwm"] := by decide +kernel

/-- what `Resampler.run` does with a value of the `resample` option (tables regenerated from the source) -/
def resampleDefined (v : V) : Bool :=
  resampleBound Gen.CtorPath.resampleLits Gen.CtorPath.resampleBinds Gen.CtorPath.resampleHasElse Gen.CtorPath.resampleNeeded v

/-- **C18 (resampler dispatch).**  The values of `resample` for which the `if … elif …` chain of `Resampler.run` binds the
    index array it uses afterwards are EXACTLY the values the rule table of `validate()` accepts: every accepted name has a
    branch (no `UnboundLocalError`), and nothing else would (there is no `else`: the rule is what keeps the chain total). -/
theorem C18_resample_dispatch_exact (v : V) (lits : List String)
    (h : acceptedNames Gen.Validate.rules .resample = some lits) : resampleDefined v = true ↔ v.notIn lits = false := by
  rw [resample_names] at h
  cases h
  cases v with
  | str s =>
    by_cases h1 : s = "mult"
    · subst h1; decide
    · by_cases h2 : s = "syst"
      · subst h2; decide
      · have e1 : ("mult" == s) = false := by simpa [beq_iff_eq] using fun h => h1 h.symm
        have e2 : ("syst" == s) = false := by simpa [beq_iff_eq] using fun h => h2 h.symm
        simp [resampleDefined, resampleBound, Gen.CtorPath.resampleLits, Gen.CtorPath.resampleHasElse, List.findIdx?_cons, e1, e2,
          V.notIn, h1, h2]
  | _ => simp [resampleDefined, resampleBound, Gen.CtorPath.resampleHasElse, V.notIn]

theorem C18_resample_dispatch_total (c : Cfg) (h : validate Gen.Validate.rules c = .accept) : resampleDefined (c .resample) = true := by
  exact (C18_resample_dispatch_exact _ _ resample_names).mpr (accepted_name_of_validate _ c _ _ resample_names h)

/-- the runner class `mcmc.parallel_mcmc` ends up instantiating for a value of the `sample` option, provided that class
    defines every abstract method of `BaseMCMCRunner` -/
def runnerOf (v : V) : Option String :=
  kernelRunner Gen.CtorPath.kernelBranches Gen.CtorPath.kernelElse Gen.CtorPath.kernelRunners Gen.CtorPath.abstractMethods
    Gen.CtorPath.runnerMethods v

/-- **C18 (kernel dispatch).**  Every kernel name `validate()` accepts is dispatched to a function that instantiates a
    concrete runner class with all abstract methods defined; distinct names reach distinct classes; and every concrete
    subclass of `BaseMCMCRunner` in the source is reached by an accepted name (no kernel without a name, no name without a
    kernel). -/
theorem C18_kernel_dispatch_total :
    (∀ lits, acceptedNames Gen.Validate.rules .sample = some lits →
      lits.all (fun n => (runnerOf (.str n)).isSome) = true ∧
      (lits.map fun n => runnerOf (.str n)).Nodup ∧
      Gen.CtorPath.runnerMethods.all (fun p => lits.any fun n => runnerOf (.str n) == some p.1) = true) := by
  intro lits h
  rw [sample_names] at h
  cases h
  decide +kernel

theorem C18_kernel_dispatch_accepted (c : Cfg) (h : validate Gen.Validate.rules c = .accept) : (runnerOf (c .sample)).isSome = true := by
  have := accepted_name_of_validate _ c _ _ sample_names h
  cases hv : c .sample <;> simp [hv, V.notIn] at this
  exact List.all_eq_true.mp (C18_kernel_dispatch_total _ sample_names).1 _ (by simpa using Decidable.or_iff_not_imp_left.mpr this)

/-! ### the option reaches the place that dispatches on it -/

/-- **C18 (flows).**  In the current source the attribute `Resampler.run` dispatches on holds the option `resample`, the
    parameter `parallel_mcmc` dispatches on receives the option `sample` (through `Mutator.sampler`), `have_blobs` of both
    steps is `blobs_dtype is not None`, the index collections reach `apply_boundary_conditions` / `check_bounds` unchanged, and
    every keyword `SamplerCore.__init__` passes to a component is a parameter of that component's constructor bound to the
    same option. -/
theorem C18_component_flows :
    Gen.CtorPath.stores.contains ("Resampler", "resample", "opt", "resample") = true ∧
    Gen.CtorPath.stores.contains ("Mutator", "sampler", "opt", "sample") = true ∧
    Gen.CtorPath.binds.contains ("parallel_mcmc", "sample", "opt", "sample") = true ∧
    Gen.CtorPath.componentArgs.contains ("Resampler", "have_blobs", "notNone", "blobs_dtype") = true ∧
    Gen.CtorPath.componentArgs.contains ("Mutator", "have_blobs", "notNone", "blobs_dtype") = true ∧
    (["periodic", "reflective"].all fun f =>
      Gen.CtorPath.binds.contains ("apply_boundary_conditions", f, "opt", f) && Gen.CtorPath.binds.contains ("check_bounds", f, "opt", f)) = true ∧
    Gen.CtorPath.componentArgs.all (fun a => a.2.2.1 != "opt" ||
      Gen.CtorPath.binds.contains (a.1 ++ ".__init__", a.2.1, "opt", a.2.2.2)) = true := by decide +kernel

/-! ### from the user's input to the downstream configuration -/

/-- the documented types of the options AS GIVEN to `Sampler(...)` (before the defaults) -/
def docInTy : Field → Ty
  | .n_particles => [.none, .int (some 1) none]
  | .n_steps => [.none, .int none none]
  | .n_max_steps => [.none, .int none none]
  | .output_dir => [.none, .strAny, .path]
  | .output_label => [.none, .strAny]
  | f => docTy f

theorem ty_has_iff (e : Ext) (c : Cfg) (t : Ty) (v : V) : Ty.has e c t v = true ↔ ∃ s ∈ t, s.has e c v = true := by
  simp [Ty.has, List.any_eq_true]

/-- a configuration as the documentation describes a valid one: every option of its documented type, plus the two
    cross-option constraints of the statement -/
structure ValidInput (e : Ext) (c : Cfg) : Prop where
  typed : Typed docInTy e c
  vec_blobs : ¬ ((c .vectorize).truthy = true ∧ (c .blobs_dtype).isNone = false)
  disjoint : (c .periodic).isNone = false → (c .reflective).isNone = false → shareIndex (c .periodic) (c .reflective) = false

/-! the shapes of `docInTy` give the hand-written predicates of `ValidListed` / `SamplerTyped` -/

section
variable {e : Ext} {c : Cfg} {v : V}

theorem posNum_of_has (h : Ty.has e c [.int (some 1) none, .floatPosFin] v = true) : posNum v = true := by
  rcases Ty.has_cons h with h | h
  · obtain ⟨n, rfl, hn⟩ := Shape.int_has h
    exact decide_eq_true (by simp [inBounds] at hn; omega)
  · obtain ⟨q, rfl, hq⟩ := Shape.floatPosFin_has (Ty.has_one h)
    exact decide_eq_true hq

theorem isStr_of_has (h : Shape.has e c .strAny v = true) : v.isStr = true := by
  cases v <;> first | rfl | cases h

theorem noneOrNum_of_has {lo hi : Option Int} (h : Ty.has e c [.none, .int lo hi] v = true) : noneOrNum v = true := by
  rcases Ty.has_cons h with h | h
  · exact (congrArg (· || v.isNum) h).trans (Bool.true_or _)
  · obtain ⟨n, rfl, _⟩ := Shape.int_has (Ty.has_one h)
    rfl

end

theorem validInput_listed (e : Ext) (c : Cfg) (h : ValidInput e c) : ValidListed c ∧ SamplerTyped c ∧ WiringOK c := by
  have ht := h.typed
  obtain ⟨d, hdv, _⟩ := Shape.int_has (Ty.has_one (ht .n_dim))
  have hd : (c .n_dim).intVal? = some d := by rw [hdv]; rfl
  have hidx : ∀ {v}, Ty.has e c [.none, .idxList] v = true →
      v.isNone = true ∨ ∃ d, (c .n_dim).intVal? = some d ∧ indexList d v = true :=
    fun h => (Ty.has_cons h).imp id fun h1 => ⟨d, hd, idxList_indexList hd (Ty.has_one h1)⟩
  refine ⟨⟨posInt_shape.mpr (ht .n_dim), (Ty.has_cons (ht .n_particles)).imp id posInt_shape.mpr, posNum_of_has (ht .ess_ratio),
      (Ty.has_cons (ht .volume_variation)).imp id posNum_of_has, isOneOf_shape.mpr (ht .sample), isOneOf_shape.mpr (ht .resample),
      h.vec_blobs, hidx (ht .periodic), hidx (ht .reflective), h.disjoint⟩,
    ⟨Ty.has_one (ht .prior_transform), noneOrNum_of_has (ht .n_steps), noneOrNum_of_has (ht .n_max_steps), ?_, ?_⟩, ?_⟩
  · rcases Ty.has_cons (ht .output_dir) with h1 | h1
    · exact Or.inl h1
    · exact Or.inr ((Ty.has_cons h1).imp isStr_of_has Ty.has_one)
  · exact (Ty.has_cons (ht .output_label)).imp id fun h1 => isStr_of_has (Ty.has_one h1)
  · intro _
    refine ⟨noneOrNum_of_has (ht .n_max_clusters), ?_⟩
    rcases Ty.has_cons (ht .split_threshold) with h1 | h1
    · obtain ⟨n, hn, h1⟩ := Shape.int_has h1
      refine ⟨.fin (n : Rat), by rw [hn]; rfl, ?_⟩
      simp only [FV.le, decide_eq_false_iff_not]
      exact Rat.not_le.mpr (by exact_mod_cast (by simp [inBounds] at h1; omega : (0 : Int) < n))
    · obtain ⟨q, hq, h1⟩ := Shape.floatPosFin_has (Ty.has_one h1)
      exact ⟨.fin q, by rw [hq]; rfl, by simp [FV.le]; exact Rat.not_le.mpr h1⟩

theorem docInTy_frame (f : Field) (hf : f ∉ defaultedFields) : docInTy f = docTy f := by
  cases f <;> first | rfl | exact absurd (by decide) hf

theorem stepsDefault_int {e : Ext} {c : Cfg} {v : V} {m : Int} (hm : 1 ≤ m) (h : Ty.has e c [.none, .int none none] v = true) :
    ∃ k, (if noneOrLe0 v = true then V.int m else v) = .int k ∧ 1 ≤ k := by
  rcases Ty.has_cons h with h | h
  · cases v <;> first | exact ⟨m, rfl, hm⟩ | cases h
  · obtain ⟨n, rfl, _⟩ := Shape.int_has (Ty.has_one h)
    by_cases hn : n ≤ 0
    · exact ⟨m, by simp [noneOrLe0, hn], hm⟩
    · exact ⟨n, by simp [noneOrLe0, hn], by omega⟩

/-- the options `__post_init__` leaves alone keep their documented type, the defaulted ones get it (`output_dir`,
    `output_label`, `n_particles` as for every accepted configuration) -/
theorem validInput_documented (e : Ext) (c : Cfg) (h : ValidInput e c)
    (hacc : construct Gen.Validate.spec Gen.Ctor.wiring Gen.Validate.wrapped c = .accept) : Documented e (glueCfg c) := by
  have ht := h.typed
  have hst := C18_stored_accTy e c hacc
  obtain ⟨d, hd, _, hrun, _⟩ := construct_accept_stored c hacc
  rw [glueCfg_stored c d hrun] at hst ⊢
  intro f
  by_cases hf : f ∈ defaultedFields
  · obtain ⟨k, hk, hk1⟩ := stepsDefault_int (Int.le_refl 1) (ht .n_steps)
    simp only [defaultedFields, List.mem_cons, List.not_mem_nil, or_false] at hf
    rcases hf with rfl | rfl | rfl | rfl | rfl
    · exact hst .output_dir
    · exact hst .output_label
    · exact hst .n_particles
    · rw [postCfg_n_steps, hk]
      exact Ty.int_ge hk1
    · obtain ⟨k', hk', hk1'⟩ := stepsDefault_int (m := 20 * k) (by omega) (ht .n_max_steps)
      rw [postCfg_n_max_steps, hk, show mulNum 20 (.int k) = .int (20 * k) from rfl, hk']
      exact Ty.int_ge hk1'
  · rw [postCfg_frame c d f hf, ← docInTy_frame f hf, Ty.has_congr_ndim e _ c (postCfg_frame c d _ (by decide))]
    exact ht f

/-- **C18 (valid ⇒ constructed, and nothing undefined downstream).**  A configuration in which every option has its
    documented type, the likelihood is not both vectorised and blob-returning, and the two index lists are disjoint
    (i) is accepted by `Sampler(...)` and (ii) meets no undefined dictionary lookup / dispatch / division / index /
    conversion / attribute access at any of the use sites of the current source.  What this does NOT say: that the
    numerical linear algebra of the run succeeds (singular covariances etc.) — that part is executed, not proved. -/
theorem C18_valid_input_accepted_and_total (e : Ext) (c : Cfg) (h : ValidInput e c) :
    construct Gen.Validate.spec Gen.Ctor.wiring Gen.Validate.wrapped c = .accept ∧
    glueTotal e Gen.CtorPath.uses (glueCfg c) = true := by
  obtain ⟨hL, hT, hW⟩ := validInput_listed e c h
  have hacc := (C18_construct_accept_iff c).mpr ⟨hL, hT, hW⟩
  exact ⟨hacc, C18_glue_total_documented e _ (validInput_documented e c h hacc)⟩

example : ValidInput plainExt exampleCfg :=
  ⟨fun f => by cases f <;> decide +kernel, by decide +kernel, by decide +kernel⟩

/-- a non-default one: boundary lists, dynamic mode, integer pool, cluster cap, cadence 3, seed, blobs dtype, `rwm`/`syst` -/
def exampleCfg2 : Cfg :=
  ((((((((((exampleCfg.set .periodic (.list [.int 0])).set .reflective (.list [.int 2, .int 1])).set .volume_variation
    (.float (.fin (1 / 2)))).set .pool (.int 2)).set .n_max_clusters (.int 2)).set .cluster_every (.int 3)).set .random_state
    (.int 7)).set .blobs_dtype (.str "f8")).set .sample (.str "rwm")).set .resample (.str "syst")).set .n_steps (.int 2)

theorem exampleCfg2_valid : ValidInput ⟨false, true⟩ exampleCfg2 :=
  ⟨fun f => by cases f <;> decide +kernel, by decide +kernel, by decide +kernel⟩

example : ValidInput ⟨false, true⟩ exampleCfg2 := exampleCfg2_valid

example : glueTotal ⟨false, true⟩ Gen.CtorPath.uses (glueCfg exampleCfg2) = true :=
  (C18_valid_input_accepted_and_total _ _ exampleCfg2_valid).2

-- hypotheses of `C18_stored_accTy` / `C18_glue_total_accepted` are satisfiable: the default configuration is accepted
example : Typed accTy plainExt (glueCfg exampleCfg) := C18_stored_accTy _ _ (by decide +kernel)
example : ∀ u ∈ Gen.CtorPath.uses, gapFields.contains u.opt = false → useOK plainExt (glueCfg exampleCfg) u = true :=
  C18_glue_total_accepted _ _ (by decide +kernel)
-- … and of `C18_wired_uses_defined`: with a cluster cap the clusterer is wired, and its computed values are consumed safely
example : ∃ w, wire Gen.Ctor.wiring (exampleCfg.set .n_max_clusters (.int 2)) = .ok w ∧
    ∀ u ∈ Gen.CtorPath.wiredUses, sem plainExt (exampleCfg.set .n_max_clusters (.int 2)) (ctxOf u.2.2) (slotVal w u.2.1) = .ok := by
  obtain ⟨w, hw⟩ := (wire_ok_iff (exampleCfg.set .n_max_clusters (.int 2)) (by decide +kernel)).mpr
    fun _ => ⟨by decide +kernel, .fin 1, rfl, by decide +kernel⟩
  exact ⟨w, hw, C18_wired_uses_defined _ _ w hw (by decide +kernel) (by decide +kernel)⟩

-- the abstract interpretation is not vacuous: a reachable, defined use; an unreachable one; an undefined one
example : useSafe docTy ⟨"Trainer.run", .cluster_every, "mod:right:expr", .and (.not (.fact "warmup")) (.truthy .clustering)⟩ = true := by
  simp only [useSafe, ctxOf_resolved]
  decide +kernel
example : useSafe accTy ⟨"Trainer.run", .cluster_every, "mod:right:expr", .and (.not (.fact "warmup")) (.truthy .clustering)⟩ = false := by
  simp only [useSafe, ctxOf_resolved]
  decide +kernel
example : useSafe docTy ⟨"SamplerCore._get_distribute_func", .pool, "attr:map",
    .and (.not (.or (.isNone .pool) (.and (.isInt .pool) (.cmpK .le .pool 1)))) (.not (.and (.isInt .pool) (.cmpK .gt .pool 1)))⟩ = true := by
  simp only [useSafe, ctxOf_resolved]
  decide +kernel
-- … which needs the guard: without it `.map` on an int is an AttributeError
example : useSafe docTy ⟨"SamplerCore._get_distribute_func", .pool, "attr:map", .tt⟩ = false := by
  simp only [useSafe, ctxOf_resolved]
  decide +kernel
-- dispatch: the real names, and a name the rule rejects
example : resampleDefined (.str "syst") = true ∧ resampleDefined (.str "systematic") = false ∧ resampleDefined (.int 0) = false := by
  decide +kernel
example : runnerOf (.str "rwm") = some "RWMRunner" ∧ runnerOf (.str "tpcn") = some "TPCNRunner" := by decide +kernel

end Props.C18
