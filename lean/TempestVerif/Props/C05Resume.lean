import TempestVerif.Model.ClosedResume
import TempestVerif.Props.C05Closed
/-
  C05 for resumed / continued / extended runs (closed-loop model + the prologue of `run_sampling`, /repo aeb0399).

  Which β and history the loop starts from in each branch of the prologue (`prologue_*`, `C05_resume_start`,
  `C05_prologue_start`), and what that means for the schedule of the run that follows.
-/
namespace Props.C05
open Model.ClosedLoop Model.ClosedResume Model.Reweight

variable {P MS TS G : Type}

/-- `run(resume_state_path=…)`: β, history and iteration counter are the checkpoint's, the trainer state the sampler's own -/
theorem prologue_resume (k : Ckpt ℝ P) (g : Option G) (seed : Option G) (s : CState ℝ P TS G) :
    (prologue (some (k, g)) seed s).beta = k.beta ∧ (prologue (some (k, g)) seed s).hist = k.hist ∧
    (prologue (some (k, g)) seed s).iter = k.iter ∧ (prologue (some (k, g)) seed s).ts = s.ts := ⟨rfl, rfl, rfl, rfl⟩

/-- `run()` without a path on a sampler that holds history (after `load_state()`, or after a finished run): NOTHING is reset -/
theorem prologue_continue (seed : Option G) (s : CState ℝ P TS G) (hne : s.hist ≠ []) : prologue none seed s = s := by
  have : s.hist.length > 0 := List.length_pos_of_ne_nil hne
  simp [prologue, this]

/-- `run()` on a sampler without history: `_initialize_fresh` -/
theorem prologue_fresh (seed : Option G) (s : CState ℝ P TS G) (he : s.hist = []) :
    (prologue none seed s).beta = 0 ∧ (prologue none seed s).hist = [] ∧ (prologue none seed s).iter = 0 := by
  simp [prologue, he, fresh]

/-- C10's `startState` (the prologue inside `Model.ClosedLoop.runSampling`) is this prologue without a path and without reseeding -/
theorem prologue_eq_startState (s : CState ℝ P TS G) : prologue none none s = startState s := by
  unfold prologue startState fresh
  cases h : s.hist with
  | nil => simp
  | cons b bs => simp

/-- the resume branch: the prologue of a checkpoint of a start state is a start state with the checkpoint's β and history -/
theorem C05_resume_start (a : CState ℝ P TS G) (ha : Start a) (g : Option G) (seed : Option G) (s : CState ℝ P TS G) :
    Start (prologue (some (checkpoint a, g)) seed s) ∧ (prologue (some (checkpoint a, g)) seed s).beta = a.beta ∧
    (prologue (some (checkpoint a, g)) seed s).hist = a.hist := ⟨ha, rfl, rfl⟩

/-- the two path-less branches (fresh, continued) keep start states -/
theorem C05_prologue_start (seed : Option G) (s : CState ℝ P TS G) (hs : Start s) : Start (prologue none seed s) := by
  by_cases he : s.hist = []
  · obtain ⟨h1, h2, _⟩ := prologue_fresh seed s he
    exact ⟨by rw [h1], by rw [h1]; norm_num, fun _ => h1⟩
  · rw [prologue_continue seed s he]; exact hs

/-- **Interrupted and resumed.**  Run A (any world, configuration, start state) reached the loop-top state `a = trA[j]` — what the
    `save_every` checkpoint written there holds.  Run B is `run(resume_state_path=…)` of that checkpoint on ANY sampler object
    (its own trainer state and stream position; even another world / configuration): every β of run B lies in `[a.beta, 1]`, the
    sequence never decreases, so A's schedule up to the checkpoint followed by B's schedule is non-decreasing; B's first
    reweighting step starts from `β_prev = a.beta`. -/
theorem C05_resume_schedule (WA WB : World ℝ P MS TS G) (cA cB : CCfg ℝ) (fA fB : Nat) (s0 sfA : CState ℝ P TS G)
    (trA : List (CState ℝ P TS G)) (osA : List (CIterOut ℝ P)) (hA : runLoop WA cA fA s0 = some (sfA, trA, osA)) (h0 : Start s0)
    (j : Nat) (a : CState ℝ P TS G) (ha : trA[j]? = some a)
    (g : Option G) (seed : Option G) (sB sfB : CState ℝ P TS G) (trB : List (CState ℝ P TS G)) (osB : List (CIterOut ℝ P))
    (hB : runLoop WB cB fB (prologue (some (checkpoint a, g)) seed sB) = some (sfB, trB, osB)) :
    (∀ o ∈ osB, a.beta ≤ o.beta ∧ o.beta ≤ 1) ∧
    (∀ k x y, osB[k]? = some x → osB[k+1]? = some y → x.beta ≤ y.beta) ∧
    (∀ oa ∈ osA.take j, ∀ ob ∈ osB, oa.beta ≤ ob.beta) ∧
    (∃ b0, trB[0]? = some b0 ∧ b0.beta = a.beta ∧ b0.hist = a.hist) := by
  -- along run A every loop-top state is a start state whose β is at least every β recorded before it
  obtain ⟨hsa, hpast⟩ := (Lemmas.ClosedLoop.runLoop_at WA cA fA s0 sfA trA osA hA
    (fun k a => Start a ∧ ∀ i o, i < k → osA[i]? = some o → o.beta ≤ a.beta)
    ⟨h0, fun i o hi => absurd hi (Nat.not_lt_zero i)⟩
    (fun k x x' o ho ⟨hs, hp⟩ hi => by
      obtain ⟨s1, _, s3, _, s5, _⟩ := C05_cl_step WA cA x x' o hi hs
      refine ⟨s5, fun i o' hik ho' => ?_⟩
      rcases Nat.lt_succ_iff_lt_or_eq.mp hik with hik | rfl
      · exact le_trans (hp i o' hik ho') (s3 ▸ s1)
      · rw [ho] at ho'; cases ho'; exact s3.ge)).2.2.2.1 j a ha
  obtain ⟨hst, hb, hh⟩ := C05_resume_start a hsa g seed sB
  obtain ⟨b1, b2, _⟩ := C05_cl_schedule_from WB cB fB _ sfB trB osB hB hst
  rw [hb] at b1
  refine ⟨b1, b2, fun oa hoa ob hob => ?_, ⟨_, Lemmas.ClosedLoop.runLoop_first WB cB fB _ sfB trB osB hB, hb, hh⟩⟩
  obtain ⟨i, hi, rfl⟩ := List.getElem_of_mem hoa
  have hi' : i < j ∧ i < osA.length := by simpa using hi
  have hget : osA[i]? = some (osA.take j)[i] := by
    rw [List.getElem_take]; exact List.getElem?_eq_getElem hi'.2
  exact le_trans (hpast i _ hi'.1 hget) (b1 ob hob).1

/-- **`load_state(path)` followed by `run()`, or a second `run()` on a finished sampler** (the `elif` branch added in /repo
    aeb0399): the loop starts from the loaded / reached state itself, so the schedule continues from its β. -/
theorem C05_continue_schedule (W : World ℝ P MS TS G) (c : CCfg ℝ) (fuel : Nat) (seed : Option G) (s sf : CState ℝ P TS G)
    (tr : List (CState ℝ P TS G)) (os : List (CIterOut ℝ P)) (hs : Start s) (hne : s.hist ≠ [])
    (h : runLoop W c fuel (prologue none seed s) = some (sf, tr, os)) :
    tr[0]? = some s ∧ (∀ o ∈ os, s.beta ≤ o.beta ∧ o.beta ≤ 1) ∧
    (∀ k x y, os[k]? = some x → os[k+1]? = some y → x.beta ≤ y.beta) := by
  rw [prologue_continue seed s hne] at h
  obtain ⟨b1, b2, _⟩ := C05_cl_schedule_from W c fuel s sf tr os h hs
  exact ⟨Lemmas.ClosedLoop.runLoop_first W c fuel s sf tr os h, b1, b2⟩

/-- what the `elif` branch repairs (finding F34): the two-way prologue sent `load_state(); run()` through `_initialize_fresh`,
    which resets β to 0 while the loaded history stays — the schedule of the continued run would restart below the temperatures
    already recorded in the history. -/
theorem C05_old_prologue_restarts (seed : Option G) (s : CState ℝ P TS G) :
    (prologueOld none seed s).beta = 0 ∧ (prologueOld none seed s).hist = s.hist := by
  simp [prologueOld, fresh]

/-- same trainer state and stream position ⇒ the resumed run is exactly the remainder of the uninterrupted one -/
theorem C05_resume_exact (W : World ℝ P MS TS G) (c : CCfg ℝ) (fuel : Nat) (seed : Option G) (a sB : CState ℝ P TS G)
    (hts : sB.ts = a.ts) :
    runLoop W c fuel (prologue (some (checkpoint a, some a.g)) seed sB) = runLoop W c fuel a := by
  -- loading its own checkpoint with its own stream position gives `a` back, up to the trainer state
  have : prologue (some (checkpoint a, some a.g)) seed sB = { a with ts := sB.ts } := rfl
  rw [this, hts]

end Props.C05
