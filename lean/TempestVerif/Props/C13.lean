import TempestVerif.Model.Dispatch
import TempestVerif.Model.Steps
import TempestVerif.Lemmas.StopRule
import TempestVerif.Gen.Dispatch
import TempestVerif.Props.C13Source
/-
  C13 — likelihood evaluation strategy is transparent; calls are counted exactly.

  Dispatch on `Model.Dispatch`, the model of `_log_like` in which a pool is `none`, a natural number or an object that has `map`,
  with the two hypotheses explicit: a vectorised likelihood is pointwise the scalar one (`hvec : Lvec = map L`) and a pool's
  `map` returns results in input order (`hpool : pmap = map`, whatever the completion order).  `Model.LLEval`
  (Props/C13LogLike.lean) models the same function for every pool VALUE (negative ints, bools, objects without `map`) and with a
  pool whose tasks complete in any order; there `hpool` is a theorem about that pool, `poolMap_eq_map`, not a hypothesis.
  Then the op-list accounting (`calls = evaluated` over any sequence of warm-up and mutation operations) and the adaptive
  stopping rule: one mutation runs between `min(n_steps, n_max)·d` and `max 1 (n_max·d)` accept/reject steps.
-/
namespace Props.C13
open Model.Dispatch
export Model.Dispatch (Acc)   -- the accounting record, not core's accessibility predicate `_root_.Acc`

/-- the branch table regenerated from `_log_like` -/
def ll := Gen.Dispatch.logLike
/-- the branch table regenerated from `_get_distribute_func` -/
def dist := Gen.Dispatch.distribute

theorem C13_dispatch_table (c : Cfg) :
    logLikeHow ll dist c = some (if c.vectorize then .direct else
      match c.pool with
      | .none => .map
      | .int k => if k ≤ 1 then .map else .poolMap
      | .obj => .poolMap) := by
  -- `Model.Dispatch` is the image of the source's dispatch (`C13_src_logLikeHow_cfg`), whose closed form holds no string
  rw [ll, dist, Src.C13_src_logLikeHow_cfg, Src.logLikeHow_closed]
  rcases c with ⟨v, p⟩
  cases v
  · cases p with
    | int k => by_cases h : k ≤ 1 <;> simp [Src.embedPool, Src.forgetHow, h]
    | _ => rfl
  · rfl

/-- dispatch succeeds for EVERY pool setting, including the integers 0 and 1 -/
theorem C13_dispatch_total (c : Cfg) : logLikeHow ll dist c ≠ none := by
  rw [C13_dispatch_table]; exact Option.some_ne_none _

variable {X Y : Type}

/-- C13 (transparency): under the two hypotheses the algorithm receives the same values whatever the strategy -/
theorem C13_dispatch (L : X → Y) (Lvec : List X → List Y) (pmap : (X → Y) → List X → List Y)
    (hvec : ∀ xs, Lvec xs = xs.map L) (hpool : ∀ f xs, pmap f xs = xs.map f)
    (c : Cfg) (xs : List X) :
    ∃ h, logLikeHow ll dist c = some h ∧ evaluate L Lvec pmap xs h = xs.map L := by
  refine ⟨_, C13_dispatch_table c, ?_⟩
  generalize (if c.vectorize then How.direct else _) = h
  cases h
  exacts [hvec xs, rfl, hpool L xs]

/-- two configurations therefore feed identical values to the (deterministic) pipeline -/
theorem C13_transparent (L : X → Y) (Lvec : List X → List Y) (pmap : (X → Y) → List X → List Y)
    (hvec : ∀ xs, Lvec xs = xs.map L) (hpool : ∀ f xs, pmap f xs = xs.map f)
    (c c' : Cfg) (xs : List X) (h h' : How)
    (e : logLikeHow ll dist c = some h) (e' : logLikeHow ll dist c' = some h') :
    evaluate L Lvec pmap xs h = evaluate L Lvec pmap xs h' := by
  obtain ⟨g, eg, vg⟩ := C13_dispatch L Lvec pmap hvec hpool c xs
  obtain ⟨g', eg', vg'⟩ := C13_dispatch L Lvec pmap hvec hpool c' xs
  cases e.symm.trans eg; cases e'.symm.trans eg'
  exact vg.trans vg'.symm

/-- one `Op.warmup` = ONE evaluated warm-up batch (the first draw or a redraw of the `while np.all(np.isinf(logl))` loop): it adds
    `warmupDrawnStep` to `n_drawn`, which is what the site finally adds to `calls` (obligation below).  So the field
    `warmupIncrement` holds the increment PER BATCH here; in `runTable` (Props/C13Run.lean), which follows one whole call of
    `Mutator.run`, the same field holds `Gen.Dispatch.warmupIncrement`, the local `n_drawn` summed over the batches of that call -/
def callTable : CallTable :=
  ⟨Gen.Dispatch.warmupDrawnStep, Gen.Dispatch.warmupBatch, Gen.Dispatch.stepIncrement, Gen.Dispatch.stepBatch⟩

/-- OBLIGATION on the regenerated accounting: at each site the counter advances by the size of the batch
    evaluated there; the per-run counter starts at 0, is returned by `run`, and is what `Mutator.run` adds;
    one step evaluates the likelihood exactly once -/
theorem C13_increments_match :
    callTable.warmupIncrement = callTable.warmupBatch ∧ callTable.stepIncrement = callTable.stepBatch ∧
    Gen.Dispatch.warmupIncrement = "n_drawn" ∧ Gen.Dispatch.warmupDrawnInit = Gen.Dispatch.warmupBatch ∧
    Gen.Dispatch.warmupDrawnStep = Gen.Dispatch.warmupBatch ∧
    Gen.Dispatch.mcmcIncrement = "mcmc_calls" ∧ Gen.Dispatch.nCallsInit = "0" ∧
    Gen.Dispatch.runReturnsNCalls = "1" ∧ Gen.Dispatch.stepEvaluations = "1" :=
  ⟨rfl, rfl, rfl, rfl, rfl, rfl, rfl, rfl, rfl⟩

theorem stepAcc_inv (t : CallTable) (h1 : t.warmupIncrement = t.warmupBatch) (h2 : t.stepIncrement = t.stepBatch)
    (e : Env) (a a' : Acc) (o : Op) (ha : a.calls = a.evaluated) (h : stepAcc t e a o = some a') :
    a'.calls = a'.evaluated := by
  cases o <;>
  · simp only [stepAcc, h1, h2, Option.bind_eq_bind, Option.bind_eq_some_iff, Option.pure_def, Option.some.injEq] at h
    obtain ⟨i, hi, b, hb, rfl⟩ := h
    cases hi.symm.trans hb
    exact congrArg (· + _) ha

theorem runAcc_inv (t : CallTable) (h1 : t.warmupIncrement = t.warmupBatch) (h2 : t.stepIncrement = t.stepBatch)
    (e : Env) (ops : List Op) (a0 a : Acc) (h0 : a0.calls = a0.evaluated) (h : runAcc t e a0 ops = some a) :
    a.calls = a.evaluated := by
  induction ops generalizing a0 with
  | nil => cases h; exact h0
  | cons o os ih =>
    obtain ⟨a1, h1', h⟩ := Option.bind_eq_some_iff.mp h
    exact ih a1 (stepAcc_inv t h1 h2 e a0 a1 o h0 h1') h

/-- C13 (calls): after ANY sequence of warm-up and mutation iterations the reported number of calls equals the
    number of points at which the likelihood was evaluated -/
theorem C13_calls (e : Env) (ops : List Op) (a : Acc)
    (h : runAcc callTable e ⟨0, 0⟩ ops = some a) : a.calls = a.evaluated :=
  runAcc_inv callTable C13_increments_match.1 C13_increments_match.2.1 e ops ⟨0, 0⟩ a rfl h

theorem stepAcc_callTable (e : Env) (a : Acc) (o : Op) :
    stepAcc callTable e a o = some (match o with
      | .warmup => ⟨a.calls + e.nParticles, a.evaluated + e.nParticles⟩
      | .mcmc s => ⟨a.calls + s * e.nWalkers, a.evaluated + s * e.nWalkers⟩) := by
  cases o <;> simp [stepAcc, callTable, Gen.Dispatch.warmupDrawnStep, Gen.Dispatch.warmupBatch, Gen.Dispatch.stepIncrement,
    Gen.Dispatch.stepBatch, exprSize]

/-- the accounting never gets stuck on the regenerated table (both size expressions are known names) -/
theorem C13_calls_total (e : Env) (ops : List Op) : ∃ a, runAcc callTable e ⟨0, 0⟩ ops = some a := by
  generalize (⟨0, 0⟩ : Acc) = a0
  induction ops generalizing a0 with
  | nil => exact ⟨a0, rfl⟩
  | cons o os ih => rw [runAcc, stepAcc_callTable]; exact ih _

/-! ### how many batches one mutation evaluates: the adaptive stopping rule -/
open Model.Steps

theorem loopSteps_spec {nSteps nMax d : Nat} {s0 : ℝ} {obs : Nat → ℝ × ℝ} {fuel k0 : Nat}
    (hfuel : max 1 (nMax * d) ≤ k0 + fuel) (hk0 : k0 < max 1 (nMax * d)) :
    ∃ k, loopSteps nSteps nMax d s0 obs fuel k0 = some k ∧ k0 < k ∧ k ≤ max 1 (nMax * d) ∧
      converged nSteps nMax d k (obs k).1 (obs k).2 s0 = true := by
  induction fuel generalizing k0 with
  | zero => exact absurd hfuel (Nat.not_le.mpr hk0)
  | succ fuel ih =>
    simp only [loopSteps]
    split
    · next hc => exact ⟨_, rfl, Nat.lt_succ_self _, hk0, hc⟩
    · next hc =>
      obtain ⟨k, hk, hlt, hcap, hcv⟩ := ih (by rwa [Nat.add_assoc, Nat.add_comm 1])
        (Nat.lt_of_not_le fun hge => hc (converged_of_cap ((Nat.le_max_right ..).trans hge)))
      exact ⟨k, hk, Nat.lt_of_succ_lt hlt, hcap, hcv⟩

/-- C13 (steps): whatever the acceptance rates and step sizes observed along the way, the mutation loop stops after at most
    `max 1 (n_max·d)` accept/reject steps and not before `min(n_steps·d, n_max·d)` — so one mutation adds between
    `min(n_steps, n_max)·d·n_walkers` and `max 1 (n_max·d)·n_walkers` to the call counter.  (Of the final disjunction the first
    alternative always holds: `loopSteps_spec`, `Model.Steps.lo_of_converged`.) -/
theorem C13_steps_bounded (nSteps nMax d : Nat) (s0 : ℝ) (obs : Nat → ℝ × ℝ) (fuel k0 : Nat)
    (hfuel : max 1 (nMax * d) ≤ k0 + fuel) (hk0 : k0 < max 1 (nMax * d)) :
    ∃ k, loopSteps nSteps nMax d s0 obs fuel k0 = some k ∧ k0 < k ∧ k ≤ max 1 (nMax * d) ∧
      (min (nSteps * d) (nMax * d) ≤ k ∨ k = k0 + 1) := by
  obtain ⟨k, hk, hlt, hcap, hc⟩ := loopSteps_spec (nSteps := nSteps) (s0 := s0) (obs := obs) hfuel hk0
  exact ⟨k, hk, hlt, hcap, Or.inl (lo_of_converged hc)⟩

/-- C13 (steps), from the start of a mutation: the loop runs `k` accept/reject steps with
    `min(n_steps·d, n_max·d) ≤ k ≤ max 1 (n_max·d)`, for ANY sequence of observed acceptance rates and step sizes -/
theorem C13_steps_bounded_from_start (nSteps nMax d : Nat) (s0 : ℝ) (obs : Nat → ℝ × ℝ) (fuel : Nat)
    (hfuel : max 1 (nMax * d) ≤ fuel) :
    ∃ k, loopSteps nSteps nMax d s0 obs fuel 0 = some k ∧ 1 ≤ k ∧ k ≤ max 1 (nMax * d) ∧ min (nSteps * d) (nMax * d) ≤ k := by
  obtain ⟨k, hk, hlt, hcap, hc⟩ := loopSteps_spec (nSteps := nSteps) (s0 := s0) (obs := obs) (fuel := fuel) (k0 := 0)
    (by rwa [Nat.zero_add]) (Nat.lt_of_lt_of_le Nat.one_pos (Nat.le_max_left 1 _))
  exact ⟨k, hk, hlt, hcap, lo_of_converged hc⟩

example : Model.Steps.loopSteps (α := ℝ) 1 2 2 1 (fun _ => (1, 1)) 10 0 = some 2 := by
  have h : adaptiveRaw (α := ℝ) 1 2 2 1 1 1 = 2 := by norm_num [adaptiveRaw, ScReal.max_def, ScReal.min_def]
  have h1 : converged (α := ℝ) 1 2 2 1 1 1 1 = false :=
    Bool.eq_false_iff.mpr fun hc => absurd (lo_of_converged hc) (by decide)
  have h2 : converged (α := ℝ) 1 2 2 2 1 1 1 = true := by
    rw [converged_iff, h]; norm_num
  simp only [loopSteps, h1, h2]; rfl

example : logLikeHow ll dist ⟨false, .int 1⟩ = some .map ∧ logLikeHow ll dist ⟨false, .int 4⟩ = some .poolMap ∧
    logLikeHow ll dist ⟨true, .obj⟩ = some .direct ∧ logLikeHow ll dist ⟨false, .none⟩ = some .map := by
  simp only [C13_dispatch_table]; decide
example : runAcc callTable ⟨32, 32⟩ ⟨0, 0⟩ [.warmup, .warmup, .mcmc 3, .mcmc 2] = some ⟨224, 224⟩ := by
  simp only [runAcc, stepAcc_callTable, Option.bind_some]

end Props.C13
