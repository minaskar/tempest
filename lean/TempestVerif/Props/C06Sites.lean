import TempestVerif.Props.C06X
import TempestVerif.Props.C20Sites
import TempestVerif.Props.C06Fp
/-
  C06 — the law at the call sites, from what the callers really hand over.

  `Model.TrimSites.weightsAfterTrainer` (C20) is the array `execute_iteration` passes on to `resampler.run` after
  `trainer.run(weights)`; `Model.ResampleX.weightsAtResampler` (C06) is what the resampler model is fed.  Over ℝ they are the
  same vector, so `C06_iteration_syst_law` / `C06_iteration_syst_unbiased` / `C06_iteration_mult_valid` speak about the weights
  C20 proves the Trainer leaves behind (`C20_weights_after_trainer`).
-/
namespace Props.C06
open Model.Resample Model.ResampleX

/-- the Reweighter's `weights / np.sum(weights)` handed through C20's `Trainer.run` model arrives at the resampler as
    C06's `weightsAtResampler` — in the warm-up branch (`beta == 0`, untouched) and in the annealing branch (normalised
    once more in place by `trim_weights`) -/
theorem C06_trainer_hands_over {σ : Type} (u : List σ) (w : List ℝ) (e : ℝ) (bins : Nat)
    (hw0 : ∀ x ∈ w, 0 ≤ x) (hs : 0 < w.sum) (hl : u.length = w.length) (hb : 0 < bins) :
    Model.TrimSites.weightsAfterTrainer true u (normaliseNp w) e bins = some (weightsAtResampler true w) ∧
    Model.TrimSites.weightsAfterTrainer false u (normaliseNp w) e bins = some (weightsAtResampler false w) := by
  have h1 := normaliseNp_sum w hs.ne'
  have hnn := normaliseNp_nonneg w hw0 hs
  have hl' : u.length = (normaliseNp w).length := by rw [normaliseNp_length]; exact hl
  obtain ⟨ht, hf, _, _⟩ := Props.C20.C20_weights_after_trainer u (normaliseNp w) e bins hnn (by rw [h1]; norm_num) hl' hb
  refine ⟨?_, ?_⟩
  · rw [ht]; simp [weightsAtResampler]
  · rw [hf, (weightsAtResampler_real false w hw0 hs).1, h1]
    simp [normaliseNp_real]

/-- non-vacuity of `C06_trainer_hands_over`: unnormalised weights `[2, 1, 1]`, three pool rows, the sampler's trimming constants -/
example : Model.TrimSites.weightsAfterTrainer false ["a", "b", "c"] (normaliseNp ([2, 1, 1] : List ℝ)) (99 / 100) 1000
    = some (weightsAtResampler false ([2, 1, 1] : List ℝ)) :=
  (C06_trainer_hands_over ["a", "b", "c"] [2, 1, 1] (99 / 100) 1000
    example_nonneg_211 (by norm_num) (by simp) (by norm_num)).2

/-! ### from ANY vector of log-weights: non-negativity and a positive total are facts, not hypotheses -/

/-- **one iteration of a run, systematic scheme, from the log-weights**: `w = exp(logw − max logw)` (what
    `_compute_metric_and_weights` returns, for ANY non-empty log-weight vector `x :: xs`) is handed through
    `_finalize_iteration`, `Trainer.run` and `Resampler.run`; the indices gathered with obey the literal floor/ceil law for
    `w/Σw` and zero weights are not selected — no hypothesis on the weights is left (`C20_expShift_valid` discharges it). -/
theorem C06_iteration_from_logw (x : ℝ) (xs : List ℝ) (n : ℕ) (u0 : ℝ) (us : List ℝ) (idx : List ℕ) (hn : 1 ≤ n)
    (h0 : 0 ≤ u0) (h1 : u0 < 1)
    (h : iterationResample false Scheme.syst n (Model.TrimSites.expShift x xs) u0 us = RunResult.indices idx) :
    let w := Model.TrimSites.expShift x xs
    idx.length = n ∧ (∀ r ∈ idx, r < w.length) ∧ idx.Pairwise (· ≤ ·) ∧
    ∀ (j : ℕ) (hj : j < w.length),
      ((idx.count j : ℤ) = ⌊n * (w[j] / w.sum)⌋ ∨ (idx.count j : ℤ) = ⌈n * (w[j] / w.sum)⌉) ∧
      (w[j] = 0 → idx.count j = 0) := by
  intro w
  obtain ⟨hpos, _, hsum, _⟩ := Props.C20.C20_expShift_valid x xs
  exact C06_iteration_syst_law n w u0 us idx hn (fun y hy => (hpos y hy).1.le) (by linarith) h0 h1 h

/-- **`posterior(resample=True, trim_importance_weights=False)` from the log-weights**: the `len` indices obey the literal law -/
theorem C06_posterior_from_logw (x : ℝ) (xs : List ℝ) (u0 : ℝ) (idx : List ℕ) (h0 : 0 ≤ u0) (h1 : u0 < 1)
    (h : posteriorResampleNoTrim (Model.TrimSites.expShift x xs) u0 = some idx) :
    let w := Model.TrimSites.expShift x xs
    idx.length = w.length ∧ (∀ r ∈ idx, r < w.length) ∧ idx.Pairwise (· ≤ ·) ∧
    ∀ (j : ℕ) (hj : j < w.length),
      (idx.count j : ℤ) = ⌊w.length * (w[j] / w.sum)⌋ ∨ (idx.count j : ℤ) = ⌈w.length * (w[j] / w.sum)⌉ := by
  intro w
  obtain ⟨hpos, _, hsum, _⟩ := Props.C20.C20_expShift_valid x xs
  exact C06_posterior_law_notrim w u0 idx (fun y hy => (hpos y hy).1.le) (by linarith) h0 h1 h

/-- non-vacuity of `C06_posterior_from_logw`: for every log-weight vector and every offset the run exists (the routine never
    fails on a non-empty vector), so its hypothesis `h` is met by `idx :=` the result -/
example (x : ℝ) (xs : List ℝ) (u0 : ℝ) : ∃ idx, posteriorResampleNoTrim (Model.TrimSites.expShift x xs) u0 = some idx := by
  have hne : normaliseNp (Model.TrimSites.expShift x xs) ≠ [] := by
    intro e
    have := congrArg List.length e
    rw [normaliseNp_length, (Props.C20.C20_expShift_valid x xs).2.2.2] at this
    simp at this
  obtain ⟨c0, t, _, h2⟩ := systematicWith_some (npSum (normaliseNp (Model.TrimSites.expShift x xs)))
    (normaliseNp (Model.TrimSites.expShift x xs)).length (normaliseNp (Model.TrimSites.expShift x xs)) u0 hne
  exact ⟨_, h2⟩

/-! ### `Resampler.run` in rounded arithmetic -/

/-- **`Resampler.run`, systematic scheme, rounded (floating-point) arithmetic** — with `np.sum` inside the model (its
    pairwise rounding errors only enter through which branch of the renormalisation is taken): whenever the inputs are floats
    and the effective weights are non-negative, the number of copies of `j` is within `1 + n·(|S − 1| + 6·eps + 4·m·eps·S)` of
    `n·v_j` (`v` the effective weights, `S` their exact sum), and a zero-weight particle is not selected (any index). -/
theorem C06_fp_resampler_run (R : Fp.Rnd) (n : ℕ) (w : List (Fp.Fl R)) (u0 : Fp.Fl R) (us : List (Fp.Fl R)) (idx : List ℕ)
    (hn : 1 ≤ n) (heps : R.eps ≤ 1 / 4) (hm : (w.length : ℝ) * R.eps ≤ 1 / 2)
    (hv0 : ∀ x ∈ renorm (npSum w) w, 0 ≤ Fp.toR x) (hrep : ∀ x ∈ w, R.rnd (Fp.toR x) = Fp.toR x)
    (h0 : 0 ≤ Fp.toR u0) (h1 : Fp.toR u0 < 1)
    (h : resamplerRunX false Scheme.syst n w u0 us = RunResult.indices idx) :
    (∀ (j : ℕ) (hj : j < (renorm (npSum w) w).length),
      |((idx.count j : ℕ) : ℝ) - n * Fp.toR (renorm (npSum w) w)[j]|
        < 1 + n * (|Fp.rsum (renorm (npSum w) w) - 1| + 6 * R.eps
                    + 4 * (w.length : ℝ) * R.eps * Fp.rsum (renorm (npSum w) w))) ∧
    (∀ (j : ℕ) (hj : j < (renorm (npSum w) w).length), (∃ x ∈ renorm (npSum w) w, 0 < Fp.toR x) →
      Fp.toR (renorm (npSum w) w)[j] = 0 → idx.count j = 0) := by
  rw [resamplerRunX_eq false Scheme.syst n w u0 us (fun e => nomatch e), resamplerRun_syst_iff] at h
  have hs : systematicWith (npSum w) n w u0 = some idx := h
  have hrep' := Fp.C06_fp_renorm_rep R (npSum w) w hrep
  exact ⟨fun j hj => Fp.C06_fp_count_bound R (npSum w) n w u0 idx hn heps hm hv0 hrep' h0 h1 hs j hj,
    fun j hj hpos hz => Fp.C06_fp_zero_weight_never R (npSum w) n w u0 idx heps hv0 hrep' hpos h0 h1 hs j hj hz⟩

end Props.C06
