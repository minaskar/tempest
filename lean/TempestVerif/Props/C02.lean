import TempestVerif.Model.Pipeline
import TempestVerif.Lemmas.ScReal
import TempestVerif.Lemmas.MIS
import TempestVerif.Lemmas.PipelineEx
import TempestVerif.Props.C01
import TempestVerif.Props.C04
import TempestVerif.Props.C09
/-
  C02 — the reported log-evidence is a consistent estimate of the log marginal likelihood; errors of differently
  seeded runs are independent.                                                             **PARTIAL**

  Proved (exact arithmetic, finite state space / `Model.Pipeline` at ℝ / abstract generator of `Model.Rng`):

    the evidence estimator is unbiased under the idealisation (batch t ~ π_{β_t}, exact recorded normalisers; the log is then
    biased of order 1/N by Jensen — not quantified); what `run_sampling` reports and what each iteration records is the log mean
    unnormalised weight over the history available then; the RNG dataflow of C09 re-exported for runs (no library operation
    forgets the seed).

  NOT a theorem (named, not proved): a bound on the finite-N bias / variance of the log-evidence (adaptivity,
  estimated normalisers, self-normalisation), consistency as N → ∞, and statistical independence in the measure-
  theoretic sense (only the dataflow fact it rests on: distinct seeds are never mapped to a common stream).
-/
namespace Props.C02
open Lemmas.MIS Model.Pipeline Model.Weights Model.Reweight Model.Rng

/-! ### the evidence estimator is unbiased in the idealised setting -/

section mis
variable {Ω T : Type} [Fintype Ω] [Fintype T]

/-- mean unnormalised weight at β, averaged over the batches with their sizes, is exactly `Z_β` -/
theorem C02_evidence_unbiased (p L : Ω → ℝ) (n bt : T → ℝ) (β : ℝ)
    (hp : ∀ x, 0 ≤ p x) (hp1 : ∃ x, 0 < p x) (hL : ∀ x, 0 < L x) (hn : ∀ t, 0 ≤ n t) (hN : 0 < ∑ s, n s) :
    ∑ t, (n t / ∑ s, n s) * ∑ x, piB p L (bt t) x * misW p L n bt β x = Zf p L β :=
  Props.C01.C01_mean_weight_is_Z p L n bt β hp hp1 hL hn hN

/-- in particular at β = 1 the estimated quantity is the marginal likelihood `Σ_x p(x) L(x)`, and the reported
    number targets its logarithm -/
theorem C02_log_evidence_target (p L : Ω → ℝ) (n bt : T → ℝ)
    (hp : ∀ x, 0 ≤ p x) (hp1 : ∃ x, 0 < p x) (hL : ∀ x, 0 < L x) (hn : ∀ t, 0 ≤ n t) (hN : 0 < ∑ s, n s) :
    Real.log (∑ t, (n t / ∑ s, n s) * ∑ x, piB p L (bt t) x * misW p L n bt 1 x)
      = Real.log (∑ x, p x * L x) := by
  rw [C02_evidence_unbiased p L n bt 1 hp hp1 hL hn hN]
  simp [Zf, gam]

end mis

/-! ### what the code reports -/

/-- the number `run_sampling` reports: `log((1/N) Σ_s exp(logw_s))`, `logw` the UNNORMALISED log-weights at β = 1 of
    all `N` particles of the final history -/
theorem C02_evidence_is_log_mean_weight (s : PState ℝ) (hs : Lemmas.PipelineShift.WFS s) (hne : s.hist ≠ []) :
    finalEvidence s
      = some (Real.log ((1 / (nTotal (batches s.hist) : ℝ)) *
          (((logw (batches s.hist) 1 false).1).map Real.exp).sum)) ∧
    ((logw (batches s.hist) 1 false).1).length = nTotal (batches s.hist) := by
  have hwf := Lemmas.PipelineShift.WF_of_WFS s hs hne
  constructor
  · simp only [finalEvidence, ScReal.one_def]
    rw [Props.C04.C04_logz _ hwf 1 true, Props.C04.C04_formula _ hwf 1, List.map_map]
    rfl
  · rw [Props.C04.C04_formula _ hwf 1, List.length_map, length_flatLogl]

/-- the evidence an iteration records is the evidence functional at the iteration's OWN β over the history available
    at that iteration: `log((1/N) Σ_s exp(β ℓ_s − log mixture(ℓ_s)))` -/
theorem C02_recorded_logz_is_estimate_at_beta (cfg : PCfg ℝ) (s : PState ℝ) (t : Tape ℝ) (s1 : PState ℝ)
    (o : IterOut ℝ) (hs : Lemmas.PipelineShift.WFS s) (hne : s.hist ≠ [])
    (h : iterate cfg s t = some (s1, o)) :
    o.logzRw = oracleZ (batches s.hist) o.beta ∧
    oracleZ (batches s.hist) o.beta = Props.C04.specLogz (batches s.hist) o.beta ∧
    (o.beta ≠ 0 → o.logz = o.logzRw) := by
  have hwf := Lemmas.PipelineShift.WF_of_WFS s hs hne
  obtain ⟨_, h2, h3⟩ := Props.C01.C01_pipeline_same_temperature cfg s t s1 o hne h
  refine ⟨h2, ?_, fun hb => ?_⟩
  · exact Lemmas.PipelineShift.oracleZ_eq _ hwf _
  · obtain ⟨_, _, _, _, _, _, h4⟩ := h3 hb
    rw [h4, h2]

/-- … and that number is what is stored with the batch and enters every later mixture denominator -/
theorem C02_committed_logz (cfg : PCfg ℝ) (s : PState ℝ) (t : Tape ℝ) (s1 : PState ℝ) (o : IterOut ℝ)
    (h : iterate cfg s t = some (s1, o)) :
    ∃ pb, s1.hist = s.hist ++ [pb] ∧ pb.b.beta = o.beta ∧ pb.b.logz = o.logz ∧ s1.logz = o.logz := by
  obtain ⟨hh, _, hz⟩ := Props.C01.C01_commit_appends_one cfg s t s1 o h
  exact ⟨_, hh, rfl, rfl, hz⟩

/-! ### independence across seeds: the RNG dataflow it rests on (C09) -/

variable {S V : Type}

/-- A library program that never seeds keeps the dependence on the ambient generator state: distinct states before
    give distinct states after (so two differently seeded runs never merge into a common stream), and a run that
    seeds from the user's `random_state` first is a function of that value alone. -/
theorem C02_seed_independence_dataflow (g : Gen S V) (hinj : Function.Injective fun s => (g.next s).1)
    (a : Nat) (p : List Eff) (hp : hasSeed p = false) :
    Function.Injective (fun s => (exec g a p s).1) ∧
    (∀ s s', exec g a (.seedArg :: p) s = exec g a (.seedArg :: p) s') :=
  ⟨Props.C09.C09_no_reseed_injective g hinj a p hp, Props.C09.C09_seeded_run_deterministic g a p⟩

/-- the failure mode this excludes: a constant reseed anywhere in the program makes the generator state afterwards —
    and hence everything drawn afterwards — the same for ALL seeds -/
theorem C02_const_reseed_would_couple (g : Gen S V) (a : Nat) (p : List Eff) (hp : hasSeedLit p = true) (s s' : S) :
    (exec g a p s).1 = (exec g a p s').1 :=
  Props.C09.C09_const_reseed_forgets g a p hp s s'

/-- decided on the RNG effect table regenerated from /repo's source: the package contains no literal seeding of the
    global generator, directly or through an attribute it sets itself, and no RNG source outside the table -/
theorem C02_library_never_reseeds :
    Gen.Rng.sites.filter Props.C09.isConstSeed = [] ∧ Gen.Rng.literalSeedInstantiations = [] ∧
    Gen.Rng.unknownSources = [] :=
  ⟨Props.C09.C09_no_literal_seed, Props.C09.C09_no_literal_seed_via_attribute, Props.C09.C09_no_unknown_source⟩

/-- distinct seeds give distinct runs as soon as the seeded generator's first draw distinguishes them -/
theorem C02_different_seeds_differ (g : Gen S V) (a b : Nat) (p : List Eff) (s : S)
    (hfirst : (g.next (g.seed a)).2 ≠ (g.next (g.seed b)).2) :
    (exec g a (.seedArg :: .draw :: p) s).2 ≠ (exec g b (.seedArg :: .draw :: p) s).2 :=
  Props.C09.C09_different_seeds_differ g a b p s hfirst

/-! ### non-vacuity -/

open Props.C01 in
example : ∑ t, (nEx t / ∑ s, nEx s) * ∑ x, piB pEx LEx (btEx t) x * misW pEx LEx nEx btEx 1 x = Zf pEx LEx 1 :=
  C02_evidence_unbiased pEx LEx nEx btEx 1 pEx_nonneg ⟨0, pEx_pos 0⟩ LEx_pos nEx_nonneg nEx_sum
open Props.C01 in
example : Real.log (∑ t, (nEx t / ∑ s, nEx s) * ∑ x, piB pEx LEx (btEx t) x * misW pEx LEx nEx btEx 1 x)
    = Real.log (5 / 3) := by
  rw [C02_log_evidence_target pEx LEx nEx btEx pEx_nonneg ⟨0, pEx_pos 0⟩ LEx_pos nEx_nonneg nEx_sum]
  congr 1
  simp [pEx, LEx, Fin.sum_univ_two]; norm_num

section pipelineEx
open Lemmas.PipelineShift.Ex

example : finalEvidence s2
      = some (Real.log ((1 / (nTotal (batches s2.hist) : ℝ)) *
          (((logw (batches s2.hist) 1 false).1).map Real.exp).sum)) ∧
    ((logw (batches s2.hist) 1 false).1).length = nTotal (batches s2.hist) :=
  C02_evidence_is_log_mean_weight s2 wfs_s2 (List.cons_ne_nil _ _)
example : nTotal (batches s2.hist) = 4 := by simp [s2, s1, batches, nTotal]
example : z1 = oracleZ (batches s1.hist) 1 ∧
    oracleZ (batches s1.hist) 1 = Props.C04.specLogz (batches s1.hist) 1 ∧ ((1 : ℝ) ≠ 0 → z1 = z1) :=
  C02_recorded_logz_is_estimate_at_beta cfgEx s1 t2 s2 _ wfs_s1 (List.cons_ne_nil _ _) it2
example : ∃ pb, s2.hist = s1.hist ++ [pb] ∧ pb.b.beta = 1 ∧ pb.b.logz = z1 ∧ s2.logz = z1 :=
  C02_committed_logz cfgEx s1 t2 s2 _ it2
end pipelineEx

/-- a generator on ℕ whose step is the successor, hence injective: it instantiates the hypothesis of
    `C02_seed_independence_dataflow` -/
def succGen : Gen Nat Nat := ⟨fun s => (s + 1, s), fun k => k⟩
example : Function.Injective (fun s => (exec succGen 7 [.draw, .draw, .draw] s).1) ∧
    (∀ s s', exec succGen 7 (.seedArg :: [.draw, .draw, .draw]) s = exec succGen 7 (.seedArg :: [.draw, .draw, .draw]) s') :=
  C02_seed_independence_dataflow succGen (by intro a b h; simpa [succGen] using h) 7 [.draw, .draw, .draw] rfl
example : (exec succGen 7 [.draw, .seedLit 42, .draw] 1).1 = (exec succGen 7 [.draw, .seedLit 42, .draw] 2).1 :=
  C02_const_reseed_would_couple succGen 7 _ rfl 1 2
example : (exec succGen 3 [.seedArg, .draw] 0).2 ≠ (exec succGen 4 [.seedArg, .draw] 0).2 :=
  C02_different_seeds_differ succGen 3 4 [] 0 (by simp [succGen])

end Props.C02
