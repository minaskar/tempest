import TempestVerif.Lemmas.WarmupR
import TempestVerif.Model.Warmup
import TempestVerif.Model.PipelineR
import TempestVerif.Gen.WarmupSrc
import TempestVerif.Props.C11Pipeline
/-
  C11 — the executable warm-up models are built from the expressions that are in the beta == 0 branch of /repo's
  `tempest/steps/mutate.py: Mutator.run` (as of /repo 959029e: prior draw, redraw loop with its cap, replacement of the
  −inf rows, evidence correction).

  `Gen/WarmupSrc.lean` is regenerated from the source on every run of the check (translator G19): the tests, counters, path
  conditions, index vectors and values of the branch, each compiled to a term over `Nat` (counters), `List Bool` (the mask
  `np.isinf(logl)`), `List Nat` (index vectors) and the scalar interface `Sc α` / `ScT α`; plus tables of every side effect in
  program order with its path condition.  A change of a literal, comparison, operator, operand, mask, `np.all`/`np.any`, path
  condition or side effect in the source changes a generated term or table and breaks the theorem named after it.

  The theorems `C11_src_*` say that `Model.WarmupR.drawLoop / draw`, `Model.Warmup.batchZR` (what the driver command `warmR.Q`
  of `Drv/C11.lean` executes), `Model.PipelineR.hasFin / warmupL` (what `warmR.rep` executes) and the test that sends
  `Model.PipelineR.iterateL` into the branch ARE those terms — for EVERY scalar type, so also at `Float` and `Rat` (what the
  driver executes) and at `ℝ` (where `Props/C11*.lean` reason).  Where the model and the source agree in value but not in
  form (the model counts finite draws, `nfin < n`, the source tests a mask, `np.any(mask)`; the model's inner test is "there
  is a finite row to copy from", the source's "there is a row to overwrite") the equality is PROVED here from list
  combinatorics alone (no fact about the scalars is used anywhere in this file); everything else is `rfl`.

  A generated term takes as arguments the names the branch can read at that point (`n d nd`, after the loop also `rows calls`,
  and the mask `inf`) whether or not it uses them, so the theorems below quantify over all of them.
-/

namespace Props.C11.Src
open Model.WarmupR Model.Warmup Model.Pipeline Model.PipelineR Model.Records Model.Weights Model.Resample Model.Ess
open Gen.WarmupSrc

/-! ### the mask `np.isinf(logl)` of a block of the model, and counting facts about it (lists only, no scalars) -/

/-- `np.isinf(logl)` on the model's representation of a block's log-likelihoods (`none` = −inf) -/
def infMask {α : Type} (l : List (Option α)) : List Bool := l.map Option.isNone

theorem infMask_length {α : Type} (l : List (Option α)) : (infMask l).length = l.length := by simp [infMask]

theorem npAll_infMask {α : Type} (l : List (Option α)) : npAll (infMask l) = !decide (0 < countSome l) := by
  induction l with
  | nil => rfl
  | cons x xs ih =>
    cases x with
    | none => exact ih
    | some v => simp [npAll, infMask, countSome]

theorem map_getD_range (m : List Bool) : (List.range m.length).map (fun i => (m[i]?).getD false) = m := by
  apply List.ext_getElem
  · simp
  · intro i h1 h2
    simp at h1
    simp [h1]

/-- `len(np.arange(len(mask))[mask]) = np.sum(mask)` -/
theorem whereIdx_length (m : List Bool) : (whereIdx m.length m).length = m.count true := by
  unfold whereIdx
  rw [← List.countP_eq_length_filter]
  conv_rhs => rw [← map_getD_range m]
  rw [List.count, List.countP_map]
  apply List.countP_congr
  intro i _
  simp

/-- `all_idx[np.isinf(logl)]` is the index list `Model.Pipeline.warmup` scatters to (`Props.C11.infIdx`) -/
theorem whereIdx_infMask {α : Type} (l : List (Option α)) : whereIdx l.length (infMask l) = Props.C11.infIdx l := by
  unfold whereIdx infMask Props.C11.infIdx
  apply List.filter_congr
  intro i hi
  have hi' : i < l.length := List.mem_range.mp hi
  simp [hi']

/-- `len(all_idx[~np.isinf(logl)])` is the model's count of finite draws -/
theorem count_finite {α : Type} (l : List (Option α)) :
    (whereIdx l.length (maskNot (infMask l))).length = countSome l := by
  have := whereIdx_length (maskNot (infMask l))
  simp only [maskNot, infMask, List.length_map] at this
  simp only [maskNot, infMask]
  rw [this, List.count, List.countP_map, List.countP_map, countSome]
  apply List.countP_congr
  intro x _
  cases x <;> simp

/-- `finite_idx = all_idx[~np.isinf(logl)]`: exactly the positions holding a finite draw -/
theorem mem_finite {α : Type} (l : List (Option α)) (p : Nat) :
    p ∈ whereIdx l.length (maskNot (infMask l)) ↔ ∃ v, l[p]? = some (some v) := by
  unfold whereIdx maskNot infMask
  simp only [List.mem_filter, List.mem_range]
  constructor
  · rintro ⟨hp, h⟩
    simp [hp] at h
    cases hv : l[p] with
    | none => simp [hv] at h
    | some v => exact ⟨v, by simp [hp, hv]⟩
  · rintro ⟨v, hv⟩
    obtain ⟨hp, hv'⟩ := List.getElem?_eq_some_iff.mp hv
    exact ⟨hp, by simp [hp, hv']⟩

theorem count_not_lt_iff (m : List Bool) : List.count true (m.map (!·)) < m.length ↔ m.any id = true := by
  induction m with
  | nil => simp
  | cons b bs ih =>
    have hle : List.count true (List.map (fun x => !x) bs) ≤ bs.length := by
      simpa using List.count_le_length (a := true) (l := List.map (fun x => !x) bs)
    cases b
    · simp only [List.map_cons, Bool.not_false, List.count_cons_self, List.length_cons, Nat.add_lt_add_iff_right,
        List.any_cons, id, Bool.false_or]
      exact ih
    · simp only [List.map_cons, Bool.not_true, List.length_cons, List.any_cons, id, Bool.true_or, iff_true]
      rw [List.count_cons_of_ne (by simp)]
      omega

/-- `len(all_idx[~mask]) < len(mask)` iff `np.any(mask)` -/
theorem finite_lt_iff (m : List Bool) : (whereIdx m.length (maskNot m)).length < m.length ↔ npAny m = true := by
  have h := whereIdx_length (maskNot m)
  simp only [maskNot, List.length_map] at h
  simp only [maskNot, h, npAny]
  exact count_not_lt_iff m

/-- `np.any(np.isinf(logl))`: some draw is −inf iff fewer finite draws than rows -/
theorem npAny_infMask {α : Type} (l : List (Option α)) : npAny (infMask l) = decide (countSome l < l.length) := by
  have h := finite_lt_iff (infMask l)
  rw [infMask_length, count_finite] at h
  exact Bool.eq_iff_iff.mpr (h.symm.trans decide_eq_true_iff.symm)

/-! ### the model, written over the generated terms -/
variable {α : Type}

/-- `if beta == 0.0:` — the test that sends `Model.PipelineR.iterateL` into the warm-up branch -/
theorem C11_src_betaTest [Sc α] (b : α) : Model.Reweight.eqv b Sc.zero = betaTest b := rfl

/-- `if n_drawn >= 1000 * self.n_particles: raise`: the literal `Model.WarmupR.capFactor`, the comparison and its operands -/
theorem C11_src_capFactor (n d nd : Nat) (inf : List Bool) : capTest n d nd inf = decide (capFactor * n ≤ nd) := rfl

theorem C11_src_drawLoop_nil {β : Type} (hasFin : β → Bool) (n : Nat) (cur : β) (nd : Nat) :
    drawLoop hasFin n [] cur nd = if hasFin cur then some (cur, nd) else none := rfl

/-- one pass of the loop: the cap test (BEFORE the next draw) and the accumulation `n_drawn += self.n_particles` -/
theorem C11_src_drawLoop_cons {β : Type} (hasFin : β → Bool) (n d : Nat) (inf : List Bool) (b : β) (rest : List β) (cur : β)
    (nd : Nat) :
    drawLoop hasFin n (b :: rest) cur nd =
      if hasFin cur then some (cur, nd)
      else if capTest n d nd inf then none
      else drawLoop hasFin n rest b (nDrawnNext n d nd inf) := by
  simp only [drawLoop, capTest, nDrawnNext, capFactor, decide_eq_true_eq, ge_iff_le]
  rfl

/-- `n_drawn = self.n_particles` before the loop -/
theorem C11_src_draw {β : Type} (hasFin : β → Bool) (n d : Nat) (cur : β) (pending : List β) :
    draw hasFin n cur pending = drawLoop hasFin n pending cur (nDrawnInit n d) := rfl

/-- `while np.all(np.isinf(logl))`: the pipeline model's "the block has a finite draw" is the negation of the loop test -/
theorem C11_src_hasFin (n d nd : Nat) (b : Block α) : hasFin b = !(whileTest n d nd (infMask b.2)) := by
  simp [hasFin, whileTest, npAll_infMask]

/-- the loop of the pipeline model in the source's shape: `while <test>: if <cap>: raise; <next block>; n_drawn += n` -/
theorem C11_src_drawLoop_blocks (n d : Nat) (b : Block α) (rest : List (Block α)) (cur : Block α) (nd : Nat) :
    drawLoop hasFin n (b :: rest) cur nd =
      if whileTest n d nd (infMask cur.2) then
        (if capTest n d nd (infMask cur.2) then none else drawLoop hasFin n rest b (nDrawnNext n d nd (infMask cur.2)))
      else some (cur, nd) := by
  rw [C11_src_drawLoop_cons hasFin n d (infMask cur.2), C11_src_hasFin n d nd cur]
  cases whileTest n d nd (infMask cur.2) <;> rfl

/-- both `np.random.rand` calls draw one `(n_particles, n_dim)` block, and both blocks are made the same way -/
theorem C11_src_blocks (n d : Nat) :
    firstDrawShape n d = [n, d] ∧ nextDrawShape n d = [n, d] ∧ nextBlock = firstBlock := ⟨rfl, rfl, rfl⟩

/-- `calls = self.state.get_current("calls") + n_drawn` -/
theorem C11_src_calls (n d nd rows calls : Nat) (inf : List Bool) : callsAfter n d nd rows calls inf = calls + nd := rfl

/-- the linear-space rule `Model.Warmup.batchZR` on a block of `n` draws with mask `inf`:
    `if np.any(mask) or n_drawn > n: Z := n_finite / n_total` with `n_finite = len(all_idx[~mask])`, `n_total = n_drawn` -/
theorem C11_src_batchZR [Sc α] (h : List (Nat × α)) (d nd calls : Nat) (inf : List Bool) :
    batchZR h inf.length (choicePool inf.length d nd inf.length calls inf).length nd =
      if logzCond inf.length d nd inf.length calls inf then logzArg inf.length d nd inf.length calls inf
      else reweightZ h := by
  have h1 := finite_lt_iff inf
  unfold batchZR choicePool logzCond logzArg
  by_cases ha : npAny inf = true
  · have : (whereIdx inf.length (maskNot inf)).length < inf.length := h1.mpr ha
    simp [ha, this]
  · have h2 : ¬ (whereIdx inf.length (maskNot inf)).length < inf.length := fun hh => ha (h1.mp hh)
    have ha' : npAny inf = false := by simpa using ha
    by_cases hn : inf.length < nd
    · simp [ha', hn]
    · simp [ha', hn, h2]

/-- `logz = np.log(n_finite / n_total)`: the logarithm is applied to exactly the linear-space value -/
theorem C11_src_logzSet [ScT α] (n d nd rows calls : Nat) (inf : List Bool) (z : α) :
    logzSet n d nd rows calls inf z = ScT.log (logzArg n d nd rows calls inf) := rfl

/-- what `np.random.choice(finite_idx, size=len(infinite_idx), replace=True)` is asked for is what the hypothesis
    `Props.C11.PicksOk` of the pipeline theorems grants: as many picks as −inf rows, each a position of a finite draw -/
theorem C11_src_picksOk (n d nd calls : Nat) (l : List (Option α)) (picks : List Nat) :
    Props.C11.PicksOk l picks ↔
      (picks.length = choiceSize n d nd l.length calls (infMask l) ∧
       ∀ p ∈ picks, p ∈ choicePool n d nd l.length calls (infMask l)) := by
  unfold Props.C11.PicksOk choiceSize choicePool
  rw [whereIdx_infMask]
  exact and_congr_right fun _ => forall₂_congr fun p _ => (mem_finite l p).symm

theorem C11_src_choiceArgs : choiceArgs = ["a=finite_idx", "size=len(infinite_idx)", "replace=True", "p=None"] := rfl

/-- the rows overwritten are `infinite_idx`, under the same condition as the `np.random.choice` call, from the picked rows -/
theorem C11_src_scatter (n d nd rows calls : Nat) (inf : List Bool) :
    scatterCond n d nd rows calls inf = choiceCond n d nd rows calls inf ∧
    (scatterIdx n d nd rows calls inf).length = choiceSize n d nd rows calls inf ∧
    scatterSource = ["logl[picks]"] := ⟨rfl, rfl, rfl⟩

/-- `Model.PipelineR.warmupL` (what `warmR.rep` executes) in the source's shape: the redraw loop, then — on the KEPT block —
    `if np.any(mask) or n_drawn > n:`  [`if len(infinite_idx) > 0:` rows `infinite_idx` of u/x/logl overwritten by the picked
    rows]  `logz := np.log(len(finite_idx) / n_drawn)`; else everything is left as drawn and `logz` stays the reweighting
    step's.  (The model's inner test is "there is a finite row to copy from", the source's "there is a row to overwrite":
    they agree on every block the loop can return.) -/
theorem C11_src_warmupL [ScT α] (n d calls : Nat) (rt : RTape α) (logzRw : α) :
    warmupL n rt logzRw =
      (draw hasFin n (rt.t.drawTags, rt.t.drawL) rt.pending).map fun (kept, nd) =>
        let inf := infMask kept.2
        let rows := kept.2.length
        let pick := choiceCond n d nd rows calls inf
        let tgt := scatterIdx n d nd rows calls inf
        ((if pick then scatterFrom kept.1 tgt rt.t.picks else kept.1),
         (if pick then scatterFrom kept.2 tgt rt.t.picks else kept.2),
         (if logzCond n d nd rows calls inf then logzSet n d nd rows calls inf logzRw else logzRw),
         nd) := by
  unfold warmupL
  cases hd : draw hasFin n (rt.t.drawTags, rt.t.drawL) rt.pending with
  | none => rfl
  | some r =>
    obtain ⟨kept, nd⟩ := r
    have hfin : hasFin kept = true := (drawLoop_spec hasFin n _ _ _ kept nd hd).1
    have hpos : 0 < countSome kept.2 := by simpa [hasFin] using hfin
    simp only [Option.map_some]
    have hany := npAny_infMask kept.2
    have hcnt := count_finite kept.2
    have hidx := whereIdx_infMask kept.2
    have hpick : choiceCond n d nd kept.2.length calls (infMask kept.2) = decide (countSome kept.2 < kept.2.length) := by
      unfold choiceCond
      rw [hany, hidx]
      by_cases hc : countSome kept.2 < kept.2.length
      · have : (Props.C11.infIdx kept.2).length > 0 := List.length_pos_iff.mpr (Props.C11.infIdx_ne_nil _ hc)
        simp [hc, this]
      · simp [hc, Props.C11.infIdx_eq_nil _ hc]
    have hlz : logzCond n d nd kept.2.length calls (infMask kept.2) = decide (countSome kept.2 < kept.2.length ∨ n < nd) := by
      unfold logzCond
      rw [hany]
      by_cases hc : countSome kept.2 < kept.2.length <;> by_cases hn : n < nd <;> simp [hc, hn]
    simp only [hpick, hlz, scatterIdx, hidx, logzSet, hcnt, Props.C11.warmup_tags, Props.C11.warmup_ls, hpos, and_true,
      decide_eq_true_eq]


/-- one iteration of the pipeline model: WHICH iterations take the warm-up branch is decided by the source's test on the beta
    the reweighting step has just written, the block size handed to the loop is `n_particles`, and what the iteration reports
    as drawn (`calls` grows by it, `C11_src_calls`) is the loop's `n_drawn` -/
theorem C11_src_iterateL [ScT α] (c : PCfg α) (s : PState α) (rt : RTape α) :
    iterateL c s rt =
      (let hb := batches s.hist
       let r := Model.Reweight.run c.rw hb.isEmpty (oracleM hb) (oracleZ hb) isFin s.beta
       let w := returnedWeights r.weightsTag
       if betaTest r.beta then
         (warmupL c.rw.nPart rt r.logz).bind fun (tags, ls, lz, nd) =>
           (allSome ls).map fun l =>
             ({ hist := s.hist ++ [⟨⟨r.beta, lz, l⟩, tags⟩], beta := r.beta, logz := lz, curTags := tags, curL := l },
              ⟨⟨r.beta, r.ess, r.logz, lz, [], [], r.branch⟩, nd⟩)
       else
         let idx? := if c.syst then
             (match rt.t.resU with | [u0] => systematic c.rw.nPart w u0 | _ => none)
           else multinomial w rt.t.resU
         idx?.bind fun idx =>
           (gather? (poolTags s.hist) idx).bind fun tg =>
             (gather? (flatLogl hb) idx).map fun l =>
               let (tg', l', ms) := mcmcSteps r.beta rt.t.steps tg l
               ({ hist := s.hist ++ [⟨⟨r.beta, r.logz, l'⟩, tg'⟩], beta := r.beta, logz := r.logz, curTags := tg', curL := l' },
                ⟨⟨r.beta, r.ess, r.logz, r.logz, idx, ms, r.branch⟩, 0⟩)) := rfl

/-! ### the side effects the model was written against

  Every random draw, likelihood call, `raise`, in-place store and state write of the branch in program order, each with its
  path condition (`Ck := <test>` first; `[C0 !C1]` = under C0 and not C1).  Names are canonical (roles of a block: `u`, `x`,
  `logl`, `blobs`; `n` = `self.n_particles`, `d` = `self.n_dim`; `infinite_idx`/`finite_idx` = `np.arange(len(x))[mask]` /
  `[~mask]`; `picks` = what `np.random.choice` returned), so the tables do not depend on the local names, on temporaries, on
  helper methods or on `if c: return` versus a nested `if`.  What the model takes from them: a block is ONE
  `np.random.rand(n, d)`, the prior transform of each of its rows and ONE likelihood call on all of them
  (`Model.PipelineR.Block`); inside the loop the cap is tested BEFORE the next block is drawn; the kept block is written to the
  state with `calls + n_drawn`; `np.random.choice` is the only other random call and happens under C0 ∧ C1; whole records
  (x, u, logl and — when blobs are handled — blobs) are overwritten at the same rows from the same picks
  (`scatterFrom … infIdx picks` on tags and log-likelihoods alike); `logz` is written under C0 alone, after the replacement. -/

def expected_firstBlock : List String :=
  ["u = np.random.rand(n, d)",
   "x = np.array(rowmap(prior_transform(row), u, n))",
   "logl = log_likelihood(x)[0]",
   "blobs = log_likelihood(x)[1]"]

theorem C11_src_firstBlock : firstBlock = expected_firstBlock := rfl

def expected_preLoop : List String :=
  ["u = np.random.rand(n, d)",
   "call log_likelihood(x)"]

theorem C11_src_preLoop : preLoop = expected_preLoop := rfl

def expected_loopBody : List String :=
  ["C0 := n_drawn >= 1000 * n",
   "[C0] raise ValueError",
   "[!C0] u = np.random.rand(n, d)",
   "[!C0] call log_likelihood(x)"]

theorem C11_src_loopBody : loopBody = expected_loopBody ∧ capRaises = ["ValueError"] := ⟨rfl, rfl⟩

def expected_postLoop : List String :=
  ["C0 := np.any(np.isinf(logl)) or n_drawn > n",
   "C1 := len(infinite_idx) > 0",
   "C2 := have_blobs",
   "current['u'] := u",
   "current['x'] := x",
   "current['logl'] := logl",
   "current['blobs'] := blobs",
   "current['assignments'] := np.zeros(n, dtype=int)",
   "current['calls'] := state.get_current('calls') + n_drawn",
   "current['steps'] := 1",
   "current['acceptance'] := 1.0",
   "current['efficiency'] := 1.0",
   "[C0 C1] picks = np.random.choice(a=finite_idx, size=len(infinite_idx), replace=True, p=None)",
   "[C0 C1] x[infinite_idx] := x[picks]",
   "[C0 C1] u[infinite_idx] := u[picks]",
   "[C0 C1] logl[infinite_idx] := logl[picks]",
   "[C0 C1 C2] blobs[infinite_idx] := blobs[picks]",
   "[C0 C1] current['x'] := x",
   "[C0 C1] current['u'] := u",
   "[C0 C1] current['logl'] := logl",
   "[C0 C1 C2] current['blobs'] := blobs",
   "[C0] current['logz'] := np.log(len(finite_idx) / n_drawn)"]

theorem C11_src_postLoop : postLoop = expected_postLoop := rfl

/-- the branch ends the call: nothing of the MCMC path runs at beta = 0 -/
theorem C11_src_exit : warmupExit = ["return"] := rfl

/-! ### the theorems are about what runs: the generated terms evaluate (at `Float`, the driver's type) -/

example : (warmupL 2 (⟨⟨[0, 1], [none, none], [0], [], []⟩, [([2, 3], [some (1.0 : Float), none])]⟩ : RTape Float) 0.0).map
    (fun r => (r.1, r.2.2.2)) = some ([2, 2], 4) := by
  rw [C11_src_warmupL 2 1 0]
  decide

example : logzCond 2 1 2 2 0 [false, false] = false ∧ logzCond 2 1 4 2 0 [false, false] = true ∧
    choiceCond 2 1 4 2 0 [false, false] = false ∧ choiceCond 2 1 2 2 0 [true, false] = true ∧
    choicePool 2 1 2 2 0 [true, false] = [1] ∧ scatterIdx 2 1 2 2 0 [true, false] = [0] := by decide

end Props.C11.Src
