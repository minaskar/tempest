import TempestVerif.Lemmas.Weights
import TempestVerif.Lemmas.Rounded
import Mathlib.Analysis.SpecialFunctions.Log.Basic
import Mathlib.Analysis.SpecialFunctions.Exp
/-
  C04, clause "stay finite for finite log-likelihoods of any magnitude" — at the level of ROUNDED
  arithmetic.  The same model `Model.Weights` is instantiated at `Rd rnd` (every inexact operation
  rounded by `rnd`), for an arbitrary rounding function obeying the standard model of floating-point
  arithmetic below the overflow threshold Ω and unconstrained above it (`RoundModel`).  The theorems
  bound every returned number by an explicit expression in the input magnitudes, show that `exp`
  is only ever called on arguments ≤ 0 and `log` only on arguments ≥ 1/2 (never 0 or negative:
  no −∞ / NaN), and — because nothing is assumed of `rnd` beyond Ω — that no intermediate leaves
  the range in which rounding is faithful.
-/
namespace Props.C04Round
open Model.Weights
open RoundModel (Within)

variable {rnd : ℝ → ℝ} {u η Ω : ℝ}

/-! ### one `logaddexp` -/

theorem laeArg_v (a b : Rd rnd) : (laeArg a b).v = -|rnd (a.v - b.v)| := by
  simp only [laeArg]
  split_ifs with h
  · rw [Rd.lt_iff, Rd.zero_v, Rd.sub_v] at h
    rw [Rd.neg_v, Rd.sub_v, abs_of_pos h]
  · rw [Rd.lt_iff, Rd.zero_v, Rd.sub_v, not_lt] at h
    rw [Rd.sub_v, abs_of_nonpos h, neg_neg]

/-- the argument of `exp` is never positive, whatever the rounding -/
theorem C04_rounded_exp_arg_nonpos (a b : Rd rnd) : (laeArg a b).v ≤ 0 := by
  rw [laeArg_v]
  exact neg_nonpos.mpr (abs_nonneg _)

theorem exp_val_range (rm : RoundModel rnd u η Ω) (hΩ : 3 ≤ Ω) (a b : Rd rnd) :
    -(1 / 8) ≤ (ScT.exp (laeArg a b)).v ∧ (ScT.exp (laeArg a b)).v ≤ 5 / 4 :=
  (rm.rnd_mem_of_mem le_rfl (Real.exp_pos _).le (Real.exp_le_one_iff.mpr (C04_rounded_exp_arg_nonpos a b))
    ((by norm_num : (1 : ℝ) ≤ 3).trans hΩ)).imp (le_trans (by norm_num)) (fun h => h.trans (by norm_num))

/-- the argument of `log` inside `logaddexp` lies in [1/2, 3]: never zero, never negative -/
theorem C04_rounded_log_arg_range (rm : RoundModel rnd u η Ω) (hΩ : 3 ≤ Ω) (a b : Rd rnd) :
    1 / 2 ≤ (Sc.add Sc.one (ScT.exp (laeArg a b)) : Rd rnd).v ∧
    (Sc.add Sc.one (ScT.exp (laeArg a b)) : Rd rnd).v ≤ 3 := by
  obtain ⟨he1, he2⟩ := exp_val_range rm hΩ a b
  rw [Rd.add_v, Rd.one_v]
  exact (rm.rnd_mem_of_mem (lo := 1 + -(1 / 8)) (hi := 1 + 5 / 4) (by norm_num) (add_le_add le_rfl he1)
    (add_le_add le_rfl he2) ((by norm_num : (1 + 5 / 4 : ℝ) ≤ 3).trans hΩ)).imp
    (le_trans (by norm_num)) (fun h => h.trans (by norm_num))

theorem abs_log_le_two {s : ℝ} (h1 : 1 / 2 ≤ s) (h2 : s ≤ 3) : |Real.log s| ≤ 2 := by
  have hs : 0 < s := lt_of_lt_of_le (by norm_num) h1
  have hinv : s⁻¹ ≤ 2 := (inv_le_comm₀ hs (by norm_num)).mpr ((by norm_num : (2 : ℝ)⁻¹ = 1 / 2).trans_le h1)
  exact abs_le.mpr
    ⟨(by norm_num : (-2 : ℝ) ≤ 1 - 2).trans ((sub_le_sub_left hinv 1).trans (Real.one_sub_inv_le_log_of_pos hs)),
     (Real.log_le_sub_one_of_pos hs).trans ((sub_le_sub_right h2 1).trans (by norm_num))⟩

theorem logaddexp_v (rm : RoundModel rnd u η Ω) (hΩ : 3 ≤ Ω) (a b : Rd rnd) :
    ∃ c s : ℝ, (c = a.v ∨ c = b.v) ∧ 1 / 2 ≤ s ∧ s ≤ 3 ∧ (logaddexp a b).v = rnd (c + rnd (Real.log s)) := by
  obtain ⟨hs1, hs2⟩ := C04_rounded_log_arg_range rm hΩ a b
  unfold logaddexp
  split_ifs
  · exact ⟨a.v, 2, .inl rfl, by norm_num, by norm_num, by rw [Rd.add_v, Rd.log_v, Rd.two_v]⟩
  · exact ⟨a.v, _, .inl rfl, hs1, hs2, rfl⟩
  · exact ⟨b.v, _, .inr rfl, hs1, hs2, rfl⟩

theorem within_logaddexp (rm : RoundModel rnd u η Ω) (a b : Rd rnd) (P : ℝ)
    (ha : Within Ω a.v P) (hb : Within Ω b.v P) : Within Ω (logaddexp a b).v ((1 + u) * (P + 3)) := by
  have hP := ha.1
  have hu := rm.u_nonneg
  have hP3 : P + 3 ≤ (1 + u) * (P + 3) := le_mul_of_one_le_left (by positivity) (le_add_of_nonneg_right hu)
  refine ⟨by positivity, fun hΩ => ?_⟩
  have hΩ3 : 3 ≤ Ω := (le_add_of_nonneg_left hP).trans (hP3.trans hΩ)
  have hPΩ : P ≤ Ω := (le_add_of_nonneg_right (by norm_num)).trans (hP3.trans hΩ)
  obtain ⟨c, s, hc, hs1, hs2, e⟩ := logaddexp_v rm hΩ3 a b
  have hcP : |c| ≤ P := by rcases hc with rfl | rfl <;> [exact ha.2 hPΩ; exact hb.2 hPΩ]
  have ht : |rnd (Real.log s)| ≤ 9 / 8 * 2 + 1 / 8 :=
    rm.abs_rnd_le' (abs_log_le_two hs1 hs2) ((by norm_num : (2 : ℝ) ≤ 3).trans hΩ3)
  have h := rm.abs_rnd_le ((abs_add_le c _).trans (add_le_add hcP ht))
    ((add_le_add le_rfl (by norm_num)).trans (hP3.trans hΩ))
  -- `(1+u)·(P + 19/8) + η ≤ (1+u)·(P + 3)` since `η ≤ 1/8 ≤ (1+u)·5/8`
  have hη : η ≤ (1 + u) * (5 / 8) := rm.η_le.trans
    ((by norm_num : (1 / 8 : ℝ) ≤ 1 * (5 / 8)).trans (mul_le_mul_of_nonneg_right (le_add_of_nonneg_right hu) (by norm_num)))
  rw [e]
  exact h.trans ((add_le_add le_rfl hη).trans_eq (by ring))

/-! ### the reduction: magnitudes grow by at most a factor (1+u) and a constant per step -/

/-- bound on a fold of `k` further terms starting from magnitude `P` -/
noncomputable def foldBound (u P : ℝ) (k : ℕ) : ℝ := (1 + u) ^ k * (P + 3 * k)

theorem le_foldBound (hu : 0 ≤ u) {P : ℝ} (hP : 0 ≤ P) (k : ℕ) : P ≤ foldBound u P k := by
  have h1 : (1 : ℝ) ≤ (1 + u) ^ k := one_le_pow₀ (le_add_of_nonneg_right hu)
  have h2 : (0 : ℝ) ≤ 3 * k := by positivity
  exact (le_add_of_nonneg_right h2).trans (le_mul_of_one_le_left (add_nonneg hP h2) h1)

theorem foldBound_step (hu : 0 ≤ u) (P : ℝ) (k : ℕ) :
    foldBound u ((1 + u) * (P + 3)) k ≤ foldBound u P (k + 1) := by
  unfold foldBound
  have h1 : (0 : ℝ) ≤ (1 + u) ^ k := by positivity
  have h2 : (0 : ℝ) ≤ u * (3 * (k : ℝ)) := by positivity
  rw [pow_succ, mul_assoc]
  push_cast
  exact mul_le_mul_of_nonneg_left (by linarith only [h2]) h1

theorem within_reduce1 (rm : RoundModel rnd u η Ω) (xs : List (Rd rnd)) (x0 : Rd rnd) (P : ℝ)
    (h0 : Within Ω x0.v P) (hx : ∀ x ∈ xs, Within Ω x.v P) :
    Within Ω (logaddexpReduce1 x0 xs).v (foldBound u P xs.length) := by
  have hu := rm.u_nonneg
  induction xs generalizing x0 P with
  | nil => simpa [foldBound, logaddexpReduce1] using h0
  | cons x xs ih =>
    have hP' : P ≤ (1 + u) * (P + 3) :=
      (le_add_of_nonneg_right (by norm_num)).trans
        (le_mul_of_one_le_left (add_nonneg h0.1 (by norm_num)) (le_add_of_nonneg_right hu))
    exact (ih (logaddexp x0 x) _ (within_logaddexp rm x0 x P h0 (hx x List.mem_cons_self))
      fun y hy => (hx y (List.mem_cons_of_mem _ hy)).mono hP').mono (foldBound_step hu P xs.length)

/-! ### the rows `b_weighted[s, ·]`, the unnormalised weights, the tail -/

/-- bound on `|b_weighted[s,t]|` from `|ℓ β_t| ≤ L`, `|z_t| ≤ Z`, `log N ≤ G` -/
noncomputable def entryBound (L Z G : ℝ) : ℝ := 2 * L + 2 * Z + 3 * G + 1

theorem entryBound_nonneg {L Z G : ℝ} (hL : 0 ≤ L) (hZ : 0 ≤ Z) (hG : 0 ≤ G) : 0 ≤ entryBound L Z G := by
  unfold entryBound; positivity

theorem within_entry (rm : RoundModel rnd u η Ω) (N : ℕ) (l : Rd rnd) (b : Batch (Rd rnd)) (L Z G : ℝ)
    (hL : |l.v * b.beta.v| ≤ L) (hZ : |b.logz.v| ≤ Z) (hn : 1 ≤ b.logl.length) (hnN : b.logl.length ≤ N)
    (hG : Real.log (N : ℝ) ≤ G) : Within Ω (entry (ScT.log (Sc.ofNat N)) l b).v (entryBound L Z G) := by
  have hL0 : 0 ≤ L := (abs_nonneg _).trans hL
  have hZ0 : 0 ≤ Z := (abs_nonneg _).trans hZ
  have hG0 : 0 ≤ G := (Real.log_nonneg (Nat.one_le_cast.mpr (hn.trans hnN))).trans hG
  have hnG : Real.log (b.logl.length : ℝ) ≤ G :=
    (Real.log_le_log (Nat.cast_pos.mpr hn) (Nat.cast_le.mpr hnN)).trans hG
  -- `ℓ β_t − z_t`, then `log n_t − log N`, then their sum: each rounding costs a factor 9/8 and 1/8
  have m : Within Ω (rnd (rnd (l.v * b.beta.v) - b.logz.v)) _ :=
    rm.within_rnd ((rm.within_rnd (.of_le hL)).sub (.of_le hZ))
  have g : Within Ω (rnd (rnd (Real.log (b.logl.length : ℝ)) - rnd (Real.log (N : ℝ)))) _ :=
    rm.within_rnd ((rm.within_rnd (.log_natCast hn hnG)).sub (rm.within_rnd (.log_natCast (hn.trans hnN) hG)))
  exact (rm.within_rnd (m.add g)).mono (by unfold entryBound; linarith only [hL0, hZ0, hG0])

/-- bound on `|logw_s|` (unnormalised) for `T` stored iterations: two roundings (`ℓ·β`, then the difference) around the
    `foldBound` of `B_s`, a fold of `T − 1` further row entries -/
noncomputable def rawBound (u L Z G : ℝ) (T : ℕ) : ℝ :=
  9 / 8 * (9 / 8 * L + 1 / 8 + foldBound u (entryBound L Z G) (T - 1)) + 1 / 8

theorem rawBound_nonneg (hu : 0 ≤ u) {L Z G : ℝ} (hL : 0 ≤ L) (hZ : 0 ≤ Z) (hG : 0 ≤ G) (T : ℕ) :
    0 ≤ rawBound u L Z G T := by
  have hE := entryBound_nonneg hL hZ hG
  have := hE.trans (le_foldBound hu hE (T - 1))
  unfold rawBound; positivity

theorem within_rawLogw (rm : RoundModel rnd u η Ω) (b0 : Batch (Rd rnd)) (bs : List (Batch (Rd rnd)))
    (β : Rd rnd) (L Z G : ℝ)
    (hn : ∀ b ∈ b0 :: bs, 1 ≤ b.logl.length)
    (hL : ∀ b ∈ b0 :: bs, ∀ l ∈ flatLogl (b0 :: bs), |l.v * b.beta.v| ≤ L)
    (hLβ : ∀ l ∈ flatLogl (b0 :: bs), |l.v * β.v| ≤ L)
    (hZ : ∀ b ∈ b0 :: bs, |b.logz.v| ≤ Z)
    (hG : Real.log (nTotal (b0 :: bs) : ℝ) ≤ G) :
    ∀ w ∈ rawLogw b0 bs β, Within Ω w.v (rawBound u L Z G (b0 :: bs).length) := by
  intro w hw
  obtain ⟨l, hl, rfl⟩ := List.mem_map.mp hw
  have hent : ∀ b ∈ b0 :: bs, Within Ω (entry (ScT.log (Sc.ofNat (nTotal (b0 :: bs)))) l b).v (entryBound L Z G) :=
    fun b hb => within_entry rm _ l b L Z G (hL b hb l hl) (hZ b hb) (hn b hb) (length_le_nTotal _ b hb) hG
  have hB : Within Ω (mixLog b0 bs (ScT.log (Sc.ofNat (nTotal (b0 :: bs)))) l).v
      (foldBound u (entryBound L Z G) bs.length) := by
    have := within_reduce1 rm (bs.map (entry (ScT.log (Sc.ofNat (nTotal (b0 :: bs)))) l)) _ _
      (hent b0 List.mem_cons_self) fun x hx => by
        obtain ⟨b, hb, rfl⟩ := List.mem_map.mp hx
        exact hent b (List.mem_cons_of_mem _ hb)
    rwa [List.length_map] at this
  exact rm.within_rnd ((rm.within_rnd (.of_le (hLβ l hl))).sub hB)

theorem abs_finish_le (rm : RoundModel rnd u η Ω) (w : List (Rd rnd)) (nrm : Bool) (W G : ℝ)
    (hne : w ≠ []) (hW : ∀ x ∈ w, Within Ω x.v W) (hG : Real.log (w.length : ℝ) ≤ G)
    (hΩ : 2 * foldBound u W (w.length - 1) + 3 + 2 * G ≤ Ω) :
    (∀ x ∈ (finish w nrm).1, |x.v| ≤ 9 / 8 * (W + foldBound u W (w.length - 1)) + 1 / 8) ∧
    (∃ z, (finish w nrm).2 = some z ∧ |z.v| ≤ 9 / 8 * (foldBound u W (w.length - 1) + 9 / 8 * G + 1 / 8) + 1 / 8) := by
  cases w with
  | nil => exact absurd rfl hne
  | cons w0 ws =>
    simp only [List.length_cons, Nat.add_sub_cancel] at hΩ ⊢
    have hW0 : 0 ≤ W := (hW w0 List.mem_cons_self).1
    have hK := le_foldBound rm.u_nonneg hW0 ws.length
    have hG0 : 0 ≤ G := (Real.log_nonneg (by simp)).trans hG
    have hlse := within_reduce1 rm ws w0 W (hW w0 List.mem_cons_self) fun x hx => hW x (List.mem_cons_of_mem _ hx)
    have hWK : W ≤ W + foldBound u W ws.length := le_add_of_nonneg_right hlse.1
    have hfit : W + foldBound u W ws.length ≤ Ω := by linarith only [hΩ, hK, hG0]
    constructor
    · intro x hx
      cases nrm with
      | false =>
        rw [finish_fst_false] at hx
        exact ((hW x hx).2 (hWK.trans hfit)).trans (hWK.trans (RoundModel.le_bound_after_rnd (hW0.trans hWK)))
      | true =>
        obtain ⟨y, hy, rfl⟩ := List.mem_map.mp (finish_cons_fst_true w0 ws ▸ hx)
        exact rm.abs_rnd_le_of_within ((hW y hy).sub hlse) hfit
    · have := rm.abs_rnd_le_of_within
        (hlse.sub (rm.within_rnd (.log_natCast (Nat.succ_pos _) hG))) (by linarith only [hΩ, hW0, hK, hG0])
      exact ⟨_, finish_cons_snd w0 ws nrm, by rwa [← add_assoc] at this⟩

/-! ### C04 at rounded arithmetic -/

/-- **Finiteness under rounding.**  For every rounding function obeying the standard model below Ω
    (and arbitrary above), every history with T ≥ 1 iterations and batch sizes ≥ 1 whose inputs satisfy
    `|ℓ_s β_t| ≤ L`, `|ℓ_s β| ≤ L`, `|z_t| ≤ Z`, `log N ≤ G`, and whose explicit bound fits below Ω:
    every returned log-weight and the evidence are bounded by explicit expressions in `L, Z, G, T, N, u`;
    an evidence value IS returned (`some`). -/
theorem C04_rounded_bounded (rm : RoundModel rnd u η Ω) (h : List (Batch (Rd rnd))) (β : Rd rnd) (nrm : Bool)
    (L Z G : ℝ) (hne : h ≠ []) (hn : ∀ b ∈ h, 1 ≤ b.logl.length)
    (hL : ∀ b ∈ h, ∀ l ∈ flatLogl h, |l.v * b.beta.v| ≤ L)
    (hLβ : ∀ l ∈ flatLogl h, |l.v * β.v| ≤ L)
    (hZ : ∀ b ∈ h, |b.logz.v| ≤ Z)
    (hG : Real.log (nTotal h : ℝ) ≤ G)
    (hΩ : 2 * foldBound u (rawBound u L Z G h.length) (nTotal h - 1) + 3 + 2 * G ≤ Ω) :
    (∀ x ∈ (logw h β nrm).1,
        |x.v| ≤ 9 / 8 * (rawBound u L Z G h.length + foldBound u (rawBound u L Z G h.length) (nTotal h - 1)) + 1 / 8) ∧
    (∃ z, (logw h β nrm).2 = some z ∧
        |z.v| ≤ 9 / 8 * (foldBound u (rawBound u L Z G h.length) (nTotal h - 1) + 9 / 8 * G + 1 / 8) + 1 / 8) := by
  have hN := one_le_nTotal hne hn
  cases h with
  | nil => exact absurd rfl hne
  | cons b0 bs =>
    have hlenw := length_rawLogw b0 bs β
    have := abs_finish_le rm (rawLogw b0 bs β) nrm (rawBound u L Z G (b0 :: bs).length) G
      (List.ne_nil_of_length_pos (hlenw ▸ hN)) (within_rawLogw rm b0 bs β L Z G hn hL hLβ hZ hG)
      (by rw [hlenw]; exact hG) (by rw [hlenw]; exact hΩ)
    rwa [hlenw] at this

/-! ### closed form for realistic unit round-offs: `N·u ≤ 1/2` makes every growth factor ≤ 2 -/

theorem exp_half_le_two : Real.exp (1 / 2) ≤ 2 := by
  have h := Real.add_one_le_exp (-(1 / 2) : ℝ)
  rw [Real.exp_neg] at h
  exact (inv_le_inv₀ (by norm_num) (Real.exp_pos _)).mp ((by norm_num : (2 : ℝ)⁻¹ ≤ -(1 / 2) + 1).trans h)

theorem one_add_pow_le_two (hu : 0 ≤ u) (k : ℕ) (hk : (k : ℝ) * u ≤ 1 / 2) : (1 + u) ^ k ≤ 2 :=
  calc (1 + u) ^ k ≤ Real.exp u ^ k :=
        pow_le_pow_left₀ (add_nonneg zero_le_one hu) ((add_comm 1 u).trans_le (Real.add_one_le_exp u)) k
    _ = Real.exp ((k : ℝ) * u) := (Real.exp_nat_mul u k).symm
    _ ≤ Real.exp (1 / 2) := Real.exp_le_exp.mpr hk
    _ ≤ 2 := exp_half_le_two

theorem foldBound_le_two (hu : 0 ≤ u) {P N : ℝ} (hP : 0 ≤ P) {k : ℕ} (hkN : (k : ℝ) ≤ N) (hNu : N * u ≤ 1 / 2) :
    foldBound u P k ≤ 2 * (P + 3 * N) := by
  have h1 := one_add_pow_le_two hu k ((mul_le_mul_of_nonneg_right hkN hu).trans hNu)
  have h2 : (0 : ℝ) ≤ P + 3 * k := by positivity
  exact (mul_le_mul_of_nonneg_right h1 h2).trans
    (mul_le_mul_of_nonneg_left (add_le_add le_rfl (mul_le_mul_of_nonneg_left hkN (by norm_num))) (by norm_num))

/-- the arithmetic of the closed form: `T`-fold bound `FT` of the rows, weight bound `W`, `N`-fold bound `FN` of the tail -/
theorem closed_form_arith {L Z G N FT W FN : ℝ} (hL : 0 ≤ L) (hZ : 0 ≤ Z) (hG : 0 ≤ G) (hN : 0 ≤ N)
    (hFT : FT ≤ 2 * (entryBound L Z G + 3 * N)) (hW : W = 9 / 8 * (9 / 8 * L + 1 / 8 + FT) + 1 / 8)
    (hFN : FN ≤ 2 * (W + 3 * N)) :
    2 * FN + 3 + 2 * G ≤ 40 * (L + Z + G + N + 1) ∧
    9 / 8 * (W + FN) + 1 / 8 ≤ 30 * (L + Z + G + N + 1) ∧
    9 / 8 * (FN + 9 / 8 * G + 1 / 8) + 1 / 8 ≤ 30 * (L + Z + G + N + 1) := by
  unfold entryBound at hFT
  -- `W ≤ 5.8 L + 4.5 Z + 6.75 G + 6.75 N + 2.6` and `FN ≤ 2 W + 6 N`; the tightest coefficients are those of `N`:
  -- `2 · 19.5 = 39 ≤ 40` in the first bound, `9/8 · (6.75 + 19.5) = 29.54 ≤ 30` in the second
  refine ⟨?_, ?_, ?_⟩ <;> linarith only [hL, hZ, hG, hN, hFT, hW, hFN]

/-- **Closed form.**  If `N·u ≤ 1/2` (binary64: N ≤ 2·10^15 stored particles) and
    `40·(L + Z + G + N + 1) ≤ Ω`, every returned log-weight and the evidence have magnitude at most
    `30·(L + Z + G + N + 1)`.  With |ℓ| ≤ 10^6, β, β_t ∈ [0,1], |z_t| ≤ 10^5, N ≤ 10^9 (so `G = 21 ≥ log N`) this is
    `30·(10^6 + 10^5 + 21 + 10^9 + 1) < 3.1·10^10`, against a binary64 overflow threshold of about `1.8·10^308`. -/
theorem C04_rounded_finite (rm : RoundModel rnd u η Ω) (h : List (Batch (Rd rnd))) (β : Rd rnd) (nrm : Bool)
    (L Z G : ℝ) (hne : h ≠ []) (hn : ∀ b ∈ h, 1 ≤ b.logl.length)
    (hL : ∀ b ∈ h, ∀ l ∈ flatLogl h, |l.v * b.beta.v| ≤ L)
    (hLβ : ∀ l ∈ flatLogl h, |l.v * β.v| ≤ L)
    (hZ : ∀ b ∈ h, |b.logz.v| ≤ Z)
    (hG : Real.log (nTotal h : ℝ) ≤ G)
    (hNu : (nTotal h : ℝ) * u ≤ 1 / 2)
    (hΩ : 40 * (L + Z + G + (nTotal h : ℝ) + 1) ≤ Ω) :
    (∀ x ∈ (logw h β nrm).1, |x.v| ≤ 30 * (L + Z + G + (nTotal h : ℝ) + 1)) ∧
    (∃ z, (logw h β nrm).2 = some z ∧ |z.v| ≤ 30 * (L + Z + G + (nTotal h : ℝ) + 1)) := by
  have hu := rm.u_nonneg
  obtain ⟨b0, hb0⟩ := List.exists_mem_of_ne_nil h hne
  obtain ⟨l, hl⟩ := List.exists_mem_of_length_pos (hn b0 hb0)
  have hL0 : 0 ≤ L := (abs_nonneg _).trans (hLβ l (mem_flatLogl.mpr ⟨b0, hb0, hl⟩))
  have hZ0 : 0 ≤ Z := (abs_nonneg _).trans (hZ b0 hb0)
  have hG0 : 0 ≤ G := (Real.log_nonneg (Nat.one_le_cast.mpr (one_le_nTotal hne hn))).trans hG
  have hT : ((h.length - 1 : ℕ) : ℝ) ≤ nTotal h :=
    Nat.cast_le.mpr ((Nat.sub_le _ _).trans (length_le_nTotal_of_pos h hn))
  have hN : ((nTotal h - 1 : ℕ) : ℝ) ≤ nTotal h := Nat.cast_le.mpr (Nat.sub_le _ _)
  obtain ⟨a1, a2, a3⟩ := closed_form_arith hL0 hZ0 hG0 (Nat.cast_nonneg (nTotal h))
    (foldBound_le_two hu (entryBound_nonneg hL0 hZ0 hG0) hT hNu) rfl
    (foldBound_le_two hu (rawBound_nonneg hu hL0 hZ0 hG0 h.length) hN hNu)
  obtain ⟨hw, z, hz, hzb⟩ := C04_rounded_bounded rm h β nrm L Z G hne hn hL hLβ hZ hG (a1.trans hΩ)
  exact ⟨fun x hx => (hw x hx).trans a2, z, hz, hzb.trans a3⟩

/-! ### non-vacuity: a rounding function that is NOT the identity, a history at |ℓ| = 10^6 -/

/-- a biased "rounding": every value is inflated by 2^-53 (and anything above 10^200 is destroyed) -/
noncomputable def rndEx (x : ℝ) : ℝ := if |x| ≤ 10 ^ 200 then x * (1 + 1 / 2 ^ 53) else 0

theorem rm_rndEx : RoundModel rndEx (1 / 2 ^ 52) 0 (10 ^ 200) :=
  RoundModel.inflate (δ := 1 / 2 ^ 53) (by positivity) (by norm_num) (by norm_num) le_rfl (by norm_num)

noncomputable def hEx : List (Batch (Rd rndEx)) :=
  [⟨⟨0⟩, ⟨0⟩, [⟨1000000⟩, ⟨-1000000⟩]⟩, ⟨⟨1⟩, ⟨100000⟩, [⟨999999⟩]⟩]

example : ∀ x ∈ (logw hEx (⟨1⟩ : Rd rndEx) true).1, |x.v| ≤ 30 * (1000000 + 100000 + 2 + 3 + 1) := by
  have hN : nTotal hEx = 3 := rfl
  have hfl : ∀ l ∈ flatLogl hEx, |l.v| ≤ 1000000 := by
    intro l hl
    simp only [hEx, flatLogl, List.flatMap_cons, List.flatMap_nil, List.append_nil, List.cons_append, List.nil_append,
      List.mem_cons, List.not_mem_nil, or_false] at hl
    rcases hl with rfl | rfl | rfl <;> norm_num [abs_le]
  have hb : ∀ b ∈ hEx, |b.beta.v| ≤ 1 ∧ |b.logz.v| ≤ 100000 ∧ 1 ≤ b.logl.length := by
    intro b hb
    simp only [hEx, List.mem_cons, List.not_mem_nil, or_false] at hb
    rcases hb with rfl | rfl <;> norm_num
  have hlog : Real.log (3 : ℝ) ≤ 2 := (Real.log_le_sub_one_of_pos (by norm_num)).trans (by norm_num)
  have := (C04_rounded_finite rm_rndEx hEx ⟨1⟩ true 1000000 100000 2 (List.cons_ne_nil _ _)
    (fun b hb' => (hb b hb').2.2)
    (fun b hb' l hl => by
      rw [abs_mul]
      exact (mul_le_mul (hfl l hl) (hb b hb').1 (abs_nonneg _) (by norm_num)).trans_eq (mul_one _))
    (by intro l hl; simpa using hfl l hl)
    (fun b hb' => (hb b hb').2.1)
    (by rw [hN]; exact_mod_cast hlog)
    (by rw [hN]; norm_num)
    (by rw [hN]; norm_num)).1
  rw [hN] at this
  exact_mod_cast this

example (a b : Rd rndEx) : (laeArg a b).v ≤ 0 := C04_rounded_exp_arg_nonpos a b
example (a b : Rd rndEx) : 1 / 2 ≤ (Sc.add Sc.one (ScT.exp (laeArg a b)) : Rd rndEx).v :=
  (C04_rounded_log_arg_range rm_rndEx (by norm_num) a b).1
example : ∃ z, (logw hEx (⟨1⟩ : Rd rndEx) false).2 = some z := ⟨_, rfl⟩

end Props.C04Round
