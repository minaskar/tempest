import TempestVerif.Model.GMM
import TempestVerif.Props.C15EM
import TempestVerif.Lemmas.CholList
import TempestVerif.Lemmas.ScReal
import TempestVerif.Lemmas.Rounded
/-
  C15 — the whole `GaussianMixture.fit` (`Model/GMM.lean`), E-step inside.  For every scalar type: a fit on a second data set
  whose initialisation and EM iterations return what those of the first return gives the same result (`fit_transfer`); with the
  same data on both sides this is induction over a fit.  At `ℝ`: a row of the log-space E-step is a probability vector (also under
  any monotone idempotent rounding), an M-step on probability rows gives mixing weights on the simplex and covariances
  `Σ ω d dᵀ / (Σω + eps)` with `ω ≥ 0` (`Inv`), and the induction carries this to what `fit` returns.  That `fit` does return is
  `Props/C15FitTotal.lean`.
-/
namespace Props.C15
open Model.EM Model.GMM Lemmas.CholList Lemmas.OptionList

/-! ## facts about `fit` that hold for every scalar type -/
section Generic
variable {α : Type} [ScT α]

def MShape (K : Nat) (p : MStep α) : Prop :=
  p.weights.length = K ∧ p.means.length = K ∧ p.covFull.length = K ∧ p.covDiag.length = K

theorem mstep_shape (tiny eps : α) (d K : Nat) (X R : List (List α)) (s : List α) :
    MShape K (mstep tiny eps d K X R s) := by
  simp only [MShape, mstep, normalise_length, colSums_length, List.length_map, List.length_range, and_self]

theorem initParams_shape (tiny eps : α) (d K : Nat) (X L : List (List α)) (s : List α) :
    MShape K (initParams tiny eps d K X L s) := mstep_shape tiny eps d K X _ s

theorem emIter_eq_some (c : Cfg α) (X : Mat α) (s : List α) (p : MStep α) (q : MStep α × α) :
    emIter c X s p = some q ↔ ∃ R, estep c.sing c.reg c.d p.weights p.means (covMats c.diagT p) X = some R ∧
      q = (mstep c.tiny c.eps c.d c.K X R s,
        lowerBound c.sing c.reg c.eps c.d (mstep c.tiny c.eps c.d c.K X R s).weights (mstep c.tiny c.eps c.d c.K X R s).means
          (covMats c.diagT (mstep c.tiny c.eps c.d c.K X R s)) X s) := by
  unfold emIter
  cases estep c.sing c.reg c.d p.weights p.means (covMats c.diagT p) X with
  | none => exact ⟨nofun, fun ⟨R, hR, _⟩ => nomatch hR⟩
  | some R => exact ⟨fun h => ⟨R, rfl, (Option.some.inj h).symm⟩, fun ⟨R', hR', hq⟩ => by cases hR'; rw [hq]⟩

theorem emIter_shape (c : Cfg α) (X : Mat α) (s : List α) (p : MStep α) (q : MStep α × α)
    (h : emIter c X s p = some q) : MShape c.K q.1 := by
  obtain ⟨R, _, rfl⟩ := (emIter_eq_some c X s p q).mp h
  exact mstep_shape _ _ _ _ _ _ _

theorem emLoop_transfer (c : Cfg α) (X X' : Mat α) (s s' : List α) (P : MStep α → Prop)
    (hiter : ∀ p q, P p → emIter c X s p = some q → emIter c X' s' p = some q ∧ P q.1) :
    ∀ (fuel it : Nat) (lb : Option α) (p : MStep α) (o : LoopOut α), P p →
      emLoop c X s fuel it lb p = some o →
      emLoop c X' s' fuel it lb p = some o ∧ P o.params ∧ it ≤ o.iter ∧ o.iter < it + fuel := by
  intro fuel
  induction fuel with
  | zero => intro it lb p o _ h; cases h
  | succ fuel ih =>
    intro it lb p o hp h
    rw [emLoop] at h ⊢
    cases hq : emIter c X s p with
    | none => rw [hq] at h; cases h
    | some q =>
      obtain ⟨hq', hp'⟩ := hiter p q hp hq
      obtain ⟨p', new⟩ := q
      simp only [hq] at h
      simp only [hq']
      split_ifs at h ⊢
      · cases h; exact ⟨rfl, hp', le_refl _, Nat.lt_add_of_pos_right (Nat.succ_pos _)⟩
      · cases h; exact ⟨rfl, hp', le_refl _, Nat.lt_add_of_pos_right (Nat.succ_pos _)⟩
      · obtain ⟨h0, h1, h2, h3⟩ := ih _ _ _ _ hp' h
        exact ⟨h0, h1, by omega, by omega⟩

theorem fitInits_transfer (c : Cfg α) (X X' : Mat α) (s s' : List α) (P : MStep α → Prop)
    (hinit : ∀ tape r, initFit c X s tape = some r → (∃ pk, initFit c X' s' tape = some (r.1, pk, r.2.2)) ∧ P r.1)
    (hiter : ∀ p q, P p → emIter c X s p = some q → emIter c X' s' p = some q ∧ P q.1) :
    ∀ (n : Nat) (tape : List α) (best : Option (Best α)) (picks picks' : List (List Nat))
      (r : Option (Best α) × List (List Nat)),
      fitInits c X s n tape best picks = some r →
      (∀ b, best = some b → P b.params ∧ 1 ≤ b.nIter ∧ b.nIter ≤ c.maxIter) →
      (∃ pks, fitInits c X' s' n tape best picks' = some (r.1, pks)) ∧
        ∀ b, r.1 = some b → P b.params ∧ 1 ≤ b.nIter ∧ b.nIter ≤ c.maxIter := by
  intro n
  induction n with
  | zero =>
    intro tape best picks picks' r h hb
    cases h
    exact ⟨⟨picks', rfl⟩, hb⟩
  | succ n ih =>
    intro tape best picks picks' r h hb
    rw [fitInits] at h ⊢
    cases hi : initFit c X s tape with
    | none => rw [hi] at h; cases h
    | some t =>
      obtain ⟨⟨pk', hi'⟩, hp0⟩ := hinit tape t hi
      obtain ⟨p0, pk, tape'⟩ := t
      simp only [hi] at h
      simp only [hi']
      cases hl : emLoop c X s c.maxIter 0 none p0 with
      | none => rw [hl] at h; cases h
      | some o =>
        simp only [hl] at h
        obtain ⟨hl', hP, _, hit⟩ := emLoop_transfer c X X' s s' P hiter _ _ _ _ _ hp0 hl
        simp only [hl']
        refine ih _ _ _ _ r h ?_
        intro b' hb'
        split at hb'
        · split at hb'
          · cases hb'
            exact ⟨hP, Nat.succ_pos _, Nat.succ_le_of_lt (by omega)⟩
          · exact hb b' hb'
        · exact hb b' hb'

/-- **a whole `fit` carried over to a second data set**: if `_initialize_parameters` on `X'`, `w'` returns the parameters
    (and the unused tape) it returns on `X`, `w`, and every EM iteration on parameters satisfying `P` does the same on both
    and keeps `P`, then the fit on `X'`, `w'` returns what the fit on `X`, `w` returns, up to the recorded k-means++ indices;
    the fitted parameters satisfy `P`, `1 ≤ n_iter_ ≤ max_iter`, `converged_ = (n_iter_ < max_iter)` -/
theorem fit_transfer (c : Cfg α) (X X' : Mat α) (w w' tape : List α) (P : MStep α → Prop)
    (hinit : ∀ tape r, initFit c X (normWeights w) tape = some r →
      (∃ pk, initFit c X' (normWeights w') tape = some (r.1, pk, r.2.2)) ∧ P r.1)
    (hiter : ∀ p q, P p → emIter c X (normWeights w) p = some q → emIter c X' (normWeights w') p = some q ∧ P q.1)
    (o : FitOut α) (h : fit c X w tape = some o) :
    (∃ o', fit c X' w' tape = some o' ∧
      o'.params = o.params ∧ o'.nIter = o.nIter ∧ o'.converged = o.converged ∧ o'.lb = o.lb) ∧
      P o.params ∧ 1 ≤ o.nIter ∧ o.nIter ≤ c.maxIter ∧ o.converged = decide (o.nIter < c.maxIter) := by
  unfold fit at h ⊢
  split at h
  · cases h
  · cases h
  · rename_i b picks hf
    cases h
    obtain ⟨⟨pks, hf'⟩, hb⟩ := fitInits_transfer c X X' _ _ P hinit hiter _ _ _ _ [] _ hf (fun b hb => nomatch hb)
    obtain ⟨h1, h2, h3⟩ := hb b rfl
    rw [hf']
    exact ⟨⟨_, rfl, rfl, rfl, rfl, rfl⟩, h1, h2, h3, rfl⟩

/-- **induction over a whole `fit`**: the case `X' = X`, `w' = w` of `fit_transfer` -/
theorem fit_induction (c : Cfg α) (X : Mat α) (w tape : List α) (P : MStep α → Prop)
    (hinit : ∀ tape r, initFit c X (normWeights w) tape = some r → P r.1)
    (hiter : ∀ p q, P p → emIter c X (normWeights w) p = some q → P q.1)
    (o : FitOut α) (h : fit c X w tape = some o) :
    P o.params ∧ 1 ≤ o.nIter ∧ o.nIter ≤ c.maxIter ∧ o.converged = decide (o.nIter < c.maxIter) :=
  (fit_transfer c X X w w tape P (fun tape r hr => ⟨⟨_, hr⟩, hinit tape r hr⟩)
    (fun p q hp hq => ⟨hq, hiter p q hp hq⟩) o h).2

theorem fit_shape (c : Cfg α) (X : Mat α) (w tape : List α) (o : FitOut α) (h : fit c X w tape = some o) :
    MShape c.K o.params :=
  (fit_induction c X w tape (MShape c.K)
    (fun _ r hr => by
      obtain ⟨cs, _, rfl⟩ := Option.map_eq_some_iff.mp hr
      exact initParams_shape _ _ _ _ _ _ _)
    (fun p q _ hq => emIter_shape c X _ p q hq) o h).1

/-- **`1 ≤ n_iter_ ≤ max_iter` and `converged_ = (n_iter_ < max_iter)`** -/
theorem C15_fit_iter_bounds (c : Cfg α) (X : Mat α) (w tape : List α) (o : FitOut α)
    (h : fit c X w tape = some o) :
    1 ≤ o.nIter ∧ o.nIter ≤ c.maxIter ∧ o.converged = decide (o.nIter < c.maxIter) :=
  (fit_induction c X w tape (fun _ => True) (fun _ _ _ => trivial) (fun _ _ _ _ => trivial) o h).2

end Generic

/-! ## one row of the E-step -/

theorem rowMaxO_none {α : Type} [ScT α] (row : List (Option α)) :
    rowMaxO row = none ↔ ∀ o ∈ row, o = none := by
  induction row with
  | nil => exact ⟨fun _ _ ho => (nomatch ho), fun _ => rfl⟩
  | cons o row ih =>
    cases o with
    | none =>
      refine ih.trans ⟨fun h o ho => ?_, fun h o ho => h o (List.mem_cons_of_mem _ ho)⟩
      rcases List.mem_cons.mp ho with rfl | ho
      · rfl
      · exact h o ho
    | some x =>
      refine ⟨fun h => ?_, fun h => nomatch h (some x) List.mem_cons_self⟩
      rw [rowMaxO] at h
      split at h <;> cases h

/-- stated for any scalar type whose `Sc.lt` is the order of a real-valued reading `v`: `ℝ` and the rounded reals `Rd rnd` both use it -/
theorem rowMaxO_spec {α : Type} [ScT α] (v : α → ℝ) (hlt : ∀ a b : α, Sc.lt a b = true ↔ v a < v b) :
    ∀ (row : List (Option α)) (m : α), rowMaxO row = some m → some m ∈ row ∧ ∀ t, some t ∈ row → v t ≤ v m := by
  intro row
  induction row with
  | nil => intro m h; cases h
  | cons o row ih =>
    intro m h
    cases o with
    | none =>
      obtain ⟨h1, h2⟩ := ih m h
      exact ⟨List.mem_cons_of_mem _ h1, fun t ht => h2 t ((List.mem_cons.mp ht).resolve_left nofun)⟩
    | some x =>
      rw [rowMaxO] at h
      cases hr : rowMaxO row with
      | none =>
        rw [hr, Option.some.injEq] at h
        subst h
        refine ⟨List.mem_cons_self, fun t ht => ?_⟩
        rcases List.mem_cons.mp ht with ht | ht
        · rw [Option.some.inj ht]
        · cases (rowMaxO_none row).mp hr _ ht
      | some m' =>
        rw [hr, Option.some.injEq] at h
        obtain ⟨h1, h2⟩ := ih m' hr
        subst h
        unfold Sc.max
        by_cases hx : Sc.lt x m' = true
        · rw [if_pos hx]
          refine ⟨List.mem_cons_of_mem _ h1, fun t ht => ?_⟩
          rcases List.mem_cons.mp ht with ht | ht
          · rw [Option.some.inj ht]; exact ((hlt _ _).mp hx).le
          · exact h2 t ht
        · rw [if_neg hx]
          have hge : v m' ≤ v x := not_lt.mp fun h' => hx ((hlt _ _).mpr h')
          refine ⟨List.mem_cons_self, fun t ht => ?_⟩
          rcases List.mem_cons.mp ht with ht | ht
          · rw [Option.some.inj ht]
          · exact (h2 t ht).trans hge

theorem rowMaxO_of_finite {α : Type} [ScT α] (v : α → ℝ) (hlt : ∀ a b : α, Sc.lt a b = true ↔ v a < v b)
    (row : List (Option α)) (hfin : ∃ t, some t ∈ row) :
    ∃ m, rowMaxO row = some m ∧ some m ∈ row ∧ ∀ t, some t ∈ row → v t ≤ v m := by
  obtain ⟨t0, ht0⟩ := hfin
  cases hm : rowMaxO row with
  | none => cases (rowMaxO_none row).mp hm _ ht0
  | some m => exact ⟨m, rfl, rowMaxO_spec v hlt row m hm⟩

/-- the exponentiated, shifted row: `np.exp(row - max)` with `exp(-inf) = 0` -/
def expRow {α : Type} [ScT α] (m : α) (row : List (Option α)) : List α :=
  row.map fun o => o.elim Sc.zero fun t => ScT.exp (Sc.sub t m)

theorem softRow_eq {α : Type} [ScT α] (row : List (Option α)) :
    softRow row = (rowMaxO row).map fun m => normalise (expRow m row) := by
  unfold softRow
  cases rowMaxO row with
  | none => rfl
  | some m =>
    -- `softRow` writes the entry map as a `match` lambda: it is replaced as "the `f` with these two equations"
    have key : ∀ f : Option α → α, (∀ t, f (some t) = ScT.exp (Sc.sub t m)) → f none = Sc.zero →
        row.map f = expRow m row := fun f hs hn =>
      List.map_congr_left fun o _ => by cases o <;> simp [hs, hn]
    simp only [Option.map_some]
    rw [key _ (fun _ => rfl) rfl]
    rfl

theorem softRow_length {α : Type} [ScT α] (row : List (Option α)) (r : List α) (h : softRow row = some r) :
    r.length = row.length := by
  rw [softRow_eq] at h
  obtain ⟨m, _, rfl⟩ := Option.map_eq_some_iff.mp h
  rw [normalise_length, expRow, List.length_map]

/-- **one row of the E-step is a probability vector**: if at least one entry of `log_resp` is finite, the row
    `exp(row − max) / Σ exp(row − max)` exists, has non-negative entries summing to exactly 1, a strictly positive entry
    wherever the log-responsibility is finite and 0 where it is `-inf`; the normaliser is ≥ 1 (the maximal entry is `exp 0`). -/
theorem C15_softRow_simplex (row : List (Option ℝ)) (hfin : ∃ t, some t ∈ row) :
    ∃ r : List ℝ, softRow row = some r ∧ r.length = row.length ∧ (∀ p ∈ r, 0 ≤ p) ∧ Sc.sum r = 1 ∧
      (∀ (k : ℕ) (t : ℝ), row[k]? = some (some t) → ∃ p : ℝ, r[k]? = some p ∧ 0 < p) ∧
      (∀ k : ℕ, row[k]? = some none → r[k]? = some (0 : ℝ)) := by
  obtain ⟨m, hm, hmem, hle⟩ := rowMaxO_of_finite (fun x : ℝ => x) ScReal.lt_def row hfin
  have hnn : ∀ e ∈ expRow m row, 0 ≤ e := by
    intro e he
    obtain ⟨o, _, rfl⟩ := List.mem_map.mp he
    cases o with
    | none => exact (ScReal.zero_def ▸ le_refl (0 : ℝ) : (0 : ℝ) ≤ Sc.zero)
    | some t => exact (Real.exp_pos _).le
  have hone : (1 : ℝ) ∈ expRow m row :=
    List.mem_map.mpr ⟨some m, hmem, by simp only [Option.elim, ScReal.exp_def, ScReal.sub_def, sub_self, Real.exp_zero]⟩
  have hpos : 0 < (expRow m row).sum := lt_of_lt_of_le one_pos (List.single_le_sum hnn 1 hone)
  obtain ⟨h1, h2⟩ := normalise_simplex (expRow m row) hnn hpos
  refine ⟨_, by rw [softRow_eq, hm]; rfl, by rw [normalise_length, expRow, List.length_map], h1, h2, ?_, ?_⟩
  · intro k t hk
    refine ⟨Real.exp (t - m) / (expRow m row).sum, ?_, div_pos (Real.exp_pos _) hpos⟩
    simp [normalise, ScReal.sum_def, expRow, List.getElem?_map, hk]
  · intro k hk
    simp [normalise, expRow, List.getElem?_map, hk]

/-! ### the same row under rounded arithmetic -/

section Rounded
variable {rnd : ℝ → ℝ}

/-- **the E-step row in floating-point-like arithmetic** (`Rd rnd`: every `+ − × ÷ exp` followed by a rounding `rnd`), for
    ANY monotone idempotent rounding that fixes 0 and 1: the maximal entry of `e = exp(row − max)` is exactly 1, so the
    normaliser is ≥ 1 (no division by zero) and every responsibility lies in [0, 1] (no overflow) -/
theorem C15_softRow_rounded (hm : Monotone rnd) (hi : ∀ x, rnd (rnd x) = rnd x) (h0 : rnd 0 = 0) (h1 : rnd 1 = 1)
    (row : List (Option (Rd rnd))) (hfin : ∃ t, some t ∈ row) :
    ∃ (r e : List (Rd rnd)), softRow row = some r ∧ r = e.map (fun p => Sc.div p (Sc.sum e)) ∧
      e.length = row.length ∧ 1 ≤ (Sc.sum e).v ∧ ∀ p ∈ r, 0 ≤ p.v ∧ p.v ≤ 1 := by
  obtain ⟨m, hmx, hmem, hle⟩ := rowMaxO_of_finite Rd.v Rd.lt_iff row hfin
  have hent : ∀ x ∈ expRow m row, 0 ≤ x.v ∧ x.v ≤ 1 ∧ rnd x.v = x.v := by
    intro x hx
    obtain ⟨o, ho, rfl⟩ := List.mem_map.mp hx
    cases o with
    | none => rw [Option.elim, Rd.zero_v, h0]; exact ⟨le_refl _, zero_le_one, rfl⟩
    | some t =>
      have hd : rnd (t.v - m.v) ≤ 0 := h0 ▸ hm (sub_nonpos.mpr (hle t ho))
      rw [Option.elim, Rd.exp_v, Rd.sub_v]
      exact ⟨h0 ▸ hm (Real.exp_pos _).le, h1 ▸ hm (Real.exp_le_one_iff.mpr hd), hi _⟩
  have hmv : (ScT.exp (Sc.sub m m) : Rd rnd).v = 1 := by
    rw [Rd.exp_v, Rd.sub_v, sub_self, h0, Real.exp_zero, h1]
  have hone : ScT.exp (Sc.sub m m) ∈ expRow m row :=
    List.mem_map_of_mem (f := fun o => o.elim Sc.zero fun t => ScT.exp (Sc.sub t m)) hmem
  -- a rounded sum of non-negative rounded terms is at least each term: here the entry of the maximum, which is exactly 1
  have htot : 1 ≤ (Sc.sum (expRow m row)).v := by
    rw [Rd.sum_v, ← hmv]
    exact (Lemmas.RoundMap.rsum_ge hm hi _ 0 h0 le_rfl (List.forall_mem_map.mpr fun x hx => (hent x hx).1)).2 _
      (List.mem_map_of_mem hone) (by rw [hmv, h1])
  refine ⟨_, expRow m row, by rw [softRow_eq, hmx]; rfl, rfl, List.length_map _, htot, ?_⟩
  intro p hp
  obtain ⟨x, hx, rfl⟩ := List.mem_map.mp hp
  obtain ⟨hx0, hx1, _⟩ := hent x hx
  have hpos : 0 < (Sc.sum (expRow m row)).v := lt_of_lt_of_le one_pos htot
  rw [Rd.div_v]
  exact ⟨h0 ▸ hm (div_nonneg hx0 hpos.le), h1 ▸ hm ((div_le_one hpos).mpr (hx1.trans htot))⟩

end Rounded

/-- a row of `log_resp` with a `-inf` entry (a zero-weight component) and two finite ones -/
example : ∃ r : List ℝ, softRow [some (-800), none, some (-1250)] = some r ∧ r.length = 3 ∧ (∀ p ∈ r, 0 ≤ p) ∧ Sc.sum r = 1 := by
  obtain ⟨r, h1, h2, h3, h4, _⟩ := C15_softRow_simplex [some (-800), none, some (-1250)] ⟨-800, by simp⟩
  exact ⟨r, h1, by simpa using h2, h3, h4⟩

/-- the rounded-arithmetic statement instantiated with the rounding to the next integer upwards (monotone, idempotent, fixes 0
    and 1): every responsibility is 0 or 1 there, and the normaliser is ≥ 1 -/
example (row : List (Option (Rd fun x : ℝ => (⌈x⌉ : ℝ)))) (h : ∃ t, some t ∈ row) :
    ∃ (r e : List (Rd fun x : ℝ => (⌈x⌉ : ℝ))), softRow row = some r ∧ r = e.map (fun p => Sc.div p (Sc.sum e)) ∧
      e.length = row.length ∧ 1 ≤ (Sc.sum e).v ∧ ∀ p ∈ r, 0 ≤ p.v ∧ p.v ≤ 1 :=
  C15_softRow_rounded (fun a b hab => by exact_mod_cast Int.ceil_mono hab) (fun x => by simp) (by simp) (by simp) row h

/-- **why the old E-step failed** (`responsibilities /= row_sum + 1e-10`, known finding F30): a row with total un-normalised
    density `T` summed to `T / (T + eps)`, not to 1 — close to 1 only while `T ≫ eps`.  With one component the single
    responsibility was `p / (p + eps)` instead of 1: proportional to the density once `p ≪ eps`. -/
theorem C15_old_estep_not_normalised (eps : ℝ) (heps : 0 < eps) (row : List ℝ) (h0 : ∀ p ∈ row, 0 ≤ p) :
    ∀ r ∈ estepNormalise eps [row], Sc.sum r = row.sum / (row.sum + eps) ∧ Sc.sum r < 1 := by
  intro r hr
  simp only [estepNormalise, List.map_cons, List.map_nil, List.mem_singleton] at hr
  subst hr
  have hs : 0 ≤ row.sum := List.sum_nonneg h0
  have ht : 0 < row.sum + eps := by linarith
  have e : Sc.sum (row.map fun p => Sc.div p (Sc.add (Sc.sum row) eps)) = row.sum / (row.sum + eps) := by
    rw [ScReal.sum_def, ScReal.sum_def]
    exact ScReal.sum_map_div row _
  exact ⟨e, by rw [e, div_lt_one ht]; linarith⟩

/-- the numbers of the finding: one component, density `1e-20` at a point, `eps = 1e-10`: responsibility ≈ `1e-10`, not 1 -/
example : ∀ r ∈ estepNormalise (1 / 10 ^ 10 : ℝ) [[1 / 10 ^ 20]], Sc.sum r < 1 / 10 ^ 9 := by
  intro r hr
  obtain ⟨h1, _⟩ := C15_old_estep_not_normalised (1 / 10 ^ 10) (by positivity) [1 / 10 ^ 20]
    (fun p hp => by rw [List.mem_singleton.mp hp]; positivity) r hr
  rw [h1, List.sum_singleton, div_lt_iff₀ (by positivity)]
  norm_num

/-! ## the E-step of the model -/

/-- a column of `log_resp`: one entry per point; finite everywhere if the mixing weight is positive, `-inf` everywhere if not -/
def ColOK (n : ℕ) (w : ℝ) (col : List (Option ℝ)) : Prop :=
  col.length = n ∧ (0 < w → ∀ o ∈ col, ∃ t, o = some t) ∧ (¬ 0 < w → ∀ o ∈ col, o = none)

theorem estepCol_form (sing : Mat ℝ → Bool) (reg : ℝ) (d : ℕ) (w : ℝ) (m : List ℝ) (C : Mat ℝ) (X : Mat ℝ)
    (col : List (Option ℝ)) (h : estepCol sing reg d w m C X = some col) : ColOK X.length w col := by
  unfold estepCol at h
  obtain ⟨l, hl, rfl⟩ := Option.map_eq_some_iff.mp h
  have hlen : l.length = X.length := by
    split at hl
    · rename_i l' h'
      cases hl
      exact logpdfCol_length _ _ _ _ _ _ h'
    · exact logpdfCol_length _ _ _ _ _ _ hl
  refine ⟨by rw [List.length_map, hlen], ?_, ?_⟩
  · intro hw o ho
    obtain ⟨t, _, rfl⟩ := List.mem_map.mp ho
    exact ⟨Real.log w + t, by simp [logW, hw]⟩
  · intro hw o ho
    obtain ⟨t, _, rfl⟩ := List.mem_map.mp ho
    simpa [logW] using not_lt.mp hw

theorem estepCols_form (sing : Mat ℝ → Bool) (reg : ℝ) (d : ℕ) (ws : List ℝ) (ms : Mat ℝ) (Cs : List (Mat ℝ))
    (X : Mat ℝ) (cols : List (List (Option ℝ))) (h : estepCols sing reg d ws ms Cs X = some cols) :
    cols.length = (List.zip ws (List.zip ms Cs)).length ∧
      ∀ (k : ℕ) (col : List (Option ℝ)), cols[k]? = some col → ∃ w : ℝ, ws[k]? = some w ∧ ColOK X.length w col := by
  unfold estepCols at h
  have hlen := mapM_length (of_gmm h)
  refine ⟨hlen, ?_⟩
  intro k col hk
  have hk' : k < (List.zip ws (List.zip ms Cs)).length := hlen ▸ (List.getElem?_eq_some_iff.mp hk).1
  have ht := List.getElem?_eq_getElem hk'
  have hf := mapM_get (of_gmm h) ht
  rw [hk] at hf
  exact ⟨_, (List.getElem?_zip_eq_some.mp ht).1, estepCol_form _ _ _ _ _ _ _ _ hf⟩

theorem col_get {β : Type} (i : ℕ) : ∀ (cols : List (List β)), (∀ c ∈ cols, i < c.length) →
    ∀ (k : ℕ) (c : List β), cols[k]? = some c → (col cols i)[k]? = c[i]? := by
  intro cols
  induction cols with
  | nil => intro _ k c hk; cases hk
  | cons c0 cols ih =>
    intro h k c hk
    have h0 : i < c0.length := h c0 List.mem_cons_self
    rw [col_cons_lt c0 cols i h0]
    cases k with
    | zero =>
      rw [List.getElem?_cons_zero] at hk ⊢
      cases hk
      exact (List.getElem?_eq_getElem h0).symm
    | succ k =>
      rw [List.getElem?_cons_succ] at hk ⊢
      exact ih (fun c hc => h c (List.mem_cons_of_mem _ hc)) k c hk

theorem rowsOfCols_length {β : Type} (n : ℕ) (cols : List (List β)) : (rowsOfCols n cols).length = n := by
  rw [rowsOfCols, List.length_map, List.length_range]

theorem mem_rowsOfCols {β : Type} {n : ℕ} {cols : List (List β)} {row : List β} :
    row ∈ rowsOfCols n cols ↔ ∃ i, i < n ∧ col cols i = row := by
  simp only [rowsOfCols, List.mem_map, List.mem_range]

theorem rowsOfCols_get {β : Type} (n : ℕ) (cols : List (List β)) (i : ℕ) (hi : i < n) :
    (rowsOfCols n cols)[i]? = some (col cols i) := by
  simp [rowsOfCols, List.getElem?_map, List.getElem?_range hi]

theorem rowsOfCols_nil {β : Type} (n : ℕ) : rowsOfCols n ([] : List (List β)) = List.replicate n [] := by
  simp [rowsOfCols, col]

theorem rowsOfCols_cons {β : Type} (n : ℕ) (c : List β) (cols : List (List β)) (hc : c.length = n) :
    rowsOfCols n (c :: cols) = List.zipWith List.cons c (rowsOfCols n cols) := by
  apply List.ext_getElem
  · simp [rowsOfCols, hc]
  · intro i h1 h2
    have hi : i < n := by simpa [rowsOfCols] using h1
    simp [rowsOfCols, col_cons_lt c cols i (by omega)]

theorem estep_row_finite (sing : Mat ℝ → Bool) (reg : ℝ) (d K : ℕ) (ws : List ℝ) (ms : Mat ℝ) (Cs : List (Mat ℝ))
    (X : Mat ℝ) (hw : ws.length = K) (hm : ms.length = K) (hC : Cs.length = K)
    (hpos : ∃ (k : ℕ) (w : ℝ), ws[k]? = some w ∧ 0 < w) (cols : List (List (Option ℝ)))
    (h : estepCols sing reg d ws ms Cs X = some cols) (i : ℕ) (hi : i < X.length) :
    (col cols i).length = K ∧ ∃ t, some t ∈ col cols i := by
  obtain ⟨hclen, hcol⟩ := estepCols_form _ _ _ _ _ _ _ _ h
  have hzl : (List.zip ws (List.zip ms Cs)).length = K := by simp [hw, hm, hC]
  have hall : ∀ c ∈ cols, i < c.length := by
    intro c hc
    obtain ⟨k, hk⟩ := List.getElem?_of_mem hc
    obtain ⟨w, _, hok⟩ := hcol k c hk
    rw [hok.1]; exact hi
  refine ⟨by rw [col_length cols i hall, hclen, hzl], ?_⟩
  obtain ⟨k0, w0, hk0, hw0⟩ := hpos
  have hk0K : k0 < cols.length := by
    have := (List.getElem?_eq_some_iff.mp hk0).1
    omega
  have hc0 := List.getElem?_eq_getElem hk0K
  obtain ⟨w', hw', hok⟩ := hcol k0 _ hc0
  rw [hk0] at hw'
  cases hw'
  have hi0 : i < cols[k0].length := by rw [hok.1]; exact hi
  obtain ⟨t, ht⟩ := hok.2.1 hw0 _ (List.getElem_mem hi0)
  refine ⟨t, List.mem_of_getElem? (i := k0) ?_⟩
  rw [col_get i cols hall k0 _ hc0, List.getElem?_eq_getElem hi0, ht]

/-- **every row of the E-step is a probability vector** (entries ≥ 0, sum exactly 1, one entry per component), whenever the
    three parameter lists have `K` entries and at least one mixing weight is positive — whatever the covariances are and
    whichever of them scipy refuses -/
theorem C15_estep_rows_simplex (sing : Mat ℝ → Bool) (reg : ℝ) (d K : ℕ) (ws : List ℝ) (ms : Mat ℝ) (Cs : List (Mat ℝ))
    (X : Mat ℝ) (hw : ws.length = K) (hm : ms.length = K) (hC : Cs.length = K)
    (hpos : ∃ (k : ℕ) (w : ℝ), ws[k]? = some w ∧ 0 < w) (R : Mat ℝ) (h : estep sing reg d ws ms Cs X = some R) :
    R.length = X.length ∧ ∀ row ∈ R, row.length = K ∧ (∀ r ∈ row, 0 ≤ r) ∧ Sc.sum row = 1 := by
  unfold estep at h
  obtain ⟨cols, hcols, hR⟩ := Option.bind_eq_some_iff.mp h
  have hRlen : R.length = X.length := by
    rw [mapM_length (of_gmm hR), rowsOfCols_length]
  refine ⟨hRlen, ?_⟩
  intro row hrow
  obtain ⟨i, hi, rfl⟩ := List.mem_iff_getElem.mp hrow
  have hin : i < X.length := hRlen ▸ hi
  obtain ⟨hl, hfin⟩ := estep_row_finite sing reg d K ws ms Cs X hw hm hC hpos cols hcols i hin
  obtain ⟨r, hr, hrl, hnn, hsum, _, _⟩ := C15_softRow_simplex (col cols i) hfin
  rw [mapM_get (of_gmm hR) (rowsOfCols_get _ _ _ hin), List.getElem?_eq_getElem hi] at hr
  cases hr
  exact ⟨by rw [hrl, hl], hnn, hsum⟩


/-! ## the 'full' covariance as a list-of-rows matrix -/

theorem covFull_isSq (eps : ℝ) (d : ℕ) (ω : List ℝ) (D : List (List ℝ)) : IsSq d (covFull eps d ω D) :=
  isSq_map List.length_range fun _ _ => by rw [List.length_map, List.length_range]

theorem ent_covFull (eps : ℝ) (d : ℕ) (ω : List ℝ) (D : List (List ℝ)) {a b : ℕ} (ha : a < d) (hb : b < d) :
    ent (covFull eps d ω D) a b = covEntry eps ω D a b := by
  unfold ent; rw [covFull_entry eps d ω D a b ha hb]; rfl

theorem covFull_psd (eps : ℝ) (d : ℕ) (ω : List ℝ) (D : List (List ℝ)) (heps : 0 < eps)
    (hω : ∀ w ∈ ω, 0 ≤ w) (hD : ∀ r ∈ D, r.length = d) :
    IsSq d (covFull eps d ω D) ∧ SymL (covFull eps d ω D) ∧ PSDL d (covFull eps d ω D) := by
  have hsq := covFull_isSq eps d ω D
  obtain ⟨h1, h2, _⟩ := C15_cov_sym_psd eps d ω D heps hω hD
  refine ⟨hsq, symL_of_inside hsq fun i j hi hj => ?_, fun v => ?_⟩
  · rw [ent_covFull eps d ω D hi hj, ent_covFull eps d ω D hj hi, h1]
  · rw [quad_congr fun i j => ent_covFull eps d ω D]
    exact h2 v

example : PSDL 2 (covFull (1 / 10) 2 [1, 2] [[1, -1], [0, 3]]) :=
  (covFull_psd (1 / 10) 2 [1, 2] [[1, -1], [0, 3]] (by norm_num) (by norm_num) (by simp)).2.2

/-! ## the loop invariant and the whole fit -/

/-- what an E-step (or the initial soft assignment) hands to the M-step: an `n × K` matrix of probability rows -/
structure GoodR (n K : ℕ) (R : Mat ℝ) : Prop where
  len : R.length = n
  rowlen : ∀ row ∈ R, row.length = K
  nonneg : ∀ row ∈ R, ∀ r ∈ row, 0 ≤ r
  rowsum : ∀ row ∈ R, Sc.sum row = 1

/-- the loop invariant of `fit`: mixing weights on the simplex, `K` means of dimension `d`, and every covariance of the
    form `Σ_i ω_i d_i d_iᵀ / (Σ_i ω_i + eps)` (resp. its diagonal) with `ω ≥ 0` — hence symmetric positive semidefinite -/
structure Inv (eps : ℝ) (d K : ℕ) (p : MStep ℝ) : Prop where
  wlen : p.weights.length = K
  wnn : ∀ x ∈ p.weights, 0 ≤ x
  wsum : Sc.sum p.weights = 1
  mlen : p.means.length = K
  mrow : ∀ m ∈ p.means, m.length = d
  cflen : p.covFull.length = K
  cdlen : p.covDiag.length = K
  cov : ∀ k, k < K → ∃ (ω : List ℝ) (D : Mat ℝ), (∀ w ∈ ω, 0 ≤ w) ∧ (∀ r ∈ D, r.length = d) ∧
      p.covFull[k]? = some (covFull eps d ω D) ∧ p.covDiag[k]? = some (covDiag eps d ω D)

theorem exists_pos_of_sum_one (l : List ℝ) (h1 : Sc.sum l = 1) : ∃ (k : ℕ) (x : ℝ), l[k]? = some x ∧ 0 < x := by
  rw [ScReal.sum_def] at h1
  obtain ⟨x, hx, hpos⟩ := List.exists_lt_of_sum_lt (l := l) (f := fun _ => (0 : ℝ)) (g := id)
    (by rw [List.map_id, h1, List.map_const', List.sum_replicate, smul_zero]; exact one_pos)
  obtain ⟨k, hk⟩ := List.getElem?_of_mem hx
  exact ⟨k, x, hk, hpos⟩

theorem sum_range_getD : ∀ l : List ℝ, ((List.range l.length).map fun k => l.getD k 0).sum = l.sum := by
  intro l
  induction l with
  | nil => simp
  | cons x l ih =>
    rw [List.length_cons, List.range_succ_eq_map, List.map_cons, List.map_map, List.sum_cons]
    simp only [List.getD_cons_zero, List.sum_cons]
    congr 1

theorem sum_colSums (K : ℕ) : ∀ W : Mat ℝ, (∀ row ∈ W, row.length = K) → (colSums K W).sum = (W.map List.sum).sum := by
  intro W
  induction W with
  | nil => intro _; simp [colSums, col, ScReal.sum_def]
  | cons r W ih =>
    intro hK
    have hr : r.length = K := hK r List.mem_cons_self
    have e : colSums K (r :: W) = (List.range K).map fun k => r.getD k 0 + Sc.sum (col W k) :=
      List.map_congr_left fun k hk => by
        rw [col_cons_getD r W k (hr ▸ List.mem_range.mp hk), ScReal.sum_def, ScReal.sum_def, List.sum_cons]
    have hsum := sum_range_getD r
    rw [hr] at hsum
    rw [e, List.sum_map_add, hsum, List.map_cons, List.sum_cons]
    exact congrArg _ (ih fun row h => hK row (List.mem_cons_of_mem _ h))

theorem colSums_total (K : ℕ) (R : Mat ℝ) (s : List ℝ) (hl : R.length = s.length) (hK : ∀ row ∈ R, row.length = K)
    (h1 : ∀ row ∈ R, Sc.sum row = 1) : Sc.sum (colSums K (weightedResp R s)) = Sc.sum s := by
  have hrows : (weightedResp R s).map List.sum = s := by
    induction R, s using list_induction₂ with
    | nil_left s => rw [List.eq_nil_of_length_eq_zero hl.symm]; rfl
    | nil_right R => rw [List.eq_nil_of_length_eq_zero hl]; rfl
    | cons_cons r R a s ih =>
      have hr := h1 r List.mem_cons_self
      rw [ScReal.sum_def] at hr
      rw [weightedResp, List.zipWith_cons_cons, List.map_cons, mul_fun, List.sum_map_mul_right, List.map_id', hr, one_mul]
      exact congrArg _ (ih (Nat.succ.inj hl) (fun row h => hK row (List.mem_cons_of_mem _ h))
        fun row h => h1 row (List.mem_cons_of_mem _ h))
  rw [ScReal.sum_def, ScReal.sum_def, sum_colSums K _ fun row hrow => ?_, hrows]
  obtain ⟨i, hi, rfl⟩ := List.mem_iff_getElem.mp hrow
  simp only [weightedResp, List.getElem_zipWith, List.length_map]
  exact hK _ (List.getElem_mem _)

theorem mstep_total_pos (n K : ℕ) (R : Mat ℝ) (s : List ℝ) (hR : GoodR n K R) (hsl : s.length = n)
    (hs0 : ∀ x ∈ s, 0 ≤ x) (hspos : ∃ (i : ℕ) (si : ℝ), s[i]? = some si ∧ 0 < si) :
    0 < Sc.sum (colSums K (weightedResp R s)) := by
  obtain ⟨i, si, hsi, hpos⟩ := hspos
  rw [colSums_total K R s (by rw [hR.len, hsl]) hR.rowlen hR.rowsum, ScReal.sum_def]
  exact lt_of_lt_of_le hpos (List.single_le_sum hs0 si (List.mem_of_getElem? hsi))

theorem mstep_inv (tiny eps : ℝ) (d K n : ℕ) (X R : Mat ℝ) (s : List ℝ)
    (hX : ∀ x ∈ X, x.length = d) (hR : GoodR n K R) (hsl : s.length = n) (hs0 : ∀ x ∈ s, 0 ≤ x)
    (hspos : ∃ (i : ℕ) (si : ℝ), s[i]? = some si ∧ 0 < si) :
    Inv eps d K (mstep tiny eps d K X R s) := by
  have htot := mstep_total_pos n K R s hR hsl hs0 hspos
  obtain ⟨h1, h2, h3⟩ := C15_mstep_weights_simplex K R s hR.nonneg hs0 htot
  obtain ⟨_, hm, hcf, hcd⟩ := mstep_shape tiny eps d K X R s
  refine ⟨h3, h1, h2, hm, ?_, hcf, hcd, ?_⟩
  · intro m hm
    obtain ⟨k, _, rfl⟩ := List.mem_map.mp hm
    exact meanVec_length _ _ _ _
  · intro k hk
    obtain ⟨hf, hd⟩ := mstep_cov_get tiny eps d K X R s k hk
    exact ⟨_, _, wcol_nonneg R s k hR.nonneg hs0, diffRows_shape d X _ hX (meanVec_length tiny d _ X), hf, hd⟩

theorem Inv.shape {eps : ℝ} {d K : ℕ} {p : MStep ℝ} (h : Inv eps d K p) : MShape K p :=
  ⟨h.wlen, h.mlen, h.cflen, h.cdlen⟩

theorem covMats_length (diagT : Bool) (K : ℕ) (p : MStep ℝ) (h : MShape K p) : (covMats diagT p).length = K := by
  unfold covMats
  split
  · rw [List.length_map, h.2.2.2]
  · exact h.2.2.1

/-- the domain of the statements about `fit`; `s` is the normalised sample weight -/
structure FitHyp (c : Cfg ℝ) (X : Mat ℝ) (s : List ℝ) : Prop where
  heps : 0 < c.eps
  hK : 1 ≤ c.K
  hX : ∀ x ∈ X, x.length = c.d
  hsl : s.length = X.length
  hs0 : ∀ x ∈ s, 0 ≤ x
  hspos : ∃ (i : ℕ) (si : ℝ), s[i]? = some si ∧ 0 < si

/-- what every parameter set met during a fit looks like: the invariant, and the last M-step it came from -/
def FromMStep (c : Cfg ℝ) (X : Mat ℝ) (s : List ℝ) (p : MStep ℝ) : Prop :=
  Inv c.eps c.d c.K p ∧ ∃ R, GoodR X.length c.K R ∧ p = mstep c.tiny c.eps c.d c.K X R s

theorem fromMStep_of_goodR (c : Cfg ℝ) (X : Mat ℝ) (s : List ℝ) (hf : FitHyp c X s) (R : Mat ℝ)
    (hR : GoodR X.length c.K R) : FromMStep c X s (mstep c.tiny c.eps c.d c.K X R s) :=
  ⟨mstep_inv c.tiny c.eps c.d c.K X.length X R s hf.hX hR hf.hsl hf.hs0 hf.hspos, R, hR, rfl⟩

theorem emIter_inv (c : Cfg ℝ) (X : Mat ℝ) (s : List ℝ) (hf : FitHyp c X s) (p p' : MStep ℝ) (new : ℝ)
    (hp : Inv c.eps c.d c.K p) (h : emIter c X s p = some (p', new)) : FromMStep c X s p' := by
  obtain ⟨R, hR, hq⟩ := (emIter_eq_some c X s p _).mp h
  cases hq
  obtain ⟨hlen, hrows⟩ := C15_estep_rows_simplex c.sing c.reg c.d c.K p.weights p.means (covMats c.diagT p) X
    hp.wlen hp.mlen (covMats_length _ _ _ hp.shape) (exists_pos_of_sum_one _ hp.wsum) R hR
  exact fromMStep_of_goodR c X s hf R
    ⟨hlen, fun row h => (hrows row h).1, fun row h => (hrows row h).2.1, fun row h => (hrows row h).2.2⟩

theorem moreCentres_length (X : Mat ℝ) (s : List ℝ) (c0 : List ℝ) :
    ∀ (k : ℕ) (tape : List ℝ) (cs : Mat ℝ) (picks : List ℕ) (r : Mat ℝ × List ℕ × List ℝ),
      moreCentres X s c0 k tape cs picks = some r → r.1.length = cs.length + k := by
  intro k
  induction k with
  | zero => intro tape cs picks r h; cases h; rfl
  | succ k ih =>
    intro tape cs picks r h
    cases tape with
    | nil => cases h
    | cons u tape =>
      rw [moreCentres] at h
      split at h
      · cases h
      · split at h
        · cases h
        · rw [ih _ _ _ _ h, List.length_append, List.length_singleton, Nat.add_assoc, Nat.add_comm 1 k]

theorem centres_length (X : Mat ℝ) (s : List ℝ) (K : ℕ) (tape : List ℝ) (r : Mat ℝ × List ℕ × List ℝ)
    (h : centres X s K tape = some r) : r.1.length = K := by
  unfold centres at h
  split at h
  · cases h
  · cases h
  · rename_i K' u tape'
    split at h
    · cases h
    · split at h
      · cases h
      · obtain ⟨r', hr', rfl⟩ := Option.map_eq_some_iff.mp h
        rw [List.length_cons, moreCentres_length X s _ K' tape' [] _ r' hr', List.length_nil, Nat.zero_add]

theorem shiftExp_length (row : List ℝ) : (shiftExp row).length = row.length := by
  cases row <;> simp [shiftExp]

theorem rep_initNormalise_rows (L : Mat ℝ) (K : ℕ) (hL : ∀ row ∈ L, row.length = K) :
    ∀ row ∈ initNormalise L, row.length = K := by
  intro row hrow
  simp only [initNormalise, List.mem_map] at hrow
  obtain ⟨l, hl, rfl⟩ := hrow
  simp [shiftExp_length, hL l hl]

theorem initFit_inv (c : Cfg ℝ) (X : Mat ℝ) (s : List ℝ) (hf : FitHyp c X s) (tape : List ℝ)
    (r : MStep ℝ × List ℕ × List ℝ) (h : initFit c X s tape = some r) : FromMStep c X s r.1 := by
  obtain ⟨cs, hcs, rfl⟩ := Option.map_eq_some_iff.mp h
  have hK := centres_length X s c.K tape cs hcs
  have hrow : ∀ row ∈ logResp X cs.1, row.length = c.K := by
    intro row hrow
    obtain ⟨x, _, rfl⟩ := List.mem_map.mp hrow
    rw [List.length_map, hK]
  have hsimp := C15_init_rows_simplex_full (logResp X cs.1) fun row h hnil => by
    have := hrow row h
    rw [hnil] at this
    exact absurd this.symm (Nat.ne_of_gt hf.hK)
  have hgood : GoodR X.length c.K (initNormalise (logResp X cs.1)) := by
    exact ⟨by rw [initNormalise_shape, logResp, List.length_map], rep_initNormalise_rows (logResp X cs.1) c.K hrow,
      fun row h => (hsimp row h).1, fun row h => (hsimp row h).2⟩
  exact fromMStep_of_goodR c X s hf _ hgood

theorem normWeights_eq_normalise {α : Type} [ScT α] (w : List α) : normWeights w = normalise w := rfl

theorem normWeights_sum (w : List ℝ) (hpos : 0 < Sc.sum w) : Sc.sum (normWeights w) = 1 :=
  normalise_sum w (ScReal.sum_def w ▸ hpos).ne'

theorem normWeights_hyp (c : Cfg ℝ) (X : Mat ℝ) (w : List ℝ) (heps : 0 < c.eps) (hK : 1 ≤ c.K) (hX : ∀ x ∈ X, x.length = c.d)
    (hwl : w.length = X.length) (hw0 : ∀ x ∈ w, 0 ≤ x) (hwpos : 0 < Sc.sum w) : FitHyp c X (normWeights w) := by
  obtain ⟨hnn, hsum⟩ := normalise_simplex w hw0 (ScReal.sum_def w ▸ hwpos)
  exact ⟨heps, hK, hX, (normalise_length w).trans hwl, hnn, exists_pos_of_sum_one _ hsum⟩

/-- **the whole fit**, for every tape, refusal oracle, `n_init`, `max_iter`, tolerance and both covariance structures: if `fit`
    returns, the fitted parameters satisfy the invariant and are the M-step of a matrix of probability rows -/
theorem C15_fit_invariants (c : Cfg ℝ) (X : Mat ℝ) (w : List ℝ) (tape : List ℝ) (heps : 0 < c.eps) (hK : 1 ≤ c.K)
    (hX : ∀ x ∈ X, x.length = c.d) (hwl : w.length = X.length) (hw0 : ∀ x ∈ w, 0 ≤ x) (hwpos : 0 < Sc.sum w)
    (o : FitOut ℝ) (h : fit c X w tape = some o) :
    FromMStep c X (normWeights w) o.params ∧ 1 ≤ o.nIter ∧ o.nIter ≤ c.maxIter ∧
      o.converged = decide (o.nIter < c.maxIter) := by
  have hf := normWeights_hyp c X w heps hK hX hwl hw0 hwpos
  exact fit_induction c X w tape (FromMStep c X (normWeights w)) (fun tape r => initFit_inv c X _ hf tape r)
    (fun p q hp hq => emIter_inv c X _ hf p q.1 q.2 hp.1 hq) o h


/-- **fitted mixing weights are non-negative and sum to one** -/
theorem C15_fit_weights_simplex (c : Cfg ℝ) (X : Mat ℝ) (w : List ℝ) (tape : List ℝ) (heps : 0 < c.eps) (hK : 1 ≤ c.K)
    (hX : ∀ x ∈ X, x.length = c.d) (hwl : w.length = X.length) (hw0 : ∀ x ∈ w, 0 ≤ x) (hwpos : 0 < Sc.sum w)
    (o : FitOut ℝ) (h : fit c X w tape = some o) :
    o.params.weights.length = c.K ∧ (∀ p ∈ o.params.weights, 0 ≤ p) ∧ Sc.sum o.params.weights = 1 := by
  obtain ⟨⟨hinv, _⟩, _⟩ := C15_fit_invariants c X w tape heps hK hX hwl hw0 hwpos o h
  exact ⟨hinv.wlen, hinv.wnn, hinv.wsum⟩

/-- **fitted covariances are symmetric positive semidefinite** ('full': `covariances_[k]` as a `d × d` list matrix;
    'diag': `d` non-negative entries) -/
theorem C15_fit_cov_sym_psd (c : Cfg ℝ) (X : Mat ℝ) (w : List ℝ) (tape : List ℝ) (heps : 0 < c.eps) (hK : 1 ≤ c.K)
    (hX : ∀ x ∈ X, x.length = c.d) (hwl : w.length = X.length) (hw0 : ∀ x ∈ w, 0 ≤ x) (hwpos : 0 < Sc.sum w)
    (o : FitOut ℝ) (h : fit c X w tape = some o) (k : ℕ) (hk : k < c.K) :
    ∃ (M : Mat ℝ) (v : List ℝ), o.params.covFull[k]? = some M ∧ o.params.covDiag[k]? = some v ∧
      IsSq c.d M ∧ SymL M ∧ PSDL c.d M ∧ v.length = c.d ∧ ∀ x ∈ v, 0 ≤ x := by
  obtain ⟨⟨hinv, _⟩, _⟩ := C15_fit_invariants c X w tape heps hK hX hwl hw0 hwpos o h
  obtain ⟨ω, D, hω, hD, hf, hd⟩ := hinv.cov k hk
  obtain ⟨h1, h2, h3⟩ := covFull_psd c.eps c.d ω D heps hω hD
  refine ⟨_, _, hf, hd, h1, h2, h3, by simp [covDiag], ?_⟩
  intro x hx
  obtain ⟨a, _, rfl⟩ := List.mem_map.mp hx
  exact (C15_cov_sym_psd c.eps c.d ω D heps hω hD).2.2 a

/-- **the mean of every component of non-negligible weight lies inside the data's bounding box**: "non-negligible" is
    `π_k ≥ tiny` (`np.finfo(float).tiny` ≈ 2.2e-308) for the fitted mixing weight `π_k` itself — with probability rows and
    normalised sample weights the guard `max(S_k, tiny)` of the M-step compares exactly `π_k = S_k` with `tiny` -/
theorem C15_fit_mean_in_bbox (c : Cfg ℝ) (X : Mat ℝ) (w : List ℝ) (tape : List ℝ) (heps : 0 < c.eps) (hK : 1 ≤ c.K)
    (htiny : 0 < c.tiny) (hX : ∀ x ∈ X, x.length = c.d) (hwl : w.length = X.length) (hw0 : ∀ x ∈ w, 0 ≤ x)
    (hwpos : 0 < Sc.sum w) (o : FitOut ℝ) (h : fit c X w tape = some o) (k j : ℕ) (hk : k < c.K) (hj : j < c.d)
    (lo hi : ℝ) (hbox : ∀ v ∈ col X j, lo ≤ v ∧ v ≤ hi) :
    ∃ π : ℝ, o.params.weights[k]? = some π ∧
      (c.tiny ≤ π → ∃ m : ℝ, (o.params.means[k]?.bind (·[j]?)) = some m ∧ lo ≤ m ∧ m ≤ hi) := by
  obtain ⟨⟨_, R, hR, hp⟩, _⟩ := C15_fit_invariants c X w tape heps hK hX hwl hw0 hwpos o h
  have hf := normWeights_hyp c X w heps hK hX hwl hw0 hwpos
  have htot : Sc.sum (colSums c.K (weightedResp R (normWeights w))) = 1 := by
    rw [colSums_total c.K R _ (by rw [hR.len, hf.hsl]) hR.rowlen hR.rowsum, normWeights_sum w hwpos]
  refine ⟨Sc.sum (col (weightedResp R (normWeights w)) k), ?_, ?_⟩
  · rw [hp, mstep_weights_eq, mstepWeights]
    have htot' : Sc.sum (List.map (fun k => Sc.sum (col (weightedResp R (normWeights w)) k)) (List.range c.K)) = 1 := htot
    simp only [normalise, colSums, List.getElem?_map, List.getElem?_range hk, Option.map_some, ScReal.div_def, htot',
      div_one]
  · intro hS
    rw [hp, mstep_means_eq]
    exact C15_mean_in_bbox c.tiny lo hi c.d c.K X R (normWeights w) k j hk hj hX hR.len hf.hsl hR.rowlen hR.nonneg hf.hs0
      htiny hS hbox


end Props.C15
