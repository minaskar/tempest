import TempestVerif.Model.CallsRun
import TempestVerif.Model.Steps
import TempestVerif.Props.C13LogLike
import TempestVerif.Props.C13
/-
  C13 over a WHOLE run (Model/CallsRun.lean): for every sampler whose numerical parts are arbitrary functions of the state and of
  the likelihood VALUES they were handed (`Algo`), for every way a run starts (fresh, resumed, resumed from a checkpoint without a
  `calls` entry, continued on a sampler with committed history) and every number of iterations and accept/reject steps.  One
  invariant carries the accounting: `calls = c + points asked` survives a mutation, an iteration, the loop.  The increments, the
  initial values and the set of places that write `calls` are the ones regenerated from source.
-/
namespace Props.C13
open Model.CallsRun Model.Dispatch Model.LLEval

/-- the accounting expressions regenerated from /repo -/
def runTable : RunTable :=
  ⟨⟨Gen.Dispatch.warmupIncrement, Gen.Dispatch.warmupBatch, Gen.Dispatch.stepIncrement, Gen.Dispatch.stepBatch⟩,
   Gen.Dispatch.nCallsInit, Gen.Dispatch.freshCalls, Gen.Dispatch.resumeDefault,
   Gen.Dispatch.warmupDrawnInit, Gen.Dispatch.warmupDrawnStep,
   Gen.Dispatch.warmupCap⟩

/-- `Props/C13Source.lean` holds the same table; its equations and table reads (`C13_src_*`, `Src.*_eval`) are used through this -/
theorem runTable_eq : runTable = Src.runTable := rfl

/-! ### obligations on the regenerated source facts -/

/-- FRAME: the only places of the package that write the current-state key `calls` are the four the model has:
    `_initialize_fresh` (0), the default of `load_sampler_state` (0, only when the loaded value is None), and the two sites of
    `Mutator.run` that store the local `calls = get_current("calls") + <increment>` -/
theorem C13_calls_frame :
    Gen.Dispatch.callsWriters =
      [("core.py:load_sampler_state:default", "0"), ("core.py:_initialize_fresh:set", "0"),
       ("steps/mutate.py:run:update", "calls"), ("steps/mutate.py:run:set", "calls")] ∧
    Gen.Dispatch.freshCalls = "0" ∧ Gen.Dispatch.resumeDefault = "0" ∧ Gen.Dispatch.resumeDefaultOnlyIfNone = "1" ∧
    Gen.Dispatch.nCallsInit = "0" := ⟨rfl, rfl, rfl, rfl, rfl⟩

/-- ONE evaluation per counted batch, on the batch the model says: the warm-up branch calls the likelihood once before its redraw
    loop and once per turn of it (cap test, then the call, then `n_drawn += n_particles`), each time on a fresh
    `[prior_transform(u[i]) for i in range(n_particles)]`, adds `n_drawn` and returns; the rest of `Mutator.run` never calls it directly but
    hands it to `parallel_mcmc`; `_evaluate_likelihood` evaluates its own argument (in both blobs branches); the runner calls
    it on `[prior_transform(u_p) for u_p in u_prime]` with `u_prime = np.empty_like(self.u)`; the loop is a `while True` left
    only through `if _check_convergence(...): break`; each dispatch branch of `_log_like` is one statement and the user's
    function is referenced exactly once per branch -/
theorem C13_source_one_evaluation_per_site :
    Gen.Dispatch.warmupLikelihoodArgs =
      ["prior_transform over range(self.n_particles)", "prior_transform over range(self.n_particles)"] ∧
    Gen.Dispatch.warmupLoop = "while np.all(np.isinf(logl))" ∧ Gen.Dispatch.warmupLoopCalls = "before=1 inside=1 after=0" ∧
    Gen.Dispatch.warmupLoopOrder = "If,Assign,AugAssign" ∧
    Gen.Dispatch.warmupIncrement = "n_drawn" ∧ Gen.Dispatch.warmupDrawnInit = "self.n_particles" ∧
    Gen.Dispatch.warmupDrawnStep = "self.n_particles" ∧ Gen.Dispatch.warmupCap = "1000 * self.n_particles" ∧
    Gen.Dispatch.mutateOtherLikelihoodArgs = [] ∧ Gen.Dispatch.warmupEndsWithReturn = "1" ∧
    Gen.Dispatch.mcmcLikelihoodArg = "self.log_likelihood" ∧
    Gen.Dispatch.evaluateLikelihoodArgs = ["param", "param"] ∧
    Gen.Dispatch.stepBatchBuilt = ["prior_transform over u_prime"] ∧ Gen.Dispatch.proposalRows = ["np.empty_like(self.u)"] ∧
    Gen.Dispatch.mcmcLoop = "while True|breaks=1|guard=self._check_convergence" ∧
    Gen.Dispatch.logLikeBranchStmts = "1,1,1" ∧ Gen.Dispatch.logLikeUserRefs = "3" :=
  ⟨rfl, rfl, rfl, rfl, rfl, rfl, rfl, rfl, rfl, rfl, rfl, rfl, rfl, rfl, rfl, rfl, rfl⟩

theorem startKind_runStart (havePath : Bool) (n : Nat) :
    startKind Gen.Dispatch.runStart havePath n =
      some (if havePath then .resume else if 0 < n then .continued else .fresh) := by
  rw [Src.C13_src_startKind]
  cases havePath
  · by_cases h : 0 < n <;> simp [Gen.LogLikeSrc.startKind, Model.LLPy.startOf, h]
  · rfl

/-- how a run starts: a resume path ⇒ `_initialize_from_resume`; else a committed history ⇒ nothing is initialised (the counter
    keeps its value); else `_initialize_fresh` -/
theorem C13_source_start :
    Gen.Dispatch.runStart = [("path", "resume"), ("history", "continue"), ("else", "fresh")] ∧
    (∀ n, startKind Gen.Dispatch.runStart true n = some .resume) ∧
    (∀ n, 0 < n → startKind Gen.Dispatch.runStart false n = some .continued) ∧
    startKind Gen.Dispatch.runStart false 0 = some .fresh :=
  ⟨rfl, startKind_runStart true, fun n hn => (startKind_runStart false n).trans (by rw [if_neg Bool.false_ne_true, if_pos hn]),
    startKind_runStart false 0⟩

/-- `FunctionWrapper` is `f(x, *args, **kwargs)` with `None` replaced by the empty list / dict -/
theorem C13_source_wrapper :
    Gen.Dispatch.wrapperCall = "f(x,*args,**kwargs)" ∧
    Gen.Dispatch.wrapperInit = ["f", "args:None->[]", "kwargs:None->{}"] := ⟨rfl, rfl⟩

/-! ### sizes of the batches -/

variable {S M X V : Type}

/-- what the code's construction of the batches guarantees (discharged for the real code by `C13_source_one_evaluation_per_site`
    — `range(self.n_particles)`, `np.empty_like(self.u)` — and checked on every recorded `_log_like` call by suite `whole-run`) -/
structure Sized (A : Algo S M X V) (nP : Nat) (rows : M → Nat) : Prop where
  draw : ∀ s, (A.draw s).length = nP
  propose : ∀ m, (A.propose m).length = rows m
  accept : ∀ m xp v, rows (A.accept m xp v) = rows m
  init : ∀ s, rows (A.mcmcInit s) = A.nWalkers s

theorem points_append (a b : List (List X)) : points (a ++ b) = points a + points b := by
  simp [points, List.sum_append]

theorem points_of_length {n : Nat} {bs : List (List X)} (h : ∀ b ∈ bs, b.length = n) : points bs = bs.length * n := by
  rw [points, List.map_eq_replicate_iff.mpr h, List.sum_replicate_nat]

section Counter
variable {A : Algo S M X V} {ev : Nat → List X → Option V} {nP nw fuel wfuel : Nat} {rows : M → Nat} {r r' : RS S X}

theorem mcmcLoop_succ (m : M) (n : Nat) (asked : List (List X)) :
    mcmcLoop runTable A ev ⟨nP, nw⟩ (fuel + 1) m n asked =
      (ev asked.length (A.propose m)).bind fun v =>
        if A.converged (A.accept m (A.propose m) v) then some (A.accept m (A.propose m) v, n + nw, asked ++ [A.propose m])
        else mcmcLoop runTable A ev ⟨nP, nw⟩ fuel (A.accept m (A.propose m) v) (n + nw) (asked ++ [A.propose m]) :=
  Src.C13_src_mcmcLoop_succ A ev nP nw fuel m n asked

theorem mutate_mcmc (hb : A.beta0 r.s = false) :
    mutate runTable A ev nP fuel r wfuel =
      (mcmcLoop runTable A ev ⟨nP, A.nWalkers r.s⟩ fuel (A.mcmcInit r.s) 0 r.asked).map fun (m, c, asked') =>
        ⟨A.mcmcStore r.s m, r.calls + c, asked'⟩ := by
  rw [runTable_eq, Src.C13_src_mutate, hb]; rfl

/-! ### the counter follows the batches -/

theorem mcmcLoop_calls (hp : ∀ m, (A.propose m).length = rows m) (ha : ∀ m xp v, rows (A.accept m xp v) = rows m)
    {m m' : M} {n0 nc : Nat} {asked asked' : List (List X)} (hm : rows m = nw)
    (h : mcmcLoop runTable A ev ⟨nP, nw⟩ fuel m n0 asked = some (m', nc, asked')) :
    ∃ b bs, asked' = asked ++ b :: bs ∧ (∀ x ∈ b :: bs, x.length = nw) ∧ nc = n0 + (bs.length + 1) * nw := by
  induction fuel generalizing m n0 asked with
  | zero => cases h
  | succ fuel ih =>
    rw [mcmcLoop_succ] at h
    obtain ⟨v, -, h⟩ := Option.bind_eq_some_iff.mp h
    have hlen : (A.propose m).length = nw := (hp m).trans hm
    split at h
    · cases h
      exact ⟨_, [], rfl, List.forall_mem_cons.mpr ⟨hlen, List.forall_mem_nil _⟩, by rw [List.length_nil, Nat.one_mul]⟩
    · obtain ⟨b, bs, rfl, hall, rfl⟩ := ih ((ha _ _ _).trans hm) h
      exact ⟨_, b :: bs, List.append_assoc .., List.forall_mem_cons.mpr ⟨hlen, hall⟩,
        by rw [List.length_cons, Nat.succ_mul (bs.length + 1), Nat.add_assoc, Nat.add_comm nw]⟩

theorem warmLoop_calls (hd : ∀ s, (A.draw s).length = nP) {cap : Option Nat} {s s' : S} {x x' : List X} {v v' : V}
    {n0 n1 : Nat} {asked asked' : List (List X)}
    (h : warmLoop runTable A ev ⟨nP, nw⟩ cap fuel s x v n0 asked = some (s', x', v', n1, asked')) :
    ∃ bs, asked' = asked ++ bs ∧ (∀ b ∈ bs, b.length = nP) ∧ n1 = n0 + bs.length * nP ∧ A.allInf v' = false := by
  induction fuel generalizing s x v n0 asked with
  | zero =>
    rw [warmLoop] at h
    by_cases hv : A.allInf v = true
    · rw [if_pos hv] at h; cases h
    · rw [if_neg hv] at h; cases h
      exact ⟨[], (List.append_nil _).symm, List.forall_mem_nil _, (Nat.zero_mul _).symm ▸ rfl, Bool.eq_false_iff.mpr hv⟩
  | succ fuel ih =>
    rw [runTable_eq, warmLoop, Src.warmStep_eval] at h
    by_cases hv : A.allInf v = true
    · rw [if_pos hv] at h
      by_cases hc : capReached cap n0 = true
      · rw [if_pos hc] at h; cases h
      · rw [if_neg hc] at h
        obtain ⟨v1, -, h⟩ := Option.bind_eq_some_iff.mp h
        obtain ⟨bs, rfl, hall, rfl, hfin⟩ := ih h
        exact ⟨A.draw s :: bs, List.append_assoc .., List.forall_mem_cons.mpr ⟨hd s, hall⟩,
          by rw [List.length_cons, Nat.succ_mul _ nP, Nat.add_assoc, Nat.add_comm nP], hfin⟩
    · rw [if_neg hv] at h; cases h
      exact ⟨[], (List.append_nil _).symm, List.forall_mem_nil _, (Nat.zero_mul _).symm ▸ rfl, Bool.eq_false_iff.mpr hv⟩

/-- `Mutator.run` evaluates `k ≥ 1` batches, all of `n` points — `n_particles` in the warm-up branch (the first draw plus every
    redraw), `n_walkers` otherwise — and adds `k·n` to the counter -/
theorem mutate_calls (hs : Sized A nP rows) (h : mutate runTable A ev nP fuel r wfuel = some r') :
    ∃ b bs, r'.asked = r.asked ++ b :: bs ∧ (∀ x ∈ b :: bs, x.length = if A.beta0 r.s then nP else A.nWalkers r.s) ∧
      r'.calls = r.calls + (bs.length + 1) * (if A.beta0 r.s then nP else A.nWalkers r.s) := by
  cases hb : A.beta0 r.s with
  | true =>
    rw [runTable_eq, Src.C13_src_mutate, hb, if_pos rfl] at h
    obtain ⟨v, -, h⟩ := Option.bind_eq_some_iff.mp h
    obtain ⟨⟨s', x', v', nDrawn, asked'⟩, hl, h⟩ := Option.map_eq_some_iff.mp h
    cases h
    obtain ⟨bs, rfl, hall, rfl, -⟩ := warmLoop_calls hs.draw hl
    exact ⟨_, bs, List.append_assoc .., List.forall_mem_cons.mpr ⟨hs.draw _, hall⟩,
      -- the source's `warmCalls c n _` is `c + n` and its `nDrawnInit nP` is `nP`
      by rw [if_pos rfl, Nat.succ_mul, Nat.add_comm _ nP]; rfl⟩
  | false =>
    rw [mutate_mcmc hb] at h
    obtain ⟨⟨m, nc, asked'⟩, hl, h⟩ := Option.map_eq_some_iff.mp h
    cases h
    obtain ⟨b, bs, rfl, hall, rfl⟩ := mcmcLoop_calls hs.propose hs.accept (hs.init r.s) hl
    exact ⟨b, bs, rfl, hall, by rw [Nat.zero_add]; rfl⟩

theorem iteration_calls (hs : Sized A nP rows) (h : iteration runTable A ev nP fuel r = some r') {c : Nat}
    (hc : r.calls = c + points r.asked) : r'.calls = c + points r'.asked := by
  obtain ⟨r1, hm, h⟩ := Option.map_eq_some_iff.mp h
  cases h
  obtain ⟨b, bs, h1, h2, h3⟩ := mutate_calls hs hm
  show r1.calls = c + points r1.asked
  rw [h1, h3, points_append, points_of_length h2, ← Nat.add_assoc]
  exact congrArg (· + _) hc

theorem iterN_calls (hs : Sized A nP rows) {k : Nat} (h : iterN runTable A ev nP fuel k r = some r') {c : Nat}
    (hc : r.calls = c + points r.asked) : r'.calls = c + points r'.asked := by
  induction k generalizing r with
  | zero => cases h; exact hc
  | succ k ih =>
    obtain ⟨r1, h1, h⟩ := Option.bind_eq_some_iff.mp h
    exact ih h (iteration_calls hs h1 hc)

theorem loop_calls (hs : Sized A nP rows) {n : Nat} (h : loop runTable A ev nP fuel n r = some r') {c : Nat}
    (hc : r.calls = c + points r.asked) : r'.calls = c + points r'.asked := by
  induction n generalizing r with
  | zero =>
    rw [loop] at h
    split at h
    · cases h
    · cases h; exact hc
  | succ n ih =>
    rw [loop] at h
    split at h
    · obtain ⟨r1, h1, h⟩ := Option.bind_eq_some_iff.mp h
      exact ih h (iteration_calls hs h1 hc)
    · cases h; exact hc

end Counter

/-- a warm-up iteration that needed `k` redraws evaluates `k + 1` batches and reports `(k + 1)·n_particles` more calls
    (that the batch it keeps has a finite draw is the last clause of `warmLoop_calls`) -/
theorem C13_warmup_redraws (A : Algo S M X V) (ev : Nat → List X → Option V) (nP : Nat) (rows : M → Nat)
    (hs : Sized A nP rows) (fuel : Nat) (r r' : RS S X) (wfuel : Nat) (hb : A.beta0 r.s = true)
    (h : mutate runTable A ev nP fuel r wfuel = some r') :
    ∃ k, r'.asked.length = r.asked.length + (k + 1) ∧ r'.calls = r.calls + (k + 1) * nP := by
  obtain ⟨b, bs, h1, -, h3⟩ := mutate_calls hs h
  rw [hb, if_pos rfl] at h3
  exact ⟨bs.length, by rw [h1, List.length_append, List.length_cons], h3⟩

def startCalls : Start S → Nat
  | .fresh _ => 0
  | .resume _ (some c) => c
  | .resume _ none => 0
  | .continued _ c => c

theorem begin_eq (st : Start S) : ∃ s, begin (X := X) runTable st = some ⟨s, startCalls st, []⟩ := by
  rcases st with s | ⟨s, _ | c⟩ | ⟨s, c⟩ <;> exact ⟨s, rfl⟩

/-- C13 (calls, whole run): when `run_sampling` returns, the reported number of calls is the value the run started from
    (0 for a fresh run, the checkpoint's count for a resumed one) plus the number of points in all batches handed to
    `_log_like` by this process -/
theorem C13_run_calls (A : Algo S M X V) (ev : Nat → List X → Option V) (nP : Nat) (rows : M → Nat)
    (hs : Sized A nP rows) (fuel iters : Nat) (st : Start S) (r : RS S X)
    (h : runSampling runTable A ev nP fuel iters st = some r) :
    r.calls = startCalls st + points r.asked := by
  obtain ⟨s, hb⟩ := begin_eq (X := X) st
  rw [runSampling, hb, Option.bind_some] at h
  obtain ⟨r1, hl, h⟩ := Option.map_eq_some_iff.mp h
  cases h
  exact loop_calls hs hl rfl

/-! ### … and the batches are what the user's likelihood was evaluated at -/

/-- every point of every batch is evaluated once, whatever the strategy: the evaluation log is a permutation of the batches -/
theorem evaluatedPoints_perm (how : HowV) (sched : Nat → Nat → List Nat)
    (hsched : ∀ j n, (sched j n).Perm (List.range n)) (j : Nat) (bs : List (List X)) :
    (evaluatedPoints how sched j bs).Perm bs.flatten := by
  induction bs generalizing j with
  | nil => exact List.Perm.refl _
  | cons b bs ih =>
    exact ((C13_logLike_evaluates_batch how (sched j b.length) b (hsched j b.length)).1).append (ih (j + 1))

theorem evaluatedPoints_length (how : HowV) (sched : Nat → Nat → List Nat)
    (hsched : ∀ j n, (sched j n).Perm (List.range n)) (j : Nat) (bs : List (List X)) :
    (evaluatedPoints how sched j bs).length = points bs :=
  (evaluatedPoints_perm how sched hsched j bs).length_eq.trans List.length_flatten

/-- C13 (second sentence of the statement, whole run): the reported number of likelihood calls equals the number of points at
    which the user's likelihood was actually evaluated — for every strategy, every completion order of every batch, every
    start (fresh / resumed), every sequence of warm-up and annealing iterations with any number of accept/reject steps -/
theorem C13_run_calls_evaluated {Y B : Type} (A : Algo S M X (Out Y B)) (nP : Nat) (rows : M → Nat) (hs : Sized A nP rows)
    (how : HowV) (sched : Nat → Nat → List Nat) (hsched : ∀ j n, (sched j n).Perm (List.range n))
    (f : X → Res Y B) (fvec : List X → List Y) (fuel iters : Nat) (st : Start S) (r : RS S X)
    (h : runSampling runTable A (evOf how sched f fvec) nP fuel iters st = some r) :
    r.calls = startCalls st + (evaluatedPoints how sched 0 r.asked).length := by
  rw [evaluatedPoints_length how sched hsched, C13_run_calls A _ nP rows hs fuel iters st r h]

/-! ### the run is a function of the likelihood's values only -/

/-- two evaluators that return the same values give the same run: final state, counter and batches asked -/
theorem C13_run_values_only (A : Algo S M X V) (ev ev' : Nat → List X → Option V) (hev : ∀ j xs, ev j xs = ev' j xs)
    (nP fuel iters : Nat) (st : Start S) :
    runSampling runTable A ev nP fuel iters st = runSampling runTable A ev' nP fuel iters st := by
  have : ev = ev' := by funext j xs; exact hev j xs
  rw [this]

/-- C13 (first sentence, whole run): a likelihood returning numbers, a pointwise identical vectorised form, ANY two
    strategies and ANY completion orders ⇒ the two runs are identical (state = histories, weights, evidence; counter; batches) -/
theorem C13_run_strategy_independent {Y B : Type} (A : Algo S M X (Out Y B)) (how how' : HowV)
    (sched sched' : Nat → Nat → List Nat) (hsched : ∀ j n, (sched j n).Perm (List.range n))
    (hsched' : ∀ j n, (sched' j n).Perm (List.range n)) (L : X → Y) (fvec : List X → List Y)
    (hvec : ∀ xs, fvec xs = xs.map L) (nP fuel iters : Nat) (st : Start S) :
    runSampling runTable A (evOf how sched (fun x => (Res.val (L x) : Res Y B)) fvec) nP fuel iters st
      = runSampling runTable A (evOf how' sched' (fun x => (Res.val (L x) : Res Y B)) fvec) nP fuel iters st := by
  apply C13_run_values_only
  intro j xs
  simp only [evOf]
  exact C13_logLike_configs_agree_how how how' (sched j xs.length) (sched' j xs.length) L fvec hvec xs
    (hsched j xs.length) (hsched' j xs.length)

/-- the same with blobs (any per-point results): the two runs are identical under any two POINT-BY-POINT strategies -/
theorem C13_run_strategy_independent_blobs {Y B : Type} (A : Algo S M X (Out Y B)) (how how' : HowV)
    (hh : how ≠ .direct) (hh' : how' ≠ .direct)
    (sched sched' : Nat → Nat → List Nat) (hsched : ∀ j n, (sched j n).Perm (List.range n))
    (hsched' : ∀ j n, (sched' j n).Perm (List.range n)) (f : X → Res Y B) (fvec : List X → List Y)
    (nP fuel iters : Nat) (st : Start S) :
    runSampling runTable A (evOf how sched f fvec) nP fuel iters st
      = runSampling runTable A (evOf how' sched' f fvec) nP fuel iters st := by
  apply C13_run_values_only
  intro j xs
  simp only [evOf]
  rw [C13_logLike_pointwise how hh _ f fvec xs (hsched j xs.length),
    C13_logLike_pointwise how' hh' _ f fvec xs (hsched' j xs.length)]

/-! ### resuming from a checkpoint continues the count -/

/-- a first process runs `k` iterations from a fresh start and writes a checkpoint holding its counter; a second process
    resumes from it (its own evaluation log starts empty) and runs to completion: the final count is the number of points
    evaluated by BOTH processes -/
theorem C13_resume_continues (A : Algo S M X V) (ev ev2 : Nat → List X → Option V) (nP : Nat) (rows : M → Nat)
    (hs : Sized A nP rows) (fuel k iters : Nat) (s0 s1 : S) (r1 r2 : RS S X)
    (h1 : (begin runTable (.fresh s0)).bind (iterN runTable A ev nP fuel k) = some r1)
    (h2 : runSampling runTable A ev2 nP fuel iters (.resume s1 (some r1.calls)) = some r2) :
    r2.calls = points r1.asked + points r2.asked := by
  obtain ⟨s, hb⟩ := begin_eq (X := X) (Start.fresh s0)
  rw [hb, Option.bind_some] at h1
  rw [C13_run_calls A ev2 nP rows hs fuel iters _ r2 h2]
  exact congrArg (· + _) ((iterN_calls hs h1 (c := 0) rfl).trans (Nat.zero_add _))

/-- an old checkpoint without a `calls` entry: the count restarts from the default 0, i.e. it reports the points evaluated
    since the resume -/
theorem C13_resume_missing_calls (A : Algo S M X V) (ev : Nat → List X → Option V) (nP : Nat) (rows : M → Nat)
    (hs : Sized A nP rows) (fuel iters : Nat) (s1 : S) (r : RS S X)
    (h : runSampling runTable A ev nP fuel iters (.resume s1 none) = some r) :
    r.calls = points r.asked :=
  (C13_run_calls A ev nP rows hs fuel iters _ r h).trans (Nat.zero_add _)

/-- a second `run()` on the same sampler, or `load_state()` followed by `run()` (committed history, no resume path): the counter is
    NOT reset — the final count is the value it had plus the points evaluated by this call of `run()` -/
theorem C13_second_run_continues (A : Algo S M X V) (ev : Nat → List X → Option V) (nP : Nat) (rows : M → Nat)
    (hs : Sized A nP rows) (fuel iters : Nat) (s1 : S) (c : Nat) (r : RS S X)
    (h : runSampling runTable A ev nP fuel iters (.continued s1 c) = some r) :
    r.calls = c + points r.asked :=
  C13_run_calls A ev nP rows hs fuel iters _ r h

/-! ### how many batches one mutation evaluates -/

/-- generic bound: if the stopping test is implied by `cap ≤ iteration` and implies `lo ≤ iteration`, the loop started below
    `cap` stops at an iteration between `lo` and `cap`, having evaluated one batch per iteration (given that the likelihood
    never raises and fuel to reach `cap`) -/
theorem mcmcLoop_steps (A : Algo S M X V) (ev : Nat → List X → Option V) (hev : ∀ j xs, (ev j xs).isSome)
    (nP nw : Nat) (iter : M → Nat) (cap lo : Nat)
    (hit : ∀ m xp v, iter (A.accept m xp v) = iter m + 1)
    (hhi : ∀ m, cap ≤ iter m → A.converged m = true) (hlo : ∀ m, A.converged m = true → lo ≤ iter m)
    (fuel : Nat) (m : M) (n0 : Nat) (asked : List (List X)) (hf : cap ≤ iter m + fuel) (hm : iter m < cap) :
    ∃ m' nc asked', mcmcLoop runTable A ev ⟨nP, nw⟩ fuel m n0 asked = some (m', nc, asked') ∧
      iter m' ≤ cap ∧ lo ≤ iter m' ∧ asked'.length + iter m = asked.length + iter m' := by
  induction fuel generalizing m n0 asked with
  | zero => exact absurd hf (Nat.not_le.mpr hm)
  | succ fuel ih =>
    obtain ⟨v, hv⟩ := Option.isSome_iff_exists.mp (hev asked.length (A.propose m))
    have hi := hit m (A.propose m) v
    rw [mcmcLoop_succ, hv, Option.bind_some]
    split
    · next hc =>
      exact ⟨_, _, _, rfl, hi ▸ hm, hlo _ hc,
        by rw [hi, List.length_append, List.length_singleton, Nat.add_assoc, Nat.add_comm 1]⟩
    · next hc =>
      obtain ⟨m', nc, asked', e, h2, h3, h4⟩ := ih (A.accept m (A.propose m) v) (n0 + nw) (asked ++ [A.propose m])
        (by rw [hi, Nat.add_assoc, Nat.add_comm 1]; exact hf) (Nat.lt_of_not_le fun hge => hc (hhi _ hge))
      -- from `hi` and `h4`: cancel the `+ 1` on both sides
      rw [hi, List.length_append, List.length_singleton, Nat.add_assoc, Nat.add_comm 1, ← Nat.add_assoc,
        ← Nat.add_assoc] at h4
      exact ⟨m', nc, asked', e, h2, h3, Nat.add_right_cancel h4⟩

open Model.Steps in
/-- C13 (adaptive steps inside the run model): a sampler whose runner stops by the real rule — `converged` evaluated on the
    runner's iteration counter, last acceptance rate and weighted step size, whatever those are — evaluates in one mutation
    `k` batches with `min(n_steps·d, n_max·d) ≤ k ≤ max 1 (n_max·d)`, so the mutation adds `k · n_walkers` to `calls` -/
theorem C13_mutation_steps (A : Algo S M X V) (ev : Nat → List X → Option V) (hev : ∀ j xs, (ev j xs).isSome)
    (nP : Nat) (rows : M → Nat) (hs : Sized A nP rows)
    (nSteps nMax d : Nat) (s0 : ℝ) (iter : M → Nat) (acc ws : M → ℝ)
    (hconv : ∀ m, A.converged m = converged nSteps nMax d (iter m) (acc m) (ws m) s0)
    (hit : ∀ m xp v, iter (A.accept m xp v) = iter m + 1) (hi0 : ∀ s, iter (A.mcmcInit s) = 0)
    (r : RS S X) (hb : A.beta0 r.s = false) (fuel : Nat) (hf : max 1 (nMax * d) ≤ fuel) :
    ∃ r' k, mutate runTable A ev nP fuel r = some r' ∧ min (nSteps * d) (nMax * d) ≤ k ∧ 1 ≤ k ∧ k ≤ max 1 (nMax * d) ∧
      r'.calls = r.calls + k * A.nWalkers r.s ∧ r'.asked.length = r.asked.length + k := by
  obtain ⟨m', nc, asked', e, h2, h3, h4⟩ := mcmcLoop_steps A ev hev nP (A.nWalkers r.s) iter (max 1 (nMax * d))
    (min (nSteps * d) (nMax * d)) hit
    (fun m hm => (hconv m).trans (converged_of_cap ((Nat.le_max_right ..).trans hm)))
    (fun m hm => lo_of_converged ((hconv m).symm.trans hm))
    fuel (A.mcmcInit r.s) 0 r.asked (by rw [hi0, Nat.zero_add]; exact hf)
    (by rw [hi0]; exact Nat.lt_of_lt_of_le Nat.one_pos (Nat.le_max_left 1 _))
  have hmut : mutate runTable A ev nP fuel r = some ⟨A.mcmcStore r.s m', r.calls + nc, asked'⟩ := by
    rw [mutate_mcmc hb, e]; rfl
  obtain ⟨b, bs, rfl, -, rfl⟩ := mcmcLoop_calls hs.propose hs.accept (hs.init r.s) e
  rw [hi0, Nat.add_zero, List.length_append, List.length_cons] at h4
  have hk : bs.length + 1 = iter m' := Nat.add_left_cancel h4
  exact ⟨_, iter m', hmut, h3, hk ▸ Nat.le_add_left 1 _, h2, by rw [Nat.zero_add, hk],
    by rw [List.length_append, List.length_cons]; exact h4⟩

/-! ### non-vacuity: a concrete scripted run (the instance the driver executes) -/

example : (runSampling runTable (scripted 8 8) (scriptEv (scriptFlags [.warm 2, .warm 0, .mcmc 3, .mcmc 2])) 8 100 50
      (.fresh [.warm 2, .warm 0, .mcmc 3, .mcmc 2])).map
    (fun r => (r.calls, r.asked.map List.length)) = some (72, [8, 8, 8, 8, 8, 8, 8, 8, 8]) := by decide +kernel
example : (runSampling runTable (scripted 8 8) (scriptEv (scriptFlags [.mcmc 2])) 8 100 50 (.resume [.mcmc 2] (some 40))).map
    (fun r => (r.calls, r.asked.map List.length)) = some (56, [8, 8]) := by decide +kernel
example : (runSampling runTable (scripted 8 8) (scriptEv (scriptFlags [.warm 1])) 8 100 50 (.continued [.warm 1] 56)).map
    (fun r => (r.calls, r.asked.map List.length)) = some (72, [8, 8]) := by decide +kernel
example : Sized (scripted 8 8) 8 (fun _ => 8) :=
  ⟨fun _ => List.length_replicate (n := 8), fun _ => List.length_replicate (n := 8), fun _ _ _ => rfl, fun _ => rfl⟩

/-- a runner that stops by the REAL rule (n_steps = 1, n_max = 2, d = 2, constant acceptance 1 and step size 1): instance of the
    hypotheses of `C13_mutation_steps` -/
noncomputable def stepAlgo : Algo Unit Nat Unit Unit where
  notTerm _ := false
  prep s := s
  beta0 _ := false
  draw _ := List.replicate 4 ()
  afterDraw s := s
  allInf _ := false
  warmStore s _ _ _ := s
  mcmcInit _ := 0
  nWalkers _ := 4
  propose _ := List.replicate 4 ()
  accept m _ _ := m + 1
  converged m := Model.Steps.converged (α := ℝ) 1 2 2 m 1 1 1
  mcmcStore s _ := s
  commit s := s
  finish s := s

example : ∃ r' k, mutate runTable stepAlgo (fun _ _ => some ()) 4 10 ⟨(), 0, []⟩ = some r' ∧ min (1 * 2) (2 * 2) ≤ k ∧ 1 ≤ k ∧
    k ≤ max 1 (2 * 2) ∧ r'.calls = 0 + k * 4 ∧ r'.asked.length = 0 + k :=
  C13_mutation_steps stepAlgo (fun _ _ => some ()) (fun _ _ => rfl) 4 (fun _ => 4)
    ⟨fun _ => List.length_replicate (n := 4), fun _ => List.length_replicate (n := 4), fun _ _ _ => rfl, fun _ => rfl⟩
    1 2 2 1 (fun m => m) (fun _ => 1) (fun _ => 1) (fun _ => rfl) (fun _ _ _ => rfl) (fun _ => rfl)
    ⟨(), 0, []⟩ rfl 10 (by norm_num)

end Props.C13
