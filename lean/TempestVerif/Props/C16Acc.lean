import TempestVerif.Props.C16
/-
  C16 — clause 2/3 in floating point: HOW CLOSE the computed fold is to the exact one.
  The `C16_round_*` theorems of `Props/C16.lean` deliberately assume nothing about the accuracy of the rounding.
  Here the accuracy is a named hypothesis
      H_acc(ε):  |rnd z − z| ≤ ε  for every z in [0,1]
  (binary64: ε = 2^-54, binary32: ε = 2^-25 — half an ulp of [1/2,1)), and the conclusion is what suites
  property-F / property-S check on the real code on every run (thresholds 2^-52 / 2^-23):
      |computed periodic − exact| ≤ ε,   |computed reflect − exact| ≤ 2ε.
  `gridR k` (round to the nearest multiple of 2^-k, ties up — for k = 53 the grid of binary64 on [1/2,1]; binary64 breaks ties to even) is a
  `Rounding` satisfying H_acc(2^-(k+1)), so the hypotheses are jointly satisfiable by a genuinely inexact arithmetic.
-/
namespace Props.C16
open Model.Boundary

def Hacc (r : Rounding) (ε : ℝ) : Prop := ∀ z : ℝ, 0 ≤ z → z ≤ 1 → |r.rnd z - z| ≤ ε

theorem C16_round_periodic_accuracy (r : Rounding) (ε : ℝ) (h : Hacc r ε) (x : ℝ) :
    |perR r x - periodic x| ≤ ε := by
  rw [perR_eq, periodic_eq_fract]
  exact h _ (Int.fract_nonneg x) (Int.fract_lt_one x).le

/-- computed reflection vs exact reflection (two roundings on the odd branch) -/
theorem C16_round_reflect_accuracy (r : Rounding) (ε : ℝ) (h : Hacc r ε) (x : ℝ) :
    |reflR r x - reflect x| ≤ 2 * ε := by
  have hf0 := Int.fract_nonneg x
  have hf1 := (Int.fract_lt_one x).le
  have e1 := h _ hf0 hf1
  have hε : 0 ≤ ε := le_trans (abs_nonneg _) e1
  rw [reflR_eq, reflect_eq, two_mul]
  split
  · exact e1.trans (le_add_of_nonneg_left hε)
  · -- two roundings: of the fractional part, and of `1 −` its rounded value
    have hu := r.rnd_unit hf0 hf1
    have e2 := h (1 - r.rnd (Int.fract x)) (sub_nonneg.mpr hu.2) (sub_le_self 1 hu.1)
    refine (abs_sub_le _ (1 - r.rnd (Int.fract x)) _).trans (add_le_add e2 ?_)
    rwa [sub_sub_sub_cancel_left, abs_sub_comm]

/-- round to the nearest multiple of `2^-k` (ties up) -/
noncomputable def gridR (k : ℕ) : Rounding where
  rnd := fun x => (⌊x * 2 ^ k + 1 / 2⌋ : ℝ) / 2 ^ k
  mono := fun a b hab => by
    have hk : (0 : ℝ) < 2 ^ k := by positivity
    show (⌊a * 2 ^ k + 1 / 2⌋ : ℝ) / 2 ^ k ≤ (⌊b * 2 ^ k + 1 / 2⌋ : ℝ) / 2 ^ k
    apply div_le_div_of_nonneg_right _ hk.le
    exact_mod_cast Int.floor_mono (by nlinarith)
  idem := fun x => by
    have hk : (0 : ℝ) < 2 ^ k := by positivity
    show (⌊(⌊x * 2 ^ k + 1 / 2⌋ : ℝ) / 2 ^ k * 2 ^ k + 1 / 2⌋ : ℝ) / 2 ^ k = (⌊x * 2 ^ k + 1 / 2⌋ : ℝ) / 2 ^ k
    rw [div_mul_cancel₀ _ hk.ne']
    have : ⌊(⌊x * 2 ^ k + 1 / 2⌋ : ℝ) + 1 / 2⌋ = ⌊x * 2 ^ k + 1 / 2⌋ := by
      rw [Int.floor_eq_iff]; constructor <;> norm_num
    rw [this]
  rnd_zero := by
    show (⌊(0 : ℝ) * 2 ^ k + 1 / 2⌋ : ℝ) / 2 ^ k = 0
    have : ⌊(0 : ℝ) * 2 ^ k + 1 / 2⌋ = 0 := by rw [Int.floor_eq_iff]; constructor <;> norm_num
    rw [this]; simp
  rnd_one := by
    have hk : (0 : ℝ) < 2 ^ k := by positivity
    show (⌊(1 : ℝ) * 2 ^ k + 1 / 2⌋ : ℝ) / 2 ^ k = 1
    have : ⌊(1 : ℝ) * 2 ^ k + 1 / 2⌋ = (2 ^ k : ℤ) := by
      rw [Int.floor_eq_iff]; push_cast; constructor <;> linarith
    rw [this]; push_cast; exact div_self hk.ne'

/-- the grid rounding is accurate to half a grid step — everywhere, so in particular `Hacc` holds -/
theorem gridR_Hacc (k : ℕ) : Hacc (gridR k) (1 / 2 ^ (k + 1)) := by
  intro z _ _
  have hk : (0 : ℝ) < 2 ^ k := pow_pos two_pos k
  show |(⌊z * 2 ^ k + 1 / 2⌋ : ℝ) / 2 ^ k - z| ≤ 1 / 2 ^ (k + 1)
  -- the numerator is `round (z · 2^k)`, within `1/2` of `z · 2^k`
  have e : (⌊z * 2 ^ k + 1 / 2⌋ : ℝ) / 2 ^ k - z = (round (z * 2 ^ k) - z * 2 ^ k) / 2 ^ k := by
    rw [round_eq, sub_div, mul_div_cancel_right₀ _ hk.ne']
  rw [e, abs_div, abs_of_pos hk, pow_succ', ← div_div, div_le_div_iff_of_pos_right hk, abs_sub_comm]
  exact abs_sub_round _

/-- non-vacuity: the accuracy theorems instantiated with binary64's grid on [1/2,1] -/
example (x : ℝ) : |perR (gridR 53) x - periodic x| ≤ 1 / 2 ^ 54 :=
  C16_round_periodic_accuracy _ _ (gridR_Hacc 53) x
example (x : ℝ) : |reflR (gridR 53) x - reflect x| ≤ 2 * (1 / 2 ^ 54) :=
  C16_round_reflect_accuracy _ _ (gridR_Hacc 53) x
/-- … and the grid rounding is genuinely inexact: 1/3 is moved -/
example : (gridR 1).rnd (1 / 3) = 1 / 2 := by
  show (⌊(1 / 3 : ℝ) * 2 ^ 1 + 1 / 2⌋ : ℝ) / 2 ^ 1 = 1 / 2
  rw [(Int.floor_eq_iff (z := 1)).mpr ⟨by norm_num, by norm_num⟩, Int.cast_one, pow_one]

end Props.C16
