import TempestVerif.Props.C04
/-
  C04 — iterations that share a temperature, and order-independence position by position.

  Iterations with the same β_t may be collected into one term of the mixture, but only as the sum over ALL of them
  (wherever they are stored) of `(n_t/N)·exp(−z_t)` (`C04_mix_by_level`): this is the law an optimisation that collapses
  equal-β columns has to satisfy; whole iterations merge only when their evidence values agree too
  (`C04_merge_equal_batches`).  For ANY permutation of the iterations — repeated β_t, repeated whole batches included —
  the block of weights of an iteration is the same list of numbers, found at the block's new position (`C04_perm_slices`).
-/
namespace Props.C04
open Model.Weights

/-! ### regrouping by temperature level -/

theorem sum_map_ite_eq (lv : List ℝ) (hnd : lv.Nodup) (x c : ℝ) (hx : x ∈ lv) :
    (lv.map fun g => if x = g then c else 0).sum = c := by
  rw [List.sum_map_eq_nsmul_single x _ (fun g hg _ => if_neg (Ne.symm hg)), List.count_eq_one_of_mem hnd hx, one_nsmul,
    if_pos rfl]

theorem sum_by_level (h : List (Batch ℝ)) (f : Batch ℝ → ℝ) (lv : List ℝ) (hnd : lv.Nodup)
    (hcov : ∀ b ∈ h, b.beta ∈ lv) :
    (h.map f).sum = (lv.map fun g => ((h.filter fun b => b.beta = g).map f).sum).sum := by
  induction h with
  | nil => simp
  | cons b bs ih =>
    have hb : b.beta ∈ lv := hcov b List.mem_cons_self
    have ih' := ih (fun b' hb' => hcov b' (List.mem_cons_of_mem _ hb'))
    have hsplit : (fun g => (((b :: bs).filter fun b' => b'.beta = g).map f).sum)
        = fun g => (if b.beta = g then f b else 0) + ((bs.filter fun b' => b'.beta = g).map f).sum := by
      funext g
      by_cases hg : b.beta = g
      · simp [hg]
      · simp [hg]
    rw [hsplit, List.sum_map_add, sum_map_ite_eq lv hnd b.beta (f b) hb, ← ih']
    simp

/-- the per-level coefficient: `Σ_{t : β_t = g} (n_t/N)·exp(−z_t)` over ALL iterations stored at temperature `g` -/
noncomputable def levelCoef (h : List (Batch ℝ)) (g : ℝ) : ℝ :=
  ((h.filter fun b => b.beta = g).map fun b => ((b.logl.length : ℝ) / (nTotal h : ℝ)) * Real.exp (-b.logz)).sum

/-- **the mixture by distinct temperature**: `Σ_t (n_t/N) e^{β_t ℓ − z_t} = Σ_g e^{g ℓ} · levelCoef g` for every
    duplicate-free list of levels covering the stored temperatures — wherever in the history equal β_t sit -/
theorem C04_mix_by_level (h : List (Batch ℝ)) (lv : List ℝ) (hnd : lv.Nodup) (hcov : ∀ b ∈ h, b.beta ∈ lv) (l : ℝ) :
    mix h l = (lv.map fun g => Real.exp (g * l) * levelCoef h g).sum := by
  unfold mix
  rw [sum_by_level h _ lv hnd hcov]
  congr 1
  apply List.map_congr_left
  intro g _
  unfold levelCoef
  rw [← List.sum_map_mul_left]
  congr 1
  apply List.map_congr_left
  intro b hb
  rw [of_decide_eq_true (List.mem_filter.mp hb).2, sub_eq_add_neg, Real.exp_add]
  ring

/-- the canonical choice of levels: the stored temperatures with duplicates removed -/
theorem C04_mix_by_dedup (h : List (Batch ℝ)) (l : ℝ) :
    mix h l = (((h.map (·.beta)).dedup).map fun g => Real.exp (g * l) * levelCoef h g).sum :=
  C04_mix_by_level h _ (List.nodup_dedup _) (fun _ hb => List.mem_dedup.mpr (List.mem_map_of_mem hb)) l

theorem C04_weights_by_level (h : List (Batch ℝ)) (hwf : WF h) (β : ℝ) :
    (logw h β false).1 = (flatLogl h).map fun l =>
      β * l - Real.log ((((h.map (·.beta)).dedup).map fun g => Real.exp (g * l) * levelCoef h g).sum) := by
  rw [C04_formula h hwf]
  exact List.map_congr_left fun l _ => by rw [specRaw, C04_mix_by_dedup]

/-- two iterations at one temperature AND with one evidence value are indistinguishable from a single iteration
    holding all their particles: the correct (and only) merge of whole iterations -/
theorem C04_merge_equal_batches (pre post : List (Batch ℝ)) (g z : ℝ) (l1 l2 : List ℝ) (l : ℝ) :
    mix (pre ++ ⟨g, z, l1⟩ :: ⟨g, z, l2⟩ :: post) l = mix (pre ++ ⟨g, z, l1 ++ l2⟩ :: post) l := by
  have hN : nTotal (pre ++ ⟨g, z, l1⟩ :: ⟨g, z, l2⟩ :: post) = nTotal (pre ++ ⟨g, z, l1 ++ l2⟩ :: post) := by
    simp [nTotal_append, nTotal_cons, Nat.add_assoc]
  unfold mix
  rw [hN]
  simp only [List.map_append, List.map_cons, List.sum_append, List.sum_cons, List.length_append, Nat.cast_add]
  ring

/-! ### order-independence, position by position -/

theorem slice_of_map (pre post : List (Batch ℝ)) (b : Batch ℝ) (w : ℝ → ℝ) :
    ((((flatLogl (pre ++ b :: post)).map w).drop (nTotal pre)).take b.logl.length) = b.logl.map w := by
  rw [flatLogl_split, List.map_append, List.map_append]
  have hl : ((flatLogl pre).map w).length = nTotal pre := by rw [List.length_map, length_flatLogl]
  rw [List.drop_left' hl]
  have hl2 : (b.logl.map w).length = b.logl.length := List.length_map _
  rw [List.take_left' hl2]

/-- **order-independence for ANY permutation, block by block.**  Let the same iteration `b` sit behind `pre` in one
    stored order and behind `pre'` in another order of the same iterations (any rearrangement: equal β_t, equal
    evidence values, even identical batches may occur any number of times).  Then the weights the function returns for
    `b`'s particles — the block starting at `Σ_{pre} n_t`, respectively `Σ_{pre'} n_t` — are the same list of numbers,
    for the unnormalised and for the normalised weights; and the evidence is the same. -/
theorem C04_perm_slices (pre post pre' post' : List (Batch ℝ)) (b : Batch ℝ)
    (p : (pre ++ b :: post).Perm (pre' ++ b :: post')) (hwf : WF (pre ++ b :: post)) (β : ℝ) (nrm : Bool) :
    (((logw (pre ++ b :: post) β nrm).1.drop (nTotal pre)).take b.logl.length)
      = (((logw (pre' ++ b :: post') β nrm).1.drop (nTotal pre')).take b.logl.length) ∧
    (logw (pre ++ b :: post) β nrm).2 = (logw (pre' ++ b :: post') β nrm).2 := by
  obtain ⟨w, h1, h2, h3⟩ := C04_perm_invariant p hwf β nrm
  refine ⟨?_, h3⟩
  rw [h1, h2, slice_of_map, slice_of_map]

/-- the block of weights of an iteration is the image of its own log-likelihoods under the order-independent weight
    function of the whole history -/
theorem C04_perm_block_value (pre post : List (Batch ℝ)) (b : Batch ℝ) (hwf : WF (pre ++ b :: post)) (β : ℝ) :
    (((logw (pre ++ b :: post) β false).1.drop (nTotal pre)).take b.logl.length)
        = b.logl.map (specRaw (pre ++ b :: post) β) ∧
    (((logw (pre ++ b :: post) β true).1.drop (nTotal pre)).take b.logl.length)
        = b.logl.map (specNorm (pre ++ b :: post) β) := by
  rw [C04_formula _ hwf, C04_normalised _ hwf, slice_of_map, slice_of_map]
  exact ⟨rfl, rfl⟩

/-! ### non-vacuity -/

/-- β = (0, 1, 3/10, 1): temperature 1 stored twice, NOT next to each other, with different evidence values and sizes -/
noncomputable def hd : List (Batch ℝ) := [⟨0, 0, [-1, -2]⟩, ⟨1, -1/2, [-3/10]⟩, ⟨3/10, 1/4, [2, 5, 7]⟩, ⟨1, 3, [0, 1]⟩]

theorem wf_hd : WF hd := ⟨List.cons_ne_nil _ _, by decide⟩

/-- the level 1 collects the second AND the fourth iteration -/
example : levelCoef hd 1 = 1 / 8 * Real.exp (1 / 2) + 2 / 8 * Real.exp (-3) := by
  have hf : (hd.filter fun b => b.beta = 1) = [⟨1, -1/2, [-3/10]⟩, ⟨1, 3, [0, 1]⟩] := by
    norm_num [hd, List.filter_cons]
  have hN : nTotal hd = 8 := rfl
  rw [levelCoef, hf, hN]
  norm_num

example (l : ℝ) : mix hd l
    = Real.exp (0 * l) * levelCoef hd 0 + (Real.exp (1 * l) * levelCoef hd 1 + (Real.exp (3 / 10 * l) * levelCoef hd (3/10) + 0)) :=
  C04_mix_by_level hd [0, 1, 3/10] (by norm_num) (by unfold hd; norm_num) l

noncomputable def hdPre : List (Batch ℝ) := [⟨0, 0, [-1, -2]⟩, ⟨1, -1/2, [-3/10]⟩, ⟨3/10, 1/4, [2, 5, 7]⟩]
noncomputable def bLast : Batch ℝ := ⟨1, 3, [0, 1]⟩
theorem hd_split : hd = hdPre ++ bLast :: [] := rfl

-- the fourth iteration (behind 6 particles) moved to the front (behind none): the same two numbers
example : (((logw hd 1 true).1.drop 6).take 2) = (((logw (bLast :: hdPre) 1 true).1.drop 0).take 2) := by
  have p : (hdPre ++ bLast :: []).Perm ([] ++ bLast :: hdPre) := by
    exact List.perm_append_comm (l₁ := hdPre) (l₂ := [bLast])
  have h := (C04_perm_slices hdPre [] [] hdPre bLast p (hd_split ▸ wf_hd) 1 true).1
  have e1 : nTotal hdPre = 6 := rfl
  have e2 : nTotal ([] : List (Batch ℝ)) = 0 := rfl
  have e3 : bLast.logl.length = 2 := rfl
  rw [e1, e2, e3, ← hd_split] at h
  exact h

/-- targets outside [0, 1]: the formula (and everything derived from it) holds for every real target -/
example : (logw hd 2 false).1 = (flatLogl hd).map (specRaw hd 2) ∧ (logw hd (-1) false).1 = (flatLogl hd).map (specRaw hd (-1)) :=
  ⟨C04_formula hd wf_hd 2, C04_formula hd wf_hd (-1)⟩
example : (((logw hd (-1) true).1).map Real.exp).sum = 1 := C04_normalised_sum_one hd wf_hd (-1)
example : (logw [(⟨0, Real.log (3 / 4), [2, -4, 6]⟩ : Batch ℝ)] (1 / 2) false).1
    = [(1 / 2 - 0) * 2 + Real.log (3 / 4), (1 / 2 - 0) * (-4) + Real.log (3 / 4), (1 / 2 - 0) * 6 + Real.log (3 / 4)] := by
  rw [C04_single_batch _ (by simp)]; simp

end Props.C04
