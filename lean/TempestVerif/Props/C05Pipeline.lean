import TempestVerif.Lemmas.PipelineEx
import TempestVerif.Props.C05Warmup
import TempestVerif.Gen.Constants
/-
  C05 on the CONCRETE pipeline (`Model.Pipeline`): here the metric oracle is not a parameter — it is
  `oracleM h β = (w, ess w, ess w)` with `w = exp(logw − max logw)` for the C04 weights of the stored history `h`
  and `ess` the C20 definition — and the history evolves by `iterate` (reweight → resample → mutate → commit).
  The generic-oracle theorems of `Props/C05.lean` are instantiated, their structural hypotheses
  ("history empty at the start, never empty after a commit", "β handed on unchanged") are PROVED from the
  pipeline model instead of assumed, and the tolerance hypothesis of the fuel theorems is discharged from the
  constant regenerated from /repo (translator G1).  ESS mode (the pipeline model has no volume metric).
-/
namespace Props.C05
open Model.Reweight Model.Pipeline Model.Weights

theorem iterate_out (cfg : PCfg ℝ) (s : PState ℝ) (t : Tape ℝ) (s1 : PState ℝ) (o : IterOut ℝ)
    (h : iterate cfg s t = some (s1, o)) :
    o.beta = (run cfg.rw (batches s.hist).isEmpty (oracleM (batches s.hist)) (oracleZ (batches s.hist)) isFin s.beta).beta ∧
    o.ess = (run cfg.rw (batches s.hist).isEmpty (oracleM (batches s.hist)) (oracleZ (batches s.hist)) isFin s.beta).ess ∧
    o.branch = (run cfg.rw (batches s.hist).isEmpty (oracleM (batches s.hist)) (oracleZ (batches s.hist)) isFin s.beta).branch ∧
    (o.beta = 0 → s1.curL.length = t.drawL.length) := by
  obtain ⟨-, l, hl, rfl, rfl⟩ | ⟨hb, idx, tg, l, -, -, -, rfl, rfl⟩ := Lemmas.Pipeline.iterate_some h _ rfl
  · exact ⟨rfl, rfl, rfl, fun _ => (Lemmas.Pipeline.allSome_length hl).trans (Lemmas.Pipeline.warmup_length t _)⟩
  · exact ⟨rfl, rfl, rfl, fun h0 =>
      absurd (eqv_zero.mpr h0) (Bool.eq_false_iff.mp hb)⟩

theorem batches_isEmpty (h : List (PBatch ℝ)) : (batches h).isEmpty = h.isEmpty :=
  List.isEmpty_map

/-- One iteration of the pipeline: the new β is handed on unchanged, the history is non-empty afterwards, the
    first iteration (empty history) sets β = 0, every later one moves β inside `[β_prev, 1]`. -/
theorem C05_pipeline_step (cfg : PCfg ℝ) (s : PState ℝ) (t : Tape ℝ) (s1 : PState ℝ) (o : IterOut ℝ)
    (h : iterate cfg s t = some (s1, o)) (hb : s.beta ≤ 1) :
    s1.beta = o.beta ∧ s1.hist ≠ [] ∧ (s.hist = [] → o.beta = 0) ∧
    (s.hist ≠ [] → s.beta ≤ o.beta ∧ o.beta ≤ 1) := by
  obtain ⟨hh, hbeta, _⟩ := Lemmas.Pipeline.iterate_commit cfg s t s1 o h
  obtain ⟨ob, _, _⟩ := iterate_out cfg s t s1 o h
  refine ⟨hbeta, by rw [hh]; simp, fun he => (Lemmas.Pipeline.iterate_beta_of_hist_nil h he).trans ScReal.zero_def, ?_⟩
  · intro hne
    rw [ob, batches_isEmpty, List.isEmpty_eq_false_iff.mpr hne]
    exact C05_run_range cfg.rw _ _ _ s.beta hb

/-- the recorded ESS is the C20 effective sample size of the very weights the oracle produced for the recorded β -/
theorem C05_pipeline_recorded_ess (cfg : PCfg ℝ) (s : PState ℝ) (t : Tape ℝ) (s1 : PState ℝ) (o : IterOut ℝ)
    (h : iterate cfg s t = some (s1, o)) (hne : s.hist ≠ []) :
    o.ess = Model.Ess.ess (oracleM (batches s.hist) o.beta).1 := by
  obtain ⟨ob, oe, _⟩ := iterate_out cfg s t s1 o h
  rw [batches_isEmpty, List.isEmpty_eq_false_iff.mpr hne] at ob oe
  have := (C05_same_temperature cfg.rw (oracleM (batches s.hist)) (oracleZ (batches s.hist)) isFin s.beta).2.1
  rw [oe, this, ← ob]
  rfl

/-- ESS mode: once β advances, the effective sample size of the persistent pool at the new β — the C20 ESS of
    the C04 weights of the stored history — is at least `ess_ratio · n_particles`. -/
theorem C05_pipeline_ess_floor (cfg : PCfg ℝ) (s : PState ℝ) (t : Tape ℝ) (s1 : PState ℝ) (o : IterOut ℝ)
    (h : iterate cfg s t = some (s1, o)) (hb : s.beta ≤ 1) (hne : s.hist ≠ []) (hvv : cfg.rw.vv = none)
    (hadv : o.beta ≠ s.beta) :
    cfg.rw.target ≤ Model.Ess.ess (oracleM (batches s.hist) o.beta).1 ∧ cfg.rw.target ≤ o.ess := by
  have hrec := C05_pipeline_recorded_ess cfg s t s1 o h hne
  obtain ⟨ob, _, _⟩ := iterate_out cfg s t s1 o h
  rw [batches_isEmpty, List.isEmpty_eq_false_iff.mpr hne] at ob
  have h5 := (run_limit cfg.rw (oracleM (batches s.hist)) (oracleZ (batches s.hist)) isFin s.beta hb).2.2.2.2 hvv
  rw [← ob] at h5
  exact ⟨h5 hadv, hrec ▸ h5 hadv⟩

/-- The schedule of a whole run of the pipeline model, from the fresh state, for EVERY tape (every realisation of
    the randomness and of the user's likelihood), every configuration:
    β₀ = 0;  0 ≤ β_k ≤ 1;  β_k ≤ β_{k+1};  and in ESS mode, whenever β_{k+1} ≠ β_k the ESS recorded at iteration
    k+1 — the pool's effective sample size at β_{k+1} — is at least `ess_ratio · n_particles`.
    No hypothesis on the history is needed: "empty at the start, non-empty after every commit" is proved. -/
theorem C05_pipeline_schedule (cfg : PCfg ℝ) (ts : List (Tape ℝ)) (sf : PState ℝ) (os : List (IterOut ℝ))
    (h : runIters cfg init ts = some (sf, os)) :
    (∀ o, os[0]? = some o → o.beta = 0) ∧
    (∀ o ∈ os, 0 ≤ o.beta ∧ o.beta ≤ 1) ∧
    (∀ k a b, os[k]? = some a → os[k+1]? = some b →
      a.beta ≤ b.beta ∧ (cfg.rw.vv = none → b.beta ≠ a.beta → cfg.rw.target ≤ b.ess)) := by
  have hs := Lemmas.Pipeline.runIters_iff_steps.mp h
  have hb0 : (init : PState ℝ).beta = 0 := ScReal.zero_def
  obtain ⟨a, b, c⟩ := hs.schedule (R := (· ≤ ·)) le_trans (zero := 0) (one := 1) (v := (·.beta)) (fresh := (·.hist = []))
    (ob := (·.beta)) (C05_pipeline_step cfg) (hb0.trans_le zero_le_one) fun _ => ⟨hb0, le_rfl⟩
  rw [hb0] at b
  refine ⟨a rfl, b, fun k x y hx hy => ⟨c k x y hx hy, fun hvv hadv => ?_⟩⟩
  -- the ESS floor is a fact about the one step that produced `y`, from the state the step before it left
  obtain ⟨s0, t0, s1, t1, s2, -, hi0, hi1⟩ := hs.adj (I := fun _ => True) (fun _ _ _ _ _ _ => trivial) trivial k x y hx hy
  obtain ⟨hh, q1, -⟩ := Lemmas.Pipeline.iterate_commit cfg s0 t0 s1 x hi0
  exact (C05_pipeline_ess_floor cfg s1 t1 s2 y hi1 (q1 ▸ (b x (List.mem_of_getElem? hx)).2)
    (hh ▸ List.append_ne_nil_of_right_ne_nil _ (List.cons_ne_nil _ _)) hvv (q1 ▸ hadv)).2

/-! ### warm-up over a whole run: β stays 0 while the pool is no larger than the ESS target -/

/-- state of a run that is still warming up: β = 0, `k` stored batches, all at β = 0 and all of size `n` -/
def Warm (s : PState ℝ) (n k : Nat) : Prop := s.beta = 0 ∧ WarmH (batches s.hist) n k

theorem warm_step (cfg : PCfg ℝ) (hvv : cfg.rw.vv = none) (n k : Nat) (hn : 1 ≤ n) (s : PState ℝ) (t : Tape ℝ)
    (s1 : PState ℝ) (o : IterOut ℝ) (hw : Warm s n k) (ht : t.drawL.length = n)
    (hsz : ((k * n : Nat) : ℝ) ≤ cfg.rw.target) (h : iterate cfg s t = some (s1, o)) :
    o.beta = 0 ∧ Warm s1 n (k + 1) := by
  obtain ⟨ob, _, _, hl⟩ := iterate_out cfg s t s1 o h
  have hob : o.beta = 0 := by
    rw [ob, hw.1]; exact hw.2.stays hn cfg.rw _ _ _ rfl (Or.inr ⟨hvv, hsz⟩)
  obtain ⟨hh, hbeta, _⟩ := Lemmas.Pipeline.iterate_commit cfg s t s1 o h
  refine ⟨hob, hbeta.trans hob, ?_⟩
  rw [hh, batches, List.map_append]
  exact hw.2.snoc hob ((hl hob).trans ht)

/-- Warm-up over a whole run of the pipeline model (ESS mode, `n` prior draws per warm-up iteration, any tapes):
    iteration `k` (counting from 0) reports β = 0 whenever the pool it sees, `k·n` particles, is no larger than the
    ESS target — the temperature cannot leave 0 before the pool has reached `ess_ratio · n_particles`. -/
theorem C05_pipeline_warmup (cfg : PCfg ℝ) (hvv : cfg.rw.vv = none) (n : Nat) (hn : 1 ≤ n) (ts : List (Tape ℝ))
    (hts : ∀ t ∈ ts, t.drawL.length = n) (sf : PState ℝ) (os : List (IterOut ℝ))
    (h : runIters cfg init ts = some (sf, os)) :
    ∀ k o, os[k]? = some o → (((k * n : Nat)) : ℝ) ≤ cfg.rw.target → o.beta = 0 := by
  intro k o ho hsz
  -- the pool only grows: the size condition at iteration `k` implies it at every earlier iteration
  have hj : ∀ j, j ≤ k → ((j * n : Nat) : ℝ) ≤ cfg.rw.target := fun j hjk =>
    le_trans (Nat.cast_le.mpr (Nat.mul_le_mul_right n hjk)) hsz
  obtain ⟨s0, t, s1, ht, hw, hi⟩ := (Lemmas.Pipeline.runIters_iff_steps.mp h).out_at (I := fun j s => j ≤ k → Warm s n j)
    (fun j s t s1 o ht hw hi hjk => (warm_step cfg hvv n j hn s t s1 o (hw (Nat.le_of_succ_le hjk))
      (hts t (List.mem_of_getElem? ht)) (hj j (Nat.le_of_succ_le hjk)) hi).2)
    (fun _ => ⟨ScReal.zero_def, rfl, fun b hb => nomatch hb⟩) k o ho
  exact (warm_step cfg hvv n k hn s0 t s1 o (hw le_rfl) (hts t (List.mem_of_getElem? ht)) hsz hi).1

/-- with `n = n_particles` draws per iteration: β_k = 0 for every `k ≤ ess_ratio` -/
theorem C05_pipeline_warmup_count (cfg : PCfg ℝ) (hvv : cfg.rw.vv = none) (hn : 1 ≤ cfg.rw.nPart)
    (ts : List (Tape ℝ)) (hts : ∀ t ∈ ts, t.drawL.length = cfg.rw.nPart) (sf : PState ℝ) (os : List (IterOut ℝ))
    (h : runIters cfg init ts = some (sf, os)) :
    ∀ (k : Nat) (o : IterOut ℝ), os[k]? = some o → (k : ℝ) ≤ cfg.rw.essRatio → o.beta = 0 := by
  intro k o ho hk
  refine C05_pipeline_warmup cfg hvv cfg.rw.nPart hn ts hts sf os h k o ho ?_
  have : (0 : ℝ) ≤ (cfg.rw.nPart : ℝ) := Nat.cast_nonneg _
  rw [target_real]
  push_cast
  exact mul_le_mul_of_nonneg_right hk this

/-! ### the tolerance hypothesis of the fuel theorems, from the constant regenerated from /repo -/

/-- `tempest.config.BETA_TOLERANCE` as G1 reads it from the source (exact value of the double) -/
noncomputable def genBetaTol : ℝ := (Gen.Constants.BETA_TOLERANCENum : ℝ) / (Gen.Constants.BETA_TOLERANCEDen : ℝ)
/-- `tempest.config.ESS_TOLERANCE` likewise -/
noncomputable def genEssTol : ℝ := (Gen.Constants.ESS_TOLERANCENum : ℝ) / (Gen.Constants.ESS_TOLERANCEDen : ℝ)

/-- the constants in the source are the doubles nearest to 1e-4 and 0.01 -/
theorem C05_gen_tolerances :
    (1 : ℝ) / 10000 ≤ genBetaTol ∧ genBetaTol ≤ 1 / 10000 + 1 / 10 ^ 20 ∧
    |genEssTol - 1 / 100| ≤ 1 / 10 ^ 18 := by
  unfold genBetaTol genEssTol
  simp only [Gen.Constants.BETA_TOLERANCENum, Gen.Constants.BETA_TOLERANCEDen, Gen.Constants.ESS_TOLERANCENum,
    Gen.Constants.ESS_TOLERANCEDen]
  refine ⟨by norm_num, by norm_num, ?_⟩
  rw [abs_le]; constructor <;> norm_num

/-- with the tolerance regenerated from /repo and the fuel the driver uses (64), neither loop of `Reweighter.run`
    is ever cut short by the model's fuel: model and code terminate together (any oracle, any β_prev ∈ [0,1]) -/
theorem C05_fuel_generated {W : Type} (c : Cfg ℝ) (hemp : Bool) (M : ℝ → W × ℝ × ℝ) (Z : ℝ → ℝ) (fin : ℝ → Bool)
    (prev : ℝ) (h0 : 0 ≤ prev) (h1 : prev ≤ 1) (htol : c.tolB = genBetaTol) (hfuel : c.fuel = 64) :
    Branch.upFuel ∉ (run c hemp M Z fin prev).sub ∧ Branch.bisFuel ∉ (run c hemp M Z fin prev).sub :=
  C05_fuel c hemp M Z fin prev h0 h1 (by rw [htol]; exact C05_gen_tolerances.1) (by omega)

/-! ### non-vacuity: the two-iteration run `Lemmas.PipelineShift.Ex` (β = 0 then β = 1, ESS 2 ≥ target 2) -/
example := C05_pipeline_warmup_count Lemmas.PipelineShift.Ex.cfgEx rfl (by decide)
  [Lemmas.PipelineShift.Ex.t1] (by intro t ht; simp at ht; subst ht; rfl) _ _
  (by simp [runIters, Lemmas.PipelineShift.Ex.it1]; exact ⟨rfl, rfl⟩)
example := C05_pipeline_schedule Lemmas.PipelineShift.Ex.cfgEx [Lemmas.PipelineShift.Ex.t1, Lemmas.PipelineShift.Ex.t2] _ _
  Lemmas.PipelineShift.Ex.run2

end Props.C05
