import TempestVerif.Gen.StateMgrSrc
import TempestVerif.Lemmas.StateMgrN
/-
  C17 — the StateManager reference models are built from the statements that are in /repo's source at the time of the check.

  `Gen/StateMgrSrc.lean` is regenerated on every run of the check by translator G22 (translate/g22_statemgr.py): the body of
  `_ensure_copy` and of every accessor / mutator of `StateManager` is evaluated symbolically and compiled to a term over the Python
  primitives of `Model/StateMgrPy.lean`.  WHICH value is copied, for WHOM (the caller or the manager), and which is stored or handed
  out as it is, is therefore read from the source.

  The theorems say that `Model.StateMgr.step` and `Model.StateMgrN.step true` compute exactly those terms, for every state and
  every argument.  They are equalities of functions proved by case analysis, not comparisons of text: guard clauses
  instead of if/else, an extracted helper, a renamed local regenerate terms for which the same proofs go through; a dropped
  `_ensure_copy`, a copy made for the wrong receiver, a changed key set / comparison / index / error class, a dropped or
  reordered statement make a theorem false and the build fail.
-/
namespace Props.C17.Src
open Model.StateMgrPy
open Model.StateMgrN (Owner)

/-! ## Python primitives shared by both models -/

theorem isNoneO_eq : isNoneO = Model.StateMgr.isNone := by
  funext o; cases o with
  | none => rfl
  | some v => cases v <;> rfl

theorem pyGet_nonneg {α : Type} (l : List α) (i : Int) (h : ¬ i < 0) : pyGet? l i = l[i.toNat]? := by
  simp [pyGet?, h]

theorem pyGet_last {α : Type} (l : List α) : pyGet? l (-1) = l.getLast? := by
  cases l with
  | nil => rfl
  | cons a r => simp [pyGet?, List.getLast?_eq_getElem?]

theorem forEach_cons_ok {σ ρ α : Type} {x : α} {r : List α} {s s1 : σ} {body : σ → α → σ × Option ρ}
    (hb : body s x = (s1, none)) : forEach (x :: r) s body = forEach r s1 body := by
  rw [forEach, hb]

theorem forEach_cons_raise {σ ρ α : Type} {x : α} {r : List α} {s s1 : σ} {e : ρ} {body : σ → α → σ × Option ρ}
    (hb : body s x = (s1, some e)) : forEach (x :: r) s body = (s1, some e) := by
  rw [forEach, hb]

/-! ## flat model -/
section F
open Model.StateMgr Model.StateMgrPy.F Gen.StateMgrSrc.F

/-- `_ensure_copy`: None → None, ndarray → a new array (`.copy()`, `copy.deepcopy` for object dtype), list / tuple / dict →
    `copy.deepcopy`, anything else → the object itself: on the three kinds of value of the flat model this is `copyVal` -/
theorem C17_srcF_ensure_copy (o : Owner) (h : Heap) (v : Val) : copyVal h v = ensureCopy o h v := by
  cases v <;> rfl

theorem F_ensureCopy_eq (o : Owner) : ensureCopy o = copyVal := by
  funext h v; exact (C17_srcF_ensure_copy o h v).symm

/- The Python primitives and state accessors of `Model/StateMgrPy.lean` are unfolded wherever a generated term is compared
   with `step`; a generated method (`getCurrent`, `getHistory`, …) is unfolded only in its own theorem; the model's copy loops
   are rewritten into the comprehensions they are (`copyList_eq`, `copyDict_eq`, `copyHist_eq` of the lemma files). -/
attribute [local simp] step finish inKeys keySet withItem raise keyErr seq curOf histOf heapOf cacheOf setHeap setCache
  retVal retDict retExport retParam escape callVal cachePut F_ensureCopy_eq copyList_eq copyDict_eq copyHist_eq

/-- `get_current(key)` / `get_current()`: validation, the read, a copy made FOR THE CALLER of every value handed out -/
theorem C17_srcF_get_current (s : State) (k : Option Key) :
    step s (.getCurrent k) = finish (getCurrent .usr s k) := by
  cases k with
  | none => simp [getCurrent]
  | some k =>
    by_cases hk : k ∈ currentKeys
    · cases hl : lookup k s.current <;>
        simp [getCurrent, hk, hl]
    · simp [getCurrent, hk]

/-- `set_current(key, value, copy)` on the value the caller passes: validation; `copy=True` stores a copy made FOR THE MANAGER,
    `copy=False` stores the caller's own object (ghost: recorded as imported); the cache is dropped -/
theorem C17_srcF_set_current (s : State) (k : Key) (x : Arg) (copy : Bool) :
    step s (.setCurrent k x copy) =
      if !x.legal s.escaped then (s, .err .illegal) else
      finish (setCurrent .usr { s with heap := (resolveArg s.heap s.escaped x).1, escaped := (resolveArg s.heap s.escaped x).2.1 }
        k (resolveArg s.heap s.escaped x).2.2 copy) := by
  by_cases hl : x.legal s.escaped <;> by_cases hk : k ∈ currentKeys <;> cases copy <;>
    simp [setCurrent, hk, hl, storeCurrent, storeCur, storeCurAlias]

/-- the body of `update_current`'s loop, as generated -/
def F_updBody (copy : Bool) : State → Key × Val → State × Option Res := fun s1 x2 =>
  (if (inKeys "CURRENT_STATE_KEYS" x2.1) then
    (if copy then let c4 := ensureCopy Owner.lib (heapOf s1) x2.2; let s5 := setHeap s1 c4.1; let s6 := storeCur s5 x2.1 c4.2; (s6, none)
     else let s7 := storeCurAlias s1 x2.1 x2.2; (s7, none))
   else raise s1 Err.valueError)

theorem F_updBody_in (copy : Bool) (s : State) (k : Key) (v : Val) (hk : k ∈ currentKeys) :
    F_updBody copy s (k, v) = (storeCurrent s k v copy, none) := by
  cases copy <;> simp [F_updBody, hk, storeCurrent, storeCur, storeCurAlias]

theorem F_updBody_out (copy : Bool) (s : State) (k : Key) (v : Val) (hk : ¬ k ∈ currentKeys) :
    F_updBody copy s (k, v) = (s, some (.err .valueError)) := by
  simp [F_updBody, hk]

theorem F_updLoop_eq (copy : Bool) (kvs : List (Key × Val)) (s : State) :
    forEach kvs s (F_updBody copy)
    = ((updLoop copy kvs s).1, if (updLoop copy kvs s).2 then none else some (.err .valueError)) := by
  induction kvs generalizing s with
  | nil => rfl
  | cons kv r ih =>
    obtain ⟨k, v⟩ := kv
    by_cases hk : k ∈ currentKeys
    · rw [forEach_cons_ok (F_updBody_in copy s k v hk), ih]
      simp [updLoop, hk]
    · rw [forEach_cons_raise (F_updBody_out copy s k v hk)]
      simp [updLoop, hk]

/-- `update_current(data_dict, copy)`: the same store for every item in order, stopping at the first invalid key (earlier
    items stay stored, the cache is then NOT dropped) -/
theorem C17_srcF_update_current (s : State) (kvs : List (Key × Arg)) (copy : Bool) :
    step s (.updateCurrent kvs copy) =
      if !dictLegal s.escaped kvs then (s, .err .illegal) else
      finish (updateCurrent .usr { s with heap := (resolveDict s.heap s.escaped kvs).1, escaped := (resolveDict s.heap s.escaped kvs).2.1 }
        (resolveDict s.heap s.escaped kvs).2.2 copy) := by
  have h : ∀ s0 d, updateCurrent .usr s0 d copy = seq (forEach d s0 (F_updBody copy)) fun s3 => (setCache s3 none, none) := fun _ _ => rfl
  by_cases hl : dictLegal s.escaped kvs
  · simp only [step, hl, h, F_updLoop_eq, Bool.not_true, Bool.false_eq_true, if_false]
    cases hu : (updLoop copy (resolveDict s.heap s.escaped kvs).2.2
        { s with heap := (resolveDict s.heap s.escaped kvs).1, escaped := (resolveDict s.heap s.escaped kvs).2.1 }).2 <;>
      simp
  · simp [hl]

/-- `get_history(key, index, flat)`: validation; no index → a NEW array stacked from the entries (`np.concatenate` raises for
    an empty / scalar history), deep-copied when it has object dtype; an index → range test (`>= len`, `< 0`: IndexError), then a
    copy of that entry FOR THE CALLER -/
theorem C17_srcF_get_history (s : State) (k : Key) (index : Option Int) (flat : Bool) :
    step s (.getHistory k index flat) = finish (getHistory .usr s k index flat) := by
  by_cases hk : k ∈ historyKeys
  · cases hl : lookup k s.history with
    | none => cases index <;> cases flat <;> simp [getHistory, hk, hl]
    | some l =>
      cases index with
      | none =>
        cases flat
        · simp [getHistory, hk, hl, npArray, Val.addrs]
        · by_cases hc : (l.isEmpty || !l.all Val.isRef) = true
          · simp [getHistory, hk, hl, npConcat, hc]
          · simp [getHistory, hk, hl, npConcat, hc, npArray, Val.addrs]
      | some i =>
        by_cases hneg : i < 0
        · simp [getHistory, hk, hl, hneg]
        · by_cases hge : i ≥ (l.length : Int)
          · have : l[i.toNat]? = none := by
              apply List.getElem?_eq_none; omega
            simp [getHistory, hk, hl, hneg, hge, this]
          · have hlt : i.toNat < l.length := by omega
            simp [getHistory, hk, hl, hneg, hge, pyGet_nonneg, hlt]
  · cases index <;> cases flat <;> simp [getHistory, hk]

/-- `get_last_history(key, default)`: validation; empty history → the caller's `default` itself; else a copy of the last entry -/
theorem C17_srcF_get_last_history (s : State) (k : Key) :
    step s (.getLastHistory k) = finish (getLastHistory .usr s k Val.none) := by
  by_cases hk : k ∈ historyKeys
  · cases hl : lookup k s.history with
    | none => simp [getLastHistory, hk, hl]
    | some l =>
      cases l with
      | nil => simp [getLastHistory, hk, hl]
      | cons a r =>
        have hne : ¬ ((r.length : Int) + 1 = 0) := by omega
        cases hg : (a :: r).getLast? with
        | none => simp at hg
        | some v =>
          simp [getLastHistory, hk, hl, pyGet_last, hg, hne]
  · simp [getLastHistory, hk]

/-- `to_dict()`: copies FOR THE CALLER of every current value, then of every history entry (new lists), in that order -/
theorem C17_srcF_to_dict (s : State) : step s .toDict = finish (toDict .usr s) := by
  simp [toDict, List.append_assoc]

/-- `update_from_dict(state_dict)` on the dictionary the caller passes: each present section is copied FOR THE MANAGER
    (arrays and lists) and merged; the cache is dropped -/
theorem C17_srcF_update_from_dict (s : State) (cur : Option (List (Key × Arg))) (hist : Option (List (Key × List Arg))) :
    step s (.updateFromDict cur hist) =
      if !(dictLegal s.escaped (entries cur) && histLegal s.escaped (entries hist)) then (s, .err .illegal) else
      let rc := resolveDict s.heap s.escaped (entries cur)
      let rh := resolveHist rc.1 rc.2.1 (entries hist)
      finish (updateFromDict .usr { s with heap := rh.1, escaped := rh.2.1 }
        (cur.map fun _ => rc.2.2) (hist.map fun _ => rh.2.2)) := by
  by_cases hl : (dictLegal s.escaped (entries cur) && histLegal s.escaped (entries hist)) = true
  · -- each section of the dictionary present or absent: in all four cases both sides are the same copies merged into the same slots
    cases cur <;> cases hist <;>
      simp [updateFromDict, updateCur, updateHist, entries, mapAssoc, updateAll, resolveDict, resolveHist] <;>
      simp_all [entries]
  · simp only [Bool.not_eq_true] at hl
    simp [hl]

/-- the body of `commit_current_to_history`'s loop, as generated -/
def F_commitBody : State → Key → State × Option Res := fun s2 x3 =>
  (if (inKeys "HISTORY_STATE_KEYS" x3) then withItem (lookup x3 (curOf s2)) s2 keyErr fun v5 =>
    (if (isNoneV v5) then (s2, none)
     else let c6 := ensureCopy Owner.lib (heapOf s2) v5; let s7 := setHeap s2 c6.1; let s8 := appendHist s7 x3 c6.2; (s8, none))
   else (s2, none))

def F_commitStep (s : State) (k : Key) (v : Val) : State :=
  { s with heap := (copyVal s.heap v).1, history := adjust k (fun l => l ++ [(copyVal s.heap v).2]) s.history }

/-- every key the commit loop reads has a slot in `_current` (shown for `init` by the `example` below; that every method keeps it is not proved here) -/
def F_CurSlots (s : State) : Prop := ∀ k ∈ currentKeys, k ∈ historyKeys → (lookup k s.current).isSome = true

theorem F_commitLoop_eq (ks : List Key) (s : State)
    (hc : ∀ k ∈ ks, k ∈ historyKeys → (lookup k s.current).isSome = true) :
    forEach ks s F_commitBody = (commitLoop (ks.filter fun k => historyKeys.contains k) s, none) := by
  induction ks generalizing s with
  | nil => rfl
  | cons k r ih =>
    have hr : ∀ s' : State, s'.current = s.current → ∀ k' ∈ r, k' ∈ historyKeys → (lookup k' s'.current).isSome = true :=
      fun s' e k' hk' hh => by rw [e]; exact hc k' (List.mem_cons_of_mem _ hk') hh
    by_cases hk : k ∈ historyKeys
    · have hs := hc k (List.mem_cons_self) hk
      cases hl : lookup k s.current with
      | none => simp [hl] at hs
      | some v =>
        by_cases hv : v = Val.none
        · subst hv
          have hb : F_commitBody s k = (s, none) := by simp [F_commitBody, hk, hl, isNoneV]
          rw [forEach_cons_ok hb, ih s (hr s rfl)]
          simp [List.filter, hk, commitLoop, hl]
        · have hn : isNoneV v = false := by cases v <;> simp_all [isNoneV]
          have hb : F_commitBody s k = (F_commitStep s k v, none) := by
            simp [F_commitBody, F_commitStep, hk, hl, hn, appendHist]
          rw [forEach_cons_ok hb, ih (F_commitStep s k v) (hr _ rfl)]
          simp [List.filter, hk, commitLoop, hl, hv, F_commitStep]
    · have hb : F_commitBody s k = (s, none) := by simp [F_commitBody, hk]
      rw [forEach_cons_ok hb, ih s (hr s rfl)]
      simp [List.filter, hk]

/-- `commit_current_to_history(strict)`: strict → ValueError when a key of REQUIRED_COMMIT_KEYS is missing or None (nothing
    committed); then, for every key of CURRENT_STATE_KEYS that is in HISTORY_STATE_KEYS and whose value is not None, a copy made
    FOR THE MANAGER is appended to that key's list; the cache is dropped -/
theorem C17_srcF_commit (s : State) (strict : Bool) (hc : F_CurSlots s) :
    step s (.commit strict) = finish (commit .usr s strict) := by
  have hloop := F_commitLoop_eq currentKeys s hc
  have h : ∀ p, commit .usr s p =
      (if p then (if ((((keySet "REQUIRED_COMMIT_KEYS")).filter fun x1 => (isNoneO (lookup x1 (curOf s))))).isEmpty
        then seq (forEach (keySet "CURRENT_STATE_KEYS") s F_commitBody) fun s4 => (setCache s4 none, none)
        else raise s Err.valueError)
       else seq (forEach (keySet "CURRENT_STATE_KEYS") s F_commitBody) fun s4 => (setCache s4 none, none)) := fun _ => rfl
  have hk : keySet "CURRENT_STATE_KEYS" = currentKeys := rfl
  rw [h, hk, hloop]
  cases strict
  · simp [commitKeys]
  · cases hb : Model.StateMgr.isNone (lookup "beta" s.current) <;> cases hg : Model.StateMgr.isNone (lookup "logl" s.current) <;>
      simp [commitKeys, List.filter, isNoneO_eq, hb, hg]

example : F_CurSlots init := by unfold F_CurSlots; decide +kernel

/-- the body of `compute_results`' loop, as generated: `self._results_dict[key] = self.get_history(key)` with the manager
    itself as the receiver of what `get_history` allocates -/
def F_resBody : State → Key → State × Option Res := fun s2 x3 =>
  callVal (getHistory Owner.lib s2 x3 none false) fun s6 v5 => let s7 := cachePut s6 x3 v5; (s7, none)

/-- `_history` is a dictionary: the entry found under a key is that key's entry (shown for `init` by the `example` below; that every method keeps it is not proved here) -/
def F_HistFun (s : State) : Prop := ∀ kl ∈ s.history, lookup kl.1 s.history = some kl.2

def F_fillStep (s : State) (k : Key) (l : List Val) : State :=
  { s with heap := s.heap ++ [stack s.heap l], cache := some (insert k (.ref s.heap.length) (entries s.cache)) }

theorem F_resBody_in (s : State) (k : Key) (l : List Val) (hl : lookup k s.history = some l) (hk : k ∈ historyKeys) :
    F_resBody s k = (F_fillStep s k l, none) := by
  simp [F_resBody, getHistory, hk, hl, npArray, F_fillStep]

theorem F_resBody_out (s : State) (k : Key) (hk : ¬ k ∈ historyKeys) : F_resBody s k = (s, some (.err .valueError)) := by
  simp [F_resBody, getHistory, hk]

theorem F_fillCache_eq (r : List (Key × List Val)) (s : State) (c : List (Key × Val)) (hc : s.cache = some c)
    (hf : ∀ kl ∈ r, lookup kl.1 s.history = some kl.2) :
    forEach (r.map Prod.fst) s F_resBody =
      ({ s with heap := (fillCache r s.heap c).1, cache := some (fillCache r s.heap c).2.1 },
       if (fillCache r s.heap c).2.2 then none else some (.err .valueError)) := by
  induction r generalizing s c with
  | nil =>
    -- (`cases s`: the two states are equal field by field)
    cases s
    simp_all [forEach, fillCache]
  | cons kl r ih =>
    obtain ⟨k, l⟩ := kl
    have hl : lookup k s.history = some l := hf (k, l) List.mem_cons_self
    by_cases hk : k ∈ historyKeys
    · rw [List.map_cons, forEach_cons_ok (F_resBody_in s k l hl hk)]
      rw [ih (F_fillStep s k l) (insert k (.ref s.heap.length) c) (by simp [F_fillStep, hc, entries])
        (fun kl hkl => hf kl (List.mem_cons_of_mem _ hkl))]
      simp [F_fillStep, fillCache, hk]
      rfl
    · rw [List.map_cons, forEach_cons_raise (F_resBody_out s k hk)]
      cases s
      simp_all [fillCache]

/-- `compute_results()`: with an empty cache, `get_history(key)` of every key of `_history` is stored in `_results_dict`
    (allocated FOR THE MANAGER; a ValueError of `get_history` propagates and leaves the partial dictionary behind), then `logw`;
    in both cases what is returned are copies made FOR THE CALLER of the cached values -/
theorem C17_srcF_compute_results (s : State) (hf : F_HistFun s) :
    step s .computeResults = finish (computeResults .usr s) := by
  have h : computeResults .usr s =
      (if ((cacheOf s)).isNone then let s1 := setCache s (some []); seq (forEach (((histOf s1)).map Prod.fst) s1 F_resBody) fun s4 =>
          logwCall Owner.lib s4 fun s9 v8 => let s10 := cachePut s9 "logw" v8
            let c11 := mapAssoc (ensureCopy .usr) (heapOf s10) (entries (cacheOf s10)); let s12 := setHeap s10 c11.1; retDict .usr s12 c11.2
       else let c13 := mapAssoc (ensureCopy .usr) (heapOf s) (entries (cacheOf s)); let s14 := setHeap s c13.1; retDict .usr s14 c13.2) := rfl
  rw [h]
  cases hc : s.cache with
  | some c => simp [hc, entries]
  | none =>
    have hfill := F_fillCache_eq s.history (setCache s (some [])) [] rfl hf
    simp only [cacheOf, hc, Option.isNone_none, if_true, histOf, setCache] at hfill ⊢
    rw [hfill]
    by_cases hb : (fillCache s.history s.heap []).2.2 = true <;>
      simp [hc, hb, logwCall, entries]

example : F_HistFun init := by unfold F_HistFun; decide +kernel

end F
/-! ## nested model (values that hold references: object arrays, lists, dicts), the rule in force since b0f244e -/
section N
open Model.StateMgr (Key Val Err lookup insert adjust updateAll currentKeys historyKeys commitKeys entries)
open Model.StateMgrN Model.StateMgrPy.N Gen.StateMgrSrc.N

/-- `_ensure_copy` on the cells of the nested model: a plain array is duplicated (`.copy()`), an object array is DEEP-copied
    (`_deepcopy_array(value) if value.dtype.hasobject`): this is `copyVal` with `deep = true` -/
theorem C17_srcN_ensure_copy (o : Owner) (h : Heap) (v : Val) : copyVal true o h v = ensureCopy o h v := by
  cases v with
  | none => rfl
  | scalar x => rfl
  | ref a =>
    cases hb : bodyAt h a with
    | none => simp [copyVal, ensureCopy, isNoneV, isInst, Model.StateMgrN.Val.isRef, hasObject, isObjs, hb, bufCopy]
    | some b => cases b <;> simp [copyVal, ensureCopy, isNoneV, isInst, Model.StateMgrN.Val.isRef, hasObject, isObjs, hb, bufCopy, deepCopy]

/-- the third rule of `_ensure_copy` (list / tuple / dict → `copy.deepcopy`) is the rule of object arrays: the nested model
    may represent Python containers by the same kind of cell -/
theorem C17_srcN_container_rule :
    (∀ (o : Owner) (h : Heap) (v : Val), Gen.StateMgrSrc.N.ensureCopy o h v =
      if isNoneV v then (h, Val.none) else
      if isInst h v ["ndarray"] then (if hasObject h v then deepCopy o h v else bufCopy o h v) else
      if isInst h v ["list", "tuple", "dict"] then deepCopy o h v else (h, v)) := fun _ _ _ => rfl

theorem N_ensureCopy_eq (o : Owner) : ensureCopy o = copyVal true o := by
  funext h v; exact (C17_srcN_ensure_copy o h v).symm

attribute [local simp] step finish inKeys keySet withItem raise keyErr seq curOf histOf heapOf cacheOf setHeap setCache
  retVal retDict retExport retParam callVal cachePut N_ensureCopy_eq copyList_eq copyDict_eq copyHist_eq

/- `C17_srcN_x` claims of the cells of the nested model what `C17_srcF_x` claims of the flat one (`copyVal true`: deep copies; the receiver
   of every copy is the owner label of the new cells); loop bodies and hypotheses are those of the flat section. -/

theorem C17_srcN_get_current (s : State) (k : Option Key) :
    step true s (.getCurrent k) = finish (getCurrent .usr s k) := by
  cases k with
  | none => simp [getCurrent]
  | some k =>
    by_cases hk : k ∈ currentKeys
    · cases hl : lookup k s.current <;>
        simp [getCurrent, hk, hl]
    · simp [getCurrent, hk]

theorem C17_srcN_set_current (s : State) (k : Key) (x : Arg) (copy : Bool) :
    step true s (.setCurrent k x copy) =
      if !x.legal s.heap then (s, .err .illegal) else
      finish (setCurrent .usr { s with heap := (resolveArg s.heap x).1 } k (resolveArg s.heap x).2 copy) := by
  by_cases hl : x.legal s.heap <;> by_cases hk : k ∈ currentKeys <;> cases copy <;>
    simp [setCurrent, hk, hl, storeCur, storeCurAlias]

theorem C17_srcN_get_history (s : State) (k : Key) (index : Option Int) (flat : Bool) :
    step true s (.getHistory k index flat) = finish (getHistory .usr s k index flat) := by
  by_cases hk : k ∈ historyKeys
  · cases hl : lookup k s.history with
    | none => cases index <;> cases flat <;> simp [getHistory, hk, hl]
    | some l =>
      cases index with
      | none =>
        cases flat
        · simp [getHistory, hk, hl, npArray]
        · by_cases hc : (l.isEmpty || !l.all Model.StateMgrN.Val.isRef) = true
          · simp [getHistory, hk, hl, npConcat, hc]
          · simp [getHistory, hk, hl, npConcat, hc, npArray]
      | some i =>
        by_cases hneg : i < 0
        · simp [getHistory, hk, hl, hneg]
        · by_cases hge : i ≥ (l.length : Int)
          · have : l[i.toNat]? = none := by
              apply List.getElem?_eq_none; omega
            simp [getHistory, hk, hl, hneg, hge, this]
          · have hlt : i.toNat < l.length := by omega
            simp [getHistory, hk, hl, hneg, hge, pyGet_nonneg, hlt]
  · cases index <;> cases flat <;> simp [getHistory, hk]

theorem C17_srcN_get_last_history (s : State) (k : Key) :
    step true s (.getLastHistory k) = finish (getLastHistory .usr s k Val.none) := by
  by_cases hk : k ∈ historyKeys
  · cases hl : lookup k s.history with
    | none => simp [getLastHistory, hk, hl]
    | some l =>
      cases l with
      | nil => simp [getLastHistory, hk, hl]
      | cons a r =>
        have hne : ¬ ((r.length : Int) + 1 = 0) := by omega
        cases hg : (a :: r).getLast? with
        | none => simp at hg
        | some v =>
          simp [getLastHistory, hk, hl, pyGet_last, hg, hne]
  · simp [getLastHistory, hk]

theorem C17_srcN_to_dict (s : State) : step true s .toDict = finish (toDict .usr s) := by
  simp [toDict]

theorem C17_srcN_update_from_dict (s : State) (cur : Option (List (Key × Arg))) (hist : Option (List (Key × List Arg))) :
    step true s (.updateFromDict cur hist) =
      if !(dictLegal s.heap (entries cur) && histLegal s.heap (entries hist)) then (s, .err .illegal) else
      let rc := resolveDict s.heap (entries cur)
      let rh := resolveHist rc.1 (entries hist)
      finish (updateFromDict .usr { s with heap := rh.1 } (cur.map fun _ => rc.2) (hist.map fun _ => rh.2)) := by
  by_cases hl : (dictLegal s.heap (entries cur) && histLegal s.heap (entries hist)) = true
  · cases cur <;> cases hist <;>
      simp [updateFromDict, updateCur, updateHist, entries, mapAssoc, updateAll, resolveDict, resolveHist] <;>
      simp_all [entries]
  · simp only [Bool.not_eq_true] at hl
    simp [hl]

def N_commitBody : State → Key → State × Option Res := fun s2 x3 =>
  (if (inKeys "HISTORY_STATE_KEYS" x3) then withItem (lookup x3 (curOf s2)) s2 keyErr fun v5 =>
    (if (isNoneV v5) then (s2, none)
     else let c6 := ensureCopy Owner.lib (heapOf s2) v5; let s7 := setHeap s2 c6.1; let s8 := appendHist s7 x3 c6.2; (s8, none))
   else (s2, none))

def N_commitStep (s : State) (k : Key) (v : Val) : State :=
  { s with heap := (copyVal true .lib s.heap v).1, history := adjust k (fun l => l ++ [(copyVal true .lib s.heap v).2]) s.history }

def N_CurSlots (s : State) : Prop := ∀ k ∈ currentKeys, k ∈ historyKeys → (lookup k s.current).isSome = true

theorem N_commitLoop_eq (ks : List Key) (s : State)
    (hc : ∀ k ∈ ks, k ∈ historyKeys → (lookup k s.current).isSome = true) :
    forEach ks s N_commitBody = (commitLoop true (ks.filter fun k => historyKeys.contains k) s, none) := by
  induction ks generalizing s with
  | nil => rfl
  | cons k r ih =>
    have hr : ∀ s' : State, s'.current = s.current → ∀ k' ∈ r, k' ∈ historyKeys → (lookup k' s'.current).isSome = true :=
      fun s' e k' hk' hh => by rw [e]; exact hc k' (List.mem_cons_of_mem _ hk') hh
    by_cases hk : k ∈ historyKeys
    · have hs := hc k (List.mem_cons_self) hk
      cases hl : lookup k s.current with
      | none => simp [hl] at hs
      | some v =>
        by_cases hv : v = Val.none
        · subst hv
          have hb : N_commitBody s k = (s, none) := by simp [N_commitBody, hk, hl, isNoneV]
          rw [forEach_cons_ok hb, ih s (hr s rfl)]
          simp [List.filter, hk, commitLoop, hl]
        · have hn : isNoneV v = false := by cases v <;> simp_all [isNoneV]
          have hb : N_commitBody s k = (N_commitStep s k v, none) := by
            simp [N_commitBody, N_commitStep, hk, hl, hn, appendHist]
          rw [forEach_cons_ok hb, ih (N_commitStep s k v) (hr _ rfl)]
          simp [List.filter, hk, commitLoop, hl, hv, N_commitStep]
    · have hb : N_commitBody s k = (s, none) := by simp [N_commitBody, hk]
      rw [forEach_cons_ok hb, ih s (hr s rfl)]
      simp [List.filter, hk]

theorem C17_srcN_commit (s : State) (strict : Bool) (hc : N_CurSlots s) :
    step true s (.commit strict) = finish (commit .usr s strict) := by
  have hloop := N_commitLoop_eq currentKeys s hc
  have h : ∀ p, commit .usr s p =
      (if p then (if ((((keySet "REQUIRED_COMMIT_KEYS")).filter fun x1 => (isNoneO (lookup x1 (curOf s))))).isEmpty
        then seq (forEach (keySet "CURRENT_STATE_KEYS") s N_commitBody) fun s4 => (setCache s4 none, none)
        else raise s Err.valueError)
       else seq (forEach (keySet "CURRENT_STATE_KEYS") s N_commitBody) fun s4 => (setCache s4 none, none)) := fun _ => rfl
  have hk : keySet "CURRENT_STATE_KEYS" = currentKeys := rfl
  rw [h, hk, hloop]
  cases strict
  · simp [commitKeys]
  · cases hb : Model.StateMgr.isNone (lookup "beta" s.current) <;> cases hg : Model.StateMgr.isNone (lookup "logl" s.current) <;>
      simp [commitKeys, List.filter, isNoneO_eq, hb, hg]

example : N_CurSlots init := by unfold N_CurSlots; decide +kernel

def N_resBody : State → Key → State × Option Res := fun s2 x3 =>
  callVal (getHistory Owner.lib s2 x3 none false) fun s6 v5 => let s7 := cachePut s6 x3 v5; (s7, none)

def N_HistFun (s : State) : Prop := ∀ kl ∈ s.history, lookup kl.1 s.history = some kl.2

def N_fillStep (s : State) (k : Key) (l : List Val) : State :=
  { s with heap := (stackAlloc true .lib s.heap l).1, cache := some (insert k (stackAlloc true .lib s.heap l).2 (entries s.cache)) }

theorem N_resBody_in (s : State) (k : Key) (l : List Val) (hl : lookup k s.history = some l) (hk : k ∈ historyKeys) :
    N_resBody s k = (N_fillStep s k l, none) := by
  simp [N_resBody, getHistory, hk, hl, npArray, N_fillStep]

theorem N_resBody_out (s : State) (k : Key) (hk : ¬ k ∈ historyKeys) : N_resBody s k = (s, some (.err .valueError)) := by
  simp [N_resBody, getHistory, hk]

theorem N_fillCache_eq (r : List (Key × List Val)) (s : State) (c : List (Key × Val)) (hc : s.cache = some c)
    (hf : ∀ kl ∈ r, lookup kl.1 s.history = some kl.2) :
    forEach (r.map Prod.fst) s N_resBody =
      ({ s with heap := (fillCache true r s.heap c).1, cache := some (fillCache true r s.heap c).2.1 },
       if (fillCache true r s.heap c).2.2 then none else some (.err .valueError)) := by
  induction r generalizing s c with
  | nil =>
    cases s
    simp_all [forEach, fillCache]
  | cons kl r ih =>
    obtain ⟨k, l⟩ := kl
    have hl : lookup k s.history = some l := hf (k, l) List.mem_cons_self
    by_cases hk : k ∈ historyKeys
    · rw [List.map_cons, forEach_cons_ok (N_resBody_in s k l hl hk)]
      rw [ih (N_fillStep s k l) (insert k (stackAlloc true .lib s.heap l).2 c) (by simp [N_fillStep, hc, entries])
        (fun kl hkl => hf kl (List.mem_cons_of_mem _ hkl))]
      simp [N_fillStep, fillCache, hk]
      rfl
    · rw [List.map_cons, forEach_cons_raise (N_resBody_out s k hk)]
      cases s
      simp_all [fillCache]

theorem C17_srcN_compute_results (s : State) (hf : N_HistFun s) :
    step true s .computeResults = finish (computeResults .usr s) := by
  have h : computeResults .usr s =
      (if ((cacheOf s)).isNone then let s1 := setCache s (some []); seq (forEach (((histOf s1)).map Prod.fst) s1 N_resBody) fun s4 =>
          logwCall Owner.lib s4 fun s9 v8 => let s10 := cachePut s9 "logw" v8
            let c11 := mapAssoc (ensureCopy .usr) (heapOf s10) (entries (cacheOf s10)); let s12 := setHeap s10 c11.1; retDict .usr s12 c11.2
       else let c13 := mapAssoc (ensureCopy .usr) (heapOf s) (entries (cacheOf s)); let s14 := setHeap s c13.1; retDict .usr s14 c13.2) := rfl
  rw [h]
  cases hc : s.cache with
  | some c => simp [hc, entries]
  | none =>
    have hfill := N_fillCache_eq s.history (setCache s (some [])) [] rfl hf
    simp only [cacheOf, hc, Option.isNone_none, if_true, histOf, setCache] at hfill ⊢
    rw [hfill]
    by_cases hb : (fillCache true s.history s.heap []).2.2 = true <;>
      simp [hc, hb, logwCall, entries]

example : N_HistFun init := by unfold N_HistFun; decide +kernel

end N
/-! ## what is compared as text (no heap semantics of its own) -/

/-- `from_dict`: a NEW manager (`cls(n_dim)`), `update_from_dict(state_dict)` on it, and that manager is returned: the model's
    `freshIn` followed by the op `.updateFromDict` (Model/StateMgrX.lean: `resume`, `exportArgs`) -/
theorem C17_src_from_dict :
    Gen.StateMgrSrc.fromDictCalls = ["l2 = a0(a1.get('n_dim', 1))", "l2.update_from_dict(a1)", "return l2"] := rfl

/-- `compute_results` caches `compute_logw_and_logz(1.0)[0]`, computed once -/
theorem C17_src_results_logw : Gen.StateMgrSrc.resultsLogwArgs = ["1.0"] := rfl

/-- the only statements the translator drops are the ones that copy `n_dim` (not modelled) -/
theorem C17_src_skipped :
    Gen.StateMgrSrc.skipped = ["if 'n_dim' in state_dict: self.n_dim = state_dict['n_dim']"] := rfl

/-! ## non-vacuity: the generated terms run (flat model) -/
section Examples
open Model.StateMgr Model.StateMgrPy.F Gen.StateMgrSrc.F

/-- a state with one committed batch: `set_current("logl", <fresh array>)`, `set_current("beta", 3)`, `commit()` -/
def demo : State := run init [.setCurrent "logl" (.fresh [1, 2]) true, .setCurrent "beta" (.scalar 3) true, .commit false]

theorem demo_eq : demo =
    { current := insert "beta" (.scalar 3) (insert "logl" (.ref 1) init.current)
      history := adjust "beta" (· ++ [.scalar 3]) (adjust "logl" (· ++ [.ref 2]) init.history)
      cache := none
      heap := List.replicate 3 (some [1, 2])
      escaped := [0]
      imported := [] } := by decide +kernel

example : (finish (getHistory .usr demo "logl" (some 0) false)).2 = .val (.ref 3) := by rw [demo_eq]; decide +kernel
example : (finish (getHistory .usr demo "logl" (some 1) false)).2 = .err .indexError := by rw [demo_eq]; decide +kernel
example : (finish (getHistory .usr demo "logl" (some (-1)) false)).2 = .err .indexError := by rw [demo_eq]; decide +kernel
example : (finish (getHistory .usr demo "beta" none true)).2 = .err .valueError := by rw [demo_eq]; decide +kernel
example : (finish (getCurrent .usr demo (some "nope"))).2 = .err .valueError := by rw [demo_eq]; decide +kernel
example : rd (finish (getLastHistory .usr demo "logl" Val.none)).1.heap 3 = some [1, 2] := by rw [demo_eq]; decide +kernel
example : (finish (commit .usr init true)).2 = .err .valueError := by decide +kernel
example : (finish (commit .usr demo true)).2 = .unit := by rw [demo_eq]; decide +kernel
example : ((finish (computeResults .usr demo)).1.cache.map fun c => c.length) = some 13 := by decide +kernel
example : (finish (setCurrent .usr demo "x" (.ref 0) false)).1.imported = [0] := by rw [demo_eq]; decide +kernel
end Examples

end Props.C17.Src
