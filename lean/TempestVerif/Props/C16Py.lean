import TempestVerif.Model.BoundaryPy
import TempestVerif.Lemmas.Boundary
/-
  C16 — the glue of `apply_boundary_conditions` / `check_bounds` (`Model/BoundaryPy.lean`:
  `None` arguments, column-at-a-time updates of 2-D arrays, the early exit of `check_bounds`, its two
  `np.all` passes, scalar-vs-vector results, and the call site in `BaseMCMCRunner.run`) IS the core model
  `Model/Boundary.lean` that all other C16 / C03 / C07 theorems are about.  Every theorem here holds for
  every scalar instance (`Float`, `Float32`, `Rat`, `ℝ`, `RR r`), so in particular for the executed ones.
-/
namespace Props.C16Py
open Model.Boundary Model.BoundaryPy

variable {α : Type} [Sc α]

/-- `None` is the empty index list -/
def idx (o : Option (List Nat)) : List Nat := match o with | none => [] | some l => l

/-- a map of one point, applied to the point (rank 1) or to every row (rank 2) -/
def mapRows (g : List α → List α) : Arr α → Arr α
  | .d1 u => .d1 (g u)
  | .d2 n us => .d2 n (us.map g)

omit [Sc α] in
theorem mapRows_mapRows (g h : List α → List α) (a : Arr α) : mapRows h (mapRows g a) = mapRows (h ∘ g) a := by
  cases a
  · rfl
  · exact congrArg (Arr.d2 _) (List.map_map ..)

omit [Sc α] in
theorem loop_eq (o : Option (List Nat)) (f : α → α) (a : Arr α) :
    loop o f a = mapRows (fun row => (idx o).foldl (fun v i => v.modify i f) row) a := by
  cases o with
  | none => cases a <;> simp [loop, idx, mapRows]
  | some l =>
    show l.foldl (fun v i => colModify i f v) a = _
    induction l generalizing a with
    | nil => cases a <;> simp [idx, mapRows]
    | cons i l ih =>
      rw [List.foldl_cons, ih, show colModify i f a = mapRows (·.modify i f) a by cases a <;> rfl, mapRows_mapRows]
      rfl

/-- **`apply_boundary_conditions(u, periodic, reflective)`, any rank**: the core `apply` on the point / on every row
    (`None` = no index) -/
theorem applyPy_eq_mapRows (per refl : Option (List Nat)) (a : Arr α) :
    applyPy per refl a = mapRows (apply (idx per) (idx refl)) a := by
  rw [applyPy, loop_eq, loop_eq, mapRows_mapRows]; rfl

/-- **1-D call**: `apply_boundary_conditions(u, periodic, reflective)` is the core `apply` (`None` = no index) -/
theorem C16_applyPy_d1 (per refl : Option (List Nat)) (u : List α) :
    applyPy per refl (Arr.d1 u) = Arr.d1 (apply (idx per) (idx refl) u) :=
  applyPy_eq_mapRows per refl _

/-- **2-D call**: updating whole columns `u[..., idx]`, index after index, is the 1-D map on every row -/
theorem C16_applyPy_d2 (per refl : Option (List Nat)) (n : Nat) (us : List (List α)) :
    applyPy per refl (Arr.d2 n us) = Arr.d2 n (apply2 (idx per) (idx refl) us) :=
  applyPy_eq_mapRows per refl _

theorem special_eq (per refl : Option (List Nat)) (i : Nat) :
    special per refl i = ((idx per).contains i || (idx refl).contains i) := by
  cases per <;> cases refl <;> simp [special, idx]

theorem all_and_all {β : Type} (l : List β) (p q : β → Bool) :
    (l.all p && l.all q) = l.all fun i => p i && q i := by
  induction l with
  | nil => rfl
  | cons a l ih =>
    simp only [List.all_cons, ← ih]
    cases p a <;> cases q a <;> simp

/-- the two `np.all` passes over the strict indices are one pass of the conjunction, and the filter by
    `strict_indices` is the `if special then true` of the core model -/
theorem rowCheck_strictIdx (per refl : Option (List Nat)) (u : List α) :
    rowCheck (strictIdx per refl u.length) u = checkBounds (idx per) (idx refl) u := by
  unfold rowCheck strictIdx checkBounds
  rw [all_and_all, List.all_filter]
  apply List.all_congr rfl
  intro i
  rw [special_eq]
  cases h : ((idx per).contains i || (idx refl).contains i)
  · cases hu : u[i]? <;> simp [inUnit]
  · simp

theorem rowCheck_nil (u : List α) : rowCheck [] u = true := by simp [rowCheck]

/-- **1-D check**: `check_bounds` returns a scalar, equal to the core `checkBounds`; the early exit
    (`len(strict_indices) == 0`) agrees with the general formula -/
theorem C16_checkPy_d1 (per refl : Option (List Nat)) (u : List α) :
    checkPy per refl (Arr.d1 u) = Res.scalar (checkBounds (idx per) (idx refl) u) := by
  unfold checkPy
  simp only
  have h := rowCheck_strictIdx per refl u
  by_cases he : (strictIdx per refl u.length).isEmpty = true
  · rw [if_pos he]
    have : strictIdx per refl u.length = [] := List.isEmpty_iff.mp he
    rw [this, rowCheck_nil] at h
    rw [← h]
  · rw [if_neg he, h]

/-- **2-D check**: one flag per row (walker), each the core `checkBounds` of that row; in the early exit
    `np.ones(u.shape[0], dtype=bool)` is the same vector -/
theorem C16_checkPy_d2 (per refl : Option (List Nat)) (n : Nat) (us : List (List α))
    (hrows : ∀ row ∈ us, row.length = n) :
    checkPy per refl (Arr.d2 n us) = Res.vec (checkBounds2 (idx per) (idx refl) us) := by
  unfold checkPy checkBounds2
  simp only
  have h : ∀ row ∈ us, rowCheck (strictIdx per refl n) row = checkBounds (idx per) (idx refl) row := by
    intro row hr
    rw [← hrows row hr]; exact rowCheck_strictIdx per refl row
  by_cases he : (strictIdx per refl n).isEmpty = true
  · rw [if_pos he]
    have hnil : strictIdx per refl n = [] := List.isEmpty_iff.mp he
    congr 1
    apply List.ext_getElem
    · simp
    · intro i h1 h2
      have hm : us[i]'(by simpa using h2) ∈ us := List.getElem_mem _
      have := h _ hm
      rw [hnil, rowCheck_nil] at this
      simp [← this]
  · rw [if_neg he]
    congr 1
    exact List.map_congr_left h

/-- the result of a 2-D check always has exactly one entry per row — also in the early exit and for 0 rows
    (what `u_prime[~in_bounds] = …` at the call site needs) -/
theorem C16_checkPy_d2_shape (per refl : Option (List Nat)) (n : Nat) (us : List (List α)) :
    ∃ bs, checkPy per refl (Arr.d2 n us) = Res.vec bs ∧ bs.length = us.length := by
  unfold checkPy
  simp only
  by_cases he : (strictIdx per refl n).isEmpty = true
  · exact ⟨_, by rw [if_pos he], by simp⟩
  · exact ⟨_, by rw [if_neg he], by simp⟩

/-- **the call site** (`BaseMCMCRunner.run`, after fix 9001dc4): one 1-D fold per walker, ONE 2-D check, rejected
    walkers replaced by their current position — is, walker by walker, "fold; check the folded point; keep it if
    accepted, else the current point", i.e. exactly the per-walker form of `Model/Kernel.lean` (C03) and of
    `Props.C07Cube.C07_evaluated_points_in_cube` (C07). -/
theorem C16_proposeAll_rowwise (per refl : Option (List Nat)) (n : Nat) (cur raws : List (List α))
    (hraw : ∀ raw ∈ raws, raw.length = n) :
    proposeAll per refl n cur raws =
      some ((List.zip (raws.map (apply (idx per) (idx refl)))
              (List.zip ((raws.map (apply (idx per) (idx refl))).map (checkBounds (idx per) (idx refl))) cur)).map
                (fun t => if t.2.1 then t.1 else t.2.2),
            (raws.map (apply (idx per) (idx refl))).map (checkBounds (idx per) (idx refl))) := by
  unfold proposeAll
  have hf : raws.map (proposeRow per refl) = raws.map (apply (idx per) (idx refl)) := by
    apply List.map_congr_left
    intro raw _
    unfold proposeRow
    rw [C16_applyPy_d1]
  simp only [hf]
  have hlen : ∀ row ∈ raws.map (apply (idx per) (idx refl)), row.length = n := by
    intro row hr
    obtain ⟨raw, hm, rfl⟩ := List.mem_map.mp hr
    rw [apply_length]; exact hraw raw hm
  rw [C16_checkPy_d2 per refl n _ hlen]
  simp [checkBounds2]

/-! ### non-vacuity (executed at `Rat`) -/
example : applyPy (some [0]) none (Arr.d2 2 [[(5/2 : Rat), 3], [-1/4, 7]]) = Arr.d2 2 [[1/2, 3], [3/4, 7]] := by decide +kernel
example : checkPy (some [0]) (some [1]) (Arr.d2 2 [[(5 : Rat), -3], [0, 0]]) = Res.vec [true, true] := by decide +kernel
example : checkPy none none (Arr.d1 [(1/2 : Rat), 3/2]) = Res.scalar false := by decide +kernel
example : proposeAll none (some [0]) 2 [[(1/4 : Rat), 1/4], [1/2, 1/2]] [[5/4, 1/3], [1/8, 9/8]] =
    some ([[3/4, 1/3], [1/2, 1/2]], [true, false]) := by decide +kernel

end Props.C16Py
