import TempestVerif.Model.CadenceX
import Mathlib.Tactic.SplitIfs
/-
  C14 — "… every clustering cadence … and after resuming from a checkpoint", on the extended run model
  `Model.CadenceX`: complete iterations, fresh objects restored from any checkpoint, `load_state` / `run(resume_state_path)` /
  a second `run()` on a USED Sampler (the paths opened by /repo aeb0399), and iterations that raise half-way (finding F24: the
  constructor refusing a degenerate cluster after `clusterer.fit`; the user's likelihood) followed by another `run()`.
  Every fit carries a generation number and every predict records the generation it was served by.

  The invariant `InvX` is proved by preservation along every step list; restricted to the steps of `Model.Cadence` the extended model
  IS `Model.Cadence` with the `_clusterer_fitted` disjunct, which carries the invariant over to that model.
-/
namespace Props.C14
open Model.CadenceX
open Model.Cadence (Verdict)

theorem scanX_append (t : List Ev) (e : Ev) : scan (t ++ [e]) = scanStep (scan t) e := by
  simp [scan, List.foldl_append]

/-- nothing went wrong; the Trainer's flag implies a fitted object; the trace, read on its own, is coherent and ends in the
    state the model carries (current generation, number of fits) -/
def InvX (s : St) : Prop :=
  s.verdict = .ok ∧ (s.flag = true → s.gen.isSome = true) ∧ scan s.trace = some (s.gen, s.nfits)

theorem invX_init (iter0 : Nat) : InvX (init iter0) := by
  simp [InvX, init, scan, scanStep]

theorem invX_emitFit (s : St) (h : InvX s) (f : Bool) :
    InvX { emitFit s with flag := f } ∧ ({ emitFit s with flag := f } : St).gen = some (s.nfits + 1) := by
  obtain ⟨h1, _, h3⟩ := h
  refine ⟨⟨h1, fun _ => rfl, ?_⟩, rfl⟩
  show scan (s.trace ++ [.fit (s.nfits + 1)]) = some (some (s.nfits + 1), s.nfits + 1)
  rw [scanX_append, h3]
  simp [scanStep]

theorem invX_emitPredict (s : St) (h : InvX s) (g : Nat) (hg : s.gen = some g) :
    InvX (emitPredict s) ∧ emitPredict s = { s with trace := s.trace ++ [.predict (some g)] } := by
  obtain ⟨h1, h2, h3⟩ := h
  have he : emitPredict s = { s with trace := s.trace ++ [.predict (some g)] } := by simp [emitPredict, hg]
  refine ⟨?_, he⟩
  rw [he]
  refine ⟨h1, h2, ?_⟩
  show scan (s.trace ++ [.predict (some g)]) = some (s.gen, s.nfits)
  rw [scanX_append, h3, hg]
  simp [scanStep]

theorem invX_trainer (c : Cfg) (warm : Bool) (s : St) (h : InvX s) :
    InvX (trainer c warm s) ∧
    (warm = false → c.clustering = true → ∃ g, (trainer c warm s).gen = some g ∧
      ((trainer c warm s).trace = s.trace ++ [.fit g, .predict (some g)] ∧ g = s.nfits + 1 ∨
       (trainer c warm s).trace = s.trace ++ [.predict (some g)] ∧ s.gen = some g)) := by
  unfold trainer
  cases warm
  · rw [if_neg Bool.false_ne_true]
    by_cases hfit : (c.clustering && (onCadence c s || !s.flag)) = true
    · rw [if_pos hfit]
      obtain ⟨hi, hg⟩ := invX_emitFit s h true
      obtain ⟨r1, r2⟩ := invX_emitPredict _ hi _ hg
      refine ⟨r1, fun _ _ => ⟨s.nfits + 1, by rw [r2]; exact hg, Or.inl ⟨?_, rfl⟩⟩⟩
      rw [r2]; exact List.append_assoc ..
    · rw [if_neg hfit]
      by_cases hre : (c.clustering && !onCadence c s) = true
      · -- reuse branch: off the cadence and the flag is set, so the object holds a fit
        rw [if_pos hre]
        have hflag : s.flag = true := by
          revert hfit hre; cases c.clustering <;> cases onCadence c s <;> cases s.flag <;> decide
        obtain ⟨g, hg⟩ := Option.isSome_iff_exists.1 (h.2.1 hflag)
        obtain ⟨r1, r2⟩ := invX_emitPredict s h g hg
        exact ⟨r1, fun _ _ => ⟨g, by rw [r2]; exact hg, Or.inr ⟨by rw [r2], hg⟩⟩⟩
      · -- global branch: only with clustering off
        rw [if_neg hre]
        refine ⟨h, fun _ hcl => absurd ?_ hfit⟩
        revert hre; rw [hcl]; cases onCadence c s <;> cases s.flag <;> decide
  · exact ⟨h, fun h' => absurd h' (by decide)⟩

theorem invX_resampler (c : Cfg) (warm : Bool) (s : St) (h : InvX s)
    (hf : warm = false → c.clustering = true → s.gen.isSome = true) : InvX (resampler c warm s) := by
  unfold resampler
  split
  · exact h
  · split
    · exact h
    · rename_i hw
      split
      · rename_i hcl
        obtain ⟨g, hg⟩ := Option.isSome_iff_exists.1 (hf (by simpa using hw) hcl)
        exact (invX_emitPredict s h g hg).1
      · exact h

theorem invX_iteration (c : Cfg) (warm : Bool) (s : St) (h : InvX s) :
    InvX (resampler c warm (trainer c warm (bump s))) := by
  obtain ⟨t1, t2⟩ := invX_trainer c warm (bump s) h
  exact invX_resampler c warm _ t1 fun a b => by obtain ⟨g, hg, -⟩ := t2 a b; rw [hg]; rfl

theorem invX_step (c : Cfg) (s : St) (h : InvX s) (st : StepX) : InvX (step c s st) := by
  unfold step
  rw [if_neg (by simp [h.1])]
  cases st with
  | iter warm => exact invX_iteration c warm s h
  | fresh it =>
    refine ⟨h.1, nofun, ?_⟩
    show scan (s.trace ++ [.fresh]) = some (none, s.nfits)
    rw [scanX_append, h.2.2]; rfl
  | load it => exact h
  | crashEarly => exact h
  | crashTrained => exact (invX_trainer c false (bump s) h).1
  | crashLate => exact invX_iteration c false s h

theorem invX_run (c : Cfg) (steps : List StepX) (s : St) (h : InvX s) : InvX (steps.foldl (step c) s) := by
  induction steps generalizing s with
  | nil => exact h
  | cons st sts ih => exact ih _ (invX_step c s h st)

theorem invX_reach (c : Cfg) (iter0 : Nat) (steps : List StepX) : InvX (run c iter0 steps) :=
  invX_run c steps _ (invX_init iter0)

/-- **C14 (cadence and resume, every history).**  For every `cluster_every`, clustering on or off, every restored `iter`, and
    every run made of complete iterations (arbitrary β = 0 / β > 0), fresh Samplers restored from any checkpoint, `load_state` /
    `run(resume_state_path)` / repeated `run()` on a used Sampler, and iterations that raised early, inside `Trainer.run` after
    the fit, or in `Mutator.run` — in any order and number: no `predict` reaches an unfitted clusterer object, and on the
    trace alone every predict is served by the latest fit of the object that exists at that moment. -/
theorem C14X_cadence (c : Cfg) (iter0 : Nat) (steps : List StepX) :
    (run c iter0 steps).verdict = .ok ∧ coherentTrace (run c iter0 steps).trace = true := by
  have h := invX_reach c iter0 steps
  refine ⟨h.1, ?_⟩
  unfold coherentTrace
  rw [h.2.2]
  rfl

/-- **one fit per mutation**: a complete annealing iteration (clustering on) from a state satisfying the invariant appends
    `[fit g,] predict g, predict g` — the training labels (`Trainer.run`) and the assignments of the active particles
    (`Resampler.run`) are predictions of the SAME fit `g`, which is the fit just made (`g = nfits + 1`) or the fit the object
    already held; no refit and no other object in between. -/
theorem C14X_same_generation (c : Cfg) (hcl : c.clustering = true) (s : St) (h : InvX s) :
    ∃ (fitGen : Option Nat) (g : Nat),
      (step c s (.iter false)).trace = s.trace ++ annealEvents fitGen g ∧
      (fitGen = some g ∧ g = s.nfits + 1 ∨ fitGen = none ∧ s.gen = some g) ∧
      (step c s (.iter false)).gen = some g ∧ (step c s (.iter false)).verdict = .ok := by
  have hv : (s.verdict != Verdict.ok) = false := by simp [h.1]
  obtain ⟨t1, t2⟩ := invX_trainer c false (bump s) h
  obtain ⟨g, hg, hcase⟩ := t2 rfl hcl
  have hv' : ((trainer c false (bump s)).verdict != Verdict.ok) = false := by simp [t1.1]
  have hstep : step c s (.iter false) = emitPredict (trainer c false (bump s)) := by
    unfold step
    simp only [hv, Bool.false_eq_true, if_false]
    unfold resampler
    rw [hv']
    simp [hcl]
  obtain ⟨r1, r2⟩ := invX_emitPredict _ t1 g hg
  rw [hstep, r2]
  rcases hcase with ⟨ht, hgn⟩ | ⟨ht, hgs⟩
  · refine ⟨some g, g, ?_, Or.inl ⟨rfl, hgn⟩, hg, t1.1⟩
    show (trainer c false (bump s)).trace ++ [.predict (some g)] = _
    rw [ht]
    simp [annealEvents, bump]
  · refine ⟨none, g, ?_, Or.inr ⟨rfl, hgs⟩, hg, t1.1⟩
    show (trainer c false (bump s)).trace ++ [.predict (some g)] = _
    rw [ht]
    simp [annealEvents, bump]

theorem runX_snoc (c : Cfg) (iter0 : Nat) (steps : List StepX) (st : StepX) :
    run c iter0 (steps ++ [st]) = step c (run c iter0 steps) st := by
  simp [run, List.foldl_append]

theorem C14X_same_generation_run (ce iter0 : Nat) (steps : List StepX) :
    ∃ (fitGen : Option Nat) (g : Nat),
      (run { clusterEvery := ce } iter0 (steps ++ [.iter false])).trace
        = (run { clusterEvery := ce } iter0 steps).trace ++ annealEvents fitGen g ∧
      (fitGen = some g ∨ fitGen = none ∧ (run { clusterEvery := ce } iter0 steps).gen = some g) := by
  rw [runX_snoc]
  obtain ⟨fg, g, h1, h2, -, -⟩ := C14X_same_generation { clusterEvery := ce } rfl _ (invX_reach _ iter0 steps)
  exact ⟨fg, g, h1, h2.imp And.left id⟩

/-- when mutation runs (a complete annealing iteration, clustering on) the clusterer object holds a fit -/
theorem C14X_fitted_at_mutation (ce iter0 : Nat) (steps : List StepX) :
    ((run { clusterEvery := ce } iter0 (steps ++ [.iter false])).gen).isSome = true := by
  rw [runX_snoc]
  obtain ⟨-, g, -, -, hg, -⟩ := C14X_same_generation { clusterEvery := ce } rfl _ (invX_reach _ iter0 steps)
  rw [hg]; rfl

/-! ### the extended model restricted to the steps of `Model.Cadence` IS `Model.Cadence` -/

def Sim (x : St) (s : Model.Cadence.St) : Prop :=
  x.iter = s.iter ∧ x.flag = s.flag ∧ x.gen.isSome = s.clFitted ∧ x.trace.map eraseEv = s.trace ∧ x.verdict = s.verdict

theorem sim_emitFit (x : St) (s : Model.Cadence.St) (h : Sim x s) (f : Bool) :
    Sim { emitFit x with flag := f } { Model.Cadence.emitFit s with flag := f } := by
  obtain ⟨h1, _, _, h4, h5⟩ := h
  exact ⟨h1, rfl, rfl, by simp [emitFit, Model.Cadence.emitFit, h4, eraseEv], h5⟩

theorem sim_emitPredict (x : St) (s : Model.Cadence.St) (h : Sim x s) :
    Sim (emitPredict x) (Model.Cadence.emitPredict s) := by
  obtain ⟨h1, h2, h3, h4, h5⟩ := h
  unfold emitPredict Model.Cadence.emitPredict
  cases hg : x.gen with
  | none =>
    have : s.clFitted = false := by rw [← h3, hg]; rfl
    simp only [this, Bool.false_eq_true, if_false]
    exact ⟨h1, h2, by simp, by simp [h4, eraseEv], rfl⟩
  | some g =>
    have : s.clFitted = true := by rw [← h3, hg]; rfl
    simp only [this, if_true]
    exact ⟨h1, h2, by simp, by simp [h4, eraseEv], h5⟩

/-- the two models branch on the same tests: related states stay related through an `if` -/
theorem sim_ite {p : Prop} [Decidable p] {x x' : St} {s s' : Model.Cadence.St} (h : Sim x s) (h' : Sim x' s') :
    Sim (if p then x else x') (if p then s else s') := by
  split <;> assumption

theorem sim_trainer (ce : Nat) (cl warm : Bool) (x : St) (s : Model.Cadence.St) (h : Sim x s) :
    Sim (trainer ⟨ce, cl⟩ warm x) (Model.Cadence.trainer ⟨ce, cl, true⟩ warm s) := by
  have hon : onCadence ⟨ce, cl⟩ x = Model.Cadence.onCadence ⟨ce, cl, true⟩ s := by
    unfold onCadence Model.Cadence.onCadence; rw [h.1]
  unfold trainer Model.Cadence.trainer Model.Cadence.fitCond
  rw [hon, h.2.1]
  simp only [Bool.true_and]
  exact sim_ite h (sim_ite (sim_emitPredict _ _ (sim_emitFit x s h true)) (sim_ite (sim_emitPredict _ _ h) h))

theorem sim_resampler (c : Cfg) (c' : Model.Cadence.Cfg) (hc : c.clustering = c'.clustering) (warm : Bool) (x : St)
    (s : Model.Cadence.St) (h : Sim x s) : Sim (resampler c warm x) (Model.Cadence.resampler c' warm s) := by
  unfold resampler Model.Cadence.resampler
  rw [h.2.2.2.2, hc]
  exact sim_ite h (sim_ite h (sim_ite (sim_emitPredict _ _ h) h))

theorem sim_step (ce : Nat) (clustering : Bool) (x : St) (s : Model.Cadence.St) (h : Sim x s) (st : Model.Cadence.Step) :
    Sim (step { clusterEvery := ce, clustering := clustering } x (embed st))
      (Model.Cadence.step { clusterEvery := ce, clustering := clustering, useFlag := true } s st) := by
  unfold step Model.Cadence.step
  rw [h.2.2.2.2]
  cases st with
  | resume =>
    simp only [embed]
    split_ifs
    · exact h
    · exact ⟨h.1, rfl, rfl, by simp [h.2.2.2.1, eraseEv], rfl⟩
  | iter warm =>
    simp only [embed]
    split_ifs
    · exact h
    · exact sim_resampler _ _ rfl warm _ _ (sim_trainer ce clustering warm _ _
        ⟨congrArg (· + 1) h.1, h.2.1, h.2.2.1, h.2.2.2.1, h.2.2.2.2⟩)

/-- **the extended model restricted to complete iterations and fresh-object resumes is `Model.Cadence`** (as it is since
    e0e98d6): same events, verdict, `iter`, flag, fitted status — so `Props.C14.C14_cadence`, `C14_same_fit_generation_run` and
    `Props.C08.C08_components_irrelevant` speak about the runs of this model as well -/
theorem C14X_refines (ce : Nat) (clustering : Bool) (iter0 : Nat) (steps : List Model.Cadence.Step) :
    Sim (run { clusterEvery := ce, clustering := clustering } iter0 (steps.map embed))
      (Model.Cadence.run { clusterEvery := ce, clustering := clustering, useFlag := true } iter0 steps) := by
  have h0 : Sim (init iter0) (Model.Cadence.init iter0) := ⟨rfl, rfl, rfl, rfl, rfl⟩
  unfold run Model.Cadence.run
  generalize init iter0 = x at h0 ⊢
  generalize Model.Cadence.init iter0 = s at h0 ⊢
  induction steps generalizing x s with
  | nil => exact h0
  | cons st sts ih => exact ih _ _ (sim_step ce clustering x s h0 st)

/-! ### the invariant of `Model.Cadence`, through the simulation -/

def Inv (s : Model.Cadence.St) : Prop :=
  s.verdict = .ok ∧ (s.flag = true → s.clFitted = true) ∧ Model.Cadence.scan s.trace = some s.clFitted

/-- reading a trace of `Model.CadenceX` with the generations erased: whatever the generation-aware reader accepts, the
    plain reader accepts, with the same "current object is fitted" -/
theorem scan_erase (t : List Ev) (ax : Option (Option Nat × Nat)) (a : Option Bool)
    (h : ∀ g n, ax = some (g, n) → a = some g.isSome) (g : Option Nat) (n : Nat)
    (ht : t.foldl scanStep ax = some (g, n)) :
    (t.map eraseEv).foldl Model.Cadence.scanStep a = some g.isSome := by
  induction t generalizing ax a with
  | nil => exact h g n ht
  | cons e t ih =>
    refine ih _ _ (fun g' n' he => ?_) ht
    obtain _ | ⟨cur, m⟩ := ax
    · cases he
    · obtain rfl := h cur m rfl
      cases e with
      | fresh => cases he; rfl
      | fit k =>
        rw [scanStep] at he
        split at he
        · cases he; rfl
        · cases he
      | predict k =>
        rw [scanStep] at he
        split at he
        · rename_i hk
          cases he
          obtain ⟨hk1, hk2⟩ := Bool.and_eq_true_iff.1 hk
          have : g'.isSome = true := beq_iff_eq.1 hk2 ▸ hk1
          rw [this]; rfl
        · cases he

theorem inv_of_sim {x : St} {s : Model.Cadence.St} (h : Sim x s) (hx : InvX x) : Inv s := by
  obtain ⟨-, h2, h3, h4, h5⟩ := h
  refine ⟨h5 ▸ hx.1, fun hf => h3 ▸ hx.2.1 (h2 ▸ hf), ?_⟩
  rw [← h4, ← h3]
  exact scan_erase _ _ _ (by rintro _ _ ⟨⟩; rfl) _ _ hx.2.2

/-! ### the paths `Model.Cadence` does not have, concretely (non-vacuity) -/

/-- F24 then a second `run()`: the iteration that raised inside `Trainer.run` had fitted the clusterer (generation 1) and set the
    flag; `cluster_every = 3`, the retry at `iter = 3` is on the cadence and refits (generation 2); the next one reuses it -/
theorem C14X_crash_rerun :
    (run { clusterEvery := 3 } 0 [.iter true, .crashTrained, .iter false, .iter false]).trace
      = [.fresh, .fit 1, .predict (some 1), .fit 2, .predict (some 2), .predict (some 2), .predict (some 2), .predict (some 2)] ∧
    (run { clusterEvery := 3 } 0 [.iter true, .crashTrained, .iter false, .iter false]).verdict = .ok := by decide

/-- `load_state` into a USED Sampler (`cluster_every = 5`): the object keeps fit 1 made at `iter = 2`; after the load (`iter = 7`)
    the iterations 8, 9 reuse it and iteration 10 refits — labels and assignments always come from one fit -/
theorem C14X_load_keeps_fit :
    (run { clusterEvery := 5 } 0 [.iter true, .iter false, .load 7, .iter false, .iter false, .iter false]).trace
      = [.fresh, .fit 1, .predict (some 1), .predict (some 1), .predict (some 1), .predict (some 1),
         .predict (some 1), .predict (some 1), .fit 2, .predict (some 2), .predict (some 2)] := by decide

/-- a fresh Sampler restored from that checkpoint instead refits at once (fresh Trainer: flag unset) -/
example : (run { clusterEvery := 5 } 0 [.iter true, .iter false, .fresh (some 7), .iter false, .iter false]).trace
    = [.fresh, .fit 1, .predict (some 1), .predict (some 1), .fresh, .fit 2, .predict (some 2), .predict (some 2),
       .predict (some 2), .predict (some 2)] := by decide

/-- the trace reading rejects a predict served by a fit of a PREVIOUS object, and a predict on an unfitted object -/
example : coherentTrace [.fresh, .fit 1, .predict (some 1), .fresh, .predict (some 1)] = false ∧
    coherentTrace [.fresh, .predict none] = false ∧
    coherentTrace [.fresh, .fit 1, .predict (some 1), .fit 2, .predict (some 1)] = false ∧
    coherentTrace [.fresh, .fit 1, .predict (some 1), .fit 2, .predict (some 2)] = true := by decide

/-- without the `not self._clusterer_fitted` disjunct (before e0e98d6) the manual resume path fails: `Model.Cadence` with
    `useFlag := false`, `cluster_every = 2`, a fresh Sampler restored at `iter = 2` -/
example : (Model.Cadence.run { clusterEvery := 2, useFlag := false } 0
    (Model.Cadence.withResume [true, false, false, false] (some 2))).verdict = .predictBeforeFit := by decide

end Props.C14
