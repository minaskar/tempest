import TempestVerif.Props.C19Twin
import TempestVerif.Model.StudentModes
import TempestVerif.Lemmas.StudentModes
/-
  C19 — from the weighted particles to the degrees of freedom the kernel reads
  (`Model/StudentModes.lean`: `ModeStatistics.from_global / from_particles`, the four paths of `Trainer.run`, the hand-off
  to `TPCNRunner`), tied to the real code by suites `modes-F`, `trainer-dof-paths`, `kernel-handoff`, `dof-fallback`.

  "Non-finite degrees of freedom are replaced by the configured fallback before they reach the kernel" holds on EVERY path,
  for every scalar type and every fit function.  The WHOLE construction (resampling included) is equivariant under coordinate
  permutation × per-coordinate scaling × translation of the particles: the resampling probabilities and the drawn indices do
  not depend on the positions, the gather commutes with a row-wise map, and the fit is equivariant — for any scalar type given
  an equivariant fit, and for the executable model at `ℝ` (the fit being `fitF` with the modelled `opt_nu` and median).
-/
namespace Props.C19
open Model.Student Model.StudentModes Lemmas.StudentModes

/-! ### the fallback, on every path (any scalar type, any fit) -/

section Generic
variable {α : Type} [Sc α]

omit [Sc α] in
theorem applyFallback_isFinite (fb : α) (t : Dof α) : (applyFallback fb t).isFinite = true := by
  cases t <;> rfl

/-- what one resample–fit–fallback step stores is the fit's answer with `applyFallback fb` applied to its dof -/
theorem C19_fitOne_dof (fitFn : Mat α → Option (FitOut α)) (fb : α) (rf : ℕ) (uc : Mat α) (p us : List α)
    (o : FitOut α) (us' : List α) (h : fitOne fitFn fb rf uc p us = some (o, us')) :
    ∃ rows o0, fitFn rows = some o0 ∧ o = ⟨o0.mu, o0.sigma, applyFallback fb o0.dof⟩ ∧ o.dof.isFinite = true := by
  obtain ⟨rows, o0, -, h3, rfl⟩ := fitOne_rows fitFn fb rf uc p us o us' h
  exact ⟨rows, o0, h3, rfl, applyFallback_isFinite fb o0.dof⟩

/-- **every path of `Trainer.run`.**  Whatever branch is taken (beta = 0 dummy, fit + predict, predict only, no clustering),
    whatever the fits return (finite, `inf`, NaN), every degrees-of-freedom entry of the `ModeStatistics` produced is finite:
    it is the configured `Trainer.DOF_FALLBACK` itself (dummy path) or `applyFallback DOF_FALLBACK` of what a fit returned -/
theorem C19_trainer_dofs (path : Path) (fitFns : List (Mat α → Option (FitOut α))) (d : ℕ) (u : Mat α) (w : List α)
    (labels : List ℕ) (cfgFb : α) (us : List α) (ms : MS α)
    (h : trainerRun path fitFns d u w labels cfgFb us = .ok ms) :
    ∀ t ∈ ms.dofs, t.isFinite = true ∧
      (t = .fin cfgFb ∨ ∃ fitFn ∈ fitFns, ∃ rows o0, fitFn rows = some o0 ∧ t = applyFallback cfgFb o0.dof) := by
  obtain ⟨os, hP, -, -, hd⟩ := trainerRun_each (fun o => o.dof.isFinite = true ∧
      (o.dof = .fin cfgFb ∨ ∃ fitFn ∈ fitFns, ∃ rows o0, fitFn rows = some o0 ∧ o.dof = applyFallback cfgFb o0.dof))
    path fitFns d u w labels cfgFb us ms ⟨rfl, Or.inl rfl⟩
    (fun f hf rows o0 _ h0 => ⟨applyFallback_isFinite _ _, Or.inr ⟨f, hf, rows, o0, h0, rfl⟩⟩) h
  intro t ht
  obtain ⟨o, ho, rfl⟩ := List.mem_map.1 (hd ▸ ht)
  exact hP o ho

/-- **before they reach the kernel**: whatever mode index the tpCN runner reads `degrees_of_freedom` with, the value is finite -/
theorem C19_kernel_dof_finite (path : Path) (fitFns : List (Mat α → Option (FitOut α))) (d : ℕ) (u : Mat α) (w : List α)
    (labels : List ℕ) (cfgFb : α) (us : List α) (ms : MS α)
    (h : trainerRun path fitFns d u w labels cfgFb us = .ok ms) (i : ℕ) (t : Dof α) (ht : kernelDof ms i = some t) :
    t.isFinite = true :=
  (C19_trainer_dofs path fitFns d u w labels cfgFb us ms h t (List.mem_of_getElem? ht)).1

/-- the branch of `Trainer.run` is a function of four booleans; the `ModeStatistics.from_global` branch is taken exactly
    when clustering is off and beta ≠ 0 -/
theorem trainerPath_global_iff (bz cl oc ft : Bool) : trainerPath bz cl oc ft = .global ↔ (bz = false ∧ cl = false) := by
  cases bz <;> cases cl <;> cases oc <;> cases ft <;> simp [trainerPath]

theorem trainerPath_dummy_iff (bz cl oc ft : Bool) : trainerPath bz cl oc ft = .dummy ↔ bz = true := by
  cases bz <;> cases cl <;> cases oc <;> cases ft <;> simp [trainerPath]

end Generic

/-! ### equivariance of the whole construction, given an equivariant fit (any scalar type) -/

section Equivariance
variable {α : Type} [Sc α]

def mapOut (T : List α → List α) (TS : Mat α → Mat α) (o : FitOut α) : FitOut α := ⟨T o.mu, TS o.sigma, o.dof⟩

def mapBuilt (T : List α → List α) (TS : Mat α → Mat α) : Built α → Built α
  | .ok ms => .ok ⟨ms.means.map T, ms.covs.map TS, ms.dofs, ms.labels⟩
  | .valueError => .valueError
  | .raised => .raised

def FitEquivariantOn (fitFn : Mat α → Option (FitOut α)) (T : List α → List α) (TS : Mat α → Mat α) (u : Mat α) : Prop :=
  ∀ rows : Mat α, (∀ r ∈ rows, r ∈ u) → fitFn (rows.map T) = (fitFn rows).map (mapOut T TS)

open Lemmas.OptionList (bind_map_comm) in
theorem fitOne_equivariant (fitFn : Mat α → Option (FitOut α)) (T : List α → List α) (TS : Mat α → Mat α) (fb : α)
    (rf : ℕ) (uc : Mat α) (p us : List α) (hfit : FitEquivariantOn fitFn T TS uc) :
    fitOne fitFn fb rf (uc.map T) p us =
      (fitOne fitFn fb rf uc p us).map fun ou => (mapOut T TS ou.1, ou.2) := by
  unfold fitOne
  rw [List.length_map]
  -- the same indices are drawn; the gathered rows, then the fit's answer, are the images
  exact bind_map_comm Option.map_id'.symm fun idx _ => bind_map_comm (gather_map T uc idx) fun ur h2 =>
    bind_map_comm (hfit ur (gather_mem uc idx ur h2)) fun _ _ => rfl

/-- **`from_global` commutes with every row-wise transformation of the particles under which the fit is equivariant**: the
    probabilities, the uniforms consumed and the indices drawn do not depend on the positions; same dof, same labels -/
theorem C19_fromGlobal_equivariant_generic (fitFn : Mat α → Option (FitOut α)) (T : List α → List α) (TS : Mat α → Mat α)
    (u : Mat α) (w : List α) (fb : α) (rf : ℕ) (us : List α) (hfit : FitEquivariantOn fitFn T TS u) :
    fromGlobal fitFn (u.map T) w fb rf us = mapBuilt T TS (fromGlobal fitFn u w fb rf us) := by
  unfold fromGlobal
  simp only [List.length_map]
  split_ifs
  · rfl
  · rw [fitOne_equivariant fitFn T TS fb rf u _ us hfit]
    cases fitOne fitFn fb rf u (normalise w) us with
    | none => rfl
    | some ou => rfl

open Lemmas.OptionList (bind_map_comm) in
theorem clusterLoop_equivariant (T : List α → List α) (TS : Mat α → Mat α) (u : Mat α) (wn : List α) (labels : List ℕ)
    (fb : α) (rf : ℕ) :
    ∀ (labs : List ℕ) (fits : List (Mat α → Option (FitOut α))) (us : List α),
      (∀ f ∈ fits, FitEquivariantOn f T TS u) →
      clusterLoop (u.map T) wn labels fb rf labs fits us =
        (clusterLoop u wn labels fb rf labs fits us).map (List.map (mapOut T TS)) := by
  intro labs
  induction labs with
  | nil => intro fits us _; rfl
  | cons lab rest ih =>
    intro fits us hf
    cases fits with
    | nil => rfl
    | cons fitFn fits =>
      unfold clusterLoop
      -- stage by stage: the cluster's rows are the images, its weights the same, its fit and the later clusters the images
      exact bind_map_comm (gather_map T u _) fun uc h1 => bind_map_comm Option.map_id'.symm fun wc _ =>
        bind_map_comm (fitOne_equivariant fitFn T TS fb rf uc _ us fun rows hrows =>
            hf fitFn List.mem_cons_self rows fun r hr => gather_mem u _ uc h1 r (hrows r hr)) fun ou _ =>
          bind_map_comm (ih fits ou.2 fun f hf' => hf f (List.mem_cons_of_mem _ hf')) fun _ _ => rfl

/-- **`from_particles` commutes with the same transformations**: same clusters (the labels are not touched), same
    resampling, every mode transformed, same degrees of freedom and stored labels -/
theorem C19_fromParticles_equivariant_generic (fitFns : List (Mat α → Option (FitOut α))) (T : List α → List α)
    (TS : Mat α → Mat α) (u : Mat α) (w : List α) (labels : List ℕ) (fb : α) (rf : ℕ) (us : List α)
    (hfit : ∀ f ∈ fitFns, FitEquivariantOn f T TS u) :
    fromParticles fitFns (u.map T) w labels fb rf us = mapBuilt T TS (fromParticles fitFns u w labels fb rf us) := by
  unfold fromParticles
  simp only [List.length_map]
  split_ifs
  · rfl
  · rw [clusterLoop_equivariant T TS u _ labels fb rf _ fitFns us hfit]
    cases clusterLoop u (normalise w) labels fb rf (Model.Modes.uniqueSorted labels) fitFns us with
    | none => rfl
    | some os =>
      simp only [Option.map_some, mapBuilt, List.map_map]
      congr 1

end Equivariance

/-! ### … and the fit IS equivariant: the executable construction at `ℝ` with `fitF` inside -/

section Real
open Matrix
variable {d : ℕ}

/-- `fit_mvstud(rows)` the way `modes.py` calls it (default tolerance and iteration limit), with the modelled `opt_nu`
    and median; `none` = it raised (fewer than two rows, ragged rows) -/
noncomputable def fitRowsF (psi : ℝ → ℝ) (d : ℕ) (rows : Mat ℝ) : Option (FitOut ℝ) := do
  let X ← columnsOf d rows
  let r ← (fitF psi defaultTol defaultMaxIter rows.length X).join
  outOf r

def rowsOf {m : ℕ} (y : Fin m → Fin d → ℝ) : Mat ℝ := List.ofFn fun i => vecOf (y i)

/-- reading a list as a vector / a list of lists as a matrix (only ever applied to lists of the right shape) -/
noncomputable def vecFn (d : ℕ) (r : List ℝ) : Fin d → ℝ := fun a => r.getD a.val 0
noncomputable def matFn (d : ℕ) (M : Mat ℝ) : Matrix (Fin d) (Fin d) ℝ := of fun a c => (M.getD a.val []).getD c.val 0

noncomputable def rowT (A : Matrix (Fin d) (Fin d) ℝ) (b : Fin d → ℝ) (r : List ℝ) : List ℝ := vecOf (A *ᵥ vecFn d r + b)
noncomputable def sigT (A : Matrix (Fin d) (Fin d) ℝ) (M : Mat ℝ) : Mat ℝ := matOf (A * matFn d M * Aᵀ)

@[simp] theorem vecFn_vecOf (v : Fin d → ℝ) : vecFn d (vecOf v) = v := by
  funext a; simp [vecFn, vecOf, List.getD_eq_getElem?_getD]

@[simp] theorem matFn_matOf (M : Matrix (Fin d) (Fin d) ℝ) : matFn d (matOf M) = M := by
  ext a c; simp [matFn, matOf, List.getD_eq_getElem?_getD]

@[simp] theorem rowT_vecOf (A : Matrix (Fin d) (Fin d) ℝ) (b v : Fin d → ℝ) : rowT A b (vecOf v) = vecOf (A *ᵥ v + b) := by
  simp [rowT]

@[simp] theorem sigT_matOf (A M : Matrix (Fin d) (Fin d) ℝ) : sigT A (matOf M) = matOf (A * M * Aᵀ) := by
  simp [sigT]

theorem rowsOf_aff {m : ℕ} (A : Matrix (Fin d) (Fin d) ℝ) (b : Fin d → ℝ) (y : Fin m → Fin d → ℝ) :
    rowsOf (aff A b y) = (rowsOf y).map (rowT A b) := by
  unfold rowsOf
  rw [List.map_ofFn]
  congr 1
  funext i
  simp [aff]

theorem columnsOf_rowsOf {m : ℕ} (y : Fin m → Fin d → ℝ) : columnsOf d (rowsOf y) = some (colsOf y) := by
  have hr : List.range d = List.ofFn fun a : Fin d => a.val := by simp [List.ofFn_eq_map]
  rw [columnsOf, hr]
  refine Lemmas.OptionList.mapM_ofFn_some _ _ _ fun a => Lemmas.OptionList.mapM_ofFn_some _ _ _ fun i => ?_
  rw [vecOf, List.getElem?_ofFn, dif_pos a.isLt]

theorem rowsOf_length {m : ℕ} (y : Fin m → Fin d → ℝ) : (rowsOf y).length = m := by simp [rowsOf]

/-- the degrees of freedom as `fit_mvstud` hands them back -/
def dofOf : Option ℝ → Dof ℝ
  | none => .inf
  | some x => .fin x

theorem fitRowsF_rowsOf (psi : ℝ → ℝ) {m : ℕ} (y : Fin m → Fin d → ℝ) (hm : 2 ≤ m) :
    fitRowsF psi d (rowsOf y) =
      some ⟨vecOf (fit (optNuR psi d m) medR defaultTol defaultMaxIter y).1.mu,
            matOf (fit (optNuR psi d m) medR defaultTol defaultMaxIter y).1.sigma,
            dofOf (fit (optNuR psi d m) medR defaultTol defaultMaxIter y).2⟩ := by
  obtain ⟨r, hr, h1, h2⟩ := C19_twin_fit psi defaultTol defaultMaxIter y hm
  unfold fitRowsF
  rw [columnsOf_rowsOf, rowsOf_length]
  simp only [Option.bind_eq_bind, Option.bind_some, hr, Option.join]
  show outOf r = _
  unfold outOf
  rw [h1, List.getLast?_map]
  have hne := loop_ne_nil (optNuR psi d m) defaultTol y defaultMaxIter (init medR y) 20 0
  have hlast : (fitTrace (optNuR psi d m) medR defaultTol defaultMaxIter y).1.getLast? =
      some (fit (optNuR psi d m) medR defaultTol defaultMaxIter y).1 := by
    unfold fit fitTrace
    rw [List.getLast?_eq_some_getLast hne]
  rw [hlast]
  simp only [Option.map_some, toL]
  rw [h2]
  unfold fit
  cases (fitTrace (optNuR psi d m) medR defaultTol defaultMaxIter y).2 <;> rfl

/-- with fewer than two particles the model's `fit_mvstud` raises (`np.cov` of a single row) — on both sides of a map -/
theorem fitRowsF_small (psi : ℝ → ℝ) {m : ℕ} (y : Fin m → Fin d → ℝ) (hm : m < 2) : fitRowsF psi d (rowsOf y) = none := by
  unfold fitRowsF
  rw [columnsOf_rowsOf, rowsOf_length]
  simp only [Option.bind_eq_bind, Option.bind_some]
  have : fitF psi defaultTol defaultMaxIter m (colsOf y) = none := by
    unfold fitF fitWith Model.Student.init
    simp [hm]
  rw [this]
  rfl

theorem rows_of_mem_rowsOf {N : ℕ} (U : Fin N → Fin d → ℝ) (rows : Mat ℝ) (h : ∀ r ∈ rows, r ∈ rowsOf U) :
    ∃ y : Fin rows.length → Fin d → ℝ, rows = rowsOf y := by
  refine ⟨fun i => vecFn d (rows[i]), ?_⟩
  unfold rowsOf
  apply List.ext_getElem
  · simp
  · intro i h1 h2
    simp only [List.getElem_ofFn]
    have := h rows[i] (List.getElem_mem h1)
    unfold rowsOf at this
    rw [List.mem_ofFn] at this
    obtain ⟨j, hj⟩ := this
    show rows[i] = vecOf (vecFn d rows[i])
    rw [← hj, vecFn_vecOf]

/-- **the model's fit is equivariant on every resample of the particles** under coordinate permutation × non-zero
    per-coordinate scaling × translation -/
theorem fitRowsF_equivariantOn (psi : ℝ → ℝ) {N : ℕ} (U : Fin N → Fin d → ℝ) (σ : Equiv.Perm (Fin d)) (s b : Fin d → ℝ)
    (hs : ∀ a, s a ≠ 0) :
    FitEquivariantOn (fitRowsF psi d) (rowT (mono σ s) b) (sigT (mono σ s)) (rowsOf U) := by
  intro rows hrows
  obtain ⟨y, hy⟩ := rows_of_mem_rowsOf U rows hrows
  rw [hy, ← rowsOf_aff]
  by_cases hm : 2 ≤ rows.length
  · rw [fitRowsF_rowsOf psi _ hm, fitRowsF_rowsOf psi _ hm]
    have he := (C19_equivariant_modelled psi defaultTol defaultMaxIter y hm σ s b hs).2
    rw [he]
    simp [mapOut, St.map]
  · rw [fitRowsF_small psi _ (by omega), fitRowsF_small psi _ (by omega)]
    rfl

/-- **equivariance of the whole `ModeStatistics.from_global` construction** (executable model at `ℝ`: normalisation of the
    weights, legacy `np.random.choice` on the uniform stream, gather, `fit_mvstud` with modelled `opt_nu`/median, fallback):
    transforming the particles as `u ↦ A u + b` with `A` a coordinate permutation times non-zero per-coordinate scalings
    transforms the mode as `(A μ + b, A Σ Aᵀ)` (`rowT_vecOf`, `sigT_matOf`) and leaves the degrees of freedom — after the
    fallback — unchanged.  Every weight vector, fallback, resample factor and stream of uniforms. -/
theorem C19_fromGlobal_equivariant (psi : ℝ → ℝ) {N : ℕ} (U : Fin N → Fin d → ℝ) (w : List ℝ) (fb : ℝ) (rf : ℕ) (us : List ℝ)
    (σ : Equiv.Perm (Fin d)) (s b : Fin d → ℝ) (hs : ∀ a, s a ≠ 0) :
    fromGlobal (fitRowsF psi d) (rowsOf (aff (mono σ s) b U)) w fb rf us =
      mapBuilt (rowT (mono σ s) b) (sigT (mono σ s)) (fromGlobal (fitRowsF psi d) (rowsOf U) w fb rf us) := by
  rw [rowsOf_aff]
  exact C19_fromGlobal_equivariant_generic _ _ _ _ w fb rf us (fitRowsF_equivariantOn psi U σ s b hs)

/-- **… and of `ModeStatistics.from_particles`**: any labels, any number of clusters -/
theorem C19_fromParticles_equivariant (psi : ℝ → ℝ) {N : ℕ} (U : Fin N → Fin d → ℝ) (w : List ℝ) (labels : List ℕ)
    (fb : ℝ) (rf : ℕ) (us : List ℝ) (K : ℕ) (σ : Equiv.Perm (Fin d)) (s b : Fin d → ℝ) (hs : ∀ a, s a ≠ 0) :
    fromParticles (List.replicate K (fitRowsF psi d)) (rowsOf (aff (mono σ s) b U)) w labels fb rf us =
      mapBuilt (rowT (mono σ s) b) (sigT (mono σ s))
        (fromParticles (List.replicate K (fitRowsF psi d)) (rowsOf U) w labels fb rf us) := by
  rw [rowsOf_aff]
  refine C19_fromParticles_equivariant_generic _ _ _ _ w labels fb rf us ?_
  intro f hf
  rw [List.eq_of_mem_replicate hf]
  exact fitRowsF_equivariantOn psi U σ s b hs

end Real

/-- the fallback on the three kinds of answer (NaN, `inf`, a finite value) -/
example : applyFallback (7.5 : ℝ) (.nan) = .fin 7.5 ∧ applyFallback (7.5 : ℝ) .inf = .fin 7.5 ∧
    applyFallback (7.5 : ℝ) (.fin 3.5) = .fin 3.5 := by simp [applyFallback, Dof.isFinite]

/-- the whole `from_global` construction under a coordinate swap with scalings `2`, `-3` and a shift: 7 particles in the plane -/
example (psi : ℝ → ℝ) (U : Fin 7 → Fin 2 → ℝ) (w us : List ℝ) (b : Fin 2 → ℝ) :
    fromGlobal (fitRowsF psi 2) (rowsOf (aff (mono (Equiv.swap 0 1) ![2, -3]) b U)) w 1000000 4 us =
      mapBuilt (rowT (mono (Equiv.swap 0 1) ![2, -3]) b) (sigT (mono (Equiv.swap 0 1) ![2, -3]))
        (fromGlobal (fitRowsF psi 2) (rowsOf U) w 1000000 4 us) :=
  C19_fromGlobal_equivariant psi U w 1000000 4 us _ _ b (fun a => by fin_cases a; exacts [two_ne_zero, neg_ne_zero.mpr three_ne_zero])

example : trainerRun (α := ℝ) .dummy [] 2 [] [] [] 7.5 [] =
    .ok ⟨[[0, 0]], [[[1, 0], [0, 1]]], [.fin 7.5], none⟩ := by
  simp [trainerRun, identRow, List.range, List.range.loop]

end Props.C19
