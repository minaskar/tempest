import TempestVerif.Model.PipelineX
import TempestVerif.Lemmas.ScReal
import TempestVerif.Lemmas.PipelineEx
import TempestVerif.Lemmas.PipelineX
import TempestVerif.Props.C03
import TempestVerif.Props.C04
import TempestVerif.Props.C05
import TempestVerif.Lemmas.Posterior
import TempestVerif.Lemmas.Trim
import Mathlib.Analysis.SpecialFunctions.Log.Deriv
import Mathlib.Analysis.Complex.ExponentialBounds
/-
  C01 on the EXTENDED whole-run model `Model.PipelineX` (clustering, both reweighting modes, the whole mutation loop with
  per-cluster step-size adaptation and stopping rule, the loop guard, the epilogue, `posterior()`).  Every statement about
  one iteration follows from `iterateX_some`; a run is the relation `Lemmas.Steps` of its iteration (`Lemmas/PipelineX.lean`).
  One section is about `Model.Pipeline`: its warm-up with redraw (`iterateR`, `warmupR`).
-/
namespace Props.C01
open Model.PipelineX Model.Weights Model.Reweight Model.Kernel Lemmas.PipelineX
open Model.Pipeline hiding batches

/-! ### structure of one iteration -/

/-- `iterateX` appends exactly one batch — the current particles with the (β, logz) it reports (any scalar type) -/
theorem C01_X_commit_appends_one {α : Type} [ScT α] (cfg : XCfg α) (s : XState α) (t : XTape α) (s1 : XState α)
    (o : XOut α) (h : iterateX cfg s t = some (s1, o)) :
    s1.hist = s.hist ++ [⟨⟨o.beta, o.logz, s1.curL⟩, s1.curU⟩] ∧ s1.beta = o.beta ∧ s1.logz = o.logz := by
  obtain ⟨-, ⟨-, us, l, -, -, -, rfl, rfl⟩ | ⟨-, idx, us, l, m, -, -, -, -, -, rfl, rfl⟩⟩ :=
    iterateX_some cfg s t s1 o _ rfl _ rfl h
  · exact ⟨rfl, rfl, rfl⟩
  · exact ⟨rfl, rfl, rfl⟩

theorem oracleMX_fst (vv : Bool) (h : List (Batch ℝ)) (tbl : List (ℝ × ℝ)) (β : ℝ) :
    (oracleMX vv h tbl β).1 = (oracleM h β).1 ∧ (oracleMX vv h tbl β).2.1 = (oracleM h β).2.1 := ⟨rfl, rfl⟩

/-- the resampling call of `iterateX`, given the weight vector -/
noncomputable def resampledX (cfg : XCfg ℝ) (t : XTape ℝ) (w : List ℝ) : Option (List Nat) :=
  if cfg.syst then (match t.resU with | [u0] => Model.Resample.systematic cfg.rw.nPart w u0 | _ => none)
  else Model.Resample.multinomial w t.resU

/-- BOTH reweighting modes.  On a non-empty history everything an iteration does refers to the SAME β (the one it reports):
    the recorded ESS and evidence are the pool's oracles at that β; in an annealing iteration the resampler receives the normalised pool weights at that β, the WHOLE
    mutation loop (all steps, all walkers, all modes) runs at that β on the gathered records starting from the initial step
    sizes, and the batch is committed with `(β, Z(β))`. -/
theorem C01_X_same_temperature (cfg : XCfg ℝ) (s : XState ℝ) (t : XTape ℝ) (s1 : XState ℝ) (o : XOut ℝ)
    (hne : s.hist ≠ []) (h : iterateX cfg s t = some (s1, o)) :
    o.ess = (oracleM (Model.PipelineX.batches s.hist) o.beta).2.1 ∧
    o.logzRw = oracleZ (Model.PipelineX.batches s.hist) o.beta ∧
    (o.beta ≠ 0 →
      resampledX cfg t (Model.Ess.normalise (oracleM (Model.PipelineX.batches s.hist) o.beta).1) = some o.idx ∧
      ∃ us l m, Model.Records.gather? (poolU s.hist) o.idx = some us ∧
        Model.Records.gather? (flatLogl (Model.PipelineX.batches s.hist)) o.idx = some l ∧
        mcmcX cfg o.beta t.modes t.assign 0 (initSigmas cfg.kind t.modes.length cfg.d) us l t.steps = some m ∧
        s1.curU = m.us ∧ s1.curL = m.ls ∧ o.masks = m.masks ∧ o.nsteps = m.nsteps ∧ o.sigmas = m.sigmas ∧
        o.logz = oracleZ (Model.PipelineX.batches s.hist) o.beta) := by
  obtain ⟨c1, c2, c3, -⟩ := Props.C05.C05_same_temperature cfg.rw
    (oracleMX cfg.rw.vv.isSome (batches s.hist) t.metric)
    (oracleZ (batches s.hist)) isFin s.beta
  rw [← rwX_of_ne cfg s t hne] at c1 c2 c3
  obtain ⟨-, ⟨hb, us, l, -, -, -, rfl, rfl⟩ | ⟨-, idx, us, l, m, hidx, hus, hl, hm, -, rfl, rfl⟩⟩ :=
    iterateX_some cfg s t s1 o _ rfl _ rfl h
  · have hb0 := (Model.Reweight.eqv_real _ _).mp hb
    rw [ScReal.zero_def] at hb0
    exact ⟨c2, c3, fun hn0 => (hn0 hb0).elim⟩
  · rw [c1] at hidx
    refine ⟨c2, c3, fun _ => ⟨?_, us, l, m, hus, hl, hm, rfl, rfl, rfl, rfl, rfl, c3⟩⟩
    unfold resampledX
    -- the `match` on `t.resU` in `resampledX` and the one in `iterateX` are different auxiliary functions: split the cases
    rcases hu : t.resU with _ | ⟨u0, _ | ⟨u1, us'⟩⟩ <;>
      rw [hu] at hidx <;>
      exact hidx

/-- every β at which the reweighter consulted the metric had its value on the tape (dynamic mode) -/
theorem C01_X_metric_covered {α : Type} [ScT α] (cfg : XCfg α) (s : XState α) (t : XTape α) (s1 : XState α) (o : XOut α)
    (h : iterateX cfg s t = some (s1, o)) :
    covered cfg.rw.vv.isSome t.metric
      (Model.Reweight.run cfg.rw (Model.PipelineX.batches s.hist).isEmpty
        (oracleMX cfg.rw.vv.isSome (Model.PipelineX.batches s.hist) t.metric)
        (oracleZ (Model.PipelineX.batches s.hist)) isFin s.beta).calls = true :=
  (iterateX_some cfg s t s1 o _ rfl _ rfl h).1

/-! ### the temperature schedule of a whole run, BOTH modes -/

/-- One iteration of the extended pipeline (ESS mode or volume-variation mode): the new β is handed on unchanged, the
    history is non-empty afterwards, the first iteration sets β = 0, every later one moves β inside `[β_prev, 1]`. -/
theorem C01_X_step (cfg : XCfg ℝ) (s : XState ℝ) (t : XTape ℝ) (s1 : XState ℝ) (o : XOut ℝ)
    (h : iterateX cfg s t = some (s1, o)) (hb : s.beta ≤ 1) :
    s1.beta = o.beta ∧ s1.hist ≠ [] ∧ (s.hist = [] → o.beta = 0) ∧
    (s.hist ≠ [] → s.beta ≤ o.beta ∧ o.beta ≤ 1) := by
  obtain ⟨hh, hbeta, -⟩ := C01_X_commit_appends_one cfg s t s1 o h
  obtain ⟨ob, -⟩ := iterateX_out cfg s t s1 o h
  refine ⟨hbeta, by rw [hh]; exact List.append_ne_nil_of_right_ne_nil _ (List.cons_ne_nil _ _), fun he => ?_, fun hne => ?_⟩
  · rw [ob, rwX, batchesX_isEmpty, he, List.isEmpty_nil]
    exact (Props.C05.C05_first_iteration cfg.rw _ _ _ s.beta).1
  · rw [ob, rwX_of_ne cfg s t hne]
    exact Props.C05.C05_run_range cfg.rw _ _ _ s.beta hb

/-- The schedule of a whole run of the extended model from the fresh state, for EVERY tape (every realisation of the
    randomness, of the user's likelihood, of the trainer's output and of the volume metric) and every configuration —
    clustering or not, ESS or volume-variation mode, either kernel, either resampler:  β₀ = 0;  0 ≤ β_k ≤ 1;  β_k ≤ β_{k+1}. -/
theorem C01_X_schedule (cfg : XCfg ℝ) (ts : List (XTape ℝ)) (sf : XState ℝ) (os : List (XOut ℝ))
    (h : runItersX cfg initX ts = some (sf, os)) :
    (∀ o, os[0]? = some o → o.beta = 0) ∧
    (∀ o ∈ os, 0 ≤ o.beta ∧ o.beta ≤ 1) ∧
    (∀ k a b, os[k]? = some a → os[k+1]? = some b → a.beta ≤ b.beta) := by
  have hb0 : (initX : XState ℝ).beta = 0 := ScReal.zero_def
  obtain ⟨a, b, c⟩ := (runItersX_iff_steps.mp h).schedule (R := (· ≤ ·)) le_trans (zero := 0) (one := 1)
    (v := (·.beta)) (fresh := (·.hist = [])) (ob := (·.beta)) (C01_X_step cfg) (hb0.trans_le zero_le_one)
    fun _ => ⟨hb0, le_rfl⟩
  rw [hb0] at b
  exact ⟨a rfl, b, c⟩

/-- **support of the mixture**: the first batch of every run of the extended model has β = 0 and stays the first entry of
    the history — the batch that makes the balance-heuristic denominator positive on the whole prior support
    (`C01_support`, `C01_mis_unbiased_boundary`) -/
theorem C01_X_run_first_batch_beta_zero (cfg : XCfg ℝ) (t : XTape ℝ) (ts : List (XTape ℝ))
    (sf : XState ℝ) (os : List (XOut ℝ)) (h : runItersX cfg initX (t :: ts) = some (sf, os)) :
    ∃ xb rest, sf.hist = xb :: rest ∧ xb.b.beta = 0 := by
  cases runItersX_iff_steps.mp h with
  | cons hi hr =>
    rename_i s1 o os'
    obtain ⟨hh, -, -⟩ := C01_X_commit_appends_one cfg initX t s1 o hi
    have hb := (C01_X_step cfg initX t s1 o hi (ScReal.zero_def.trans_le zero_le_one)).2.2.1 rfl
    -- a commit keeps the head of a non-empty history
    refine hr.inv (I := fun s => ∃ xb rest, s.hist = xb :: rest ∧ xb.b.beta = 0) (fun s t s' o' ⟨xb, rest, e, hx⟩ hi' => ?_)
      ⟨_, [], hh, hb⟩
    exact ⟨xb, _, by rw [(C01_X_commit_appends_one cfg s t s' o' hi').1, e]; rfl, hx⟩

/-! ### one walker of one accept/reject step -/

/-- **the Metropolis rule of the extended model, per walker** (`lp` = the user's log-likelihood at the evaluated point,
    `none` = −∞; `w.lp` is that value when it is finite).
    Accepted ⇒ the log-likelihood is finite, the walker's own-mode step `so` accepted, the uniform is below
    `boundedAlpha inb (acceptProb β l lp factor)` with β the iteration's temperature, the proposal was inside the cube
    (for a non-negative uniform), and the stored record is the evaluated point TOGETHER WITH its log-likelihood.
    Rejected ⇒ position and log-likelihood are unchanged. -/
theorem C01_X_walker_rule (i : RunIn ℝ) (w : Walker ℝ) (lp : Option ℝ) (o : WOut ℝ)
    (hw : ∀ v, lp = some v → w.lp = v) (h : wx i w lp = some o) :
    (o.accept = true → ∃ v so, lp = some v ∧ walkerStep i w = some so ∧ so.accept = true ∧ o.u = so.prop ∧ o.l = v ∧
        w.r < boundedAlpha so.inb (acceptProb i.beta w.l v so.factor) ∧ (0 ≤ w.r → so.inb = true)) ∧
    (o.accept = false → o.u = w.u ∧ o.l = w.l) := by
  obtain ⟨so, hso, rfl⟩ := Option.map_eq_some_iff.mp h
  obtain ⟨m, sg, -, -, hstep⟩ := Props.C03.C03_walker_uses_own_mode i w so hso
  obtain ⟨f1, f2, f3⟩ := step_fields
    ⟨i.kind, w.u, m.mu, m.chol, m.invcov, m.nu, sg, i.beta, w.l, w.lp, w.g, w.r, w.z, i.per, i.refl⟩
  rw [← hstep] at f1 f2 f3
  cases lp with
  | none => exact ⟨fun hacc => Bool.noConfusion hacc, fun _ => ⟨rfl, rfl⟩⟩
  | some v =>
    obtain rfl := hw v rfl
    refine ⟨fun (hacc : so.accept = true) => ?_, fun (hacc : so.accept = false) => ⟨f3.trans (by rw [hacc]; rfl), by
      show (if so.accept = true then _ else _) = _; rw [hacc]; rfl⟩⟩
    have hr : w.r < so.alpha := (ScReal.lt_def _ _).mp (f2.symm.trans hacc)
    refine ⟨_, so, rfl, hso, hacc, f3.trans (if_pos hacc), if_pos hacc, f1 ▸ hr, fun h0 => ?_⟩
    by_contra hinb
    rw [f1, (Bool.not_eq_true _).mp hinb] at hr
    exact absurd (h0.trans_lt hr) (by rw [boundedAlpha_false]; exact lt_irrefl 0)

theorem mkWalkers_lp {α : Type} [ScT α] : ∀ (us : List (List α)) (as : List Nat) (ls : List α) (lps : List (Option α))
    (gs rs : List α) (zs : List (List α)) (ws : List (Walker α × Option α)),
    mkWalkers us as ls lps gs rs zs = some ws → ∀ p ∈ ws, ∀ v, p.2 = some v → p.1.lp = v := by
  intro us as ls lps gs rs zs
  fun_induction mkWalkers us as ls lps gs rs zs with
  | case1 => intro ws h; cases h; exact fun p hp => nomatch hp
  | case2 u us a as l ls lp lps g gs r rs z zs ih =>
    intro ws h
    obtain ⟨rest, hrest, rfl⟩ := Option.map_eq_some_iff.mp h
    intro p hp v hv
    rcases List.mem_cons.mp hp with rfl | hp
    · cases hv; rfl
    · exact ih rest hrest p hp v hv
  | case3 => intro ws h; cases h

/-! ### the step sizes of the whole mutation loop (tpCN) -/

def SigOK (s0 s : ℝ) : Prop := 0 ≤ s ∧ s ≤ min s0 (99 / 100)

theorem initSigmas_ok (K d : Nat) : ∀ s ∈ (initSigmas Kind.tpcn K d : List ℝ), SigOK (sigma0 d) s := by
  intro s hs
  simp only [initSigmas, List.mem_replicate] at hs
  obtain ⟨_, rfl⟩ := hs
  rw [ScReal.min_def, lit_99]
  exact ⟨le_min (sigma0_nonneg d) (by norm_num), le_refl _⟩

/-- **tpCN step sizes over the whole mutation loop**: started with every mode's step size in `[0, min(σ₀, 0.99)]` (as
    `_initialize_sigmas` does), `mcmcX` returns step sizes in that range — in particular `σ < 1`, so `sqrt(1 − σ²)` is a
    positive real and the tpCN proposal is the one whose reversibility `C03_tpcn_reversible_wrt_t` proves (σ = 0:
    `C03_tpcn_sigma_zero`). -/
theorem C01_X_tpcn_sigma_range (c : XCfg ℝ) (hk : c.kind = Kind.tpcn) (beta : ℝ) (modes : List (Mode ℝ))
    (assign : List Nat) (steps : List (XStep ℝ)) :
    ∀ (k : Nat) (sig : List ℝ) (us : List (List ℝ)) (ls : List ℝ) (m : MRes ℝ),
      (∀ s ∈ sig, SigOK (sigma0 c.d) s) → mcmcX c beta modes assign k sig us ls steps = some m →
      (∀ s ∈ m.sigmas, SigOK (sigma0 c.d) s) ∧ (∀ s ∈ m.sigmas, 0 ≤ s ∧ s < 1) := by
  intro k sig us ls
  fun_induction mcmcX c beta modes assign k sig us ls steps with
  | case1 => intro m _ h; cases h
  | case2 k sig us ls st rest ih =>
    intro m hs h
    obtain ⟨r, hr, h⟩ := Option.bind_eq_some_iff.mp h
    have hr' : ∀ s ∈ r.sigmas, SigOK (sigma0 c.d) s := by
      simp only [stepX, Option.bind_eq_some_iff, Option.map_eq_some_iff] at hr
      obtain ⟨ws, -, outs, -, rfl⟩ := hr
      exact adaptAll_tpcn_mem _ _ hk (sigma0_nonneg c.d) hs
    dsimp only at h
    split at h
    · cases h
      exact ⟨hr', fun s hs' => ⟨(hr' s hs').1, ((hr' s hs').2.trans (min_le_right _ _)).trans_lt (by norm_num)⟩⟩
    · obtain ⟨m', hm', rfl⟩ := Option.map_eq_some_iff.mp h
      exact ih r m' hr' hm'

/-- … instantiated at the start of the loop as `iterateX` runs it -/
theorem C01_X_tpcn_sigma_range_iter (c : XCfg ℝ) (hk : c.kind = Kind.tpcn) (beta : ℝ) (modes : List (Mode ℝ))
    (assign : List Nat) (steps : List (XStep ℝ)) (us : List (List ℝ)) (ls : List ℝ) (m : MRes ℝ)
    (h : mcmcX c beta modes assign 0 (initSigmas c.kind modes.length c.d) us ls steps = some m) :
    ∀ s ∈ m.sigmas, 0 ≤ s ∧ s < 1 := by
  rw [hk] at h
  exact (C01_X_tpcn_sigma_range c hk beta modes assign steps 0 _ us ls m (initSigmas_ok _ _) h).2

theorem mcmcX_nsteps (c : XCfg ℝ) (beta : ℝ) (modes : List (Mode ℝ)) (assign : List Nat) (steps : List (XStep ℝ)) :
    ∀ (k : Nat) (sig : List ℝ) (us : List (List ℝ)) (ls : List ℝ) (m : MRes ℝ),
      mcmcX c beta modes assign k sig us ls steps = some m →
      k + 1 ≤ m.nsteps ∧ m.nsteps + m.leftover = k + steps.length ∧ m.masks.length = m.nsteps - k := by
  intro k sig us ls
  fun_induction mcmcX c beta modes assign k sig us ls steps with
  | case1 => intro m h; cases h
  | case2 k sig us ls st rest ih =>
    intro m h
    obtain ⟨r, hr, h⟩ := Option.bind_eq_some_iff.mp h
    dsimp only at h
    split at h
    · cases h
      simp only [List.length_cons, List.length_nil]
      omega
    · obtain ⟨m', hm', rfl⟩ := Option.map_eq_some_iff.mp h
      obtain ⟨a, b, d⟩ := ih r m' hm'
      simp only [List.length_cons]
      omega

/-! ### a completed run: the loop guard, the epilogue -/

/-- **a completed run** (`Sampler.run()` returned, then `Sampler.evidence()`): the iterations are those of `runItersX` on the
    same tapes; at the end `1 − β < tol`, the posterior weights `posterior(trim_importance_weights=False)` returns exist
    and have effective sample size `≥ n_total`; the evidence reported is the β = 1 estimate over the WHOLE final history,
    and it is what is stored as `logz`. -/
theorem C01_X_completed_run (c : XCfg ℝ) (tol nTotal : ℝ) (ts : List (XTape ℝ)) (sf : XState ℝ) (os : List (XOut ℝ))
    (z : ℝ) (h : runSamplingX c tol nTotal ts = some (sf, os, z)) :
    ∃ s0, runItersX c initX ts = some (s0, os) ∧ sf.hist = s0.hist ∧ sf.beta = s0.beta ∧ sf.logz = z ∧
      finalEvidenceX s0 = some z ∧ 1 - sf.beta < tol ∧
      ∃ w0, Model.Posterior.weights0 (logw (Model.PipelineX.batches sf.hist) 1 true).1 = some w0 ∧
        nTotal ≤ Model.Ess.ess w0 := by
  simp only [runSamplingX, Option.bind_eq_some_iff, Option.map_eq_some_iff, Prod.mk.injEq] at h
  obtain ⟨⟨s0, os0⟩, hg, z0, hz, rfl, rfl, rfl⟩ := h
  obtain ⟨hc, hr⟩ := runGuardedX_post c tol nTotal ts initX s0 os0 hg
  rw [contX, ScReal.one_def] at hc
  exact ⟨s0, hr, rfl, rfl, rfl, hz, (Model.Run.notTermination_eq_false_iff _ _ _ _).mp hc⟩

/-! ### what `posterior()` hands to the user -/

theorem finalEvidenceX_of_WF (s : XState ℝ) (hwf : Props.C04.WF (Model.PipelineX.batches s.hist)) :
    finalEvidenceX s = some (Props.C04.specLogz (Model.PipelineX.batches s.hist) 1) := by
  rw [finalEvidenceX, ScReal.one_def]
  exact Props.C04.C04_logz _ hwf 1 true

theorem posteriorX_plain_some (s : XState ℝ) (hwf : Props.C04.WF (Model.PipelineX.batches s.hist))
    (e : ℝ) (bins : Nat) (u0 : ℝ) (rb rl : Bool) :
    ∃ a, posteriorX s e bins u0 ⟨false, false, rb, rl⟩ = some a := by
  have hne : (logw (batches s.hist) 1 true).1 ≠ [] := by
    rw [Props.C04.C04_normalised _ hwf 1]
    exact fun h => Props.C04.flatLogl_ne_nil _ hwf (List.map_eq_nil_iff.mp h)
  obtain ⟨w0, hw0, -⟩ := Model.Posterior.weights0_facts _ hne
  exact ⟨_, by rw [posteriorX_plain, hw0]; rfl⟩

/-- **the weights `posterior(resample=False, trim_importance_weights=False)` returns are the self-normalised
    mixture-importance weights at β = 1 over the whole history**: particle `s` of the pool (all stored batches, in order)
    gets `W_s / Σ_r W_r` with `W_s = exp(specRaw h 1 ℓ_s) = L_s / Σ_t (n_t/N) L_s^{β_t}/Z_t` (C04's formula, the
    weight `C01_weight_bridge` identifies with `misW`), together with its own position and log-likelihood. -/
theorem C01_posterior_selfnormalised (s : XState ℝ) (hwf : Props.C04.WF (Model.PipelineX.batches s.hist))
    (e : ℝ) (bins : Nat) (u0 : ℝ) (rb rl : Bool) (a : Model.Posterior.Arrs Nat ℝ Unit ℝ ℝ)
    (h : posteriorX s e bins u0 ⟨false, false, rb, rl⟩ = some a) :
    a.x = List.range (nTotal (Model.PipelineX.batches s.hist)) ∧
    a.l = flatLogl (Model.PipelineX.batches s.hist) ∧
    a.w = (flatLogl (Model.PipelineX.batches s.hist)).map fun l =>
      Real.exp (Props.C04.specRaw (Model.PipelineX.batches s.hist) 1 l) / Props.C04.sumW (Model.PipelineX.batches s.hist) 1 := by
  have hsum1 := Props.C04.C04_normalised_sum_one _ hwf 1
  rw [Props.C04.C04_normalised _ hwf 1] at hsum1
  rw [posteriorX_plain, Props.C04.C04_normalised _ hwf 1, Model.Posterior.weights0_of_normalised _
    (fun h => Props.C04.flatLogl_ne_nil _ hwf (List.map_eq_nil_iff.mp h)) hsum1] at h
  cases h
  refine ⟨rfl, rfl, ?_⟩
  show List.map _ (List.map _ _) = _
  rw [List.map_map]
  exact List.map_congr_left fun l _ => by
    rw [Function.comp, Props.C04.specNorm, Real.exp_sub, Real.exp_log (Props.C04.sumW_pos _ hwf 1)]

/-- **a posterior expectation computed from the returned weights is the RATIO of two pool sums**: for any per-particle
    values `fs` (a test function evaluated at the returned positions), `Σ_s w_s f_s = (Σ_s W_s f_s) / (Σ_s W_s)` with the
    unnormalised mixture-importance weights `W_s`.  `(1/N)·Σ_s W_s f_s` and `(1/N)·Σ_s W_s` are exactly the two sums whose
    expectations `C01_mis_unbiased` / `C01_mean_weight_is_Z` compute (`Σ γ₁ f` and `Z₁`) under the nominal batch laws, and
    the denominator is the reported evidence: `Σ_s W_s = N · exp(logZ)`. -/
theorem C01_posterior_estimate_is_ratio (s : XState ℝ) (hwf : Props.C04.WF (Model.PipelineX.batches s.hist))
    (e : ℝ) (bins : Nat) (u0 : ℝ) (rb rl : Bool) (a : Model.Posterior.Arrs Nat ℝ Unit ℝ ℝ)
    (h : posteriorX s e bins u0 ⟨false, false, rb, rl⟩ = some a) (fs : List ℝ) :
    (List.zipWith (· * ·) a.w fs).sum
      = (List.zipWith (· * ·)
          ((flatLogl (Model.PipelineX.batches s.hist)).map fun l =>
            Real.exp (Props.C04.specRaw (Model.PipelineX.batches s.hist) 1 l)) fs).sum
        / Props.C04.sumW (Model.PipelineX.batches s.hist) 1 ∧
    finalEvidenceX s = some (Real.log ((1 / (nTotal (Model.PipelineX.batches s.hist) : ℝ)) *
      Props.C04.sumW (Model.PipelineX.batches s.hist) 1)) := by
  obtain ⟨_, _, hw⟩ := C01_posterior_selfnormalised s hwf e bins u0 rb rl a h
  constructor
  · rw [hw, ← Model.Trim.zipWith_div_sum, List.map_map]; rfl
  · rw [finalEvidenceX_of_WF s hwf]; rfl

/-! ### the warm-up with redraw (`Mutator.run` redraws a batch without a finite draw; `logz = log(n_fin / n_drawn)`) -/

theorem iterateW_warmup {α : Type} [ScT α] (c : PCfg α) (s : PState α) (t : Tape α) :
    iterateW warmup c s t = iterate c s t := rfl

/-- … hence `iterateR … 0 = iterate`: every theorem about `iterate` / `runIters` (C01, C02, C05, C10, C11) is a theorem about
    the sampler with redraw on all iterations that did not redraw -/
theorem C01_iterateR_no_redraw {α : Type} [ScT α] (c : PCfg α) (s : PState α) (t : Tape α) :
    iterateR c s t 0 = iterate c s t := by
  have : (fun (t : Tape α) (z : α) => warmupR t 0 z) = warmup := by funext t z; exact Lemmas.Pipeline.warmupR_zero t z
  simp only [iterateR, this]
  exact iterateW_warmup c s t

/-- with a redraw the evidence recorded for the batch is `log(n_finite / n_drawn)` over ALL draws of the iteration, the discarded
    ones included -/
theorem C01_warmupR_logz (t : Tape ℝ) (disc : Nat) (z : ℝ) (hd : 0 < disc) :
    (warmupR t disc z).2.2 = Real.log ((countSome t.drawL : ℝ) / ((t.drawL.length + disc : ℕ) : ℝ)) := by
  rw [Lemmas.Pipeline.warmupR_eq, if_pos (Or.inr hd)]; rfl

example : (warmupR (⟨[7, 8], [some 0, none], [0], [], []⟩ : Tape ℝ) 4 0).2.2 = Real.log ((1 : ℝ) / 6) := by
  rw [C01_warmupR_logz _ 4 0 (by norm_num)]
  norm_num [countSome]

/-- **the supported-fraction estimate of the warm-up with redraw is biased upward for tiny batches**: with one particle per batch and
    half of the prior mass supported, the number K of batches drawn until the first finite draw is geometric(1/2), the
    recorded fraction is `1/K`, and its expectation `Σ_k (1/2)^k / k` is `log 2 ≈ 0.693`, not `1/2`.
    The statement is the series and the comparison; that `1/K` is what `warmupR` records is `C01_warmupR_logz`. -/
theorem C01_redraw_fraction_biased :
    HasSum (fun k : ℕ => ((1 : ℝ) / 2) ^ (k + 1) / ((k : ℝ) + 1)) (Real.log 2) ∧ (1 : ℝ) / 2 < Real.log 2 := by
  constructor
  · have h := Real.hasSum_pow_div_log_of_abs_lt_one (x := (1 : ℝ) / 2) (by rw [abs_of_pos] <;> norm_num)
    have h2 : -Real.log (1 - 1 / 2) = Real.log 2 := by
      rw [show (1 : ℝ) - 1 / 2 = 2⁻¹ by norm_num, Real.log_inv, neg_neg]
    rw [h2] at h
    exact h
  · have := Real.log_two_gt_d9
    linarith

/-! ### non-vacuity: a concrete two-iteration run of the extended model (ℝ)

  warm-up (two prior draws u = 1/4, 3/4, log-likelihood 0), then one annealing iteration at β = 1: systematic resampling,
  random-walk kernel with one fitted mode, ONE step in which walker 0's proposal (0.488) is accepted and walker 1's
  (log-likelihood −∞) is rejected, step size adapted from 2.38 to 2.513, stopping rule satisfied after that step. -/

noncomputable def X_cfgX : XCfg ℝ := ⟨⟨1/2, 2, none, 1/100, 1/10000, 64⟩, true, Kind.rwm, 1, 1, 1, [], []⟩

noncomputable def X_t1 : XTape ℝ := ⟨[[1/4], [3/4]], [some 0, some 0], [], [], [], [], [], [], 0⟩

noncomputable def X_modeX : Mode ℝ := ⟨[1/2], [[1/10]], [[100]], 1⟩

noncomputable def X_stX : XStep ℝ := ⟨[1, 1], [[1], [-1]], [some 0, none], [1/2, 1/2]⟩

noncomputable def X_t2 : XTape ℝ := ⟨[], [], [], [1/2], [], [X_modeX], [0, 0], [X_stX], 0⟩

noncomputable def X_s1 : XState ℝ := ⟨[⟨⟨0, 0, [0, 0]⟩, [[1/4], [3/4]]⟩], 0, 0, [[1/4], [3/4]], [0, 0]⟩

noncomputable def X_z1 : ℝ := oracleZ (batches X_s1.hist) 1

noncomputable def X_mX : MRes ℝ :=
  ⟨[[61/125], [3/4]], [0, 0], [[true, false]], [2513/1000], 1, [1, 0], [[[61/125], [64/125]]], 0⟩

noncomputable def X_s2 : XState ℝ :=
  ⟨X_s1.hist ++ [⟨⟨1, X_z1, [0, 0]⟩, [[61/125], [3/4]]⟩], 1, X_z1, [[61/125], [3/4]], [0, 0]⟩

noncomputable def X_o1 : XOut ℝ := ⟨0, 1, 0, 0, [], [], Branch.firstIter, 1, [], 1, 1, []⟩

theorem X_it1 : iterateX X_cfgX initX X_t1 = some (X_s1, X_o1) := by
  have hr : List.range 2 = [0, 1] := by decide
  simp [iterateX, initX, batches, Model.Reweight.run, covered, eqv, warmupX, warmupR, X_t1, countSome,
    allSome, X_s1, X_o1, X_cfgX, Cfg.target, hr, Model.Records.gather?]

theorem X_batches_eq : batches X_s1.hist = Model.Pipeline.batches Lemmas.PipelineShift.Ex.s1.hist :=
  rfl

theorem X_rw2 : Model.Reweight.run X_cfgX.rw (batches X_s1.hist).isEmpty
      (oracleMX X_cfgX.rw.vv.isSome (batches X_s1.hist) X_t2.metric)
      (oracleZ (batches X_s1.hist)) isFin X_s1.beta
    = ⟨1, .of [1, 1], 2, X_z1, Branch.essUpper, [Branch.upOne], [0, 1, 0, 1], [1]⟩ := by
  have hM : oracleMX X_cfgX.rw.vv.isSome (batches X_s1.hist) X_t2.metric = fun _ => ([1, 1], 2, 2) := by
    funext β
    simp only [oracleMX, X_batches_eq, Lemmas.PipelineShift.Ex.oM, X_cfgX, Option.isSome_none, Bool.false_eq_true, if_false]
  rw [hM]
  simp [Model.Reweight.run, X_cfgX, runEss, upperLimit, finalize, Cfg.target, X_s1, batches, X_z1]

theorem X_sigma0_one : (sigma0 1 : ℝ) = 119 / 50 := by
  simp [sigma0]; norm_num

theorem X_cb (x : ℝ) (h0 : 0 ≤ x) (h1 : x ≤ 1) : Model.Boundary.checkBounds [] [] [x] = true := by
  have hr : List.range 1 = [0] := by decide
  simp [Model.Boundary.checkBounds, hr, Model.Boundary.inUnit, h0, h1]

theorem X_walkers (i : RunIn ℝ) (hk : i.kind = Kind.rwm) (hper : i.per = []) (hrefl : i.refl = [])
    (hm : i.modes = [X_modeX]) (hs : i.sigmas = [119/50]) :
    wx i ⟨[1/4], 0, 0, 0, 1, 1/2, [1]⟩ (some 0) = some ⟨[61/125], true, 1, true, [61/125], 0⟩ ∧
    wx i ⟨[3/4], 0, 0, 0, 1, 1/2, [-1]⟩ none = some ⟨[64/125], true, 0, false, [3/4], 0⟩ :=
  ⟨(wx_rwm i _ X_modeX (119/50) _ hk hper hrefl hm hs rfl
      (by rw [X_modeX, rwmProposal_one]; norm_num) (X_cb _ (by norm_num) (by norm_num)) rfl (by norm_num)).2 0,
    (wx_rwm i _ X_modeX (119/50) _ hk hper hrefl hm hs rfl
      (by rw [X_modeX, rwmProposal_one]; norm_num) (X_cb _ (by norm_num) (by norm_num)) rfl (by norm_num)).1⟩

theorem X_mc2 : mcmcX X_cfgX 1 [X_modeX] [0, 0] 0 (initSigmas X_cfgX.kind 1 X_cfgX.d) [[1/4], [3/4]] [0, 0] [X_stX] = some X_mX := by
  have hinit : (initSigmas X_cfgX.kind 1 X_cfgX.d : List ℝ) = [119 / 50] := by
    simp [initSigmas, X_cfgX, X_sigma0_one]
  have hstep : stepX X_cfgX 1 [X_modeX] [0, 0] 1 [119/50] [[1/4], [3/4]] [0, 0] X_stX
      = some ⟨[[61/125], [3/4]], [0, 0], [2513/1000], [true, false], [1, 0], [[61/125], [64/125]]⟩ := by
    simp only [stepX, X_stX, mkWalkers, Option.map_some, Option.bind_some, List.map_cons, List.map_nil, List.mapM_cons,
      List.mapM_nil, X_cfgX, X_walkers, Option.pure_def, Option.bind_eq_bind]
    rw [adaptAll_single _ (119/50) [1, 0] rfl rfl (List.cons_ne_nil _ _)]
    simp only [adaptOne, rwmAdapt, adaptRaw, mean, sc_real, List.sum_cons, List.sum_nil, List.length_cons, List.length_nil]
    norm_num
  rw [hinit]
  exact mcmcX_stop X_cfgX 1 _ _ 0 _ _ _ X_stX [] _ hstep (Nat.le_refl 1)

noncomputable def X_o2 : XOut ℝ := ⟨1, 2, X_z1, X_z1, [0, 1], [[true, false]], Branch.essUpper, 1, [2513/1000],
    Model.Kernel.mean [1, 0], Sc.div (Model.Kernel.mean [(2513:ℝ)/1000]) (sigma0 1), [[[61/125], [64/125]]]⟩

theorem X_it2 : iterateX X_cfgX X_s1 X_t2 = some (X_s2, X_o2) := by
  unfold iterateX
  simp only [X_rw2]
  have hcov : covered X_cfgX.rw.vv.isSome X_t2.metric [0, 1, 0, 1] = true := by simp [covered, X_cfgX]
  have h10 : eqv (1 : ℝ) Sc.zero = false :=
    Bool.eq_false_iff.mpr fun h => one_ne_zero (((Model.Reweight.eqv_real 1 _).mp h).trans ScReal.zero_def)
  have hsy : X_cfgX.syst = true := rfl
  have hn : X_cfgX.rw.nPart = 2 := rfl
  have hu : X_t2.resU = [1/2] := rfl
  simp only [hcov, Bool.not_true, Bool.false_eq_true, if_false, h10, hsy, hn, hu, if_true, Lemmas.PipelineShift.Ex.rs2,
    Option.bind_some]
  have hg1 : Model.Records.gather? (poolU X_s1.hist) [0, 1] = some [[1/4], [3/4]] := by
    rfl
  have hg2 : Model.Records.gather? (flatLogl (batches X_s1.hist)) [0, 1] = some [0, 0] := by
    rfl
  have hm : X_t2.modes = [X_modeX] := rfl
  have ha : X_t2.assign = [0, 0] := rfl
  have hst : X_t2.steps = [X_stX] := rfl
  simp only [hg1, hg2, Option.bind_some, hm, ha, hst, List.length_cons, List.length_nil, Nat.zero_add, X_mc2]
  rfl

theorem X_run2 : runItersX X_cfgX initX [X_t1, X_t2] = some (X_s2, [X_o1, X_o2]) := by
  simp only [runItersX, X_it1, X_it2, Option.bind_some, Option.map_some]

theorem X_wf_s2 : Props.C04.WF (batches X_s2.hist) := ⟨List.cons_ne_nil _ _, by decide⟩

example : X_s2.hist = X_s1.hist ++ [⟨⟨X_o2.beta, X_o2.logz, X_s2.curL⟩, X_s2.curU⟩] ∧ X_s2.beta = X_o2.beta ∧ X_s2.logz = X_o2.logz :=
  C01_X_commit_appends_one X_cfgX X_s1 X_t2 X_s2 X_o2 X_it2

example : X_o2.ess = (oracleM (Model.PipelineX.batches X_s1.hist) X_o2.beta).2.1 ∧
    X_o2.logzRw = oracleZ (Model.PipelineX.batches X_s1.hist) X_o2.beta ∧
    (X_o2.beta ≠ 0 →
      resampledX X_cfgX X_t2 (Model.Ess.normalise (oracleM (Model.PipelineX.batches X_s1.hist) X_o2.beta).1) = some X_o2.idx ∧
      ∃ us l m, Model.Records.gather? (poolU X_s1.hist) X_o2.idx = some us ∧
        Model.Records.gather? (flatLogl (Model.PipelineX.batches X_s1.hist)) X_o2.idx = some l ∧
        mcmcX X_cfgX X_o2.beta X_t2.modes X_t2.assign 0 (initSigmas X_cfgX.kind X_t2.modes.length X_cfgX.d) us l X_t2.steps = some m ∧
        X_s2.curU = m.us ∧ X_s2.curL = m.ls ∧ X_o2.masks = m.masks ∧ X_o2.nsteps = m.nsteps ∧ X_o2.sigmas = m.sigmas ∧
        X_o2.logz = oracleZ (Model.PipelineX.batches X_s1.hist) X_o2.beta) :=
  C01_X_same_temperature X_cfgX X_s1 X_t2 X_s2 X_o2 (List.cons_ne_nil _ _) X_it2

example : (∀ o, [X_o1, X_o2][0]? = some o → o.beta = 0) ∧ (∀ o ∈ [X_o1, X_o2], 0 ≤ o.beta ∧ o.beta ≤ 1) ∧
    (∀ k a b, [X_o1, X_o2][k]? = some a → [X_o1, X_o2][k+1]? = some b → a.beta ≤ b.beta) :=
  C01_X_schedule X_cfgX [X_t1, X_t2] X_s2 [X_o1, X_o2] X_run2

example : ∃ xb rest, X_s2.hist = xb :: rest ∧ xb.b.beta = 0 :=
  C01_X_run_first_batch_beta_zero X_cfgX X_t1 [X_t2] X_s2 [X_o1, X_o2] X_run2

example : X_mX.nsteps = 1 ∧ X_mX.leftover = 0 := ⟨rfl, rfl⟩

example : 0 + 1 ≤ X_mX.nsteps ∧ X_mX.nsteps + X_mX.leftover = 0 + [X_stX].length ∧ X_mX.masks.length = X_mX.nsteps - 0 :=
  mcmcX_nsteps X_cfgX 1 [X_modeX] [0, 0] [X_stX] 0 _ _ _ X_mX X_mc2

example : ∃ a, posteriorX X_s2 (99/100) 1000 0 ⟨false, false, false, true⟩ = some a ∧
    a.x = List.range (nTotal (Model.PipelineX.batches X_s2.hist)) ∧
    a.w = (flatLogl (Model.PipelineX.batches X_s2.hist)).map fun l =>
      Real.exp (Props.C04.specRaw (Model.PipelineX.batches X_s2.hist) 1 l) / Props.C04.sumW (Model.PipelineX.batches X_s2.hist) 1 := by
  obtain ⟨a, ha⟩ := posteriorX_plain_some X_s2 X_wf_s2 (99/100) 1000 0 false true
  obtain ⟨h1, _, h3⟩ := C01_posterior_selfnormalised X_s2 X_wf_s2 _ _ _ _ _ a ha
  exact ⟨a, ha, h1, h3⟩

example : nTotal (Model.PipelineX.batches X_s2.hist) = 4 := rfl

example (fs : List ℝ) : ∃ a, posteriorX X_s2 (99/100) 1000 0 ⟨false, false, false, true⟩ = some a ∧
    (List.zipWith (· * ·) a.w fs).sum
      = (List.zipWith (· * ·) ((flatLogl (Model.PipelineX.batches X_s2.hist)).map fun l =>
            Real.exp (Props.C04.specRaw (Model.PipelineX.batches X_s2.hist) 1 l)) fs).sum
        / Props.C04.sumW (Model.PipelineX.batches X_s2.hist) 1 := by
  obtain ⟨a, ha⟩ := posteriorX_plain_some X_s2 X_wf_s2 (99/100) 1000 0 false true
  exact ⟨a, ha, (C01_posterior_estimate_is_ratio X_s2 X_wf_s2 _ _ _ _ _ a ha fs).1⟩

example : ∃ o, wx ⟨Kind.rwm, [X_modeX], [119/50], 1, [], [], 1, 119/50, []⟩ ⟨[1/4], 0, 0, 0, 1, 1/2, [1]⟩ (some 0) = some o ∧
    o.accept = true ∧ o.u = [61/125] ∧ o.l = 0 :=
  ⟨_, (X_walkers _ rfl rfl rfl rfl rfl).1, rfl, rfl, rfl⟩

example : ∀ s ∈ (initSigmas Kind.tpcn 3 2 : List ℝ), SigOK (sigma0 2) s := initSigmas_ok 3 2

example : ∀ s ∈ adaptAll (⟨Kind.tpcn, [], [99/100, 1/2], 1, [], [], 3, 119/50, [⟨[1/2], 0, 0, 0, 1, 1/2, [0]⟩]⟩ : RunIn ℝ) [1],
    SigOK (119/50) s :=
  adaptAll_tpcn_mem _ _ rfl (by norm_num) (by
    intro s hs
    simp only [List.mem_cons, List.not_mem_nil, or_false] at hs
    rcases hs with rfl | rfl <;> constructor <;> norm_num)

/-! a concrete tpCN mutation (one walker sitting on the mode centre, zero innovation): exercises `C01_X_tpcn_sigma_range` -/

noncomputable def T_cfgT : XCfg ℝ := ⟨⟨1/2, 1, none, 1/100, 1/10000, 64⟩, true, Kind.tpcn, 1, 1, 1, [], []⟩

noncomputable def T_stT : XStep ℝ := ⟨[1], [[0]], [some 0], [1/2]⟩

noncomputable def T_mT : MRes ℝ := ⟨[[1/2]], [0], [[true]], [99/100], 1, [1], [[[1/2]]], 0⟩

theorem T_mcT : mcmcX T_cfgT 1 [X_modeX] [0] 0 (initSigmas T_cfgT.kind 1 T_cfgT.d) [[1/2]] [0] [T_stT] = some T_mT := by
  have hinit : (initSigmas T_cfgT.kind 1 T_cfgT.d : List ℝ) = [99/100] := by
    simp only [initSigmas, T_cfgT, X_sigma0_one, ScReal.min_def, lit_99, List.replicate]
    norm_num
  have hstep : stepX T_cfgT 1 [X_modeX] [0] 1 [99/100] [[1/2]] [0] T_stT
      = some ⟨[[1/2]], [0], [99/100], [true], [1], [[1/2]]⟩ := by
    -- the walker sits on the centre of its mode and the innovation is zero: it proposes its own position, factor 1
    have hcand : tpcnProposal [(1:ℝ)/2] (vsub [1/2] [1/2]) [[1/10]] (99/100) (sFromGamma 1) [0] = [1/2] := by
      simp [tpcnProposal, vsub, vadd, matVec, scaleMat, dotv, Sc.sum]
    have h0 := (wx_flat ⟨Kind.tpcn, [X_modeX], [99/100], 1, [], [], Sc.ofNat 1, sigma0 1, [⟨[1/2], 0, 0, 0, 1, 1/2, [0]⟩]⟩
      ⟨[1/2], 0, 0, 0, 1, 1/2, [0]⟩ ⟨Kind.tpcn, [1/2], [1/2], [[1/10]], [[100]], 1, 99/100, 1, 0, 0, 1, 1/2, [0], [], []⟩
      _ _ _ _ _ [1/2] (by
        simp only [walkerStep, walkerInput, X_modeX, List.getElem?_cons_zero, Option.map_some, step, Model.Boundary.apply,
          List.foldl_nil, hcand, X_cb (1/2) (by norm_num) (by norm_num), if_true, tpcnLogFactor, ScReal.neg_def,
          ScReal.add_def, neg_add_cancel]; rfl) rfl rfl rfl (by norm_num)).2 0
    simp only [stepX, T_stT, mkWalkers, Option.map_some, Option.bind_some, List.map_cons, List.map_nil, List.mapM_cons,
      List.mapM_nil, T_cfgT, h0, Option.pure_def, Option.bind_eq_bind]
    rw [adaptAll_single _ (99/100) [1] rfl rfl (List.cons_ne_nil _ _)]
    simp only [adaptOne, tpcnAdapt, adaptRaw, mean, sc_real, List.sum_cons, List.sum_nil, List.length_cons, List.length_nil,
      X_sigma0_one]
    norm_num
  rw [hinit]
  exact mcmcX_stop T_cfgT 1 _ _ 0 _ _ _ T_stT [] _ hstep (Nat.le_refl 1)

example : ∀ s ∈ T_mT.sigmas, 0 ≤ s ∧ s < 1 :=
  C01_X_tpcn_sigma_range_iter T_cfgT rfl 1 [X_modeX] [0] [T_stT] [[1/2]] [0] T_mT T_mcT

example : (∀ s ∈ T_mT.sigmas, SigOK (sigma0 T_cfgT.d) s) ∧ (∀ s ∈ T_mT.sigmas, 0 ≤ s ∧ s < 1) :=
  C01_X_tpcn_sigma_range T_cfgT rfl 1 [X_modeX] [0] [T_stT] 0 _ [[1/2]] [0] T_mT
    (initSigmas_ok 1 1) T_mcT

/-- the loop tolerance `1e-4` (a definition of its own, so that `simp` does not rewrite the literal) -/
noncomputable def X_tolX : ℝ := 1 / 10000

theorem X_wf_s1 : Props.C04.WF (batches X_s1.hist) := ⟨List.cons_ne_nil _ _, by decide⟩

theorem X_cont0 : contX X_tolX 2 (initX : XState ℝ) = true :=
  Model.Run.notTermination_nil _ _ _

theorem X_cont1 : contX X_tolX 2 X_s1 = true := by
  have hw := Props.C04.C04_normalised (batches X_s1.hist) X_wf_s1 1
  have hfl : flatLogl (batches X_s1.hist) = [0, 0] := rfl
  rw [hfl] at hw
  simp only [contX, ScReal.one_def, hw, List.map_cons, List.map_nil, Model.Run.notTermination, Model.Run.notTerm,
    Bool.or_eq_true, ScReal.le_def, ScReal.sub_def]
  left
  simp only [X_s1, X_tolX]; norm_num

/-- at β = 1 with four stored particles of equal log-likelihood the posterior weights are equal and their ESS is 4 ≥ 2 -/
theorem X_cont2 : contX X_tolX 2 X_s2 = false := by
  have hw := Props.C04.C04_normalised (batches X_s2.hist) X_wf_s2 1
  have hfl : flatLogl (batches X_s2.hist) = [0, 0, 0, 0] := rfl
  rw [hfl] at hw
  simp only [contX, ScReal.one_def, hw, List.map_cons, List.map_nil, Model.Run.notTermination]
  rw [Model.Run.notTerm_false_iff]
  refine ⟨by simp only [X_s2, X_tolX]; norm_num, ?_⟩
  set c := Props.C04.specNorm (batches X_s2.hist) 1 0 with hc
  have hmax : Model.Ess.maxOf c [c, c, c] = c := by simp [Model.Ess.maxOf, ScReal.max_def]
  simp only [hmax, ScReal.sub_def, sub_self, ScReal.exp_def, Real.exp_zero]
  rw [Model.Ess.ess_def]
  norm_num

noncomputable def X_z2 : ℝ := Props.C04.specLogz (batches X_s2.hist) 1

theorem X_fe2 : finalEvidenceX X_s2 = some X_z2 :=
  finalEvidenceX_of_WF X_s2 X_wf_s2

theorem X_runS : runSamplingX X_cfgX X_tolX 2 [X_t1, X_t2] = some ({ X_s2 with logz := X_z2 }, [X_o1, X_o2], X_z2) := by
  simp only [runSamplingX, runGuardedX, X_cont0, X_cont1, X_cont2, X_it1, X_it2, X_fe2, if_true, Bool.false_eq_true,
    if_false, Option.bind_some, Option.map_some]

example : ∃ s0, runItersX X_cfgX initX [X_t1, X_t2] = some (s0, [X_o1, X_o2]) ∧ ({ X_s2 with logz := X_z2 } : XState ℝ).hist = s0.hist ∧
      ({ X_s2 with logz := X_z2 } : XState ℝ).beta = s0.beta ∧ ({ X_s2 with logz := X_z2 } : XState ℝ).logz = X_z2 ∧
      finalEvidenceX s0 = some X_z2 ∧ 1 - ({ X_s2 with logz := X_z2 } : XState ℝ).beta < X_tolX ∧
      ∃ w0, Model.Posterior.weights0 (logw (Model.PipelineX.batches ({ X_s2 with logz := X_z2 } : XState ℝ).hist) 1 true).1 = some w0 ∧
        2 ≤ Model.Ess.ess w0 :=
  C01_X_completed_run X_cfgX X_tolX 2 [X_t1, X_t2] _ _ X_z2 X_runS

end Props.C01

