import TempestVerif.Model.Pipeline
import TempestVerif.Props.C11
import TempestVerif.Props.C04
import TempestVerif.Lemmas.Weights
import TempestVerif.Lemmas.MIS
/-
  C11, clause 4 ("the final evidence converges to the integral over the supported region"): what the executable estimator is —
  the empirical pool mean of the mixture-importance weight with the RECORDED normalisers — and what its mean-field
  (infinite-particle) recursion gives on the supported region: exactly `Σ p·L`; on a warm-up history the evidence functional is
  `reweightZ / Z_0 · Z_β`, so the error of the final evidence IS the error of the warm-up evidence.
  Not a theorem: that the finite adaptive particle system approaches the mean-field recursion (clauses/C11.md row 4c).
-/
namespace Props.C11
open Lemmas.MIS Model.Warmup Model.Weights Model.Pipeline Finset

/-! ### the executable estimator is the empirical version of `mfZ` -/

/-- the stored history as mean-field batches over the "state space" of log-likelihood values: size, temperature,
    RECORDED normaliser `exp logz_t` (the law field plays no role in the weight) -/
noncomputable def toM (h : List (Batch ℝ)) : List (MBatch ℝ) :=
  h.map fun b => ⟨(b.logl.length : ℝ), b.beta, fun _ => 0, Real.exp b.logz⟩

theorem poolN_toM (h : List (Batch ℝ)) : poolN (toM h) = (nTotal h : ℝ) := by
  simp [poolN, toM, nTotal_cast, List.map_map, Function.comp_def]

theorem mix_is_mfDen (h : List (Batch ℝ)) (l : ℝ) : Props.C04.mix h l = mfDen Real.exp (toM h) l := by
  unfold Props.C04.mix mfDen
  rw [poolN_toM]
  simp only [toM, List.map_map]
  congr 1
  apply List.map_congr_left
  intro b _
  simp only [Function.comp_apply]
  rw [Real.exp_sub, ← Real.exp_mul, mul_comm l b.beta]

/-- C11 (the weight of the code's model is the mean-field weight with the recorded normalisers): for a stored particle with
    log-likelihood `ℓ`, `exp (β ℓ − log Σ_t (n_t/N) exp(β_t ℓ − logz_t)) = L^β / Σ_t (n_t/N) L^{β_t}/z_t` with `L = exp ℓ`,
    `z_t = exp logz_t` -/
theorem C11_weight_is_mfW (h : List (Batch ℝ)) (hwf : Props.C04.WF h) (β l : ℝ) :
    Real.exp (Props.C04.specRaw h β l) = mfW Real.exp (toM h) β l := by
  unfold Props.C04.specRaw mfW
  rw [Real.exp_sub, Real.exp_log (Props.C04.mix_pos h hwf l), mix_is_mfDen, ← Real.exp_mul, mul_comm l β]

/-- C11 (what the final evidence IS): the value `run_sampling` reports (`compute_logw_and_logz(1.0)[1]` over the final
    history, `Model.Pipeline.finalEvidence`) is the log of the empirical mean, over all stored particles, of the
    mixture-importance weight at β = 1 with the recorded normalisers -/
theorem C11_final_evidence_is_pool_mean (s : PState ℝ) (hwf : Props.C04.WF (batches s.hist)) :
    finalEvidence s = some (Real.log ((1 / (nTotal (batches s.hist) : ℝ)) *
      ((flatLogl (batches s.hist)).map fun l => mfW Real.exp (toM (batches s.hist)) 1 l).sum)) := by
  unfold finalEvidence
  simp only [ScReal.one_def]
  rw [Props.C04.C04_logz _ hwf 1 true]
  unfold Props.C04.specLogz Props.C04.sumW
  congr 4
  apply List.map_congr_left
  intro l _
  exact C11_weight_is_mfW _ hwf 1 l

/-! ### the mean-field recursion on the supported region -/

section meanfield
variable {Ω : Type} [Fintype Ω]

/-- C11 (final evidence, mean-field limit): restrict to the supported region `S = {L > 0}`.  Start from ONE warm-up batch
    whose particles have the prior restricted to `S` (`piB p' L' 0`) and whose recorded normaliser is the supported prior
    mass `Σ_S p` — counted once.  Run ANY list of further steps (β, kernel, size) — more warm-up steps at β = 0, annealing
    steps at any β — each with a kernel that leaves `π_β` on `S` invariant.  Then every committed batch is exact, and the
    evidence functional at β = 1 is EXACTLY `Σ_Ω p·L`: the integral over the supported region, which is the whole integral. -/
theorem C11_meanfield_supported (p L : Ω → ℝ) (hp : ∀ x, 0 ≤ p x) (hsupp : ∃ x, 0 < L x ∧ 0 < p x) (hL : ∀ x, 0 ≤ L x)
    (n0 : ℝ) (hn0 : 0 < n0)
    (steps : List (ℝ × ({x : Ω // 0 < L x} → {x : Ω // 0 < L x} → ℝ) × ℝ))
    (hst : ∀ st ∈ steps,
      Invariant (piB (fun x : {x : Ω // 0 < L x} => p x.1) (fun x => L x.1) st.1) st.2.1 ∧ 0 < st.2.2) :
    let S := {x : Ω // 0 < L x}
    let p' : S → ℝ := fun x => p x.1
    let L' : S → ℝ := fun x => L x.1
    let h0 : List (MBatch S) := [⟨n0, 0, piB p' L' 0, ∑ x : S, p x.1⟩]
    (∀ b ∈ mfRun L' h0 steps, Exact p' L' b) ∧
    mfZ L' (mfRun L' h0 steps) 1 = ∑ x, p x * L x := by
  intro S p' L' h0
  obtain ⟨x0, hx0L, hx0p⟩ := hsupp
  have hp' : ∀ x : S, 0 ≤ p' x := fun x => hp x.1
  have hp1 : ∃ x : S, 0 < p' x := ⟨⟨x0, hx0L⟩, hx0p⟩
  have hL' : ∀ x : S, 0 < L' x := fun x => x.2
  have hex0 : ∀ b ∈ h0, Exact p' L' b := by
    intro b hb
    simp only [h0, List.mem_singleton] at hb
    subst hb
    exact ⟨hn0, rfl, (Zf_zero p' L').symm⟩
  have hex := mfRun_exact p' L' hp' hp1 hL' steps h0 (List.cons_ne_nil _ _) hex0 hst
  refine ⟨hex, ?_⟩
  rw [mfZ_exact p' L' hp' hp1 hL' _ (mfRun_ne_nil L' steps h0 (List.cons_ne_nil _ _)) hex 1]
  exact (Finset.sum_congr rfl fun x _ => by simp only [gam, p', L', Real.rpow_one]).trans
    (sum_supported_eq L (fun y => p y * L y) fun y hy => by rw [le_antisymm (not_lt.mp hy) (hL y), mul_zero])

/-! ### "counted once" is what the final evidence needs -/

/-- a history of warm-up batches only: sizes and RECORDED normalisers `rec = [(n_t, z_t)]`, particles with law `π0` -/
noncomputable def warmHist (π0 : Ω → ℝ) (rec : List (Nat × ℝ)) : List (MBatch Ω) :=
  rec.map fun r => ⟨(r.1 : ℝ), 0, π0, r.2⟩

omit [Fintype Ω] in
theorem poolN_warmHist (π0 : Ω → ℝ) (rec : List (Nat × ℝ)) : poolN (warmHist π0 rec) = (total rec : ℝ) := by
  rw [total_cast]
  simp [poolN, warmHist, List.map_map, Function.comp_def]

/-- C11 (clause 3 ⇒ clause 4): on a history of warm-up batches — particles distributed as the restricted prior
    `π_0 = piB p L 0`, normalisers recorded as ANY `z_t` — the evidence functional at β is
    `reweightZ rec / Z_0 · Z_β`, where `reweightZ` is the harmonic-mean estimate of `Model.Warmup` (the model of the
    reweighting step that the suite `warmup-evidence` ties to the real sampler).  So the relative error of the evidence the
    annealing phase starts from IS the relative error of the recorded warm-up evidence. -/
theorem C11_final_tracks_warmup_evidence (p L : Ω → ℝ) (rec : List (Nat × ℝ)) (hne : rec ≠ [])
    (hn : ∀ r ∈ rec, 0 < r.1) (β : ℝ) :
    mfZ L (warmHist (piB p L 0) rec) β = reweightZ rec / Zf p L 0 * Zf p L β := by
  have hN : poolN (warmHist (piB p L 0) rec) ≠ 0 := by
    rw [poolN_warmHist]; exact_mod_cast (total_pos rec hne hn).ne'
  -- mixture denominator = Σ_t (n_t/N)/z_t, the same for every x
  have hden : ∀ x, mfDen L (warmHist (piB p L 0) rec) x = invMixAt (total rec : ℝ) rec := by
    intro x
    unfold mfDen invMixAt
    rw [poolN_warmHist]
    simp only [warmHist, List.map_map, Function.comp_def, Real.rpow_zero]
    congr 1
    apply List.map_congr_left
    intro r _
    ring
  -- the pool law is π0 = p / Z_0, so pool law over denominator is `reweightZ rec / Z_0` times the prior
  refine mfZ_of_ratio p L _ _ (fun x => ?_) β
  rw [poolLaw_const _ (piB p L 0) (fun b hb => by obtain ⟨r, -, rfl⟩ := List.mem_map.mp hb; rfl) hN, hden,
    reweightZ_of_ne_nil rec hne, piB, gam, Real.rpow_zero]
  ring

/-- C11 (finding F7 seen from the final evidence): two warm-up batches of equal size that both show the
    fraction `f`.  Recording `f, f` (`Model.Warmup.batchZ`) gives the evidence functional `f/Z_0 · Z_β` (= `Z_β` when
    `f = Z_0`); recording `f, f²` (`Model.Warmup.batchZOld`, /repo before 787b496) gives `2f/(1+f) · f/Z_0 · Z_β`,
    too small by the factor `2f/(1+f) < 1` -/
theorem C11_final_double_counted (p L : Ω → ℝ) (n : Nat) (hn : 0 < n) (f : ℝ) (hf : 0 < f) (β : ℝ) :
    mfZ L (warmHist (piB p L 0) [(n, f), (n, f)]) β = f / Zf p L 0 * Zf p L β ∧
    mfZ L (warmHist (piB p L 0) [(n, f), (n, f * f)]) β = (2 * f / (1 + f)) * (f / Zf p L 0 * Zf p L β) := by
  have hpos : ∀ z : ℝ, ∀ r ∈ [(n, f), (n, z)], 0 < r.1 := fun z r hr => by
    rcases List.mem_pair.mp hr with rfl | rfl <;> exact hn
  constructor
  · rw [C11_final_tracks_warmup_evidence p L _ (List.cons_ne_nil _ _) (hpos f), reweightZ_pair n hn, ← two_mul, mul_one_div,
      div_div_eq_mul_div, mul_div_cancel_left₀ _ two_ne_zero]
  · have h1 : (1 : ℝ) + f ≠ 0 := (add_pos one_pos hf).ne'
    have : (2 : ℝ) / (1 / f + 1 / (f * f)) = 2 * f / (1 + f) * f := by
      field_simp
      ring
    rw [C11_final_tracks_warmup_evidence p L _ (List.cons_ne_nil _ _) (hpos (f * f)), reweightZ_pair n hn, this]
    ring

/-- C11 (2b + 3 + 4 together): let the first warm-up batch have −inf draws and let every batch with −inf draws show a
    finite fraction in `[lo, hi]`.  Then, whatever the number of warm-up iterations and the batch sizes, the evidence
    functional over the recorded warm-up history at any β lies in `[lo, hi] / Z_0 · Z_β` — in particular it is exactly
    `Z_β` when `lo = hi = Z_0` -/
theorem C11_final_envelope (p L : Ω → ℝ) (hp : ∀ x, 0 ≤ p x) (hL : ∀ x, 0 ≤ L x) (hZ0 : 0 < Zf p L 0)
    (lo hi : ℝ) (hlo : 0 < lo) (n nfin : Nat) (hfirst : nfin < n) (rest : List (Nat × Nat))
    (hb : ∀ b ∈ (n, nfin) :: rest, BatchOk lo hi b) (β : ℝ) :
    lo / Zf p L 0 * Zf p L β ≤ mfZ L (warmHist (piB p L 0) (run batchZ [] ((n, nfin) :: rest))) β ∧
    mfZ L (warmHist (piB p L 0) (run batchZ [] ((n, nfin) :: rest))) β ≤ hi / Zf p L 0 * Zf p L β := by
  have hinv := run_nil_inv lo hi hlo (n, nfin) rest hb (Or.inl hfirst)
  have hne : run batchZ ([] : List (Nat × ℝ)) ((n, nfin) :: rest) ≠ [] := by
    simp only [run]; exact run_ne_nil batchZ rest _ (by simp)
  have hrw := reweightZ_bounds lo hi hlo _ hne (fun b hb' => (hinv b hb').1) (fun b hb' => (hinv b hb').2)
  rw [C11_final_tracks_warmup_evidence p L _ hne (fun b hb' => (hinv b hb').1)]
  have hZb : 0 ≤ Zf p L β := Zf_nonneg p L hp hL β
  constructor
  · exact mul_le_mul_of_nonneg_right (div_le_div_of_nonneg_right hrw.1 hZ0.le) hZb
  · exact mul_le_mul_of_nonneg_right (div_le_div_of_nonneg_right hrw.2 hZ0.le) hZb

end meanfield

/-- two states, the likelihood vanishes on the first; the supported region is {1}; one warm-up batch and one annealing step
    to β = 1 with the identity kernel: the mean-field evidence is `Σ p·L = 1/2 · 2 = 1` -/
example :
    mfZ (fun x : {x : Fin 2 // 0 < (fun i : Fin 2 => if i = 0 then (0 : ℝ) else 2) x} => (if x.1 = 0 then (0 : ℝ) else 2))
      (mfRun (fun x : {x : Fin 2 // 0 < (fun i : Fin 2 => if i = 0 then (0 : ℝ) else 2) x} => (if x.1 = 0 then (0 : ℝ) else 2))
        [⟨4, 0, piB (fun _ => (1 / 2 : ℝ)) (fun x => if x.1 = 0 then (0 : ℝ) else 2) 0,
          ∑ _x : {x : Fin 2 // 0 < (fun i : Fin 2 => if i = 0 then (0 : ℝ) else 2) x}, (1 / 2 : ℝ)⟩]
        [(1, fun x y => if x = y then 1 else 0, 4)]) 1
      = ∑ x : Fin 2, (1 / 2 : ℝ) * (if x = 0 then (0 : ℝ) else 2) :=
  (C11_meanfield_supported (fun _ : Fin 2 => (1 / 2 : ℝ)) (fun i => if i = 0 then 0 else 2) (by intro x; norm_num)
    ⟨1, by simp, by norm_num⟩ (by intro x; split <;> norm_num) 4 (by norm_num)
    [(1, fun x y => if x = y then 1 else 0, 4)]
    (by
      intro st hst
      simp only [List.mem_singleton] at hst
      subst hst
      exact ⟨fun y => by simp only [mul_ite, mul_one, mul_zero, Finset.sum_ite_eq', Finset.mem_univ, if_true],
        by norm_num⟩)).2

example : Real.exp (Props.C04.specRaw ([⟨0, Real.log (1 / 2), [-1, -2]⟩, ⟨1 / 2, -1, [-3 / 10]⟩] : List (Batch ℝ)) 1 (-1))
    = mfW Real.exp (toM [⟨0, Real.log (1 / 2), [-1, -2]⟩, ⟨1 / 2, -1, [-3 / 10]⟩]) 1 (-1) :=
  C11_weight_is_mfW _ ⟨by simp, by intro b hb; simp at hb; rcases hb with rfl | rfl <;> simp⟩ 1 (-1)

example (p L : Fin 3 → ℝ) (β : ℝ) :
    mfZ L (warmHist (piB p L 0) (run batchZ [] [(4, 2), (4, 4), (8, 4)])) β
      = reweightZ (run batchZ [] [(4, 2), (4, 4), (8, 4)]) / Zf p L 0 * Zf p L β :=
  C11_final_tracks_warmup_evidence p L _ (by simp [run]) (by
    intro r hr
    simp only [run, List.nil_append, List.cons_append, List.mem_cons, List.mem_nil_iff, or_false] at hr
    rcases hr with rfl | rfl | rfl <;> norm_num) β

end Props.C11
