import TempestVerif.Model.ModeStatsNum
import TempestVerif.Lemmas.ScReal
import TempestVerif.Lemmas.GaussJordan
import TempestVerif.Lemmas.CholeskyPD
import TempestVerif.Lemmas.CholFactor
import TempestVerif.Lemmas.KernelOfFn
import TempestVerif.Lemmas.KernelGeom
import TempestVerif.Lemmas.Maha
import TempestVerif.Lemmas.OptionList
import TempestVerif.Props.C03

/-
  C03, clause 15 — the `ModeStatistics` hypotheses (H_modes) discharged for an executable model of the constructor.

  `Model/ModeStatsNum.lean` models `ModeStatistics.__init__` (tempest/modes.py:58-107) statement by statement, including
  `np.linalg.cholesky` (row-by-row `potrf`, `chol`) and `np.linalg.inv` (`Model.Student.inv`).  The constructor is inverted once
  (`init_eq_of_shapes`, `init_eq_ok`) and every statement about a constructed object goes through that.  The capstone is
  `C03_init_modes_satisfy_H_modes`: every record handed to the kernel model satisfies what `Props/C03.lean` §9 assumes, given only
  that the covariances are symmetric.
-/
namespace Props.C03
open Matrix Model.ModeStatsNum
open Lemmas.GaussJordan (matOf matOf_injective inv_matOf_posDef inv_matOf_eq inv_shape)
open Lemmas.CholeskyPD (IsCholeskyFactor symLower isFactor_symLower)
open Lemmas.CholFactor Lemmas.KernelOfFn
open Lemmas.Maha Lemmas.KernelGeom Lemmas.OptionList

/-! ## 1. the model's `np.linalg.cholesky` -/
section Chol
variable {d : ℕ}

theorem C03_chol_sound (S : Matrix (Fin d) (Fin d) ℝ) (M : List (List ℝ)) (h : chol (matOf S) = some M) :
    ∃ L : Matrix (Fin d) (Fin d) ℝ, M = matOf L ∧ IsCholeskyFactor S L :=
  (chol_matOf_eq_some_iff S M).1 h

theorem C03_chol_complete (S : Matrix (Fin d) (Fin d) ℝ) (hS : S.PosDef) :
    ∃ L : Matrix (Fin d) (Fin d) ℝ, chol (matOf S) = some (matOf L) ∧ IsCholeskyFactor S L :=
  ⟨cholMat S, chol_matOf_posDef S hS, cholMat_isFactor S (piv_pos_of_posDef S hS)⟩

theorem C03_chol_unique (S L : Matrix (Fin d) (Fin d) ℝ) (h : IsCholeskyFactor S L) :
    chol (matOf S) = some (matOf L) :=
  (chol_matOf_eq_some_iff S _).2 ⟨L, rfl, h⟩

/-- `potrf` semantics: only the lower triangle of the argument is read -/
theorem C03_chol_reads_lower_only (S : Matrix (Fin d) (Fin d) ℝ) : chol (matOf S) = chol (matOf (symLower S)) :=
  Option.ext fun M => by simp only [chol_matOf_eq_some_iff, isFactor_symLower]

/-- `LinAlgError` of `cholesky` ⇔ the symmetric matrix with the argument's lower triangle is not positive definite -/
theorem C03_chol_isSome_iff (S : Matrix (Fin d) (Fin d) ℝ) : (chol (matOf S)).isSome = true ↔ (symLower S).PosDef := by
  constructor
  · intro h
    obtain ⟨M, hM⟩ := Option.isSome_iff_exists.1 h
    obtain ⟨L, -, hL⟩ := C03_chol_sound S M hM
    exact Lemmas.CholeskyPD.posDef_of_factor S L hL
  · intro h
    rw [C03_chol_reads_lower_only, chol_matOf_posDef _ h]; rfl

theorem chol_matOf_eq_none_iff (S : Matrix (Fin d) (Fin d) ℝ) : chol (matOf S) = none ↔ ¬ (symLower S).PosDef := by
  rw [← C03_chol_isSome_iff]
  cases chol (matOf S) <;> simp

end Chol

/-! ## 2. the `ModeStatistics` hypotheses of the kernel theorems hold of the model's own output -/
section Hyp
variable {d : ℕ}
open Model.Student (inv)

/-- everything the geometry theorems assume, for the model's `inv` / `chol` of a symmetric positive definite `Σ` -/
theorem C03_model_modes_hypotheses (S : Matrix (Fin d) (Fin d) ℝ) (hS : S.PosDef) :
    ∃ L : Matrix (Fin d) (Fin d) ℝ,
      chol (matOf S) = some (matOf L) ∧ inv (matOf S) = some (matOf S⁻¹) ∧
      (∀ i j, i < j → L i j = 0) ∧ (∀ i, 0 < L i i) ∧ IsUnit L.det ∧ S = L * Lᵀ ∧ S⁻¹ = (L * Lᵀ)⁻¹ := by
  obtain ⟨L, hc, hL⟩ := C03_chol_complete S hS
  have hfac : S = L * Lᵀ := by
    rw [hL.factor, Lemmas.CholeskyPD.symLower_of_isSymm S (Lemmas.CholeskyPD.isSymm_of_posDef hS)]
  exact ⟨L, hc, inv_matOf_posDef S hS, hL.lower, hL.diag_pos, hL.isUnit_det, hfac, by rw [← hfac]⟩

/-- what a successful `chol` alone certifies about a symmetric argument (no positive-definiteness hypothesis) -/
theorem C03_model_factor_of_chol (S L : Matrix (Fin d) (Fin d) ℝ) (hs : S.IsSymm) (hc : chol (matOf S) = some (matOf L)) :
    IsUnit L.det ∧ S = L * Lᵀ ∧ S.PosDef := by
  obtain ⟨L', hL', hfac⟩ := C03_chol_sound S _ hc
  have : L = L' := matOf_injective hL'
  subst this
  refine ⟨hfac.isUnit_det, ?_,
    Lemmas.CholeskyPD.posDef_of_factor_of_isSymm S L hs hfac⟩
  rw [hfac.factor, Lemmas.CholeskyPD.symLower_of_isSymm S hs]

/-- any left inverse (what a correct `np.linalg.inv` returns, in exact arithmetic) is the model's answer -/
theorem C03_inv_unique (S X : Matrix (Fin d) (Fin d) ℝ) (hS : S.PosDef) (hX : X * S = 1) :
    inv (matOf S) = some (matOf X) := by
  rw [inv_matOf_posDef S hS, Matrix.inv_eq_left_inv hX]

end Hyp

/-! ## 3. … and of the executable kernel model's lists (`Model.Kernel.qform`, `tpcnProposal`, `rwmProposal`) -/
section KernelLists
variable {d : ℕ}
open Model.Student (inv)
open Model.Kernel

/-- the kernel model's `dot_product = diff @ inv_covs[k] @ diff` with `inv_covs[k]` = the model's inverse is the Mahalanobis form -/
theorem C03_model_kernel_dot_is_maha (S : Matrix (Fin d) (Fin d) ℝ) (I : List (List ℝ)) (hi : inv (matOf S) = some I)
    (u μ : Fin d → ℝ) : qform (vsub (List.ofFn u) (List.ofFn μ)) I = maha S (u - μ) := by
  rw [inv_matOf_eq S I hi, vsub_ofFn, qform_matOf]; rfl

/-- **`δ ≥ 0` for the executable kernel model fed by the executable constructor model** -/
theorem C03_model_kernel_dot_nonneg (S : Matrix (Fin d) (Fin d) ℝ) (hs : S.IsSymm) (Lc I : List (List ℝ))
    (hc : chol (matOf S) = some Lc) (hi : inv (matOf S) = some I) (u μ : Fin d → ℝ) :
    0 ≤ qform (vsub (List.ofFn u) (List.ofFn μ)) I := by
  obtain ⟨L, rfl, -⟩ := C03_chol_sound S Lc hc
  obtain ⟨hu, hfac, -⟩ := C03_model_factor_of_chol S L hs hc
  rw [C03_model_kernel_dot_is_maha S I hi, hfac]
  exact C03_dot_nonneg L hu _

/-- the tpCN candidate of the list model is `μ + a (x−μ) + c L z` and the Crank–Nicolson exponent, written with the list
    model's own `dot` of the current and of the proposed point, is `c² zᵀz` -/
theorem C03_model_kernel_tpcn_exponent (S : Matrix (Fin d) (Fin d) ℝ) (hs : S.IsSymm) (Lc I : List (List ℝ))
    (hc : chol (matOf S) = some Lc) (hi : inv (matOf S) = some I) (μ x z : Fin d → ℝ) (σ s : ℝ) :
    ∃ y : Fin d → ℝ,
      tpcnProposal (List.ofFn μ) (vsub (List.ofFn x) (List.ofFn μ)) Lc σ s (List.ofFn z) = List.ofFn y ∧
      qform (vsub (List.ofFn y) (List.ofFn μ)) I - 2 * diffCoef σ * mahaCross S (x - μ) (y - μ)
          + diffCoef σ ^ 2 * qform (vsub (List.ofFn x) (List.ofFn μ)) I
        = noiseScale σ s ^ 2 * (z ⬝ᵥ z) := by
  obtain ⟨L, rfl, -⟩ := C03_chol_sound S Lc hc
  obtain ⟨hu, hfac, -⟩ := C03_model_factor_of_chol S L hs hc
  refine ⟨μ + diffCoef σ • (x - μ) + noiseScale σ s • (L *ᵥ z), ?_, ?_⟩
  · rw [vsub_ofFn, tpcnProposal_ofFn]
  · rw [C03_model_kernel_dot_is_maha S I hi, C03_model_kernel_dot_is_maha S I hi, hfac]
    exact C03_cn_exponent_is_noise_norm L hu μ x z _ _

/-- RWM: the candidate of the list model is `x + σ L z`, an increment of Mahalanobis norm `σ² zᵀz` -/
theorem C03_model_kernel_rwm_increment (S : Matrix (Fin d) (Fin d) ℝ) (hs : S.IsSymm) (Lc I : List (List ℝ))
    (hc : chol (matOf S) = some Lc) (hi : inv (matOf S) = some I) (x z : Fin d → ℝ) (σ : ℝ) :
    ∃ y : Fin d → ℝ, rwmProposal (List.ofFn x) Lc σ (List.ofFn z) = List.ofFn y ∧
      qform (vsub (List.ofFn y) (List.ofFn x)) I = σ ^ 2 * (z ⬝ᵥ z) := by
  obtain ⟨L, rfl, -⟩ := C03_chol_sound S Lc hc
  obtain ⟨hu, hfac, -⟩ := C03_model_factor_of_chol S L hs hc
  refine ⟨x + σ • (L *ᵥ z), rwmProposal_ofFn x z L σ, ?_⟩
  rw [C03_model_kernel_dot_is_maha S I hi, hfac]
  exact C03_rwm_increment_norm L hu x z σ

end KernelLists

/-! ## 4. the constructor: shapes and error classes (any scalar type) -/
section Shape
variable {α : Type} [ScT α]

theorem cholOff_length (a : List α) : ∀ (prev : List (List α)) (acc r : List α),
    cholOff a prev acc = some r → r.length = acc.length + prev.length := by
  intro prev
  induction prev with
  | nil => intro acc r h; simp [cholOff] at h; simp [← h]
  | cons lj rest ih =>
    intro acc r h
    unfold cholOff at h
    split at h
    · have := ih _ _ h
      simp at this ⊢; omega
    · simp at h

theorem cholRow_length (d : Nat) (prev : List (List α)) (a r : List α) (h : cholRow d prev a = some r)
    (hd : prev.length < d) : r.length = d := by
  unfold cholRow at h
  split at h
  · simp at h
  · rename_i off hoff
    have hl := cholOff_length a prev [] off hoff
    split at h
    · simp at h
    · simp only at h
      split at h
      · simp only [Option.some.injEq] at h
        rw [← h]; simp at hl ⊢; omega
      · simp at h

theorem cholRows_shape (d : Nat) : ∀ (as prev M : List (List α)), cholRows d as prev = some M →
    prev.length + as.length ≤ d → (∀ r ∈ prev, r.length = d) →
    M.length = prev.length + as.length ∧ ∀ r ∈ M, r.length = d := by
  intro as
  induction as with
  | nil => intro prev M h _ hp; simp [cholRows] at h; subst h; exact ⟨by simp, hp⟩
  | cons a as ih =>
    intro prev M h hle hp
    unfold cholRows at h
    split at h
    · simp at h
    · rename_i r hr
      have hrl := cholRow_length d prev a r hr (by simp at hle; omega)
      have := ih (prev ++ [r]) M h (by simp at hle ⊢; omega) (by
        intro x hx
        rcases List.mem_append.1 hx with hx | hx
        · exact hp x hx
        · simp at hx; rw [hx]; exact hrl)
      refine ⟨by rw [this.1]; simp; omega, this.2⟩

theorem chol_shape (A M : Mat α) (h : chol A = some M) : M.length = A.length ∧ ∀ r ∈ M, r.length = A.length := by
  unfold chol at h
  split at h
  · have := cholRows_shape A.length A [] M h (by simp) (by simp)
    simpa using this
  · simp at h

theorem mapOpt_eq_some_of_forall {β γ : Type} (f : β → Option γ) (g : β → γ) (l : List β)
    (h : ∀ x ∈ l, f x = some (g x)) : Model.Modes.mapOpt f l = some (l.map g) :=
  (modes_mapOpt f l).trans (mapM_eq_some_map f g l h)

theorem chunks_length {β : Type} (len : Nat) : ∀ (n : Nat) (xs : List β), (chunks len n xs).length = n := by
  intro n
  induction n with
  | zero => intro xs; rfl
  | succ n ih => intro xs; simp [chunks, ih]

theorem chunks_mem_length {β : Type} (len : Nat) : ∀ (n : Nat) (xs : List β), n * len ≤ xs.length →
    ∀ c ∈ chunks len n xs, c.length = len := by
  intro n
  induction n with
  | zero => intro xs _ c hc; simp [chunks] at hc
  | succ n ih =>
    intro xs h c hc
    have h' : n * len + len ≤ xs.length := by rw [Nat.succ_mul] at h; exact h
    simp only [chunks, List.mem_cons] at hc
    rcases hc with rfl | hc
    · simp; omega
    · exact ih (xs.drop len) (by simp; omega) c hc

@[simp] theorem reshapeCovs_data {β : Type} (c : NDArr β) : (reshapeCovs c).data = c.data := by
  unfold reshapeCovs; split <;> rfl
@[simp] theorem reshapeMeans_data {β : Type} (c : NDArr β) : (reshapeMeans c).data = c.data := by
  unfold reshapeMeans; split <;> rfl
@[simp] theorem reshapeDofs_data {β : Type} (c : NDArr β) : (reshapeDofs c).data = c.data := by
  unfold reshapeDofs; split <;> rfl

theorem C03_reshape_rules {β : Type} (n : Nat) (a b : Nat) :
    (reshapeMeans (⟨[n], List.replicate n (0 : Nat)⟩ : NDArr Nat)).shape = [1, n] ∧
    (reshapeCovs (⟨[a, b], []⟩ : NDArr β)).shape = [1, a, b] ∧
    (reshapeDofs (⟨[], []⟩ : NDArr β)).shape = [1] ∧
    (reshapeMeans (⟨[a, b], []⟩ : NDArr β)).shape = [a, b] ∧
    (reshapeCovs (⟨[n, a, b], []⟩ : NDArr β)).shape = [n, a, b] ∧
    (reshapeDofs (⟨[n], []⟩ : NDArr β)).shape = [n] := by
  simp [reshapeMeans, reshapeCovs, reshapeDofs, NDArr.ndim]

/-- the shapes after the reshape rules fit together: `(K, d)`, `(K, d, d)`, `(K,)` -/
def ShapesAgree {β : Type} (m c n : NDArr β) : Prop :=
  ∃ K d, (reshapeMeans m).shape = [K, d] ∧ (reshapeCovs c).shape = [K, d, d] ∧ (reshapeDofs n).shape = [K]

theorem init_eq_of_shapes (m c n : NDArr α) (lab : Option (List Nat)) {K d : Nat}
    (hm : (reshapeMeans m).shape = [K, d]) (hc : (reshapeCovs c).shape = [K, d, d]) (hn : (reshapeDofs n).shape = [K]) :
    init m c n lab = match factorise (matrices K d c.data) with
      | none => .linAlgError
      | some (is, ls) => .ok { means := reshapeMeans m, covariances := reshapeCovs c, dofs := reshapeDofs n,
                               labels := lab, invCovs := is, cholCovs := ls } := by
  unfold init
  simp only [hm, hc, hn, bne_self_eq_false, Bool.false_eq_true, if_false, reshapeCovs_data]
  cases factorise (matrices K d c.data) <;> rfl

/-- **`ValueError` exactly when the shapes disagree** -/
theorem C03_init_valueError_iff (m c n : NDArr α) (lab : Option (List Nat)) :
    init m c n lab = .valueError ↔ ¬ ShapesAgree m c n := by
  constructor
  · rintro h ⟨K, d, hm, hc, hn⟩
    rw [init_eq_of_shapes m c n lab hm hc hn] at h
    split at h <;> simp at h
  · intro h
    unfold init
    simp only
    split
    · rename_i K d hm
      by_cases hc : (reshapeCovs c).shape = [K, d, d]
      · by_cases hn : (reshapeDofs n).shape = [K]
        · exact absurd ⟨K, d, hm, hc, hn⟩ h
        · simp [hc, hn]
      · simp [hc]
    · rfl

theorem factorise_eq_some (mats is ls : List (Mat α)) :
    factorise mats = some (is, ls) ↔ mats.mapM Model.Student.inv = some is ∧ mats.mapM chol = some ls := by
  rw [factorise, modes_mapOpt, modes_mapOpt]
  cases mats.mapM Model.Student.inv <;> cases mats.mapM chol <;> simp

theorem matrices_length {β : Type} (K d : Nat) (data : List β) : (matrices K d data).length = K := by
  simp [matrices, chunks_length]

theorem matrices_mem_length {β : Type} (K d : Nat) (data : List β) : ∀ A ∈ matrices K d data, A.length = d := by
  intro A hA
  simp only [matrices, List.mem_map] at hA
  obtain ⟨c, _, rfl⟩ := hA
  exact chunks_length d d c

theorem init_eq_ok {m c n : NDArr α} {lab : Option (List Nat)} {s : Stats α} (h : init m c n lab = .ok s) :
    (s.means = reshapeMeans m ∧ s.covariances = reshapeCovs c ∧ s.dofs = reshapeDofs n) ∧
    ∃ K d, (reshapeMeans m).shape = [K, d] ∧ (reshapeCovs c).shape = [K, d, d] ∧ (reshapeDofs n).shape = [K] ∧
      factorise (matrices K d c.data) = some (s.invCovs, s.cholCovs) := by
  by_cases hs : ShapesAgree m c n
  · obtain ⟨K, d, hm, hc, hn⟩ := hs
    rw [init_eq_of_shapes m c n lab hm hc hn] at h
    split at h
    · cases h
    · rename_i is ls hf
      obtain rfl := Res.ok.inj h
      exact ⟨⟨rfl, rfl, rfl⟩, K, d, hm, hc, hn, hf⟩
  · rw [(C03_init_valueError_iff m c n lab).2 hs] at h
    cases h

/-- **a constructed object has consistent shapes**: `K` = number of means, `n_dim` = their length, one `d × d` inverse
    and one `d × d` factor per mode -/
theorem C03_init_ok_shape (m c n : NDArr α) (lab : Option (List Nat)) (s : Stats α) (h : init m c n lab = .ok s) :
    ∃ K d, s.means.shape = [K, d] ∧ s.covariances.shape = [K, d, d] ∧ s.dofs.shape = [K] ∧
      s.K = some K ∧ s.nDim = some d ∧ (chunks d K s.means.data).length = K ∧
      s.invCovs.length = K ∧ s.cholCovs.length = K ∧
      (∀ M ∈ s.invCovs, M.length = d ∧ ∀ r ∈ M, r.length = d) ∧
      (∀ M ∈ s.cholCovs, M.length = d ∧ ∀ r ∈ M, r.length = d) := by
  obtain ⟨⟨em, ec, en⟩, K, d, hm, hc, hn, hf⟩ := init_eq_ok h
  obtain ⟨hi, hl⟩ := (factorise_eq_some _ _ _).1 hf
  rw [← em] at hm; rw [← ec] at hc; rw [← en] at hn
  refine ⟨K, d, hm, hc, hn, by rw [Stats.K, hm]; rfl, by rw [Stats.nDim, hm]; rfl, chunks_length _ _ _,
    by rw [mapM_length hi, matrices_length], by rw [mapM_length hl, matrices_length], fun M hM => ?_, fun M hM => ?_⟩
  · obtain ⟨A, hA, hAM⟩ := mapM_mem hi hM
    exact matrices_mem_length K d _ A hA ▸ inv_shape A M hAM
  · obtain ⟨A, hA, hAM⟩ := mapM_mem hl hM
    exact matrices_mem_length K d _ A hA ▸ chol_shape A M hAM

/-- the constructor agrees with C14's abstract `Model.Modes.mkModeStats` instantiated with the executable `inv` / `chol`:
    on agreeing shapes it raises exactly when that one answers `none` -/
theorem C03_init_refines_mkModeStats (m c n : NDArr α) (lab : Option (List Nat)) {K d : Nat}
    (hm : (reshapeMeans m).shape = [K, d]) (hc : (reshapeCovs c).shape = [K, d, d]) (hn : (reshapeDofs n).shape = [K])
    (hwf : n.data.length = K) :
    (∃ s, init m c n lab = .ok s) ↔
      (Model.Modes.mkModeStats Model.Student.inv chol (chunks d K m.data) (matrices K d c.data) n.data).isSome = true := by
  rw [init_eq_of_shapes m c n lab hm hc hn]
  unfold Model.Modes.mkModeStats factorise
  simp only [matrices_length, chunks_length, hwf, and_self, if_true]
  cases Model.Modes.mapOpt Model.Student.inv (matrices K d c.data) with
  | none => simp
  | some is =>
    cases Model.Modes.mapOpt chol (matrices K d c.data) with
    | none => simp
    | some ls => simp

end Shape

/-! ## 5. the constructor at ℝ: `LinAlgError` exactly when a covariance is not positive definite -/
section Outcome
variable {d : ℕ}
open Model.Student (inv)

theorem factorise_matOf_posDef (Ss : List (Matrix (Fin d) (Fin d) ℝ)) (hpd : ∀ S ∈ Ss, S.PosDef) :
    factorise (Ss.map matOf) = some (Ss.map fun S => matOf S⁻¹, Ss.map fun S => matOf (cholMat S)) :=
  (factorise_eq_some _ _ _).2 ⟨mapM_map_eq_some _ matOf _ Ss fun S hS => inv_matOf_posDef S (hpd S hS),
    mapM_map_eq_some _ matOf _ Ss fun S hS => chol_matOf_posDef S (hpd S hS)⟩

theorem factorise_eq_none_iff {α : Type} [ScT α] (mats : List (Mat α)) :
    factorise mats = none ↔ ∃ A ∈ mats, inv A = none ∨ chol A = none := by
  rw [factorise, modes_mapOpt, modes_mapOpt, exists_congr fun A => and_or_left, exists_or, ← mapM_eq_none_iff, ← mapM_eq_none_iff]
  cases mats.mapM inv <;> cases mats.mapM chol <;> simp

theorem factorise_matOf_none_iff_general (Ss : List (Matrix (Fin d) (Fin d) ℝ)) :
    factorise (Ss.map matOf) = none ↔ ∃ S ∈ Ss, inv (matOf S) = none ∨ ¬ (symLower S).PosDef := by
  simp only [factorise_eq_none_iff, List.mem_map, exists_exists_and_eq_and, chol_matOf_eq_none_iff]

theorem factorise_matOf_none_iff (Ss : List (Matrix (Fin d) (Fin d) ℝ)) (hsym : ∀ S ∈ Ss, S.IsSymm) :
    factorise (Ss.map matOf) = none ↔ ∃ S ∈ Ss, ¬ S.PosDef := by
  rw [factorise_matOf_none_iff_general]
  refine exists_congr fun S => and_congr_right fun hS => ?_
  rw [Lemmas.CholeskyPD.symLower_of_isSymm S (hsym S hS)]
  exact ⟨fun h => h.elim (fun hi hpd => by rw [inv_matOf_posDef S hpd] at hi; cases hi) id, Or.inr⟩

/-- **error classes and values of the constructor on validated shapes with symmetric covariances `Ss`**:
    `LinAlgError` iff some covariance is not positive definite; otherwise the object carries, per mode, the list forms of
    `Σ⁻¹` and of the Cholesky factor of `Σ` -/
theorem C03_init_outcome (m c n : NDArr ℝ) (lab : Option (List Nat)) {K : ℕ} (Ss : List (Matrix (Fin d) (Fin d) ℝ))
    (hm : (reshapeMeans m).shape = [K, d]) (hc : (reshapeCovs c).shape = [K, d, d]) (hn : (reshapeDofs n).shape = [K])
    (hdata : matrices K d c.data = Ss.map matOf) (hsym : ∀ S ∈ Ss, S.IsSymm) :
    (init m c n lab = .linAlgError ↔ ∃ S ∈ Ss, ¬ S.PosDef) ∧
    ((∃ s, init m c n lab = .ok s) ↔ ∀ S ∈ Ss, S.PosDef) ∧
    (∀ s, init m c n lab = .ok s →
      s.invCovs = Ss.map (fun S => matOf S⁻¹) ∧ s.cholCovs = Ss.map (fun S => matOf (cholMat S)) ∧
      ∀ S ∈ Ss, IsCholeskyFactor S (cholMat S) ∧ S = cholMat S * (cholMat S)ᵀ ∧ IsUnit (cholMat S).det) := by
  rw [init_eq_of_shapes m c n lab hm hc hn, hdata]
  by_cases hpd : ∀ S ∈ Ss, S.PosDef
  · rw [factorise_matOf_posDef Ss hpd]
    refine ⟨⟨fun h => by simp at h, fun ⟨S, hS, hn⟩ => absurd (hpd S hS) hn⟩, ⟨fun _ => hpd, fun _ => ⟨_, rfl⟩⟩, ?_⟩
    intro s hs
    simp only [Res.ok.injEq] at hs
    subst hs
    refine ⟨rfl, rfl, fun S hS => ?_⟩
    have hf := cholMat_isFactor S (piv_pos_of_posDef S (hpd S hS))
    refine ⟨hf, ?_, hf.isUnit_det⟩
    rw [hf.factor, Lemmas.CholeskyPD.symLower_of_isSymm S (hsym S hS)]
  · have hnone := (factorise_matOf_none_iff Ss hsym).2 (by push Not at hpd; exact hpd)
    rw [hnone]
    refine ⟨⟨fun _ => by push Not at hpd; exact hpd, fun _ => rfl⟩, ⟨fun ⟨s, hs⟩ => by simp at hs, fun h => absurd h hpd⟩, ?_⟩
    intro s hs
    simp at hs

/-- without the symmetry hypothesis: `LinAlgError` iff for some covariance the model's `inv` fails or the symmetric matrix with
    its LOWER triangle is not positive definite (what `potrf` tests) -/
theorem C03_init_linAlgError_iff_general (m c n : NDArr ℝ) (lab : Option (List Nat)) {K : ℕ}
    (Ss : List (Matrix (Fin d) (Fin d) ℝ))
    (hm : (reshapeMeans m).shape = [K, d]) (hc : (reshapeCovs c).shape = [K, d, d]) (hn : (reshapeDofs n).shape = [K])
    (hdata : matrices K d c.data = Ss.map matOf) :
    init m c n lab = .linAlgError ↔ ∃ S ∈ Ss, inv (matOf S) = none ∨ ¬ (symLower S).PosDef := by
  rw [init_eq_of_shapes m c n lab hm hc hn, hdata, ← factorise_matOf_none_iff_general]
  cases factorise (Ss.map matOf) <;> simp

/-! ### the hand-over to the kernel model -/

theorem zipModes_getElem? {α : Type} [ScT α] : ∀ (mus : List (List α)) (ls is : List (Mat α)) (nus : List α) (k : ℕ)
    (md : Model.Kernel.Mode α), (zipModes mus ls is nus)[k]? = some md →
      mus[k]? = some md.mu ∧ ls[k]? = some md.chol ∧ is[k]? = some md.invcov ∧ nus[k]? = some md.nu := by
  intro mus ls is nus
  fun_induction zipModes mus ls is nus with
  | case1 mu mus l ls i is nu nus ih =>
    intro k md h
    cases k with
    | zero => exact Option.some.inj h ▸ ⟨rfl, rfl, rfl, rfl⟩
    | succ k => exact ih k md h
  | case2 => exact fun _ _ h => by cases h

theorem zipModes_length {α : Type} [ScT α] : ∀ (K : ℕ) (mus : List (List α)) (ls is : List (Mat α)) (nus : List α),
    mus.length = K → ls.length = K → is.length = K → nus.length = K → (zipModes mus ls is nus).length = K
  | 0, [], _, _, _, _, _, _, _ => rfl
  | K + 1, _ :: mus, _ :: ls, _ :: is, _ :: nus, h1, h2, h3, h4 =>
    congrArg (· + 1) (zipModes_length K mus ls is nus (Nat.succ.inj h1) (Nat.succ.inj h2) (Nat.succ.inj h3)
      (Nat.succ.inj h4))

/-- one kernel `Mode` record per mode, assembled from row `k` of the means, factor `k`, inverse `k`, dof `k` -/
theorem C03_kernelModes_spec {α : Type} [ScT α] (m c n : NDArr α) (lab : Option (List Nat)) (s : Stats α)
    (h : init m c n lab = .ok s) (hwf : n.wf = true) :
    ∃ K d, s.means.shape = [K, d] ∧ s.kernelModes.length = K ∧
      ∀ (k : ℕ) (md : Model.Kernel.Mode α), s.kernelModes[k]? = some md →
        (chunks d K s.means.data)[k]? = some md.mu ∧ s.cholCovs[k]? = some md.chol ∧
        s.invCovs[k]? = some md.invcov ∧ s.dofs.data[k]? = some md.nu := by
  obtain ⟨K, d, hm, -, hn, -, -, hmu, hi, hl, -, -⟩ := C03_init_ok_shape m c n lab s h
  have hdofs : s.dofs.data.length = K := by
    rw [(init_eq_ok h).1.2.2] at hn ⊢
    -- well-formedness of the dof array as given, through the reshape rule
    rw [reshapeDofs_data, show n.data.length = prod n.shape from beq_iff_eq.mp hwf]
    unfold reshapeDofs at hn
    split at hn
    · rename_i h0
      rw [List.length_eq_zero_iff.mp (beq_iff_eq.mp h0), ← (List.cons.inj hn).1]
      rfl
    · rw [hn]; exact Nat.mul_one K
  refine ⟨K, d, hm, ?_, ?_⟩
  · unfold Stats.kernelModes
    rw [hm]
    exact zipModes_length K _ _ _ _ hmu hl hi hdofs
  · intro k md hk
    unfold Stats.kernelModes at hk
    rw [hm] at hk
    exact zipModes_getElem? _ _ _ _ k md hk

/-- **capstone**: every `Mode` record the constructor model hands to the kernel model satisfies H_modes — its `chol` is a
    lower-triangular invertible `L` with positive diagonal, `Σ = L Lᵀ`, its `invcov` is `Σ⁻¹`, and the kernel model's own
    quadratic form `dot` is non-negative — with no hypothesis left except that the covariances are symmetric
    (positive definiteness follows from the constructor not having raised) -/
theorem C03_init_modes_satisfy_H_modes (m c n : NDArr ℝ) (lab : Option (List Nat)) {K : ℕ}
    (Ss : List (Matrix (Fin d) (Fin d) ℝ))
    (hm : (reshapeMeans m).shape = [K, d]) (hc : (reshapeCovs c).shape = [K, d, d]) (hn : (reshapeDofs n).shape = [K])
    (hdata : matrices K d c.data = Ss.map matOf) (hsym : ∀ S ∈ Ss, S.IsSymm) (hwf : n.wf = true)
    (s : Stats ℝ) (h : init m c n lab = .ok s) :
    s.kernelModes.length = K ∧
    ∀ (k : ℕ) (md : Model.Kernel.Mode ℝ), s.kernelModes[k]? = some md →
      ∃ (S L : Matrix (Fin d) (Fin d) ℝ), Ss[k]? = some S ∧ S.PosDef ∧ md.chol = matOf L ∧ md.invcov = matOf S⁻¹ ∧
        (∀ i j, i < j → L i j = 0) ∧ (∀ i, 0 < L i i) ∧ IsUnit L.det ∧ S = L * Lᵀ ∧ S⁻¹ = (L * Lᵀ)⁻¹ ∧
        ∀ u μ : Fin d → ℝ,
          Model.Kernel.qform (Model.Kernel.vsub (List.ofFn u) (List.ofFn μ)) md.invcov = maha S (u - μ) ∧
          0 ≤ Model.Kernel.qform (Model.Kernel.vsub (List.ofFn u) (List.ofFn μ)) md.invcov := by
  obtain ⟨-, ⟨hok, -⟩, hval⟩ := C03_init_outcome m c n lab Ss hm hc hn hdata hsym
  have hpd := hok ⟨s, h⟩
  obtain ⟨hinv, hchol, hfac⟩ := hval s h
  obtain ⟨K', d', hm', hlen, hspec⟩ := C03_kernelModes_spec m c n lab s h hwf
  have hK : K' = K := by
    rw [(init_eq_ok h).1.1, hm] at hm'
    exact (List.cons.inj hm').1.symm
  refine ⟨by rw [hlen, hK], ?_⟩
  intro k md hk
  obtain ⟨-, hl, hi, -⟩ := hspec k md hk
  rw [hchol, List.getElem?_map] at hl
  rw [hinv, List.getElem?_map] at hi
  cases hS : Ss[k]? with
  | none => simp [hS] at hl
  | some S =>
    simp only [hS, Option.map_some, Option.some.injEq] at hl hi
    have hmem : S ∈ Ss := List.mem_of_getElem? hS
    obtain ⟨hf, hmul, hunit⟩ := hfac S hmem
    have hiS : Model.Student.inv (matOf S) = some md.invcov := by rw [← hi]; exact inv_matOf_posDef S (hpd S hmem)
    have hcS : chol (matOf S) = some md.chol := by rw [← hl]; exact chol_matOf_posDef S (hpd S hmem)
    refine ⟨S, cholMat S, rfl, hpd S hmem, hl.symm, hi.symm, hf.lower, hf.diag_pos, hunit, hmul, by rw [← hmul], ?_⟩
    intro u μ
    exact ⟨C03_model_kernel_dot_is_maha S _ hiS u μ, C03_model_kernel_dot_nonneg S (hsym S hmem) _ _ hcS hiS u μ⟩

end Outcome

/-! ## 6. non-vacuity -/
section Examples

def exS : Matrix (Fin 3) (Fin 3) ℝ := !![4, 2, -2; 2, 5, 1; -2, 1, 3]
def exL : Matrix (Fin 3) (Fin 3) ℝ := !![2, 0, 0; 1, 2, 0; -1, 1, 1]

theorem exS_symm : exS.IsSymm := by
  ext i j; fin_cases i <;> fin_cases j <;> rfl

theorem exFactor : IsCholeskyFactor exS exL where
  lower := by intro i j h; fin_cases i <;> fin_cases j <;> first | rfl | exact absurd h (by decide)
  diag_pos := by intro i; fin_cases i <;> simp [exL]
  factor := by
    rw [Lemmas.CholeskyPD.symLower_of_isSymm exS exS_symm]
    ext i j
    fin_cases i <;> fin_cases j <;> simp [exS, exL, Matrix.mul_apply, Fin.sum_univ_three] <;> norm_num

theorem exS_posDef : exS.PosDef := Lemmas.CholeskyPD.posDef_of_factor_of_isSymm exS exL exS_symm exFactor

example : chol (matOf exS) = some (matOf exL) := C03_chol_unique exS exL exFactor
example : ∃ L, matOf exL = matOf L ∧ IsCholeskyFactor exS L := C03_chol_sound exS _ (C03_chol_unique exS exL exFactor)
example : ∃ L, chol (matOf exS) = some (matOf L) ∧ IsCholeskyFactor exS L := C03_chol_complete exS exS_posDef
example : (chol (matOf exS)).isSome = true :=
  (C03_chol_isSome_iff exS).2 ((Lemmas.CholeskyPD.symLower_of_isSymm exS exS_symm).symm ▸ exS_posDef)
example : ∃ L : Matrix (Fin 3) (Fin 3) ℝ, chol (matOf exS) = some (matOf L) ∧
    Model.Student.inv (matOf exS) = some (matOf exS⁻¹) ∧ (∀ i j, i < j → L i j = 0) ∧ (∀ i, 0 < L i i) ∧ IsUnit L.det ∧
    exS = L * Lᵀ ∧ exS⁻¹ = (L * Lᵀ)⁻¹ := C03_model_modes_hypotheses exS exS_posDef
example (v : Fin 3 → ℝ) : 0 ≤ maha exS v := by
  obtain ⟨hu, hfac, -⟩ := C03_model_factor_of_chol exS exL exS_symm (C03_chol_unique exS exL exFactor)
  rw [hfac]; exact C03_dot_nonneg exL hu v
example : maha exS ((![1, 0, 2] + (1/2 : ℝ) • (exL *ᵥ ![1, -1, 3])) - ![1, 0, 2]) = (1/2) ^ 2 * (![1, -1, 3] ⬝ᵥ ![1, -1, 3]) := by
  obtain ⟨hu, hfac, -⟩ := C03_model_factor_of_chol exS exL exS_symm (C03_chol_unique exS exL exFactor)
  rw [hfac]; exact C03_rwm_increment_norm exL hu _ _ _

/-- the upper triangle is not read: a matrix with garbage above the diagonal gets the same factor -/
def exAsym : Matrix (Fin 3) (Fin 3) ℝ := !![4, 99, 7; 2, 5, -8; -2, 1, 3]
example : chol (matOf exAsym) = some (matOf exL) := by
  have h : symLower exAsym = exS := by
    ext i j; fin_cases i <;> fin_cases j <;> simp [symLower, exAsym, exS]
  rw [C03_chol_reads_lower_only, h]
  exact C03_chol_unique exS exL exFactor

/-- an indefinite symmetric matrix: `LinAlgError` -/
def exIndef : Matrix (Fin 2) (Fin 2) ℝ := !![1, 2; 2, 1]
theorem exIndef_symm : exIndef.IsSymm := by ext i j; fin_cases i <;> fin_cases j <;> rfl
theorem exIndef_not_posDef : ¬ exIndef.PosDef := by
  intro h
  have := h.dotProduct_mulVec_pos (x := ![1, -1]) (by intro h0; have := congrFun h0 0; simp at this)
  simp [exIndef, dotProduct, Matrix.mulVec, Fin.sum_univ_two] at this
example : chol (matOf exIndef) = none := by
  cases h : chol (matOf exIndef) with
  | none => rfl
  | some M =>
    exact absurd (Lemmas.CholeskyPD.symLower_of_isSymm exIndef exIndef_symm ▸ (C03_chol_isSome_iff exIndef).1 (by rw [h]; rfl))
      exIndef_not_posDef

/-- the constructor with all three reshape rules firing: 1-D mean, 2-D covariance, scalar dof -/
noncomputable def exMeans : NDArr ℝ := ⟨[3], [1/2, 1/4, 3/4]⟩
noncomputable def exCovs : NDArr ℝ := ⟨[3, 3], [4, 2, -2, 2, 5, 1, -2, 1, 3]⟩
noncomputable def exDof : NDArr ℝ := ⟨[], [5/2]⟩

theorem exData : matrices 1 3 exCovs.data = [exS].map matOf := by
  simp [matrices, chunks, exCovs, matOf, exS, List.ofFn_succ]

theorem exSymm : ∀ S ∈ [exS], S.IsSymm := fun _ hS => List.mem_singleton.mp hS ▸ exS_symm

example : ∃ s, init exMeans exCovs exDof none = .ok s ∧ s.K = some 1 ∧ s.nDim = some 3 ∧
    s.cholCovs = [matOf (cholMat exS)] ∧ s.invCovs = [matOf exS⁻¹] := by
  obtain ⟨-, ⟨-, hok⟩, hval⟩ := C03_init_outcome exMeans exCovs exDof none [exS] rfl rfl rfl exData exSymm
  obtain ⟨s, hs⟩ := hok fun _ hS => List.mem_singleton.mp hS ▸ exS_posDef
  obtain ⟨K, d, hm', -, -, hK, hd, -⟩ := C03_init_ok_shape _ _ _ _ s hs
  obtain ⟨rfl, rfl⟩ : 1 = K ∧ 3 = d := by
    rw [(init_eq_ok hs).1.1] at hm'
    exact ⟨(List.cons.inj hm').1, (List.cons.inj (List.cons.inj hm').2).1⟩
  exact ⟨s, hs, hK, hd, (hval s hs).2.1, (hval s hs).1⟩

/-- the capstone on this input: ONE kernel record, whose factor / inverse are those of `exS`, with a non-negative `dot` -/
example (s : Stats ℝ) (h : init exMeans exCovs exDof none = .ok s) :
    s.kernelModes.length = 1 ∧ ∀ md, s.kernelModes[0]? = some md →
      md.invcov = matOf exS⁻¹ ∧ ∀ u μ : Fin 3 → ℝ,
        0 ≤ Model.Kernel.qform (Model.Kernel.vsub (List.ofFn u) (List.ofFn μ)) md.invcov := by
  obtain ⟨hlen, hall⟩ := C03_init_modes_satisfy_H_modes exMeans exCovs exDof none [exS] rfl rfl rfl exData exSymm rfl s h
  refine ⟨hlen, fun md hmd => ?_⟩
  obtain ⟨S, L, hS, -, -, hinv, -, -, -, -, -, hq⟩ := hall 0 md hmd
  obtain rfl : exS = S := Option.some.inj hS
  exact ⟨hinv, fun u μ => (hq u μ).2⟩

/-- a covariance of the wrong dimension: `ValueError` (first validation); a dof vector of the wrong length: `ValueError` -/
example : init exMeans (⟨[2, 2], [1, 0, 0, 1]⟩ : NDArr ℝ) exDof none = .valueError := by
  rw [C03_init_valueError_iff]
  rintro ⟨K, d, hm, hc, -⟩
  simp [reshapeMeans, reshapeCovs, exMeans, NDArr.ndim] at hm hc
  omega
example : init exMeans exCovs (⟨[2], [3, 3]⟩ : NDArr ℝ) none = .valueError := by
  rw [C03_init_valueError_iff]
  rintro ⟨K, d, hm, -, hn⟩
  simp [reshapeMeans, reshapeDofs, exMeans, NDArr.ndim] at hm hn
  omega
/-- a 0-d `means` cannot be unpacked into `K, n_dim`: `ValueError` -/
example : init (⟨[], [1]⟩ : NDArr ℝ) exCovs exDof none = .valueError := by
  rw [C03_init_valueError_iff]
  rintro ⟨K, d, hm, -, -⟩
  simp [reshapeMeans, NDArr.ndim] at hm

/-- an indefinite covariance: `LinAlgError` -/
example : init (⟨[2], [0, 0]⟩ : NDArr ℝ) (⟨[2, 2], [1, 2, 2, 1]⟩ : NDArr ℝ) exDof none = .linAlgError := by
  refine (C03_init_outcome (d := 2) (K := 1) _ _ _ none [exIndef] (by simp [reshapeMeans, NDArr.ndim])
    (by simp [reshapeCovs, NDArr.ndim]) (by simp [reshapeDofs, exDof, NDArr.ndim])
    (by simp [matrices, chunks, matOf, exIndef, List.ofFn_succ])
    (by intro S hS; simp at hS; subst hS; exact exIndef_symm)).1.2 ⟨exIndef, by simp, exIndef_not_posDef⟩

end Examples

end Props.C03
