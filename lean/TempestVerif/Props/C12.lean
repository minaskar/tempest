import TempestVerif.Model.Run
import TempestVerif.Model.Posterior
import TempestVerif.Gen.Tables
import TempestVerif.Gen.Constants
import TempestVerif.Lemmas.ScReal
import TempestVerif.Lemmas.Records
import TempestVerif.Lemmas.Posterior
import TempestVerif.Props.C06Loop
import TempestVerif.Lemmas.Trim
/-
  C12 — run() postconditions and the posterior()/evidence() contract.
  Termination of run() is NOT claimed (liveness); `loop` returns `none` when the fuel runs out.

  run() here on the abstract loop: first with state, ESS and evidence as parameters under frame hypotheses, then with the guard computed
  from the stored log-weights; the whole `run_sampling` with its entry and `execute_iteration` inside the model is `Props/C12Run.lean`.
  posterior(): `compute_posterior` is read as two optional stages (gather every array with an index vector, replace the weights);
  optional blobs and the return tuple are in `Props/C12PostX.lean`.
-/
namespace Props.C12
open Model.Run Model.Posterior Model.Records

/-! ### run(): what holds when it returns -/

/-- the exit tolerance regenerated from `_not_termination` is the double nearest to 1e-4 -/
theorem C12_term_tol :
    Gen.Constants.TERM_BETA_TOLNum = 7378697629483821 ∧ Gen.Constants.TERM_BETA_TOLDen = 73786976294838206464 := by
  decide

noncomputable def termTol : ℝ := (Gen.Constants.TERM_BETA_TOLNum : ℝ) / (Gen.Constants.TERM_BETA_TOLDen : ℝ)

theorem termTol_eq : termTol = (7378697629483821 / 8192 : ℝ) / 2 ^ 53 := by
  unfold termTol; rw [C12_term_tol.1, C12_term_tol.2]; norm_num

theorem termTol_le : termTol ≤ 1.0001e-4 := by
  rw [termTol_eq]; norm_num

/-- structure of run_sampling regenerated from source: the loop body is one `execute_iteration`,
    the guard compares `ess < n_total`, and the evidence is recomputed at beta = 1 right after the loop -/
theorem C12_run_structure :
    Gen.Constants.RUN_LOOP_BODY = "execute_iteration" ∧ Gen.Constants.TERM_ESS_CMP = "lt_n_total" ∧
    Gen.Constants.RUN_EPILOGUE_Z1 = 1 := by decide

/-- regenerated from `_not_termination`: the ESS of the loop guard is computed from `compute_logw_and_logz(1.0)`, i.e. from the
    posterior (beta = 1) weights over the whole history, with the temperature passed explicitly -/
theorem C12_gen_guard_weights_at_one : Gen.Constants.GUARD_WEIGHTS_AT_ONE = 1 := by decide

/-- C12 (run): if `run` returns, then 1 − β < 1.0001e-4 (an upper bound of the regenerated tolerance, `termTol_le`), the ESS of the posterior
    weights over the whole history is at least `n_total`, and the stored evidence is the
    mixture-importance-sampling evidence at β = 1 recomputed from the final history. -/
theorem C12_run_post {S : Type} (beta ess : S → ℝ) (nTotal : ℝ) (iter : S → S)
    (z1 : S → ℝ) (setLogz : S → ℝ → S) (getLogz : S → ℝ)
    (hget : ∀ s v, getLogz (setLogz s v) = v)
    (hbeta : ∀ s v, beta (setLogz s v) = beta s) (hess : ∀ s v, ess (setLogz s v) = ess s)
    (hz : ∀ s v, z1 (setLogz s v) = z1 s)
    (fuel : Nat) (s0 sf : S)
    (h : runSampling (fun s => notTerm termTol (beta s) (ess s) nTotal) iter z1 setLogz fuel s0 = some sf) :
    1 - beta sf < 1.0001e-4 ∧ nTotal ≤ ess sf ∧ getLogz sf = z1 sf := by
  simp only [runSampling, Option.map_eq_some_iff] at h
  obtain ⟨s', hl, rfl⟩ := h
  have hp := (loop_post _ _ _ _ _ hl).1
  rw [notTerm_false_iff] at hp
  refine ⟨?_, ?_, ?_⟩
  · rw [hbeta]; exact lt_of_lt_of_le hp.1 termTol_le
  · rw [hess]; exact hp.2
  · rw [hget, hz]

/-! ### run(): the guard with the ESS computed from the stored history, on a concrete state -/

/-- for a `β` that a double in `[1/2, 2]` can hold (an integer multiple of 2^-53) — or any `β < 1/2` — the exit test
    against the double nearest to 1e-4 decides exactly `1 − β < 1e-4`: no multiple of 2^-53 lies between the two -/
theorem C12_tol_exact_for_doubles (beta : ℝ) (h : beta < 1 / 2 ∨ ∃ m : ℤ, beta = (m : ℝ) / 2 ^ 53) :
    1 - beta < termTol ↔ 1 - beta < 1e-4 := by
  rcases h with h | ⟨m, rfl⟩
  · -- `1 − β > 1/2` is above both thresholds
    have h1 : (1 : ℝ) / 2 < 1 - beta := by linarith
    exact ⟨fun h' => absurd (h1.trans h') (not_lt.2 (termTol_le.trans (by norm_num))),
      fun h' => absurd (h1.trans h') (by norm_num)⟩
  · -- `1 − β = k / 2^53` for an integer `k`; both tests then say `k ≤ 900719925474`
    have e : (1 : ℝ) - (m : ℝ) / 2 ^ 53 = ((2 ^ 53 - m : ℤ) : ℝ) / 2 ^ 53 := by
      push_cast; rw [sub_div]; norm_num
    have hE : (1e-4 : ℝ) = (9007199254740992 / 10000 : ℝ) / 2 ^ 53 := by norm_num
    rw [e, termTol_eq, hE, div_lt_div_iff_of_pos_right (by positivity), div_lt_div_iff_of_pos_right (by positivity),
      lt_div_iff₀ (by norm_num), lt_div_iff₀ (by norm_num)]
    generalize (2 ^ 53 - m : ℤ) = k
    norm_cast
    omega

/-- the ESS the loop guard tests (of the un-normalised `exp(logw − max)`) IS the ESS of the weights `posterior()`
    returns without trimming -/
theorem C12_guard_ess_is_posterior_ess (x : ℝ) (xs : List ℝ) :
    Model.Ess.ess (Model.Ess.normalise (expShift x xs)) = Model.Ess.ess (expShift x xs) :=
  ess_weights_eq_guard x xs

/-- C12 (run), concrete: on the state record (history, β, logz) with the guard computed from the stored history as the
    code does, whenever `run` returns: 1 − β is below the double 1e-4, the history is non-empty, the ESS of the posterior
    weights over the whole history (the vector `posterior(trim_importance_weights=False)` returns) is at least `n_total`,
    and the stored evidence is `Z(1)` of that very history.  No frame hypotheses: `set_current("logz")` is the record update. -/
theorem C12_run_post_concrete {H : Type} (nTotal : ℝ) (logw1 : H → List ℝ) (z1 : H → ℝ)
    (iter : RunState H ℝ → RunState H ℝ) (fuel : Nat) (s0 sf : RunState H ℝ)
    (h : runConcrete termTol nTotal logw1 z1 iter fuel s0 = some sf) :
    1 - sf.beta < termTol ∧
    (∃ w0, weights0 (logw1 sf.hist) = some w0 ∧ w0.length = (logw1 sf.hist).length ∧ nTotal ≤ Model.Ess.ess w0 ∧
        1 ≤ Model.Ess.ess w0 ∧ Model.Ess.ess w0 ≤ w0.length) ∧
    sf.logz = z1 sf.hist ∧ ∃ k, k ≤ fuel ∧ sf.hist = (iter^[k] s0).hist := by
  obtain ⟨s', hl, rfl⟩ := Option.map_eq_some_iff.1 h
  obtain ⟨hp, k, hk, hit⟩ := loop_post _ _ _ _ _ hl
  obtain ⟨-, hb, w0, hw0, hlen, -, -, hess, he1, he2⟩ := notTermination_false _ _ _ _ hp
  have hh : s'.hist = (iter^[k] s0).hist := congrArg RunState.hist hit
  exact ⟨hb, ⟨w0, hw0, hlen, hess, he1, he2⟩, rfl, k, hk, hh⟩

/-! ### posterior(): equal lengths, row alignment, weights -/

def AllPost (fields : List String) : Prop :=
  fields.contains "x" = true ∧ fields.contains "logl" = true ∧ fields.contains "blobs" = true ∧
  fields.contains "logw" = true

variable {X L B W α : Type}

def RowOf (r : Arrs X L B W α) (k : Nat) (a : Arrs X L B W α) (i : Nat) : Prop :=
  r.x[k]? = a.x[i]? ∧ r.l[k]? = a.l[i]? ∧ r.b[k]? = a.b[i]? ∧ r.lw[k]? = a.lw[i]?

def SameLen (a : Arrs X L B W α) (n : Nat) : Prop :=
  a.x.length = n ∧ a.l.length = n ∧ a.b.length = n ∧ a.lw.length = n ∧ a.w.length = n

theorem SameLen.b {a : Arrs X L B W α} {n : Nat} (h : SameLen a n) : a.b.length = n := h.2.2.1
theorem SameLen.lw {a : Arrs X L B W α} {n : Nat} (h : SameLen a n) : a.lw.length = n := h.2.2.2.1
theorem SameLen.w {a : Arrs X L B W α} {n : Nat} (h : SameLen a n) : a.w.length = n := h.2.2.2.2

theorem gatherArrs_rows {fields : List String} (hf : AllPost fields) {idx : List Nat}
    {a r : Arrs X L B W α} (h : gatherArrs fields idx a = some r) :
    r.x.length = idx.length ∧ r.l.length = idx.length ∧ r.b.length = idx.length ∧
    r.lw.length = idx.length ∧ r.w = a.w ∧ ∀ k i, idx[k]? = some i → RowOf r k a i := by
  obtain ⟨h1, h2, h3, h4⟩ := hf
  simp only [gatherArrs, h1, h2, h3, h4, if_true] at h
  split at h
  · rename_i x l b lw hx hl hb hlw
    injection h with h; subst h
    refine ⟨Model.Records.gather?_length hx, Model.Records.gather?_length hl, Model.Records.gather?_length hb,
      Model.Records.gather?_length hlw, rfl, ?_⟩
    intro k i hk
    exact ⟨Model.Records.gather?_get hx k i hk, Model.Records.gather?_get hl k i hk,
      Model.Records.gather?_get hb k i hk, Model.Records.gather?_get hlw k i hk⟩
  · cases h

/-- one optional stage of `compute_posterior`: every array gathered with `idx`, the weights replaced by `w'` -/
def stage (fields : List String) (idx : List Nat) (w' : List α) (a : Arrs X L B W α) : Option (Arrs X L B W α) :=
  (gatherArrs fields idx a).map fun a' => { a' with w := w' }

theorem body_eq_stages (tf rf : List String) (trimFn : List α → List Nat × List α) (resFn : List α → List Nat)
    (uniform : Nat → List α) (o : Opts) (a : Arrs X L B W α) :
    body tf rf trimFn resFn uniform o a =
      (if o.trim then stage tf (trimFn a.w).1 (trimFn a.w).2 a else some a).bind fun a1 =>
        if o.resample then stage rf (resFn a1.w) (uniform (resFn a1.w).length) a1 else some a1 := rfl

/-- the part of `Model.Posterior.posterior` after the weights were computed, for any trimming / resampling routine: both index
    vectors are drawn first (the resampling one from the trimmed weights), then the two optional stages run -/
def tailP (tf rf : List String) (trimFn : List α → Option (List Nat × List α)) (resFn : List α → Option (List Nat))
    (uniform : Nat → List α) (o : Opts) (w0 : List α) (a : Arrs X L B α α) : Option (Arrs X L B α α) :=
  (if o.trim then trimFn w0 else some ([], [])).bind fun t =>
  (if o.resample then resFn (if o.trim then t.2 else w0) else some []).bind fun ridx =>
  (if o.trim then stage tf t.1 t.2 { a with w := w0 } else some { a with w := w0 }).bind fun a1 =>
    if o.resample then stage rf ridx (uniform ridx.length) a1 else some a1

theorem posterior_eq_tailP [ScT α] (tf rf : List String) (e : α) (bins : Nat) (u0 : α) (o : Opts) (a : Arrs X L B α α) :
    posterior tf rf e bins u0 o a = (weights0 a.lw).bind fun w0 =>
      tailP tf rf (fun w => Model.Trim.trim (List.range w.length) w e bins) (fun w => Model.Resample.systematic w.length w u0)
        uniformW o w0 a := rfl

def RowsOf (r a : Arrs X L B W α) (m : Nat) : Prop := SameLen r m ∧ ∀ k, k < m → ∃ i, RowOf r k a i

theorem rowsOf_refl {a : Arrs X L B W α} {n : Nat} (ha : SameLen a n) : RowsOf a a n :=
  ⟨ha, fun k _ => ⟨k, rfl, rfl, rfl, rfl⟩⟩

theorem rowsOf_stage {fields : List String} (hf : AllPost fields) {idx : List Nat} {w' : List α} {a r : Arrs X L B W α}
    (hw : w'.length = idx.length) (h : stage fields idx w' a = some r) : RowsOf r a idx.length := by
  obtain ⟨a', hg, rfl⟩ := Option.map_eq_some_iff.1 h
  obtain ⟨lx, ll, lb, llw, -, rows⟩ := gatherArrs_rows hf hg
  exact ⟨⟨lx, ll, lb, llw, hw⟩, fun k hk => ⟨_, rows k _ (List.getElem?_eq_getElem hk)⟩⟩

theorem RowOf.lt {r a : Arrs X L B W α} {k i : Nat} (h : RowOf r k a i) (hk : k < r.lw.length) : i < a.lw.length := by
  by_contra hcon
  have h1 : r.lw[k]? = none := h.2.2.2.trans (List.getElem?_eq_none (not_lt.1 hcon))
  rw [List.getElem?_eq_getElem hk] at h1
  cases h1

theorem rowsOf_trans {r a1 a : Arrs X L B W α} {m m1 : Nat} (h2 : RowsOf r a1 m) (h1 : RowsOf a1 a m1) : RowsOf r a m := by
  refine ⟨h2.1, fun k hk => ?_⟩
  obtain ⟨j, hj⟩ := h2.2 k hk
  obtain ⟨i, hi⟩ := h1.2 j (h1.1.lw ▸ hj.lt (h2.1.lw.symm ▸ hk))
  exact ⟨i, hj.1.trans hi.1, hj.2.1.trans hi.2.1, hj.2.2.1.trans hi.2.2.1, hj.2.2.2.trans hi.2.2.2⟩

/-- C12 (posterior): for EVERY combination of `resample` / `trim_importance_weights` and every
    trimming and resampling routine that returns as many weights as indices, all arrays have one length
    and every output row is — in x, logl, blobs and logw alike — one and the same particle of the
    stored history. -/
theorem C12_posterior_aligned {trimFields resFields : List String}
    (ht : AllPost trimFields) (hr : AllPost resFields)
    (trimFn : List α → List Nat × List α) (resFn : List α → List Nat) (uniform : Nat → List α)
    (htrim : ∀ w, (trimFn w).2.length = (trimFn w).1.length)
    (hunif : ∀ n, (uniform n).length = n)
    (o : Opts) {a r : Arrs X L B W α} {n : Nat} (ha : SameLen a n)
    (h : body trimFields resFields trimFn resFn uniform o a = some r) :
    (∃ m, SameLen r m) ∧ ∀ k, k < r.x.length → ∃ i, RowOf r k a i := by
  rw [body_eq_stages] at h
  obtain ⟨a1, h1, h2⟩ := Option.bind_eq_some_iff.1 h
  obtain ⟨m1, st1⟩ : ∃ m1, RowsOf a1 a m1 := by
    split at h1
    · exact ⟨_, rowsOf_stage ht (htrim _) h1⟩
    · cases h1; exact ⟨n, rowsOf_refl ha⟩
  obtain ⟨m, st2⟩ : ∃ m, RowsOf r a1 m := by
    split at h2
    · exact ⟨_, rowsOf_stage hr (hunif _) h2⟩
    · cases h2; exact ⟨m1, rowsOf_refl st1.1⟩
  obtain ⟨hs, hrows⟩ := rowsOf_trans st2 st1
  exact ⟨⟨m, hs⟩, fun k hk => hrows k (hs.1 ▸ hk)⟩

theorem C12_posterior_resample_uniform {trimFields resFields : List String}
    (trimFn : List α → List Nat × List α) (resFn : List α → List Nat) (uniform : Nat → List α)
    (o : Opts) (ho : o.resample = true) {a r : Arrs X L B W α}
    (h : body trimFields resFields trimFn resFn uniform o a = some r) :
    ∃ n, r.w = uniform n := by
  rw [body_eq_stages] at h
  obtain ⟨a1, -, h2⟩ := Option.bind_eq_some_iff.1 h
  rw [if_pos ho, stage] at h2
  obtain ⟨a', -, rfl⟩ := Option.map_eq_some_iff.1 h2
  exact ⟨_, rfl⟩

/-- `weights /= np.sum(weights)`: non-negative and sums to one whenever the sum is positive -/
theorem C12_weights_normalised (w : List ℝ) (hw : ∀ x ∈ w, 0 ≤ x) (hs : 0 < w.sum) :
    (w.map (· / w.sum)).sum = 1 ∧ ∀ x ∈ w.map (· / w.sum), 0 ≤ x := by
  obtain ⟨h1, h2, -⟩ := Model.Ess.wn_facts w hw hs
  rw [Model.Ess.normalise_def] at h1 h2
  exact ⟨h1, h2⟩

/-! ### obligations on the tables regenerated from compute_posterior -/

/-- both branches gather x, logl, blobs AND logw with their index vector -/
theorem C12_gather_tables_complete :
    AllPost Gen.Tables.posteriorTrimGather ∧ AllPost Gen.Tables.posteriorResampleGather := by
  refine ⟨⟨?_, ?_, ?_, ?_⟩, ⟨?_, ?_, ?_, ?_⟩⟩ <;> decide

/-- the four return tuples are exactly the model's, and every returned particle array is gathered in both branches -/
theorem C12_return_tuples :
    Gen.Tables.posteriorReturns =
      [returnNames true ⟨false, false, true, true⟩, returnNames true ⟨false, false, true, false⟩,
       returnNames true ⟨false, false, false, true⟩, returnNames true ⟨false, false, false, false⟩] ∧
    ∀ t ∈ Gen.Tables.posteriorReturns, ∀ name ∈ t, name = "weights" ∨
      (name ∈ Gen.Tables.posteriorTrimGather ∧ name ∈ Gen.Tables.posteriorResampleGather) :=
  ⟨rfl, by decide⟩

theorem C12_posterior_aligned_gen
    (trimFn : List α → List Nat × List α) (resFn : List α → List Nat) (uniform : Nat → List α)
    (htrim : ∀ w, (trimFn w).2.length = (trimFn w).1.length) (hunif : ∀ n, (uniform n).length = n)
    (o : Opts) {a r : Arrs X L B W α} {n : Nat} (ha : SameLen a n)
    (h : body Gen.Tables.posteriorTrimGather Gen.Tables.posteriorResampleGather trimFn resFn uniform o a = some r) :
    (∃ m, SameLen r m) ∧ ∀ k, k < r.x.length → ∃ i, RowOf r k a i :=
  C12_posterior_aligned C12_gather_tables_complete.1 C12_gather_tables_complete.2 trimFn resFn uniform htrim hunif o ha h

/-! ### posterior(): the whole routine with the modelled trimming (C20) and systematic resampling (C06) -/

theorem gatherArrs_some (fields : List String) (idx : List Nat) (a : Arrs X L B W α) (n : Nat)
    (ha : SameLen a n) (h : ∀ i ∈ idx, i < n) : ∃ r, gatherArrs fields idx a = some r := by
  obtain ⟨h1, h2, h3, h4, -⟩ := ha
  -- each of the four arrays is either gathered with in-range indices or left alone
  have key : ∀ {σ : Type} (xs : List σ) (b : Bool), xs.length = n →
      ∃ v, (if b then gather? xs idx else some xs) = some v := by
    intro σ xs b hl
    cases b
    · exact ⟨_, rfl⟩
    · exact gather?_isSome xs idx (hl ▸ h)
  obtain ⟨v1, e1⟩ := key a.x (fields.contains "x") h1
  obtain ⟨v2, e2⟩ := key a.l (fields.contains "logl") h2
  obtain ⟨v3, e3⟩ := key a.b (fields.contains "blobs") h3
  obtain ⟨v4, e4⟩ := key a.lw (fields.contains "logw") h4
  unfold gatherArrs
  rw [e1, e2, e3, e4]
  exact ⟨_, rfl⟩

theorem trim_range_facts (w : List ℝ) (h0 : ∀ y ∈ w, 0 ≤ y) (hs : w.sum = 1) (e : ℝ) (bins : Nat) (hb : 0 < bins) :
    ∃ idx w', Model.Trim.trim (List.range w.length) w e bins = some (idx, w') ∧ idx.length = w'.length ∧
      (∀ i ∈ idx, i < w.length) ∧ (∀ y ∈ w', 0 ≤ y) ∧ w'.sum = 1 := by
  obtain ⟨θ, hpos, h, _⟩ := Model.Trim.trim_valid (List.range w.length) w e bins h0 (hs ▸ one_pos) hb
  rw [Model.Ess.normalise_of_sum_one w hs] at h hpos
  have hsub := Model.Trim.filterMask_sublist (List.range w.length) (w.map fun x => Sc.le θ x)
  refine ⟨_, _, h, ?_, fun i hi => List.mem_range.mp (hsub.subset hi),
    Model.Ess.normalise_def _ ▸ ScReal.div_sum_nonneg (fun y hy => h0 y (List.mem_filter.mp hy).1) hpos.le,
    Model.Ess.sum_normalise _ hpos.ne'⟩
  rw [Model.Ess.length_normalise, ← Model.Trim.mask_le_eq_filter]
  exact Model.Trim.filterMask_length_eq _ _ _ List.length_range

theorem syst_facts (w : List ℝ) (hne : w ≠ []) (u0 : ℝ) :
    ∃ idx, Model.Resample.systematic w.length w u0 = some idx ∧ idx.length = w.length ∧ ∀ i ∈ idx, i < w.length := by
  obtain ⟨c0, t, _, h2⟩ := Model.Resample.systematicWith_some (Sc.sum w) w.length w u0 hne
  exact ⟨_, h2, Props.C06.C06_syst_length _ _ _ _ _ h2, Props.C06.C06_syst_range _ _ _ _ _ h2⟩

theorem uniformW_facts (n : Nat) (hn : 0 < n) :
    (uniformW n : List ℝ) = List.replicate n (1 / (n : ℝ)) ∧
      (∀ y ∈ (uniformW n : List ℝ), 0 ≤ y) ∧ (uniformW n : List ℝ).sum = 1 := by
  have e : (uniformW n : List ℝ) = List.replicate n (1 / (n : ℝ)) := by simp [uniformW]
  refine ⟨e, ?_, by rw [e, List.sum_replicate, nsmul_eq_mul, mul_one_div, div_self (Nat.cast_ne_zero.2 hn.ne')]⟩
  intro y hy
  rw [e] at hy
  rw [List.eq_of_mem_replicate hy]
  positivity

theorem stage_post {fields : List String} (hf : AllPost fields) {a0 a1 : Arrs X L B W α} {m1 : Nat} (h1 : RowsOf a1 a0 m1)
    {idx : List Nat} {w' : List α} (hidx : ∀ i ∈ idx, i < m1) (hw : w'.length = idx.length) :
    ∃ r, stage fields idx w' a1 = some r ∧ RowsOf r a0 idx.length ∧ r.w = w' := by
  obtain ⟨g, hg⟩ := gatherArrs_some fields idx a1 m1 h1.1 hidx
  have hr : stage fields idx w' a1 = some { g with w := w' } := by rw [stage, hg]; rfl
  exact ⟨_, hr, rowsOf_trans (rowsOf_stage hf hw hr) h1, rfl⟩

/-- **C12 (posterior), the whole routine.**  On any non-empty stored history (arrays of one length `n`, `logw` the vector
    of `compute_logw_and_logz(1.0)`), for EVERY combination of `resample` / `trim_importance_weights` (the two `return_*`
    flags only select among the arrays, `C12_return_tuples`), every real `ess_trim` (also > 1: the loop stops at the bottom of
    the grid, /repo 8ceb8ba), every `bins_trim ≥ 1` and every value
    `u0` of the resampling offset, `compute_posterior` with the modelled `trim_weights` (C20) and `systematic_resample`
    (C06): does not raise; returns arrays of ONE positive length `m`; every returned row is — in x, logl, blobs and logw
    alike — one and the same stored particle; the weights are non-negative and sum to one; with resampling they are
    exactly `1/m` each. -/
theorem C12_posterior_contract {trimFields resFields : List String}
    (ht : AllPost trimFields) (hr : AllPost resFields)
    (e : ℝ) (bins : Nat) (hb : 0 < bins) (u0 : ℝ) (o : Opts)
    (a : Arrs X L B ℝ ℝ) (hne : a.lw ≠ [])
    (hx : a.x.length = a.lw.length) (hl : a.l.length = a.lw.length) (hbl : a.b.length = a.lw.length) :
    ∃ r, posterior trimFields resFields e bins u0 o a = some r ∧
      ∃ m, 0 < m ∧ SameLen r m ∧ (∀ k, k < m → ∃ i, i < a.lw.length ∧ RowOf r k a i) ∧
        (∀ y ∈ r.w, 0 ≤ y) ∧ r.w.sum = 1 ∧ (o.resample = true → r.w = List.replicate m (1 / (m : ℝ))) := by
  obtain ⟨w0, hw0, hlen, hnn, hsum⟩ := weights0_facts a.lw hne
  have hnil : ∀ w : List ℝ, w.sum = 1 → w ≠ [] := by rintro _ h rfl; exact zero_ne_one h
  have R0 : RowsOf ({ a with w := w0 } : Arrs X L B ℝ ℝ) { a with w := w0 } a.lw.length :=
    rowsOf_refl ⟨hx, hl, hbl, rfl, hlen⟩
  obtain ⟨t, a1, m1, htdef, hs1, R1, hw1, hnn1, hsum1⟩ : ∃ (t : List Nat × List ℝ) (a1 : Arrs X L B ℝ ℝ) (m1 : Nat),
      (if o.trim then Model.Trim.trim (List.range w0.length) w0 e bins else some ([], [])) = some t ∧
      (if o.trim then stage trimFields t.1 t.2 { a with w := w0 } else some { a with w := w0 }) = some a1 ∧
      RowsOf a1 { a with w := w0 } m1 ∧ a1.w = (if o.trim then t.2 else w0) ∧ (∀ y ∈ a1.w, 0 ≤ y) ∧ a1.w.sum = 1 := by
    by_cases hto : o.trim = true
    · obtain ⟨tidx, tw, htr, htl, htrange, htnn, htsum⟩ := trim_range_facts w0 hnn hsum e bins hb
      obtain ⟨a1, hs, R1, hw⟩ := stage_post ht R0 (idx := tidx) (w' := tw) (fun i hi => hlen ▸ htrange i hi) htl.symm
      exact ⟨(tidx, tw), a1, _, by rw [if_pos hto, htr], by rw [if_pos hto]; exact hs, R1, by rw [if_pos hto, hw],
        hw ▸ htnn, hw ▸ htsum⟩
    · exact ⟨([], []), _, _, by rw [if_neg hto], by rw [if_neg hto], R0, by rw [if_neg hto], hnn, hsum⟩
  obtain ⟨ridx, r, m, hrdef, hs2, R2, hnn2, hsum2, hres⟩ : ∃ (ridx : List Nat) (r : Arrs X L B ℝ ℝ) (m : Nat),
      (if o.resample then Model.Resample.systematic a1.w.length a1.w u0 else some []) = some ridx ∧
      (if o.resample then stage resFields ridx (uniformW ridx.length) a1 else some a1) = some r ∧
      RowsOf r { a with w := w0 } m ∧ (∀ y ∈ r.w, 0 ≤ y) ∧ r.w.sum = 1 ∧
      (o.resample = true → r.w = List.replicate m (1 / (m : ℝ))) := by
    by_cases hro : o.resample = true
    · obtain ⟨ridx, hrs, hrl, hrr⟩ := syst_facts a1.w (hnil _ hsum1) u0
      obtain ⟨r, hs, R2, hw⟩ := stage_post hr R1 (idx := ridx) (w' := uniformW ridx.length)
        (fun i hi => R1.1.w ▸ hrr i hi) (by simp [uniformW])
      obtain ⟨ue, unn, usum⟩ := uniformW_facts ridx.length (hrl ▸ List.length_pos_iff.2 (hnil _ hsum1))
      exact ⟨ridx, r, _, by rw [if_pos hro, hrs], by rw [if_pos hro]; exact hs, R2, hw ▸ unn, hw ▸ usum, fun _ => hw.trans ue⟩
    · exact ⟨[], a1, m1, by rw [if_neg hro], by rw [if_neg hro], R1, hnn1, hsum1, fun h => absurd h hro⟩
  have hpost : posterior trimFields resFields e bins u0 o a = some r := by
    rw [posterior_eq_tailP, hw0, Option.bind_some, tailP, htdef, Option.bind_some]
    simp only [← hw1]
    rw [hrdef, Option.bind_some, hs1, Option.bind_some]
    exact hs2
  obtain ⟨hsl, hrows⟩ := R2
  refine ⟨r, hpost, m, ?_, hsl, fun k hk => ?_, hnn2, hsum2, hres⟩
  · rw [← hsl.w]; exact List.length_pos_iff.2 (hnil _ hsum2)
  · obtain ⟨i, hi⟩ := hrows k hk
    exact ⟨i, hi.lt (hsl.lw.symm ▸ hk), hi⟩

theorem C12_posterior_contract_gen (e : ℝ) (bins : Nat) (hb : 0 < bins) (u0 : ℝ) (o : Opts)
    (a : Arrs X L B ℝ ℝ) (hne : a.lw ≠ [])
    (hx : a.x.length = a.lw.length) (hl : a.l.length = a.lw.length) (hbl : a.b.length = a.lw.length) :
    ∃ r, posterior Gen.Tables.posteriorTrimGather Gen.Tables.posteriorResampleGather e bins u0 o a = some r ∧
      ∃ m, 0 < m ∧ SameLen r m ∧ (∀ k, k < m → ∃ i, i < a.lw.length ∧ RowOf r k a i) ∧
        (∀ y ∈ r.w, 0 ≤ y) ∧ r.w.sum = 1 ∧ (o.resample = true → r.w = List.replicate m (1 / (m : ℝ))) :=
  C12_posterior_contract C12_gather_tables_complete.1 C12_gather_tables_complete.2 e bins hb u0 o a hne hx hl hbl

/-! ### non-vacuity -/
example :
    (body Gen.Tables.posteriorTrimGather Gen.Tables.posteriorResampleGather
      (fun _ => ([0, 2, 3], [5, 3, 2])) (fun _ => [1, 1, 2]) (fun n => List.replicate n 7)
      ⟨true, true, true, true⟩
      (⟨[10, 11, 12, 13], [20, 21, 22, 23], [30, 31, 32, 33], [40, 41, 42, 43], [1, 2, 3, 4]⟩ : Arrs Nat Nat Nat Nat Nat)).map
      (fun r => (r.x, r.l, r.b, r.lw, r.w))
      = some ([12, 12, 13], [22, 22, 23], [32, 32, 33], [42, 42, 43], [7, 7, 7]) := by decide

example : loop (fun s : Nat => decide (s < 3)) (· + 1) 10 0 = some 3 := by decide

/-- non-vacuity of `C12_tol_exact_for_doubles`: `1 − β = 900719925474·2^-53` is the largest multiple of 2^-53 below both thresholds -/
example : (1 : ℝ) - ((9007199254740992 - 900719925474 : ℤ) : ℝ) / 2 ^ 53 < termTol :=
  (C12_tol_exact_for_doubles _ (Or.inr ⟨_, rfl⟩)).mpr (by norm_num)

/-- … and the next multiple of 2^-53 is on the other side of BOTH thresholds -/
example : ¬ ((1 : ℝ) - ((9007199254740992 - 900719925475 : ℤ) : ℝ) / 2 ^ 53 < termTol) := by
  rw [C12_tol_exact_for_doubles _ (Or.inr ⟨_, rfl⟩)]; norm_num

/-- non-vacuity of `C12_run_post_concrete`: a run that starts on an empty history (guard: continue), commits one
    particle with β = 1 and then stops; the hypotheses of the theorem are met by this run -/
example : ∃ sf, runConcrete termTol (1 : ℝ) (fun h : List ℝ => h) (fun h => h.sum)
    (fun s => ⟨[0], 1, s.logz⟩) 1 ⟨[], 0, 5⟩ = some sf ∧ sf.hist = [0] ∧ sf.logz = 0 := by
  refine ⟨⟨[0], 1, 0⟩, ?_, rfl, rfl⟩
  have hs : notTermination termTol (1 : ℝ) ([0] : List ℝ) 1 = false := by
    simp only [notTermination]
    rw [notTerm_false_iff]
    refine ⟨by rw [termTol_eq]; norm_num, ?_⟩
    rw [Model.Ess.ess_def]; simp [Model.Ess.maxOf_nil]
  have hs0 : notTermination termTol (0 : ℝ) ([] : List ℝ) 1 = true := rfl
  simp only [runConcrete, runSampling, loop, hs0, hs, if_true, RunState.setLogz]
  simp

/-- non-vacuity of `C12_posterior_contract_gen`: three stored particles, trimming and resampling on -/
example : ∃ r, posterior Gen.Tables.posteriorTrimGather Gen.Tables.posteriorResampleGather (0.99 : ℝ) 1000 0.5
      ⟨true, true, true, true⟩ (⟨[10, 11, 12], [20, 21, 22], [30, 31, 32], [-1, 0, -2], []⟩ : Arrs Nat Nat Nat ℝ ℝ) = some r ∧
      ∃ m, 0 < m ∧ SameLen r m ∧ r.w = List.replicate m (1 / (m : ℝ)) := by
  obtain ⟨r, h, m, hm, hl, _, _, _, hu⟩ := C12_posterior_contract_gen (X := Nat) (L := Nat) (B := Nat) (0.99 : ℝ) 1000
    (by norm_num) 0.5 ⟨true, true, true, true⟩ ⟨[10, 11, 12], [20, 21, 22], [30, 31, 32], [-1, 0, -2], []⟩ (by simp) rfl rfl rfl
  exact ⟨r, h, m, hm, hl, hu rfl⟩

end Props.C12
