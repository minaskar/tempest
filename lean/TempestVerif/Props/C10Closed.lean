import TempestVerif.Model.ClosedLoop
import TempestVerif.Lemmas.ScReal
import TempestVerif.Lemmas.PipelineShift
import TempestVerif.Lemmas.PipelineEx
import TempestVerif.Props.C10World
import TempestVerif.Lemmas.ClosedLoop
import TempestVerif.Props.C04
import TempestVerif.Lemmas.Reweight
/-
  C10 on the CLOSED-LOOP model (`Model.ClosedLoop`): the run on `ℓ + c` is DERIVED to be the shift of the run on `ℓ`.

  `Props/C10.lean` compares a run on a tape `t` with a run on `shiftTape c t`: that the shifted real run consumes the
  shifted tape (same proposals, same number of accept/reject steps, same number of iterations) is a hypothesis there.
  Here the proposals come from `World.propose` applied to the mode statistics, the adapted step sizes and the random
  stream; the number of steps from the model of `_check_convergence`; the number of iterations from the model of
  `_not_termination`; the only thing that differs between the two worlds is `like`.
-/
namespace Props.C10
open Model.ClosedLoop Model.Pipeline Model.Weights Model.Reweight Model.Records Model.Resample
open Lemmas.PipelineShift Lemmas.Pipeline Lemmas.ClosedLoop
open Lemmas.OptionList (bind_map_comm)
open Props.C04 (WF shiftH shiftB)

variable {P MS TS G : Type}

/-! ## The run on `ℓ + c` -/

/-- the world of the run on `ℓ + c`: the SAME prior, trainer, proposal generator, random stream — only the
    log-likelihood differs (−inf + c = −inf) -/
def shiftW (c : ℝ) (W : World ℝ P MS TS G) : World ℝ P MS TS G :=
  { W with like := fun p => (W.like p).map (· + c) }

def shiftCB (c : ℝ) (b : CBatch ℝ P) : CBatch ℝ P :=
  { b with logz := b.logz + b.beta * c, logl := b.logl.map (· + c) }

/-- same records, β, ESS, counters, assignments, clusterer and stream; `ℓ + c`, `z_t + β_t c` -/
def shiftCS (c : ℝ) (s : CState ℝ P TS G) : CState ℝ P TS G :=
  { s with hist := s.hist.map (shiftCB c), logz := s.logz + s.beta * c, curL := s.curL.map (· + c) }

def shiftCO (c : ℝ) (o : CIterOut ℝ P) : CIterOut ℝ P :=
  { o with logzRw := o.logzRw + o.beta * c, logz := o.logz + o.beta * c }

theorem batchesOf_shift (c : ℝ) (h : List (CBatch ℝ P)) :
    batchesOf (h.map (shiftCB c)) = shiftH c (batchesOf h) := by
  simp [batchesOf, shiftH, shiftCB, shiftB, toBatch, List.map_map, Function.comp_def]

theorem poolOf_shift (c : ℝ) (h : List (CBatch ℝ P)) : poolOf (h.map (shiftCB c)) = poolOf h := by
  simp [poolOf, shiftCB, List.flatMap_map]

theorem shiftCS_commit (c : ℝ) (s : CState ℝ P TS G) : shiftCS c (commit s) = commit (shiftCS c s) := by
  simp [commit, shiftCS, shiftCB]

theorem poolOf_shiftCS (c : ℝ) (s : CState ℝ P TS G) : poolOf (shiftCS c s).hist = poolOf s.hist :=
  poolOf_shift c s.hist

theorem WFC_shift (c : ℝ) (s : CState ℝ P TS G) (hs : WFC s) : WFC (shiftCS c s) := by
  intro b hb
  simp only [shiftCS, List.mem_map] at hb
  obtain ⟨b', hb', rfl⟩ := hb
  simpa [shiftCB] using hs b' hb'

theorem shiftCS_init (c : ℝ) (ts : TS) (g : G) :
    shiftCS c (Model.ClosedLoop.init ts g : CState ℝ P TS G) = Model.ClosedLoop.init ts g := by
  simp [shiftCS, Model.ClosedLoop.init]

/-! ### reweighting, both metric modes -/

/-- the metric oracle of EITHER mode does not see the shift: the weights `exp(logw − max)` are identical, hence the ESS,
    hence the arguments of `volume_variation` -/
theorem oracleMV_shift (W : World ℝ P MS TS G) (vv : Option ℝ) (pool : List P) (h : List (Batch ℝ)) (hwf : WF h)
    (c β : ℝ) : oracleMV (shiftW c W) vv pool (shiftH c h) β = oracleMV W vv pool h β := by
  simp only [oracleMV, oracleM_shift h hwf c β, shiftW]

theorem C10_cl_reweight (W : World ℝ P MS TS G) (cfg : CCfg ℝ) (c : ℝ) (s : CState ℝ P TS G) (hs : WFC s) :
    reweightStep (shiftW c W) cfg (shiftCS c s)
      = { reweightStep W cfg s with logz := (reweightStep W cfg s).logz + (reweightStep W cfg s).beta * c } := by
  rw [reweightStep_eq, reweightStep_eq]
  simp only [shiftCS, batchesOf_shift, poolOf_shift, List.isEmpty_map]
  have hwf := fun he : s.hist.isEmpty = false => WF_of_isEmpty (WF_batchesOf s hs) ((batchesOf_isEmpty s.hist).trans he)
  exact Model.Reweight.reweight_shift_gen cfg.rw _ _ _ _ _ c
    (fun he => funext (oracleMV_shift W cfg.rw.vv (poolOf s.hist) (batchesOf s.hist) (hwf he) c))
    (fun he => oracleZ_shift (batchesOf s.hist) (hwf he) c) isFin s.beta

/-! ### accept/reject -/

/-- one walker: the acceptance probability (so whatever the σ-adaptation reads) and the decision are identical;
    the retained log-likelihood is the shifted one -/
theorem C10_cl_stepOne (W : World ℝ P MS TS G) (c β : ℝ) (pt : P) (l : ℝ) (q : P × ℝ × Bool) (r : ℝ) :
    stepOne (shiftW c W) β pt (l + c) q r
      = ((stepOne W β pt l q r).1, (stepOne W β pt l q r).2.1 + c, (stepOne W β pt l q r).2.2.1,
         (stepOne W β pt l q r).2.2.2) := by
  unfold stepOne
  by_cases hq : q.2.2 = true
  · simp only [hq, if_true, shiftW]
    cases hl : W.like q.1 with
    | none => simp
    | some lp =>
      simp only [Option.map_some, acceptProb_shift]
      split <;> simp
  · simp [hq]

theorem C10_cl_stepAll (W : World ℝ P MS TS G) (c β : ℝ) : ∀ (pts : List P) (ls : List ℝ) (qs : List (P × ℝ × Bool))
    (rs : List ℝ),
    stepAll (shiftW c W) β pts (ls.map (· + c)) qs rs
      = ((stepAll W β pts ls qs rs).1, (stepAll W β pts ls qs rs).2.1.map (· + c), (stepAll W β pts ls qs rs).2.2.1,
         (stepAll W β pts ls qs rs).2.2.2) := by
  intro pts ls qs rs
  fun_induction stepAll W β pts ls qs rs with
  | case1 pt pts l ls q qs r rs x y ih => simp only [List.map_cons, stepAll, ih, C10_cl_stepOne, x, y]
  | case2 pts ls qs rs h =>
    -- a list that has run out has run out after the map as well
    rw [stepAll.eq_2]
    intro pt pts' l ls' q qs' r rs' h1 h2 h3 h4
    obtain ⟨l0, ls0, rfl, _, _⟩ := List.map_eq_cons_iff.mp h2
    exact h _ _ _ _ _ _ _ _ h1 rfl h3 h4

def shiftMC (c : ℝ) (m : MC ℝ P G) : MC ℝ P G := { m with logl := m.logl.map (· + c) }

/-- the whole mutation loop: the shifted run asks `propose` for the same proposals (same mode statistics, same σ's,
    same current records, same stream state), draws the same uniforms, adapts the σ's identically and stops after
    the same number of steps -/
theorem C10_cl_mcLoop (W : World ℝ P MS TS G) (cfg : CCfg ℝ) (ms : MS) (c β : ℝ) (asg : List Nat) :
    ∀ (fuel : Nat) (st : MC ℝ P G),
    mcLoop (shiftW c W) cfg ms β asg fuel (shiftMC c st) = (mcLoop W cfg ms β asg fuel st).map (shiftMC c) := by
  intro fuel
  induction fuel with
  | zero => intro st; rfl
  | succ n ih =>
    intro st
    have e1 : (shiftW c W).propose = W.propose := rfl
    have e2 : (shiftW c W).unif = W.unif := rfl
    have e3 : (shiftW c W).nModes = W.nModes := rfl
    simp only [mcLoop, shiftMC, C10_cl_stepAll, e1, e2, e3]
    split
    · rfl
    · exact ih ⟨_, _, _, _, _, _, _⟩

/-! ### the trainer, the resampler, the warm-up draw -/

/-- `trim_weights` and the clusterer / Student-t fit receive what they received in the unshifted run: the function
    `trainStep` of the shifted world IS the function of the original world (it never touches `like`), and it is applied
    to the same weights, the same pool records, the same β and iteration number -/
theorem C10_cl_trainStep (W : World ℝ P MS TS G) (cfg : CCfg ℝ) (c : ℝ) (ts : TS) (g : G) (w : List ℝ) (pool : List P)
    (β : ℝ) (iter : Nat) : trainStep (shiftW c W) cfg ts g w pool β iter = trainStep W cfg ts g w pool β iter := rfl

def shiftRes (c : ℝ) (r : Resampled ℝ P G) : Resampled ℝ P G := { r with logl := r.logl.map (· + c) }

/-- `Resampler.run`: same uniforms requested, same indices, same records gathered, same `predict` input; the gathered
    log-likelihoods are the shifted ones -/
theorem C10_cl_resample (W : World ℝ P MS TS G) (cfg : CCfg ℝ) (c : ℝ) (h : List (CBatch ℝ P)) (w : List ℝ) (ts : TS)
    (g : G) : resampleStep (shiftW c W) cfg (h.map (shiftCB c)) w ts g = (resampleStep W cfg h w ts g).map (shiftRes c) := by
  unfold resampleStep
  simp only [poolOf_shift, batchesOf_shift, Props.C04.flatLogl_shift, gather?_map]
  have e1 : (shiftW c W).resampleU = W.resampleU := rfl
  have e2 : (shiftW c W).predict = W.predict := rfl
  simp only [e1, e2]
  simp only [Option.map_bind, Option.map_map, Function.comp_def]
  congr 1

def shiftDrawn (c : ℝ) (d : Drawn ℝ P G) : Drawn ℝ P G := { d with logl := d.logl.map (· + c) }

theorem like_shift_map (W : World ℝ P MS TS G) (c : ℝ) (l : List P) :
    l.map (shiftW c W).like = (l.map W.like).map (Option.map (· + c)) := by
  simp [shiftW, List.map_map, Function.comp_def]

/-- the redraw loop: a batch is all −inf for the run on `ℓ + c` exactly when it is for the run on `ℓ` (−inf + c = −inf),
    so both runs discard the same batches, make the same number of draws and raise the ValueError together -/
theorem C10_cl_drawLoop (W : World ℝ P MS TS G) (c : ℝ) (n : Nat) : ∀ (fuel : Nat) (g : G) (drawn : Nat),
    drawLoop (shiftW c W) n fuel g drawn
      = (drawLoop W n fuel g drawn).map fun d => (d.1, d.2.1.map (Option.map (· + c)), d.2.2.1, d.2.2.2) := by
  intro fuel
  induction fuel with
  | zero => intro g drawn; simp [drawLoop]
  | succ f ih =>
    intro g drawn
    have e1 : (shiftW c W).priorDraw = W.priorDraw := rfl
    simp only [drawLoop, e1, like_shift_map, countSome_map, ih]
    split
    · split <;> simp
    · simp

/-- warm-up draw: a −inf draw of the run on `ℓ` is a −inf draw of the run on `ℓ + c`, so the same batches are discarded,
    the same positions are replaced, `np.random.choice` is called (or not) with the same arguments, `n_drawn` is the same
    and the same correction `log(n_fin/n_drawn)` is written -/
theorem C10_cl_warmup (W : World ℝ P MS TS G) (cfg : CCfg ℝ) (c : ℝ) (g : G) :
    warmupStep (shiftW c W) cfg g = (warmupStep W cfg g).map (shiftDrawn c) := by
  unfold warmupStep
  refine bind_map_comm (C10_cl_drawLoop W c _ _ _ _) fun d _ => ?_
  simp only [countSome_map, List.length_map, join_isSome_map, scatterFrom_map, allSome_map]
  split
  · split <;> (simp only [Option.map_map]; rfl)
  · simp only [Option.map_map]; rfl

/-! ### one `execute_iteration`: one shift lemma per tail of `iterate` -/

theorem warmResult_shift (cfg : CCfg ℝ) (c : ℝ) (s : CState ℝ P TS G) (r : RunOut ℝ (List ℝ)) (tr : MS × TS × G)
    (d : Drawn ℝ P G) (hb0 : r.beta = 0) :
    warmResult cfg (shiftCS c s) { r with logz := r.logz + r.beta * c } tr (shiftDrawn c d)
      = (shiftCS c (warmResult cfg s r tr d).1, shiftCO c (warmResult cfg s r tr d).2) := by
  unfold warmResult
  rw [shiftCS_commit]
  cases hz : d.logz with
  | none => simp only [shiftDrawn, hz]; rfl
  | some z =>
    -- the correction `z = log(n_fin/n_drawn)` is written by both runs; the shift of the state adds `β c = 0` to it
    have hz' : z + r.beta * c = z := by rw [hb0, zero_mul, add_zero]
    simp only [shiftDrawn, hz, shiftCS, shiftCO, hz']

theorem annealResult_shift (W : World ℝ P MS TS G) (cfg : CCfg ℝ) (c : ℝ) (s : CState ℝ P TS G) (r : RunOut ℝ (List ℝ))
    (tr : MS × TS × G) (rs : Resampled ℝ P G) (m : MC ℝ P G) :
    annealResult (shiftW c W) cfg (shiftCS c s) { r with logz := r.logz + r.beta * c } tr (shiftRes c rs) (shiftMC c m)
      = (shiftCS c (annealResult W cfg s r tr rs m).1, shiftCO c (annealResult W cfg s r tr rs m).2) := by
  unfold annealResult
  rw [shiftCS_commit, poolOf_shiftCS]
  rfl

theorem warmTail_shift (W : World ℝ P MS TS G) (cfg : CCfg ℝ) (c : ℝ) (s : CState ℝ P TS G) (r : RunOut ℝ (List ℝ))
    (tr : MS × TS × G) (hb0 : r.beta = 0) :
    Lemmas.ClosedLoop.warmTail (shiftW c W) cfg (shiftCS c s) { r with logz := r.logz + r.beta * c } tr
      = (Lemmas.ClosedLoop.warmTail W cfg s r tr).map fun p => (shiftCS c p.1, shiftCO c p.2) := by
  unfold Lemmas.ClosedLoop.warmTail
  refine bind_map_comm (C10_cl_warmup W cfg c tr.2.2) fun d _ => ?_
  rw [warmResult_shift cfg c s r tr d hb0, show (shiftDrawn c d).logl.isEmpty = d.logl.isEmpty from List.isEmpty_map]
  split <;> rfl

theorem annealTail_shift (W : World ℝ P MS TS G) (cfg : CCfg ℝ) (c : ℝ) (s : CState ℝ P TS G) (r : RunOut ℝ (List ℝ))
    (tr : MS × TS × G) :
    Lemmas.ClosedLoop.annealTail (shiftW c W) cfg (shiftCS c s) { r with logz := r.logz + r.beta * c } tr
      = (Lemmas.ClosedLoop.annealTail W cfg s r tr).map fun p => (shiftCS c p.1, shiftCO c p.2) := by
  unfold Lemmas.ClosedLoop.annealTail
  refine bind_map_comm (C10_cl_resample W cfg c s.hist _ tr.2.1 tr.2.2) fun rs _ => ?_
  rw [show (shiftRes c rs).logl.isEmpty = rs.logl.isEmpty from List.isEmpty_map]
  split
  · rfl
  · -- the mutation loop of the shifted run is the shifted loop (`C10_cl_mcLoop`), and so is what is committed
    rw [show mutate (shiftW c W) cfg r.beta tr (shiftRes c rs) = (mutate W cfg r.beta tr rs).map (shiftMC c) from
      C10_cl_mcLoop W cfg tr.1 c r.beta (W.modeIndex tr.1 rs.assign rs.pts).1 cfg.mcFuel
        ⟨0, rs.pts, rs.logl, initSigmas cfg.tpcn cfg.sigma0 (W.nModes tr.1), rs.g, [], []⟩, Option.map_map, Option.map_map]
    exact congrArg (Option.map · _) (funext fun m => annealResult_shift W cfg c s r tr rs m)

/-- **one iteration of the run on `ℓ + c` is the shift of the iteration of the run on `ℓ`** — same β, ESS, weights
    handed to trainer and resampler, same trainer input, indices, σ's, masks, records, counters, clusterer state and
    stream state; `ℓ + c` stored, evidence `+ β c`; `none` (outside the model) on one side iff on the other -/
theorem C10_cl_iterate (W : World ℝ P MS TS G) (cfg : CCfg ℝ) (c : ℝ) (s : CState ℝ P TS G) (hs : WFC s) :
    Model.ClosedLoop.iterate (shiftW c W) cfg (shiftCS c s)
      = (Model.ClosedLoop.iterate W cfg s).map fun p => (shiftCS c p.1, shiftCO c p.2) := by
  rw [Lemmas.ClosedLoop.iterate_eq, Lemmas.ClosedLoop.iterate_eq, C10_cl_reweight W cfg c s hs]
  generalize reweightStep W cfg s = r
  -- training does not see the shift (`C10_cl_trainStep`), and it runs on the same pool records
  have htr : trainStep (shiftW c W) cfg s.ts s.g (returnedWeights r.weightsTag) (poolOf (shiftCS c s).hist) r.beta (s.iter + 1)
      = (trainStep W cfg s.ts s.g (returnedWeights r.weightsTag) (poolOf s.hist) r.beta (s.iter + 1)).map id := by
    rw [poolOf_shiftCS, C10_cl_trainStep, Option.map_id, id]
  refine bind_map_comm htr fun tr _ => ?_
  by_cases hb : eqv r.beta Sc.zero = true
  · have hb0 : r.beta = 0 := (Model.Reweight.eqv_real r.beta 0).mp (by simpa using hb)
    simp only [hb, if_true]
    exact warmTail_shift W cfg c s r tr hb0
  · simp only [hb, Bool.false_eq_true, if_false]
    exact annealTail_shift W cfg c s r tr

/-! ### the termination guard, the loop, the epilogue -/

/-- `_not_termination` evaluates identically: the log-weights at β = 1 it reads are the NORMALISED ones, the ESS is
    computed from `exp(logw − max logw)`, and `1 − β ≥ 1e-4` sees the same β -/
theorem C10_cl_guard (cfg : CCfg ℝ) (c : ℝ) (s : CState ℝ P TS G) (hs : WFC s) :
    contGuard cfg (shiftCS c s) = contGuard cfg s := by
  rw [contGuard_eq, contGuard_eq]
  simp only [shiftCS, batchesOf_shift, logw_one_shift _ (WF_batchesOf s hs)]

theorem finalLogz_shift (c : ℝ) (s : CState ℝ P TS G) (hs : WFC s) :
    finalLogz (shiftCS c s) = (finalLogz s).map (· + c) := by
  simp only [finalLogz_eq, shiftCS, batchesOf_shift]
  exact logz_one_shift _ (WF_batchesOf s hs) c

/-- the evidence recomputed at β = 1 by the epilogue of `run_sampling` moves by exactly `c` -/
theorem C10_cl_finalLogz (c : ℝ) (s : CState ℝ P TS G) (hs : WFC s) (hne : s.hist ≠ []) :
    ∃ z, finalLogz s = some z ∧ finalLogz (shiftCS c s) = some (z + c) := by
  simpa only [finalLogz_eq, shiftCS, batchesOf_shift] using
    logz_one_shift_some _ (WF_of_WFC s hs hne) c

/-- **the loop `while _not_termination(): execute_iteration()`** of the run on `ℓ + c` executes the same number of
    iterations; every state at the top of the loop (what a `save_every` checkpoint captures), the final state and every
    iteration record are the shifts of those of the run on `ℓ`; both runs leave the model together -/
theorem C10_cl_runLoop (W : World ℝ P MS TS G) (cfg : CCfg ℝ) (c : ℝ) : ∀ (fuel : Nat) (s : CState ℝ P TS G), WFC s →
    runLoop (shiftW c W) cfg fuel (shiftCS c s)
      = (runLoop W cfg fuel s).map fun q => (shiftCS c q.1, q.2.1.map (shiftCS c), q.2.2.map (shiftCO c)) := by
  intro fuel
  induction fuel with
  | zero =>
    intro s hs
    simp only [runLoop, C10_cl_guard cfg c s hs]
    split <;> rfl
  | succ n ih =>
    intro s hs
    simp only [runLoop, C10_cl_guard cfg c s hs]
    split
    · refine bind_map_comm (C10_cl_iterate W cfg c s hs) fun p hi => ?_
      rw [ih p.1 (C10_cl_wellformed W cfg s p.1 p.2 hs hi), Option.map_map, Option.map_map]
      rfl
    · rfl

theorem startState_shift (c : ℝ) (s : CState ℝ P TS G) : startState (shiftCS c s) = shiftCS c (startState s) := by
  by_cases h : s.hist = []
  · rw [startState_of_nil h, startState_of_nil (s := shiftCS c s) (by simp [shiftCS, h])]
    simp [shiftCS]
  · rw [startState_of_ne_nil h, startState_of_ne_nil (s := shiftCS c s) (by simpa [shiftCS] using h)]

/-- **the whole `run_sampling` on `ℓ + c` from ANY well-formed state** — fresh (`_initialize_fresh`) or carrying committed
    history (loaded, or left by an earlier `run()`): same number of iterations, every iteration record and loop-top state
    shifted, the final `logz` — what `evidence()` returns — the old one plus exactly `c`; `none` on one side iff on the other -/
theorem C10_cl_run_from (W : World ℝ P MS TS G) (cfg : CCfg ℝ) (c : ℝ) (fuel : Nat) (s : CState ℝ P TS G) (hs : WFC s) :
    runSampling (shiftW c W) cfg fuel (shiftCS c s)
      = (runSampling W cfg fuel s).map fun q =>
          ({ shiftCS c q.1 with logz := q.1.logz + c }, q.2.1.map (shiftCS c), q.2.2.map (shiftCO c)) := by
  have hw0 := WFC_startState s hs
  unfold runSampling
  refine bind_map_comm ((congrArg _ (startState_shift c s)).trans (C10_cl_runLoop W cfg c fuel _ hw0)) fun q hl => ?_
  rw [finalLogz_shift c q.1 (runLoop_invariant W cfg WFC (C10_cl_wellformed W cfg) fuel _ q.1 q.2.1 q.2.2 hw0 hl).2.1,
    Option.map_map, Option.map_map]
  rfl

theorem C10_cl_run (W : World ℝ P MS TS G) (cfg : CCfg ℝ) (c : ℝ) (fuel : Nat) (ts : TS) (g : G) :
    runSampling (shiftW c W) cfg fuel (Model.ClosedLoop.init ts g)
      = (runSampling W cfg fuel (Model.ClosedLoop.init ts g)).map fun q =>
          ({ shiftCS c q.1 with logz := q.1.logz + c }, q.2.1.map (shiftCS c), q.2.2.map (shiftCO c)) := by
  have := C10_cl_run_from W cfg c fuel (Model.ClosedLoop.init ts g) (WFC_init ts g)
  rwa [shiftCS_init] at this

/-- `Sampler.evidence()` after the run on `ℓ + c` returns the evidence of the run on `ℓ` plus exactly `c` -/
theorem C10_cl_run_evidence (W : World ℝ P MS TS G) (cfg : CCfg ℝ) (c : ℝ) (fuel : Nat) (ts : TS) (g : G)
    (sf : CState ℝ P TS G) (tr : List (CState ℝ P TS G)) (os : List (CIterOut ℝ P))
    (h : runSampling W cfg fuel (Model.ClosedLoop.init ts g) = some (sf, tr, os)) :
    ∃ sf', runSampling (shiftW c W) cfg fuel (Model.ClosedLoop.init ts g)
        = some (sf', tr.map (shiftCS c), os.map (shiftCO c)) ∧
      evidence sf' = evidence sf + c ∧ sf'.hist = sf.hist.map (shiftCB c) ∧ sf'.beta = sf.beta ∧
      sf'.cur = sf.cur ∧ sf'.curL = sf.curL.map (· + c) ∧ sf'.iter = sf.iter ∧ sf'.calls = sf.calls ∧
      (os.map (shiftCO c)).length = os.length := by
  rw [C10_cl_run W cfg c fuel ts g, h]
  exact ⟨_, rfl, rfl, rfl, rfl, rfl, rfl, rfl, rfl, by simp⟩

theorem C10_cl_run_outputs (c : ℝ) (os : List (CIterOut ℝ P)) :
    (os.map (shiftCO c)).length = os.length ∧
    (os.map (shiftCO c)).map (·.beta) = os.map (·.beta) ∧ (os.map (shiftCO c)).map (·.ess) = os.map (·.ess) ∧
    (os.map (shiftCO c)).map (·.weights) = os.map (·.weights) ∧
    (os.map (shiftCO c)).map (·.trainIn) = os.map (·.trainIn) ∧
    (os.map (shiftCO c)).map (·.idx) = os.map (·.idx) ∧ (os.map (shiftCO c)).map (·.masks) = os.map (·.masks) ∧
    (os.map (shiftCO c)).map (·.sigmas) = os.map (·.sigmas) ∧ (os.map (shiftCO c)).map (·.branch) = os.map (·.branch) ∧
    (os.map (shiftCO c)).map (·.logz) = os.map (fun o => o.logz + o.beta * c) ∧
    (os.map (shiftCO c)).map (·.logzRw) = os.map (fun o => o.logzRw + o.beta * c) := by
  simp [List.map_map, Function.comp_def, shiftCO]

/-! ### what `volume_variation`, `trim_weights` and the clusterer receive -/

/-- what the ESS-mode oracle hands on at every trial β — the normalised weights and the ESS — does not see the shift -/
theorem C10_cl_metric_inputs (h : List (Batch ℝ)) (hwf : WF h) (c β : ℝ) :
    Model.Ess.normalise (oracleM (shiftH c h) β).1 = Model.Ess.normalise (oracleM h β).1 ∧
    (oracleM (shiftH c h) β).2.1 = (oracleM h β).2.1 := by
  rw [oracleM_shift h hwf c β]; exact ⟨rfl, rfl⟩

/-- volume-variation mode: at every trial β of the ESS / bisection searches `tools.volume_variation` is called with the
    same records and the same normalised weights as in the unshifted run (it is the world's own function, and its
    arguments do not see the shift) -/
theorem C10_cl_metric (W : World ℝ P MS TS G) (v : ℝ) (pool : List P) (h : List (Batch ℝ)) (hwf : WF h) (c β : ℝ) :
    (oracleMV (shiftW c W) (some v) pool (shiftH c h) β).2.2 = W.volvar pool (Model.Ess.normalise (oracleM h β).1) β := by
  rw [oracleMV_shift W (some v) pool h hwf c β, oracleMV_metric]

/-- `Trainer.run`: `trim_weights` is applied to the same weights and the clusterer / Student-t fit receives the same
    records and trimmed weights, at the same β and iteration number, with the same clusterer state and stream state -/
theorem C10_cl_trainer_input (W : World ℝ P MS TS G) (cfg : CCfg ℝ) (c : ℝ) (s s1 : CState ℝ P TS G) (o : CIterOut ℝ P)
    (hs : WFC s) (h : Model.ClosedLoop.iterate W cfg s = some (s1, o)) :
    ∃ s1' o', Model.ClosedLoop.iterate (shiftW c W) cfg (shiftCS c s) = some (s1', o') ∧
      o'.weights = o.weights ∧ o'.trainIn = o.trainIn ∧ o'.beta = o.beta ∧ s1'.ts = s1.ts ∧ s1'.g = s1.g ∧
      s1'.cur = s1.cur ∧ s1'.assign = s1.assign := by
  rw [C10_cl_iterate W cfg c s hs, h]
  exact ⟨_, _, rfl, rfl, rfl, rfl, rfl, rfl, rfl, rfl⟩

/-! ### checkpoints -/

def shiftCk (c : ℝ) (k : Ckpt ℝ P) : Ckpt ℝ P :=
  { k with hist := k.hist.map (shiftCB c), logz := k.logz + k.beta * c, curL := k.curL.map (· + c) }

/-- what `save_sampler_state` writes at an iteration boundary of the run on `ℓ + c` is the checkpoint of the run on
    `ℓ` with every stored `ℓ` replaced by `ℓ + c` and every stored evidence `z_t` by `z_t + β_t c`; all other keys
    (u, x, blobs, β, ESS, iter, calls, steps, acceptance, efficiency, assignments) are identical -/
theorem C10_cl_checkpoint (c : ℝ) (s : CState ℝ P TS G) : checkpoint (shiftCS c s) = shiftCk c (checkpoint s) := rfl

theorem C10_cl_checkpoint_keys (c : ℝ) (k : Ckpt ℝ P) :
    (shiftCk c k).beta = k.beta ∧ (shiftCk c k).ess = k.ess ∧ (shiftCk c k).iter = k.iter ∧
    (shiftCk c k).calls = k.calls ∧ (shiftCk c k).cur = k.cur ∧ (shiftCk c k).assign = k.assign ∧
    (shiftCk c k).steps = k.steps ∧ (shiftCk c k).acceptance = k.acceptance ∧
    (shiftCk c k).efficiency = k.efficiency ∧
    (shiftCk c k).hist.map (·.pts) = k.hist.map (·.pts) ∧ (shiftCk c k).hist.map (·.beta) = k.hist.map (·.beta) ∧
    (shiftCk c k).hist.map (·.ess) = k.hist.map (·.ess) ∧ (shiftCk c k).hist.map (·.calls) = k.hist.map (·.calls) ∧
    (shiftCk c k).hist.map (·.steps) = k.hist.map (·.steps) ∧
    (shiftCk c k).hist.map (·.logl) = k.hist.map (fun b => b.logl.map (· + c)) ∧
    (shiftCk c k).hist.map (·.logz) = k.hist.map (fun b => b.logz + b.beta * c) := by
  simp [shiftCk, shiftCB, List.map_map, Function.comp_def]

/-! ### `compute_posterior` -/

open Model.Posterior in
theorem posteriorArrs_shift (c : ℝ) (s : CState ℝ P TS G) (hs : WFC s) :
    posteriorArrs (shiftCS c s) = { posteriorArrs s with l := (posteriorArrs s).l.map (· + c) } := by
  rw [posteriorArrs_eq, posteriorArrs_eq]
  simp only [shiftCS, batchesOf_shift, poolOf_shift, Props.C04.flatLogl_shift, logw_one_shift _ (WF_batchesOf s hs)]

open Model.Posterior in
theorem gatherArrs_mapL {X L B Wt A : Type} (f : L → L) (fields : List String) (idx : List Nat) (a : Arrs X L B Wt A) :
    gatherArrs fields idx { a with l := a.l.map f }
      = (gatherArrs fields idx a).map fun a' => { a' with l := a'.l.map f } := by
  have hl : (if fields.contains "logl" then gather? (a.l.map f) idx else some (a.l.map f))
      = (if fields.contains "logl" then gather? a.l idx else some a.l).map (List.map f) := by
    split
    · exact gather?_map f a.l idx
    · rfl
  unfold gatherArrs
  simp only [hl]
  -- the four gathered columns are the same options on both sides
  generalize (if fields.contains "x" then gather? a.x idx else some a.x) = ox
  generalize (if fields.contains "logl" then gather? a.l idx else some a.l) = ol
  generalize (if fields.contains "blobs" then gather? a.b idx else some a.b) = ob
  generalize (if fields.contains "logw" then gather? a.lw idx else some a.lw) = olw
  cases ox <;> cases ol <;> cases ob <;> cases olw <;> rfl

open Model.Posterior in
theorem body_mapL {X L B Wt A : Type} (f : L → L) (tf rf : List String) (trimFn : List A → List Nat × List A)
    (resFn : List A → List Nat) (uniform : Nat → List A) (o : Opts) (a : Arrs X L B Wt A) :
    body tf rf trimFn resFn uniform o { a with l := a.l.map f }
      = (body tf rf trimFn resFn uniform o a).map fun a' => { a' with l := a'.l.map f } := by
  -- each of the two stages is skipped, or is a gather followed by a new weight column
  have stage : ∀ (c : Bool) (fs : List String) (idx : List Nat) (w : List A) (a : Arrs X L B Wt A),
      (if c then (gatherArrs fs idx { a with l := a.l.map f }).map fun a' => { a' with w := w } else some { a with l := a.l.map f })
        = (if c then (gatherArrs fs idx a).map fun a' => { a' with w := w } else some a).map
            fun a' => { a' with l := a'.l.map f } := by
    intro c fs idx w a
    split
    · rw [gatherArrs_mapL, Option.map_map, Option.map_map]; rfl
    · rfl
  exact bind_map_comm (stage _ _ _ _ a) fun a1 _ => stage _ _ _ _ a1

open Model.Posterior in
/-- **`compute_posterior` on the run on `ℓ + c`**, for every combination of `resample`, `trim_importance_weights`,
    `return_blobs`, `return_logw`, every trimming threshold / grid and every resampling offset: the importance weights,
    the trimming (`trim_weights` sees the same weights), the resampled indices, `x`, the blobs and the (normalised)
    `logw` are identical; the returned `logl` is `ℓ + c`; both calls fail together -/
theorem C10_cl_posterior (tf rf : List String) (essTrim : ℝ) (bins : Nat) (u0 : ℝ) (o : Opts) (c : ℝ)
    (s : CState ℝ P TS G) (hs : WFC s) :
    Model.ClosedLoop.posterior tf rf essTrim bins u0 o (shiftCS c s)
      = (Model.ClosedLoop.posterior tf rf essTrim bins u0 o s).map fun a => { a with l := a.l.map (· + c) } := by
  unfold Model.ClosedLoop.posterior Model.Posterior.posterior
  rw [posteriorArrs_shift c s hs]
  -- weights, trimming and resampling read `logw`, which is the same; the gathers commute with the map on `logl`
  exact bind_map_comm Option.map_id'.symm fun w0 _ => bind_map_comm Option.map_id'.symm fun t _ =>
    bind_map_comm Option.map_id'.symm fun ridx _ => body_mapL (· + c) tf rf _ _ _ o { posteriorArrs s with w := w0 }

/-! ### non-vacuity: the theorems above on the example worlds of `Props/C10World.lean` -/

/-- the warm-up iteration `itCl1` for the run on `ℓ + 1000`, from `C10_cl_iterate`: the −inf draw is still replaced,
    the stored log-likelihoods are `1000`, the evidence (β = 0) is the same `log(1/2)` -/
example : Model.ClosedLoop.iterate (shiftW 1000 wEx) cfgCl (Model.ClosedLoop.init () 0)
    = some (shiftCS 1000 sCl1, ⟨0, 1, 0 + 0 * 1000, Real.log (1 / 2) + 0 * 1000, Branch.firstIter, [1 / 2, 1 / 2], none, [], [], []⟩) ∧
    (shiftCS 1000 sCl1).curL = [0 + 1000, 0 + 1000] ∧ (shiftCS 1000 sCl1).logz = Real.log (1 / 2) + 0 * 1000 := by
  have := C10_cl_iterate wEx cfgCl 1000 (Model.ClosedLoop.init () 0) (WFC_init () 0)
  rw [shiftCS_init, itCl1] at this
  exact ⟨this, by simp [shiftCS, sCl1], by simp [shiftCS, sCl1]⟩

/-- after the discarded batch of `drawEx0` the warm-up step copies nothing (`np.random.choice` is not called: the stream
    state stays 2), counts 4 calls and writes the correction `log(2/4)`; the run on `ℓ + 1000` (`C10_cl_warmup`) discards the
    same batch, makes the same four draws, writes the same correction and keeps the shifted log-likelihoods -/
example : warmupStep wEx0 cfgCl 0 = some ⟨[10, 11], [10 / 4, 11 / 4], some (Real.log (2 / 4)), 4, 2⟩ ∧
    warmupStep (shiftW 1000 wEx0) cfgCl 0
      = some ⟨[10, 11], [10 / 4 + 1000, 11 / 4 + 1000], some (Real.log (2 / 4)), 4, 2⟩ := by
  have hn : cfgCl.rw.nPart = 2 := rfl
  have h1 : warmupStep wEx0 cfgCl 0 = some ⟨[10, 11], [10 / 4, 11 / 4], some (Real.log (2 / 4)), 4, 2⟩ := by
    have hz : (ScT.log (Sc.div (Sc.ofNat 2) (Sc.ofNat 4)) : ℝ) = Real.log (2 / 4) := by simp
    rw [← hz]
    simp only [warmupStep, hn, drawEx0, Option.bind_some]
    rfl
  refine ⟨h1, ?_⟩
  rw [C10_cl_warmup, h1]
  simp [shiftDrawn]

/-- the cap: in a world where EVERY record is outside the support the loop raises (`none`) after `drawCap` batches, and so
    does the shifted run -/
example : warmupStep (shiftW 1000 ({ wEx with like := fun _ => none } : World ℝ Nat Unit Unit Nat)) cfgCl 0 = none := by
  rw [C10_cl_warmup]
  have : ∀ (f : Nat) (g k : Nat), drawLoop ({ wEx with like := fun _ => none } : World ℝ Nat Unit Unit Nat) 2 f g k = none := by
    intro f
    induction f with
    | zero => intro g k; rfl
    | succ f ih => intro g k; simp [drawLoop, countSome, ih]
  have hn : cfgCl.rw.nPart = 2 := rfl
  simp only [warmupStep, hn, this, Option.bind_none, Option.map_none]

/-- the hypothesis of `C10_cl_iterate` (and of `C10_cl_guard`, next) is met by the post-warm-up state, with `c = 1000` -/
example : Model.ClosedLoop.iterate (shiftW 1000 wEx) cfgCl (shiftCS 1000 sCl1)
      = (Model.ClosedLoop.iterate wEx cfgCl sCl1).map fun p => (shiftCS 1000 p.1, shiftCO 1000 p.2) :=
  C10_cl_iterate wEx cfgCl 1000 sCl1 wfc_sCl1

example : contGuard cfgCl (shiftCS 1000 sCl1) = contGuard cfgCl sCl1 := C10_cl_guard cfgCl 1000 sCl1 wfc_sCl1

/-- the guard of the example is `True` at the post-warm-up state (β = 0), so the loop does go on -/
example : contGuard cfgCl sCl1 = true :=
  (contGuard_spec cfgCl sCl1 wfc_sCl1 (List.cons_ne_nil _ _)).2.mpr (.inl (by norm_num [cfgCl, sCl1]))

example (fuel : Nat) : runSampling (shiftW 1000 wEx) cfgCl fuel (Model.ClosedLoop.init () 0)
      = (runSampling wEx cfgCl fuel (Model.ClosedLoop.init () 0)).map fun q =>
          ({ shiftCS 1000 q.1 with logz := q.1.logz + 1000 }, q.2.1.map (shiftCS 1000), q.2.2.map (shiftCO 1000)) :=
  C10_cl_run wEx cfgCl 1000 fuel () 0

section AnnealingExample
open Model.Trim Model.Ess

/-- `C10_cl_iterate` applied to `itCl2` with `c = 1000`: the shifted run makes the same jump to β = 1, hands the same weights and
    the same trimmed input to the trainer, resamples [0, 1], accepts the same proposal, ends with σ = 0.99 after one step;
    it stores ℓ + 1000 and records the evidence `z + 1·1000` -/
example : ∃ s' o', Model.ClosedLoop.iterate (shiftW 1000 wEx2) cfgCl2 (shiftCS 1000 sCl2) = some (s', o') ∧
    o'.beta = 1 ∧ o'.ess = 2 ∧ o'.weights = [1/2, 1/2] ∧ o'.trainIn = some ([0, 1], [1/2, 1/2]) ∧ o'.idx = [0, 1] ∧
    o'.masks = [[true, false]] ∧ o'.sigmas = [99 / 100] ∧ o'.logz = Ex.z1 + 1 * 1000 ∧
    s'.cur = [20, 1] ∧ s'.curL = [1 + 1000, 0 + 1000] ∧ s'.steps = 1 ∧ s'.calls = 4 ∧ s'.g = 6 := by
  have hw : WFC sCl2 := by intro b hb; simp [sCl2] at hb; subst hb; simp
  refine ⟨shiftCS 1000 sCl3, shiftCO 1000 ⟨1, 2, Ex.z1, Ex.z1, Branch.essUpper, [1/2, 1/2], some ([0, 1], [1/2, 1/2]), [0, 1],
    [[true, false]], [99 / 100]⟩, ?_, rfl, rfl, rfl, rfl, rfl, rfl, rfl, rfl, rfl, ?_, rfl, rfl, rfl⟩
  · rw [C10_cl_iterate wEx2 cfgCl2 1000 sCl2 hw, itCl2]; rfl
  · simp [shiftCS, sCl3]

/-- the hypotheses of `C10_cl_posterior` (here: trim + resample + both optional returns, every array gathered) and of
    `C10_cl_finalLogz` (next) are met by the two-batch state the example reaches -/
example : Model.ClosedLoop.posterior ["x", "logl", "logw", "blobs"] ["x", "logl", "logw", "blobs"] (99 / 100) 1000 (1 / 3)
      ⟨true, true, true, true⟩ (shiftCS 1000 sCl3)
    = (Model.ClosedLoop.posterior ["x", "logl", "logw", "blobs"] ["x", "logl", "logw", "blobs"] (99 / 100) 1000 (1 / 3)
        ⟨true, true, true, true⟩ sCl3).map fun a => { a with l := a.l.map (· + 1000) } :=
  C10_cl_posterior _ _ _ _ _ _ 1000 sCl3 wfc_sCl3

example : ∃ z, finalLogz sCl3 = some z ∧ finalLogz (shiftCS 1000 sCl3) = some (z + 1000) :=
  C10_cl_finalLogz 1000 sCl3 wfc_sCl3 (by simp [sCl3])

example : (checkpoint (shiftCS 1000 sCl3)).cur = [20, 1] ∧ (checkpoint (shiftCS 1000 sCl3)).curL = [1 + 1000, 0 + 1000] ∧
    (checkpoint (shiftCS 1000 sCl3)).logz = Ex.z1 + 1 * 1000 ∧ (checkpoint (shiftCS 1000 sCl3)).calls = 4 ∧
    (checkpoint (shiftCS 1000 sCl3)).hist.map (·.logz) = [0 + 0 * 1000, Ex.z1 + 1 * 1000] := by
  rw [C10_cl_checkpoint]
  simp [shiftCk, checkpoint, sCl3, sCl2, shiftCB]

end AnnealingExample

end Props.C10
