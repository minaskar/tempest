import TempestVerif.Model.RunEntry
import TempestVerif.Model.Checkpoint
import TempestVerif.Gen.RunEntrySrc
import TempestVerif.Lemmas.ClosedLoop
/-
  C12 — the executable model of `run_sampling` / `_not_termination` / `execute_iteration` / `compute_evidence`
  (`Model.RunEntry`, the control parts of `Model.ClosedLoop`, `Model.Run`) is built from the expressions that are in /repo when the check runs.

  `Gen/RunEntrySrc.lean` is regenerated from the source on every run of the check (translator G12, `extract_src`): every test,
  every piece of arithmetic and every literal of core.py `run_sampling`, `_not_termination`, `_initialize_fresh`, the periodic-save
  test of `execute_iteration`, `compute_evidence` and the `iter + 1` of `Reweighter.run`, COMPILED to Lean terms — scalars over `Sc α` / `ScT α`, counters over `Nat` / `Int` — plus the statement
  skeleton of each function with local names canonicalised.  Parameters of a generated term are ordered by role (Python
  parameters, state reads, attributes, computed locals), never by order of appearance, so an operand swap changes the term.

  The theorems hold for EVERY scalar type — `Float`, which the driver executes, included — by `rfl` / case analysis on constructors:
  the model's definitions unfold to the generated terms.  A changed literal, comparison operator, operand order, tuple slot, state
  key or branch order in the source changes the generated term and breaks the theorem named after it; a dropped / added / moved
  statement changes a skeleton table.
-/
namespace Props.C12.Src
open Model.RunEntry Model.ClosedLoop
open Gen.RunEntrySrc

variable {α P MS TS G : Type}

/-! ### `_not_termination` -/

/-- the tolerance of the guard is the literal the property speaks of (`1e-4`; the model's `tolTerm` is a parameter, fed by the
    harness from the same source literal through G1's `TERM_BETA_TOL`) -/
theorem C12_src_tol [ScT α] : (termTol : α) = Sc.lit 1 4 := rfl

/-- `return 1.0 - beta >= 1e-4 or ess < getattr(self, "n_total", 0)`: the model's guard on a non-empty history, with the
    source's tolerance literal -/
theorem C12_src_notTerm [ScT α] (beta ess nTotal : α) :
    Model.Run.notTerm termTol beta ess nTotal = termReturn beta nTotal ess := rfl

/-- the whole `_not_termination`: early return on `len(logw) == 0`, weights `exp(logw - max)`, ESS of those, the returned test -/
theorem C12_src_notTermination [ScT α] (beta nTotal : α) (logw : List α) :
    Model.Run.notTermination termTol beta logw nTotal =
      if termEmptyTest logw.length then termEmptyReturn
      else match logw with
        | [] => true
        | x :: xs => termReturn beta nTotal (Model.Ess.ess ((x :: xs).map fun l => termWeight l (Model.Ess.maxOf x xs))) := by
  cases logw <;> rfl

/-- `logw, _ = self.state.compute_logw_and_logz(1.0)`: the loop guard of the closed-loop model evaluates the log-weights at the
    source's argument and takes the source's component; `tolTerm` / `nTotal` are the configuration's -/
theorem C12_src_contGuard [ScT α] (c : CCfg α) (s : CState α P TS G) :
    contGuard c s =
      Model.Run.notTermination c.tolTerm s.beta (Model.Weights.logw (batchesOf s.hist) termEvidenceArg true).1 c.nTotal ∧
    termLogwSlot = 0 := ⟨rfl, rfl⟩

/-- `getattr(self, "n_total", 0)`: the attribute, with the source's default when absent -/
theorem C12_src_attrNTotal (c : Core α P TS G) :
    attrNTotal c = (match c.nTotal with | some n => n | none => termNTotalDefault) := rfl

/-- the configuration the guard works with: only `nTotal` is replaced, by the attribute (default from the source) -/
theorem C12_src_guardCfg [ScT α] (cfg : CCfg α) (c : Core α P TS G) :
    guardCfg cfg c = { cfg with nTotal := Sc.ofNat (match c.nTotal with | some n => n | none => termNTotalDefault) } := rfl

/-! ### `run_sampling`: entry -/

/-- `if resume_state_path is not None … elif self.state.get_history_length() > 0 … else`: same tests, same order, and each arm
    is the one that makes the corresponding initialiser call (`_initialize_from_resume` / none / `_initialize_fresh`) -/
theorem C12_src_entryBranch (resumePath : Bool) (histLen : Nat) :
    (entryBranch resumePath histLen).name = entryArm resumePath histLen := by
  cases resumePath <;> cases histLen <;> rfl

/-- `t0` of the resume arm: `int(iter_val) if iter_val is not None else 0` on the LOADED state -/
theorem C12_src_t0_resume [ScT α] (reseed : G → G) (c : Core α P TS G) (nT : Nat) (f : CkFile α P G) :
    (prologue reseed c ⟨nT, some f⟩).t0 = entryT0Resume (some (loadCore c f).st.iter) := rfl

/-- `t0` of the continue arm (no path, committed history): the stored counter; nothing else changes but `n_total` -/
theorem C12_src_t0_continue [ScT α] (reseed : G → G) (c : Core α P TS G) (nT : Nat)
    (h : entryArm false c.st.hist.length = "continue") :
    prologue reseed c ⟨nT, none⟩ = { c with t0 := entryT0Continue (some c.st.iter), nTotal := prologueNTotal nT } := by
  unfold prologue
  cases hl : c.st.hist.length with
  | zero => rw [hl] at h; exact absurd h (by decide)
  | succ n => rfl

/-- `t0` of the fresh arm (no path, empty history): the source's literal, after `_initialize_fresh` -/
theorem C12_src_t0_fresh [ScT α] (reseed : G → G) (c : Core α P TS G) (nT : Nat)
    (h : entryArm false c.st.hist.length = "fresh") :
    prologue reseed c ⟨nT, none⟩ =
      { c with st := initFresh reseed c.st, started := true, t0 := entryT0Fresh (some c.st.iter), nTotal := prologueNTotal nT } := by
  unfold prologue
  cases hl : c.st.hist.length with
  | zero => rfl
  | succ n => rw [hl] at h; simp [entryArm] at h

/-- `self.n_total = int(n_total)` AFTER the entry chain, in every arm (so the value a file carried is overwritten), and
    `self.t0 = t0`, the local the loop hands to `execute_iteration` -/
theorem C12_src_nTotal [ScT α] (reseed : G → G) (c : Core α P TS G) (call : Call α P G) :
    (prologue reseed c call).nTotal = prologueNTotal call.nTotal ∧ prologueT0Stored = true ∧ loopPassesT0 = true := by
  refine ⟨?_, rfl, rfl⟩
  unfold prologue
  cases call.resume <;> rfl

/-! ### `_initialize_fresh` -/

/-- the four values written are the source's literals; nothing else is written (`freshWrites`) -/
theorem C12_src_initFresh [ScT α] (reseed : G → G) (s : CState α P TS G) :
    some (initFresh reseed s).iter = freshIter ∧ some (initFresh reseed s).calls = freshCalls ∧
    some (initFresh reseed s).beta = freshBeta ∧ some (initFresh reseed s).logz = freshLogz ∧
    initFresh reseed s = { s with iter := (initFresh reseed s).iter, calls := (initFresh reseed s).calls,
                                  beta := (initFresh reseed s).beta, logz := (initFresh reseed s).logz, g := reseed s.g } ∧
    freshWrites = ["iter", "calls", "beta", "logz"] := ⟨rfl, rfl, rfl, rfl, rfl, by decide⟩

/-! ### `run_sampling`: loop and epilogue -/

/-- `_, logz = self.state.compute_logw_and_logz(1.0); self.state.set_current("logz", logz)`: the argument, the component taken
    and the key written — which is the key `compute_evidence` reads -/
theorem C12_src_finalLogz [ScT α] (s : CState α P TS G) :
    finalLogz s = (Model.Weights.logw (batchesOf s.hist) epilogueArg true).2 ∧
    epilogueSlot = 1 ∧ epilogueKey = "logz" ∧ evidenceKey = epilogueKey := ⟨rfl, rfl, by decide, by decide⟩

/-- one turn of `while self._not_termination(): self.execute_iteration(…)`: the guard is tested first, the body is one
    `execute_iteration`, the loop-top state is what `save_every` may write (skeleton rows 3, 3.0 of `runSkeleton`) -/
theorem C12_src_runLoop_succ [ScT α] (W : World α P MS TS G) (c : CCfg α) (n : Nat) (s : CState α P TS G) :
    runLoop W c (n + 1) s =
      if contGuard c s then
        (iterate W c s).bind fun p => (runLoop W c n p.1).map fun q => (q.1, s :: q.2.1, p.2 :: q.2.2)
      else some (s, [s], []) := rfl

theorem C12_src_runLoop_zero [ScT α] (W : World α P MS TS G) (c : CCfg α) (s : CState α P TS G) :
    runLoop W c 0 s = if contGuard c s then none else some (s, [s], []) := rfl

/-- the whole `run_sampling`: prologue; loop under the guard that reads the ATTRIBUTE; then `logz := Z(1)` and nothing else -/
theorem C12_src_runFull [ScT α] (W : World α P MS TS G) (cfg : CCfg α) (reseed : G → G) (fuel : Nat) (c : Core α P TS G)
    (call : Call α P G) :
    runFull W cfg reseed fuel c call =
      (runLoop W { cfg with nTotal := Sc.ofNat (attrNTotal (prologue reseed c call)) } fuel (prologue reseed c call).st).bind fun q =>
        ((Model.Weights.logw (batchesOf q.1.hist) epilogueArg true).2).map fun z =>
          ({ prologue reseed c call with st := { q.1 with logz := z } }, q.2.1, q.2.2) := rfl

/-! ### `execute_iteration` and `Reweighter.run`'s counter -/

/-- `(iter_val - t0) % int(save_every) == 0 and iter_val != t0` (C08's model of the save cadence, pinned here to the source's expression) -/
theorem C12_src_saveTest (t0 saveEvery iter : Int) :
    Model.Checkpoint.savesAt t0 saveEvery iter = saveTest saveEvery t0 iter := rfl

/-- `set_current("iter", get_current("iter") + 1)`: what `iterate` passes to the trainer and commits -/
theorem C12_src_iterNext [ScT α] (W : World α P MS TS G) (c : CCfg α) (s : CState α P TS G) (p : CState α P TS G × CIterOut α P)
    (h : iterate W c s = some p) : p.1.iter = iterNext s.iter :=
  (Lemmas.ClosedLoop.iterated W c s p.1 p.2 h).iter

/-! ### `compute_evidence` -/

/-- `logz = self.state.get_current("logz")`: the key the epilogue wrote; `None` before anything ran or was loaded -/
theorem C12_src_evidence (c : Core α P TS G) :
    evidence c = (if c.started then some c.st.logz else none) ∧ evidenceKey = "logz" := ⟨rfl, by decide⟩

/-! ### the statement skeletons the model was written against

  `path: statement` in program order (`t` / `e` = then / else block); locals are `v0, v1, …` by first assignment; docstrings,
  imports and the progress bar are dropped.  What the model takes from each: `runSkeleton` — the entry arms and what each does,
  that `n_total` / `t0` are stored after the chain and before the loop, the loop's test and single body statement, the epilogue's
  two statements before the final save; `termSkeleton` — the data flow logw → weights → ess → test; `iterSkeleton` — the order
  reweighter → trainer → resampler → mutator → commit (`Model.ClosedLoop.iterate`: `reweightStep`, `trainStep` on ITS weights,
  `resampleStep` on the same weights, the mutation with the TRAINER's statistics, `commit`), the save test on the counter read
  BEFORE the reweighter increments it, and the returned dictionary; `freshSkeleton`, `resumeSkeleton`, `evidenceSkeleton`. -/

def expected_termSkeleton : List String :=
  ["0: v0, _ = self.state.compute_logw_and_logz(1.0)",
   "1: if len(v0) == 0",
   "1t.0: return True",
   "2: v2 = np.exp(v0 - np.max(v0))",
   "3: v3 = effective_sample_size(v2)",
   "4: v4 = self.state.get_current('beta')",
   "5: return 1.0 - v4 >= 0.0001 or v3 < getattr(self, 'n_total', 0)"]

def expected_runSkeleton : List String :=
  ["0: if resume_state_path is not None",
   "0t.0: self._initialize_from_resume(resume_state_path)",
   "0t.1: v0 = self.state.get_current('iter')",
   "0t.2: v1 = int(v0) if v0 is not None else 0",
   "0t.3: if v0 is None",
   "0t.3t.0: self.state.set_current('iter', v1)",
   "0e.0: if self.state.get_history_length() > 0",
   "0e.0t.0: v0 = self.state.get_current('iter')",
   "0e.0t.1: v1 = int(v0) if v0 is not None else 0",
   "0e.0e.0: v1 = 0",
   "0e.0e.1: self._initialize_fresh()",
   "1: self.n_total = int(n_total)",
   "2: self.t0 = v1",
   "3: while self._not_termination()",
   "3.0: self.execute_iteration(save_every=save_every, t0=v1)",
   "4: _, v3 = self.state.compute_logw_and_logz(1.0)",
   "5: self.state.set_current('logz', v3)",
   "6: self.logz_err = None",
   "7: if save_every is not None",
   "7t.0: self.save_sampler_state(self.config.output_dir / f'{self.config.output_label}_final.state')"]

def expected_freshSkeleton : List String :=
  ["0: if self.config.random_state is not None",
   "0t.0: np.random.seed(self.config.random_state)",
   "1: self.state.set_current('iter', 0)",
   "2: self.state.set_current('calls', 0)",
   "3: self.state.set_current('beta', 0.0)",
   "4: self.state.set_current('logz', 0.0)"]

def expected_resumeSkeleton : List String :=
  ["0: self.load_sampler_state(resume_state_path)",
   "1: v0 = int(self.state.get_current('iter')) if self.state.get_current('iter') is not None else 0",
   "2: self.t0 = v0"]

def expected_iterSkeleton : List String :=
  ["0: if save_every is not None",
   "0t.0: v0 = self.state.get_current('iter')",
   "0t.1: if (v0 - t0) % int(save_every) == 0 and v0 != t0",
   "0t.1t.0: self.save_sampler_state(self.config.output_dir / f'{self.config.output_label}_{v0}.state')",
   "1: v1 = self.reweighter.run()",
   "2: v2 = self.trainer.run(v1)",
   "3: self.resampler.run(v1)",
   "4: self.mutator.run(v2)",
   "5: self.state.commit_current_to_history()",
   "6: return self.state.get_current()"]

def expected_evidenceSkeleton : List String :=
  ["0: v0 = self.state.get_current('logz')",
   "1: return (v0, getattr(self, 'logz_err', None))"]

theorem C12_src_termSkeleton : termSkeleton = expected_termSkeleton := rfl
theorem C12_src_runSkeleton : runSkeleton = expected_runSkeleton := rfl
theorem C12_src_freshSkeleton : freshSkeleton = expected_freshSkeleton := rfl
theorem C12_src_resumeSkeleton : resumeSkeleton = expected_resumeSkeleton := rfl
theorem C12_src_iterSkeleton : iterSkeleton = expected_iterSkeleton := rfl
theorem C12_src_evidenceSkeleton : evidenceSkeleton = expected_evidenceSkeleton := rfl

/-! ### non-vacuity: the generated terms at concrete values (`Rat`, exact) -/

example : termReturn (1 : Rat) 4 5 = false := by decide +kernel
example : termReturn (9999 / 10000 : Rat) 4 5 = true := by decide +kernel          -- 1 - β = 1e-4: `>=` continues
example : termReturn (1 : Rat) 6 5 = true := by decide +kernel                     -- ESS below n_total
example : entryArm true 3 = "resume" ∧ entryArm false 3 = "continue" ∧ entryArm false 0 = "fresh" := by decide
example : entryT0Resume (some 7) = 7 ∧ entryT0Continue (some 7) = 7 ∧ entryT0Fresh (some 7) = 0 := by decide
example : saveTest 2 4 6 = true ∧ saveTest 2 4 4 = false ∧ saveTest 2 4 5 = false := by decide
example : prologueNTotal 96 = some 96 ∧ iterNext 3 = 4 := by decide

end Props.C12.Src
