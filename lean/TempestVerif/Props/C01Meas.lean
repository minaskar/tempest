import TempestVerif.Lemmas.MIS
import Mathlib.MeasureTheory.Integral.Lebesgue.Add
import Mathlib.MeasureTheory.Function.SpecialFunctions.Basic
import Mathlib.Analysis.SpecialFunctions.Pow.Real
import Mathlib.Data.ENNReal.BigOperators
/-
  C01 — the balance-heuristic identity on an ARBITRARY measurable state space (continuous targets), not only on a finite one.

  `μ` is the prior (any measure on `Ω`), `L > 0` a measurable likelihood, batch `t` has `n t` particles and density
  `q_t = L^{β_t} / z_t` with respect to `μ` (`z_t > 0`; `q_t` is a probability density exactly when `z_t = ∫ L^{β_t} dμ`,
  but the identity does not need that), and the weight is the code's `w = L^β / Σ_t (n_t/N) L^{β_t}/z_t`.
  Test functions are `[0, ∞]`-valued and integrals are Lebesgue integrals `∫⁻`, so NO integrability side condition is needed
  (a real bounded test function is the difference of two such).
-/
namespace Props.C01
open MeasureTheory ENNReal

section measure
variable {Ω T : Type} [MeasurableSpace Ω] [Fintype T]

noncomputable def denC (L : Ω → ℝ) (n bt z : T → ℝ) (x : Ω) : ℝ := ∑ t, (n t / ∑ s, n s) * (L x ^ bt t / z t)

/-- the weight of `compute_logw_and_logz` in linear space, on any state space -/
noncomputable def wC (L : Ω → ℝ) (n bt z : T → ℝ) (β : ℝ) (x : Ω) : ℝ := L x ^ β / denC L n bt z x

/-- **the weighted pool is unbiased for the unnormalised target on any measurable space**: with batch `t` distributed with
    density `L^{β_t}/z_t` w.r.t. the prior `μ`,
        `Σ_t (n_t/N) ∫ q_t · f · w dμ  =  ∫ L^β · f dμ`
    for every measurable `f ≥ 0` and every target β. -/
theorem C01_mis_unbiased_measure (μ : Measure Ω) (L : Ω → ℝ) (hLm : Measurable L) (hL : ∀ x, 0 < L x)
    (n bt z : T → ℝ) (hn : ∀ t, 0 ≤ n t) (hN : 0 < ∑ s, n s) (hz : ∀ t, 0 < z t) (β : ℝ)
    (f : Ω → ℝ≥0∞) (hf : Measurable f) :
    ∑ t, ENNReal.ofReal (n t / ∑ s, n s) *
        ∫⁻ x, ENNReal.ofReal (L x ^ bt t / z t) * (f x * ENNReal.ofReal (wC L n bt z β x)) ∂μ
      = ∫⁻ x, ENNReal.ofReal (L x ^ β) * f x ∂μ := by
  have hwm : Measurable fun x => ENNReal.ofReal (wC L n bt z β x) := by
    apply ENNReal.measurable_ofReal.comp
    unfold wC denC
    exact (hLm.pow_const β).div (Finset.measurable_sum _ fun t _ =>
      measurable_const.mul ((hLm.pow_const (bt t)).div_const (z t)))
  have hterm : ∀ t, Measurable fun x => ENNReal.ofReal (L x ^ bt t / z t) * (f x * ENNReal.ofReal (wC L n bt z β x)) :=
    fun t => (ENNReal.measurable_ofReal.comp ((hLm.pow_const (bt t)).div_const (z t))).mul (hf.mul hwm)
  simp_rw [← lintegral_const_mul _ (hterm _)]
  rw [← lintegral_finsetSum _ fun t _ => (hterm t).const_mul _]
  refine lintegral_congr fun x => ?_
  have hd : 0 < denC L n bt z x := Lemmas.MIS.mixDen_pos L n bt z hn hN hz x (hL x)
  have hnonneg : ∀ t, 0 ≤ (n t / ∑ s, n s) * (L x ^ bt t / z t) := fun t =>
    mul_nonneg (div_nonneg (hn t) hN.le) (div_nonneg (Real.rpow_nonneg (hL x).le _) (hz t).le)
  have hsum : ∑ t, ENNReal.ofReal (n t / ∑ s, n s) * ENNReal.ofReal (L x ^ bt t / z t) = ENNReal.ofReal (denC L n bt z x) := by
    unfold denC
    rw [ENNReal.ofReal_sum_of_nonneg fun t _ => hnonneg t]
    refine Finset.sum_congr rfl fun t _ => ?_
    rw [ENNReal.ofReal_mul (div_nonneg (hn t) hN.le)]
  calc ∑ t, ENNReal.ofReal (n t / ∑ s, n s) * (ENNReal.ofReal (L x ^ bt t / z t) * (f x * ENNReal.ofReal (wC L n bt z β x)))
      = (∑ t, ENNReal.ofReal (n t / ∑ s, n s) * ENNReal.ofReal (L x ^ bt t / z t)) * (f x * ENNReal.ofReal (wC L n bt z β x)) := by
        rw [Finset.sum_mul]; refine Finset.sum_congr rfl fun t _ => ?_; ring
    _ = ENNReal.ofReal (denC L n bt z x) * (f x * ENNReal.ofReal (wC L n bt z β x)) := by rw [hsum]
    _ = ENNReal.ofReal (denC L n bt z x * wC L n bt z β x) * f x := by
        rw [ENNReal.ofReal_mul hd.le]; ring
    _ = ENNReal.ofReal (L x ^ β) * f x := by
        rw [wC, ← mul_div_assoc, mul_div_cancel_left₀ _ hd.ne']

/-- `f = 1`: the expected mean unnormalised weight is the tempered normaliser `∫ L^β dμ` — on any state space -/
theorem C01_mean_weight_is_Z_measure (μ : Measure Ω) (L : Ω → ℝ) (hLm : Measurable L) (hL : ∀ x, 0 < L x)
    (n bt z : T → ℝ) (hn : ∀ t, 0 ≤ n t) (hN : 0 < ∑ s, n s) (hz : ∀ t, 0 < z t) (β : ℝ) :
    ∑ t, ENNReal.ofReal (n t / ∑ s, n s) *
        ∫⁻ x, ENNReal.ofReal (L x ^ bt t / z t) * ENNReal.ofReal (wC L n bt z β x) ∂μ
      = ∫⁻ x, ENNReal.ofReal (L x ^ β) ∂μ := by
  have := C01_mis_unbiased_measure μ L hLm hL n bt z hn hN hz β (fun _ => 1) measurable_const
  simp only [one_mul, mul_one] at this
  exact this

example (f : ℝ → ℝ≥0∞) (hf : Measurable f) (μ : Measure ℝ) :
    ∑ t : Fin 2, ENNReal.ofReal ((![2, 1] : Fin 2 → ℝ) t / ∑ s, (![2, 1] : Fin 2 → ℝ) s) *
        ∫⁻ x, ENNReal.ofReal (Real.exp (-(x ^ 2) / 2) ^ (![0, 1/2] : Fin 2 → ℝ) t / (![1, 3] : Fin 2 → ℝ) t) *
          (f x * ENNReal.ofReal (wC (fun x => Real.exp (-(x ^ 2) / 2)) ![2, 1] ![0, 1/2] ![1, 3] 1 x)) ∂μ
      = ∫⁻ x, ENNReal.ofReal (Real.exp (-(x ^ 2) / 2) ^ (1 : ℝ)) * f x ∂μ :=
  C01_mis_unbiased_measure μ (fun x => Real.exp (-(x ^ 2) / 2)) (by fun_prop) (fun x => Real.exp_pos _)
    ![2, 1] ![0, 1/2] ![1, 3] (Fin.forall_fin_two.mpr ⟨by norm_num, by norm_num⟩) (by simp [Fin.sum_univ_two]; norm_num)
    (Fin.forall_fin_two.mpr ⟨by norm_num, by norm_num⟩) 1 f hf

end measure

end Props.C01
