import TempestVerif.Props.C19
import TempestVerif.Model.StudentNu
import TempestVerif.Lemmas.SortReal
/-
  C19 — the ν-update of `fit_mvstud` inside the model.

  `Props/C19.lean` proves well-posedness and equivariance for an UNINTERPRETED `optNu` under the hypothesis
  `hopt : optNu δ = .val ν → 0 < ν` ("given the bisect bracket") and for an uninterpreted median `med` under `hmed`/`hmedbox`.
  Here both hypotheses are proved of the executable definitions of `Model/StudentNu.lean` / `Model/Student.lean` at `ℝ`:
  scipy's `bisect` (tied to the real routine bit for bit by suite `bisect-F`) for EVERY function `f`, `opt_nu` (suites `optnu-F`,
  `func0-T`) for every `special.psi` (a parameter) and every data set, `np.median` as merge sort + middle element / mean of the
  two middle ones — so that the `_modelled` theorems carry NO hypothesis on `opt_nu` or the median.  The last section (every
  scalar type) ties the loop driven by this `opt_nu` to the tape-driven loop of `Model/Student.lean`.
-/
namespace Props.C19
open Model.Student Lemmas.SortReal

/-! ### the scalar predicates at `ℝ` -/

@[simp] theorem isNaN_real (x : ℝ) : isNaN x = false := by simp [isNaN]
@[simp] theorem isZero_real (x : ℝ) : isZero x = true ↔ x = 0 := by
  unfold isZero
  rw [Bool.and_eq_true, ScReal.le_def, ScReal.le_def, ScReal.zero_def]
  exact ⟨fun h => le_antisymm h.1 h.2, fun h => ⟨h.le, h.ge⟩⟩
@[simp] theorem signbit_real (x : ℝ) : signbit x = true ↔ x < 0 := by simp [signbit]

theorem signbit_beq_real (x y : ℝ) : (signbit x == signbit y) = true ↔ (x < 0 ↔ y < 0) := by
  have e : ∀ z : ℝ, signbit z = decide (z < 0) := fun z => by
    unfold signbit; rw [Bool.eq_iff_iff]; simp
  rw [e, e, beq_iff_eq, decide_eq_decide]

/-! ### scipy's `bisect`: for every function `f` -/

section BisectLoop
variable (f : ℝ → ℝ) (xtol rtol fa : ℝ)

/-- one turn of the `for` loop of `bisect.c`, in real arithmetic -/
theorem bisectLoop_succ (k : ℕ) (xa dm : ℝ) (ev : List ℝ) :
    bisectLoop f xtol rtol fa (k+1) xa dm ev =
      if f (xa + dm / 2) = 0 ∨ |dm / 2| < xtol + rtol * |xa + dm / 2| then
        ⟨.root (xa + dm / 2), ((xa + dm / 2) :: ev).reverse⟩
      else bisectLoop f xtol rtol fa k (if (f (xa + dm / 2) < 0 ↔ fa < 0) then xa + dm / 2 else xa) (dm / 2)
        ((xa + dm / 2) :: ev) := by
  have h2 : dm * (Sc.lit 5 1 : ℝ) = dm / 2 := by
    rw [show (Sc.lit 5 1 : ℝ) = 1 / 2 by simp; norm_num]; ring
  simp only [bisectLoop, isNaN_real, ScReal.mul_def, ScReal.add_def, h2, ScReal.abs_def]
  simp only [Bool.false_eq_true, if_false, Bool.or_eq_true, isZero_real, ScReal.lt_def, signbit_beq_real]

/-- how every statement about the loop is proved: an invariant `Inv fuel xa dm` of the left end and the width that the
    continuation preserves, read at the two places the loop can stop (tolerance test, fuel exhausted) -/
theorem bisectLoop_induct (Inv : ℕ → ℝ → ℝ → Prop) (Q : BisRes ℝ → Prop)
    (hconv : ∀ xa dm, Inv 0 xa dm → Q .convErr)
    (hroot : ∀ k xa dm, Inv (k + 1) xa dm →
      (f (xa + dm / 2) = 0 ∨ |dm / 2| < xtol + rtol * |xa + dm / 2|) → Q (.root (xa + dm / 2)))
    (hstep : ∀ k xa dm, Inv (k + 1) xa dm →
      ¬ (f (xa + dm / 2) = 0 ∨ |dm / 2| < xtol + rtol * |xa + dm / 2|) →
      Inv k (if (f (xa + dm / 2) < 0 ↔ fa < 0) then xa + dm / 2 else xa) (dm / 2))
    (k : ℕ) (xa dm : ℝ) (ev : List ℝ) (h : Inv k xa dm) : Q (bisectLoop f xtol rtol fa k xa dm ev).res := by
  induction k generalizing xa dm ev with
  | zero => exact hconv xa dm h
  | succ k ih =>
    rw [bisectLoop_succ]
    by_cases hc : f (xa + dm / 2) = 0 ∨ |dm / 2| < xtol + rtol * |xa + dm / 2|
    · rw [if_pos hc]; exact hroot k xa dm h hc
    · rw [if_neg hc]; exact ih _ _ _ (hstep k xa dm h hc)

theorem bisectLoop_root_mem (k : ℕ) (xa dm : ℝ) (ev : List ℝ) (hdm : 0 ≤ dm) (x : ℝ)
    (h : (bisectLoop f xtol rtol fa k xa dm ev).res = .root x) : xa ≤ x ∧ x ≤ xa + dm := by
  -- the interval `[a, a + w]` stays inside `[xa, xa + dm]` and is halved at each turn
  refine bisectLoop_induct f xtol rtol fa (fun _ a w => xa ≤ a ∧ a + w ≤ xa + dm ∧ 0 ≤ w)
    (fun r => ∀ x, r = .root x → xa ≤ x ∧ x ≤ xa + dm) ?_ ?_ ?_ k xa dm ev ⟨le_rfl, le_rfl, hdm⟩ x h
  · intro _ _ _ x hx; cases hx
  · rintro _ a w ⟨h1, h2, h3⟩ _ x hx
    cases hx; constructor <;> linarith
  · rintro _ a w ⟨h1, h2, h3⟩ _
    split <;> refine ⟨?_, ?_, ?_⟩ <;> linarith

/-- once `dm / 2^k < xtol` the tolerance test stops the loop within `k` turns: the iteration limit is not reached -/
theorem bisectLoop_no_convErr (hr : 0 ≤ rtol) (k : ℕ) (hk : 1 ≤ k) (xa dm : ℝ)
    (ev : List ℝ) (hdm : 0 ≤ dm) (hs : dm / 2 ^ k < xtol) :
    (bisectLoop f xtol rtol fa k xa dm ev).res ≠ .convErr := by
  refine bisectLoop_induct f xtol rtol fa (fun k _ w => 1 ≤ k ∧ 0 ≤ w ∧ w / 2 ^ k < xtol) (· ≠ .convErr)
    ?_ ?_ ?_ k xa dm ev ⟨hk, hdm, hs⟩
  · exact fun _ _ h0 => absurd h0.1 (Nat.not_succ_le_zero 0)
  · exact fun _ _ _ _ _ => nofun
  · rintro k a w ⟨-, h2, h3⟩ hc
    refine ⟨Nat.one_le_iff_ne_zero.mpr ?_, div_nonneg h2 zero_le_two, by rwa [div_div, ← pow_succ']⟩
    -- with one turn left the test `|w/2| < xtol + …` would have fired
    rintro rfl
    refine hc (Or.inr ?_)
    rw [zero_add, pow_one] at h3
    rw [abs_of_nonneg (div_nonneg h2 zero_le_two)]
    exact lt_add_of_lt_of_nonneg h3 (mul_nonneg hr (abs_nonneg _))

theorem mul_neg_of_opposite {a b : ℝ} (ha : a ≠ 0) (hb : b ≠ 0) (h : ¬ (a < 0 ↔ b < 0)) : a * b < 0 := by
  rcases lt_or_gt_of_ne ha with h1 | h1 <;> rcases lt_or_gt_of_ne hb with h2 | h2
  · exact absurd ⟨fun _ => h2, fun _ => h1⟩ h
  · exact mul_neg_of_neg_of_pos h1 h2
  · exact mul_neg_of_pos_of_neg h1 h2
  · exact absurd ⟨fun h' => absurd h' (not_lt.mpr h1.le), fun h' => absurd h' (not_lt.mpr h2.le)⟩ h

/-- the invariant of bisection: `f` keeps the sign of `f(a)` at the left end and the opposite sign at the right end; so a
    returned root is an exact zero or has a point of opposite sign within the tolerance that stopped the loop -/
theorem bisectLoop_root_spec (k : ℕ) (xa dm : ℝ) (ev : List ℝ)
    (hL : f xa ≠ 0 ∧ (f xa < 0 ↔ fa < 0)) (hR : f (xa + dm) ≠ 0 ∧ ¬ (f (xa + dm) < 0 ↔ fa < 0)) (x : ℝ)
    (h : (bisectLoop f xtol rtol fa k xa dm ev).res = .root x) :
    f x = 0 ∨ ∃ y, |y - x| < xtol + rtol * |x| ∧ f x * f y < 0 := by
  refine bisectLoop_induct f xtol rtol fa
    (fun _ a w => (f a ≠ 0 ∧ (f a < 0 ↔ fa < 0)) ∧ f (a + w) ≠ 0 ∧ ¬ (f (a + w) < 0 ↔ fa < 0))
    (fun r => ∀ x, r = .root x → f x = 0 ∨ ∃ y, |y - x| < xtol + rtol * |x| ∧ f x * f y < 0)
    ?_ ?_ ?_ k xa dm ev ⟨hL, hR⟩ x h
  · intro _ _ _ x hx; cases hx
  · -- stopped at the midpoint: the end whose sign differs from the midpoint's is within `|dm/2|` of it
    rintro _ a w ⟨hl, hr⟩ hc x hx
    cases hx
    by_cases h0 : f (a + w / 2) = 0
    · exact Or.inl h0
    have htol := hc.resolve_left h0
    by_cases hsg : (f (a + w / 2) < 0 ↔ fa < 0)
    · refine Or.inr ⟨a + w, ?_, mul_neg_of_opposite h0 hr.1 fun e => hr.2 (e.symm.trans hsg)⟩
      rwa [show a + w - (a + w / 2) = w / 2 by ring]
    · refine Or.inr ⟨a, ?_, mul_neg_of_opposite h0 hl.1 fun e => hsg (e.trans hl.2)⟩
      rwa [show a - (a + w / 2) = -(w / 2) by ring, abs_neg]
  · -- continuing: the midpoint replaces the end whose sign it has
    rintro _ a w ⟨hl, hr⟩ hc
    have h0 : f (a + w / 2) ≠ 0 := fun h0 => hc (Or.inl h0)
    by_cases hsg : (f (a + w / 2) < 0 ↔ fa < 0)
    · rw [if_pos hsg, show a + w / 2 + w / 2 = a + w by ring]; exact ⟨⟨h0, hsg⟩, hr⟩
    · rw [if_neg hsg]; exact ⟨hl, h0, hsg⟩

theorem bisectLoop_res (k : ℕ) (xa dm : ℝ) (ev : List ℝ) :
    (∃ x, (bisectLoop f xtol rtol fa k xa dm ev).res = .root x) ∨
      (bisectLoop f xtol rtol fa k xa dm ev).res = .convErr :=
  bisectLoop_induct f xtol rtol fa (fun _ _ _ => True) (fun r => (∃ x, r = .root x) ∨ r = .convErr)
    (fun _ _ _ => Or.inr rfl) (fun _ _ _ _ _ => Or.inl ⟨_, rfl⟩) (fun _ _ _ _ _ => trivial) k xa dm ev trivial

end BisectLoop

theorem bisect_res (f : ℝ → ℝ) (a b xtol rtol : ℝ) (iter : ℕ) :
    (bisect f a b xtol rtol iter).res =
      if f a = 0 then .root a else if f b = 0 then .root b
      else if (f a < 0 ↔ f b < 0) then .signErr
      else (bisectLoop f xtol rtol (f a) iter a (b - a) [b, a]).res := by
  simp only [bisect, isNaN_real, Bool.false_eq_true, if_false, isZero_real, signbit_beq_real, ScReal.sub_def]
  split_ifs <;> rfl

/-- **bracket.**  Whatever `f` is, a root returned by `bisect(f, a, b)` (`a ≤ b`) lies in `[a, b]` -/
theorem C19_bisect_root_in_bracket (f : ℝ → ℝ) (a b xtol rtol : ℝ) (iter : ℕ) (hab : a ≤ b) (x : ℝ)
    (h : (bisect f a b xtol rtol iter).res = .root x) : a ≤ x ∧ x ≤ b := by
  rw [bisect_res] at h
  split_ifs at h
  · cases h; exact ⟨le_rfl, hab⟩
  · cases h; exact ⟨hab, le_rfl⟩
  · have := bisectLoop_root_mem f xtol rtol (f a) iter a (b - a) _ (sub_nonneg.mpr hab) x h
    exact ⟨this.1, this.2.trans_eq (add_sub_cancel a b)⟩

/-- **no `RuntimeError`.**  If `(b − a)/2^iter < xtol` the iteration limit is never hit (`iter ≥ 1`, `rtol ≥ 0`) -/
theorem C19_bisect_never_convErr (f : ℝ → ℝ) (a b xtol rtol : ℝ) (iter : ℕ) (hab : a ≤ b) (hr : 0 ≤ rtol)
    (hi : 1 ≤ iter) (hs : (b - a) / 2 ^ iter < xtol) : (bisect f a b xtol rtol iter).res ≠ .convErr := by
  rw [bisect_res]
  split_ifs
  · exact nofun
  · exact nofun
  · exact nofun
  · exact bisectLoop_no_convErr f xtol rtol (f a) hr iter hi a (b - a) _ (sub_nonneg.mpr hab) hs

/-- **the root solves the equation to tolerance.**  A returned root is an exact zero of `f` or there is a point within
    `xtol + rtol·|x|` of it where `f` has the opposite (non-zero) sign -/
theorem C19_bisect_root_spec (f : ℝ → ℝ) (a b xtol rtol : ℝ) (iter : ℕ) (x : ℝ)
    (h : (bisect f a b xtol rtol iter).res = .root x) :
    f x = 0 ∨ ∃ y, |y - x| < xtol + rtol * |x| ∧ f x * f y < 0 := by
  rw [bisect_res] at h
  split_ifs at h with ha hb hs
  · cases h; exact Or.inl ha
  · cases h; exact Or.inl hb
  · refine bisectLoop_root_spec f xtol rtol (f a) iter a (b - a) _ ⟨ha, Iff.rfl⟩ ?_ x h
    rw [add_sub_cancel a b]
    exact ⟨hb, fun e => hs e.symm⟩

/-- `bisect` raises `ValueError` (in real arithmetic: only for a missing sign change) exactly when `f(a)`, `f(b)` are
    non-zero of the same sign -/
theorem C19_bisect_signErr_iff (f : ℝ → ℝ) (a b xtol rtol : ℝ) (iter : ℕ) :
    (bisect f a b xtol rtol iter).res = .signErr ↔ (f a ≠ 0 ∧ f b ≠ 0 ∧ (f a < 0 ↔ f b < 0)) := by
  rw [bisect_res]
  split_ifs with ha hb hs
  · exact ⟨nofun, fun h => absurd ha h.1⟩
  · exact ⟨nofun, fun h => absurd hb h.2.1⟩
  · exact ⟨fun _ => ⟨ha, hb, hs⟩, fun _ => rfl⟩
  · refine ⟨fun h => ?_, fun h => absurd h.2.2 hs⟩
    rcases bisectLoop_res f xtol rtol (f a) iter a (b - a) [b, a] with ⟨x, hx⟩ | hx <;> rw [hx] at h <;> cases h

theorem bisect_ne_nanErr (f : ℝ → ℝ) (a b xtol rtol : ℝ) (iter : ℕ) (y : ℝ) :
    (bisect f a b xtol rtol iter).res ≠ .nanErr y := by
  rw [bisect_res]
  split_ifs
  · exact nofun
  · exact nofun
  · exact nofun
  · intro h
    rcases bisectLoop_res f xtol rtol (f a) iter a (b - a) [b, a] with ⟨x, hx⟩ | hx <;> rw [hx] at h <;> cases h

/-! ### `opt_nu`: bracket `[1e-300, 1e6]`, scipy's default tolerances, 100 iterations -/

theorem nuLo_real : (nuLo : ℝ) = 1 / 10 ^ 300 := by simp [nuLo]
theorem nuMax_real : (nuMax : ℝ) = 1000000 := by simp [nuMax]
theorem nuLo_pos : (0 : ℝ) < nuLo := by rw [nuLo_real]; positivity
theorem nuLo_le_one : (nuLo : ℝ) ≤ 1 := by
  rw [nuLo_real, div_le_one (by positivity)]; exact one_le_pow₀ (by norm_num)
theorem nuLo_le_nuMax : (nuLo : ℝ) ≤ nuMax := by
  rw [nuMax_real]; exact nuLo_le_one.trans (by norm_num)
theorem bisRtol_nonneg : (0 : ℝ) ≤ bisRtol := by simp [bisRtol]; positivity

/-- `(1e6 − 1e-300)/2^100 < 2e-12`: the bracket of `opt_nu` is exhausted long before scipy's iteration limit -/
theorem nu_bracket_exhausted : ((nuMax : ℝ) - nuLo) / 2 ^ bisIter < bisXtol := by
  have h1 : ((nuMax : ℝ) - nuLo) ≤ 1000000 := by rw [nuMax_real]; linarith [nuLo_pos]
  have h2 : (1000000 : ℝ) / 2 ^ bisIter < bisXtol := by simp [bisIter, bisXtol]; norm_num
  exact lt_of_le_of_lt (div_le_div_of_nonneg_right h1 (by positivity)) h2

theorem optNuWith_cases (f : ℝ → ℝ) :
    (0 ≤ f nuMax ∧ (optNuWith f).1 = .inf) ∨
    (f nuMax < 0 ∧ ((∃ x, (bisect f nuLo nuMax bisXtol bisRtol bisIter).res = .root x ∧ (optNuWith f).1 = .val x) ∨
      ((bisect f nuLo nuMax bisXtol bisRtol bisIter).res = .signErr ∧ (optNuWith f).1 = .fail))) := by
  unfold optNuWith
  by_cases h : 0 ≤ f nuMax
  · exact Or.inl ⟨h, by simp only [ScReal.le_def, ScReal.zero_def, h, if_true]⟩
  · refine Or.inr ⟨not_le.mp h, ?_⟩
    simp only [ScReal.le_def, ScReal.zero_def, h, if_false]
    cases hb : (bisect f nuLo nuMax bisXtol bisRtol bisIter).res with
    | root x => exact Or.inl ⟨x, rfl, rfl⟩
    | signErr => exact Or.inr ⟨rfl, rfl⟩
    | nanErr y => exact absurd hb (bisect_ne_nanErr _ _ _ _ _ _ y)
    | convErr =>
      exact absurd hb (C19_bisect_never_convErr f nuLo nuMax bisXtol bisRtol bisIter nuLo_le_nuMax bisRtol_nonneg
        (by simp [bisIter]) nu_bracket_exhausted)

/-- **`ν ∈ (0, ∞]`, without assuming anything about scipy.**  Whatever the score function (any `psi`, any data), a value
    returned by `opt_nu` lies in the bracket `[1e-300, 1e6]` — in particular it is positive and finite -/
theorem C19_optNu_range (f : ℝ → ℝ) (x : ℝ) (h : (optNuWith f).1 = .val x) : nuLo ≤ x ∧ x ≤ nuMax ∧ 0 < x := by
  rcases optNuWith_cases f with ⟨-, h'⟩ | ⟨-, ⟨y, hb, h'⟩ | ⟨-, h'⟩⟩ <;> rw [h'] at h
  · cases h
  · cases h
    have := C19_bisect_root_in_bracket f _ _ _ _ _ nuLo_le_nuMax x hb
    exact ⟨this.1, this.2, lt_of_lt_of_le nuLo_pos this.1⟩
  · cases h

/-- **no exception escapes.**  `opt_nu` never raises past the `except` clause of the loop: `bisect`'s `RuntimeError`
    (no convergence within 100 iterations) cannot occur on `[1e-300, 1e6]` with `xtol = 2e-12` -/
theorem C19_optNu_never_raises (f : ℝ → ℝ) : (optNuWith f).1 ≠ .raise := by
  intro h
  rcases optNuWith_cases f with ⟨-, h'⟩ | ⟨-, ⟨y, -, h'⟩ | ⟨-, h'⟩⟩ <;> rw [h'] at h <;> cases h

theorem C19_optNu_inf_iff (f : ℝ → ℝ) : (optNuWith f).1 = .inf ↔ 0 ≤ f nuMax := by
  rcases optNuWith_cases f with ⟨h0, h'⟩ | ⟨h0, ⟨y, -, h'⟩ | ⟨-, h'⟩⟩ <;> rw [h']
  · exact ⟨fun _ => h0, fun _ => rfl⟩
  · exact ⟨nofun, fun h => absurd h (not_le.mpr h0)⟩
  · exact ⟨nofun, fun h => absurd h (not_le.mpr h0)⟩

/-- **the explicit fallback.**  `opt_nu` fails (scipy's `ValueError`, caught by the loop, which then returns its last valid
    estimate) exactly when the score function is negative at BOTH ends of the bracket — there is no sign change to bisect.
    Nothing in the code (and nothing proved here) excludes this for non-degenerate data: suite `optnu-F` reaches it with
    a sample in which one point carries more than `2/d` of the mass. -/
theorem C19_optNu_fail_iff (f : ℝ → ℝ) : (optNuWith f).1 = .fail ↔ (f nuMax < 0 ∧ f nuLo < 0) := by
  have hsig := C19_bisect_signErr_iff f nuLo nuMax bisXtol bisRtol bisIter
  rcases optNuWith_cases f with ⟨h0, h'⟩ | ⟨h0, ⟨y, hb, h'⟩ | ⟨hb, h'⟩⟩ <;> rw [h']
  · exact ⟨nofun, fun h => absurd h.1 (not_lt.mpr h0)⟩
  · refine ⟨nofun, fun h => ?_⟩
    rw [hsig.mpr ⟨h.2.ne, h.1.ne, iff_of_true h.2 h.1⟩] at hb; cases hb
  · exact ⟨fun _ => ⟨h0, (hsig.mp hb).2.2.mpr h0⟩, fun _ => rfl⟩

/-- a finite `ν` returned by `opt_nu` solves the score equation to scipy's tolerance: exact zero of `func0`, or a sign
    change within `2e-12 + 4ε·ν` of it -/
theorem C19_optNu_val_spec (f : ℝ → ℝ) (x : ℝ) (h : (optNuWith f).1 = .val x) :
    f x = 0 ∨ ∃ y, |y - x| < bisXtol + bisRtol * |x| ∧ f x * f y < 0 := by
  rcases optNuWith_cases f with ⟨-, h'⟩ | ⟨-, ⟨y, hb, h'⟩ | ⟨-, h'⟩⟩ <;> rw [h'] at h
  · cases h
  · cases h
    exact C19_bisect_root_spec f _ _ _ _ _ x hb
  · cases h

/-! ### non-vacuity of the `opt_nu` theorems: each of the three outcomes occurs -/

example : ∃ x : ℝ, (optNuWith (fun t : ℝ => 1 - t)).1 = .val x ∧ 0 < x := by
  have h1 : ¬ (0 : ℝ) ≤ (fun t : ℝ => 1 - t) nuMax := by rw [nuMax_real]; norm_num
  have h2 : ¬ ((fun t : ℝ => 1 - t) nuLo < 0) := by simp only [not_lt]; linarith [nuLo_le_one]
  cases h : (optNuWith (fun t : ℝ => 1 - t)).1 with
  | val x => exact ⟨x, rfl, (C19_optNu_range _ x h).2.2⟩
  | inf => exact absurd ((C19_optNu_inf_iff _).mp h) h1
  | fail => exact absurd ((C19_optNu_fail_iff _).mp h).2 h2
  | raise => exact absurd h (C19_optNu_never_raises _)

example : (optNuWith (fun _ : ℝ => (-1 : ℝ))).1 = .fail := (C19_optNu_fail_iff _).mpr ⟨by norm_num, by norm_num⟩
example : (optNuWith (fun _ : ℝ => (0 : ℝ))).1 = .inf := (C19_optNu_inf_iff _).mpr le_rfl

/-! ### `np.median` (the model's `median`: merge sort + middle element / mean of the two middle ones) -/

/-- the part of `median` after the sort.  In real arithmetic the middle element is the mean of itself with itself, so for
    both parities of the length `n` it is the mean of the entries `(n-1)/2` and `n/2` -/
noncomputable def medOfSorted (s : List ℝ) : Option ℝ := do
  let a ← s[(s.length - 1) / 2]?
  let b ← s[s.length / 2]?
  some ((a + b) / 2)

theorem medOfSorted_parity (s : List ℝ) :
    (if s.length == 0 then none
      else if s.length % 2 == 1 then s[s.length / 2]?
      else do
        let a ← s[s.length / 2 - 1]?
        let b ← s[s.length / 2]?
        some ((a + b) / 2)) = medOfSorted s := by
  unfold medOfSorted
  rcases s.length.eq_zero_or_pos with h0 | hpos
  · rw [List.length_eq_zero_iff.mp h0]; rfl
  · obtain ⟨m, hm⟩ := Nat.exists_eq_succ_of_ne_zero hpos.ne'
    rw [hm, if_neg (by rw [beq_iff_eq]; exact m.succ_ne_zero), Nat.succ_sub_one, Nat.succ_div]
    rcases Nat.mod_two_eq_zero_or_one m.succ with h2 | h2
    · rw [if_neg (by rw [beq_iff_eq, h2]; exact Nat.zero_ne_one), if_pos (Nat.dvd_of_mod_eq_zero h2),
        Nat.add_sub_cancel]
    · rw [if_pos (by rw [beq_iff_eq]; exact h2),
        if_neg (fun hd => by rw [Nat.mod_eq_zero_of_dvd hd] at h2; exact Nat.zero_ne_one h2), add_zero]
      cases s[m / 2]? with
      | none => rfl
      | some a => exact congrArg some (add_self_div_two a).symm

theorem median_eq (l : List ℝ) : median l = medOfSorted (l.mergeSort fun a b => Sc.le a b) := by
  unfold median
  simp only [ScReal.div_def, ScReal.add_def, ScReal.two_def]
  exact medOfSorted_parity _

theorem mid_mirror {n : ℕ} (h : 0 < n) :
    (n - 1) / 2 < n ∧ n / 2 < n ∧ n - 1 - (n - 1) / 2 = n / 2 ∧ n - 1 - n / 2 = (n - 1) / 2 := by
  obtain ⟨m, rfl⟩ := Nat.exists_eq_succ_of_ne_zero h.ne'
  have e : m / 2 + (m + 1) / 2 = m := by omega
  rw [Nat.succ_sub_one]
  exact ⟨(Nat.div_le_self m 2).trans_lt m.lt_succ_self, Nat.div_lt_self m.succ_pos one_lt_two,
    Nat.sub_eq_of_eq_add ((add_comm _ _).trans e).symm, Nat.sub_eq_of_eq_add e.symm⟩

theorem medOfSorted_eq (s : List ℝ) (h : s ≠ []) :
    ∃ u ∈ s, ∃ v ∈ s, medOfSorted s = some ((u + v) / 2) := by
  obtain ⟨h1, h2, -, -⟩ := mid_mirror (List.length_pos_iff.mpr h)
  refine ⟨s[(s.length - 1) / 2], List.getElem_mem _, s[s.length / 2], List.getElem_mem _, ?_⟩
  unfold medOfSorted
  rw [List.getElem?_eq_getElem h1, List.getElem?_eq_getElem h2]; rfl

theorem sort_map_mono (g : ℝ → ℝ) (hg : ∀ a b, a ≤ b → g a ≤ g b) (l : List ℝ) :
    ((l.map g).mergeSort fun a b => Sc.le a b) = (l.mergeSort fun a b => Sc.le a b).map g :=
  sort_eq ((sort_perm l).map g).symm ((sort_sorted l).map g hg)

theorem sort_map_anti (g : ℝ → ℝ) (hg : ∀ a b, a ≤ b → g b ≤ g a) (l : List ℝ) :
    ((l.map g).mergeSort fun a b => Sc.le a b) = ((l.mergeSort fun a b => Sc.le a b).map g).reverse :=
  sort_eq (((sort_perm l).map g).symm.trans (List.reverse_perm _).symm)
    (List.pairwise_reverse.mpr ((sort_sorted l).map g hg))

theorem medOfSorted_map_affine (a c : ℝ) (s : List ℝ) :
    medOfSorted (s.map fun t => a * t + c) = (medOfSorted s).map fun t => a * t + c := by
  unfold medOfSorted
  rw [List.length_map, List.getElem?_map, List.getElem?_map]
  cases s[(s.length - 1) / 2]? with
  | none => rfl
  | some u =>
    cases s[s.length / 2]? with
    | none => rfl
    | some v => exact congrArg some (by ring)

theorem medOfSorted_reverse (s : List ℝ) : medOfSorted s.reverse = medOfSorted s := by
  rcases s.length.eq_zero_or_pos with h0 | hpos
  · rw [List.length_eq_zero_iff.mp h0]; rfl
  · obtain ⟨h1, h2, e1, e2⟩ := mid_mirror hpos
    unfold medOfSorted
    rw [List.length_reverse, List.getElem?_reverse h1, List.getElem?_reverse h2, e1, e2]
    cases s[(s.length - 1) / 2]? with
    | none => cases s[s.length / 2]? <;> rfl
    | some u =>
      cases s[s.length / 2]? with
      | none => rfl
      | some v => exact congrArg some (by rw [add_comm])

/-- **`np.median` is affine-equivariant for every real factor** (a negative factor reverses the order statistics and the
    middle one / the mean of the two middle ones is the same) -/
theorem median_map_affine (a c : ℝ) (l : List ℝ) :
    median (l.map fun t => a * t + c) = (median l).map fun t => a * t + c := by
  rw [median_eq, median_eq]
  rcases le_total 0 a with ha | ha
  · rw [sort_map_mono _ (fun x y hxy => add_le_add (mul_le_mul_of_nonneg_left hxy ha) le_rfl) l,
      medOfSorted_map_affine]
  · rw [sort_map_anti _ (fun x y hxy => add_le_add (mul_le_mul_of_nonpos_left hxy ha) le_rfl) l,
      medOfSorted_reverse, medOfSorted_map_affine]

/-- `np.median` of one coordinate of the data, as a total function (`0` is returned only for `n = 0`, where `np.median`
    answers NaN; every use below has `n ≥ 2` and goes through `median_ofFn`) -/
noncomputable def medR {n : ℕ} (f : Fin n → ℝ) : ℝ :=
  match median (List.ofFn f) with
  | some m => m
  | none => 0

theorem median_ofFn_eq {n : ℕ} (f : Fin n → ℝ) (hn : 0 < n) :
    ∃ i j, median (List.ofFn f) = some ((f i + f j) / 2) := by
  have hne : ((List.ofFn f).mergeSort fun a b => Sc.le a b) ≠ [] := fun h => by
    have := (sort_perm (List.ofFn f)).length_eq
    rw [h, List.length_ofFn] at this
    exact hn.ne this
  obtain ⟨u, hu, v, hv, h⟩ := medOfSorted_eq _ hne
  obtain ⟨i, rfl⟩ := (List.mem_ofFn' _ _).mp ((List.mergeSort_perm _ _).subset hu)
  obtain ⟨j, rfl⟩ := (List.mem_ofFn' _ _).mp ((List.mergeSort_perm _ _).subset hv)
  exact ⟨i, j, (median_eq _).trans h⟩

theorem median_ofFn {n : ℕ} (f : Fin n → ℝ) (hn : 0 < n) : median (List.ofFn f) = some (medR f) := by
  obtain ⟨i, j, h⟩ := median_ofFn_eq f hn
  unfold medR; rw [h]

theorem medR_affine {n : ℕ} (hn : 0 < n) (f : Fin n → ℝ) (a c : ℝ) :
    medR (fun i => a * f i + c) = a * medR f + c := by
  have h1 := median_ofFn (fun i => a * f i + c) hn
  rw [show List.ofFn (fun i => a * f i + c) = (List.ofFn f).map fun t => a * t + c from
      (List.map_ofFn (f := f) (g := fun t => a * t + c)).symm,
    median_map_affine, median_ofFn f hn] at h1
  exact (Option.some.inj h1).symm

theorem medR_box {n : ℕ} (hn : 0 < n) (f : Fin n → ℝ) : ∃ i j, f i ≤ medR f ∧ medR f ≤ f j := by
  obtain ⟨i, j, h⟩ := median_ofFn_eq f hn
  rw [Option.some.inj ((median_ofFn f hn).symm.trans h)]
  exact mean_box f i j

/-! ### the theorems of `Props/C19.lean` with `opt_nu` and the median INSIDE the model -/

variable {d n : ℕ}

/-- the model's `opt_nu` (`special.psi` a parameter) in the form the matrix-level loop takes it; the outcome `raise`
    never occurs (`C19_optNu_never_raises`), it is mapped to `fail` only to make the function total -/
noncomputable def optNuR (psi : ℝ → ℝ) (d n : ℕ) (δ : Fin n → ℝ) : NuAns :=
  match optNu psi d n (List.ofFn δ) with
  | .val x => .val x
  | .inf => .inf
  | .fail => .fail
  | .raise => .fail

/-- the hypothesis `hopt` of `Props/C19.lean`, proved for the modelled `opt_nu`: a returned `ν` is in `[1e-300, 1e6]` -/
theorem C19_hopt_discharged (psi : ℝ → ℝ) (δ : Fin n → ℝ) (ν : ℝ) (h : optNuR psi d n δ = .val ν) :
    0 < ν ∧ ν ≤ 1000000 := by
  have hval : optNu psi d n (List.ofFn δ) = .val ν := by
    unfold optNuR at h
    cases h2 : optNu psi d n (List.ofFn δ) <;> rw [h2] at h <;> cases h
    rfl
  have := C19_optNu_range (func0 psi d n (List.ofFn δ)) ν hval
  exact ⟨this.2.2, by rw [← nuMax_real]; exact this.2.1⟩

/-- **well-posedness with nothing assumed about `opt_nu` or the median**: for every data set with `n ≥ 2`, every
    `special.psi`, every tolerance and iteration limit, whichever exit the loop takes — the conclusions of
    `C19_fit_wellposed`, with the model's `opt_nu` (scipy's bisect on `[1e-300, 1e6]`) and the model's median -/
theorem C19_fit_wellposed_modelled (psi : ℝ → ℝ) (tol : ℝ) (maxIter : ℕ) (x : Fin n → Fin d → ℝ) (hn : 2 ≤ n) :
    (∀ s ∈ (fitTrace (optNuR psi d n) medR tol maxIter x).1, InBox x s.mu ∧ s.sigma.IsSymm ∧ s.sigma.PosSemidef) ∧
    (fit (optNuR psi d n) medR tol maxIter x).1 ∈ (fitTrace (optNuR psi d n) medR tol maxIter x).1 ∧
    ((fit (optNuR psi d n) medR tol maxIter x).1.sigma.PosDef ∨
      (¬ IsUnit (initSigma x).det ∧ fit (optNuR psi d n) medR tol maxIter x = (init medR x, some 20))) ∧
    (∀ ν, (fit (optNuR psi d n) medR tol maxIter x).2 = some ν → 0 < ν) ∧
    (NonDegenerate x → ∀ s ∈ (fitTrace (optNuR psi d n) medR tol maxIter x).1, s.sigma.PosDef) :=
  C19_fit_wellposed (optNuR psi d n) medR tol maxIter x (fun δ ν h => (C19_hopt_discharged psi δ ν h).1)
    (fun f => medR_box (Nat.lt_of_lt_of_le two_pos hn) f) hn

theorem C19_fit_nu_range_modelled (psi : ℝ → ℝ) (tol : ℝ) (maxIter : ℕ) (x : Fin n → Fin d → ℝ) :
    ∀ ν, (fit (optNuR psi d n) medR tol maxIter x).2 = some ν → 0 < ν ∧ ν ≤ 1000000 := by
  intro ν h
  refine ⟨C19_nu_range (optNuR psi d n) tol x (fun δ ν h => (C19_hopt_discharged psi δ ν h).1) maxIter _ 20 0
      (by norm_num) ν h, ?_⟩
  exact C19_nu_upper (optNuR psi d n) tol x 1000000 (fun δ ν h => (C19_hopt_discharged psi δ ν h).2) maxIter _ 20 0
    (by norm_num) ν h

/-- **equivariance with nothing assumed about `opt_nu` or the median**: permutation of coordinates × non-zero
    per-coordinate scalings × translation, every data set with `n ≥ 2`, every `special.psi` -/
theorem C19_equivariant_modelled (psi : ℝ → ℝ) (tol : ℝ) (maxIter : ℕ) (x : Fin n → Fin d → ℝ) (hn : 2 ≤ n)
    (σ : Equiv.Perm (Fin d)) (s b : Fin d → ℝ) (hs : ∀ a, s a ≠ 0) :
    fitTrace (optNuR psi d n) medR tol maxIter (aff (mono σ s) b x) =
        ((fitTrace (optNuR psi d n) medR tol maxIter x).1.map (St.map (mono σ s) b),
          (fitTrace (optNuR psi d n) medR tol maxIter x).2) ∧
    fit (optNuR psi d n) medR tol maxIter (aff (mono σ s) b x) =
        ((fit (optNuR psi d n) medR tol maxIter x).1.map (mono σ s) b, (fit (optNuR psi d n) medR tol maxIter x).2) :=
  C19_equivariant (optNuR psi d n) medR tol maxIter x (fun δ ν h => (C19_hopt_discharged psi δ ν h).1)
    (fun f a c => medR_affine (Nat.lt_of_lt_of_le two_pos hn) f a c) hn σ s b hs

/-- non-vacuity: the two-point data set of `Props/C19.lean`, any `psi` -/
example (psi : ℝ → ℝ) (tol : ℝ) (k : ℕ) :
    InBox exX (fit (optNuR psi 1 2) medR tol k exX).1.mu ∧
    (∀ s ∈ (fitTrace (optNuR psi 1 2) medR tol k exX).1, s.sigma.PosDef) :=
  let h := C19_fit_wellposed_modelled psi tol k exX le_rfl
  ⟨(h.1 _ h.2.1).1, h.2.2.2.2 exX_nonDegenerate⟩

/-! ### the function-driven loop `loopF` and the tape-driven loop `Model.Student.loop` -/

/-- the tape event of an `opt_nu` outcome that does not escape -/
def toEv {α : Type} : NuOut α → Option (NuEv α)
  | .val x => some (.val x)
  | .inf => some .inf
  | .fail => some .fail
  | .raise => none

/-- a run of `loopF` is a run of the tape-driven loop (the one suite `fit-T` replays) on a tape of at most `fuel` events, each of
    them an answer of its `opt_nu` to some deltas (the proof takes the answers the run got, in order; the statement does not say
    to which deltas each event answers) — for every scalar type, so also for the `Float` instance the driver runs -/
theorem C19_loopF_is_loop {α : Type} [Sc α] (optNu : List α → NuOut α) (tol : α) (n : ℕ) (X : Mat α) (k : ℕ)
    (st : State α) (nu last : α) (r : Result α) (h : loopF optNu tol n X k st nu last = some r) :
    ∃ tape : List (NuEv α), Model.Student.loop tol n X k st nu last tape = r ∧ tape.length ≤ k ∧
      ∀ e ∈ tape, ∃ dl, toEv (optNu dl) = some e := by
  -- a tape of one event `e`, the answer to the deltas `dl`
  have one : ∀ (dl : List α) (e : NuEv α), toEv (optNu dl) = some e →
      ∀ e' ∈ [e], ∃ dl, toEv (optNu dl) = some e' := fun dl e he e' he' =>
    ⟨dl, by rw [List.mem_singleton.mp he']; exact he⟩
  induction k generalizing st nu last r with
  | zero => cases h; exact ⟨[], rfl, le_rfl, nofun⟩
  | succ k ih =>
    rw [loopF] at h
    by_cases hc : Sc.lt tol (Sc.abs (Sc.sub last nu)) = true
    · rw [if_pos hc] at h
      cases hd : stateDeltas n X st with
      | none =>
        rw [hd] at h; cases h
        exact ⟨[], by rw [Model.Student.loop, if_pos hc, hd], Nat.zero_le _, nofun⟩
      | some dl =>
        simp only [hd] at h
        cases ho : optNu dl with
        | raise => simp only [ho] at h; cases h
        | fail =>
          simp only [ho] at h; cases h
          exact ⟨[.fail], by rw [Model.Student.loop, if_pos hc, hd], Nat.succ_le_succ (Nat.zero_le _),
            one dl .fail (by rw [ho]; rfl)⟩
        | inf =>
          simp only [ho] at h; cases h
          exact ⟨[.inf], by rw [Model.Student.loop, if_pos hc, hd], Nat.succ_le_succ (Nat.zero_le _),
            one dl .inf (by rw [ho]; rfl)⟩
        | val nu' =>
          simp only [ho] at h
          cases hi : inv (Model.Student.update n X (diffs X st.mu) (weights X.length nu' dl)).sigma with
          | none =>
            simp only [hi] at h; cases h
            exact ⟨[.val nu'], by rw [Model.Student.loop, if_pos hc, hd]; simp only [hi],
              Nat.succ_le_succ (Nat.zero_le _), one dl (.val nu') (by rw [ho]; rfl)⟩
          | some Si =>
            simp only [hi] at h
            obtain ⟨r', hr, rfl⟩ := Option.map_eq_some_iff.mp h
            obtain ⟨tape, ht, hl, hev⟩ := ih _ _ _ _ hr
            refine ⟨.val nu' :: tape, ?_, Nat.succ_le_succ hl, fun e he => ?_⟩
            · rw [Model.Student.loop, if_pos hc, hd]; simp only [hi, ht]
            · rcases List.mem_cons.mp he with rfl | he
              · exact ⟨dl, by rw [ho]; rfl⟩
              · exact hev e he
    · rw [if_neg hc] at h; cases h
      exact ⟨[], by rw [Model.Student.loop, if_neg hc], Nat.zero_le _, nofun⟩

end Props.C19
