import TempestVerif.Model.LLEval
import TempestVerif.Gen.Dispatch
import TempestVerif.Props.C13Source
import Mathlib.Data.List.Basic
/-
  C13, value level: `_log_like` under every strategy (Model/LLEval.lean).  Dispatch is tabulated for every pool value and fails for
  one only (a non-int object without `map`, used point by point: AttributeError).  A pool that hands back the result of task i in
  position i is the serial map WHATEVER the completion order (`poolMap_eq_map`: proved of the pool model, not assumed), so all
  point-by-point strategies return the same (logl, blobs), or fail the same way, for ANY per-point results; the assembly is
  positional.  A pool handing results back in completion order breaks this (the two necessity witnesses).
-/
namespace Props.C13
open Model.LLEval

/-- the dispatch tables regenerated from `_log_like` / `_get_distribute_func` -/
abbrev llT := Gen.Dispatch.logLike
abbrev distT := Gen.Dispatch.distribute

/-! ### dispatch, for every value of `pool` -/

theorem C13_dispatchV_table (v : Bool) (p : PoolV) :
    logLikeHowV llT distT v p =
      if v then some .direct else
      match p with
      | .none => some .map
      | .int k => if k ≤ 1 then some .map else some (.newPoolMap k)
      | .obj true => some .objMap
      | .obj false => none :=
  (Src.C13_src_logLikeHow v p).trans (Src.logLikeHow_closed v p)

/-- dispatch succeeds for every pool value except a non-int object without a `map` attribute used point by point -/
theorem C13_dispatchV_total (v : Bool) (p : PoolV) (hp : v = true ∨ p ≠ .obj false) :
    logLikeHowV llT distT v p ≠ none := by
  rw [C13_dispatchV_table]
  cases v
  · cases p with
    | none => simp
    | int k => by_cases h : k ≤ 1 <;> simp [h]
    | obj h => cases h <;> simp_all
  · simp

/-- instances of the table: the ints 1 (`True`), 0 (`False`) and −3 are serial, 2 builds a pool; an object without `map` is fine
    when vectorised and fails point by point -/
example : logLikeHowV llT distT false (.int 1) = some .map ∧ logLikeHowV llT distT false (.int 0) = some .map ∧
    logLikeHowV llT distT false (.int (-3)) = some .map ∧ logLikeHowV llT distT false (.int 2) = some (.newPoolMap 2) ∧
    logLikeHowV llT distT true (.obj false) = some .direct ∧ logLikeHowV llT distT false (.obj false) = none := by
  simp only [C13_dispatchV_table]; decide

/-- only an `int > 1` pool creates a pool object — one per batch -/
theorem C13_pools_created (v : Bool) (p : PoolV) (h : HowV) (e : logLikeHowV llT distT v p = some h) :
    poolsCreated h = 1 ↔ (v = false ∧ ∃ k, p = .int k ∧ 1 < k) := by
  rw [C13_dispatchV_table] at e
  cases v
  · cases p with
    | none => cases e; exact iff_of_false (by decide) fun ⟨_, _, hk, _⟩ => by cases hk
    | int k =>
      by_cases hk : k ≤ 1
      · cases e.symm.trans (if_pos hk)
        exact iff_of_false (by decide) fun ⟨_, _, hk', hlt⟩ => by cases hk'; exact not_le.mpr hlt hk
      · cases e.symm.trans (if_neg hk)
        exact iff_of_true rfl ⟨rfl, k, rfl, not_le.mp hk⟩
    | obj hm => cases hm <;> cases e; exact iff_of_false (by decide) fun ⟨_, _, hk, _⟩ => by cases hk
  · cases e; exact iff_of_false (by decide) fun ⟨hv, _⟩ => by cases hv

/-! ### a pool with an arbitrary completion order is the serial map -/

variable {X Y B R : Type}

theorem allSome_map_some (l : List R) : allSome (l.map some) = some l := by
  induction l with
  | nil => rfl
  | cons x xs ih => rw [List.map_cons, allSome, ih]; rfl

theorem allSome_eq_some : ∀ {l : List (Option R)} {r : List R}, allSome l = some r → l = r.map some
  | [], _, h => by cases h; rfl
  | none :: _, _, h => by cases h
  | some x :: xs, _, h => by
    obtain ⟨r', hr', rfl⟩ := Option.map_eq_some_iff.mp h
    rw [allSome_eq_some hr']; rfl

theorem completions_find (f : X → R) (xs : List X) (sched : List Nat) (i : Nat) (x : X) (hx : xs[i]? = some x)
    (hi : i ∈ sched) :
    (completions f xs sched).find? (fun c => c.1 == i) = some (i, f x) := by
  induction sched with
  | nil => cases hi
  | cons j js ih =>
    rw [completions, List.filterMap_cons]
    by_cases hj : j = i
    · rw [hj, hx]
      exact List.find?_cons_of_pos (by simp)
    · have ih' := ih ((List.mem_cons.mp hi).resolve_left (Ne.symm hj))
      cases xs[j]? with
      | none => exact ih'
      | some y => exact (List.find?_cons_of_neg (by simpa using hj)).trans ih'

theorem range_map_eq {β : Type} (xs : List X) (g : Nat → β) (h : X → β) (H : ∀ i x, xs[i]? = some x → g i = h x) :
    (List.range xs.length).map g = xs.map h := by
  refine List.ext_getElem (by simp) fun i h1 _ => ?_
  simpa using H i _ (List.getElem?_eq_getElem (by simpa using h1))

theorem filterMap_range_getElem? (xs : List X) : (List.range xs.length).filterMap (fun i => xs[i]?) = xs := by
  calc _ = ((List.range xs.length).map fun i => xs[i]?).filterMap id := List.filterMap_map.symm
    _ = xs := by rw [range_map_eq xs _ some fun _ _ hx => hx, List.filterMap_map]; exact List.filterMap_some

/-- C13 (pool, any completion order): a pool that returns the result of task i in position i computes the serial map,
    for EVERY order in which the tasks of the batch complete -/
theorem poolMap_eq_map (f : X → R) (xs : List X) (sched : List Nat) (hs : sched.Perm (List.range xs.length)) :
    poolMap sched f xs = some (xs.map f) := by
  have slot : ∀ i x, xs[i]? = some x →
      ((completions f xs sched).find? fun c => c.1 == i).map (·.2) = (some ∘ f) x := fun i x hx => by
    have hi := hs.symm.subset (List.mem_range.mpr (List.getElem?_eq_some_iff.mp hx).1)
    rw [completions_find f xs sched i x hx hi]; rfl
  rw [poolMap, collect, range_map_eq xs _ _ slot, ← List.map_map, allSome_map_some]

/-- a pool whose tasks complete in any order evaluates the user's function at exactly the points of the batch, each once
    (`poolLog`: in completion order) -/
theorem poolLog_perm (xs : List X) (sched : List Nat) (hs : sched.Perm (List.range xs.length)) :
    (poolLog xs sched).Perm xs :=
  (hs.filterMap fun i => xs[i]?).trans (.of_eq (filterMap_range_getElem? xs))

/-- necessity of the `map` contract: handing results back in COMPLETION order is not the serial map -/
theorem C13_completion_order_not_map :
    ∃ (sched : List Nat) (xs : List Nat), sched.Perm (List.range xs.length) ∧
      completionOrderMap sched (fun x => x) xs ≠ xs.map (fun x => x) :=
  ⟨[1, 0], [10, 20], by decide, by decide⟩

/-! ### result assembly is positional -/

theorem map_eq_map_some {A C D : Type} {f : A → Option C} {g : A → Option D} {p : C → D}
    (hg : ∀ a c, f a = some c → g a = some (p c)) :
    ∀ {l : List A} {q : List C}, l.map f = q.map some → l.map g = (q.map p).map some
  | [], [], _ => rfl
  | [], _ :: _, h => by cases h
  | _ :: _, [], h => by cases h
  | a :: l, c :: q, h => by
    obtain ⟨h1, h2⟩ := List.cons.inj h
    rw [List.map_cons, List.map_cons, List.map_cons, hg a c h1, map_eq_map_some hg h2]

theorem eq_bind_of_map_eq_map_some {A D : Type} {g : A → Option D} :
    ∀ {o : Option A} {q : Option D}, o.map g = q.map some → q = o.bind g
  | none, none, _ => rfl
  | none, some _, h => by cases h
  | some _, none, h => by cases h
  | some _, some _, h => (Option.some.inj h).symm

theorem mkBlobs_row (rows : List (List B)) (b : Blobs B) (h : mkBlobs rows = some b) (i : Nat) :
    b.row i = rows[i]? := by
  cases rows with
  | nil => cases h
  | cons r0 rest =>
    rw [mkBlobs] at h
    split at h
    · next hall =>
      split at h
      · next h1 =>
        cases h
        -- every row has one cell, so the column of heads, cell by cell, is the rows
        rw [Blobs.row, ← List.getElem?_map, List.map_filterMap, List.filterMap_congr (g := some), List.filterMap_some]
        intro r hr
        match r, (beq_iff_eq.mp (List.all_eq_true.mp hall r hr)).trans (beq_iff_eq.mp h1) with
        | [x], _ => rfl
      · cases h; rfl
    · cases h

theorem assemble_inv {rs : List (Res Y B)} {o : Out Y B} (h : assemble rs = some o) :
    (∃ (ps : List (Y × List B)) (b : Blobs B), rs.map Res.split? = ps.map some ∧ mkBlobs (ps.map (·.2)) = some b ∧ o = ⟨ps.map (·.1), some b⟩) ∨
    (rs.map Res.float? = o.logl.map some ∧ o.blobs = none) := by
  cases rs with
  | nil => cases h; exact .inr ⟨rfl, rfl⟩
  | cons r0 rest =>
    rw [assemble] at h
    split at h
    · obtain ⟨ps, hps, h⟩ := Option.bind_eq_some_iff.mp h
      obtain ⟨b, hb, rfl⟩ := Option.map_eq_some_iff.mp h
      exact .inl ⟨ps, b, allSome_eq_some hps, hb, rfl⟩
    · obtain ⟨ls, hls, rfl⟩ := Option.map_eq_some_iff.mp h
      exact .inr ⟨allSome_eq_some hls, rfl⟩

/-- entry i of `logl` is the number returned for point i — for every accepted list of results -/
theorem assemble_logl (rs : List (Res Y B)) (o : Out Y B) (h : assemble rs = some o) :
    rs.map Res.y? = o.logl.map some := by
  rcases assemble_inv h with ⟨ps, b, hps, -, rfl⟩ | ⟨hls, -⟩
  · exact map_eq_map_some (g := Res.y?) (p := (·.1)) (fun r c h => by cases r <;> cases h; rfl) hps
  · simpa using map_eq_map_some (g := Res.y?) (p := id) (fun r y h => by cases r <;> cases h; rfl) hls

/-- row i of `blobs` is the blob tuple returned for point i -/
theorem assemble_blobs (rs : List (Res Y B)) (o : Out Y B) (b : Blobs B) (h : assemble rs = some o) (hb : o.blobs = some b)
    (i : Nat) : b.row i = (rs[i]?).bind Res.bs? := by
  rcases assemble_inv h with ⟨ps, b', hps, hb', rfl⟩ | ⟨-, hn⟩
  · cases hb
    have := congrArg (·[i]?) (map_eq_map_some (g := Res.bs?) (p := (·.2)) (fun r c h => by cases r <;> cases h; rfl) hps)
    simp only [List.getElem?_map] at this
    rw [mkBlobs_row _ _ hb' i, List.getElem?_map]
    exact eq_bind_of_map_eq_map_some this
  · rw [hn] at hb; cases hb

theorem assemble_vals (L : X → Y) (xs : List X) :
    assemble (xs.map fun x => (Res.val (L x) : Res Y B)) = some ⟨xs.map L, none⟩ := by
  cases xs with
  | nil => rfl
  | cons x rest =>
    have hf : ((x :: rest).map fun x => (Res.val (L x) : Res Y B)).map Res.float? = ((x :: rest).map L).map some := by
      rw [List.map_map, List.map_map]; rfl
    rw [List.map_cons, assemble, if_neg (by exact Bool.false_ne_true), ← List.map_cons (f := fun x => Res.val (L x)), hf,
      allSome_map_some]
    rfl

/-! ### transparency of `_log_like` -/

/-- C13 (point-by-point strategies, ANY per-point results, blobs included): serial map, a new `Pool(k)` and a pool object with
    any completion order return the same pair — or raise alike -/
theorem C13_logLike_pointwise (how : HowV) (hh : how ≠ .direct) (sched : List Nat) (f : X → Res Y B)
    (fvec : List X → List Y) (xs : List X) (hs : sched.Perm (List.range xs.length)) :
    logLike how sched f fvec xs = assemble (xs.map f) := by
  cases how with
  | direct => exact absurd rfl hh
  | map => rfl
  | newPoolMap _ | objMap => rw [logLike, poolMap_eq_map f xs sched hs, Option.bind_some]

/-- C13 (all strategies): for a likelihood that returns numbers and a vectorised form that is pointwise the same function,
    EVERY strategy hands the algorithm `(map L xs, None)` -/
theorem C13_logLike_transparent (how : HowV) (sched : List Nat) (L : X → Y) (fvec : List X → List Y)
    (hvec : ∀ xs, fvec xs = xs.map L) (xs : List X) (hs : sched.Perm (List.range xs.length)) :
    logLike how sched (fun x => (Res.val (L x) : Res Y B)) fvec xs = some ⟨xs.map L, none⟩ := by
  by_cases hh : how = .direct
  · rw [hh, logLike, hvec]
  · rw [C13_logLike_pointwise how hh sched _ fvec xs hs, assemble_vals]

theorem C13_logLike_configs_agree_how (h h' : HowV) (sched sched' : List Nat) (L : X → Y) (fvec : List X → List Y)
    (hvec : ∀ xs, fvec xs = xs.map L) (xs : List X)
    (hs : sched.Perm (List.range xs.length)) (hs' : sched'.Perm (List.range xs.length)) :
    logLike h sched (fun x => (Res.val (L x) : Res Y B)) fvec xs
      = logLike h' sched' (fun x => (Res.val (L x) : Res Y B)) fvec xs := by
  rw [C13_logLike_transparent h sched L fvec hvec xs hs, C13_logLike_transparent h' sched' L fvec hvec xs hs']

/-- two configurations (any `vectorize`, any pools, any completion orders) give `_log_like` the same value -/
theorem C13_logLike_configs_agree (v v' : Bool) (p p' : PoolV) (h h' : HowV)
    (_e : logLikeHowV llT distT v p = some h) (_e' : logLikeHowV llT distT v' p' = some h')
    (sched sched' : List Nat) (L : X → Y) (fvec : List X → List Y) (hvec : ∀ xs, fvec xs = xs.map L) (xs : List X)
    (hs : sched.Perm (List.range xs.length)) (hs' : sched'.Perm (List.range xs.length)) :
    logLike h sched (fun x => (Res.val (L x) : Res Y B)) fvec xs
      = logLike h' sched' (fun x => (Res.val (L x) : Res Y B)) fvec xs :=
  C13_logLike_configs_agree_how h h' sched sched' L fvec hvec xs hs hs'

/-- C13 (evaluation count): under every strategy the user's likelihood is evaluated at exactly the points of the batch -/
theorem C13_logLike_evaluates_batch (how : HowV) (sched : List Nat) (xs : List X)
    (hs : sched.Perm (List.range xs.length)) :
    (logLikeLog how sched xs).Perm xs ∧ (logLikeLog how sched xs).length = xs.length := by
  have : (logLikeLog how sched xs).Perm xs := by
    cases how with
    | direct | map => exact .refl _
    | newPoolMap _ | objMap => exact poolLog_perm xs sched hs
  exact ⟨this, this.length_eq⟩

/-- necessity: with results handed back in completion order the values reach the wrong particles -/
theorem C13_completion_order_breaks_transparency :
    ∃ (sched : List Nat) (xs : List Nat), sched.Perm (List.range xs.length) ∧
      assemble ((completionOrderMap sched (fun x => (Res.val x : Res Nat Nat)) xs))
        ≠ assemble (xs.map fun x => (Res.val x : Res Nat Nat)) := by
  refine ⟨[1, 0], [10, 20], by decide, by decide⟩

/-! ### `FunctionWrapper` and `_evaluate_likelihood` -/

/-- one call of the wrapper is one call of the user's function, at the same point, with the stored extra arguments -/
theorem C13_wrapper_call {A : Type} (f : X → List A → List (String × A) → R) (args : Option (List A))
    (kwargs : Option (List (String × A))) (x : X) :
    (Wrapper.init f args kwargs).call x =
      f x (match args with | none => [] | some a => a) (match kwargs with | none => [] | some k => k) := rfl

/-- `_evaluate_likelihood` adds `n_walkers` to the per-run counter for one `_log_like` call, with or without blobs, and hands
    on the log-likelihoods unchanged -/
theorem C13_evaluateLikelihood (haveBlobs : Bool) (ll : List X → Option (Out Y B)) (xp : List X) (n w : Nat)
    (o : Out Y B) (h : ll xp = some o) :
    evaluateLikelihood haveBlobs ll xp n w = some (o.logl, (if haveBlobs then o.blobs else none), n + w) := by
  simp [evaluateLikelihood, h]

example : logLike (Y := Int) (B := Int) .objMap [2, 0, 1] (fun x => .seq x [x + 1]) (fun _ => []) [5, 6, 7]
    = some ⟨[5, 6, 7], some (.single [6, 7, 8])⟩ := by decide
example : logLike (Y := Int) (B := Int) (.newPoolMap 3) [1, 0] (fun x => .seq x [x + 1, 2 * x]) (fun _ => []) [5, 6]
    = some ⟨[5, 6], some (.rows 2 [[6, 10], [7, 12]])⟩ := by decide
example : logLike (Y := Int) (B := Int) .map [] (fun x => if x = 6 then .val x else .seq x [x]) (fun _ => []) [5, 6]
    = none := by decide
example : logLikeLog .objMap [2, 0, 1] [5, 6, 7] = [7, 5, 6] := by decide

end Props.C13
