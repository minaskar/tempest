import TempestVerif.Props.C06
import TempestVerif.Lemmas.RoundMap
/-
  C06 — the count law of `systematic_resample` for ROUNDED (floating-point) arithmetic.

  The same model definitions (`Model.Resample`) are executed in a "standard model" of rounded arithmetic:
  every `+ - * /` is followed by a rounding `rnd` with relative error `eps`, monotone and idempotent
  (IEEE round-to-nearest without over/underflow satisfies this with `eps = 2^-53`); comparisons are exact.

  The count bound `|count_j − n·v_j| < 1 + n·(|S − 1| + 6·eps + 4·m·eps·S)` (`v` the effective weights, `S` their exact sum, `m` their
  number) is put together from statements about variables: cells of the rounded run (`fp_count_cells`), positions within
  `3·eps` of the comb, running sums within `2·m·eps·S` of the cumulative sums, then `near_comb_count` and `assemble`.
-/
namespace Props.C06.Fp
open Model.Resample Lemmas.CeilComb

/-- standard model of rounded arithmetic: relative error `eps`, monotone, idempotent -/
structure Rnd where
  rnd : ℝ → ℝ
  eps : ℝ
  eps_nonneg : 0 ≤ eps
  err : ∀ x, |rnd x - x| ≤ eps * |x|
  mono : Monotone rnd
  idem : ∀ x, rnd (rnd x) = rnd x

/-- reals whose arithmetic results are rounded by `R` (a type synonym, so that instance search does not pick the
    exact instance `instScReal`) -/
def Fl (_R : Rnd) : Type := ℝ

def toR {R : Rnd} (x : Fl R) : ℝ := x
/-- a real number used as a rounded scalar (an input; NOT rounded) -/
def ofR {R : Rnd} (x : ℝ) : Fl R := x
def toRL {R : Rnd} (l : List (Fl R)) : List ℝ := l
/-- the EXACT real sum of a list of rounded scalars (not the rounded running sum `Lemmas.RoundMap.rsum`) -/
noncomputable def rsum {R : Rnd} (l : List (Fl R)) : ℝ := (toRL l).sum

open Classical in
noncomputable instance instScFl (R : Rnd) : Sc (Fl R) where
  add a b := ofR (R.rnd (toR a + toR b))
  sub a b := ofR (R.rnd (toR a - toR b))
  mul a b := ofR (R.rnd (toR a * toR b))
  div a b := ofR (R.rnd (toR a / toR b))
  neg a := ofR (-toR a)
  ofNat n := ofR (n : ℝ)
  lit m e := ofR (R.rnd ((m : ℝ) / (10 : ℝ) ^ e))
  lt a b := decide (toR a < toR b)
  le a b := decide (toR a ≤ toR b)
  floor a := ofR (⌊toR a⌋ : ℝ)
  isEven n := decide (⌊toR n⌋ % 2 = 0)

@[simp] theorem toR_ofR {R : Rnd} (x : ℝ) : toR (ofR x : Fl R) = x := rfl
@[simp] theorem ofR_toR {R : Rnd} (x : Fl R) : ofR (toR x) = x := rfl
theorem toR_inj {R : Rnd} {a b : Fl R} (h : toR a = toR b) : a = b := h

@[simp] theorem add_def {R : Rnd} (a b : Fl R) : toR (Sc.add a b) = R.rnd (toR a + toR b) := rfl
@[simp] theorem sub_def {R : Rnd} (a b : Fl R) : toR (Sc.sub a b) = R.rnd (toR a - toR b) := rfl
@[simp] theorem mul_def {R : Rnd} (a b : Fl R) : toR (Sc.mul a b) = R.rnd (toR a * toR b) := rfl
@[simp] theorem div_def {R : Rnd} (a b : Fl R) : toR (Sc.div a b) = R.rnd (toR a / toR b) := rfl
@[simp] theorem ofNat_def {R : Rnd} (n : ℕ) : toR (Sc.ofNat n : Fl R) = (n : ℝ) := rfl
theorem ge_decide {R : Rnd} (a b : Fl R) : Sc.ge a b = decide (toR b ≤ toR a) := rfl
theorem ge_true_iff {R : Rnd} (a b : Fl R) : Sc.ge a b = true ↔ toR b ≤ toR a := by
  rw [ge_decide]; exact decide_eq_true_iff
theorem gt_decide {R : Rnd} (a b : Fl R) : Sc.gt a b = decide (toR b < toR a) := rfl
theorem lt_decide {R : Rnd} (a b : Fl R) : Sc.lt a b = decide (toR a < toR b) := rfl
theorem neg_def {R : Rnd} (a : Fl R) : toR (Sc.neg a) = -toR a := rfl
theorem one_def {R : Rnd} : toR (Sc.one : Fl R) = 1 := by show ((1 : ℕ) : ℝ) = 1; simp
theorem zero_def {R : Rnd} : toR (Sc.zero : Fl R) = 0 := by show ((0 : ℕ) : ℝ) = 0; simp
theorem gt_zero_iff {R : Rnd} (x : Fl R) : Sc.gt x Sc.zero = true ↔ 0 < toR x := by
  rw [gt_decide, zero_def]; exact decide_eq_true_iff

theorem toRL_length {R : Rnd} (l : List (Fl R)) : (toRL l).length = l.length := rfl
theorem toRL_getElem {R : Rnd} (l : List (Fl R)) (k : ℕ) (h : k < l.length) :
    (toRL l)[k]'(by rw [toRL_length]; exact h) = toR l[k] := rfl
theorem mem_toRL {R : Rnd} (l : List (Fl R)) (x : ℝ) : x ∈ toRL l ↔ ∃ y ∈ l, toR y = x := by
  constructor
  · intro h; exact ⟨ofR x, h, rfl⟩
  · rintro ⟨y, hy, rfl⟩; exact hy

theorem lastPos?_toRL {R : Rnd} (v : List (Fl R)) : lastPos? (toRL v) = lastPos? v := by
  induction v with
  | nil => rfl
  | cons x xs ih =>
    show lastPos? ((toR x) :: toRL xs) = lastPos? (x :: xs)
    simp only [lastPos?]
    rw [ih]
    have e : Sc.gt (toR x) (Sc.zero : ℝ) = Sc.gt x (Sc.zero : Fl R) := by
      rw [gt_decide, zero_def]
      show decide ((Sc.zero : ℝ) < toR x) = _
      rw [ScReal.zero_def]
    rw [e]

theorem lastPositive_toRL {R : Rnd} (v : List (Fl R)) : lastPositive (toRL v) = lastPositive v := by
  unfold lastPositive
  rw [lastPos?_toRL, toRL_length]

/-! ### consequences of the rounding rules -/

theorem Rnd.rnd_zero (R : Rnd) : R.rnd 0 = 0 := by
  have h := R.err 0
  rw [abs_zero, mul_zero, sub_zero] at h
  exact abs_nonpos_iff.mp h

theorem Rnd.rnd_nonneg (R : Rnd) {x : ℝ} (hx : 0 ≤ x) : 0 ≤ R.rnd x := by
  have := R.mono hx
  rwa [R.rnd_zero] at this

theorem Rnd.err_nonneg (R : Rnd) {x : ℝ} (hx : 0 ≤ x) : |R.rnd x - x| ≤ R.eps * x := by
  have := R.err x
  rwa [abs_of_nonneg hx] at this

theorem Rnd.near (R : Rnd) {x y δ : ℝ} (h : |x - y| ≤ δ) : |R.rnd x - y| ≤ R.eps * |y| + (1 + R.eps) * δ := by
  simpa using abs_rnd_sub_le_of_err (η := 0) R.eps_nonneg ((R.err x).trans_eq (add_zero _).symm) h

/-- one step of a running sum: if `c` is within `2·k·eps·S` of `p` and `p + x ≤ S`, rounding `c + x` adds at most
    `eps·(p + x) + eps·2k·eps·S ≤ 2·eps·S` to the error -/
theorem Rnd.sum_step (R : Rnd) {c p x S k : ℝ} (hpx : 0 ≤ p + x) (hS0 : 0 ≤ S) (hS : p + x ≤ S)
    (hk : 2 * k * R.eps ≤ 1) (ih : |c - p| ≤ 2 * k * R.eps * S) :
    |R.rnd (c + x) - (p + x)| ≤ 2 * (k + 1) * R.eps * S := by
  have h := R.near (x := c + x) (y := p + x) (δ := 2 * k * R.eps * S) (by rw [add_sub_add_right_eq_sub]; exact ih)
  rw [abs_of_nonneg hpx] at h
  have h1 := mul_le_mul_of_nonneg_left hS R.eps_nonneg
  have h2 := mul_le_mul_of_nonneg_right hk (mul_nonneg R.eps_nonneg hS0)
  linear_combination h + h1 + h2

theorem Rnd.div_near (R : Rnd) (heps : R.eps ≤ 1 / 4) {t n : ℝ} (ht : 0 ≤ t) (hn : 0 < n) (hq : t / n ≤ 1) :
    |R.rnd (R.rnd t / n) - t / n| ≤ 3 * R.eps := by
  have he := R.eps_nonneg
  have hq0 : 0 ≤ t / n := div_nonneg ht hn.le
  have h1 : |R.rnd t / n - t / n| ≤ R.eps * (t / n) := by
    rw [← sub_div, abs_div, abs_of_pos hn, ← mul_div_assoc]
    exact div_le_div_of_nonneg_right (R.err_nonneg ht) hn.le
  have h := R.near h1
  rw [abs_of_nonneg hq0] at h
  -- `eps·q·(2 + eps) ≤ 9/4·eps` for `q ≤ 1`, `eps ≤ 1/4`
  have h2 := mul_le_mul_of_nonneg_left hq he
  have h3 := mul_le_mul_of_nonneg_left heps (mul_nonneg he hq0)
  linear_combination h + (9 / 4) * h2 + h3 + (3 / 4) * he

/-! ### positions -/

/-- `positions[i]` in rounded arithmetic: `toR (position n u0 i)` at `u0 : Fl R`, by unfolding -/
noncomputable def posR (R : Rnd) (n : ℕ) (u0 : ℝ) (i : ℕ) : ℝ := R.rnd (R.rnd (u0 + i) / n)

theorem posR_nonneg (R : Rnd) (n : ℕ) (u0 : ℝ) (h0 : 0 ≤ u0) (i : ℕ) : 0 ≤ posR R n u0 i :=
  R.rnd_nonneg (div_nonneg (R.rnd_nonneg (add_nonneg h0 (Nat.cast_nonneg i))) (Nat.cast_nonneg n))

theorem posR_mono (R : Rnd) (n : ℕ) (u0 : ℝ) {a b : ℕ} (h : a ≤ b) : posR R n u0 a ≤ posR R n u0 b :=
  R.mono (div_le_div_of_nonneg_right (R.mono (add_le_add_right (Nat.cast_le.mpr h) u0)) (Nat.cast_nonneg n))

theorem posR_near (R : Rnd) (heps : R.eps ≤ 1 / 4) (n : ℕ) (u0 : ℝ) (h0 : 0 ≤ u0) (h1 : u0 < 1) (i : ℕ)
    (hi : i < n) : |posR R n u0 i - (u0 + i) / n| ≤ 3 * R.eps :=
  R.div_near heps (add_nonneg h0 (Nat.cast_nonneg i)) (Nat.cast_pos.mpr (Nat.zero_lt_of_lt hi))
    (comb_mem_Ico h0 h1 hi).2.le

/-! ### running sums -/

/-- `C k` is the loop's rounded running sum at index `k` for the (real images of the) effective weights `v` -/
structure Sums (R : Rnd) (v : List ℝ) (C : ℕ → ℝ) : Prop where
  zero : ∀ h : 0 < v.length, C 0 = v[0]
  succ : ∀ k (h : k + 1 < v.length), C (k + 1) = R.rnd (C k + v[k + 1])
  nonneg : ∀ x ∈ v, 0 ≤ x
  rep : ∀ x ∈ v, R.rnd x = x

theorem Sums.C_rep {R : Rnd} {v : List ℝ} {C : ℕ → ℝ} (H : Sums R v C) (k : ℕ) (hk : k < v.length) : R.rnd (C k) = C k := by
  cases k with
  | zero => rw [H.zero hk]; exact H.rep _ (List.getElem_mem hk)
  | succ k => rw [H.succ k hk, R.idem]

theorem Sums.C_mono {R : Rnd} {v : List ℝ} {C : ℕ → ℝ} (H : Sums R v C) (a b : ℕ) (hab : a ≤ b) (hb : b < v.length) : C a ≤ C b := by
  induction b, hab using Nat.le_induction with
  | base => exact le_refl _
  | succ b _ ih =>
    have hb' := Nat.lt_of_succ_lt hb
    calc C a ≤ C b := ih hb'
      _ = R.rnd (C b) := (H.C_rep b hb').symm
      _ ≤ R.rnd (C b + v[b + 1]) := R.mono (le_add_of_nonneg_right (H.nonneg _ (List.getElem_mem hb)))
      _ = C (b + 1) := (H.succ b hb).symm

theorem Sums.sum_nonneg {R : Rnd} {v : List ℝ} {C : ℕ → ℝ} (H : Sums R v C) : 0 ≤ v.sum := List.sum_nonneg H.nonneg

theorem Sums.C_zero_step {R : Rnd} {v : List ℝ} {C : ℕ → ℝ} (H : Sums R v C) (k : ℕ) (hk : k + 1 < v.length)
    (hz : v[k + 1] = 0) : C (k + 1) = C k := by
  rw [H.succ k hk, hz, add_zero, H.C_rep k (by omega)]

theorem Sums.C_err {R : Rnd} {v : List ℝ} {C : ℕ → ℝ} (H : Sums R v C) (hm : (v.length : ℝ) * R.eps ≤ 1 / 2) (k : ℕ) (hk : k < v.length) :
    |C k - P v (k + 1)| ≤ 2 * k * R.eps * v.sum := by
  induction k with
  | zero =>
    rw [H.zero hk, P_succ v 0 hk, P_zero]
    simp
  | succ k ih =>
    have hkm : (k : ℝ) + 1 ≤ v.length := by exact_mod_cast hk.le
    have hke := mul_le_mul_of_nonneg_right hkm R.eps_nonneg
    have hPS : P v (k + 1) + v[k + 1] ≤ v.sum := by
      rw [← P_succ v (k + 1) hk]; exact P_le_sum v H.nonneg _
    have := R.sum_step (c := C k) (add_nonneg (P_nonneg v H.nonneg _) (H.nonneg _ (List.getElem_mem hk))) H.sum_nonneg hPS
      (by linarith [R.eps_nonneg]) (ih (by omega))
    rw [H.succ k hk, P_succ v (k + 1) hk]
    push_cast
    exact this

theorem Sums.C_err_unif {R : Rnd} {v : List ℝ} {C : ℕ → ℝ} (H : Sums R v C) (hm : (v.length : ℝ) * R.eps ≤ 1 / 2) (k : ℕ) (hk : k < v.length) :
    |C k - P v (k + 1)| ≤ 2 * v.length * R.eps * v.sum := by
  refine le_trans (H.C_err hm k hk) ?_
  have hkm : (k : ℝ) ≤ v.length := by exact_mod_cast hk.le
  exact mul_le_mul_of_nonneg_right
    (mul_le_mul_of_nonneg_right (mul_le_mul_of_nonneg_left hkm zero_le_two) R.eps_nonneg) H.sum_nonneg

theorem sums_fl {R : Rnd} (c0 : Fl R) (t : List (Fl R)) (hv0 : ∀ x ∈ c0 :: t, 0 ≤ toR x)
    (hrep : ∀ x ∈ c0 :: t, R.rnd (toR x) = toR x) :
    Sums R (toRL (c0 :: t)) (fun k => toR (cum (c0 :: t) c0 k)) where
  zero := fun _ => rfl
  succ := fun k h => congrArg toR (cum_succ (c0 :: t) c0 k h)
  nonneg := fun x hx => by
    obtain ⟨y, hy, rfl⟩ := (mem_toRL _ x).mp hx
    exact hv0 y hy
  rep := fun x hx => by
    obtain ⟨y, hy, rfl⟩ := (mem_toRL _ x).mp hx
    exact hrep y hy

/-! ### counting comb points in an interval (no model) -/

/-- clamp to the range `[0,1]` of the comb -/
noncomputable def clamp (z : ℝ) : ℝ := max 0 (min z 1)

theorem clamp_nonneg (z : ℝ) : 0 ≤ clamp z := le_max_left _ _
theorem clamp_le_one (z : ℝ) : clamp z ≤ 1 := max_le zero_le_one (min_le_right _ _)
theorem clamp_of_mem {z : ℝ} (h0 : 0 ≤ z) (h1 : z ≤ 1) : clamp z = z := by
  unfold clamp; rw [min_eq_left h1, max_eq_right h0]
theorem clamp_of_one_le {z : ℝ} (h1 : 1 ≤ z) : clamp z = 1 := by
  unfold clamp; rw [min_eq_right h1, max_eq_right zero_le_one]
theorem clamp_of_nonneg {z : ℝ} (h : 0 ≤ z) : clamp z = min z 1 := max_eq_right (le_min h zero_le_one)
theorem clamp_mono {a b : ℝ} (h : a ≤ b) : clamp a ≤ clamp b :=
  max_le_max (le_refl _) (min_le_min h (le_refl _))
theorem clamp_add_le (a d : ℝ) (hd : 0 ≤ d) : clamp (a + d) ≤ clamp a + d := by
  unfold clamp
  apply max_le
  · have := le_max_left 0 (min a 1); linarith
  · have h1 : min (a + d) 1 ≤ min a 1 + d := by
      rcases le_total a 1 with h | h
      · rw [min_eq_left h]; exact min_le_left _ _
      · rw [min_eq_right h]; exact le_trans (min_le_right _ _) (by linarith)
    have := le_max_right 0 (min a 1); linarith
theorem clamp_lip (a b d : ℝ) (h : |a - b| ≤ d) : |clamp a - clamp b| ≤ d := by
  have hab := abs_le.mp h
  have hd : 0 ≤ d := le_trans (abs_nonneg _) h
  have h1 : clamp a ≤ clamp b + d := le_trans (clamp_mono (by linarith [hab.2])) (clamp_add_le b d hd)
  have h2 : clamp b ≤ clamp a + d := le_trans (clamp_mono (by linarith [hab.1])) (clamp_add_le a d hd)
  rw [abs_le]; constructor <;> linarith

theorem comb_mem_clamp {n : ℕ} {u0 : ℝ} (h0 : 0 ≤ u0) (h1 : u0 < 1) (x y : ℝ) {i : ℕ} (hi : i < n) :
    (x ≤ (u0 + i) / n ∧ (u0 + i) / n < y) ↔ (clamp x ≤ (u0 + i) / n ∧ (u0 + i) / n < clamp y) := by
  obtain ⟨hq0, hq1⟩ := comb_mem_Ico h0 h1 hi
  generalize (u0 + i) / n = q at hq0 hq1
  unfold clamp
  constructor
  · rintro ⟨a, b⟩
    exact ⟨max_le hq0 (le_trans (min_le_left _ _) a), lt_of_lt_of_le (lt_min b hq1) (le_max_right _ _)⟩
  · rintro ⟨a, b⟩
    constructor
    · exact (min_le_iff.mp (le_trans (le_max_right _ _) a)).resolve_right (not_le.mpr hq1)
    · exact ((lt_max_iff.mp b).resolve_left (not_lt.mpr hq0)).trans_le (min_le_left _ _)

theorem comb_count_near (n : ℕ) (hn : 1 ≤ n) (u0 : ℝ) (h0 : 0 ≤ u0) (h1 : u0 < 1) (x y : ℝ) :
    (((List.range n).countP (fun (i : ℕ) => decide (x ≤ (u0 + i) / n ∧ (u0 + i) / n < y)) : ℕ) : ℝ)
        < 1 + max 0 (n * (clamp y - clamp x)) ∧
    n * (clamp y - clamp x) - 1 <
      (((List.range n).countP (fun (i : ℕ) => decide (x ≤ (u0 + i) / n ∧ (u0 + i) / n < y)) : ℕ) : ℝ) := by
  have e : (List.range n).countP (fun (i : ℕ) => decide (x ≤ (u0 + i) / n ∧ (u0 + i) / n < y))
      = (List.range n).countP (fun (i : ℕ) => decide (clamp x ≤ (u0 + i) / n ∧ (u0 + i) / n < clamp y)) :=
    List.countP_congr fun i hi => by
      simp only [decide_eq_true_eq]
      exact comb_mem_clamp h0 h1 x y (List.mem_range.mp hi)
  rw [e]
  rcases le_or_gt (clamp x) (clamp y) with hxy | hxy
  · -- the count is `⌈n·y' − u0⌉ − ⌈n·x' − u0⌉`, within 1 of `n·(y' − x')`
    have hnear := abs_lt.mp (ceil_comb_sub_near n u0 (clamp x) (clamp y))
    rw [← comb_count n hn u0 h0 h1 _ _ (clamp_nonneg x) hxy (clamp_le_one y), Int.cast_natCast] at hnear
    exact ⟨(sub_lt_iff_lt_add.mp hnear.2).trans_le ((add_le_add_iff_left 1).mpr (le_max_right _ _)), by linarith [hnear.1]⟩
  · -- an empty interval: no points, and `n·(y' − x') < 0`
    have hz : (List.range n).countP
        (fun (i : ℕ) => decide (clamp x ≤ (u0 + i) / n ∧ (u0 + i) / n < clamp y)) = 0 :=
      List.countP_eq_zero.mpr fun i _ => by
        simp only [decide_eq_true_eq, not_and, not_lt]
        exact fun a => hxy.le.trans a
    have hneg : n * (clamp y - clamp x) ≤ 0 :=
      mul_nonpos_of_nonneg_of_nonpos (Nat.cast_nonneg n) (sub_nonpos.mpr hxy.le)
    rw [hz, Nat.cast_zero]
    exact ⟨lt_add_of_pos_of_le one_pos (le_max_left _ _), (sub_lt_self _ one_pos).trans_le hneg⟩

theorem near_mem {q c δ : ℝ} (h : |q - c| ≤ δ) (x y : ℝ) :
    ((x ≤ q ∧ q < y) → (x - δ ≤ c ∧ c < y + δ)) ∧ ((x + δ ≤ c ∧ c < y - δ) → (x ≤ q ∧ q < y)) := by
  rw [abs_le] at h
  constructor <;> rintro ⟨a, b⟩ <;> constructor <;> linarith

theorem near_comb_count (n : ℕ) (hn : 1 ≤ n) (u0 : ℝ) (h0 : 0 ≤ u0) (h1 : u0 < 1) (q : ℕ → ℝ) (δ : ℝ)
    (hq : ∀ i < n, |q i - (u0 + i) / n| ≤ δ) (x y : ℝ) :
    (((List.range n).countP (fun (i : ℕ) => decide (x ≤ q i ∧ q i < y)) : ℕ) : ℝ)
        < 1 + max 0 (n * (clamp (y + δ) - clamp (x - δ))) ∧
    n * (clamp (y - δ) - clamp (x + δ)) - 1 <
      (((List.range n).countP (fun (i : ℕ) => decide (x ≤ q i ∧ q i < y)) : ℕ) : ℝ) := by
  constructor
  · refine lt_of_le_of_lt (Nat.cast_le.mpr (List.countP_mono_left fun i hi => ?_))
      (comb_count_near n hn u0 h0 h1 (x - δ) (y + δ)).1
    simp only [decide_eq_true_eq]
    exact (near_mem (hq i (List.mem_range.mp hi)) x y).1
  · refine lt_of_lt_of_le (comb_count_near n hn u0 h0 h1 (x + δ) (y - δ)).2
      (Nat.cast_le.mpr (List.countP_mono_left fun i hi => ?_))
    simp only [decide_eq_true_eq]
    exact (near_mem (hq i (List.mem_range.mp hi)) x y).2

/-! ### the rounded run: which positions receive index `j` -/

theorem fp_count_cells {R : Rnd} (n : ℕ) (u0 : Fl R) (heps : R.eps ≤ 1 / 4) (h0 : 0 ≤ toR u0) (h1 : toR u0 < 1)
    (c0 : Fl R) (t : List (Fl R)) (idx : List ℕ)
    (H : Sums R (toRL (c0 :: t)) (fun k => toR (cum (c0 :: t) c0 k)))
    (hL : LoopSpec (cum (c0 :: t) c0) (lastPositive (c0 :: t)) (position n u0) (List.range n) 0 idx) (j : ℕ) :
    idx.count j = (List.range n).countP (fun i => decide (
      cellEdge (fun k => toR (cum (c0 :: t) c0 k)) (lastPositive (toRL (c0 :: t)) + 1) (1 + 3 * R.eps) j ≤ posR R n (toR u0) i ∧
      posR R n (toR u0) i <
        cellEdge (fun k => toR (cum (c0 :: t) c0 k)) (lastPositive (toRL (c0 :: t)) + 1) (1 + 3 * R.eps) (j + 1))) := by
  have hcov := hL.cover_range toR ge_true_iff (fun a b hab => posR_mono R n _ hab)
  refine count_of_forall2 _ j _ _ ((forall2_mem hcov).imp fun i r ⟨hi, hc⟩ => ?_)
  have hi' : i < n := List.mem_range.mp hi
  -- a rounded position is below `1 + 3·eps`, the boundary above the last cell
  have hlt : posR R n (toR u0) i < 1 + 3 * R.eps := by
    linarith [(abs_le.mp (posR_near R heps n (toR u0) h0 h1 i hi')).2, (comb_mem_Ico h0 h1 hi').2]
  rw [lastPositive_toRL]
  exact FirstAbove.eq_iff (posR_nonneg R n _ h0 i) hlt
    (fun a b hab hb => H.C_mono a b hab (Nat.lt_of_le_of_lt hb (lastPositive_lt (c0 :: t) (List.cons_ne_nil _ _)))) j hc

/-- a zero weight away from the cap owns an empty cell: below the cap adding `0` leaves the (representable) running sum
    unchanged, beyond it both boundaries are `top` -/
theorem cell_empty {R : Rnd} {v : List ℝ} {C : ℕ → ℝ} (H : Sums R v C) (top : ℝ) {j : ℕ} (hj : j < v.length)
    (hz : v[j] = 0) (hjL : j ≠ lastPositive v) {q : ℝ} (hq0 : 0 ≤ q) :
    ¬ (cellEdge C (lastPositive v + 1) top j ≤ q ∧ q < cellEdge C (lastPositive v + 1) top (j + 1)) := by
  rintro ⟨ha, hb⟩
  rcases Nat.lt_or_ge j (lastPositive v) with hlt | hge
  · rw [cellEdge_succ_of_lt (Nat.succ_lt_succ hlt)] at hb
    cases j with
    | zero => rw [H.zero hj, hz] at hb; exact absurd hq0 (not_le.mpr hb)
    | succ j =>
      rw [cellEdge_succ_of_lt (by omega), ← H.C_zero_step j hj hz] at ha
      exact absurd ha (not_le.mpr hb)
  · obtain ⟨j, rfl⟩ := Nat.exists_eq_succ_of_ne_zero (Nat.ne_zero_of_lt (lt_of_le_of_ne hge (Ne.symm hjL)))
    rw [cellEdge_succ_of_ge (by omega)] at ha hb
    exact absurd ha (not_le.mpr hb)

/-! ### cell edges of the rounded run versus the exact clamped edges -/

theorem cellEdge_near {R : Rnd} {v : List ℝ} {C : ℕ → ℝ} (H : Sums R v C) (hne : v ≠ [])
    (hm : (v.length : ℝ) * R.eps ≤ 1 / 2) {top : ℝ} (htop : 1 ≤ top) (k : ℕ) :
    |clamp (cellEdge C (lastPositive v + 1) top k) - edge v k| ≤ 2 * v.length * R.eps * v.sum := by
  have hη : 0 ≤ 2 * (v.length : ℝ) * R.eps * v.sum :=
    mul_nonneg (mul_nonneg (by positivity) R.eps_nonneg) H.sum_nonneg
  cases k with
  | zero => rw [cellEdge_zero, edge_zero, clamp_of_mem le_rfl zero_le_one, sub_self, abs_zero]; exact hη
  | succ k =>
    rcases Nat.lt_or_ge (k + 1) (lastPositive v + 1) with h | h
    · rw [cellEdge_succ_of_lt h, edge_of_le (Nat.le_of_lt_succ h), ← clamp_of_nonneg (P_nonneg v H.nonneg _)]
      exact clamp_lip _ _ _ (H.C_err_unif hm k (by have := lastPositive_lt v hne; omega))
    · rw [cellEdge_succ_of_ge h, edge_of_gt h, clamp_of_one_le htop, sub_self, abs_zero]
      exact hη

/-- the final inequality, in real numbers only.  `cnt` is a count of points, `nn` their number; `E`, `E'` are the two edges of a
    cell of the rounded run and `e`, `e'` the exact clamped edges they approximate to within `η`; the exact cell has length `vj` up to
    `T`; `δ` is how far the counted points are from the comb, so `hU`/`hLo` sandwich `cnt` between the comb counts of the cell grown
    and shrunk by `δ` (`near_comb_count`). -/
theorem assemble (nn cnt E E' e e' vj T δ η : ℝ) (hnn : 0 ≤ nn) (hδ : 0 ≤ δ) (hvj : 0 ≤ vj)
    (hU : cnt < 1 + max 0 (nn * (clamp (E' + δ) - clamp (E - δ))))
    (hLo : nn * (clamp (E' - δ) - clamp (E + δ)) - 1 < cnt)
    (hE : |clamp E - e| ≤ η) (hE' : |clamp E' - e'| ≤ η) (hT : |(e' - e) - vj| ≤ T) :
    |cnt - nn * vj| < 1 + nn * (T + 2 * δ + 2 * η) := by
  have a1 := clamp_add_le E' δ hδ
  have a2 := clamp_add_le (E - δ) δ hδ
  rw [sub_add_cancel] at a2
  have a3 := clamp_add_le E δ hδ
  have a4 := clamp_add_le (E' - δ) δ hδ
  rw [sub_add_cancel] at a4
  rw [abs_le] at hE hE' hT
  -- the grown cell is at most `vj + B` long and the shrunk one at least `vj − B`, `B = T + 2δ + 2η`
  have hup : nn * (clamp (E' + δ) - clamp (E - δ)) ≤ nn * (vj + (T + 2 * δ + 2 * η)) :=
    mul_le_mul_of_nonneg_left (by linarith) hnn
  have hup0 : 0 ≤ nn * (vj + (T + 2 * δ + 2 * η)) := mul_nonneg hnn (by linarith)
  have hlo : nn * (vj - (T + 2 * δ + 2 * η)) ≤ nn * (clamp (E' - δ) - clamp (E + δ)) :=
    mul_le_mul_of_nonneg_left (by linarith) hnn
  have hU' := hU.trans_le (add_le_add_right (max_le hup0 hup) 1)
  rw [mul_add] at hU'
  rw [mul_sub] at hlo
  rw [abs_lt]
  constructor <;> linarith

theorem count_bound_of_sums {R : Rnd} {v : List ℝ} {C : ℕ → ℝ} (H : Sums R v C) (n : ℕ) (hn : 1 ≤ n) (u0 : ℝ)
    (heps : R.eps ≤ 1 / 4) (h0 : 0 ≤ u0) (h1 : u0 < 1) (hm : (v.length : ℝ) * R.eps ≤ 1 / 2)
    (j : ℕ) (hj : j < v.length) :
    |(((List.range n).countP (fun i => decide (
        cellEdge C (lastPositive v + 1) (1 + 3 * R.eps) j ≤ posR R n u0 i ∧
        posR R n u0 i < cellEdge C (lastPositive v + 1) (1 + 3 * R.eps) (j + 1))) : ℕ) : ℝ) - n * v[j]| <
      1 + n * (|v.sum - 1| + 6 * R.eps + 4 * (v.length : ℝ) * R.eps * v.sum) := by
  have hne : v ≠ [] := List.ne_nil_of_length_pos (Nat.zero_lt_of_lt hj)
  have htop : 1 ≤ 1 + 3 * R.eps := by linarith [R.eps_nonneg]
  obtain ⟨hU, hLo⟩ := near_comb_count n hn u0 h0 h1 (posR R n u0) (3 * R.eps)
    (fun i hi => posR_near R heps n u0 h0 h1 i hi)
    (cellEdge C (lastPositive v + 1) (1 + 3 * R.eps) j) (cellEdge C (lastPositive v + 1) (1 + 3 * R.eps) (j + 1))
  have hfin := assemble n _ _ _ (edge v j) (edge v (j + 1)) v[j] |v.sum - 1| (3 * R.eps)
    (2 * v.length * R.eps * v.sum) (Nat.cast_nonneg n) (by linarith [R.eps_nonneg])
    (H.nonneg _ (List.getElem_mem hj)) hU hLo
    (cellEdge_near H hne hm htop j) (cellEdge_near H hne hm htop (j + 1)) (edge_diff_bound v H.nonneg j hj)
  have e : (1 : ℝ) + n * (|v.sum - 1| + 2 * (3 * R.eps) + 2 * (2 * v.length * R.eps * v.sum))
      = 1 + n * (|v.sum - 1| + 6 * R.eps + 4 * (v.length : ℝ) * R.eps * v.sum) := by ring
  rw [← e]
  exact hfin

/-! ### the theorems about the model -/

/-- the effective weights are floats when the inputs are: `renorm` returns either `w` itself or the rounded quotients -/
theorem C06_fp_renorm_rep (R : Rnd) (s : Fl R) (w : List (Fl R))
    (hw : ∀ x ∈ w, R.rnd (toR x) = toR x) : ∀ x ∈ renorm s w, R.rnd (toR x) = toR x := by
  intro x hx
  rcases mem_renorm hx with h | ⟨y, _, rfl⟩
  · exact hw x h
  · rw [div_def, R.idem]

/-- **count law in rounded arithmetic.**  `v = renorm s w` are the effective weights (non-negative floats), `S` their
    exact real sum, `m` their number, `eps` the unit round-off: the number of copies of `j` differs from `n·v_j` by less
    than `1 + n·(|S − 1| + 6·eps + 4·m·eps·S)`. -/
theorem C06_fp_count_bound (R : Rnd) (s : Fl R) (n : ℕ) (w : List (Fl R)) (u0 : Fl R) (idx : List ℕ)
    (hn : 1 ≤ n) (heps : R.eps ≤ 1 / 4) (hm : (w.length : ℝ) * R.eps ≤ 1 / 2)
    (hv0 : ∀ x ∈ renorm s w, 0 ≤ toR x)
    (hrep : ∀ x ∈ renorm s w, R.rnd (toR x) = toR x)
    (h0 : 0 ≤ toR u0) (h1 : toR u0 < 1)
    (h : systematicWith s n w u0 = some idx) (j : ℕ) (hj : j < (renorm s w).length) :
    |((idx.count j : ℕ) : ℝ) - n * toR (renorm s w)[j]|
      < 1 + n * (|rsum (renorm s w) - 1| + 6 * R.eps + 4 * (w.length : ℝ) * R.eps * rsum (renorm s w)) := by
  obtain ⟨c0, t, hv, hL⟩ := C06_syst_loop_spec s n w u0 idx h
  have hlen : w.length = (renorm s w).length := (renorm_length s w).symm
  rw [hlen] at hm ⊢
  generalize renorm s w = v at *
  subst hv
  have H := sums_fl c0 t hv0 hrep
  rw [fp_count_cells n u0 heps h0 h1 c0 t idx H hL j]
  exact count_bound_of_sums H n hn (toR u0) heps h0 h1 hm j hj

/-- **a zero-weight particle is never selected** in rounded arithmetic (when some effective weight is positive): beyond the
    cap `lastPositive` no index is ever returned; below it, adding `0` to the (representable) running sum returns it
    unchanged, so the cell of `j` is empty; and the cap itself has positive weight. -/
theorem C06_fp_zero_weight_never (R : Rnd) (s : Fl R) (n : ℕ) (w : List (Fl R)) (u0 : Fl R) (idx : List ℕ)
    (heps : R.eps ≤ 1 / 4)
    (hv0 : ∀ x ∈ renorm s w, 0 ≤ toR x)
    (hrep : ∀ x ∈ renorm s w, R.rnd (toR x) = toR x)
    (hpos : ∃ x ∈ renorm s w, 0 < toR x)
    (h0 : 0 ≤ toR u0) (h1 : toR u0 < 1)
    (h : systematicWith s n w u0 = some idx) (j : ℕ) (hj : j < (renorm s w).length)
    (hz : toR (renorm s w)[j] = 0) : idx.count j = 0 := by
  obtain ⟨c0, t, hv, hL⟩ := C06_syst_loop_spec s n w u0 idx h
  generalize renorm s w = v at *
  subst hv
  have hjL : j ≠ lastPositive (toRL (c0 :: t)) := by
    -- the cap has positive weight
    rintro rfl
    obtain ⟨x, hx, hx0⟩ := hpos
    obtain ⟨_, hp⟩ := lastPositive_gt (c0 :: t) ⟨x, hx, (gt_zero_iff x).mpr hx0⟩
    simp only [lastPositive_toRL] at hz
    exact absurd hz ((gt_zero_iff _).mp hp).ne'
  have H := sums_fl c0 t hv0 hrep
  rw [fp_count_cells n u0 heps h0 h1 c0 t idx H hL j, List.countP_eq_zero]
  intro i _
  simp only [decide_eq_true_eq]
  exact cell_empty H _ hj hz hjL (posR_nonneg R n _ h0 i)

/-! ### non-vacuity: a concrete rounding model and a concrete run -/

/-- exact arithmetic as a (degenerate) rounding model with `eps = 2^-53` -/
noncomputable def R0 : Rnd where
  rnd := id
  eps := 1 / 2 ^ 53
  eps_nonneg := by positivity
  err := fun x => by simp only [id, sub_self, abs_zero]; positivity
  mono := monotone_id
  idem := fun _ => rfl

/-- `R0.rnd = id`, so `instScFl R0` unfolds to `instScReal` and the model at `Fl R0` is, by definition, the model at `ℝ`: a lemma over
    `ℝ` applies as it stands -/
theorem example_renorm (w : List (Fl R0)) : renorm (ofR 1 : Fl R0) w = w := renorm_id 1 w (by norm_num)

theorem example_run_fl :
    systematicWith (ofR 1 : Fl R0) 4 [ofR (1/2), ofR (1/4), ofR (1/4)] (ofR (1/2)) = some [0, 0, 1, 2] := by
  have h := example_run
  rw [systematic, ScReal.sum_def, show ([1/2, 1/4, 1/4] : List ℝ).sum = 1 by norm_num] at h
  exact h

/-- the main theorem on a concrete run (`n = 4`, weights `1/2, 1/4, 1/4`, offset `1/2`, `eps = 2^-53`): every hypothesis
    holds, and the conclusion reads `|2 − 4·(1/2)| < 1 + 4·(|1 − 1| + 6·eps + 4·3·eps·1)` -/
example : |(((([0, 0, 1, 2] : List ℕ).count 0 : ℕ) : ℝ)) - ((4 : ℕ) : ℝ) * (1 / 2)|
    < 1 + ((4 : ℕ) : ℝ) * (|(1 : ℝ) - 1| + 6 * R0.eps + 4 * ((3 : ℕ) : ℝ) * R0.eps * 1) := by
  have hv0 : ∀ x ∈ renorm (ofR 1 : Fl R0) [ofR (1/2), ofR (1/4), ofR (1/4)], 0 ≤ toR x := by
    rw [example_renorm]; exact example_nonneg
  have hj : 0 < (renorm (ofR 1 : Fl R0) [ofR (1/2), ofR (1/4), ofR (1/4)]).length := by
    rw [example_renorm]; simp
  have hb := C06_fp_count_bound R0 (ofR 1) 4 [ofR (1/2), ofR (1/4), ofR (1/4)] (ofR (1/2)) [0, 0, 1, 2]
    (by norm_num) (by show (1 : ℝ) / 2 ^ 53 ≤ 1 / 4; norm_num)
    (by show ((3 : ℕ) : ℝ) * (1 / 2 ^ 53) ≤ 1 / 2; norm_num) hv0 (fun x _ => rfl)
    (by rw [toR_ofR]; norm_num) (by rw [toR_ofR]; norm_num) example_run_fl 0 hj
  have e1 : toR ((renorm (ofR 1 : Fl R0) [ofR (1/2), ofR (1/4), ofR (1/4)])[0]'hj) = 1 / 2 := by
    simp only [example_renorm]; rfl
  have e2 : rsum (renorm (ofR 1 : Fl R0) [ofR (1/2), ofR (1/4), ofR (1/4)]) = 1 := by
    rw [example_renorm]
    show ((1 / 2 : ℝ) + (1 / 4 + (1 / 4 + 0))) = 1
    norm_num
  rw [e1, e2] at hb
  exact hb

theorem example_zero_hyp (w : List (Fl R0)) (hw : ∀ x ∈ w, 0 ≤ toR x) (hp : ofR (1 / 2) ∈ w) :
    (∀ x ∈ renorm (ofR 1 : Fl R0) w, 0 ≤ toR x) ∧ ∃ x ∈ renorm (ofR 1 : Fl R0) w, 0 < toR x := by
  rw [example_renorm]
  exact ⟨hw, ofR (1 / 2), hp, by rw [toR_ofR]; norm_num⟩

/-- a concrete run with a zero weight below the cap: weights `1/2, 0, 1/2`, two draws, offset `1/2` -/
theorem example_run_zero :
    systematicWith (ofR 1 : Fl R0) 2 [ofR (1/2), ofR 0, ofR (1/2)] (ofR (1/2)) = some [0, 2] := by
  show systematicWith (1 : ℝ) 2 [1/2, 0, 1/2] (1/2) = _
  rw [systematicWith, renorm_id _ _ (by norm_num)]
  norm_num [List.range_succ, run, position, advance.eq_def, Sc.ge, Sc.gt]

/-- the zero-weight theorem on that run: every hypothesis holds; index 1 (weight 0, below the cap) is not selected -/
example : ([0, 2] : List ℕ).count 1 = 0 := by
  obtain ⟨hv0, hpos⟩ := example_zero_hyp [ofR (1/2), ofR 0, ofR (1/2)]
    (by intro x hx; simp only [List.mem_cons, List.not_mem_nil, or_false] at hx
        rcases hx with rfl | rfl | rfl <;> (show (0 : ℝ) ≤ _; norm_num)) (by simp)
  refine C06_fp_zero_weight_never R0 (ofR 1) 2 [ofR (1/2), ofR 0, ofR (1/2)] (ofR (1/2)) [0, 2]
    (by show (1 : ℝ) / 2 ^ 53 ≤ 1 / 4; norm_num) hv0 (fun x _ => rfl) hpos
    (by rw [toR_ofR]; norm_num) (by rw [toR_ofR]; norm_num) example_run_zero 1 (by rw [example_renorm]; simp) ?_
  simp only [example_renorm]; rfl

/-- a concrete run with a TRAILING zero weight: weights `1/2, 1/2, 0`, two draws, offset `1/2`; the cap is index 1 -/
theorem example_run_trailing :
    systematicWith (ofR 1 : Fl R0) 2 [ofR (1/2), ofR (1/2), ofR 0] (ofR (1/2)) = some [0, 1] := by
  show systematicWith (1 : ℝ) 2 [1/2, 1/2, 0] (1/2) = _
  rw [systematicWith, renorm_id _ _ (by norm_num)]
  norm_num [List.range_succ, run, position, advance.eq_def, Sc.ge, Sc.gt]

/-- the zero-weight theorem at the LAST index (`j = 2`, weight 0, beyond the cap): never selected -/
example : ([0, 1] : List ℕ).count 2 = 0 := by
  obtain ⟨hv0, hpos⟩ := example_zero_hyp [ofR (1/2), ofR (1/2), ofR 0]
    (by intro x hx; simp only [List.mem_cons, List.not_mem_nil, or_false] at hx
        rcases hx with rfl | rfl | rfl <;> (show (0 : ℝ) ≤ _; norm_num)) (by simp)
  refine C06_fp_zero_weight_never R0 (ofR 1) 2 [ofR (1/2), ofR (1/2), ofR 0] (ofR (1/2)) [0, 1]
    (by show (1 : ℝ) / 2 ^ 53 ≤ 1 / 4; norm_num) hv0 (fun x _ => rfl) hpos
    (by rw [toR_ofR]; norm_num) (by rw [toR_ofR]; norm_num) example_run_trailing 2 (by rw [example_renorm]; simp) ?_
  simp only [example_renorm]; rfl

example : ∀ x ∈ renorm (ofR 1 : Fl R0) [ofR (1/2), ofR 0, ofR (1/2)], R0.rnd (toR x) = toR x :=
  C06_fp_renorm_rep R0 (ofR 1) _ (fun _ _ => rfl)

end Props.C06.Fp
