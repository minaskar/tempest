import TempestVerif.Model.RecSM
import TempestVerif.Model.RecSM2
import TempestVerif.Props.C07SM
import TempestVerif.Props.C11Pipeline
/-
  C11, clause 1b on the StateManager-level record model (`Model/RecSM2.lean`, C07's model of `Mutator.run` at beta = 0 as of /repo
  959029e with the real glue: redraw loop, `update_current` of all four arrays, −inf rows computed from `logl`, the `have_blobs`
  gate, joint replacement, commit key by key; the definitions of /repo before 959029e are in `Model/RecSM.lean`).  `Props/C11Pipeline.lean` has
  "no −inf stored" and "records whole" for (tag, logl) pairs; here for all four fields u, x, logl, blob, for every tape and over whole
  runs.  The structural facts are C07's (`Props/C07SM.lean`); this file states C11's clauses on top of them and shows that record
  model and pipeline model perform the SAME scatter (same mask, same picks).
-/
namespace Props.C11
open Model.Records (scatterFrom)
open Model.RecSM (Cfg St Cur TapeR logLike)

section sm
variable {U X L B : Type}

theorem sm_warmup_u_mem (cfg : Cfg) (T : U → X) (Lk : X → L × B) (isInf : L → Bool) (batches : List (List U))
    (picks : List Nat) {s s' : St U X L B} (h : Model.RecSM.warmupR cfg T Lk isInf batches picks s = some s') :
    ∃ u', s'.cur.u = some u' ∧ ∃ b ∈ batches, ∀ v ∈ u', v ∈ b := by
  obtain ⟨kept, hm, -, h⟩ := Model.RecSM.warmupR_eq_some h
  obtain ⟨_, _, _, _, _, _, hu, _⟩ := Model.RecSM.warmupKept_eq_some h
  exact ⟨_, hu, kept, hm, Model.Records.scatterFrom_mem _ _ _⟩

/-- C11 clause 1b in full (u, x, logl AND blobs), /repo 959029e, EVERY tape: after the warm-up mutation — whatever blocks of
    draws arrived and however many were discarded — every stored row is the WHOLE record `(u, T u, Lk(T u).1, Lk(T u).2)` of
    one of the points `u` drawn in this iteration, and that point lies in the supported region (`Lk(T u).1` is not −inf);
    the blobs array exists exactly when the likelihood returns blobs. -/
theorem C11_sm_warmup_supported_records (cfg : Cfg) (T : U → X) (Lk : X → L × B) (inCube : U → Prop)
    (hg : Props.C07SM.GateOk cfg) (isInf : L → Bool) (batches : List (List U)) (picks : List Nat) {s s' : St U X L B}
    (hdraw : ∀ b ∈ batches, ∀ v ∈ b, inCube v) (hs : Props.C07SM.Inv T Lk inCube cfg s)
    (hf : Props.C07SM.Finite isInf s)
    (h : Model.RecSM.warmupR cfg T Lk isInf batches picks s = some s') :
    ∃ u' x' l', s'.cur.u = some u' ∧ s'.cur.x = some x' ∧ s'.cur.l = some l' ∧
      x'.length = u'.length ∧ l'.length = u'.length ∧
      (s'.cur.b.isSome = cfg.lkBlobs) ∧ (∀ bs, s'.cur.b = some bs → bs.length = u'.length) ∧
      ∃ b ∈ batches, ∀ (i : Nat) (ui : U), u'[i]? = some ui →
        ui ∈ b ∧ isInf (Lk (T ui)).1 = false ∧
        x'[i]? = some (T ui) ∧ l'[i]? = some (Lk (T ui)).1 ∧
        ∀ bs, s'.cur.b = some bs → bs[i]? = some (Lk (T ui)).2 := by
  have hlive := Props.C07SM.warmupR_inv T Lk inCube cfg hg isInf batches picks hdraw hs h
  obtain ⟨u', x', l', e1, e2, e3, r1, r2, r3, r4, rows⟩ :=
    Props.C07SM.C07_sm_rowwise_current T Lk inCube cfg hlive.1
  have hno := (Props.C07SM.finite_warmupR isInf cfg T Lk batches picks hf h).1 l' e3
  obtain ⟨u'', e1', b, hb, hmem⟩ := sm_warmup_u_mem cfg T Lk isInf batches picks h
  have huu : u'' = u' := by rw [e1] at e1'; injection e1' with e; exact e.symm
  subst huu
  refine ⟨u'', x', l', e1, e2, e3, r1, r2, r4, r3, b, hb, ?_⟩
  intro i ui hui
  obtain ⟨q1, q2, _, q4⟩ := rows i ui hui
  exact ⟨hmem ui (List.mem_of_getElem? hui), hno _ (List.mem_of_getElem? q2), q1, q2, q4⟩

/-- C11 clauses 1a + 1b + 1c over a WHOLE run of /repo 959029e, from a freshly constructed sampler, for EVERY tape
    (warm-up iterations with any number of discarded blocks, annealing iterations with any proposals): the per-key histories
    are coherent batch by batch (C07's invariant: `x = T u`, `logl = Lk(x).1`, `blobs = Lk(x).2` row by row, all keys the same
    number of batches) AND every committed physical point `x` lies in the supported region: its log-likelihood — which IS
    the stored one — is not −inf; no dictionary `sample()` returns carries a −inf -/
theorem C11_sm_run_supported (cfg : Cfg) (T : U → X) (Lk : X → L × B) (isInf : L → Bool) (inCube : U → Prop)
    (hg : Props.C07SM.GateOk cfg) (fold : U → U) (chk : U → Bool)
    (hfold : ∀ p, chk (fold p) = true → inCube (fold p)) (ts : List (TapeR U)) {s' : St U X L B}
    {rets : List (Cur U X L B)} (hts : ∀ t ∈ ts, Props.C07SM.TapeOk inCube t)
    (h : Model.RecSM.runItersR cfg T Lk isInf fold chk Model.RecSM.init ts = some (s', rets)) :
    Props.C07SM.HistInv T Lk inCube cfg s'.hist ∧
    (∀ xb ∈ s'.hist.x, ∀ x ∈ xb, isInf (Lk x).1 = false) ∧
    (∀ c ∈ rets, ∀ l, c.l = some l → ∀ v ∈ l, isInf v = false) := by
  obtain ⟨hinv, _, _⟩ := Props.C07SM.C07_sm_run_fresh T Lk inCube cfg hg isInf fold chk hfold ts hts h
  obtain ⟨hfin, hret⟩ := Props.C07SM.C07_sm_run_finite isInf cfg T Lk fold chk ts (Props.C07SM.finite_init isInf) h
  refine ⟨hinv.2, ?_, hret⟩
  intro xb hxb x hx
  have hl := hinv.2.2.1
  have : xb.map (fun x => (Lk x).1) ∈ s'.hist.l := by rw [hl]; exact List.mem_map_of_mem hxb
  exact hfin.2 _ this _ (List.mem_map_of_mem hx)

/-- the rule BEFORE /repo 959029e on the record model (finding F8): a batch with NO finite draw was stored exactly as drawn —
    every stored log-likelihood −inf (`Model.RecSM.warmup` of `Model/RecSM.lean` models that version; /repo since 959029e is `warmupR` of `Model/RecSM2.lean`) -/
theorem C11_sm_old_all_inf_unchanged (cfg : Cfg) (T : U → X) (Lk : X → L × B) (isInf : L → Bool) (us : List U)
    (picks : List Nat) (s : St U X L B)
    (h0 : Model.RecSM.finIdx isInf (logLike cfg Lk (us.map T)).1 = []) :
    Model.RecSM.warmup cfg T Lk isInf us picks s
      = some { s with cur := ⟨some us, some (us.map T), some (logLike cfg Lk (us.map T)).1, (logLike cfg Lk (us.map T)).2⟩ } := by
  unfold Model.RecSM.warmup
  simp [h0]

/-! ### the record model and the pipeline model perform the same replacement -/

/-- the pipeline model's view of a log-likelihood: `none` = −inf -/
def toOpt (isInf : L → Bool) (v : L) : Option L := if isInf v then none else some v

/-- `infinite_idx` of the record model = `infinite_idx` of the pipeline model on the same batch -/
theorem C11_sm_pipeline_same_mask (isInf : L → Bool) (l : List L) :
    Model.RecSM.infIdx isInf l = infIdx (l.map (toOpt isInf)) := by
  unfold Model.RecSM.infIdx infIdx
  rw [List.length_map]
  apply List.filter_congr
  intro i hi
  rw [List.mem_range] at hi
  rw [List.getElem?_map, List.getElem?_eq_getElem hi]
  simp only [Option.map_some, Option.join_some, toOpt]
  cases isInf l[i] <;> simp

/-- the SAME scatter in both models: with draws tagged `0..n-1`, the tags the pipeline model's replacement step
    (`Model.Pipeline.warmup`, about which the evidence theorems speak) leaves are the positions of the drawn rows that the
    record model's replacement step stores; and the stored log-likelihoods agree (`none` = −inf) -/
theorem C11_sm_pipeline_same_replacement (isInf : L → Bool) (us : List U) (l : List L) (picks : List Nat)
    (_hlen : l.length = us.length) :
    (scatterFrom us (Model.RecSM.infIdx isInf l) picks).map some
      = (scatterFrom (List.range us.length) (infIdx (l.map (toOpt isInf))) picks).map (fun i => us[i]?) ∧
    (scatterFrom l (Model.RecSM.infIdx isInf l) picks).map (toOpt isInf)
      = scatterFrom (l.map (toOpt isInf)) (infIdx (l.map (toOpt isInf))) picks := by
  rw [← C11_sm_pipeline_same_mask]
  refine ⟨?_, ?_⟩
  · rw [← Model.Records.scatterFrom_map, ← Model.Records.scatterFrom_map]
    congr 1
    apply List.ext_getElem?
    intro i
    by_cases hi : i < us.length
    · simp [hi]
    · simp [hi]
  · rw [Model.Records.scatterFrom_map]

end sm

/-! ### non-vacuity: warm-up iterations with an UNDECLARED blob; the second iteration discards a block

  Points u = 0..5 (`smExCube`); prior transform `smExT u = 10u`; likelihood `smExLk`: −inf (= 0 here, `smExInf`) on x < 30, else
  x + 1, blob x + 2; `smExT1`, `smExT2` are the tapes of the two iterations. -/
def smExT : Nat → Nat := fun u => 10 * u
def smExLk : Nat → Nat × Nat := fun x => (if x < 30 then 0 else x + 1, x + 2)
def smExInf : Nat → Bool := fun l => l == 0
def smExCube : Nat → Prop := fun u => u < 6
def smExCfg : Cfg := ⟨false, true, true⟩
def smExT1 : TapeR Nat := ⟨true, [[1, 4, 2, 5]], [1, 3], [], []⟩      -- draws 1 and 2 are −inf; picks: rows 1 and 3
def smExT2 : TapeR Nat := ⟨true, [[0, 1, 2, 1], [3, 0, 4, 5]], [0], [], []⟩   -- first block: no finite draw, discarded

theorem smExT1_ok : Props.C07SM.TapeOk smExCube smExT1 := by
  intro _ b hb v hv
  simp [smExT1] at hb; subst hb
  simp at hv; rcases hv with rfl | rfl | rfl | rfl <;> simp [smExCube]
theorem smExT2_ok : Props.C07SM.TapeOk smExCube smExT2 := by
  intro _ b hb v hv
  simp [smExT2] at hb
  rcases hb with rfl | rfl <;> simp at hv <;> rcases hv with rfl | rfl | rfl | rfl <;> simp [smExCube]

/-- the run itself: rows 0 and 2 of the first batch are overwritten by whole copies of rows 1 and 3 — u, x, logl and the
    UNDECLARED blob alike; the all-−inf block of the second iteration leaves no trace -/
example : (Model.RecSM.runItersR smExCfg smExT smExLk smExInf id (fun _ => true) Model.RecSM.init [smExT1, smExT2]).map (·.1.hist)
    = some ⟨[[4, 4, 5, 5], [3, 3, 4, 5]], [[40, 40, 50, 50], [30, 30, 40, 50]], [[41, 41, 51, 51], [31, 31, 41, 51]],
        [[42, 42, 52, 52], [32, 32, 42, 52]]⟩ := by decide

example : ∃ s' rets, Model.RecSM.runItersR smExCfg smExT smExLk smExInf id (fun u => decide (u < 6)) Model.RecSM.init
      [smExT1, smExT2] = some (s', rets) ∧
    Props.C07SM.HistInv smExT smExLk smExCube smExCfg s'.hist ∧
    (∀ xb ∈ s'.hist.x, ∀ x ∈ xb, smExInf (smExLk x).1 = false) := by
  have hsome : (Model.RecSM.runItersR smExCfg smExT smExLk smExInf id (fun u => decide (u < 6)) Model.RecSM.init
      [smExT1, smExT2]).isSome = true := by decide
  obtain ⟨r, h⟩ := Option.isSome_iff_exists.mp hsome
  obtain ⟨s', rets⟩ := r
  obtain ⟨h1, h2, _⟩ := C11_sm_run_supported smExCfg smExT smExLk smExInf smExCube (Or.inl rfl) id
    (fun u => decide (u < 6)) (by intro p hp; simpa [smExCube] using hp) [smExT1, smExT2]
    (by intro t ht; simp at ht; rcases ht with rfl | rfl; exact smExT1_ok; exact smExT2_ok) h
  exact ⟨s', rets, h, h1, h2⟩

example : (scatterFrom [1, 4, 2, 5] (Model.RecSM.infIdx smExInf [0, 41, 0, 51]) [1, 3]).map some
    = (scatterFrom (List.range 4) (infIdx ([0, 41, 0, 51].map (toOpt smExInf))) [1, 3]).map (fun i => [1, 4, 2, 5][i]?) :=
  (C11_sm_pipeline_same_replacement smExInf [1, 4, 2, 5] [0, 41, 0, 51] [1, 3] rfl).1

/-- `Model.RecSM.warmup` (/repo before 959029e): a batch with no finite draw is stored as drawn (F8) -/
example : (Model.RecSM.warmup smExCfg smExT smExLk smExInf [1, 2] [] Model.RecSM.init).map (·.cur.l) = some (some [0, 0]) := by decide

end Props.C11
