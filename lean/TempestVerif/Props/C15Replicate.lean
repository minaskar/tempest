import TempestVerif.Props.C15FitTotal
/-
  C15 — integer sample weights ≡ replicated points, for the WHOLE `GaussianMixture.fit` (`Model.GMM.fit`): k-means++ draws
  from the same `rand()` tape, every E-step, M-step, lower bound, convergence decision and restart.
  One initialisation and one EM iteration on `replicateBy cnt X` with equal weights return what they return on `X` with
  weights `cnt`: every list the first computes per point (density columns, rows of `log_resp`, responsibilities) is
  `replicateBy cnt` of the list the second computes, weighted sums agree by `C15_replicate_equiv`, and the weighted draw stops
  on a copy of the same point (`searchsorted_block_replicateBy`) — so the drawn indices differ and nothing else does.
  `fit_transfer` (`Props/C15Fit.lean`) carries the two step facts through the loop and the restarts.
-/
namespace Props.C15
open Model.EM Model.GMM Lemmas.CholList Lemmas.OptionList

/-! ### the weighted draw: `searchsorted` of a cumulative sum -/

/-- **block lemma**: if the scan over the weighted cumulative sum stops at point `i`, the scan over the
    replicated cumulative sum stops at a copy of point `i`.  A point with count 0 has no copy to stop at: the scan can
    stop at it only if `r ≤ acc` already, which the induction excludes after the first point (`acc < r`) and the first
    count excludes at the first -/
theorem searchsorted_block_replicateBy {β : Type} (r : ℝ) : ∀ (cnt : List ℕ) (q : List ℝ) (X : List β) (acc : ℝ) (i : ℕ) (c : β),
    (∀ x ∈ q, 0 ≤ x) → cnt.length = X.length → q.length = X.length →
    (acc < r ∨ 0 < cnt.headD 0) →
    searchsorted (cumsumFrom acc (List.zipWith (fun (k : ℕ) x => (k : ℝ) * x) cnt q)) r = i →
    X[i]? = some c →
    ∃ i', searchsorted (cumsumFrom acc (replicateBy cnt q)) r = i' ∧ (replicateBy cnt X)[i']? = some c := by
  intro cnt
  induction cnt with
  | nil =>
    intro q X acc i c _ hl _ _ _ hc
    rw [List.eq_nil_of_length_eq_zero hl.symm] at hc
    cases hc
  | cons k cnt ih =>
    intro q X acc i c hq hl1 hl2 hinv hss hc
    cases X with
    | nil => cases hl1
    | cons p X =>
      cases q with
      | nil => cases hl2
      | cons x q =>
        have hx : 0 ≤ x := hq x List.mem_cons_self
        have hblock : (k : ℝ) * x = (List.replicate k x).sum := by rw [List.sum_replicate, nsmul_eq_mul]
        rw [List.zipWith_cons_cons, cumsumFrom, ScReal.add_def, searchsorted_cons, hblock] at hss
        rw [replicateBy_cons, replicateBy_cons]
        by_cases hlt : acc + (List.replicate k x).sum < r
        · rw [if_pos hlt] at hss
          subst hss
          rw [List.getElem?_cons_succ] at hc
          obtain ⟨i', hi', hci'⟩ := ih q X (acc + (List.replicate k x).sum) _ c
            (fun y hy => hq y (List.mem_cons_of_mem _ hy)) (Nat.succ.inj hl1) (Nat.succ.inj hl2) (Or.inl hlt) rfl hc
          refine ⟨k + i', ?_, ?_⟩
          · rw [searchsorted_cumsum_pass r _ _ acc (fun y hy => (List.eq_of_mem_replicate hy).symm ▸ hx) hlt, List.length_replicate, hi']
          · rw [List.getElem?_append_right (by rw [List.length_replicate]; exact Nat.le_add_right k i'),
              List.length_replicate, Nat.add_sub_cancel_left]
            exact hci'
        · rw [if_neg hlt] at hss
          subst hss
          rw [List.getElem?_cons_zero] at hc
          cases hc
          have hk : 0 < k := by
            rcases hinv with h | h
            · by_contra h0
              rw [Nat.eq_zero_of_not_pos h0, List.replicate_zero, List.sum_nil, add_zero] at hlt
              exact hlt h
            · exact h
          -- the scan ends inside the block of `k > 0` copies of point 0
          have hs := searchsorted_cumsum_stop r (replicateBy cnt q) (List.replicate k x) acc
            (List.ne_nil_of_length_pos (by rw [List.length_replicate]; exact hk)) (not_lt.mp hlt)
          rw [List.length_replicate] at hs
          refine ⟨_, rfl, ?_⟩
          rw [List.getElem?_append_left (by rw [List.length_replicate]; exact hs), List.getElem?_replicate, if_pos hs]

/-- **the weighted draw picks the same point**: probabilities `cnt_i · q_i` on the original data against
    probabilities `q_i` repeated `cnt_i` times on the replicated data, same `u` -/
theorem pickIdx_replicateBy {β : Type} (cnt : List ℕ) (q : List ℝ) (X : List β) (u : ℝ) (i : ℕ) (c : β)
    (hq : ∀ x ∈ q, 0 ≤ x) (hl1 : cnt.length = X.length) (hl2 : q.length = X.length)
    (hpos : 0 < cnt.headD 0)
    (h : pickIdx (List.zipWith (fun (k : ℕ) x => (k : ℝ) * x) cnt q) u = some i) (hc : X[i]? = some c) :
    ∃ i', pickIdx (replicateBy cnt q) u = some i' ∧ (replicateBy cnt X)[i']? = some c := by
  have hz : List.zipWith (fun (k : ℕ) x => (k : ℝ) * x) cnt q ≠ [] := by
    intro hnil
    rw [hnil] at h
    cases h
  have hr : replicateBy cnt q ≠ [] :=
    replicateBy_ne_nil cnt q hpos (by rintro rfl; exact hz List.zipWith_nil_right)
  rw [pickIdx_eq _ u hz, Option.some.injEq] at h
  rw [pickIdx_eq _ u hr, ← ScReal.sum_def, sum_rep, ScReal.sum_def]
  simp only [Option.some.injEq]
  exact searchsorted_block_replicateBy _ cnt q X 0 i c hq hl1 hl2 (Or.inr hpos) h hc

/-! ### k-means++ centres -/

theorem sqdist_nonneg (x m : List ℝ) : 0 ≤ sqdist x m := by
  rw [sqdist, ScReal.sum_def]
  refine List.sum_nonneg fun y hy => ?_
  obtain ⟨t, _, rfl⟩ := List.mem_map.mp hy
  exact mul_self_nonneg t

theorem nearestDist_nonneg (c0 : List ℝ) (cs : Mat ℝ) (x : List ℝ) : 0 ≤ nearestDist c0 cs x := by
  have h0 := sqdist_nonneg x c0
  unfold nearestDist
  generalize sqdist x c0 = a at h0 ⊢
  induction cs generalizing a with
  | nil => exact h0
  | cons c cs ih => exact ih _ ((le_min h0 (sqdist_nonneg x c)).trans_eq (ScReal.min_def a _).symm)

theorem zipWith_mul_cast {β : Type} (f : β → ℝ) (t : ℝ) (X : List β) (cnt : List ℕ) :
    List.zipWith Sc.mul (X.map f) (cnt.map fun (k : ℕ) => (k : ℝ) * t)
      = List.zipWith (fun (k : ℕ) x => (k : ℝ) * x) cnt (X.map fun x => f x * t) := by
  rw [List.zipWith_map_left, List.zipWith_map_right, List.zipWith_map_right, List.zipWith_comm]
  congr 1
  funext k x
  exact mul_left_comm (f x) k t

theorem map_div_zipWith_cast (tot : ℝ) (cnt : List ℕ) (u : List ℝ) :
    (List.zipWith (fun (k : ℕ) x => (k : ℝ) * x) cnt u).map (fun p => Sc.div p tot)
      = List.zipWith (fun (k : ℕ) x => (k : ℝ) * x) cnt (u.map fun p => p / tot) := by
  rw [List.map_zipWith, List.zipWith_map_right]
  congr 1
  funext k x
  exact mul_div_assoc (k : ℝ) x tot

theorem prob_replicateBy {β : Type} (D : β → ℝ) (cnt : List ℕ) (X : List β) (t : ℝ) (hl : cnt.length = X.length) :
    List.zipWith Sc.mul ((replicateBy cnt X).map D) (List.replicate cnt.sum t)
      = replicateBy cnt (X.map fun x => D x * t) := by
  rw [mul_fun, zipWith_replicate_right _ t _ _ (by simp [length_replicateBy cnt X hl]), map_replicateBy,
    map_replicateBy, List.map_map]
  rfl

section Centres
variable (cnt : List ℕ) (X : Mat ℝ) (t : ℝ) (ht : 0 ≤ t) (hl : cnt.length = X.length) (hpos : 0 < cnt.headD 0)
include ht hl hpos

theorem draw_replicateBy (D : List ℝ → ℝ) (hD : ∀ x, 0 ≤ D x) (u : ℝ) (i : ℕ) (c : List ℝ)
    (h : pickIdx ((List.zipWith Sc.mul (X.map D) (cnt.map fun (k : ℕ) => (k : ℝ) * t)).map fun p =>
        Sc.div p (Sc.sum (List.zipWith Sc.mul (X.map D) (cnt.map fun (k : ℕ) => (k : ℝ) * t)))) u = some i)
    (hc : X[i]? = some c) :
    ∃ i', pickIdx ((List.zipWith Sc.mul ((replicateBy cnt X).map D) (List.replicate cnt.sum t)).map fun p =>
        Sc.div p (Sc.sum (List.zipWith Sc.mul ((replicateBy cnt X).map D) (List.replicate cnt.sum t)))) u
          = some i' ∧ (replicateBy cnt X)[i']? = some c := by
  rw [zipWith_mul_cast, map_div_zipWith_cast] at h
  rw [prob_replicateBy D cnt X t hl, sum_rep, map_replicateBy]
  have hu : ∀ y ∈ X.map (fun x => D x * t), 0 ≤ y := by
    intro y hy
    obtain ⟨x, _, rfl⟩ := List.mem_map.mp hy
    exact mul_nonneg (hD x) ht
  have htot : 0 ≤ Sc.sum (List.zipWith (fun (k : ℕ) x => (k : ℝ) * x) cnt (X.map fun x => D x * t)) := by
    rw [← sum_rep, ScReal.sum_def]
    exact List.sum_nonneg fun y hy => hu y (mem_replicateBy y cnt _ hy)
  refine pickIdx_replicateBy cnt _ X u i c ?_ hl (by simp) hpos h hc
  intro y hy
  obtain ⟨z, hz, rfl⟩ := List.mem_map.mp hy
  exact div_nonneg (hu z hz) htot

theorem moreCentres_replicateBy (c0 : List ℝ) :
    ∀ (k : ℕ) (tape : List ℝ) (cs : Mat ℝ) (picks picks' : List ℕ) (r : Mat ℝ × List ℕ × List ℝ),
      moreCentres X (cnt.map fun (k : ℕ) => (k : ℝ) * t) c0 k tape cs picks = some r →
      ∃ pk, moreCentres (replicateBy cnt X) (List.replicate cnt.sum t) c0 k tape cs picks' = some (r.1, pk, r.2.2) := by
  intro k
  induction k with
  | zero =>
    intro tape cs picks picks' r h
    cases h
    exact ⟨picks', rfl⟩
  | succ k ih =>
    intro tape cs picks picks' r h
    cases tape with
    | nil => cases h
    | cons u tape =>
      simp only [moreCentres] at h ⊢
      split at h
      · cases h
      · rename_i i hi
        split at h
        · cases h
        · rename_i c hc
          obtain ⟨i', hi', hc'⟩ := draw_replicateBy cnt X t ht hl hpos (nearestDist c0 cs) (nearestDist_nonneg c0 cs) u i c
            hi hc
          simp only [hi', hc']
          exact ih tape (cs ++ [c]) (picks ++ [i]) (picks' ++ [i']) r h

theorem centres_replicateBy (K : ℕ) (tape : List ℝ) (r : Mat ℝ × List ℕ × List ℝ)
    (h : centres X (cnt.map fun (k : ℕ) => (k : ℝ) * t) K tape = some r) :
    (∃ pk, centres (replicateBy cnt X) (List.replicate cnt.sum t) K tape = some (r.1, pk, r.2.2)) ∧ r.1.length = K := by
  refine ⟨?_, centres_length X _ K tape r h⟩
  cases K with
  | zero => cases h
  | succ K =>
    cases tape with
    | nil => cases h
    | cons u tape =>
      simp only [centres] at h ⊢
      split at h
      · cases h
      · rename_i i hi
        split at h
        · cases h
        · rename_i c0 hc
          obtain ⟨r0, hr0, rfl⟩ := Option.map_eq_some_iff.mp h
          rw [← zipWith_replicate_right _ t cnt X.length (by omega)] at hi
          obtain ⟨i', hi', hc'⟩ := pickIdx_replicateBy cnt (List.replicate X.length t) X u i c0
            (fun y hy => (List.eq_of_mem_replicate hy).symm ▸ ht) hl (by simp) hpos hi hc
          rw [replicateBy_replicate t cnt X.length (by omega)] at hi'
          obtain ⟨pk, hr'⟩ := moreCentres_replicateBy cnt X t ht hl hpos c0 K tape [] [i] [i'] r0 hr0
          simp only [hi', hc', hr']
          exact ⟨pk, rfl⟩

theorem initFit_replicateBy (c : Cfg ℝ) (hX : ∀ x ∈ X, x.length = c.d) (tape : List ℝ) (r : MStep ℝ × List ℕ × List ℝ)
    (h : initFit c X (cnt.map fun (k : ℕ) => (k : ℝ) * t) tape = some r) :
    (∃ pk, initFit c (replicateBy cnt X) (List.replicate cnt.sum t) tape = some (r.1, pk, r.2.2)) ∧ MShape c.K r.1 := by
  simp only [initFit] at h ⊢
  obtain ⟨r0, hr0, rfl⟩ := Option.map_eq_some_iff.mp h
  obtain ⟨⟨pk, hr0'⟩, hK⟩ := centres_replicateBy cnt X t ht hl hpos c.K tape r0 hr0
  refine ⟨⟨pk, ?_⟩, mstep_shape _ _ _ _ _ _ _⟩
  rw [hr0']
  simp only [Option.map_some, initParams, logResp, initNormalise, map_replicateBy]
  rw [C15_em_factors_through_wsum c.tiny c.eps t c.d c.K X _ cnt hX]
  · refine rep_initNormalise_rows (logResp X r0.1) c.K fun row hrow => ?_
    obtain ⟨x, _, rfl⟩ := List.mem_map.mp hrow
    rw [List.length_map, hK]
  · simp [hl]

end Centres

/-! ### per-point lists commute with replication -/

theorem mapOpt_replicateBy {β γ : Type} (f : β → Option γ) (cnt : List ℕ) (X : List β) (ys : List γ)
    (h : mapOpt f X = some ys) : mapOpt f (replicateBy cnt X) = some (replicateBy cnt ys) := by
  rw [gmm_mapOpt, mapM_eq_some_iff] at h ⊢
  rw [map_replicateBy, map_replicateBy, h]

/-- `mapOpt` of a function whose failure does not depend on the point commutes with replication
    (the replicated list is not empty: the first count is positive) -/
theorem mapOpt_replicateBy_of_uniform {β γ : Type} (f : β → Option γ) (cnt : List ℕ) (X : List β)
    (hpos : 0 < cnt.headD 0) (hunif : ∀ x ∈ X, ∀ y ∈ X, f x = none → f y = none) :
    mapOpt f (replicateBy cnt X) = (mapOpt f X).map (replicateBy cnt) := by
  cases h : mapOpt f X with
  | some ys => exact mapOpt_replicateBy f cnt X ys h
  | none =>
    obtain ⟨x, hx, hfx⟩ := (mapM_eq_none_iff f X).mp (of_gmm h)
    obtain ⟨y, hy⟩ := List.exists_mem_of_ne_nil _ (replicateBy_ne_nil cnt X hpos (List.ne_nil_of_mem hx))
    exact (gmm_mapOpt f _).trans ((mapM_eq_none_iff f _).mpr ⟨y, hy, hunif x hx y (mem_replicateBy y cnt X hy) hfx⟩)

theorem rowsOfCols_replicateBy {β : Type} (cnt : List ℕ) (n : ℕ) (hn : cnt.length = n) : ∀ (cols : List (List β)),
    (∀ c ∈ cols, c.length = n) →
    rowsOfCols cnt.sum (cols.map (replicateBy cnt)) = replicateBy cnt (rowsOfCols n cols) := by
  intro cols
  induction cols with
  | nil =>
    intro _
    rw [List.map_nil, rowsOfCols_nil, rowsOfCols_nil, replicateBy_replicate _ cnt n (by omega)]
  | cons c cols ih =>
    intro hc
    have hcl : c.length = n := hc c (by simp)
    rw [List.map_cons, rowsOfCols_cons _ _ _ (by rw [length_replicateBy cnt c (by omega)]),
      ih (fun c' h => hc c' (List.mem_cons_of_mem _ h)), rowsOfCols_cons n c cols hcl, replicateBy_zipWith]

section Iteration
variable (cnt : List ℕ) (X : Mat ℝ) (d : ℕ) (hX : ∀ x ∈ X, x.length = d) (hpos : 0 < cnt.headD 0)
include hX hpos

theorem logpdfCol_replicateBy (sing : Mat ℝ → Bool) (M : Mat ℝ) (m : List ℝ) :
    logpdfCol sing d M m (replicateBy cnt X) = (logpdfCol sing d M m X).map (replicateBy cnt) := by
  rw [logpdfCol_eq, logpdfCol_eq]
  split
  · rfl
  · cases factor? M with
    | none => rfl
    | some F =>
      apply mapOpt_replicateBy_of_uniform _ cnt X hpos
      intro x hx y hy hfx
      rw [logpdf?_eq_none_iff] at hfx ⊢
      rwa [hX y hy, ← hX x hx]

theorem estepCols_replicateBy (sing : Mat ℝ → Bool) (reg : ℝ) (ws : List ℝ) (ms : Mat ℝ) (Cs : List (Mat ℝ)) :
    estepCols sing reg d ws ms Cs (replicateBy cnt X)
      = (estepCols sing reg d ws ms Cs X).map (List.map (replicateBy cnt)) := by
  unfold estepCols
  rw [gmm_mapOpt, gmm_mapOpt]
  refine mapM_comp_map _ _ _ (fun t => ?_) _
  simp only [estepCol, logpdfCol_replicateBy cnt X d hX hpos sing _ t.2.1]
  cases logpdfCol sing d (addDiag reg t.2.2) t.2.1 X with
  | some l => simp [map_replicateBy]
  | none =>
    cases logpdfCol sing d (scaledEye d reg) t.2.1 X with
    | some l => simp [map_replicateBy]
    | none => simp

theorem lbCols_replicateBy (sing : Mat ℝ → Bool) (reg : ℝ) (ws : List ℝ) (ms : Mat ℝ) (Cs : List (Mat ℝ)) :
    lbCols sing reg d ws ms Cs (replicateBy cnt X) = (lbCols sing reg d ws ms Cs X).map (replicateBy cnt) := by
  unfold lbCols
  rw [List.map_filterMap]
  apply List.filterMap_congr
  intro t _
  rw [logpdfCol_replicateBy cnt X d hX hpos sing]
  cases logpdfCol sing d (addDiag reg t.2.2) t.2.1 X with
  | none => rfl
  | some l => simp [map_replicateBy]

variable (hl : cnt.length = X.length)
include hl

theorem estep_replicateBy (sing : Mat ℝ → Bool) (reg : ℝ) (ws : List ℝ) (ms : Mat ℝ) (Cs : List (Mat ℝ))
    (R : Mat ℝ) (h : estep sing reg d ws ms Cs X = some R) :
    estep sing reg d ws ms Cs (replicateBy cnt X) = some (replicateBy cnt R) ∧
      R.length = X.length ∧ ∀ row ∈ R, row.length = (List.zip ws (List.zip ms Cs)).length := by
  simp only [estep] at h ⊢
  obtain ⟨cols, hcols, hR⟩ := Option.bind_eq_some_iff.mp h
  obtain ⟨hck, hform⟩ := estepCols_form sing reg d ws ms Cs X cols hcols
  have hcl : ∀ col ∈ cols, col.length = X.length := by
    intro col hcol
    obtain ⟨k, hk⟩ := List.getElem?_of_mem hcol
    obtain ⟨_, _, hok⟩ := hform k col hk
    exact hok.1
  rw [estepCols_replicateBy cnt X d hX hpos sing reg ws ms Cs, hcols]
  simp only [Option.map_some, Option.bind_some]
  rw [length_replicateBy cnt X hl, rowsOfCols_replicateBy cnt X.length hl cols hcl]
  refine ⟨mapOpt_replicateBy softRow cnt _ R hR, ?_, ?_⟩
  · rw [mapM_length (of_gmm hR), rowsOfCols_length]
  · intro row hrow
    obtain ⟨row0, hrow0, hs⟩ := mapM_mem (of_gmm hR) hrow
    obtain ⟨i, hi, rfl⟩ := mem_rowsOfCols.mp hrow0
    rw [softRow_length _ row hs, col_length cols i fun c h => (hcl c h).symm ▸ hi, hck]

theorem lowerBound_replicateBy (sing : Mat ℝ → Bool) (reg eps : ℝ) (ws : List ℝ) (ms : Mat ℝ) (Cs : List (Mat ℝ)) (t : ℝ) :
    lowerBound sing reg eps d ws ms Cs (replicateBy cnt X) (List.replicate cnt.sum t)
      = lowerBound sing reg eps d ws ms Cs X (cnt.map fun (k : ℕ) => (k : ℝ) * t) := by
  have hrows : ∀ (n : ℕ) (cols : List (List ℝ)),
      ((List.range n).map fun i => ScT.log (Sc.add (Sc.sum (col cols i)) eps))
        = (rowsOfCols n cols).map fun row => ScT.log (Sc.add (Sc.sum row) eps) := by
    intro n cols; simp [rowsOfCols]
  have hlen : ∀ col ∈ lbCols sing reg d ws ms Cs X, col.length = X.length := by
    intro col hcol
    simp only [lbCols, List.mem_filterMap] at hcol
    obtain ⟨k, _, hk⟩ := hcol
    obtain ⟨l, hl, rfl⟩ := Option.map_eq_some_iff.mp hk
    rw [List.length_map]
    exact logpdfCol_length sing d _ _ X l hl
  simp only [lowerBound]
  rw [hrows, hrows, lbCols_replicateBy cnt X d hX hpos sing reg ws ms Cs, length_replicateBy cnt X hl,
    rowsOfCols_replicateBy cnt X.length hl _ hlen, map_replicateBy,
    ← replicateBy_replicate t cnt X.length (by omega), dot_rep, zipWith_replicate_right _ t cnt X.length (by omega)]

end Iteration

theorem zip_params_length (diagT : Bool) (K : ℕ) (p : MStep ℝ) (hp : MShape K p) :
    (List.zip p.weights (List.zip p.means (covMats diagT p))).length = K := by
  rw [List.length_zip, List.length_zip, covMats_length diagT K p hp, hp.1, hp.2.1, Nat.min_self, Nat.min_self]

/-- **one EM iteration** (E-step, M-step, lower bound) gives the same parameters and the same bound -/
theorem C15_emIter_replicate (c : Cfg ℝ) (cnt : List ℕ) (X : Mat ℝ) (t : ℝ)
    (hX : ∀ x ∈ X, x.length = c.d) (hl : cnt.length = X.length) (hpos : 0 < cnt.headD 0)
    (p : MStep ℝ) (hp : MShape c.K p) (r : MStep ℝ × ℝ)
    (h : emIter c X (cnt.map fun (k : ℕ) => (k : ℝ) * t) p = some r) :
    emIter c (replicateBy cnt X) (List.replicate cnt.sum t) p = some r ∧ MShape c.K r.1 := by
  obtain ⟨R, hE, rfl⟩ := (emIter_eq_some c X _ p r).mp h
  obtain ⟨h1, h2, h3⟩ := estep_replicateBy cnt X c.d hX hpos hl c.sing c.reg p.weights p.means (covMats c.diagT p) R hE
  rw [zip_params_length c.diagT c.K p hp] at h3
  refine ⟨(emIter_eq_some c _ _ p _).mpr ⟨_, h1, ?_⟩, mstep_shape _ _ _ _ _ _ _⟩
  rw [C15_em_factors_through_wsum c.tiny c.eps t c.d c.K X R cnt hX h3 (by omega),
    lowerBound_replicateBy cnt X c.d hX hpos hl c.sing c.reg c.eps _ _ _ t]

/-! ### `fit` -/

theorem normWeights_counts (cnt : List ℕ) :
    normWeights (cnt.map fun (k : ℕ) => (k : ℝ)) = cnt.map fun (k : ℕ) => (k : ℝ) * (1 / (cnt.sum : ℝ)) := by
  simp only [normWeights, ScReal.sum_def, List.map_map, ScReal.div_def]
  rw [← Nat.cast_list_sum]
  exact List.map_congr_left fun k _ => div_eq_mul_one_div _ _

theorem normWeights_replicate (n : ℕ) :
    normWeights (List.replicate n (1 : ℝ)) = List.replicate n (1 / (n : ℝ)) := by
  simp [normWeights, ScReal.sum_def]

/-- **`fit` on replicated points = `fit` with integer sample weights** (general counts: zeros allowed,
    only the first count must be positive — it makes the replicated data non-empty and decides the draw
    `u = 0`) -/
theorem C15_fit_replicate_general (c : Cfg ℝ) (X : Mat ℝ) (cnt : List ℕ) (tape : List ℝ)
    (hX : ∀ x ∈ X, x.length = c.d) (hcnt : cnt.length = X.length) (hpos : 0 < cnt.headD 0)
    (o : FitOut ℝ) (h : fit c X (cnt.map fun (k : ℕ) => (k : ℝ)) tape = some o) :
    ∃ o', fit c (replicateBy cnt X) (List.replicate cnt.sum 1) tape = some o' ∧
      o'.params = o.params ∧ o'.nIter = o.nIter ∧ o'.converged = o.converged ∧ o'.lb = o.lb := by
  refine (fit_transfer c X (replicateBy cnt X) _ (List.replicate cnt.sum 1) tape (MShape c.K) ?_ ?_ o h).1
  · intro tape r hr
    rw [normWeights_counts] at hr
    rw [normWeights_replicate]
    exact initFit_replicateBy cnt X _ (by positivity) hcnt hpos c hX tape r hr
  · intro p q hp hq
    rw [normWeights_counts] at hq
    rw [normWeights_replicate]
    exact C15_emIter_replicate c cnt X _ hX hcnt hpos p hp q hq

/-- the form with all counts positive -/
theorem C15_fit_replicate (c : Cfg ℝ) (X : Mat ℝ) (cnt : List ℕ) (tape : List ℝ)
    (hX : ∀ x ∈ X, x.length = c.d) (hcnt : cnt.length = X.length)
    (hc0 : ∀ k ∈ cnt, 0 < k)
    (_htape : ∀ u ∈ tape, 0 ≤ u ∧ u < 1)
    (o : FitOut ℝ) (h : fit c X (cnt.map fun (k : ℕ) => (k : ℝ)) tape = some o) :
    ∃ o', fit c (replicateBy cnt X) (List.replicate cnt.sum 1) tape = some o' ∧
      o'.params = o.params ∧ o'.nIter = o.nIter ∧ o'.converged = o.converged ∧ o'.lb = o.lb := by
  cases cnt with
  | nil =>
    have : X = [] := List.eq_nil_of_length_eq_zero hcnt.symm
    subst this
    exact ⟨o, by simpa [replicateBy_nil_left] using h, rfl, rfl, rfl, rfl⟩
  | cons k cnt =>
    exact C15_fit_replicate_general c X (k :: cnt) tape hX hcnt (hc0 k List.mem_cons_self) o h

/-! ### non-vacuity -/

/-- the hypotheses of `C15_fit_replicate` on 3 points in 1-D with counts (1, 2, 1) and one `rand()` value -/
example : (∀ x ∈ exX, x.length = 1) ∧ ([1, 2, 1] : List ℕ).length = exX.length ∧
    (∀ k ∈ ([1, 2, 1] : List ℕ), 0 < k) ∧ (∀ u ∈ ([1 / 2] : List ℝ), 0 ≤ u ∧ u < 1) ∧
    0 < ([1, 2, 1] : List ℕ).headD 0 ∧
    replicateBy [1, 2, 1] exX = [[1], [3], [3], [5]] ∧
    List.replicate ([1, 2, 1] : List ℕ).sum (1 : ℝ) = [1, 1, 1, 1] := by
  refine ⟨by decide, rfl, by decide, ?_, Nat.one_pos, rfl, rfl⟩
  intro u hu
  rw [List.mem_singleton.mp hu]
  norm_num

/-- the first k-means++ draw of that example: `u = 1/2` picks index 1 of the weighted data (cumulative sums
    1/4, 3/4, 1) and index 1 of the replicated data (cumulative sums 1/4, 1/2, 3/4, 1) — the point `[3]` on
    both sides; with `u = 3/5` the indices differ (1 against 2) and the point is still the same -/
example : pickIdx ([1 / 4, 2 / 4, 1 / 4] : List ℝ) (1 / 2) = some 1 ∧
    pickIdx (List.replicate 4 (1 / 4 : ℝ)) (1 / 2) = some 1 ∧
    pickIdx ([1 / 4, 2 / 4, 1 / 4] : List ℝ) (3 / 5) = some 1 ∧
    pickIdx (List.replicate 4 (1 / 4 : ℝ)) (3 / 5) = some 2 ∧
    exX[1]? = some [3] ∧ (replicateBy [1, 2, 1] exX)[1]? = some [3] ∧
    (replicateBy [1, 2, 1] exX)[2]? = some [3] := by
  refine ⟨?_, ?_, ?_, ?_, rfl, rfl, rfl⟩ <;>
  · simp only [List.replicate_succ, List.replicate_zero, pickIdx, cumsumFrom, List.getLast?_cons_cons,
      List.getLast?_singleton, Option.map_some, searchsorted, npLt_real, ScReal.add_def, ScReal.zero_def,
      ScReal.mul_def]
    norm_num

/-! #### the hypothesis `fit … = some o` is satisfiable (one component, one iteration) -/

noncomputable def rep_exCfg : Cfg ℝ :=
  { sing := fun _ => false, diagT := false, tiny := 1 / 1000, eps := 1 / 10, reg := 1, tol := 1 / 1000,
    d := 1, K := 1, maxIter := 1, nInit := 1 }

/-- `fit` succeeds on the example (so `C15_fit_replicate` applies to it, and says that the fit of
    `[[1],[3],[3],[5]]` with unit weights returns the same parameters) -/
theorem rep_ex_fit_some : ∃ o, fit rep_exCfg exX (([1, 2, 1] : List ℕ).map fun (k : ℕ) => (k : ℝ)) [1 / 2] = some o := by
  refine C15_fit_returns rep_exCfg exX _ [1 / 2] (by simp only [rep_exCfg]; positivity) one_pos (Nat.le_refl 1)
    (Nat.le_refl 1) (Nat.le_refl 1) rfl ?_ rfl ?_ ?_ (Nat.le_refl 1) ?_
  · intro x hx
    simp only [exX, List.mem_cons, List.not_mem_nil, or_false] at hx
    rcases hx with rfl | rfl | rfl <;> rfl
  · intro x hx
    obtain ⟨k, _, rfl⟩ := List.mem_map.mp hx
    exact Nat.cast_nonneg k
  · rw [ScReal.sum_def]; norm_num
  · intro u hu
    rw [List.mem_singleton.mp hu]
    norm_num

example : ∃ o o', fit rep_exCfg exX (([1, 2, 1] : List ℕ).map fun (k : ℕ) => (k : ℝ)) [1 / 2] = some o ∧
    fit rep_exCfg [[1], [3], [3], [5]] [1, 1, 1, 1] [1 / 2] = some o' ∧
    o'.params = o.params ∧ o'.nIter = o.nIter ∧ o'.converged = o.converged ∧ o'.lb = o.lb := by
  obtain ⟨o, ho⟩ := rep_ex_fit_some
  obtain ⟨o', ho', h⟩ := C15_fit_replicate_general rep_exCfg exX [1, 2, 1] [1 / 2] (by decide) rfl Nat.one_pos o ho
  exact ⟨o, o', ho, ho', h⟩

/-- counts with a zero (a point that is not replicated at all) satisfy the hypotheses of
    `C15_fit_replicate_general` -/
example : (∀ x ∈ exX, x.length = 1) ∧ ([2, 0, 1] : List ℕ).length = exX.length ∧
    0 < ([2, 0, 1] : List ℕ).headD 0 ∧ replicateBy [2, 0, 1] exX = [[1], [1], [5]] := by
  exact ⟨by decide, rfl, Nat.succ_pos 1, rfl⟩

end Props.C15
