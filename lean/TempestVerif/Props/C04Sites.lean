import TempestVerif.Gen.WeightSites
/-
  C04 — the STATIC tie: what the hand-written models mirror, read from /repo's source by translator
  G13 (`translate/g13_wsites.py` → `Gen/WeightSites.lean`, regenerated on every run of the check).

  The obligations below are closed facts about the regenerated tables (`rfl`; list membership by `simp`).  When the source changes they stop
  checking, and the models (`Model.Weights`, `Model.WeightsKeys`, `Model.ClosedLoop.posteriorArrs / finalLogz / evidence`)
  have to be re-mirrored — a refactoring that keeps the meaning but not the text is meant to trip them.
  (`Props/C04Source.lean` pins the same functions a second time, from the translator's term-level tables with locals renamed:
  those do not alarm on a pure renaming, these do.  The two readings are kept on purpose.)
-/
namespace Props.C04Sites
open Gen.WeightSites

/-- the statements `Model.Weights.logw` / `Model.WeightsKeys.logwK` mirror, one by one -/
theorem C04_source_logw_body : logwBody =
    ["beta = np.asarray(self.get_history('beta'))",
     "if beta.size == 0: {return (np.array([]), -np.inf)}",
     "logz_iter = np.asarray(self.get_history('logz'))",
     "logl_all = self.get_history('logl', flat=True)",
     "A = logl_all * beta_final",
     "logl_per_iter = self._history.get('logl')",
     "n_per_iter = np.array([len(logl_per_iter[t]) for t in range(len(beta))])",
     "N_total = n_per_iter.sum()",
     "b = logl_all[:, None] * beta[None, :] - logz_iter[None, :]",
     "log_mixture_weights = np.log(n_per_iter) - np.log(N_total)",
     "b_weighted = b + log_mixture_weights[None, :]",
     "B = np.logaddexp.reduce(b_weighted, axis=1)",
     "logw = A - B",
     "logz_new = np.logaddexp.reduce(logw) - np.log(logw.size)",
     "if normalize and logw.size: {logw = logw - np.logaddexp.reduce(logw)}",
     "return (logw, logz_new)"] := rfl

/-- `normalize` defaults to `True`, the target to 1 -/
theorem C04_source_signature : logwSignature = ["self", "beta_final=1.0", "normalize=True"] := rfl

/-- **closed world of callers.**  Every call of the weight function in the package passes exactly one positional
    argument and no keyword — so `normalize=True` everywhere — and these are all the calls there are:
    the epilogue of `run_sampling`, `compute_posterior`, the guard and `compute_results` at the literal `1.0`
    (`Model.ClosedLoop.finalLogz / posteriorArrs / contGuard`, `Model.WeightsKeys.computeResults`), the reweighting step at
    its trial temperature (`Model.Pipeline.oracleM / oracleZ`) -/
theorem C04_source_call_sites : logwCallSites.map (fun s => (s.2.1, s.2.2.1, s.2.2.2)) =
    [("SamplerCore.run_sampling", "1.0", "(_, logz)"),
     ("SamplerCore.compute_posterior", "1.0", "(logw, logz)"),
     ("SamplerCore._not_termination", "1.0", "(logw, _)"),
     ("StateManager.compute_results", "1.0", "(logw, _)"),
     ("Reweighter._compute_metric_and_weights", "beta", "(logw, _)"),
     ("Reweighter.run", "beta", "(_, logz)"),
     ("Reweighter.run", "beta", "(_, logz)")] := rfl

/-- **cache discipline.**  Every method of `StateManager` that writes `_history` or `_current` calls
    `_invalidate_cache()` (the `Op`s of `Model.WeightsKeys.step` that change the state all reset the cache) -/
theorem C04_source_cache_discipline : ∀ m ∈ stateWriters, m ∈ cacheInvalidators := by
  simp [stateWriters, cacheInvalidators]

/-- the cache is written in three places only: created empty, reset to `None`, filled by `compute_results` -/
theorem C04_source_cache_writers :
    cacheWriters = ["__init__", "_invalidate_cache", "compute_results"] ∧ invalidateBody = ["self._results_dict = None"] :=
  ⟨rfl, rfl⟩

/-- the text `Model.WeightsKeys.computeResults` mirrors — note `self._results_dict = dict()` BEFORE the loop that can raise
    (the observation recorded as `C04K_results_partial_after_raise`) -/
theorem C04_source_results_body : resultsBody =
    ["if self._results_dict is None: {self._results_dict = dict(); for key in self._history.keys(): {self._results_dict[key] = self.get_history(key)}; logw, _ = self.compute_logw_and_logz(1.0); self._results_dict['logw'] = logw}",
     "return {k: self._ensure_copy(v) for k, v in self._results_dict.items()}"] := rfl

/-- what the two observation points hand out: `evidence()` is the current `logz` slot (written by the epilogue),
    `posterior()` starts from the normalised β = 1 weights and exponentiates them after subtracting the maximum -/
theorem C04_source_handout :
    evidenceBody = ["logz = self.state.get_current('logz')", "return (logz, getattr(self, 'logz_err', None))"] ∧
    posteriorHead = ["logw, logz = self.state.compute_logw_and_logz(1.0)", "weights = np.exp(logw - np.max(logw))",
                     "weights /= np.sum(weights)"] := ⟨rfl, rfl⟩

end Props.C04Sites
