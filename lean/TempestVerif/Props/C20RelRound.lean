import TempestVerif.Model.Ess
import TempestVerif.Lemmas.Rounded
import TempestVerif.Lemmas.ScReal
import TempestVerif.Props.C20
/-
  C20 — `ESS ∈ [1, N]` in floating point, up to an explicit allowance.

  `Model.Ess.ess` — the very definition the driver executes at `Float` — is evaluated at the rounded reals `Rd rnd`
  (`Lemmas/Rounded.lean`: every `+ * /` is the exact operation followed by `rnd`).  Hypothesis **H_rel(u)** (`RelRound rnd u`):
  for `x ≥ 0`,  `(1-u)·x ≤ rnd x ≤ (1+u)·x`  — the standard model of binary floating point with unit roundoff `u`
  (binary64: `u = 2^-53`), valid as long as nothing overflows or becomes subnormal.  It is purely multiplicative and speaks of `x ≥ 0` only
  (no absolute term and no overflow bound, unlike `Lemmas.Rounded.RoundModel`): that keeps the calculus closed under quotients.

  Error calculus `Acc` ("x̃ carries at most k roundings"): rounding adds 1 to `k`, sums keep the maximum, products and quotients add.  The ESS of `n` weights carries `3n+4`
  (`C20_relround_ess_close`), which to first order is the allowance `(3n+4)u` below and `(6n+8)u` above (`…_bounds`, `…_upper`).
  Suite ess-property-F uses `τ = (4N+16)·2^-52 = (8N+32)·2^-53 ≥ (6N+8)·2^-53` on the real code.
  (The model sums left to right, numpy pairwise: the calculus gives the same exponent for every order of summation, since a sum
  of `n` terms passes through at most `n` roundings on any path.)
-/
namespace Props.C20
open Model.Ess Lemmas.RoundMap

/-- H_rel(u): relative-error model of rounding on the non-negative reals -/
structure RelRound (rnd : ℝ → ℝ) (u : ℝ) : Prop where
  u_nonneg : 0 ≤ u
  u_lt : u < 1
  lo : ∀ x, 0 ≤ x → (1 - u) * x ≤ rnd x
  hi : ∀ x, 0 ≤ x → rnd x ≤ (1 + u) * x

/-- `x̃` approximates `x ≥ 0` through at most `k` roundings -/
def Acc (u : ℝ) (k : ℕ) (xt x : ℝ) : Prop := 0 ≤ x ∧ (1 - u) ^ k * x ≤ xt ∧ xt * (1 - u) ^ k ≤ x

section Calculus
variable {rnd : ℝ → ℝ} {u : ℝ}

theorem theta_pos (h : RelRound rnd u) : 0 < 1 - u := sub_pos.mpr h.u_lt

theorem Acc.nonneg (h : RelRound rnd u) {k : ℕ} {xt x : ℝ} (a : Acc u k xt x) : 0 ≤ xt :=
  le_trans (mul_nonneg (pow_nonneg (theta_pos h).le k) a.1) a.2.1

theorem Acc.exact {x : ℝ} (hx : 0 ≤ x) : Acc u 0 x x := ⟨hx, by simp, by simp⟩

theorem Acc.mono (h : RelRound rnd u) {j k : ℕ} (hjk : j ≤ k) {xt x : ℝ} (a : Acc u j xt x) : Acc u k xt x := by
  have hθ := theta_pos h
  have hpow : (1 - u) ^ k ≤ (1 - u) ^ j := pow_le_pow_of_le_one hθ.le (sub_le_self 1 h.u_nonneg) hjk
  have hxt := a.nonneg h
  refine ⟨a.1, le_trans (mul_le_mul_of_nonneg_right hpow a.1) a.2.1, le_trans (mul_le_mul_of_nonneg_left hpow hxt) a.2.2⟩

theorem Acc.round (h : RelRound rnd u) {k : ℕ} {xt x : ℝ} (a : Acc u k xt x) : Acc u (k + 1) (rnd xt) x := by
  have hθ := theta_pos h
  have hxt := a.nonneg h
  have hpk : 0 ≤ (1 - u) ^ k := pow_nonneg hθ.le k
  refine ⟨a.1, ?_, ?_⟩
  · calc (1 - u) ^ (k + 1) * x = (1 - u) * ((1 - u) ^ k * x) := by ring
      _ ≤ (1 - u) * xt := mul_le_mul_of_nonneg_left a.2.1 hθ.le
      _ ≤ rnd xt := h.lo xt hxt
  · have h3 : (1 + u) * (1 - u) ≤ 1 := by rw [← mul_self_sub_mul_self, one_mul]; exact sub_le_self 1 (mul_self_nonneg u)
    calc rnd xt * (1 - u) ^ (k + 1) ≤ ((1 + u) * xt) * (1 - u) ^ (k + 1) :=
          mul_le_mul_of_nonneg_right (h.hi xt hxt) (pow_nonneg hθ.le _)
      _ = ((1 + u) * (1 - u)) * (xt * (1 - u) ^ k) := by ring
      _ ≤ 1 * (xt * (1 - u) ^ k) := mul_le_mul_of_nonneg_right h3 (mul_nonneg hxt hpk)
      _ ≤ x := by rw [one_mul]; exact a.2.2

theorem Acc.add {k : ℕ} {at' a bt b : ℝ} (ha : Acc u k at' a) (hb : Acc u k bt b) : Acc u k (at' + bt) (a + b) := by
  refine ⟨add_nonneg ha.1 hb.1, ?_, ?_⟩
  · rw [mul_add]; exact add_le_add ha.2.1 hb.2.1
  · rw [add_mul]; exact add_le_add ha.2.2 hb.2.2

theorem Acc.mul (h : RelRound rnd u) {j k : ℕ} {at' a bt b : ℝ} (ha : Acc u j at' a) (hb : Acc u k bt b) :
    Acc u (j + k) (at' * bt) (a * b) := by
  have hθ := theta_pos h
  have hj : 0 ≤ (1 - u) ^ j := pow_nonneg hθ.le j
  have hk : 0 ≤ (1 - u) ^ k := pow_nonneg hθ.le k
  have hat := ha.nonneg h
  have hbt := hb.nonneg h
  refine ⟨mul_nonneg ha.1 hb.1, ?_, ?_⟩
  · calc (1 - u) ^ (j + k) * (a * b) = ((1 - u) ^ j * a) * ((1 - u) ^ k * b) := by rw [pow_add]; ring
      _ ≤ at' * bt := mul_le_mul ha.2.1 hb.2.1 (mul_nonneg hk hb.1) hat
  · calc at' * bt * (1 - u) ^ (j + k) = (at' * (1 - u) ^ j) * (bt * (1 - u) ^ k) := by rw [pow_add]; ring
      _ ≤ a * b := mul_le_mul ha.2.2 hb.2.2 (mul_nonneg hbt hk) ha.1

theorem Acc.inv (h : RelRound rnd u) {k : ℕ} {bt b : ℝ} (hb : Acc u k bt b) (hbpos : 0 < b) : Acc u k bt⁻¹ b⁻¹ := by
  have hbt : 0 < bt := lt_of_lt_of_le (mul_pos (pow_pos (theta_pos h) k) hbpos) hb.2.1
  refine ⟨inv_nonneg.mpr hb.1, ?_, ?_⟩
  · rw [← div_eq_mul_inv, div_le_iff₀ hbpos, ← div_eq_inv_mul, le_div_iff₀ hbt, mul_comm]
    exact hb.2.2
  · rw [inv_mul_eq_div, div_le_iff₀ hbt, ← div_eq_inv_mul, le_div_iff₀ hbpos]
    exact hb.2.1

theorem Acc.div (h : RelRound rnd u) {j k : ℕ} {at' a bt b : ℝ} (ha : Acc u j at' a) (hb : Acc u k bt b) (hbpos : 0 < b) :
    Acc u (j + k) (at' / bt) (a / b) := by
  rw [div_eq_mul_inv, div_eq_mul_inv]
  exact ha.mul h (hb.inv h hbpos)

end Calculus

/-! ### the rounded left-fold sum -/

variable {rnd : ℝ → ℝ} {u : ℝ}

/-- the running form: an accumulator that carries `m + j` roundings, and then `n` more terms of at most `m` each: `m + j + n` -/
theorem rsum_acc (h : RelRound rnd u) (m : ℕ) (lt l : List ℝ) (hl : List.Forall₂ (Acc u m) lt l)
    (j : ℕ) (acct acc : ℝ) (ha : Acc u (m + j) acct acc) :
    Acc u (m + j + lt.length) (rsum rnd acct lt) (acc + l.sum) := by
  induction hl generalizing j acct acc with
  | nil => simpa [rsum] using ha
  | @cons at' a lt' l' hab _ ih =>
    simp only [rsum, List.sum_cons, List.length_cons]
    have h1 : Acc u (m + j) at' a := hab.mono h (by omega)
    have h2 := (ha.add h1).round h
    have h3 := ih (j + 1) _ _ (by rw [← add_assoc]; exact h2)
    have e : m + (j + 1) + lt'.length = m + j + (lt'.length + 1) := by omega
    rw [e, add_assoc acc a] at h3
    exact h3

theorem rd_sum_acc (h : RelRound rnd u) (m : ℕ) (l : List (Rd rnd)) (r : List ℝ)
    (hl : List.Forall₂ (Acc u m) (l.map Rd.v) r) : Acc u (m + l.length) (Sc.sum l).v r.sum := by
  have := rsum_acc h m _ _ hl 0 0 0 ((Acc.exact (le_refl _)).mono h (Nat.zero_le _))
  rwa [← Rd.sum_v, List.length_map, zero_add, add_zero] at this

/-! ### effective sample size -/

theorem forall₂_acc_map {j k : ℕ} {l : List (Rd rnd)} {r : List ℝ} (f : Rd rnd → Rd rnd) (g : ℝ → ℝ)
    (hl : List.Forall₂ (Acc u j) (l.map Rd.v) r) (hfg : ∀ a b, Acc u j a.v b → Acc u k (f a).v (g b)) :
    List.Forall₂ (Acc u k) ((l.map f).map Rd.v) (r.map g) := by
  rw [List.map_map, List.forall₂_map_left_iff, List.forall₂_map_right_iff]
  rw [List.forall₂_map_left_iff] at hl
  exact hl.imp fun a b => hfg a b

/-- **the computed ESS is the exact ESS up to `3n+4` roundings** -/
theorem C20_relround_ess_close (h : RelRound rnd u) (w : List (Rd rnd)) (h0 : ∀ x ∈ w, 0 ≤ x.v)
    (hs : 0 < (w.map Rd.v).sum) :
    Acc u (3 * w.length + 4) (ess w).v (ess (w.map Rd.v)) := by
  set n := w.length with hn
  set wr := w.map Rd.v with hwr
  have hw : List.Forall₂ (Acc u 0) (w.map Rd.v) wr :=
    List.forall₂_same.mpr fun x hx => Acc.exact (List.forall_mem_map.mpr h0 x hx)
  -- 1. the sum: `n` roundings
  have hS : Acc u n (Sc.sum w).v wr.sum := (rd_sum_acc h 0 w wr hw).mono h (by omega)
  -- 2. the normalised weights: one division more
  have hU : List.Forall₂ (Acc u (n + 1)) ((normalise w).map Rd.v) (wr.map (fun x => x / wr.sum)) :=
    forall₂_acc_map (fun x => Sc.div x (Sc.sum w)) _ hw fun a b hab => ((hab.div h hS hs).round h).mono h (by omega)
  -- 3. their squares
  have hQi : List.Forall₂ (Acc u (2 * n + 3)) (((normalise w).map fun x => Sc.mul x x).map Rd.v)
      ((wr.map (fun x => x / wr.sum)).map (fun x => x * x)) :=
    forall₂_acc_map (fun x => Sc.mul x x) _ hU fun a b hab => ((hab.mul h hab).round h).mono h (by omega)
  -- 4. the sum of squares: `n` roundings more
  have hQ : Acc u (3 * n + 3) (sumSq (normalise w)).v ((wr.map (fun x => x / wr.sum)).map (fun x => x * x)).sum :=
    (rd_sum_acc h (2 * n + 3) _ _ hQi).mono h (by simp only [length_normalise, List.length_map]; omega)
  -- 5. the reciprocal
  have hqpos : 0 < ((wr.map (fun x => x / wr.sum)).map (fun x => x * x)).sum :=
    sum_sq_pos_of_sum_pos _ ((ScReal.sum_map_div_self hs.ne').symm ▸ one_pos)
  have hv : (ess w).v = rnd (1 / (sumSq (normalise w)).v) := by rw [ess, Rd.div_v, Rd.one_v]
  rw [ess_def wr, hv]
  exact (((Acc.exact (u := u) zero_le_one).div h hQ hqpos).round h).mono h (by omega)

/-- Bernoulli -/
theorem pow_ge_one_sub_mul (h : RelRound rnd u) (k : ℕ) : 1 - (k : ℝ) * u ≤ (1 - u) ^ k :=
  calc 1 - (k : ℝ) * u = 1 + k * (1 - u - 1) := by ring
    _ ≤ (1 - u) ^ k := one_add_mul_sub_le_pow ((neg_nonpos.mpr zero_le_one).trans (theta_pos h).le) k

/-- leaving the calculus: what `k` roundings can do to a quantity known to lie in `[lo, hi]`, to first order in `u` -/
theorem Acc.bounds (h : RelRound rnd u) {k : ℕ} {xt x lo hi : ℝ} (a : Acc u k xt x) (hlo0 : 0 ≤ lo) (hlo : lo ≤ x) (hhi : x ≤ hi) :
    (1 - (k : ℝ) * u) * lo ≤ xt ∧ xt * (1 - (k : ℝ) * u) ≤ hi := by
  have hp := pow_ge_one_sub_mul h k
  have hθk : 0 ≤ (1 - u) ^ k := pow_nonneg (theta_pos h).le _
  exact ⟨(mul_le_mul hp hlo hlo0 hθk).trans a.2.1, ((mul_le_mul_of_nonneg_left hp (a.nonneg h)).trans a.2.2).trans hhi⟩

/-- **`1 ≤ ESS ≤ N` in floating point, with the allowance `(3N+4)u`** -/
theorem C20_relround_ess_bounds (h : RelRound rnd u) (w : List (Rd rnd)) (h0 : ∀ x ∈ w, 0 ≤ x.v)
    (hs : 0 < (w.map Rd.v).sum) :
    1 - (3 * w.length + 4 : ℕ) * u ≤ (ess w).v ∧ (ess w).v * (1 - (3 * w.length + 4 : ℕ) * u) ≤ w.length := by
  obtain ⟨hb1, hb2⟩ := C20_ess_bounds (w.map Rd.v) (List.forall_mem_map.mpr h0) hs
  rw [List.length_map] at hb2
  have := (C20_relround_ess_close h w h0 hs).bounds h zero_le_one hb1 hb2
  rwa [mul_one] at this

/-- from `v(1 − t) ≤ N` to `v ≤ N(1 + 2t)`: `(1 − t)(1 + 2t) = 1 + t(1 − 2t) ≥ 1` for `0 ≤ t ≤ 1/2` -/
theorem le_mul_one_add_two_mul {v N t : ℝ} (hv : 0 ≤ v) (ht0 : 0 ≤ t) (ht : t ≤ 1 / 2) (h : v * (1 - t) ≤ N) :
    v ≤ N * (1 + 2 * t) := by
  have h2t : 0 ≤ 1 - 2 * t := sub_nonneg.mpr ((le_div_iff₀' two_pos).mp ht)
  have hkey : 1 ≤ (1 - t) * (1 + 2 * t) :=
    calc 1 ≤ 1 + t * (1 - 2 * t) := le_add_of_nonneg_right (mul_nonneg ht0 h2t)
      _ = (1 - t) * (1 + 2 * t) := by ring
  calc v ≤ v * ((1 - t) * (1 + 2 * t)) := le_mul_of_one_le_right hv hkey
    _ = (v * (1 - t)) * (1 + 2 * t) := (mul_assoc _ _ _).symm
    _ ≤ N * (1 + 2 * t) := mul_le_mul_of_nonneg_right h (add_nonneg zero_le_one (mul_nonneg zero_le_two ht0))

/-- the upper bound in the form the oracle uses: `ESS_float ≤ N·(1 + (6N+8)u)` as long as `(3N+4)u ≤ 1/2` -/
theorem C20_relround_ess_upper (h : RelRound rnd u) (w : List (Rd rnd)) (h0 : ∀ x ∈ w, 0 ≤ x.v)
    (hs : 0 < (w.map Rd.v).sum) (hsmall : ((3 * w.length + 4 : ℕ) : ℝ) * u ≤ 1 / 2) :
    (ess w).v ≤ w.length * (1 + 2 * ((3 * w.length + 4 : ℕ) : ℝ) * u) := by
  obtain ⟨hlo, hhi⟩ := C20_relround_ess_bounds h w h0 hs
  rw [mul_assoc]
  have hv : 0 ≤ (ess w).v := (sub_nonneg.mpr (hsmall.trans (by norm_num))).trans hlo
  exact le_mul_one_add_two_mul hv (mul_nonneg (Nat.cast_nonneg _) h.u_nonneg) hsmall hhi

/-- equal weights: the computed ESS is `N` up to the same allowance -/
theorem C20_relround_ess_uniform (h : RelRound rnd u) (N : ℕ) (hN : 0 < N) (c : ℝ) (hc : 0 < c) :
    (1 - u) ^ (3 * N + 4) * N ≤ (ess (List.replicate N (⟨c⟩ : Rd rnd))).v ∧
    (ess (List.replicate N (⟨c⟩ : Rd rnd))).v * (1 - u) ^ (3 * N + 4) ≤ N := by
  have hmap : (List.replicate N (⟨c⟩ : Rd rnd)).map Rd.v = List.replicate N c := by simp
  have h0 : ∀ x ∈ List.replicate N (⟨c⟩ : Rd rnd), 0 ≤ x.v := by
    intro x hx; rw [List.eq_of_mem_replicate hx]; exact hc.le
  have hs : 0 < ((List.replicate N (⟨c⟩ : Rd rnd)).map Rd.v).sum := by
    rw [hmap, List.sum_replicate, nsmul_eq_mul]
    exact mul_pos (by exact_mod_cast hN) hc
  obtain ⟨_, hlo, hhi⟩ := C20_relround_ess_close h _ h0 hs
  rw [hmap, C20_ess_uniform N hN c hc, List.length_replicate] at hlo hhi
  exact ⟨hlo, hhi⟩

example : RelRound (fun x => x) 0 := ⟨le_refl _, zero_lt_one, fun x _ => by simp, fun x _ => by simp⟩

/-- a genuinely inexact instance: always rounding down by a relative `1/4` -/
example : RelRound (fun x => (3 / 4 : ℝ) * x) (1 / 4) :=
  ⟨by norm_num, by norm_num, fun x _ => le_of_eq (by ring), fun x hx => mul_le_mul_of_nonneg_right (by norm_num) hx⟩

end Props.C20
