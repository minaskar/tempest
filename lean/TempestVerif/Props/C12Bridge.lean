import TempestVerif.Props.C12Run
/-
  C12 — the whole-routine model of this property (`Model.RunEntry.runFull`) against C10's own composition
  `Model.ClosedLoop.runSampling` (the definition C10's closed-loop replay suites run against the real sampler): for a call
  without a path and without reseeding they are the same function.
-/
namespace Props.C12
open Model.ClosedLoop Model.RunEntry

variable {P MS TS G : Type}

theorem startState_eq_prologue (c : Core ℝ P TS G) (nT : Nat) :
    startState c.st = (prologue id c (⟨nT, none⟩ : Call ℝ P G)).st := by
  by_cases hh : c.st.hist = []
  · rw [prologue_fresh id c nT hh, startState, if_pos (by simp [hh])]; rfl
  · rw [prologue_continue id c nT hh, startState, if_neg (by simpa using hh)]

theorem C12x_closed_runSampling_is_runFull (W : World ℝ P MS TS G) (cfg : CCfg ℝ) (fuel : Nat) (c : Core ℝ P TS G) (nT : Nat) :
    Model.ClosedLoop.runSampling W (guardCfg cfg (prologue id c (⟨nT, none⟩ : Call ℝ P G))) fuel c.st
      = (runFull W cfg id fuel c ⟨nT, none⟩).map fun r => (r.1.st, r.2.1, r.2.2) := by
  unfold Model.ClosedLoop.runSampling runFull
  rw [startState_eq_prologue c nT]
  exact Lemmas.OptionList.bind_map_comm Option.map_id'.symm fun q _ => by rw [Option.map_map]; rfl

end Props.C12
