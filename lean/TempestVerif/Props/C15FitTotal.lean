import TempestVerif.Props.C15Fit
/-
  C15 — the model of `GaussianMixture.fit` returns on the statement's domain (`C15_fit_returns`), so the hypothesis
  `fit … = some o` of `Props/C15Fit.lean` can be met, and `C15_fit_total` joins the two.  The proof walks the fit: the weighted
  draw yields an index in range, so every centre exists; under the loop invariant every row of `log_resp` has a finite entry,
  so the E-step normalises; the first bound is finite, so a best run is recorded.  Last, the invariant makes the model's own
  Cholesky succeed on `cov + reg·I`: the `except` branch of the E-step is taken only when the oracle `sing` refuses.
-/
namespace Props.C15
open Model.EM Model.GMM Lemmas.CholList Lemmas.OptionList

/-! ### the weighted draw returns an index in range -/

theorem npLt_real (a b : ℝ) : npLt a b = decide (a < b) := by
  rw [Bool.eq_iff_iff]; simp [npLt]

theorem searchsorted_cons (x : ℝ) (xs : List ℝ) (v : ℝ) :
    searchsorted (x :: xs) v = if x < v then searchsorted xs v + 1 else 0 := by
  simp [searchsorted, npLt_real]

theorem cumsumFrom_getLast? : ∀ (l : List ℝ) (acc : ℝ), l ≠ [] →
    (cumsumFrom acc l).getLast? = some (acc + l.sum) := by
  intro l
  induction l with
  | nil => intro acc h; exact absurd rfl h
  | cons x l ih =>
    intro acc _
    cases l with
    | nil => simp [cumsumFrom]
    | cons y l =>
      have := ih (acc + x) (by simp)
      rw [cumsumFrom] at this
      rw [cumsumFrom, cumsumFrom, ScReal.add_def, List.getLast?_cons_cons, this]
      simp [add_assoc]

theorem searchsorted_cumsum_stop (r : ℝ) (rest : List ℝ) : ∀ (A : List ℝ) (acc : ℝ), A ≠ [] → r ≤ acc + A.sum →
    searchsorted (cumsumFrom acc (A ++ rest)) r < A.length := by
  intro A
  induction A with
  | nil => intro acc h _; exact absurd rfl h
  | cons a A ih =>
    intro acc _ h
    rw [List.sum_cons] at h
    rw [List.cons_append, cumsumFrom, ScReal.add_def, searchsorted_cons, List.length_cons]
    by_cases h1 : acc + a < r
    · rw [if_pos h1]
      have hne : A ≠ [] := by
        rintro rfl
        rw [List.sum_nil, add_zero] at h
        exact absurd h1 (not_lt.mpr h)
      exact Nat.succ_lt_succ (ih (acc + a) hne (by linarith))
    · rw [if_neg h1]
      exact Nat.succ_pos _

theorem searchsorted_cumsum_pass (r : ℝ) (rest : List ℝ) : ∀ (A : List ℝ) (acc : ℝ), (∀ x ∈ A, 0 ≤ x) → acc + A.sum < r →
    searchsorted (cumsumFrom acc (A ++ rest)) r = A.length + searchsorted (cumsumFrom (acc + A.sum) rest) r := by
  intro A
  induction A with
  | nil => intro acc _ _; rw [List.nil_append, List.sum_nil, add_zero, List.length_nil, Nat.zero_add]
  | cons a A ih =>
    intro acc hA h
    have hA' : ∀ x ∈ A, 0 ≤ x := fun x hx => hA x (List.mem_cons_of_mem _ hx)
    have hs : 0 ≤ A.sum := List.sum_nonneg hA'
    rw [List.sum_cons] at h
    rw [List.cons_append, cumsumFrom, ScReal.add_def, searchsorted_cons, if_pos (by linarith),
      ih (acc + a) hA' (by linarith), List.sum_cons, List.length_cons, ← add_assoc acc a A.sum]
    omega

theorem pickIdx_eq (p : List ℝ) (u : ℝ) (hp : p ≠ []) :
    pickIdx p u = some (searchsorted (cumsumFrom 0 p) (u * p.sum)) := by
  simp only [pickIdx, ScReal.zero_def, ScReal.mul_def, cumsumFrom_getLast? p 0 hp, Option.map_some, zero_add]

theorem tot_pickIdx_lt (p : List ℝ) (u : ℝ) (hp : p ≠ []) (hT : 0 ≤ p.sum) (hu1 : u < 1) :
    ∃ i, pickIdx p u = some i ∧ i < p.length := by
  refine ⟨_, pickIdx_eq p u hp, ?_⟩
  have h := searchsorted_cumsum_stop (u * p.sum) [] p 0 hp (by rw [zero_add]; exact mul_le_of_le_one_left hT hu1.le)
  rwa [List.append_nil] at h

/-- the draw of a later centre, `probabilities /= np.sum(probabilities)`: the normalised total is 1 or 0, so the index is
    valid whatever the distances and sample weights are -/
theorem tot_pickIdx_normalised (p : List ℝ) (u : ℝ) (hp : p ≠ []) (hu1 : u < 1) :
    ∃ i, pickIdx (p.map fun x => Sc.div x (Sc.sum p)) u = some i ∧ i < p.length := by
  have h := tot_pickIdx_lt (p.map fun x => Sc.div x (Sc.sum p)) u (mt List.map_eq_nil_iff.mp hp) ?_ hu1
  · rwa [List.length_map] at h
  · simp only [ScReal.div_def, ScReal.sum_def]
    rw [ScReal.sum_map_div]
    -- `T / T ≥ 0` whatever the sign of `T`
    exact div_nonneg_iff.mpr ((le_total 0 p.sum).imp (fun h => ⟨h, h⟩) fun h => ⟨h, h⟩)

/-! ### the k-means++ initialisation returns -/

theorem tot_moreCentres_some (X : Mat ℝ) (s c0 : List ℝ) (hX : X ≠ []) (hsl : s.length = X.length) :
    ∀ (k : ℕ) (tape : List ℝ) (cs : Mat ℝ) (picks : List ℕ), k ≤ tape.length → (∀ u ∈ tape, u < 1) →
      ∃ cs' picks', moreCentres X s c0 k tape cs picks = some (cs', picks', tape.drop k) := by
  intro k
  induction k with
  | zero =>
    intro tape cs picks _ _
    exact ⟨cs, picks, rfl⟩
  | succ k ih =>
    intro tape cs picks hlen htape
    cases tape with
    | nil => cases hlen
    | cons u tape =>
      have hpl : (List.zipWith Sc.mul (X.map (nearestDist c0 cs)) s).length = X.length := by simp [hsl]
      obtain ⟨i, hi, hilt⟩ := tot_pickIdx_normalised _ u
        (List.ne_nil_of_length_pos (hpl ▸ List.length_pos_of_ne_nil hX)) (htape u List.mem_cons_self)
      rw [hpl] at hilt
      simp only [moreCentres, hi, List.getElem?_eq_getElem hilt]
      exact ih tape (cs ++ [X[i]]) (picks ++ [i]) (Nat.le_of_succ_le_succ hlen)
        fun v hv => htape v (List.mem_cons_of_mem _ hv)

theorem tot_centres_some (X : Mat ℝ) (s : List ℝ) (K : ℕ) (tape : List ℝ) (hX : X ≠ []) (hsl : s.length = X.length)
    (hs0 : ∀ x ∈ s, 0 ≤ x) (hK : 1 ≤ K) (hlen : K ≤ tape.length) (htape : ∀ u ∈ tape, u < 1) :
    ∃ cs picks, centres X s K tape = some (cs, picks, tape.drop K) := by
  cases K with
  | zero => cases hK
  | succ K =>
    cases tape with
    | nil => cases hlen
    | cons u tape =>
      obtain ⟨i, hi, hilt⟩ := tot_pickIdx_lt s u
        (List.ne_nil_of_length_pos (hsl ▸ List.length_pos_of_ne_nil hX)) (List.sum_nonneg hs0) (htape u List.mem_cons_self)
      rw [hsl] at hilt
      obtain ⟨cs, picks, hr⟩ := tot_moreCentres_some X s X[i] hX hsl K tape [] [i] (Nat.le_of_succ_le_succ hlen)
        fun v hv => htape v (List.mem_cons_of_mem _ hv)
      simp only [centres, hi, List.getElem?_eq_getElem hilt, hr, Option.map_some]
      exact ⟨_, _, rfl⟩

theorem tot_initFit_some (c : Cfg ℝ) (X : Mat ℝ) (s : List ℝ) (tape : List ℝ) (hX : X ≠ [])
    (hsl : s.length = X.length) (hs0 : ∀ x ∈ s, 0 ≤ x) (hK : 1 ≤ c.K) (hlen : c.K ≤ tape.length)
    (htape : ∀ u ∈ tape, u < 1) :
    ∃ p picks, initFit c X s tape = some (p, picks, tape.drop c.K) := by
  obtain ⟨cs, picks, hr⟩ := tot_centres_some X s c.K tape hX hsl hs0 hK hlen htape
  simp only [initFit, hr, Option.map_some]
  exact ⟨_, _, rfl⟩

/-! ### the E-step and the EM loop return -/

/-- **the E-step never raises** under the loop invariant, if the oracle accepts `reg·I`: a component whose covariance is
    refused falls back to `reg·I`, which the list Cholesky factorises, and every row of `log_resp` then has a finite entry -/
theorem tot_estep_some (c : Cfg ℝ) (X : Mat ℝ) (s : List ℝ) (p : MStep ℝ) (hp : Inv c.eps c.d c.K p)
    (hf : FitHyp c X s) (hreg : 0 < c.reg) (hs : c.sing (scaledEye c.d c.reg) = false) :
    ∃ R, estep c.sing c.reg c.d p.weights p.means (covMats c.diagT p) X = some R := by
  unfold estep estepCols
  simp only [gmm_mapOpt]
  obtain ⟨cols, hcols⟩ := mapM_some_of_forall
    (fun t : ℝ × List ℝ × Mat ℝ => estepCol c.sing c.reg c.d t.1 t.2.1 t.2.2 X)
    (List.zip p.weights (List.zip p.means (covMats c.diagT p))) fun t ht => by
      obtain ⟨l, hl, _⟩ := logpdfCol_some c.sing c.d _ t.2.1 X hs (scaledEye_pd c.d c.reg hreg) hf.hX
        (hp.mrow _ (List.of_mem_zip (List.of_mem_zip ht).2).1)
      unfold estepCol
      cases logpdfCol c.sing c.d (addDiag c.reg t.2.2) t.2.1 X with
      | some l' => exact ⟨_, rfl⟩
      | none =>
        rw [hl]
        exact ⟨_, rfl⟩
  have hrows : ∀ row ∈ rowsOfCols X.length cols, ∃ y, softRow row = some y := by
    intro row hrow
    obtain ⟨i, hin, rfl⟩ := mem_rowsOfCols.mp hrow
    obtain ⟨_, hfin⟩ := estep_row_finite c.sing c.reg c.d c.K p.weights p.means (covMats c.diagT p) X hp.wlen hp.mlen
      (covMats_length _ _ _ hp.shape) (exists_pos_of_sum_one _ hp.wsum) cols ((gmm_mapOpt _ _).trans hcols) i hin
    obtain ⟨r, hr, _⟩ := C15_softRow_simplex (col cols i) hfin
    exact ⟨r, hr⟩
  obtain ⟨R, hR⟩ := mapM_some_of_forall softRow _ hrows
  rw [hcols]
  exact ⟨R, hR⟩

/-- **the EM loop returns**, for every `max_iter ≥ 1`, and its final `lower_bound` is finite (never `-inf`): the first
    iteration cannot break (`new − (−inf) < tol` is false), a break keeps the previous finite bound, exhausting the
    iterations keeps the last one -/
theorem tot_emLoop_some (c : Cfg ℝ) (X : Mat ℝ) (s : List ℝ) (hf : FitHyp c X s) (hreg : 0 < c.reg)
    (hs : c.sing (scaledEye c.d c.reg) = false) :
    ∀ (fuel it : ℕ) (lb : Option ℝ) (p : MStep ℝ), 1 ≤ fuel → Inv c.eps c.d c.K p →
      ∃ o, emLoop c X s fuel it lb p = some o ∧ o.lb.isSome := by
  intro fuel
  induction fuel with
  | zero => intro it lb p h; omega
  | succ fuel ih =>
    intro it lb p _ hp
    obtain ⟨R, hR⟩ := tot_estep_some c X s p hp hf hreg hs
    obtain ⟨p', new, hit⟩ : ∃ p' new, emIter c X s p = some (p', new) :=
      ⟨_, _, (emIter_eq_some c X s p _).mpr ⟨R, hR, rfl⟩⟩
    have hp' := (emIter_inv c X s hf p p' new hp hit).1
    simp only [emLoop, hit]
    split_ifs with hc h0
    · refine ⟨_, rfl, ?_⟩
      cases lb with
      | none => simp [converged] at hc
      | some l => rfl
    · exact ⟨_, rfl, rfl⟩
    · exact ih (it + 1) (some new) p' (by omega) hp'

/-! ### the whole fit returns -/

/-- the restarts return and record a best run: the bound of the first run is finite, so it beats `-inf` -/
theorem tot_fitInits_some (c : Cfg ℝ) (X : Mat ℝ) (s : List ℝ) (hf : FitHyp c X s) (hreg : 0 < c.reg)
    (hs : c.sing (scaledEye c.d c.reg) = false) (hX : X ≠ []) (hmax : 1 ≤ c.maxIter) :
    ∀ (n : ℕ) (tape : List ℝ) (best : Option (Best ℝ)) (picks : List (List ℕ)), c.K * n ≤ tape.length →
      (∀ u ∈ tape, u < 1) → (1 ≤ n ∨ best.isSome) →
      ∃ b picks', fitInits c X s n tape best picks = some (some b, picks') := by
  intro n
  induction n with
  | zero =>
    intro tape best picks _ _ hb
    obtain ⟨b, rfl⟩ := Option.isSome_iff_exists.mp (hb.resolve_left (Nat.not_succ_le_zero 0))
    exact ⟨b, picks, rfl⟩
  | succ n ih =>
    intro tape best picks hlen htape _
    rw [Nat.mul_succ] at hlen
    obtain ⟨p0, pk, hr⟩ := tot_initFit_some c X s tape hX hf.hsl hf.hs0 hf.hK (by omega) htape
    obtain ⟨o, ho, hlb⟩ := tot_emLoop_some c X s hf hreg hs c.maxIter 0 none p0 hmax
      (initFit_inv c X s hf tape _ hr).1
    simp only [fitInits, hr, ho]
    apply ih
    · rw [List.length_drop]
      omega
    · intro u hu
      exact htape u (List.mem_of_mem_drop hu)
    · right
      obtain ⟨l, hl⟩ := Option.isSome_iff_exists.mp hlb
      rw [hl]
      cases best with
      | none => simp [better]
      | some b => split_ifs <;> rfl

/-- **`fit` returns**: on the statement's domain the model of `GaussianMixture.fit` never "raises", for every tolerance,
    both covariance structures, every tape of `K · n_init` draws in `[0, 1)` and every refusal oracle that accepts `reg·I` -/
theorem C15_fit_returns (c : Cfg ℝ) (X : Mat ℝ) (w : List ℝ) (tape : List ℝ) (heps : 0 < c.eps) (hreg : 0 < c.reg)
    (hK : 1 ≤ c.K) (hmax : 1 ≤ c.maxIter) (hinit : 1 ≤ c.nInit) (hs : c.sing (scaledEye c.d c.reg) = false)
    (hX : ∀ x ∈ X, x.length = c.d) (hwl : w.length = X.length) (hw0 : ∀ x ∈ w, 0 ≤ x) (hwpos : 0 < Sc.sum w)
    (hlen : c.K * c.nInit ≤ tape.length) (htape : ∀ u ∈ tape, 0 ≤ u ∧ u < 1) :
    ∃ o, fit c X w tape = some o := by
  have hf := normWeights_hyp c X w heps hK hX hwl hw0 hwpos
  have hXne : X ≠ [] := by
    rintro rfl
    have : w = [] := List.eq_nil_of_length_eq_zero (by simpa using hwl)
    subst this
    simp [Sc.sum] at hwpos
  obtain ⟨b, picks, hres⟩ := tot_fitInits_some c X _ hf hreg hs hXne hmax c.nInit tape none [] hlen
    (fun u hu => (htape u hu).2) (Or.inl hinit)
  simp only [fit, hres]
  exact ⟨_, rfl⟩

/-- **`fit` is total and its result satisfies the invariant** (`C15_fit_returns` + `C15_fit_invariants`) -/
theorem C15_fit_total (c : Cfg ℝ) (X : Mat ℝ) (w : List ℝ) (tape : List ℝ) (heps : 0 < c.eps) (hreg : 0 < c.reg)
    (hK : 1 ≤ c.K) (hmax : 1 ≤ c.maxIter) (hinit : 1 ≤ c.nInit) (hs : c.sing (scaledEye c.d c.reg) = false)
    (hX : ∀ x ∈ X, x.length = c.d) (hwl : w.length = X.length) (hw0 : ∀ x ∈ w, 0 ≤ x) (hwpos : 0 < Sc.sum w)
    (hlen : c.K * c.nInit ≤ tape.length) (htape : ∀ u ∈ tape, 0 ≤ u ∧ u < 1) :
    ∃ o, fit c X w tape = some o ∧ FromMStep c X (normWeights w) o.params ∧ 1 ≤ o.nIter ∧ o.nIter ≤ c.maxIter := by
  obtain ⟨o, ho⟩ := C15_fit_returns c X w tape heps hreg hK hmax hinit hs hX hwl hw0 hwpos hlen htape
  obtain ⟨h1, h2, h3, _⟩ := C15_fit_invariants c X w tape heps hK hX hwl hw0 hwpos o ho
  exact ⟨o, ho, h1, h2, h3⟩

/-! ### under the invariant the model's own Cholesky never fails -/

theorem covMats_psd (c : Cfg ℝ) (p : MStep ℝ) (hp : Inv c.eps c.d c.K p) (heps : 0 < c.eps) (k : ℕ) (C : Mat ℝ)
    (hC : (covMats c.diagT p)[k]? = some C) : IsSq c.d C ∧ SymL C ∧ PSDL c.d C := by
  have hk : k < c.K := covMats_length c.diagT _ _ hp.shape ▸ (List.getElem?_eq_some_iff.mp hC).1
  obtain ⟨ω, D, hω, hD, hf, hd⟩ := hp.cov k hk
  unfold covMats at hC
  split at hC
  · rw [List.getElem?_map, hd] at hC
    cases hC
    have h := diagMat_psd (covDiag c.eps c.d ω D) fun x hx => by
      obtain ⟨a, _, rfl⟩ := List.mem_map.mp hx
      exact (C15_cov_sym_psd c.eps c.d ω D heps hω hD).2.2 a
    rwa [covDiag, List.length_map, List.length_range] at h
  · rw [hf] at hC
    cases hC
    exact covFull_psd c.eps c.d ω D heps hω hD

/-- **no fall-back of the model's own making**: for parameters satisfying the loop invariant, every component `k`, the
    first attempt of the E-step (density with covariance `cov_k + reg·I`) succeeds whenever the oracle accepts that matrix:
    the list Cholesky finds only positive pivots.  So the `except` branch (`cov = reg·I`) is taken only on the oracle's
    demand. -/
theorem C15_no_model_fallback (c : Cfg ℝ) (p : MStep ℝ) (hp : Inv c.eps c.d c.K p) (heps : 0 < c.eps)
    (hreg : 0 < c.reg) (k : ℕ) (w : ℝ) (m : List ℝ) (C : Mat ℝ)
    (hk : (List.zip p.weights (List.zip p.means (covMats c.diagT p)))[k]? = some (w, m, C))
    (X : Mat ℝ) (hX : ∀ x ∈ X, x.length = c.d) (hs : c.sing (addDiag c.reg C) = false) :
    ∃ l, logpdfCol c.sing c.d (addDiag c.reg C) m X = some l ∧ l.length = X.length := by
  obtain ⟨_, h2⟩ := List.getElem?_zip_eq_some.mp hk
  obtain ⟨hm, hC⟩ := List.getElem?_zip_eq_some.mp h2
  obtain ⟨h1, h2, h3⟩ := covMats_psd c p hp heps k C hC
  exact logpdfCol_some c.sing c.d _ m X hs (addDiag_pd c.d C c.reg h1 h2 h3 hreg) hX (hp.mrow m (List.mem_of_getElem? hm))

/-- the same as an equivalence: the first attempt is refused **iff** the oracle refuses `cov_k + reg·I` -/
theorem C15_fallback_iff_oracle (c : Cfg ℝ) (p : MStep ℝ) (hp : Inv c.eps c.d c.K p) (heps : 0 < c.eps)
    (hreg : 0 < c.reg) (k : ℕ) (w : ℝ) (m : List ℝ) (C : Mat ℝ)
    (hk : (List.zip p.weights (List.zip p.means (covMats c.diagT p)))[k]? = some (w, m, C))
    (X : Mat ℝ) (hX : ∀ x ∈ X, x.length = c.d) :
    logpdfCol c.sing c.d (addDiag c.reg C) m X = none ↔ c.sing (addDiag c.reg C) = true := by
  constructor
  · intro hnone
    by_contra hcon
    obtain ⟨l, hl, _⟩ := C15_no_model_fallback c p hp heps hreg k w m C hk X hX (Bool.eq_false_iff.mpr hcon)
    rw [hnone] at hl
    cases hl
  · intro hs
    rw [logpdfCol_eq, if_pos hs]

/-! ### non-vacuity -/

noncomputable def tot_exCfg : Cfg ℝ :=
  { sing := fun _ => false, diagT := false, tiny := 1 / 10 ^ 300, eps := 1 / 10 ^ 10, reg := 1 / 10 ^ 6,
    tol := 1 / 1000, d := 1, K := 2, maxIter := 5, nInit := 1 }

theorem tot_ex_hyps : 0 < tot_exCfg.eps ∧ 1 ≤ tot_exCfg.K ∧ (∀ x ∈ ([[0], [1], [4]] : Mat ℝ), x.length = tot_exCfg.d) ∧
    (∀ x ∈ ([1, 2, 1] : List ℝ), 0 ≤ x) ∧ 0 < Sc.sum ([1, 2, 1] : List ℝ) := by
  refine ⟨by simp only [tot_exCfg]; positivity, Nat.le_succ 1, ?_, ?_, ?_⟩
  · intro x hx
    simp only [List.mem_cons, List.not_mem_nil, or_false] at hx
    rcases hx with rfl | rfl | rfl <;> rfl
  · intro x hx
    simp only [List.mem_cons, List.not_mem_nil, or_false] at hx
    rcases hx with rfl | rfl | rfl <;> norm_num
  · rw [ScReal.sum_def]; norm_num

theorem tot_ex_returns : ∃ o, fit tot_exCfg [[0], [1], [4]] [1, 2, 1] [1 / 2, 1 / 4] = some o := by
  obtain ⟨heps, hK, hX, hw0, hwpos⟩ := tot_ex_hyps
  refine C15_fit_returns tot_exCfg [[0], [1], [4]] [1, 2, 1] [1 / 2, 1 / 4] heps ?_ hK (Nat.le_add_left 1 4)
    (Nat.le_refl 1) rfl hX rfl hw0 hwpos (Nat.le_refl 2) ?_
  · simp only [tot_exCfg]; positivity
  · intro u hu
    simp only [List.mem_cons, List.not_mem_nil, or_false] at hu
    rcases hu with rfl | rfl <;> norm_num

/-- the hypotheses of `C15_fit_returns` / `C15_fit_total` hold on a concrete configuration: three 1-d points, weights
    `1, 2, 1`, two components, five iterations, one restart, a tape of two draws -/
example : ∃ o, fit tot_exCfg [[0], [1], [4]] [1, 2, 1] [1 / 2, 1 / 4] = some o ∧
    FromMStep tot_exCfg [[0], [1], [4]] (normWeights [1, 2, 1]) o.params ∧ 1 ≤ o.nIter ∧ o.nIter ≤ 5 := by
  obtain ⟨heps, hK, hX, hw0, hwpos⟩ := tot_ex_hyps
  obtain ⟨o, ho⟩ := tot_ex_returns
  obtain ⟨h1, h2, h3, _⟩ := C15_fit_invariants tot_exCfg _ _ _ heps hK hX rfl hw0 hwpos o ho
  exact ⟨o, ho, h1, h2, h3⟩

/-- the fitted mixture of the example: weights on the simplex, both covariances symmetric PSD, and the mean of every
    component whose weight is at least `tiny` inside the bounding box [0, 4] -/
example : ∃ o, fit tot_exCfg [[0], [1], [4]] [1, 2, 1] [1 / 2, 1 / 4] = some o ∧
    (∀ p ∈ o.params.weights, 0 ≤ p) ∧ Sc.sum o.params.weights = 1 ∧
    (∀ k, k < 2 → ∃ (M : Mat ℝ) (v : List ℝ), o.params.covFull[k]? = some M ∧ o.params.covDiag[k]? = some v ∧
        IsSq 1 M ∧ SymL M ∧ PSDL 1 M ∧ v.length = 1 ∧ ∀ x ∈ v, 0 ≤ x) ∧
    (∀ k, k < 2 → ∃ π : ℝ, o.params.weights[k]? = some π ∧
        (1 / 10 ^ 300 ≤ π → ∃ m : ℝ, (o.params.means[k]?.bind (·[0]?)) = some m ∧ 0 ≤ m ∧ m ≤ 4)) := by
  obtain ⟨heps, hK, hX, hw0, hwpos⟩ := tot_ex_hyps
  obtain ⟨o, ho⟩ := tot_ex_returns
  obtain ⟨_, h1, h2⟩ := C15_fit_weights_simplex tot_exCfg _ _ _ heps hK hX rfl hw0 hwpos o ho
  refine ⟨o, ho, h1, h2, fun k hk => C15_fit_cov_sym_psd tot_exCfg _ _ _ heps hK hX rfl hw0 hwpos o ho k hk,
    fun k hk => C15_fit_mean_in_bbox tot_exCfg _ _ _ heps hK (by simp only [tot_exCfg]; positivity) hX rfl hw0 hwpos o ho
      k 0 hk Nat.one_pos 0 4 ?_⟩
  intro v hv
  simp only [col, List.filterMap_cons, List.filterMap_nil, List.getElem?_cons_zero, List.mem_cons, List.not_mem_nil,
    or_false] at hv
  rcases hv with rfl | rfl | rfl <;> norm_num

end Props.C15
