import TempestVerif.Props.C08Resume
import TempestVerif.Props.C12
/-
  C08 — "terminates with the same postconditions as an uninterrupted run": the loop of `Model.Resume` with the
  guard of `_not_termination` as C12 models it (`Model.Run.notTermination`, tolerance regenerated from source), started from
  ANY world — a freshly initialised one or one restored from a checkpoint — with ANY iteration oracle.
-/
namespace Props.C08
open Model.Resume

section Post
variable {G C B : Type}

/-- `β`, `logw`, `N` read the temperature, the log-weights at β = 1 (`compute_logw_and_logz(1.0)[0]`) and `n_total` off a sampler.
    From ANY starting world `r` — in particular the one `prologueResume` produces from a checkpoint — and for ANY iteration oracle
    (no H_comp): whenever the loop returns, the history is non-empty, `1 − β` is below the regenerated tolerance, the ESS of the
    normalised posterior weights over the whole history is at least `n_total`, and `n_total` is the one the loop started with:
    the two termination clauses of `Props.C12.C12_run_post_concrete` (not its ESS bounds, `logz`, iteration count). -/
theorem C08_resume_postconditions (F : Model.Checkpoint.State → G → C → Model.Checkpoint.StepIn × G × C)
    (β : Model.Checkpoint.State → ℝ) (logw : Model.Checkpoint.State → List ℝ) (N : Option Model.Checkpoint.Val → ℝ)
    (fuel : Nat) (r wE : World G C)
    (h : loopW F (fun s n => Model.Run.notTermination Props.C12.termTol (β s) (logw s) (N n)) fuel r = some wE) :
    wE.core.nTotal = r.core.nTotal ∧ logw wE.core.sm ≠ [] ∧ 1 - β wE.core.sm < Props.C12.termTol ∧
    ∃ w0, Model.Posterior.weights0 (logw wE.core.sm) = some w0 ∧ w0.length = (logw wE.core.sm).length ∧
      N r.core.nTotal ≤ Model.Ess.ess w0 := by
  obtain ⟨hg, hn⟩ := loopW_exit _ _ fuel r wE h
  obtain ⟨hlw, hb, w0, hw0, hlen, -, -, hess, -⟩ := Model.Run.notTermination_false _ _ _ _ hg
  exact ⟨hn, hlw, hb, w0, hw0, hlen, hn ▸ hess⟩

/-- `C08_resume_postconditions` at a resumed run: the bound is the `n_total` of the resuming call, not the one stored in the checkpoint -/
theorem C08_resume_postconditions_nT (F : Model.Checkpoint.State → G → C → Model.Checkpoint.StepIn × G × C)
    (β : Model.Checkpoint.State → ℝ) (logw : Model.Checkpoint.State → List ℝ) (N : Option Model.Checkpoint.Val → ℝ)
    (f : World G C) (d : CkDict G B) (nT : Int) (fuel : Nat) (r wE : World G C)
    (hr : prologueResume f d nT = some r)
    (h : loopW F (fun s n => Model.Run.notTermination Props.C12.termTol (β s) (logw s) (N n)) fuel r = some wE) :
    1 - β wE.core.sm < Props.C12.termTol ∧
    ∃ w0, Model.Posterior.weights0 (logw wE.core.sm) = some w0 ∧ N (some (Model.Checkpoint.Val.int nT)) ≤ Model.Ess.ess w0 := by
  obtain ⟨_, _, h3, w0, h4, _, h5⟩ := C08_resume_postconditions F β logw N fuel r wE h
  refine ⟨h3, w0, h4, ?_⟩
  rwa [prologueResume_nTotal hr] at h5

/-- non-vacuity: from `exW0`, with readings `β = 1`, one particle of log-weight 0 and `n_total = 1`, the guard is false and the
    loop returns at once: the hypothesis of `C08_resume_postconditions` is met -/
example : ∃ wE : World Nat Bool,
    loopW exF (fun s n => Model.Run.notTermination Props.C12.termTol ((fun _ => (1 : ℝ)) s) ((fun _ => [(0 : ℝ)]) s)
      ((fun _ => (1 : ℝ)) n)) 0 exW0 = some wE := by
  refine ⟨exW0, ?_⟩
  have hs : Model.Run.notTermination Props.C12.termTol (1 : ℝ) ([0] : List ℝ) 1 = false := by
    simp only [Model.Run.notTermination]
    rw [Model.Run.notTerm_false_iff]
    refine ⟨by rw [Props.C12.termTol_eq]; norm_num, ?_⟩
    rw [Model.Ess.ess_def]; simp [Model.Ess.maxOf_nil]
  simp only [loopW, hs]
  rfl

end Post

end Props.C08
