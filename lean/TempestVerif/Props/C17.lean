import TempestVerif.Model.StateMgr
import TempestVerif.Lemmas.StateMgr
/-
  C17 — No array obtained through a public accessor shares memory with internal state, so mutating it never
  changes any later result; committed history is append-only.

  Model: `Model/StateMgr.lean` (heap of arrays, `StateManager` as it manipulates references; the code as of the
  `fix:` commits that made `to_dict()` / `compute_results()` hand out copies and `update_from_dict()` / `from_dict()`
  store copies).  Vocabulary: the ghost sets `escaped` (arrays the caller holds) and `imported` (those stored by reference at its request),
  `scribble`, `observe` in Model/StateMgr.lean; `reach`, `poke`, `okSeq`, `trace` in Lemmas/StateMgr.lean.
-/
namespace Props.C17
open Model.StateMgr

/-- every internally reachable array is allocated, and it is not one the caller holds — except, in `_current` only,
    those the caller itself asked to be stored by reference with `copy=False`:
      current ∩ escaped ⊆ imported,      (history ∪ cache) ∩ escaped = ∅.
    Arrays that the caller passes into `update_from_dict` (new ones, or the arrays of an exported dictionary) are
    caller-held addresses like any other: they are never reachable afterwards.
    (`Model.StateMgr.Inv` of the lemma file written out: `C17_inv_iff`.) -/
def Inv (s : State) : Prop :=
  (∀ a : Nat, a ∈ reach s → a < s.next) ∧
  (∀ a : Nat, a ∈ s.escaped → a < s.next) ∧
  (∀ a : Nat, a ∈ dictAddrs s.current → a ∈ s.escaped → a ∈ s.imported) ∧
  (∀ a : Nat, a ∈ histAddrs s.history ∨ a ∈ cacheAddrs s.cache → a ∉ s.escaped)

theorem C17_inv_iff (s : State) : Inv s ↔ Model.StateMgr.Inv s :=
  ⟨fun h => ⟨h.1, h.2.1, h.2.2.1, h.2.2.2⟩, fun h => ⟨h.reach_lt, h.esc_lt, h.sep, h.sepH⟩⟩

/-- in one statement: reachable ∩ escaped ⊆ imported, and the shared array is then reachable from `_current` only -/
theorem C17_inv_sep (s : State) (h : Inv s) (a : Nat) (hr : a ∈ reach s) (he : a ∈ s.escaped) :
    a ∈ s.imported ∧ a ∈ dictAddrs s.current ∧ a ∉ histAddrs s.history ∧ a ∉ cacheAddrs s.cache := by
  have hI := (C17_inv_iff s).1 h
  have hh : a ∉ histAddrs s.history ∧ a ∉ cacheAddrs s.cache :=
    ⟨fun x => hI.sepH a (Or.inl x) he, fun x => hI.sepH a (Or.inr x) he⟩
  rcases mem_reach.1 hr with h1 | h1 | h1
  · exact ⟨hI.sep a h1 he, h1, hh⟩
  · exact absurd h1 hh.1
  · exact absurd h1 hh.2

theorem C17_reach_iff (s : State) (a : Nat) :
    a ∈ reach s ↔ (∃ k, (k, Val.ref a) ∈ s.current) ∨ (∃ k l, (k, l) ∈ s.history ∧ Val.ref a ∈ l) ∨
      (∃ c k, s.cache = some c ∧ (k, Val.ref a) ∈ c) := by
  rw [mem_reach, mem_dictAddrs, mem_histAddrs]
  cases hc : s.cache with
  | none => simp [cacheAddrs]
  | some c => simp [cacheAddrs, mem_dictAddrs]

/-- the invariant is preserved by every operation of the full alphabet (set/update with either copy flag, all
    getters, commit, `compute_results`, `compute_logw_and_logz`, `to_dict`, `update_from_dict`, and the caller's
    in-place writes) -/
theorem C17_step_inv (s : State) (o : Op) (h : Inv s) : Inv (step s o).1 :=
  (C17_inv_iff _).2 (step_inv s o ((C17_inv_iff s).1 h))

/-- hence it holds after every operation sequence from a fresh `StateManager` -/
theorem C17_reachable_inv (ops : List Op) : Inv (run init ops) :=
  (C17_inv_iff _).2 (run_inv ops init init_inv)

/-- ghost bookkeeping is complete: whatever an operation returns is recorded as held by the caller -/
theorem C17_returned_is_escaped (s : State) (o : Op) (b : Nat) (hb : b ∈ (step s o).2.addrs) :
    b ∈ (step s o).1.escaped :=
  step_res_escaped s o b hb

/-- accessors only hand out arrays allocated during the call: never an array that existed before -/
theorem C17_returned_is_fresh (s : State) (o : Op) (b : Nat) (hb : b ∈ (step s o).2.addrs) : s.next ≤ b :=
  step_res_fresh s o b hb

/-- no returned array is reachable from internal state afterwards (as long as the caller never opted into sharing) -/
theorem C17_returned_not_internal (s : State) (o : Op) (h : Inv s) (hopt : o.optIn = false) (himp : s.imported = [])
    (b : Nat) (hb : b ∈ (step s o).2.addrs) : b ∉ reach (step s o).1 := by
  have hI := step_inv s o ((C17_inv_iff s).1 h)
  exact not_reach_of_inv hI (step_res_escaped s o b hb) (by rw [step_imported s o hopt, himp]; simp)

/-- overwriting an array the caller holds — other than one it stored with `copy=False` — changes no observable read -/
theorem C17_read_indep_of_scribble (s : State) (a : Addr) (p : Content) (h : Inv s)
    (hesc : a ∈ s.escaped) (himp : a ∉ s.imported) :
    observe (step s (.scribble a p)).1 = observe s := by
  have hI := (C17_inv_iff s).1 h
  rw [step_scribble, if_pos hesc]
  exact observe_poke (hI.esc_lt a hesc) (not_reach_of_inv hI hesc himp)

/-- NO array the caller holds — not even one stored with `copy=False`, not one it passed into `update_from_dict` — is
    shared with committed history or with the results: overwriting it leaves every history read, `compute_results()`
    and `compute_logw_and_logz()` unchanged -/
theorem C17_history_indep_of_scribble (s : State) (a : Addr) (p : Content) (h : Inv s)
    (hesc : a ∈ s.escaped) :
    (observe (step s (.scribble a p)).1).history = (observe s).history ∧
    (observe (step s (.scribble a p)).1).results = (observe s).results ∧
    (observe (step s (.scribble a p)).1).logw = (observe s).logw := by
  have hI := (C17_inv_iff s).1 h
  rw [step_scribble, if_pos hesc]
  exact observe_poke_hist (hI.esc_lt a hesc) (fun hr => hI.sepH a (Or.inl hr) hesc)
    (fun hr => hI.sepH a (Or.inr hr) hesc)

/-- `compute_logw_and_logz` is an accessor like the others: what it returns is a new array, recorded as held by the
    caller, not reachable from internal state (in particular not from any cache), and calling it changes no read -/
theorem C17_logw_is_fresh (s : State) (beta : Int) (h : Inv s) :
    ∃ a : Nat, (step s (.logw beta)).2 = .val (.ref a) ∧ a = s.next ∧ a ∈ (step s (.logw beta)).1.escaped ∧
      a ∉ reach (step s (.logw beta)).1 ∧
      (step s (.logw beta)).1.current = s.current ∧ (step s (.logw beta)).1.history = s.history ∧
      (step s (.logw beta)).1.cache = s.cache := by
  have hI := (C17_inv_iff s).1 h
  have r := (step_read s (.logw beta) rfl).1
  refine ⟨s.heap.length, rfl, rfl, step_res_escaped s (.logw beta) _ (List.mem_singleton_self _), fun hr => ?_, r.cur, r.hist, r.cache⟩
  rw [r.reach_eq] at hr
  exact Nat.lt_irrefl _ (hI.reach_lt _ hr)

/-- `imported` grows only through the opt-in operations … -/
theorem C17_copy_false_is_opt_in (s : State) (o : Op) (ho : o.optIn = false) : (step s o).1.imported = s.imported :=
  step_imported s o ho

/-- … which are exactly `set_current(copy=False)` and `update_current(copy=False)` (`update_from_dict` is not one) -/
theorem C17_opt_in_ops (o : Op) :
    o.optIn = true ↔ (∃ k x, o = .setCurrent k x false) ∨ (∃ kvs, o = .updateCurrent kvs false) := by
  cases o <;> simp [Op.optIn]

/-- `update_from_dict` (hence `from_dict`) stores copies.  Every array in the dictionary the caller passes — one it
    obtained earlier (`held`, e.g. the arrays of an exported dictionary) or one it creates for the call — is a
    caller-held address afterwards, `imported` does not grow, and no caller-held address is reachable from `_history`
    or the cache; one reachable from `_current` was put there by an earlier `copy=False`. -/
theorem C17_import_never_aliases (s : State) (cur : Option (List (Key × Arg))) (hist : Option (List (Key × List Arg)))
    (h : Inv s) (hok : (step s (.updateFromDict cur hist)).2 = .unit) :
    (step s (.updateFromDict cur hist)).1.imported = s.imported ∧
    (∀ a : Nat, a ∈ (Op.updateFromDict cur hist).heldAddrs → a ∈ (step s (.updateFromDict cur hist)).1.escaped) ∧
    (∀ a : Nat, a ∈ (step s (.updateFromDict cur hist)).1.escaped →
      a ∉ histAddrs (step s (.updateFromDict cur hist)).1.history ∧
      a ∉ cacheAddrs (step s (.updateFromDict cur hist)).1.cache ∧
      (a ∈ dictAddrs (step s (.updateFromDict cur hist)).1.current → a ∈ s.imported)) := by
  have hI' := step_inv s (.updateFromDict cur hist) ((C17_inv_iff s).1 h)
  have himp := step_imported s (.updateFromDict cur hist) rfl
  refine ⟨himp, fun a ha => ?_, fun a ha => ⟨fun x => hI'.sepH a (Or.inl x) ha, fun x => hI'.sepH a (Or.inr x) ha,
    fun x => by rw [← himp]; exact hI'.sep a x ha⟩⟩
  exact step_escaped_mono _ _ a (import_held hok a ha)

/-- Combined statement.  Take any operation sequence in which the caller never stores with `copy=False` and never passes
    back in an array after having overwritten it (`okSeq`; everything else is allowed: new arrays, arrays it obtained
    earlier, re-importing an exported dictionary), interleaved with arbitrary in-place writes to arrays it holds
    (`scribble`, any address, any payload, at any time — in particular to the exported dictionary after importing it).
    Then everything the caller ever sees — the payload of every returned value and all observable reads after every
    operation — is exactly what it sees when the writes are left out. -/
theorem C17_full (ops : List Op) (h : okSeq [] ops = true) :
    trace init ops = trace init (ops.filter (fun o => !o.isScribble)) :=
  trace_filter ops init [] init_inv rfl h

/-- special case: the caller passes only `None`, scalars or arrays it creates for the call -/
theorem C17_full_clean (ops : List Op) (h : ∀ o ∈ ops, o.isScribble = true ∨ o.clean = true) :
    trace init ops = trace init (ops.filter (fun o => !o.isScribble)) :=
  C17_full ops (okSeq_of_clean h [])

theorem C17_commitKeys (k : Key) : k ∈ commitKeys ↔ k ∈ currentKeys ∧ k ∈ historyKeys := by
  simp [commitKeys]

/-- a successful commit appends to the history list of key `k` exactly one entry — carrying the payload of the
    current value — when `k` is a current key and a history key and its current value is not `None`; it appends
    nothing otherwise; earlier entries keep their payloads -/
theorem C17_commit_appends_one (s : State) (strict : Bool) (h : Inv s)
    (hok : (step s (.commit strict)).2 = .unit) (k : Key) (l : List Val) (hl : lookup k s.history = some l) :
    ∃ ext : List Val,
      lookup k (step s (.commit strict)).1.history = some (l ++ ext) ∧
      l.map (deref (step s (.commit strict)).1.heap) = l.map (deref s.heap) ∧
      ext.map (deref (step s (.commit strict)).1.heap) =
        (if k ∈ commitKeys then
          match lookup k s.current with
          | some v => if v = Val.none then [] else [deref s.heap v]
          | none => []
         else []) := by
  have hI := (C17_inv_iff s).1 h
  have hpay := reader_list.step hI (.commit strict) (v := l) fun b hb => .inl (histAddrs_of_mem (lookup_mem hl) hb)
  obtain ⟨ext, e1, e2⟩ := commitLoop_history commitKeys_nodup s hI.cur_lt k
  rcases step_commit s strict with hst | hst
  · rw [hst] at hok
    cases hok
  · rw [hst] at hpay ⊢
    exact ⟨ext, by simp only [e1, hl, Option.map_some], hpay, e2⟩

/-- append-only: for every operation other than `update_from_dict` (which replaces history by design), including ANY
    in-place write by the caller, the old history of every key — as payloads — is a prefix of the new one -/
theorem C17_history_prefix_stable (s : State) (o : Op) (h : Inv s) (hni : o.isImport = false)
    (k : Key) (l : List Val) (hl : lookup k s.history = some l) :
    ∃ l' : List Val, lookup k (step s o).1.history = some l' ∧
      l.map (deref s.heap) <+: l'.map (deref (step s o).1.heap) := by
  have hI := (C17_inv_iff s).1 h
  have hpay : l.map (deref (step s o).1.heap) = l.map (deref s.heap) :=
    reader_list.step hI o fun b hb => .inl (histAddrs_of_mem (lookup_mem hl) hb)
  cases hcm : o.isCommit with
  | false => exact ⟨l, by rw [step_history_eq s o hcm hni]; exact hl, by rw [hpay]; exact List.prefix_refl _⟩
  | true =>
    cases o with
    | commit strict =>
      rcases step_commit s strict with hst | hst
      · rw [hst]
        exact ⟨l, hl, List.prefix_refl _⟩
      · obtain ⟨ext, e1, _, _⟩ := C17_commit_appends_one s strict h (by rw [hst]) k l hl
        exact ⟨l ++ ext, e1, by rw [List.map_append, hpay]; exact List.prefix_append _ _⟩
    | _ => cases hcm

/-- the results cache never outlives the history it was computed from: an operation either leaves `_history` as it
    is or leaves the cache empty (`_invalidate_cache`), so a cached `compute_results()` is never stale w.r.t. commits/imports -/
theorem C17_history_change_invalidates_cache (s : State) (o : Op) :
    (step s o).1.history = s.history ∨ (step s o).1.cache = none :=
  (step_cache s o).imp_left (·.1)

/-! ### non-vacuity: concrete runs that satisfy the hypotheses -/

/-- set → set → commit → to_dict : address 0 is the caller's own array, 1 the stored copy, 2 the committed batch,
    3 and 4 the exported copies -/
def demo : List Op :=
  [.setCurrent "u" (.fresh [3, 4]) true, .setCurrent "beta" (.scalar 1) true, .commit false, .toDict]

theorem run_demo : run init demo =
    { current := insert "beta" (.scalar 1) (insert "u" (.ref 1) init.current)
      history := adjust "beta" (· ++ [.scalar 1]) (adjust "u" (· ++ [.ref 2]) init.history)
      cache := none
      heap := List.replicate 5 (some [3, 4])
      escaped := [3, 4, 0]
      imported := [] } := by decide +kernel

example : Inv (run init demo) := C17_reachable_inv demo
example : (run init demo).escaped = [3, 4, 0] ∧ (run init demo).imported = [] ∧
    reach (run init demo) = [1, 2] := by rw [run_demo]; decide +kernel
example : lookup "u" (observe (run init demo)).history = some [PVal.arr [3, 4]] := by rw [run_demo]; decide +kernel

/-- `C17_read_indep_of_scribble` applies to the exported batch (address 4), and the reads it protects are not trivial -/
example : observe (step (run init demo) (.scribble 4 [-9, -9])).1 = observe (run init demo) :=
  C17_read_indep_of_scribble _ 4 [-9, -9] (C17_reachable_inv demo) (by rw [run_demo]; decide) (by rw [run_demo]; decide)

/-- the exclusion of `imported` is necessary: with `copy=False` the same write is visible (that is the opt-in) -/
example : observe (run init [.setCurrent "u" (.fresh [3, 4]) false, .scribble 0 [-9, -9]]) ≠
          observe (run init [.setCurrent "u" (.fresh [3, 4]) false]) := by decide +kernel

/-- … but even then committed history is not shared (`C17_history_indep_of_scribble`): address 0 is in `_current`
    by reference, the committed batch is a copy -/
def demoShare : List Op := [.setCurrent "u" (.fresh [3, 4]) false, .commit false]
example : (run init demoShare).imported = [0] ∧ lookup "u" (run init demoShare).current = some (Val.ref 0) := by decide +kernel
example : (observe (step (run init demoShare) (.scribble 0 [-9, -9])).1).history = (observe (run init demoShare)).history :=
  (C17_history_indep_of_scribble _ 0 [-9, -9] (C17_reachable_inv demoShare) (by decide +kernel)).1
example : lookup "u" (observe (step (run init demoShare) (.scribble 0 [-9, -9])).1).current = some (PVal.arr [-9, -9]) ∧
          lookup "u" (observe (step (run init demoShare) (.scribble 0 [-9, -9])).1).history = some [PVal.arr [3, 4]] := by
  decide +kernel

/-- export → re-import of the exported dictionary itself (its arrays are addresses 3 and 4) → the caller overwrites
    both: `C17_import_never_aliases` applies (the import succeeds), 3 and 4 stay caller-held, nothing internal points
    to them, and the writes change no read -/
def demoImport : List Op :=
  demo ++ [.updateFromDict (some [("u", .held 3), ("beta", .scalar 1)]) (some [("u", [.held 4]), ("beta", [.scalar 1])])]
theorem run_demoImport : run init demoImport =
    { current := insert "beta" (.scalar 1) (insert "u" (.ref 5) init.current)
      history := insert "beta" [.scalar 1] (insert "u" [.ref 6] init.history)
      cache := none
      heap := List.replicate 7 (some [3, 4])
      escaped := [3, 4, 0]
      imported := [] } := by rw [demoImport, run_append, run_demo]; decide +kernel

example : (step (run init demo) (.updateFromDict (some [("u", .held 3), ("beta", .scalar 1)])
    (some [("u", [.held 4]), ("beta", [.scalar 1])]))).2 = .unit := by rw [run_demo]; decide +kernel
example : (run init demoImport).escaped = [3, 4, 0] ∧ (run init demoImport).imported = [] ∧
    reach (run init demoImport) = [5, 6] := by rw [run_demoImport]; decide +kernel
example : observe (run init (demoImport ++ [.scribble 3 [-9, -9], .scribble 4 [-9, -9]])) = observe (run init demoImport) ∧
    lookup "u" (observe (run init demoImport)).history = some [PVal.arr [3, 4]] := by
  refine ⟨?_, by rw [run_demoImport]; decide +kernel⟩
  have e3 : 3 ∈ (run init demoImport).escaped ∧ 3 ∉ (run init demoImport).imported := by rw [run_demoImport]; decide
  have e4 : 4 ∈ (step (run init demoImport) (.scribble 3 [-9, -9])).1.escaped ∧
      4 ∉ (step (run init demoImport) (.scribble 3 [-9, -9])).1.imported := by rw [run_demoImport]; decide +kernel
  have hI := C17_reachable_inv demoImport
  rw [run_append]
  exact (C17_read_indep_of_scribble _ 4 [-9, -9] (C17_step_inv _ _ hI) e4.1 e4.2).trans
    (C17_read_indep_of_scribble _ 3 [-9, -9] hI e3.1 e3.2)

/-- `C17_full` covers that sequence too (the dictionary is passed back in before it is overwritten), but not one in
    which the caller overwrites an array and then passes it in (`okSeq` is false: the caller changed its own input) -/
example : trace init (demoImport ++ [.scribble 3 [-9, -9], .scribble 4 [-9, -9], .getHistory "u" (some 0) false,
      .getCurrent (some "u"), .computeResults]) =
    trace init (demoImport ++ [.getHistory "u" (some 0) false, .getCurrent (some "u"), .computeResults]) :=
  C17_full _ (by decide +kernel)
example : okSeq [] (demo ++ [.scribble 3 [-9, -9], .updateFromDict (some [("u", .held 3)]) none]) = false := by decide +kernel

/-- `C17_full` on a sequence with interleaved writes to everything the caller was given -/
def demoFull : List Op :=
  demo ++ [.scribble 3 [-9, -9], .scribble 4 [-9, -9], .scribble 0 [7, 7], .getCurrent (some "u"),
           .getHistory "u" (some 0) false, .scribble 5 [0, 0], .computeResults, .logw 1, .scribble 33 [],
           .logw 1, .getLastHistory "u"]

example : trace init demoFull = trace init (demoFull.filter (fun o => !o.isScribble)) :=
  C17_full_clean demoFull (by decide +kernel)
example : (trace init demoFull).length = 10 := by decide +kernel

/-- `C17_commit_appends_one` / `C17_history_prefix_stable`: a second commit on `demo` -/
example : lookup "u" (step (run init demo) (.commit false)).1.history = some [Val.ref 2, Val.ref 5] ∧
          lookup "x" (step (run init demo) (.commit false)).1.history = some [] ∧
          (step (run init demo) (.commit false)).2 = .unit := by rw [run_demo]; decide +kernel

end Props.C17
