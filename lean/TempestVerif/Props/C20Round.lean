import TempestVerif.Model.Ess
import TempestVerif.Lemmas.ScRound
import TempestVerif.Lemmas.RoundMap
/-
  C20 — what survives of the ESS statements in ROUNDED arithmetic.

  The same definition `Model.Ess.ess` the driver executes at `Float` is evaluated at the rounded reals `RR r`
  (`Lemmas/ScRound.lean`): every `+ * /` is the exact operation followed by a rounding `r.rnd` that is only assumed MONOTONE,
  IDEMPOTENT and to fix 0 and 1 (true of IEEE round-to-nearest and of the directed roundings; nothing about accuracy is used).
  Inputs are representable numbers (`r.rnd x = x`).

  NOT a theorem in rounded arithmetic: `1 ≤ ESS ≤ N` and `ESS = N` for uniform weights.  They are false by an ulp on the real
  code (`effective_sample_size(np.ones(21)) = 21.000000000000007`, `np.ones(5)` gives `4.999999999999999`); suite ess-property-F
  checks them with a relative allowance and counts the excursions.
-/
namespace Props.C20
open Model.Ess Lemmas.RoundMap

variable {r : Rounding}

theorem rr_mul_val (a b : RR r) : (Sc.mul a b).val = r.rnd (a.val * b.val) := ScRound.mul_val a b

/-- `fl(Σw) ≥ w_i` for every `i` -/
theorem C20_round_sum_ge (w : List (RR r)) (hw : ∀ x ∈ w, r.rnd x.val = x.val ∧ 0 ≤ x.val) :
    ∀ x ∈ w, x.val ≤ (Sc.sum w).val := by
  intro x hx
  rw [ScRound.sum_val]
  exact (rsum_ge r.mono r.idem (w.map RR.val) 0 r.rnd_zero le_rfl (List.forall_mem_map.mpr fun z hz => (hw z hz).2)).2
    x.val (List.mem_map_of_mem hx) (hw x hx).1

/-- **normalised weights stay in the unit interval in floating point** -/
theorem C20_round_normalised_unit (w : List (RR r)) (hw : ∀ x ∈ w, r.rnd x.val = x.val ∧ 0 ≤ x.val)
    (hs : 0 < (Sc.sum w).val) : ∀ u ∈ normalise w, 0 ≤ u.val ∧ u.val ≤ 1 := by
  intro u hu
  simp only [normalise, List.mem_map] at hu
  obtain ⟨x, hx, rfl⟩ := hu
  rw [ScRound.div_val]
  exact r.rnd_unit (div_nonneg (hw x hx).2 hs.le) ((div_le_one hs).mpr (C20_round_sum_ge w hw x hx))

/-- **a single particle has ESS exactly 1 in floating point** (any representable non-zero weight) -/
theorem C20_round_ess_single (c : ℝ) (hc : c ≠ 0) (hrep : r.rnd c = c) :
    (ess [RR.mk r c]).val = 1 := by
  have hsum : (Sc.sum [RR.mk r c]).val = c := by rw [ScRound.sum_val]; simp [rsum, hrep]
  -- the normalised weight is `fl(c/c) = 1`, its square sums to `fl(0 + fl(1·1)) = 1`
  have hn : normalise [RR.mk r c] = [RR.mk r 1] := by
    simp only [normalise, List.map_cons, List.map_nil]
    exact congrArg (fun t => [t]) (RR.ext (by rw [ScRound.div_val, hsum, RR.val_mk, div_self hc, r.rnd_one]; rfl))
  have hq : (sumSq [RR.mk r 1]).val = 1 := by
    unfold sumSq; rw [ScRound.sum_val]; simp [rsum, r.rnd_one]
  unfold ess
  rw [hn, ScRound.div_val, hq, ScRound.one_val, div_one, r.rnd_one]

theorem rsum_scale (c : ℝ) (hscale : ∀ x, r.rnd (c * x) = c * r.rnd x) (l : List ℝ) (acc : ℝ) :
    rsum r.rnd (c * acc) (l.map (fun x => c * x)) = c * rsum r.rnd acc l := by
  induction l generalizing acc with
  | nil => rfl
  | cons a l ih =>
    simp only [List.map_cons, rsum]
    rw [← mul_add, hscale, ih]

/-- under binary scaling the normalised weights are the same numbers: everything computed from them (the ESS, the whole of
    `trim_weights`) is then bit-identical -/
theorem round_normalise_scale (c : ℝ) (hc : c ≠ 0) (hscale : ∀ x, r.rnd (c * x) = c * r.rnd x) (w : List (RR r)) :
    normalise (w.map fun x => RR.mk r (c * x.val)) = normalise w := by
  have hsum : (Sc.sum (w.map fun x => RR.mk r (c * x.val))).val = c * (Sc.sum w).val := by
    rw [ScRound.sum_val, ScRound.sum_val, List.map_map]
    have : w.map (RR.val ∘ fun x => RR.mk r (c * x.val)) = (w.map RR.val).map (fun x => c * x) := by
      rw [List.map_map]; rfl
    rw [this]
    have := rsum_scale c hscale (w.map RR.val) 0
    rwa [mul_zero] at this
  unfold normalise
  rw [List.map_map]
  apply List.map_congr_left
  intro x _
  apply RR.ext
  simp only [Function.comp, ScRound.div_val, RR.val_mk, hsum]
  rw [mul_div_mul_left _ _ hc]

/-- **binary scaling is exact.**  If the rounding commutes with multiplication by `c ≠ 0` (binary64: `c` a power of two and no
    overflow / underflow on the way), the ESS computed for `c·w` is the very same number as the ESS computed for `w`. -/
theorem C20_round_ess_scale (c : ℝ) (hc : c ≠ 0) (hscale : ∀ x, r.rnd (c * x) = c * r.rnd x) (w : List (RR r)) :
    (ess (w.map fun x => RR.mk r (c * x.val))).val = (ess w).val := by
  unfold ess
  rw [round_normalise_scale c hc hscale w]

/-- the hypothesis of `C20_round_ess_scale` is satisfiable: exact arithmetic commutes with every `c` (a coarse rounding such as
    `ceilR` commutes with `c = 1` only; for binary64 the `c` are the powers of two) -/
example (c : ℝ) (hc : c ≠ 0) (w : List (RR ScRound.exact)) :
    (ess (w.map fun x => RR.mk ScRound.exact (c * x.val))).val = (ess w).val :=
  C20_round_ess_scale c hc (fun _ => rfl) w

example : (ess [RR.mk ScRound.ceilR 3]).val = 1 :=
  C20_round_ess_single 3 (by norm_num) (by simp [ScRound.ceilR])

end Props.C20
