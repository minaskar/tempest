import TempestVerif.Model.PosteriorX
import TempestVerif.Props.C12
import TempestVerif.Props.C12Run
import TempestVerif.Gen.RunEntry
/-
  C12 — `compute_posterior` with OPTIONAL blobs (declared through `blobs_dtype` or merely returned by the
  likelihood, /repo 9130321) and its four `return` statements (`Model.PosteriorX`).  The contract of `Model.Posterior.posterior`
  (`C12_posterior_contract`, blobs always there, tuple selection outside) is carried over by two bridge lemmas.
-/
namespace Props.C12
open Model.Posterior Model.PosteriorX Model.Records
open Lemmas.OptionList (bind_map_comm)

variable {X L B : Type}

/-! ### bridges between the gathers with and without a blob array -/

/-- carry a record of `Model.Posterior` (blobs always there) over: the blob column is re-attached (`eb = some`) or forgotten (`eb = fun _ => none`) -/
def embB {α : Type} {B' : Type} (eb : List B' → Option (List B)) (r : Arrs X L B' α α) : ArrsO X L B α :=
  ⟨r.x, r.l, eb r.b, r.lw, r.w⟩

theorem gatherArrsO_some_blobs {α : Type} (f : List String) (idx : List Nat) (r : Arrs X L B α α) :
    gatherArrsO f idx (embB some r) = (gatherArrs f idx r).map (embB some) := by
  obtain ⟨x, l, b, lw, w⟩ := r
  have hb : gatherBlobs f idx (some b) = (if f.contains "blobs" then gather? b idx else some b).map some :=
    (apply_ite (Option.map some) (f.contains "blobs" = true) (gather? b idx) (some b)).symm
  unfold embB gatherArrsO gatherArrs
  rw [hb]
  -- both routines match on the same four gathers
  generalize (if f.contains "x" then gather? x idx else some x) = gx
  generalize (if f.contains "logl" then gather? l idx else some l) = gl
  generalize (if f.contains "blobs" then gather? b idx else some b) = gb
  generalize (if f.contains "logw" then gather? lw idx else some lw) = glw
  cases gx <;> cases gl <;> cases gb <;> cases glw <;> rfl

/-- without blobs nothing is gathered for them: the result is that of the blob-carrying routine run with the `x` column
    standing in for the blobs (a column that is gathered exactly when `x` is), forgetting that column -/
theorem gatherArrsO_no_blobs {α : Type} (f : List String) (hx : f.contains "x" = true) (hbl : f.contains "blobs" = true)
    (idx : List Nat) (r : Arrs X L X α α) (hI : r.b = r.x) :
    gatherArrsO f idx (embB (fun _ => (none : Option (List B))) r) = (gatherArrs f idx r).map (embB fun _ => none) := by
  obtain ⟨x, l, b, lw, w⟩ := r
  obtain rfl : b = x := hI
  unfold embB gatherArrsO gatherArrs gatherBlobs
  simp only [hx, hbl, if_true]
  generalize gather? b idx = gx
  generalize (if f.contains "logl" then gather? l idx else some l) = gl
  generalize (if f.contains "logw" then gather? lw idx else some lw) = glw
  cases gx <;> cases gl <;> cases glw <;> rfl

/-- `I` is an invariant of the `Model.Posterior` record under which one gather is the other carried over (none needed with blobs;
    "the stand-in column equals the x column" without).  The two pipelines run the same steps in a different order
    (`Model.Posterior.posterior` draws the resampling indices before it gathers for the trimming): with both stages on, the two are
    swapped first. -/
theorem bodyOWith_bridge {α : Type} {B' : Type} (tf rf : List String) (trimFn : List α → Option (List Nat × List α))
    (resFn : List α → Option (List Nat)) (uniform : Nat → List α) (o : Opts)
    (eb : List B' → Option (List B)) (I : Arrs X L B' α α → Prop)
    (hIw : ∀ r (w : List α), I r → I { r with w := w })
    (hI1 : ∀ idx r r', I r → gatherArrs tf idx r = some r' → I r')
    (hg1 : ∀ idx (r : Arrs X L B' α α), I r → gatherArrsO tf idx (embB eb r) = (gatherArrs tf idx r).map (embB eb))
    (hg2 : ∀ idx (r : Arrs X L B' α α), I r → gatherArrsO rf idx (embB eb r) = (gatherArrs rf idx r).map (embB eb))
    (a : Arrs X L B' α α) (ha : I a) (w0 : List α) :
    bodyOWith tf rf trimFn resFn uniform o (embB eb { a with w := w0 }) = (tailP tf rf trimFn resFn uniform o w0 a).map (embB eb) := by
  have ha0 : I { a with w := w0 } := hIw a w0 ha
  -- a stage of the one is the stage of the other, carried over
  have st : ∀ (f : List String),
      (∀ idx (r : Arrs X L B' α α), I r → gatherArrsO f idx (embB eb r) = (gatherArrs f idx r).map (embB eb)) →
      ∀ (idx : List Nat) (w' : List α) (r : Arrs X L B' α α), I r →
        (gatherArrsO f idx (embB eb r)).map (fun a' => { a' with w := w' })
          = ((gatherArrs f idx r).map fun a' => { a' with w := w' }).map (embB eb) := by
    intro f hg idx w' r hr
    rw [hg idx r hr, Option.map_map, Option.map_map]; rfl
  unfold bodyOWith tailP stage
  obtain ⟨res, trim, rb, rl⟩ := o
  cases trim <;> cases res <;> simp only [if_true, Bool.false_eq_true, if_false, Option.bind_some]
  · rfl
  · exact bind_map_comm Option.map_id'.symm fun ridx _ => st rf hg2 ridx _ _ ha0
  · simp only [Option.bind_fun_some]
    exact bind_map_comm Option.map_id'.symm fun t _ => st tf hg1 t.1 t.2 _ ha0
  · rw [Option.bind_assoc]
    refine bind_map_comm Option.map_id'.symm fun t _ => ?_
    rw [Option.bind_comm (resFn t.2)]
    refine bind_map_comm (st tf hg1 t.1 t.2 _ ha0) fun g1 hg => ?_
    obtain ⟨g, hgt, rfl⟩ := Option.map_eq_some_iff.1 hg
    exact bind_map_comm Option.map_id'.symm fun ridx _ => st rf hg2 ridx _ _ (hIw g t.2 (hI1 _ _ _ ha0 hgt))

theorem gatherArrs_keeps_standin {α : Type} (f : List String) (hx : f.contains "x" = true) (hbl : f.contains "blobs" = true)
    (idx : List Nat) (r r' : Arrs X L X α α) (hI : r.b = r.x) (h : gatherArrs f idx r = some r') : r'.b = r'.x := by
  unfold gatherArrs at h
  simp only [hx, hbl, if_true, hI] at h
  split at h
  · rename_i x l b lw h1 _ h3 _
    injection h with h; subst h
    simp only
    rw [h1] at h3; injection h3 with h3; exact h3.symm
  · cases h

theorem computePosterior_bridge {B' : Type} (tf rf : List String) (e : ℝ) (bins : Nat) (u0 : ℝ) (o : Opts)
    (eb : List B' → Option (List B)) (I : Arrs X L B' ℝ ℝ → Prop)
    (hIw : ∀ r (w : List ℝ), I r → I { r with w := w })
    (hI1 : ∀ idx r r', I r → gatherArrs tf idx r = some r' → I r')
    (hg1 : ∀ idx (r : Arrs X L B' ℝ ℝ), I r → gatherArrsO tf idx (embB eb r) = (gatherArrs tf idx r).map (embB eb))
    (hg2 : ∀ idx (r : Arrs X L B' ℝ ℝ), I r → gatherArrsO rf idx (embB eb r) = (gatherArrs rf idx r).map (embB eb))
    (h : Hist X L B ℝ) (b' : List B') (hI : I ⟨h.x, h.l, b', h.lw, []⟩) (hb : blobsOf h = some (eb b')) :
    computePosterior tf rf e bins u0 o h
      = (posterior tf rf e bins u0 o (⟨h.x, h.l, b', h.lw, []⟩ : Arrs X L B' ℝ ℝ)).map fun r => select o (embB eb r) := by
  unfold computePosterior computePosteriorWith
  rw [hb, posterior_eq_tailP]
  exact bind_map_comm Option.map_id'.symm fun w0 _ =>
    (congrArg (Option.map (select o)) (bodyOWith_bridge (B := B) tf rf _ _ uniformW o eb I hIw hI1 hg1 hg2 _ hI w0)).trans
      (Option.map_map ..)

theorem computePosterior_with_blobs (tf rf : List String) (e : ℝ) (bins : Nat) (u0 : ℝ) (o : Opts) (h : Hist X L B ℝ)
    (bl : List B) (hb : blobsOf h = some (some bl)) :
    computePosterior tf rf e bins u0 o h
      = (posterior tf rf e bins u0 o (⟨h.x, h.l, bl, h.lw, []⟩ : Arrs X L B ℝ ℝ)).map fun r => select o (embB some r) :=
  computePosterior_bridge tf rf e bins u0 o some (fun _ => True) (fun _ _ _ => trivial) (fun _ _ _ _ _ => trivial)
    (fun idx r _ => gatherArrsO_some_blobs tf idx r) (fun idx r _ => gatherArrsO_some_blobs rf idx r) h bl trivial hb

theorem computePosterior_without_blobs (tf rf : List String) (htx : tf.contains "x" = true) (htb : tf.contains "blobs" = true)
    (hrx : rf.contains "x" = true) (hrb : rf.contains "blobs" = true)
    (e : ℝ) (bins : Nat) (u0 : ℝ) (o : Opts) (h : Hist X L B ℝ) (hb : blobsOf h = some none) :
    computePosterior tf rf e bins u0 o h
      = (posterior tf rf e bins u0 o (⟨h.x, h.l, h.x, h.lw, []⟩ : Arrs X L X ℝ ℝ)).map fun r =>
          select o (embB (fun _ => (none : Option (List B))) r) :=
  computePosterior_bridge tf rf e bins u0 o (fun _ => none) (fun r => r.b = r.x) (fun _ _ hI => hI)
    (fun idx r r' hI hg => gatherArrs_keeps_standin tf htx htb idx r r' hI hg)
    (gatherArrsO_no_blobs tf htx htb) (gatherArrsO_no_blobs rf hrx hrb) h h.x rfl hb

/-! ### the contract of the whole routine, optional blobs and return tuple included -/

/-- row `k` of a returned array is stored particle `i` (`bl` = the flat blob history, if there is one) -/
def Col.rowIs (h : Hist X L B ℝ) (bl : Option (List B)) (k i : Nat) : Col X L B ℝ → Prop
  | .x v => v[k]? = h.x[i]?
  | .logl v => v[k]? = h.l[i]?
  | .logw v => v[k]? = h.lw[i]?
  | .blobs v => ∃ b, bl = some b ∧ v[k]? = b[i]?
  | .weights _ => True

theorem select_names {α : Type} (o : Opts) (a : ArrsO X L B α) :
    (select o a).map Col.name = returnNames a.b.isSome o := by
  unfold select returnNames
  cases hb : a.b <;> cases hrb : o.returnBlobs <;> cases hrl : o.returnLogw <;> rfl

theorem forall_mem_select {α : Type} (o : Opts) (a : ArrsO X L B α) (p : Col X L B α → Prop)
    (hx : p (.x a.x)) (hw : p (.weights a.w)) (hl : p (.logl a.l)) (hlw : p (.logw a.lw))
    (hb : ∀ b, a.b = some b → p (.blobs b)) : ∀ c ∈ select o a, p c := by
  unfold select
  split
  · rename_i b hb'
    have hab : a.b = some b := by
      split at hb'
      · exact hb'
      · cases hb'
    split <;> simp only [List.forall_mem_cons, List.not_mem_nil, false_imp_iff, implies_true, and_true]
    · exact ⟨hx, hw, hl, hb b hab, hlw⟩
    · exact ⟨hx, hw, hl, hb b hab⟩
  · split <;> simp only [List.forall_mem_cons, List.not_mem_nil, false_imp_iff, implies_true, and_true]
    · exact ⟨hx, hw, hl, hlw⟩
    · exact ⟨hx, hw, hl⟩

theorem weights_mem_select {α : Type} (o : Opts) (a : ArrsO X L B α) : Col.weights a.w ∈ select o a := by
  unfold select
  split <;> split <;> simp

theorem select_spec {B' : Type} (o : Opts) (h : Hist X L B ℝ) (bl : Option (List B)) (eb : List B' → Option (List B))
    (b' : List B') (r : Arrs X L B' ℝ ℝ) (m : Nat) (hsl : SameLen r m)
    (heb : ∀ b, eb r.b = some b → b.length = m ∧ ∃ b0, bl = some b0 ∧
      ∀ k i, RowOf r k (⟨h.x, h.l, b', h.lw, []⟩ : Arrs X L B' ℝ ℝ) i → b[k]? = b0[i]?) :
    (∀ c ∈ select o (embB eb r), c.len = m) ∧
    ∀ k i, RowOf r k (⟨h.x, h.l, b', h.lw, []⟩ : Arrs X L B' ℝ ℝ) i → ∀ c ∈ select o (embB eb r), Col.rowIs h bl k i c := by
  obtain ⟨s1, s2, -, s4, s5⟩ := hsl
  refine ⟨forall_mem_select o _ _ s1 s5 s2 s4 fun b hb => (heb b hb).1, fun k i hr => ?_⟩
  refine forall_mem_select o _ _ hr.1 trivial hr.2.1 hr.2.2.2 fun b hb => ?_
  obtain ⟨-, b0, hb0, hrow⟩ := heb b hb
  exact ⟨b0, hb0, hrow k i hr⟩

/-- **C12 (posterior), whole routine with optional blobs.**  For every non-empty stored history whose arrays have one length
    (the blob history too, when there is one), whether blobs are declared, merely present, or absent; for every combination
    of the four flags, every `ess_trim`, `bins_trim ≥ 1` and resampling offset: `compute_posterior` returns (does not raise);
    the tuple is the one the flags select, with the blob array iff `return_blobs` AND blobs exist; all returned arrays have
    ONE positive length; every row is one stored particle in every returned array alike (x, logl, blobs, logw); the weights are
    ≥ 0, sum to one, and are exactly `1/m` with resampling. -/
theorem C12x_posterior_full (e : ℝ) (bins : Nat) (hb : 0 < bins) (u0 : ℝ) (o : Opts) (h : Hist X L B ℝ)
    (bl : Option (List B)) (hbo : blobsOf h = some bl) (hne : h.lw ≠ [])
    (hx : h.x.length = h.lw.length) (hl : h.l.length = h.lw.length) (hbl : ∀ b, bl = some b → b.length = h.lw.length) :
    ∃ cs, computePosterior Gen.Tables.posteriorTrimGather Gen.Tables.posteriorResampleGather e bins u0 o h = some cs ∧
      cs.map Col.name = returnNames bl.isSome o ∧
      ∃ m, 0 < m ∧ (∀ c ∈ cs, c.len = m) ∧
        (∀ k, k < m → ∃ i, i < h.lw.length ∧ ∀ c ∈ cs, Col.rowIs h bl k i c) ∧
        ∃ w, Col.weights w ∈ cs ∧ (∀ y ∈ w, 0 ≤ y) ∧ w.sum = 1 ∧ (o.resample = true → w = List.replicate m (1 / (m : ℝ))) := by
  obtain ⟨⟨g1, -, g2, -⟩, g3, -, g4, -⟩ := C12_gather_tables_complete
  cases bl with
  | some b =>
    obtain ⟨r, hr, m, hm, hsl, hrows, hnn, hsum, hres⟩ :=
      C12_posterior_contract_gen e bins hb u0 o (⟨h.x, h.l, b, h.lw, []⟩ : Arrs X L B ℝ ℝ) hne hx hl (hbl b rfl)
    obtain ⟨hlen, hrow⟩ := select_spec o h (some b) some b r m hsl
      (by rintro _ ⟨⟩; exact ⟨hsl.b, b, rfl, fun k i hr => hr.2.2.1⟩)
    refine ⟨select o (embB some r), ?_, select_names o _, m, hm, hlen, fun k hk => ?_, r.w, weights_mem_select o _, hnn, hsum, hres⟩
    · rw [computePosterior_with_blobs _ _ _ _ _ _ h b hbo, hr]; rfl
    · obtain ⟨i, hi, hri⟩ := hrows k hk
      exact ⟨i, hi, hrow k i hri⟩
  | none =>
    obtain ⟨r, hr, m, hm, hsl, hrows, hnn, hsum, hres⟩ :=
      C12_posterior_contract_gen e bins hb u0 o (⟨h.x, h.l, h.x, h.lw, []⟩ : Arrs X L X ℝ ℝ) hne hx hl hx
    obtain ⟨hlen, hrow⟩ := select_spec o h none (fun _ => (none : Option (List B))) h.x r m hsl nofun
    refine ⟨select o (embB (fun _ => (none : Option (List B))) r), ?_, select_names o _, m, hm, hlen, fun k hk => ?_, r.w,
      weights_mem_select o _, hnn, hsum, hres⟩
    · rw [computePosterior_without_blobs _ _ g1 g2 g3 g4 _ _ _ _ h hbo, hr]; rfl
    · obtain ⟨i, hi, hri⟩ := hrows k hk
      exact ⟨i, hi, hrow k i hri⟩

/-! ### error paths -/

/-- before anything was committed `posterior()` raises, whatever the options and the blob configuration -/
theorem C12x_posterior_empty_history (tf rf : List String) (e : ℝ) (bins : Nat) (u0 : ℝ) (o : Opts) (h : Hist X L B ℝ)
    (hlw : h.lw = []) : computePosterior tf rf e bins u0 o h = none := by
  rw [computePosterior, hlw, weights0_nil]
  rfl

/-- `blobs_dtype` declared but the likelihood never returned a blob (nothing was committed under the key): `posterior()`
    raises (the `ValueError` of `np.concatenate([])`) — for EVERY flag combination, also with `return_blobs=False` -/
theorem C12x_posterior_declared_without_blobs (tf rf : List String) (e : ℝ) (bins : Nat) (u0 : ℝ) (o : Opts)
    (h : Hist X L B ℝ) (hd : h.declared = true) (hb : h.blobsHist = []) :
    computePosterior tf rf e bins u0 o h = none := by
  have : blobsOf h = none := by simp [blobsOf, hd, hb]
  unfold computePosterior computePosteriorWith
  rw [this]
  cases weights0 h.lw <;> simp

theorem C12x_blob_gate (h : Hist X L B ℝ) :
    (h.declared = false → h.curBlobs = false → blobsOf h = some none) ∧
    ((h.declared = true ∨ h.curBlobs = true) → h.blobsHist ≠ [] → blobsOf h = some (some h.blobsHist.flatten)) := by
  constructor
  · intro a b; simp [blobsOf, a, b]
  · intro a b
    have : (h.declared || h.curBlobs) = true := by rcases a with a | a <;> simp [a]
    unfold blobsOf
    rw [this]
    cases hh : h.blobsHist with
    | nil => exact absurd hh b
    | cons _ _ => rfl

/-! ### on the history a run leaves behind -/

open Model.ClosedLoop Model.Weights in
/-- what `compute_posterior` reads from a closed-loop state: `x` and the blobs are the stored records, one blob array per
    committed batch when the likelihood returns blobs (`hasBlobs`), none otherwise -/
noncomputable def histOf {P TS G : Type} (declared hasBlobs : Bool) (s : CState ℝ P TS G) : Hist P ℝ P ℝ :=
  ⟨poolOf s.hist, flatLogl (batchesOf s.hist), if hasBlobs then s.hist.map (·.pts) else [], lw1 s, declared, hasBlobs⟩

open Model.ClosedLoop Model.Weights in
/-- **after every returned `run()`** (any good non-empty history): `posterior()` meets its contract whether the blobs are
    declared (`blobs_dtype`), undeclared but returned by the likelihood, or absent; with blobs the returned blob of a row is the
    stored record of the same particle as the returned `x` -/
theorem C12x_posterior_full_on_run {P TS G : Type} (s : CState ℝ P TS G) (g : Good s) (hne : s.hist ≠ [])
    (declared hasBlobs : Bool) (hd : declared = true → hasBlobs = true) (e : ℝ) (bins : Nat) (hb : 0 < bins) (u0 : ℝ)
    (o : Opts) :
    ∃ cs, computePosterior Gen.Tables.posteriorTrimGather Gen.Tables.posteriorResampleGather e bins u0 o
        (histOf declared hasBlobs s) = some cs ∧
      cs.map Col.name = returnNames hasBlobs o ∧
      ∃ m, 0 < m ∧ (∀ c ∈ cs, c.len = m) ∧
        (∀ k, k < m → ∃ i, i < (lw1 s).length ∧
          ∀ c ∈ cs, Col.rowIs (histOf declared hasBlobs s) (if hasBlobs then some (poolOf s.hist) else none) k i c) := by
  obtain ⟨h0, hx, hl, -⟩ := posteriorArrs_lengths s g hne
  -- the blob gate on a run's history: one blob array per committed batch, or none at all
  have hbo : blobsOf (histOf declared hasBlobs s) = some (if hasBlobs then some (poolOf s.hist) else none) := by
    cases hasBlobs with
    | false =>
      obtain rfl : declared = false := by
        cases declared
        · rfl
        · exact absurd (hd rfl) Bool.false_ne_true
      rfl
    | true =>
      exact (C12x_blob_gate (histOf declared true s)).2 (Or.inr rfl) fun h => hne (List.map_eq_nil_iff.1 h)
  obtain ⟨cs, h1, h2, m, hm, h3, h4, -⟩ := C12x_posterior_full e bins hb u0 o (histOf declared hasBlobs s) _ hbo h0 hx hl
    (by
      cases hasBlobs with
      | false => nofun
      | true => rintro _ ⟨⟩; exact hx)
  exact ⟨cs, h1, h2.trans (by cases hasBlobs <;> rfl), m, hm, h3, h4⟩

/-! ### non-vacuity -/

/-- undeclared blobs (`declared = false`, the likelihood returned some), all four flags on: a 5-tuple -/
example : ∃ cs, computePosterior Gen.Tables.posteriorTrimGather Gen.Tables.posteriorResampleGather (0.99 : ℝ) 1000 0.5
      ⟨true, true, true, true⟩ (⟨[10, 11, 12], [20, 21, 22], [[30, 31], [32]], [-1, 0, -2], false, true⟩ : Hist Nat Nat Nat ℝ)
      = some cs ∧ cs.map Col.name = ["x", "weights", "logl", "blobs", "logw"] := by
  obtain ⟨cs, h, hn, _⟩ := C12x_posterior_full (X := Nat) (L := Nat) (B := Nat) (0.99 : ℝ) 1000 (by norm_num) 0.5
    ⟨true, true, true, true⟩ ⟨[10, 11, 12], [20, 21, 22], [[30, 31], [32]], [-1, 0, -2], false, true⟩ (some [30, 31, 32]) rfl
    (by simp) rfl rfl (by intro b hb; cases hb; rfl)
  exact ⟨cs, h, hn⟩

/-- no blobs at all, `return_blobs=True` asked for: the blob-less 4-tuple -/
example : ∃ cs, computePosterior Gen.Tables.posteriorTrimGather Gen.Tables.posteriorResampleGather (0.99 : ℝ) 1000 0.5
      ⟨false, true, true, true⟩ (⟨[10, 11, 12], [20, 21, 22], [], [-1, 0, -2], false, false⟩ : Hist Nat Nat Nat ℝ)
      = some cs ∧ cs.map Col.name = ["x", "weights", "logl", "logw"] := by
  obtain ⟨cs, h, hn, _⟩ := C12x_posterior_full (X := Nat) (L := Nat) (B := Nat) (0.99 : ℝ) 1000 (by norm_num) 0.5
    ⟨false, true, true, true⟩ ⟨[10, 11, 12], [20, 21, 22], [], [-1, 0, -2], false, false⟩ none rfl
    (by simp) rfl rfl (by intro b hb; cases hb)
  exact ⟨cs, h, hn⟩

/-- declared, never committed: raises -/
example : computePosterior Gen.Tables.posteriorTrimGather Gen.Tables.posteriorResampleGather (0.99 : ℝ) 1000 0.5
      ⟨false, false, false, false⟩ (⟨[10], [20], [], [0], true, false⟩ : Hist Nat Nat Nat ℝ) = none :=
  C12x_posterior_declared_without_blobs _ _ _ _ _ _ _ rfl rfl

/-! ### the tables regenerated by translator G12: the source still has the shape `Model.RunEntry` and `Model.PosteriorX` mirror -/

/-- the entry of `run_sampling`: three arms in this order (path first, then the history test), `_initialize_from_resume` only
    in the first, `_initialize_fresh` only in the last, `t0` from `iter` in the first two and `0` in the last; no arm writes the
    StateManager directly except the legacy default `set_current("iter", t0)` of the first (files without `iter`) -/
theorem C12x_gen_entry_arms :
    Gen.RunEntry.runEntryTests = ["resume_state_path is not None", "self.state.get_history_length() > 0", "else"] ∧
    Gen.RunEntry.runEntryCalls = [["_initialize_from_resume"], [], ["_initialize_fresh"]] ∧
    Gen.RunEntry.runEntryT0 = ["int(iter_val) if iter_val is not None else 0", "int(iter_val) if iter_val is not None else 0", "0"] ∧
    Gen.RunEntry.runEntryStateWrites = ["'iter', t0", "", ""] :=
  ⟨rfl, rfl, rfl, rfl⟩

/-- `self.n_total = int(n_total)` is assigned exactly once in `run_sampling`: AFTER the entry chain (so after a checkpoint's
    value was loaded) and BEFORE the loop; nothing between it and the loop loads a file; the loop calls only the guard and
    `execute_iteration`; the guard reads the attribute; `load_sampler_state` writes it from the file, `save_sampler_state`
    stores it -/
theorem C12x_gen_ntotal_flow :
    Gen.RunEntry.runNTotalAssign = ["after_entry_before_loop: int(n_total)"] ∧
    Gen.RunEntry.runPreLoopSelfCalls = ["_update_progress_bar_initial"] ∧
    Gen.RunEntry.runLoopSelfCalls = ["_not_termination", "execute_iteration"] ∧
    Gen.RunEntry.termNTotalReads = ["getattr(self, 'n_total', 0)"] ∧
    Gen.RunEntry.loadNTotalAssign = ["'n_total' in d: d['n_total']"] ∧
    Gen.RunEntry.saveNTotal = ["getattr(self, 'n_total', None)"] :=
  ⟨rfl, rfl, rfl, rfl, rfl, rfl⟩

/-- `_initialize_fresh` writes the four counters/values `Model.RunEntry.initFresh` resets (and may seed); `compute_evidence`
    reads the current `logz` -/
theorem C12x_gen_fresh_and_evidence :
    Gen.RunEntry.initFreshWrites = ["'iter'=0", "'calls'=0", "'beta'=0.0", "'logz'=0.0"] ∧
    Gen.RunEntry.initFreshOtherCalls = ["np.random.seed"] ∧
    Gen.RunEntry.evidenceReads = ["self.state.get_current('logz')"] :=
  ⟨rfl, rfl, rfl⟩

/-- the blob gate of `compute_posterior` (declared OR present ⇒ the flat blob history, else `None`) and the two guarded
    gathers, as `Model.PosteriorX.blobsOf` / `gatherBlobs` have them -/
theorem C12x_gen_blob_gate :
    Gen.RunEntry.posteriorBlobGate =
      ["self.config.blobs_dtype is not None or self.state.get_current('blobs') is not None",
       "self.state.get_history('blobs', flat=True)", "None"] ∧
    Gen.RunEntry.posteriorBlobGatherGuards = ["blobs is not None", "blobs is not None"] :=
  ⟨rfl, rfl⟩

def selectorLookup (tbl : List (String × String × List String)) (outer inner : String) : Option (List String) :=
  (tbl.find? fun r => r.1 == outer && r.2.1 == inner).map (·.2.2)

/-- which flag selects which tuple, read from the source: for every value
    of `return_blobs`, `return_logw` and of "blobs exist", the arm of the regenerated selector taken is the model's tuple -/
theorem C12x_gen_selector (haveBlobs rb rl res trim : Bool) :
    selectorLookup Gen.RunEntry.posteriorSelector
        (if rb && haveBlobs then "return_blobs and blobs is not None" else "else") (if rl then "return_logw" else "else")
      = some (returnNames haveBlobs ⟨res, trim, rb, rl⟩) := by
  -- the tuple depends on the two `return_*` flags only
  have e : returnNames haveBlobs ⟨res, trim, rb, rl⟩ = returnNames haveBlobs ⟨false, false, rb, rl⟩ := rfl
  rw [e]
  cases haveBlobs <;> cases rb <;> cases rl <;> decide

end Props.C12
