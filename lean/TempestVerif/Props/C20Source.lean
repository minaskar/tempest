import TempestVerif.Model.Ess
import TempestVerif.Model.Trim
import TempestVerif.Model.VolVar
import TempestVerif.Gen.ToolsSrc
import TempestVerif.Props.C20
/-
  C20 — the executable models `Model.Ess`, `Model.Trim`, `Model.VolVar` ARE the functions in /repo's `tempest/tools.py` as it stands
  at each run of the check.

  `Gen/ToolsSrc.lean` is regenerated on every run of the check (translator G16) by COMPILING the Python source of
  `effective_sample_size`, `compute_ess`, `trim_weights` and `volume_variation`: whole function bodies, statement by statement, as
  `let` chains over the scalar interface — every arithmetic expression, comparison and literal, numpy's broadcasting made explicit,
  early returns, the `w is None` default, the conditional ridge re-assignment, `try … inv … except LinAlgError`, and the
  `while True / break / i -= 1` loop as one-pass function + fuel-bounded chaining.  Only numpy LIBRARY routines are not compiled:
  each call becomes the name of its hand-written model (`Model.Trim.percentile`, `linspace0`, `filterMask`, `Model.Ess.amax?`,
  `Model.Student.inv`, `Model.VolVar.dotT / matmul / sumAxis0 / eye / trace / clip`).

  The theorems below hold for EVERY scalar type, `Float` (what the driver executes) and `Rat` included: no arithmetic law is used,
  only unfolding (`rfl`), case splits on `Option`/`Bool` values and structural facts about `List.map`/`zipWith`.  A change of a
  literal, operator, operand order, statement order, branch or loop shape in the source regenerates a different term and breaks the
  theorem of that function.  Local names, comments, formatting never reach the generated file.
-/
namespace Props.C20.Src
open Model.Ess Model.Trim Model.VolVar Model.Student
variable {α : Type}

/-! ### signatures (parameter names and defaults are keyword API: `trim_weights(…, ess=ess_trim, bins=bins_trim)`) -/

def expected_signatures : List String :=
  ["effective_sample_size(weights)",
   "compute_ess(logw)",
   "trim_weights(samples, weights, ess=0.99, bins=1000)",
   "volume_variation(x, w=None)"]

theorem C20_src_signatures : Gen.ToolsSrc.signatures = expected_signatures := rfl

/-! ### `effective_sample_size`, `compute_ess` -/

/-- `weights = weights / np.sum(weights); return 1.0 / np.sum(weights**2.0)` — the whole function -/
theorem C20_src_ess [Sc α] (w : List α) : ess w = Gen.ToolsSrc.effective_sample_size w := rfl

/-- the normalisation and the sum of squares, as the source writes them (`normalise` and `sumSq` are the definitions the models of
    `trim_weights` and `volume_variation` are built from) -/
theorem C20_src_ess_parts [Sc α] (w : List α) :
    Gen.ToolsSrc.effective_sample_size w = Sc.div Sc.one (sumSq (normalise w)) ∧
    normalise w = w.map (fun t => Sc.div t (Sc.sum w)) ∧ sumSq w = Sc.sum (w.map fun t => Sc.mul t t) := ⟨rfl, rfl, rfl⟩

/-- `compute_ess`: `np.max` (raises on the empty array), the shift, `exp`, the normalisation, `1/Σw²/len(w)`.
    The source maps twice (`np.exp(logw - m)`) and squares by `weights * weights`; the model fuses the maps — a fact about lists. -/
theorem C20_src_compute_ess [ScT α] (logw : List α) : computeEss logw = Gen.ToolsSrc.compute_ess logw := by
  cases logw with
  | nil => rfl
  | cons x xs =>
    simp only [computeEss, Gen.ToolsSrc.compute_ess, amax?, Option.bind, normalise, sumSq, List.map_map, List.zipWith_self,
      List.length_map]
    rfl

/-! ### `trim_weights` -/

/-- one pass of the loop: percentile of the grid point, threshold, mask `w ≥ θ`, the kept weights renormalised, their ESS, the
    test `ess_trimmed / ess_total >= ess or i == 0`, the decrement.  `grid` = `percentiles`, `i` the grid index. -/
theorem C20_src_trim_body [Sc α] (wn : List α) (grid : Nat → α) (et e : α) (i : Nat) :
    Gen.ToolsSrc.trim_weights_body grid i wn et e =
      (Model.Trim.step wn (sortAsc wn) et (grid i)).bind fun s =>
        if (Sc.ge s.ratio e || i == 0) then some (true, s.mask, s.wt, i) else some (false, s.mask, s.wt, i - 1) := by
  unfold Gen.ToolsSrc.trim_weights_body Model.Trim.step percentile
  dsimp only
  cases percentileLinear (sortAsc wn) (grid i) <;> rfl

/-- the grid of the model is the grid of the source: `np.linspace(0, 99, bins)` -/
theorem C20_src_grid [Sc α] (bins i : Nat) : (linspace0_99 bins i : α) = linspace0 (Sc.ofNat 99) bins i := rfl

/-- the loop: with more fuel than the start index, the chained passes are the model's `search` (mask, trimmed weights and the
    index of the pass that hit `break`) — in particular the loop never runs out of fuel (the `i == 0` stop of 8ceb8ba) -/
theorem C20_src_trim_loop [Sc α] (wn : List α) (et e : α) (bins : Nat) : ∀ i fuel, i < fuel →
    Gen.ToolsSrc.trim_weights_loop (linspace0 (Sc.ofNat 99) bins) wn et e fuel i
      = (search wn (sortAsc wn) et e bins i).map fun r => (r.2.mask, r.2.wt, r.1) := by
  intro i
  induction i with
  | zero =>
    intro fuel hf
    obtain ⟨f, rfl⟩ : ∃ f, fuel = f + 1 := ⟨fuel - 1, by omega⟩
    unfold Gen.ToolsSrc.trim_weights_loop search
    rw [C20_src_trim_body, C20_src_grid]
    cases Model.Trim.step wn (sortAsc wn) et (linspace0 (Sc.ofNat 99) bins 0) with
    | none => rfl
    | some s => simp only [BEq.rfl, Bool.or_true, ↓reduceIte, Option.bind_some, Option.map_some]
  | succ i ih =>
    intro fuel hf
    obtain ⟨f, rfl⟩ : ∃ f, fuel = f + 1 := ⟨fuel - 1, by omega⟩
    unfold Gen.ToolsSrc.trim_weights_loop search
    rw [C20_src_trim_body, C20_src_grid]
    cases Model.Trim.step wn (sortAsc wn) et (linspace0 (Sc.ofNat 99) bins (i + 1)) with
    | none => rfl
    | some s =>
      have := ih f (by omega)
      by_cases hc : Sc.le e s.ratio = true
      · simp only [Sc.ge, Nat.reduceBeqDiff, Bool.or_false, add_tsub_cancel_right, Option.bind_some, hc, ↓reduceIte,
          Option.map_some]
      · simp only [Sc.ge, Nat.reduceBeqDiff, Bool.or_false, add_tsub_cancel_right, Option.bind_some, hc,
          Bool.false_eq_true, ↓reduceIte, this]

/-- prologue + loop: normalisation, untrimmed ESS, the grid literal `99`, the start index `bins - 1`.
    (`bins = 0`: Python evaluates `percentiles[-1]` of an empty array and raises; the model answers `none`; natural-number
    subtraction cannot express the index `-1`, so that case stays a hand-written guard of `trimStop`.) -/
theorem C20_src_trimStop [Sc α] (w : List α) (e : α) (bins : Nat) (hb : bins ≠ 0) :
    (trimStop w e bins).map (fun r => (r.2.mask, r.2.wt, r.1)) =
      Gen.ToolsSrc.trim_weights_loop (linspace0 (Sc.ofNat 99) bins) (normalise w) (Sc.div Sc.one (sumSq (normalise w))) e
        bins (bins - 1) := by
  rw [trimStop_pos w e (Nat.pos_of_ne_zero hb), C20_src_trim_loop _ _ _ _ _ _ (by omega)]
  rfl

/-- **the whole function** `trim_weights(samples, weights, ess, bins)`, fuel `bins` -/
theorem C20_src_trim [Sc α] {σ : Type} (samples : List σ) (w : List α) (e : α) (bins : Nat) (hb : bins ≠ 0) :
    trim samples w e bins = Gen.ToolsSrc.trim_weights samples w e bins bins := by
  unfold trim Gen.ToolsSrc.trim_weights
  have h := C20_src_trimStop w e bins hb
  change _ = Option.bind (Gen.ToolsSrc.trim_weights_loop (linspace0 (Sc.ofNat 99) bins) (normalise w)
    (Sc.div Sc.one (sumSq (normalise w))) e bins (bins - 1)) _
  rw [← h]
  cases trimStop w e bins <;> rfl

/-! ### `volume_variation` -/

/-- **the shape of the source**, in the vocabulary of the model: the generated function is, by unfolding alone, this composition
    of `normalise`, `wmean`, `centre`, `wcov`, `trace`, `addRidge`, `inv`, `maha2`, `radicand` with the literals `1e10`, `1e-6`,
    `0.5` (and `-1e6`, `1e6`, `**2` inside `radicand`) — so each of these model definitions is what the source says. -/
theorem C20_src_volvar_shape [ScT α] (rk : List (List α) → Nat → Bool) (d : Nat) (x : List (List α)) (w0 : Option (List α)) :
    Gen.ToolsSrc.volume_variation rk d x w0 =
      if x.length < d + 1 then big else
      let w := normalise (match w0 with
        | none => List.replicate x.length Sc.one
        | some w => w)
      let xc := centre x (wmean d x w)
      let cov := wcov d xc w
      let cov' := if rk cov d then addRidge d cov (Sc.mul (Sc.lit 1 6) (trace cov)) else cov
      match inv cov' with
      | none => big
      | some B => Sc.mul (Sc.lit 5 1) (ScT.sqrt (radicand d w (maha2 d xc B))) := rfl

/-- **the whole function** `volume_variation(x, w)`: the model (which decides "rank-deficient" by the failure of its Gauss–Jordan
    inverse and reports the branch taken) is the compiled source, for every `rk` that answers the rank test
    `np.linalg.matrix_rank(cov) < n_dim` the way the model does — hypothesis H_inv of clauses/C20.md, first half. -/
theorem C20_src_volvar [ScT α] (rk : List (List α) → Nat → Bool) (d : Nat) (hrk : ∀ S, rk S d = (inv S).isNone)
    (x : List (List α)) (w0 : Option (List α)) : volvar d x w0 = Gen.ToolsSrc.volume_variation rk d x w0 := by
  rw [C20_src_volvar_shape]
  unfold volvar out
  by_cases h : x.length < d + 1
  · simp only [h, if_true]
  · simp only [h, if_false, hrk]
    generalize wcov (α := α) d _ _ = cov
    cases hi : inv cov with
    | some B => simp only [Option.isNone_some, Bool.false_eq_true, if_false, hi]; rfl
    | none =>
      simp only [Option.isNone_none, if_true]
      cases inv (addRidge d cov (Sc.mul (Sc.lit 1 6) (trace cov))) <;> rfl

/-- model-side companion of `C20_src_volvar`: the branch tag that `out` reports (and the driver prints) is decided by exactly the
    two tests of `C20_src_volvar_shape` — the size test and, with `rk := "inv fails"`, the rank test, then the `LinAlgError` match -/
theorem C20_volvar_branch_tests [Sc α] (d : Nat) (x : List (List α)) (w0 : Option (List α)) :
    (out d x w0).branch =
      if x.length < d + 1 then .tooFew else
      let w := normalise (match w0 with
        | none => List.replicate x.length Sc.one
        | some w => w)
      let cov := wcov d (centre x (wmean d x w)) w
      if (inv cov).isNone then
        (if (inv (addRidge d cov (Sc.mul (Sc.lit 1 6) (trace cov)))).isNone then .singular else .ridge)
      else .main := by
  unfold out
  by_cases h : x.length < d + 1
  · simp only [h, if_true]
  · simp only [h, if_false]
    generalize wcov (α := α) d _ _ = cov
    cases inv cov with
    | some B => rfl
    | none =>
      simp only [Option.isNone_none, if_true]
      cases inv (addRidge d cov (Sc.mul (Sc.lit 1 6) (trace cov))) <;> rfl

/-! ### non-vacuity: the generated functions run (exact rationals) and give the values of the models -/

example : Gen.ToolsSrc.effective_sample_size ([1, 1, 2, 4] : List Rat) = 32 / 11 := by decide +kernel

/-- **the compiled source terminates**: over the reals, for non-negative weights with positive sum and `bins ≥ 1`, the function
    generated from `tools.py` returns a value with fuel `bins` — it is the model's `trim`, so every theorem of `Props/C20*.lean`
    about `trim` (normalised, upper set, ESS guarantee, alignment) is a theorem about the compiled source -/
theorem C20_src_trim_terminates {σ : Type} (samples : List σ) (w : List ℝ) (e : ℝ) (bins : Nat)
    (h0 : ∀ x ∈ w, 0 ≤ x) (hs : 0 < w.sum) (hb : 0 < bins) :
    ∃ r, Gen.ToolsSrc.trim_weights samples w e bins bins = some r := by
  rw [← C20_src_trim samples w e bins (by omega)]
  exact Props.C20.C20_trim_terminates_any samples w e bins h0 hs hb

example : ∃ r, Gen.ToolsSrc.trim_weights ["a", "b", "c"] [(1 : ℝ), 1, 2] 0.9 2 2 = some r :=
  C20_src_trim_terminates _ _ _ _ (by simp) (by norm_num) (by norm_num)

/-- the hypothesis of `C20_src_volvar` is satisfiable (by the model's own reading of the rank test) -/
example [ScT α] (d : Nat) (x : List (List α)) (w0 : Option (List α)) :
    volvar d x w0 = Gen.ToolsSrc.volume_variation (fun S _ => (inv S).isNone) d x w0 :=
  C20_src_volvar _ d (fun _ => rfl) x w0

end Props.C20.Src
