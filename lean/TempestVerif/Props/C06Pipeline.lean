import TempestVerif.Props.C01
import TempestVerif.Lemmas.PipelineEx
/-
  C06 — the property over WHOLE RUNS of the pipeline model (`Model.Pipeline`: reweight → resample →
  accept/reject → commit, tied to real runs by C01's trace-replay suite): what one `iterate` records is what the resampling routines
  return (`C06_pipeline_iterate`, `C06_pipeline_count_law`), and every output of a run was produced by one `iterate` from a prefix of
  the final history (`runIters_steps`), which carries both to every iteration of every run.
-/
namespace Props.C06
open Model.Pipeline Model.Resample Model.Records Model.Reweight

/-- **one iteration of the pipeline model, every scalar type**: the index vector it records consists of valid pool indices;
    with the systematic scheme it is empty (warm-up) or has `n_particles` non-decreasing entries; with the multinomial scheme it
    has one entry per uniform on the tape. -/
theorem C06_pipeline_iterate {α : Type} [ScT α] (cfg : PCfg α) (s : PState α) (t : Tape α) (s1 : PState α) (o : IterOut α)
    (h : iterate cfg s t = some (s1, o)) :
    (∀ r ∈ o.idx, r < (poolTags s.hist).length) ∧
    (cfg.syst = true → o.idx = [] ∨ (o.idx.length = cfg.rw.nPart ∧ o.idx.Pairwise (· ≤ ·))) ∧
    (cfg.syst = false → o.idx = [] ∨ o.idx.length = t.resU.length) := by
  obtain ⟨-, l, -, -, rfl⟩ | ⟨-, idx, tg, l, hidx, htg, -, -, rfl⟩ := Lemmas.Pipeline.iterate_some h _ rfl
  · exact ⟨by simp, fun _ => Or.inl rfl, fun _ => Or.inl rfl⟩
  · refine ⟨gather?_range htg, fun hs => .inr ?_, fun hs => .inr ?_⟩
    · obtain ⟨-, u0, -, hsys⟩ | ⟨hf, -⟩ := Lemmas.Pipeline.resampleIdx_some hidx
      · exact ⟨C06_syst_length _ _ _ _ _ hsys, C06_syst_monotone _ _ _ _ _ hsys⟩
      · rw [hs] at hf; cases hf
    · obtain ⟨ht, -⟩ | ⟨-, hm⟩ := Lemmas.Pipeline.resampleIdx_some hidx
      · rw [hs] at ht; cases ht
      · exact C06_mult_length _ _ _ hm

theorem runIters_steps {α : Type} [ScT α] (cfg : PCfg α) (ts : List (Tape α)) :
    ∀ (s sf : PState α) (os : List (IterOut α)), runIters cfg s ts = some (sf, os) →
      ∀ o ∈ os, ∃ (sk s' : PState α) (t : Tape α), t ∈ ts ∧ iterate cfg sk t = some (s', o) ∧
        (∃ e1 e2, sk.hist = s.hist ++ e1 ∧ sf.hist = sk.hist ++ e2) := by
  intro s sf os h o ho
  obtain ⟨ts1, t, ts2, os1, os2, s0, s1, rfl, -, h1, hi, h2⟩ := (Lemmas.Pipeline.runIters_iff_steps.mp h).split ho
  obtain ⟨e1, he1, -⟩ := Lemmas.Pipeline.runIters_hist cfg _ _ _ _ (Lemmas.Pipeline.runIters_iff_steps.mpr h1)
  obtain ⟨e2, he2, -⟩ := Lemmas.Pipeline.runIters_hist cfg _ _ _ _ (Lemmas.Pipeline.runIters_iff_steps.mpr (.cons hi h2))
  exact ⟨s0, s1, t, List.mem_append_right _ List.mem_cons_self, hi, e1, e2, he1, he2⟩

theorem poolTags_append {α : Type} (a b : List (PBatch α)) : poolTags (a ++ b) = poolTags a ++ poolTags b := by
  simp [poolTags]

/-- **every iteration of every run, every scalar type**: the recorded indices point into the pool as it was before that
    iteration (a prefix of the final pool); systematic: `n_particles` non-decreasing indices or none (warm-up) -/
theorem C06_pipeline_run {α : Type} [ScT α] (cfg : PCfg α) (ts : List (Tape α)) (s sf : PState α) (os : List (IterOut α))
    (h : runIters cfg s ts = some (sf, os)) :
    ∀ o ∈ os, (∃ pre post, sf.hist = pre ++ post ∧ ∀ r ∈ o.idx, r < (poolTags pre).length) ∧
      (∀ r ∈ o.idx, r < (poolTags sf.hist).length) ∧
      (cfg.syst = true → o.idx = [] ∨ (o.idx.length = cfg.rw.nPart ∧ o.idx.Pairwise (· ≤ ·))) := by
  intro o ho
  obtain ⟨sk, s', t, _, hit, e1, e2, _, h2⟩ := runIters_steps cfg ts s sf os h o ho
  obtain ⟨hr, hs, _⟩ := C06_pipeline_iterate cfg sk t s' o hit
  refine ⟨⟨sk.hist, e2, h2, hr⟩, ?_, hs⟩
  intro r hr'
  have := hr r hr'
  rw [h2, poolTags_append, List.length_append]
  omega

/-! ### the count law inside the pipeline (ℝ) -/

theorem oracleM_pos (h : List (Model.Weights.Batch ℝ)) (β : ℝ) : ∀ x ∈ (oracleM h β).1, 0 < x := by
  intro x hx
  cases hl : (Model.Weights.logw h β true).1 with
  | nil => rw [Lemmas.Pipeline.oracleM_fst_of_nil hl] at hx; cases hx
  | cons y ys =>
    rw [Lemmas.Pipeline.oracleM_fst_of_cons hl] at hx
    obtain ⟨v, _, rfl⟩ := List.mem_map.mp hx
    exact Real.exp_pos _

/-- **annealing iteration, systematic scheme**: copies of pool particle `j` are `⌊n·w_j/Σw⌋` or `⌈n·w_j/Σw⌉`, where `w` are the
    pool weights at the temperature the iteration reports; the offset is any value in `[0,1)`. -/
theorem C06_pipeline_count_law (cfg : PCfg ℝ) (s : PState ℝ) (t : Tape ℝ) (s1 : PState ℝ) (o : IterOut ℝ)
    (hne : s.hist ≠ []) (h : iterate cfg s t = some (s1, o)) (hb : o.beta ≠ 0) (hsy : cfg.syst = true)
    (hn : 1 ≤ cfg.rw.nPart) (hu : ∀ u ∈ t.resU, 0 ≤ u ∧ u < 1) :
    ∀ (j : ℕ) (hj : j < (oracleM (batches s.hist) o.beta).1.length),
      (o.idx.count j : ℤ) = ⌊cfg.rw.nPart * ((oracleM (batches s.hist) o.beta).1[j] / (oracleM (batches s.hist) o.beta).1.sum)⌋ ∨
      (o.idx.count j : ℤ) = ⌈cfg.rw.nPart * ((oracleM (batches s.hist) o.beta).1[j] / (oracleM (batches s.hist) o.beta).1.sum)⌉ := by
  obtain ⟨_, _, hres⟩ := Props.C01.C01_pipeline_same_temperature cfg s t s1 o hne h
  obtain ⟨hres, _⟩ := hres hb
  set w := (oracleM (batches s.hist) o.beta).1
  intro j hj
  have hpos : ∀ x ∈ w, 0 < x := oracleM_pos _ _
  have hw0 : ∀ x ∈ w, 0 ≤ x := fun x hx => (hpos x hx).le
  have hs : 0 < w.sum := List.sum_pos w hpos (List.ne_nil_of_length_pos (Nat.zero_lt_of_lt hj))
  rw [Props.C01.resampled_eq] at hres
  obtain ⟨-, u0, hu0, hsys⟩ | ⟨hf, -⟩ := Lemmas.Pipeline.resampleIdx_some hres
  · have hu0' := hu u0 (by rw [hu0]; exact List.mem_singleton_self u0)
    rw [Model.Ess.normalise_def] at hsys
    exact floor_ceil_normalised cfg.rw.nPart w u0 o.idx hn hw0 hs hu0'.1 hu0'.2 hsys j hj
  · rw [hsy] at hf; cases hf

/-- **every annealing iteration of every run** obeys the literal floor/ceil law with respect to the pool it resampled from -/
theorem C06_pipeline_run_count_law (cfg : PCfg ℝ) (ts : List (Tape ℝ)) (sf : PState ℝ) (os : List (IterOut ℝ))
    (h : runIters cfg init ts = some (sf, os)) (hsy : cfg.syst = true) (hn : 1 ≤ cfg.rw.nPart)
    (hu : ∀ t ∈ ts, ∀ u ∈ t.resU, 0 ≤ u ∧ u < 1) :
    ∀ o ∈ os, o.beta ≠ 0 → ∃ pre post, sf.hist = pre ++ post ∧
      ∀ (j : ℕ) (hj : j < (oracleM (batches pre) o.beta).1.length),
        (o.idx.count j : ℤ) = ⌊cfg.rw.nPart * ((oracleM (batches pre) o.beta).1[j] / (oracleM (batches pre) o.beta).1.sum)⌋ ∨
        (o.idx.count j : ℤ) = ⌈cfg.rw.nPart * ((oracleM (batches pre) o.beta).1[j] / (oracleM (batches pre) o.beta).1.sum)⌉ := by
  intro o ho hb
  obtain ⟨sk, s', t, ht, hit, e1, e2, _, h2⟩ := runIters_steps cfg ts init sf os h o ho
  have hne : sk.hist ≠ [] := fun he => hb ((Lemmas.Pipeline.iterate_beta_of_hist_nil hit he).trans ScReal.zero_def)
  exact ⟨sk.hist, e2, h2, C06_pipeline_count_law cfg sk t s' o hne hit hb hsy hn (hu t ht)⟩

/-- non-vacuity: the two-iteration run `Lemmas.PipelineShift.Ex` of `Lemmas/PipelineEx.lean` (warm-up, then one annealing iteration with `n = 2` on the
    pool weights `[1, 1]`): every recorded index is a valid index of the final pool -/
example : ∀ o ∈ [(⟨0, 1, 0, 0, [], [], Branch.firstIter⟩ : IterOut ℝ),
      ⟨1, 2, Lemmas.PipelineShift.Ex.z1, Lemmas.PipelineShift.Ex.z1, [0, 1], [[true, false]], Branch.essUpper⟩],
    (∀ r ∈ o.idx, r < (poolTags Lemmas.PipelineShift.Ex.s2.hist).length) :=
  fun o ho => ((C06_pipeline_run Lemmas.PipelineShift.Ex.cfgEx [Lemmas.PipelineShift.Ex.t1, Lemmas.PipelineShift.Ex.t2] init
    Lemmas.PipelineShift.Ex.s2 _ Lemmas.PipelineShift.Ex.run2) o ho).2.1

/-- … and the second (annealing) iteration of that run obeys the count law with respect to a prefix of the final history: both
    pool particles are copied exactly `2·(1/2) = 1` times -/
example : ∃ pre post, Lemmas.PipelineShift.Ex.s2.hist = pre ++ post ∧
    ∀ (j : ℕ) (hj : j < (oracleM (batches pre) (1:ℝ)).1.length),
      ((([0, 1] : List ℕ).count j : ℕ) : ℤ) = ⌊((2:ℕ):ℝ) * ((oracleM (batches pre) (1:ℝ)).1[j] / (oracleM (batches pre) (1:ℝ)).1.sum)⌋ ∨
      ((([0, 1] : List ℕ).count j : ℕ) : ℤ) = ⌈((2:ℕ):ℝ) * ((oracleM (batches pre) (1:ℝ)).1[j] / (oracleM (batches pre) (1:ℝ)).1.sum)⌉ :=
  C06_pipeline_run_count_law Lemmas.PipelineShift.Ex.cfgEx [Lemmas.PipelineShift.Ex.t1, Lemmas.PipelineShift.Ex.t2]
    Lemmas.PipelineShift.Ex.s2 _ Lemmas.PipelineShift.Ex.run2 rfl (by simp [Lemmas.PipelineShift.Ex.cfgEx])
    (by
      intro t ht u hu
      simp at ht
      rcases ht with rfl | rfl
      · simp [Lemmas.PipelineShift.Ex.t1] at hu
      · simp [Lemmas.PipelineShift.Ex.t2] at hu; subst hu; norm_num)
    ⟨1, 2, Lemmas.PipelineShift.Ex.z1, Lemmas.PipelineShift.Ex.z1, [0, 1], [[true, false]], Branch.essUpper⟩
    (by simp) (by norm_num)

end Props.C06
