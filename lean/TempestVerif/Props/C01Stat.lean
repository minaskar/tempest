import TempestVerif.Lemmas.MIS
import TempestVerif.Lemmas.ProdLaw
import Mathlib.Algebra.BigOperators.Ring.Finset
import Mathlib.Data.Fintype.BigOperators
/-
  C01 — finite-N statistical facts about the persistent-sampling estimator on a finite state space: what is EXACTLY unbiased at finite N
  (averages over i.i.d. draws — product law on `Fin n → Ω`, `Lemmas/ProdLaw.lean` — hence the warm-up pool) and what is not (a recorded
  normaliser that is an estimate, self-normalised resampling, label kernels that cross labels, trimming), with worked instances in exact
  arithmetic.
-/
namespace Props.C01

section helpers
variable {ι Ω : Type} [Fintype ι] [DecidableEq ι] [Fintype Ω]

theorem stat_prod_law_total (p : Ω → ℝ) (hp1 : ∑ ω, p ω = 1) : ∑ x : ι → Ω, ∏ i, p (x i) = 1 :=
  Lemmas.ProdLaw.total p hp1

end helpers

/-! ### finite-N unbiasedness of an i.i.d. average -/

/-- the average of `g` over `n` i.i.d. draws from `p` has expectation EXACTLY `E_p g`, for every finite `n > 0` -/
theorem C01_iid_mean_unbiased {Ω : Type} [Fintype Ω] (p : Ω → ℝ) (hp1 : ∑ x, p x = 1)
    (n : ℕ) (hn : 0 < n) (g : Ω → ℝ) :
    ∑ x : Fin n → Ω, (∏ i, p (x i)) * ((1 / (n : ℝ)) * ∑ i, g (x i)) = ∑ ω, p ω * g ω :=
  Lemmas.ProdLaw.mean_unbiased p hp1 g n hn

example : ∑ x : Fin 3 → Fin 2, (∏ i, (![1/3, 2/3] : Fin 2 → ℝ) (x i)) *
      ((1 / ((3 : ℕ) : ℝ)) * ∑ i, (![5, -1] : Fin 2 → ℝ) (x i)) = 1 := by
  rw [C01_iid_mean_unbiased _ (by norm_num [Fin.sum_univ_two]) 3 (by norm_num)]
  norm_num [Fin.sum_univ_two]

/-! ### the warm-up pool: exact finite-N unbiasedness -/

/-- warm-up pool (`N = k·n` i.i.d. prior draws, every stored `β_t = 0`, `logz_t = 0`, so the unnormalised weight at
    target `β` is `L^β`): the weighted average is EXACTLY unbiased for `Σ γ_β f` at every finite `N > 0` -/
theorem C01_warmup_pool_unbiased {Ω : Type} [Fintype Ω] (p : Ω → ℝ) (hp1 : ∑ x, p x = 1) (L f : Ω → ℝ) (β : ℝ)
    (N : ℕ) (hN : 0 < N) :
    ∑ x : Fin N → Ω, (∏ i, p (x i)) * ((1 / (N : ℝ)) * ∑ i, f (x i) * L (x i) ^ β)
      = ∑ ω, Lemmas.MIS.gam p L β ω * f ω := by
  rw [C01_iid_mean_unbiased p hp1 N hN (fun ω => f ω * L ω ^ β)]
  refine Finset.sum_congr rfl fun ω _ => ?_
  simp only [Lemmas.MIS.gam]
  ring

/-- … in particular the mean warm-up weight is exactly unbiased for the evidence `Z_β` -/
theorem C01_warmup_evidence_unbiased {Ω : Type} [Fintype Ω] (p : Ω → ℝ) (hp1 : ∑ x, p x = 1) (L : Ω → ℝ) (β : ℝ)
    (N : ℕ) (hN : 0 < N) :
    ∑ x : Fin N → Ω, (∏ i, p (x i)) * ((1 / (N : ℝ)) * ∑ i, L (x i) ^ β) = Lemmas.MIS.Zf p L β :=
  C01_iid_mean_unbiased p hp1 N hN fun ω => L ω ^ β

/-! ### an ESTIMATED normaliser destroys exact unbiasedness (worked instance, exact arithmetic) -/

noncomputable def pSt : Fin 2 → ℝ := ![1/3, 2/3]
noncomputable def LSt : Fin 2 → ℝ := ![1, 2]
/-- the posterior `π₁ = p·L/Z = (1/5, 4/5)` -/
noncomputable def pi1St : Fin 2 → ℝ := ![1/5, 4/5]
/-- the recorded normaliser of batch 1 when it is the mean weight of batch 0 at `β = 1` -/
noncomputable def z1St (x0 : Fin 2 → Fin 2) : ℝ := (1 / 2) * ∑ i, LSt (x0 i)
/-- mixture-importance weight at target `β = 1`, two batches of equal size, `β₀ = 0` (normaliser 1), `β₁ = 1`
    (recorded normaliser `z`) -/
noncomputable def WSt (z : ℝ) (ω : Fin 2) : ℝ := LSt ω / ((1 / 2) * 1 + (1 / 2) * (LSt ω / z))
/-- evidence estimate: mean weight over the pool of `2 + 2` particles -/
noncomputable def ZhatSt (z : ℝ) (x0 x1 : Fin 2 → Fin 2) : ℝ :=
  (1 / 4) * (∑ i, WSt z (x0 i) + ∑ i, WSt z (x1 i))

theorem pSt_sum : ∑ x, pSt x = 1 := by norm_num [pSt, Fin.sum_univ_two]

theorem Zf_St : Lemmas.MIS.Zf pSt LSt 1 = 5 / 3 := by
  norm_num [Lemmas.MIS.Zf, Lemmas.MIS.gam, pSt, LSt, Fin.sum_univ_two]

theorem pi1St_eq : pi1St = Lemmas.MIS.piB pSt LSt 1 := by
  funext x
  rw [Lemmas.MIS.piB, Zf_St]
  fin_cases x <;> norm_num [Lemmas.MIS.gam, pSt, LSt, pi1St]

example : ∑ x : Fin (2 * 2) → Fin 2, (∏ i, pSt (x i)) *
      ((1 / ((2 * 2 : ℕ) : ℝ)) * ∑ i, (![3, -1] : Fin 2 → ℝ) (x i) * LSt (x i) ^ (2 : ℝ)) = -5 / 3 := by
  rw [C01_warmup_pool_unbiased pSt pSt_sum LSt _ 2 (2 * 2) (by norm_num)]
  norm_num [Lemmas.MIS.gam, pSt, LSt, Fin.sum_univ_two]

example : ∑ x : Fin (2 * 2) → Fin 2, (∏ i, pSt (x i)) * ((1 / ((2 * 2 : ℕ) : ℝ)) * ∑ i, LSt (x i) ^ (1 : ℝ))
    = 5 / 3 := by
  rw [C01_warmup_evidence_unbiased pSt pSt_sum LSt 1 (2 * 2) (by norm_num), Zf_St]

theorem WSt_is_model_weight (z : ℝ) (ω : Fin 2) :
    WSt z ω = Lemmas.MIS.mfW LSt [⟨2, 0, pSt, 1⟩, ⟨2, 1, pi1St, z⟩] 1 ω := by
  simp only [WSt, Lemmas.MIS.mfW, Lemmas.MIS.mfDen, Lemmas.MIS.poolN, List.map_cons, List.map_nil, List.sum_cons,
    List.sum_nil, Real.rpow_zero, Real.rpow_one]
  norm_num

theorem sum_fin2_fun (F : (Fin 2 → Fin 2) → ℝ) :
    ∑ x, F x = F ![0, 0] + F ![0, 1] + F ![1, 0] + F ![1, 1] := by
  rw [← (finTwoArrowEquiv (Fin 2)).symm.sum_comp, Fintype.sum_prod_type, Fin.sum_univ_two, Fin.sum_univ_two,
    Fin.sum_univ_two]
  simp only [finTwoArrowEquiv_symm_apply]
  ring

/-- the expectation over batch 1 (i.i.d. from `π₁`) is taken first; the recorded normaliser `z` may depend on batch 0 -/
theorem ZhatSt_mean (z : (Fin 2 → Fin 2) → ℝ) :
    ∑ x0 : Fin 2 → Fin 2, ∑ x1 : Fin 2 → Fin 2, (∏ i, pSt (x0 i)) * (∏ i, pi1St (x1 i)) * ZhatSt (z x0) x0 x1
      = ∑ x0 : Fin 2 → Fin 2, (∏ i, pSt (x0 i)) * ((1 / 4) * (∑ i, WSt (z x0) (x0 i))
          + (1 / 2) * ((1 / 5) * WSt (z x0) 0 + (4 / 5) * WSt (z x0) 1)) := by
  refine Finset.sum_congr rfl fun x0 _ => ?_
  rw [sum_fin2_fun]
  simp only [ZhatSt, Fin.sum_univ_two, Fin.prod_univ_two, Matrix.cons_val_zero, Matrix.cons_val_one, pi1St]
  ring

/-- FAILURE of exact finite-N unbiasedness with an estimated normaliser: fixed schedule `β = 0, 1`, a perfectly
    mixing kernel (batch 1 i.i.d. from `π₁`), but the recorded normaliser of batch 1 is the estimate `z1St x0`;
    the expected evidence estimate is `7877/4725`, not `Z = 5/3 = 7875/4725` -/
theorem C01_estimated_normaliser_biased :
    ∑ x0 : Fin 2 → Fin 2, ∑ x1 : Fin 2 → Fin 2,
      (∏ i, pSt (x0 i)) * (∏ i, pi1St (x1 i)) * ZhatSt (z1St x0) x0 x1 = 7877 / 4725 := by
  rw [ZhatSt_mean z1St, sum_fin2_fun]
  simp only [z1St, WSt, Fin.sum_univ_two, Fin.prod_univ_two, Matrix.cons_val_zero, Matrix.cons_val_one, pSt, LSt]
  norm_num

/-- … hence the estimator is biased (here: high by `2/4725`) -/
theorem C01_estimated_normaliser_biased_ne :
    ∑ x0 : Fin 2 → Fin 2, ∑ x1 : Fin 2 → Fin 2,
      (∏ i, pSt (x0 i)) * (∏ i, pi1St (x1 i)) * ZhatSt (z1St x0) x0 x1 ≠ Lemmas.MIS.Zf pSt LSt 1 := by
  rw [C01_estimated_normaliser_biased, Zf_St]
  norm_num

/-- companion: with the EXACT normaliser `Z₁ = 5/3` recorded for batch 1 the same expectation is exactly `Z₁ = 5/3`
    (an instance of the general identity `C01_mis_unbiased`), so the bias above is caused by the estimated normaliser
    alone -/
theorem C01_exact_normaliser_unbiased_instance :
    ∑ x0 : Fin 2 → Fin 2, ∑ x1 : Fin 2 → Fin 2,
      (∏ i, pSt (x0 i)) * (∏ i, pi1St (x1 i)) * ZhatSt (5 / 3) x0 x1 = 5 / 3 := by
  rw [ZhatSt_mean fun _ => 5 / 3, sum_fin2_fun]
  simp only [WSt, Fin.sum_univ_two, Fin.prod_univ_two, Matrix.cons_val_zero, Matrix.cons_val_one, pSt, LSt]
  norm_num

/-! ### self-normalised resampling is not exactly target-distributed at finite N -/

/-- with `n = 1` the self-normalised weight of the single prior draw is 1, so the resampled particle IS the prior
    draw: it sits at state `1` with probability `p 1 = 2/3`, whereas the target has `π₁ 1 = 4/5` -/
theorem C01_resampled_law_not_target :
    ∑ x0 : Fin 1 → Fin 2, (∏ i, pSt (x0 i)) * (if x0 0 = 1 then (1 : ℝ) else 0) = 2 / 3
      ∧ Lemmas.MIS.piB pSt LSt 1 1 = 4 / 5 := by
  constructor
  · have h := Lemmas.ProdLaw.coord (ι := Fin 1) pSt pSt_sum (fun ω => if ω = 1 then (1 : ℝ) else 0) 0
    rw [h]
    norm_num [Fin.sum_univ_two, pSt]
  · rw [← pi1St_eq]
    norm_num [pi1St]

theorem C01_resampled_law_not_target_ne :
    ∑ x0 : Fin 1 → Fin 2, (∏ i, pSt (x0 i)) * (if x0 0 = 1 then (1 : ℝ) else 0) ≠ Lemmas.MIS.piB pSt LSt 1 1 := by
  rw [C01_resampled_law_not_target.1, C01_resampled_law_not_target.2]
  norm_num

/-! ### the cluster-label kernel -/

/-- each walker uses the kernel of the cluster LABEL of its starting point.  If every per-label kernel is π-reversible
    and never leaves its own label, the composite kernel `x ↦ K (ℓ x) x ·` is π-reversible -/
theorem C01_label_kernel_reversible_of_no_crossing {Ω C : Type} (π : Ω → ℝ) (ℓ : Ω → C) (K : C → Ω → Ω → ℝ)
    (hrev : ∀ c x y, π x * K c x y = π y * K c y x)
    (hnc : ∀ c x y, ℓ x = c → ℓ y ≠ c → K c x y = 0) (x y : Ω) :
    π x * K (ℓ x) x y = π y * K (ℓ y) y x := by
  by_cases h : ℓ y = ℓ x
  · rw [h]; exact hrev _ x y
  · rw [hnc (ℓ x) x y rfl h, hnc (ℓ y) y x rfl (Ne.symm h)]
    simp

theorem C01_label_kernel_invariant_of_no_crossing {Ω C : Type} [Fintype Ω] (π : Ω → ℝ) (ℓ : Ω → C)
    (K : C → Ω → Ω → ℝ) (hrev : ∀ c x y, π x * K c x y = π y * K c y x)
    (hnc : ∀ c x y, ℓ x = c → ℓ y ≠ c → K c x y = 0) (hrow : ∀ x, ∑ y, K (ℓ x) x y = 1) :
    Lemmas.MIS.Invariant π (fun x y => K (ℓ x) x y) :=
  .of_reversible (C01_label_kernel_reversible_of_no_crossing π ℓ K hrev hnc) hrow

/-! non-vacuity: three states, labels `(0,0,1)`, `π = (1/8, 3/8, 1/2)`; the kernel of label 0 redraws inside `{0,1}` from
    the conditional law `(1/4, 3/4)` and holds state 2; the kernel of label 1 holds everything -/

noncomputable def piLab : Fin 3 → ℝ := ![1/8, 3/8, 1/2]
def lLab : Fin 3 → Fin 2 := ![0, 0, 1]
noncomputable def KLab : Fin 2 → Fin 3 → Fin 3 → ℝ :=
  ![![![1/4, 3/4, 0], ![1/4, 3/4, 0], ![0, 0, 1]], ![![1, 0, 0], ![0, 1, 0], ![0, 0, 1]]]

theorem KLab_rev : ∀ c x y, piLab x * KLab c x y = piLab y * KLab c y x := by
  -- the statement is symmetric in `x`, `y`: the table is checked above the diagonal only
  have h : ∀ c x y, x < y → piLab x * KLab c x y = piLab y * KLab c y x := by
    intro c x y hxy
    fin_cases c <;> fin_cases x <;> fin_cases y <;>
      first
      | exact absurd hxy (by decide)
      | (show _ * (0 : ℝ) = _ * (0 : ℝ); rw [mul_zero, mul_zero])
      | (show (1 / 8 : ℝ) * (3 / 4) = 3 / 8 * (1 / 4); norm_num)
  intro c x y
  rcases lt_trichotomy x y with h1 | rfl | h1
  · exact h c x y h1
  · rfl
  · exact (h c y x h1).symm

theorem KLab_no_crossing : ∀ c x y, lLab x = c → lLab y ≠ c → KLab c x y = 0 := by
  intro c x y hx hy
  subst hx
  fin_cases x <;> fin_cases y <;> first | exact (hy rfl).elim | rfl

theorem KLab_rows : ∀ x, ∑ y, KLab (lLab x) x y = 1 := by
  intro x
  rw [Fin.sum_univ_three]
  fin_cases x
  · show (1 / 4 : ℝ) + 3 / 4 + 0 = 1; norm_num
  · show (1 / 4 : ℝ) + 3 / 4 + 0 = 1; norm_num
  · show (0 : ℝ) + 0 + 1 = 1; norm_num

example : Lemmas.MIS.Invariant piLab (fun x y => KLab (lLab x) x y) :=
  C01_label_kernel_invariant_of_no_crossing piLab lLab KLab KLab_rev KLab_no_crossing KLab_rows

/-- the label-0 kernel really moves mass: the instance is not the identity -/
example : KLab (lLab 0) 0 1 = 3 / 4 := by norm_num [lLab, KLab]

/-! WITHOUT the no-crossing hypothesis invariance can fail: two states, uniform π, label = state, label 0 uses the
    identity kernel, label 1 the swap kernel -/

noncomputable def piX : Fin 2 → ℝ := ![1/2, 1/2]
noncomputable def KX : Fin 2 → Fin 2 → Fin 2 → ℝ := fun c x y =>
  if c = 0 then (if x = y then 1 else 0) else (if x = y then 0 else 1)

/-- the label-indexed composite of π-reversible kernels need NOT leave π invariant when a kernel can move a walker
    out of its label (the caveat of clustering: labels are frozen during the mutation): both per-label kernels are
    π-reversible with stochastic rows, yet all the mass flows to state 0 under the composite -/
theorem C01_label_kernel_not_invariant :
    (∀ c x y, piX x * KX c x y = piX y * KX c y x) ∧ (∀ c x, ∑ y, KX c x y = 1) ∧
    ∑ x, piX x * KX (id x) x 0 = 1 ∧ piX 0 = 1 / 2 ∧
    ¬ Lemmas.MIS.Invariant piX (fun x y => KX (id x) x y) := by
  have hpi : ∀ z, piX z = 1 / 2 := fun z => by fin_cases z <;> rfl
  have hflow : ∑ x, piX x * KX (id x) x 0 = 1 := by
    rw [Fin.sum_univ_two]
    show (1 / 2 : ℝ) * 1 + 1 / 2 * 1 = 1
    norm_num
  refine ⟨fun c x y => ?_, fun c x => ?_, hflow, hpi 0, fun h => ?_⟩
  · rw [hpi, hpi]
    simp only [KX, @eq_comm _ y x]
  · rw [Fin.sum_univ_two]
    fin_cases c <;> fin_cases x <;> first | exact add_zero 1 | exact zero_add 1
  · have h0 := h 0
    rw [hflow, hpi] at h0
    norm_num at h0

/-! ### trimming: the trimmed self-normalised estimator targets the posterior RESTRICTED to the kept region -/

section restricted
variable {Ω T : Type} [Fintype Ω] [Fintype T]

/-- **what a trimmed, renormalised estimator estimates.**  `a` is the indicator (any non-negative function) of the region of
    state space whose particles are kept — for `trim_weights` the region `{x : w(x) ≥ θ}`, a deterministic set once θ and the
    recorded normalisers are fixed, because the weight is a function of the particle's likelihood.  Under the nominal batch laws
    the numerator and the denominator of the trimmed self-normalised estimator are exactly unbiased for `Σ γ_β·f·a` and
    `Σ γ_β·a`, so the estimator targets `E_π[f·a] / E_π[a] = E_π[f | kept region]` — NOT `E_π[f]`.  The difference is a property
    of the region, not of the particle count: it does not shrink as N grows. -/
theorem C01_trimmed_estimator_targets_restriction (p L : Ω → ℝ) (n bt : T → ℝ) (β : ℝ) (f a : Ω → ℝ)
    (hp : ∀ x, 0 ≤ p x) (hp1 : ∃ x, 0 < p x) (hL : ∀ x, 0 < L x) (hn : ∀ t, 0 ≤ n t) (hN : 0 < ∑ s, n s) :
    (∑ t, (n t / ∑ s, n s) * ∑ x, Lemmas.MIS.piB p L (bt t) x * ((f x * a x) * Lemmas.MIS.misW p L n bt β x)) /
      (∑ t, (n t / ∑ s, n s) * ∑ x, Lemmas.MIS.piB p L (bt t) x * (a x * Lemmas.MIS.misW p L n bt β x))
      = (∑ x, Lemmas.MIS.piB p L β x * (f x * a x)) / (∑ x, Lemmas.MIS.piB p L β x * a x) := by
  have hden : ∀ x, p x ≠ 0 → Lemmas.MIS.den p L n bt x ≠ 0 := fun x _ =>
    (Lemmas.MIS.den_pos p L n bt hn hN hL (fun t => Lemmas.MIS.Zf_pos p L hp hp1 hL (bt t)) x).ne'
  rw [Lemmas.MIS.mis_core p L n bt β (fun x => f x * a x) hden, Lemmas.MIS.mis_core p L n bt β a hden]
  have hZ : Lemmas.MIS.Zf p L β ≠ 0 := (Lemmas.MIS.Zf_pos p L hp hp1 hL β).ne'
  rw [Lemmas.MIS.sum_piB_mul, Lemmas.MIS.sum_piB_mul, div_div_div_cancel_right₀ hZ]

/-- keeping only the high-weight point (`a = 𝟙{1}`), `f = (10, 0)`: the trimmed estimator targets 0, the posterior expectation is 2 -/
example : (∑ x, Lemmas.MIS.piB pSt LSt 1 x * ((![10, 0] : Fin 2 → ℝ) x * (![0, 1] : Fin 2 → ℝ) x)) /
      (∑ x, Lemmas.MIS.piB pSt LSt 1 x * (![0, 1] : Fin 2 → ℝ) x) = 0 ∧
    ∑ x, Lemmas.MIS.piB pSt LSt 1 x * (![10, 0] : Fin 2 → ℝ) x = 2 := by
  rw [← pi1St_eq]
  constructor <;> norm_num [pi1St, Fin.sum_univ_two]

example (n bt : Fin 2 → ℝ) (hn : ∀ t, 0 ≤ n t) (hN : 0 < ∑ s, n s) (f a : Fin 2 → ℝ) :=
  C01_trimmed_estimator_targets_restriction pSt LSt n bt 1 f a
    (by intro x; fin_cases x <;> norm_num [pSt]) ⟨0, by norm_num [pSt]⟩ (by intro x; fin_cases x <;> norm_num [LSt]) hn hN

end restricted

end Props.C01
