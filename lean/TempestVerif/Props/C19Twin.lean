import TempestVerif.Props.C19Nu
import TempestVerif.Lemmas.GaussJordan
import TempestVerif.Lemmas.VecOfFn
/-
  C19 — the executable model IS the matrix model.

  `Props/C19.lean` states its theorems about a matrix-level rendering (`Props.C19.loop`, `fit`, Mathlib matrices) of
  `fit_mvstud`; the executable list twin is `Model/Student.lean` + `Model/StudentNu.lean` (the definitions the driver runs
  against the Python).  `C19_twin_fit`: with no hypothesis, at `ℝ`, `Model.Student.fitF` (initialisation with the modelled
  median, the loop with the modelled `opt_nu`/bisect, the Gauss–Jordan solve and positive-definiteness test) on the list form
  (`colsOf`, `vecOf`, `matOf`) of ANY data set with `n ≥ 2` returns exactly the list form of the matrix-level trace; the
  Gauss–Jordan inverse is the inverse on positive definite matrices and fails on the other positive semidefinite ones
  (`Lemmas/GaussJordan.lean`).  Consequently `C19_fitF_wellposed` and `C19_fitF_equivariant` are statements about the executed
  definitions themselves.  `C19_twin_step` is the one-iteration form for `Model.Student.step` with that fact as a hypothesis;
  the loop theorems do not go through it (`loopF` does not call `step`).
-/
namespace Props.C19
open Matrix Model.Student Lemmas.VecOfFn
variable {d n : ℕ}

/-! ### one iteration of the twin (evaluated at `ℝ`) -/

def colsOf (x : Fin n → Fin d → ℝ) : List (List ℝ) := List.ofFn fun a => List.ofFn fun i => x i a
def vecOf {m : ℕ} (v : Fin m → ℝ) : List ℝ := List.ofFn v
def matOf (M : Matrix (Fin d) (Fin d) ℝ) : List (List ℝ) := List.ofFn fun a => List.ofFn fun b => M a b

theorem colsOf_length (x : Fin n → Fin d → ℝ) : (colsOf x).length = d := by simp [colsOf]

theorem twin_diffs (x : Fin n → Fin d → ℝ) (μ : Fin d → ℝ) :
    diffs (colsOf x) (vecOf μ) = List.ofFn fun a => List.ofFn fun i => x i a - μ a := by
  unfold diffs colsOf vecOf
  rw [zipWith_ofFn]
  simp only [List.map_ofFn, Function.comp_def, ScReal.sub_def]

theorem twin_deltas (x : Fin n → Fin d → ℝ) (μ : Fin d → ℝ) (S : Matrix (Fin d) (Fin d) ℝ) :
    deltas n (diffs (colsOf x) (vecOf μ)) (matOf S⁻¹) = List.ofFn (delta x μ S) := by
  rw [twin_diffs]
  unfold deltas matOf
  simp only [List.map_ofFn, Function.comp_def, lincomb_ofFn]
  have h1 : (fun a : Fin d => vmul (List.ofFn fun i => x i a - μ a) (List.ofFn fun i => ∑ j, S⁻¹ a j * (x i j - μ j)))
      = fun a => List.ofFn fun i => (x i a - μ a) * ∑ j, S⁻¹ a j * (x i j - μ j) :=
    funext fun a => zipWith_ofFn _ _ _
  rw [zipWith_ofFn, h1, foldl_vadd_zero_ofFn]
  rfl

theorem twin_weights (ν : ℝ) (δ : Fin n → ℝ) :
    weights d ν (List.ofFn δ) = List.ofFn fun i => weight d ν (δ i) := by
  rw [weights, List.map_ofFn]; rfl

theorem twin_update (x : Fin n → Fin d → ℝ) (μ : Fin d → ℝ) (w : Fin n → ℝ) :
    Model.Student.update n (colsOf x) (diffs (colsOf x) (vecOf μ)) (List.ofFn w)
      = (⟨vecOf (muNext x w), matOf (sigmaNext x μ w)⟩ : Model.Student.State ℝ) := by
  rw [twin_diffs]
  unfold Model.Student.update colsOf vecOf matOf
  simp only [List.map_ofFn, Function.comp_def, vmul, zipWith_ofFn, dot, sc_sum_ofFn, ScReal.mul_def,
    ScReal.div_def, ScReal.ofNat_def]
  congr 1
  · exact congrArg _ (funext fun a => (muNext_apply x w a).symm)
  · refine congrArg _ (funext fun a => congrArg _ (funext fun b => ?_))
    simp only [sigmaNext, Matrix.smul_apply, Matrix.sum_apply, vecMulVec_apply, Pi.sub_apply, smul_eq_mul,
      div_eq_inv_mul, mul_assoc, one_mul]

/-- **link to the executable twin.**  One iteration of `Model.Student` at `ℝ` on the list form of the data is the
    matrix iteration `Props.C19.update`, whenever the twin's Gauss–Jordan inverse of `Σ` is `Σ⁻¹`
    (the counterpart of trusting `np.linalg.solve`). -/
theorem C19_twin_step (x : Fin n → Fin d → ℝ) (s : St d) (ν : ℝ)
    (hinv : Model.Student.inv (matOf s.sigma) = some (matOf s.sigma⁻¹)) :
    Model.Student.step n (colsOf x) ⟨vecOf s.mu, matOf s.sigma⟩ ν
      = some ⟨vecOf (update x s ν).mu, matOf (update x s ν).sigma⟩ := by
  unfold Model.Student.step stateDeltas
  simp only [hinv, Option.map_some, twin_deltas]
  rw [colsOf_length, twin_weights, twin_update]
  rfl

theorem matOf_eq (M : Matrix (Fin d) (Fin d) ℝ) : matOf M = Lemmas.GaussJordan.matOf M := rfl

def toL (s : St d) : State ℝ := ⟨vecOf s.mu, matOf s.sigma⟩

/-! ### initialisation -/

theorem center_ofFn (x : Fin n → Fin d → ℝ) (a : Fin d) :
    center (List.ofFn fun i => x i a) = List.ofFn fun i => x i a - colMean x a := by
  rw [center, mean, sc_sum_ofFn, List.length_ofFn, List.map_ofFn]
  rfl

theorem twin_initSigma (x : Fin n → Fin d → ℝ) (hn : 2 ≤ n) :
    Model.Student.initSigma n (colsOf x) = matOf (initSigma x) := by
  have h1 : ((n - 1 : ℕ) : ℝ) = (n : ℝ) - 1 := Nat.cast_pred (Nat.lt_of_lt_of_le two_pos hn)
  unfold Model.Student.initSigma colsOf matOf
  simp only [List.map_ofFn, Function.comp_def, center_ofFn]
  rw [zipIdx_ofFn, List.map_ofFn]
  congr 1
  funext a
  simp only [Function.comp_apply]
  rw [List.map_ofFn]
  congr 1
  funext b
  simp only [Function.comp_apply, dot_ofFn, sc_real, h1]
  simp only [initSigma, covM, varV, of_apply, diagonal_apply]
  have hsq : ∑ i, (x i a - colMean x a) * (x i a - colMean x a) = ∑ i, (x i a - colMean x a) ^ 2 :=
    Finset.sum_congr rfl fun i _ => (sq _).symm
  rw [hsq]
  by_cases hab : a = b
  · rw [if_pos hab, if_pos (beq_iff_eq.mpr (congrArg Fin.val hab))]
  · rw [if_neg hab, if_neg fun h => hab (Fin.ext (beq_iff_eq.mp h))]

theorem mapM_median_colsOf (x : Fin n → Fin d → ℝ) (hn : 0 < n) :
    (colsOf x).mapM median = some (vecOf fun a => medR fun i => x i a) :=
  Lemmas.OptionList.mapM_ofFn_some _ _ _ fun _ => median_ofFn _ hn

theorem twin_init (x : Fin n → Fin d → ℝ) (hn : 2 ≤ n) :
    Model.Student.init n (colsOf x) = some (toL (init medR x)) := by
  unfold Model.Student.init
  have hall : (colsOf x).all (fun c => c.length == n) = true := by
    rw [List.all_eq_true]
    intro c hc
    unfold colsOf at hc
    rw [List.mem_ofFn] at hc
    obtain ⟨a, rfl⟩ := hc
    simp
  have hlt : ¬ n < 2 := not_lt.mpr hn
  simp only [hall, Bool.not_true, Bool.or_false, decide_eq_true_eq, hlt, if_false]
  rw [mapM_median_colsOf x (Nat.lt_of_lt_of_le two_pos hn), twin_initSigma x hn]
  rfl

/-! ### the loop -/

theorem inv_toL_posDef (s : St d) (h : s.sigma.PosDef) :
    Model.Student.inv (toL s).sigma = some (matOf s.sigma⁻¹) :=
  Lemmas.GaussJordan.inv_matOf_posDef _ h

theorem inv_toL_not_posDef (s : St d) (hS : s.sigma.PosSemidef) (hn : ¬ s.sigma.PosDef) :
    Model.Student.inv (toL s).sigma = none :=
  Lemmas.GaussJordan.inv_matOf_none _ hS hn

theorem twin_stateDeltas_pd (x : Fin n → Fin d → ℝ) (s : St d) (hS : s.sigma.PosDef) :
    stateDeltas n (colsOf x) (toL s) = some (List.ofFn (delta x s.mu s.sigma)) := by
  rw [stateDeltas, inv_toL_posDef s hS, Option.map_some]
  exact congrArg some (twin_deltas x s.mu s.sigma)

theorem twin_stateDeltas_singular (x : Fin n → Fin d → ℝ) (s : St d) (hS : s.sigma.PosSemidef) (hn : ¬ s.sigma.PosDef) :
    stateDeltas n (colsOf x) (toL s) = none := by
  rw [stateDeltas, inv_toL_not_posDef s hS hn]; rfl

theorem twin_update_state (x : Fin n → Fin d → ℝ) (s : St d) (ν : ℝ) :
    Model.Student.update n (colsOf x) (diffs (colsOf x) (toL s).mu)
      (weights (colsOf x).length ν (List.ofFn (delta x s.mu s.sigma))) = toL (update x s ν) := by
  rw [colsOf_length, twin_weights]
  unfold toL
  rw [twin_update]
  rfl

/-- **the executable loop is the matrix-level loop** (at `ℝ`, from any state with a positive semidefinite scale matrix):
    same iterates, same returned `ν`; in particular no exception escapes (`loopF` answers `some`) -/
theorem C19_twin_loop (psi : ℝ → ℝ) (tol : ℝ) (x : Fin n → Fin d → ℝ) (k : ℕ) (s : St d)
    (hS : s.sigma.PosSemidef) (ν last : ℝ) :
    ∃ r : Result ℝ, loopF (optNu psi d n) tol n (colsOf x) k (toL s) ν last = some r ∧
      r.iterates = (loop (optNuR psi d n) tol x k s ν last).1.map toL ∧
      r.nu = (loop (optNuR psi d n) tol x k s ν last).2 := by
  induction k generalizing s ν last with
  | zero => exact ⟨_, rfl, rfl, rfl⟩
  | succ k ih =>
    unfold loopF Props.C19.loop
    have hcond : (Sc.lt tol (Sc.abs (Sc.sub last ν)) = true) ↔ tol < |last - ν| := by
      rw [ScReal.lt_def, ScReal.abs_def, ScReal.sub_def]
    by_cases hc : tol < |last - ν|
    · rw [if_pos (hcond.mpr hc), if_pos hc]
      by_cases hpd : s.sigma.PosDef
      · have hu : IsUnit s.sigma.det := (Matrix.isUnit_iff_isUnit_det _).mp hpd.isUnit
        rw [if_pos hu, twin_stateDeltas_pd x s hpd]
        simp only
        have hraise := C19_optNu_never_raises (func0 psi d n (List.ofFn (delta x s.mu s.sigma)))
        cases ho : optNu psi d n (List.ofFn (delta x s.mu s.sigma)) with
        | raise => exact absurd ho hraise
        | fail =>
          rw [optNuR, ho]
          exact ⟨_, rfl, rfl, rfl⟩
        | inf =>
          rw [optNuR, ho]
          exact ⟨_, rfl, rfl, rfl⟩
        | val ν' =>
          have hR : optNuR psi d n (delta x s.mu s.sigma) = .val ν' := by rw [optNuR, ho]
          have hν' : 0 < ν' := (C19_hopt_discharged psi _ ν' hR).1
          rw [hR]
          simp only
          rw [twin_update_state x s ν']
          have hpsd : (update x s ν').sigma.PosSemidef :=
            sigmaNext_posSemidef x s.mu _ fun i => (wts_pos x s hpd hν' i).le
          by_cases hp : (update x s ν').sigma.PosDef
          · rw [if_pos hp, inv_toL_posDef _ hp]
            obtain ⟨r, hr, h1, h2⟩ := ih (update x s ν') hpsd ν' ν
            simp only [hr, Option.map_some]
            exact ⟨_, rfl, congrArg (toL s :: ·) h1, h2⟩
          · rw [if_neg hp, inv_toL_not_posDef _ hpsd hp]
            exact ⟨_, rfl, rfl, rfl⟩
      · have hu : ¬ IsUnit s.sigma.det := fun hu =>
          hpd (hS.posDef_iff_isUnit.mpr ((Matrix.isUnit_iff_isUnit_det _).mpr hu))
        rw [if_neg hu, twin_stateDeltas_singular x s hS hpd]
        exact ⟨_, rfl, rfl, rfl⟩
    · have : ¬ (Sc.lt tol (Sc.abs (Sc.sub last ν)) = true) := fun h => hc (hcond.mp h)
      rw [if_neg this, if_neg hc]
      exact ⟨_, rfl, rfl, rfl⟩

/-- **the executable fit is the matrix-level fit**: for every data set with `n ≥ 2`, every `special.psi`, tolerance and
    iteration limit, `Model.Student.fitF` at `ℝ` on the list form of the data answers (no bad shape, no escaping exception)
    with the list form of the matrix-level trace and the same `ν` -/
theorem C19_twin_fit (psi : ℝ → ℝ) (tol : ℝ) (maxIter : ℕ) (x : Fin n → Fin d → ℝ) (hn : 2 ≤ n) :
    ∃ r : Result ℝ, fitF psi tol maxIter n (colsOf x) = some (some r) ∧
      r.iterates = (fitTrace (optNuR psi d n) medR tol maxIter x).1.map toL ∧
      r.nu = (fitTrace (optNuR psi d n) medR tol maxIter x).2 := by
  unfold fitF fitWith fitTrace
  rw [twin_init x hn, colsOf_length]
  simp only [Option.map_some, ScReal.ofNat_def, ScReal.zero_def]
  obtain ⟨r, hr, h1, h2⟩ := C19_twin_loop psi tol x maxIter (init medR x) (initSigma_posSemidef x hn) 20 0
  refine ⟨r, ?_, h1, h2⟩
  have e : ((20 : ℕ) : ℝ) = 20 := by norm_num
  rw [e]
  simpa using congrArg some hr

/-! ### the property's clauses, stated of the executable definitions -/

/-- **well-posedness of the executed model.**  For every data set with `n ≥ 2` (list form `colsOf x`), every `special.psi`,
    tolerance and iteration limit, `fitF` returns a result whose iterates are the list forms of matrix states `T` with:
    location inside the bounding box, symmetric positive semidefinite scale — positive definite for non-degenerate data —
    and a returned `ν` that is `∞` (`none`) or in `(0, 1e6]` -/
theorem C19_fitF_wellposed (psi : ℝ → ℝ) (tol : ℝ) (maxIter : ℕ) (x : Fin n → Fin d → ℝ) (hn : 2 ≤ n) :
    ∃ (r : Result ℝ) (T : List (St d)), fitF psi tol maxIter n (colsOf x) = some (some r) ∧
      r.iterates = T.map toL ∧ T ≠ [] ∧
      (∀ s ∈ T, InBox x s.mu ∧ s.sigma.IsSymm ∧ s.sigma.PosSemidef) ∧
      (NonDegenerate x → ∀ s ∈ T, s.sigma.PosDef) ∧
      (∀ ν, r.nu = some ν → 0 < ν ∧ ν ≤ 1000000) := by
  obtain ⟨r, hr, h1, h2⟩ := C19_twin_fit psi tol maxIter x hn
  have hw := C19_fit_wellposed_modelled psi tol maxIter x hn
  refine ⟨r, _, hr, h1, loop_ne_nil _ _ _ _ _ _ _, hw.1, hw.2.2.2.2, ?_⟩
  intro ν hν
  rw [h2] at hν
  exact C19_fit_nu_range_modelled psi tol maxIter x ν hν

/-- **equivariance of the executed model**: coordinate permutation × non-zero per-coordinate scalings × translation of the
    data transform every iterate of `fitF` as `(A μ + b, A Σ Aᵀ)` and leave `ν` unchanged -/
theorem C19_fitF_equivariant (psi : ℝ → ℝ) (tol : ℝ) (maxIter : ℕ) (x : Fin n → Fin d → ℝ) (hn : 2 ≤ n)
    (σ : Equiv.Perm (Fin d)) (s b : Fin d → ℝ) (hs : ∀ a, s a ≠ 0) :
    ∃ (r r' : Result ℝ) (T : List (St d)),
      fitF psi tol maxIter n (colsOf x) = some (some r) ∧
      fitF psi tol maxIter n (colsOf (aff (mono σ s) b x)) = some (some r') ∧
      r.iterates = T.map toL ∧ r'.iterates = (T.map (St.map (mono σ s) b)).map toL ∧ r'.nu = r.nu := by
  obtain ⟨r, hr, h1, h2⟩ := C19_twin_fit psi tol maxIter x hn
  obtain ⟨r', hr', h1', h2'⟩ := C19_twin_fit psi tol maxIter (aff (mono σ s) b x) hn
  have he := (C19_equivariant_modelled psi tol maxIter x hn σ s b hs).1
  refine ⟨r, r', _, hr, hr', h1, ?_, ?_⟩
  · rw [h1', he]
  · rw [h2', h2, he]

/-! ### non-vacuity -/

/-- the hypothesis of `C19_twin_step` is satisfiable: the twin inverts a `2 × 2` scale matrix exactly
    (it is positive definite: `vᵀ M v = v₀² + v₁² + (v₀ + v₁)²`) -/
example : Model.Student.inv (matOf (!![2, 1; 1, 2] : Matrix (Fin 2) (Fin 2) ℝ))
    = some (matOf (!![2, 1; 1, 2] : Matrix (Fin 2) (Fin 2) ℝ)⁻¹) := by
  refine Lemmas.GaussJordan.inv_matOf_posDef _ (PosDef.of_dotProduct_mulVec_pos ?_ fun v hv => ?_)
  · ext i j; fin_cases i <;> fin_cases j <;> rfl
  · have hv' : v 0 ≠ 0 ∨ v 1 ≠ 0 := by
      by_contra h
      rw [not_or, not_not, not_not] at h
      exact hv (funext fun i => by fin_cases i; exacts [h.1, h.2])
    have e : star v ⬝ᵥ (!![2, 1; 1, 2] : Matrix (Fin 2) (Fin 2) ℝ) *ᵥ v = v 0 ^ 2 + v 1 ^ 2 + (v 0 + v 1) ^ 2 := by
      simp [dotProduct, mulVec, Fin.sum_univ_two]; ring
    rw [e]
    rcases hv' with h | h <;> positivity

/-- the two-point data set: the executable fit answers, with `ν ∈ (0, 1e6]` or `∞`, for every `psi`, tolerance, limit -/
example (psi : ℝ → ℝ) (tol : ℝ) (k : ℕ) :
    ∃ r : Result ℝ, fitF psi tol k 2 (colsOf exX) = some (some r) ∧ ∀ ν, r.nu = some ν → 0 < ν ∧ ν ≤ 1000000 := by
  obtain ⟨r, T, h1, _, _, _, _, h6⟩ := C19_fitF_wellposed psi tol k exX le_rfl
  exact ⟨r, h1, h6⟩

/-- the degenerate data set (one point twice): the executable fit still answers — nothing escapes — and returns the
    initial state with `ν = 20` -/
example (psi : ℝ → ℝ) (tol : ℝ) (k : ℕ) (hu : ¬ IsUnit (initSigma exD).det) :
    ∃ r : Result ℝ, fitF psi tol k 2 (colsOf exD) = some (some r) ∧ r.iterates = [toL (init medR exD)] ∧ r.nu = some 20 := by
  obtain ⟨r, hr, h1, h2⟩ := C19_twin_fit psi tol k exD le_rfl
  have := (fit_singular (optNuR psi 1 2) medR tol k exD hu).1
  rw [this] at h1 h2
  exact ⟨r, hr, by simpa using h1, by simpa using h2⟩

/-- a swap of the two coordinates with scalings `2` and `-3` is covered by `C19_fitF_equivariant` -/
example (psi : ℝ → ℝ) (tol : ℝ) (k : ℕ) (x : Fin 5 → Fin 2 → ℝ) (b : Fin 2 → ℝ) :
    ∃ (r r' : Result ℝ) (T : List (St 2)),
      fitF psi tol k 5 (colsOf x) = some (some r) ∧
      fitF psi tol k 5 (colsOf (aff (mono (Equiv.swap 0 1) ![2, -3]) b x)) = some (some r') ∧
      r.iterates = T.map toL ∧ r'.iterates = (T.map (St.map (mono (Equiv.swap 0 1) ![2, -3]) b)).map toL ∧ r'.nu = r.nu :=
  C19_fitF_equivariant psi tol k x (by norm_num) _ _ b (fun a => by fin_cases a; exacts [two_ne_zero, neg_ne_zero.mpr three_ne_zero])

end Props.C19
