import TempestVerif.Model.VolVar
import TempestVerif.Lemmas.ScReal
import TempestVerif.Lemmas.VolVar
import TempestVerif.Lemmas.VecOfFn
import TempestVerif.Lemmas.GaussJordan
import TempestVerif.Lemmas.Scatter
import TempestVerif.Lemmas.Ess
import Mathlib.LinearAlgebra.Matrix.ToLinearEquiv
import Mathlib.LinearAlgebra.Matrix.DotProduct
import Mathlib.Data.List.OfFn
import Mathlib.Data.List.FinRange
/-
  C20 — the volume-variation metric, on two models: (A) the EXECUTABLE list model `Model.VolVar.volvar` (what the driver runs against
  the real code) and (B) the matrix model `Lemmas.VolVar.volvar`.  Which branch is taken is read off the matrix model: the covariance of
  weights ≥ 0 is positive semi-definite with kernel `{v | (x_i − m)·v = 0 for the positively weighted i}`, so ridge ⇔ the weighted cloud
  lies in a hyperplane, `1e10` fall-back ⇔ it is a point.  (C) The executable model IS the matrix model wherever the model's Gauss–Jordan
  inverse behaves as an inverse on the two matrices it is applied to (hypothesis `InvOK`); that holds for every positive semi-definite
  matrix, so for weights ≥ 0 no hypothesis is left.  (D) The full-rank guard of affine invariance is needed: exact rational runs.
-/
namespace Props.C20
open Model.Ess

/-! ### (A) the executable model -/
section Exec
open Model.VolVar

/-- non-negative on every branch, for every input (any shapes, any weights) -/
theorem C20_volvar_exec_nonneg (d : Nat) (x : List (List ℝ)) (w0 : Option (List ℝ)) :
    0 ≤ Model.VolVar.volvar d x w0 := by
  unfold Model.VolVar.volvar
  generalize out d x w0 = o
  obtain ⟨b, r⟩ := o
  cases b <;> simp only [big, sc_real] <;> positivity

/-- rescaling the raw weights by any `c ≠ 0` changes nothing: they are normalised first -/
theorem C20_volvar_exec_weight_scale (c : ℝ) (hc : c ≠ 0) (d : Nat) (x : List (List ℝ)) (w : List ℝ) :
    Model.VolVar.volvar d x (some (w.map (fun y => c * y))) = Model.VolVar.volvar d x (some w) := by
  unfold Model.VolVar.volvar out
  simp only [normalise_smul c hc]

/-- the reweighter passes `weights / np.sum(weights)`: pre-normalised weights give the same value as the raw ones -/
theorem C20_volvar_exec_prenormalised (d : Nat) (x : List (List ℝ)) (w : List ℝ) (hs : w.sum ≠ 0) :
    Model.VolVar.volvar d x (some (normalise w)) = Model.VolVar.volvar d x (some w) := by
  have h : normalise w = w.map (fun y => (1 / w.sum) * y) := by
    rw [normalise_def]; apply List.map_congr_left; intro y _; ring
  rw [h]
  exact C20_volvar_exec_weight_scale _ (one_div_ne_zero hs) d x w

/-- `w = None` means uniform weights: the same value as any constant weight vector of the right length -/
theorem C20_volvar_exec_uniform (c : ℝ) (hc : c ≠ 0) (d : Nat) (x : List (List ℝ)) :
    Model.VolVar.volvar d x none = Model.VolVar.volvar d x (some (List.replicate x.length c)) := by
  have h : List.replicate x.length c = (List.replicate x.length (Sc.one : ℝ)).map (fun y => c * y) := by
    simp
  rw [h, C20_volvar_exec_weight_scale c hc]
  rfl

end Exec

/-! ### (B) the matrix model `Lemmas.VolVar.volvar` of `volume_variation`, all branches -/
section VolVar
open Matrix Lemmas.VolVar
variable {ι κ : Type} [Fintype ι] [Fintype κ] [DecidableEq κ]

/-- the metric is non-negative (on every branch, including the `1e10` fall-backs) -/
theorem C20_volvar_nonneg (x : ι → κ → ℝ) (w0 : ι → ℝ) : 0 ≤ volvar x w0 := volvar_nonneg x w0

/-- rescaling the weights by `c > 0` changes nothing: the first statement of `volume_variation` normalises them -/
theorem C20_volvar_weight_scale_invariant (c : ℝ) (hc : 0 < c) (x : ι → κ → ℝ) (w0 : ι → ℝ) :
    volvar x (fun i => c * w0 i) = volvar x w0 := volvar_weight_scale c hc.ne' x w0

/-- invariance under `x ↦ A x + b` for invertible `A`, when the weighted covariance has full rank.
    (The guard is essential: the ridge-regularised branch `rank < d` of the code is not affine invariant.) -/
theorem C20_volvar_affine_invariant (A : Matrix κ κ ℝ) (b : κ → ℝ) (hA : IsUnit A.det)
    (x : ι → κ → ℝ) (w0 : ι → ℝ) (hw : ∑ i, w0 i ≠ 0) (hS : IsUnit (wcov x (wnorm w0)).det) :
    volvar (fun i => A *ᵥ x i + b) w0 = volvar x w0 := volvar_affine A b hA x w0 hw hS

example : volvar (fun i => (!![2] : Matrix (Fin 1) (Fin 1) ℝ) *ᵥ exX i + ![5]) exW = volvar exX exW :=
  C20_volvar_affine_invariant _ _ (by simp) exX exW exW_sum ex_guard

end VolVar

/-! ### (B, continued) which branch is taken -/
section Branches
open Matrix Lemmas.VolVar Lemmas.Scatter
variable {ι κ : Type} [Fintype ι] [Fintype κ] [DecidableEq κ]

omit [DecidableEq κ] in
/-- the weighted covariance of non-negative weights is positive semi-definite -/
theorem C20_wcov_psd (x : ι → κ → ℝ) (w : ι → ℝ) (hw : ∀ i, 0 ≤ w i) (v : κ → ℝ) :
    0 ≤ v ⬝ᵥ (wcov x w *ᵥ v) :=
  (wcov_posSemidef x w hw).dotProduct_mulVec_nonneg v

/-- **when the ridge is added**: the covariance is singular iff some direction `v ≠ 0` is orthogonal to every positively
    weighted centred point — the weighted cloud lies in a hyperplane through its mean -/
theorem C20_volvar_ridge_iff (x : ι → κ → ℝ) (w : ι → ℝ) (hw : ∀ i, 0 ≤ w i) :
    ¬ IsUnit (wcov x w).det ↔ ∃ v : κ → ℝ, v ≠ 0 ∧ ∀ i, w i ≠ 0 → (x i - wmean x w) ⬝ᵥ v = 0 := by
  rw [isUnit_iff_ne_zero, not_not, ← exists_mulVec_eq_zero_iff]
  simp only [wcov_eq_scatter, scatter_mulVec_eq_zero_iff w _ hw]

/-- **the `LinAlgError` fall-back** (`return 1e10` after the ridge): the regularised matrix is singular iff the trace of the
    covariance is zero, i.e. iff all positively weighted points coincide (`n_dim ≥ 1`) -/
theorem C20_volvar_fallback_iff [Nonempty κ] (x : ι → κ → ℝ) (w : ι → ℝ) (hw : ∀ i, 0 ≤ w i) :
    ¬ IsUnit (wcov x w + (1e-6 * trace (wcov x w)) • (1 : Matrix κ κ ℝ)).det
      ↔ ∀ i, w i ≠ 0 → x i = wmean x w := by
  have hS := wcov_posSemidef x w hw
  rw [← wcov_trace_zero_iff x w hw]
  constructor
  · intro hsing
    by_contra htr
    exact hsing (posSemidef_add_smul_one_isUnit_det hS (mul_pos (by norm_num) (hS.trace_nonneg.lt_of_ne' htr)))
  · intro htr
    rw [htr, mul_zero, zero_smul, add_zero, hS.trace_eq_zero_iff.mp htr, Matrix.det_zero]
    exact not_isUnit_zero

/-- **complete case split of `volume_variation`** for non-negative weights (`n_dim ≥ 1`):
    too few samples → `1e10`; full-rank covariance → the metric with `S⁻¹`; the positively weighted points span only a
    hyperplane but do not all coincide → the metric with the ridge-regularised matrix; all coincide → `1e10` -/
theorem C20_volvar_branches [Nonempty κ] (x : ι → κ → ℝ) (w0 : ι → ℝ) (hw : ∀ i, 0 ≤ wnorm w0 i) :
    let w := wnorm w0
    let S := wcov x w
    (Fintype.card ι < Fintype.card κ + 1 → volvar x w0 = 1e10) ∧
    (¬ Fintype.card ι < Fintype.card κ + 1 → IsUnit S.det → volvar x w0 = metricWith S x w) ∧
    (¬ Fintype.card ι < Fintype.card κ + 1 → ¬ IsUnit S.det → (∃ i, w i ≠ 0 ∧ x i ≠ wmean x w) →
        volvar x w0 = metricWith (S + (1e-6 * trace S) • (1 : Matrix κ κ ℝ)) x w) ∧
    (¬ Fintype.card ι < Fintype.card κ + 1 → (∀ i, w i ≠ 0 → x i = wmean x w) → volvar x w0 = 1e10) := by
  intro w S
  refine ⟨fun h => by rw [volvar, if_pos h], fun h hS => by rw [volvar, if_neg h]; exact if_pos hS, ?_, ?_⟩
  · intro h hS hex
    have hreg : IsUnit (S + (1e-6 * trace S) • (1 : Matrix κ κ ℝ)).det := by
      by_contra hc
      obtain ⟨i, hi, hne⟩ := hex
      exact hne ((C20_volvar_fallback_iff x w hw).mp hc i hi)
    simp only [volvar, if_neg h]
    rw [if_neg hS, if_pos hreg]
  · intro h hall
    have hreg : ¬ IsUnit (S + (1e-6 * trace S) • (1 : Matrix κ κ ℝ)).det :=
      (C20_volvar_fallback_iff x w hw).mpr hall
    -- the trace vanishes, so the regularised matrix is the covariance itself
    have hS : ¬ IsUnit S.det := by
      have h := hreg
      rwa [(wcov_trace_zero_iff x w hw).mpr hall, mul_zero, zero_smul, add_zero] at h
    simp only [volvar, if_neg h]
    rw [if_neg hS, if_neg hreg]

/-- non-negativity on the ridge branch in particular (the value there is `½·√(Σ …²)`) -/
theorem C20_volvar_ridge_nonneg (S : Matrix κ κ ℝ) (x : ι → κ → ℝ) (w : ι → ℝ) :
    0 ≤ metricWith (S + (1e-6 * trace S) • (1 : Matrix κ κ ℝ)) x w := metricWith_nonneg _ _ _

end Branches

/-! ### (C) the executable list model is the matrix model -/
section Twin
open Matrix Model.Student Model.VolVar Lemmas.VecOfFn
variable {n d : ℕ}

def rowsOf (x : Fin n → Fin d → ℝ) : List (List ℝ) := List.ofFn fun i => List.ofFn (x i)
def vecOf {m : ℕ} (v : Fin m → ℝ) : List ℝ := List.ofFn v
def matOf (M : Matrix (Fin d) (Fin d) ℝ) : List (List ℝ) := List.ofFn fun a => List.ofFn fun b => M a b

theorem filterMap_ofFn_some {β γ : Type} {m : ℕ} (f : Fin m → β) (g : β → Option γ) (h : Fin m → γ)
    (hg : ∀ i, g (f i) = some (h i)) : (List.ofFn f).filterMap g = List.ofFn h := by
  rw [List.ofFn_eq_map, List.filterMap_map, List.ofFn_eq_map]
  rw [← List.filterMap_eq_map]
  apply List.filterMap_congr
  intro i _
  simp [hg]

theorem dot_ofFn {m : ℕ} (f g : Fin m → ℝ) : dot (List.ofFn f) (List.ofFn g) = ∑ i, f i * g i :=
  Lemmas.VecOfFn.dot_ofFn f g

theorem normalise_vecOf (w0 : Fin n → ℝ) : normalise (vecOf w0) = vecOf (Lemmas.VolVar.wnorm w0) := by
  rw [normalise_def]
  unfold vecOf Lemmas.VolVar.wnorm
  rw [List.sum_ofFn, List.map_ofFn]
  rfl

theorem sumAxis0_ofFn {k m : ℕ} (V : Fin k → Fin m → ℝ) :
    sumAxis0 m (List.ofFn fun j => List.ofFn (V j)) = List.ofFn fun i => ∑ j, V j i :=
  foldl_vadd_zero_ofFn V

theorem wmean_ofFn (x : Fin n → Fin d → ℝ) (w : Fin n → ℝ) :
    Model.VolVar.wmean d (rowsOf x) (vecOf w) = vecOf (Lemmas.VolVar.wmean x w) := by
  unfold Model.VolVar.wmean rowsOf vecOf
  rw [zipWith_ofFn]
  simp only [List.map_ofFn, Function.comp_def]
  rw [sumAxis0_ofFn]
  congr 1; funext k
  rw [Lemmas.VolVar.wmean, Finset.sum_apply]
  exact Finset.sum_congr rfl fun j _ => mul_comm _ _

theorem centre_ofFn (x : Fin n → Fin d → ℝ) (m : Fin d → ℝ) :
    centre (rowsOf x) (vecOf m) = rowsOf fun i => x i - m := by
  unfold centre rowsOf vecOf
  rw [List.map_ofFn]
  congr 1; funext i
  simp only [Function.comp, zipWith_ofFn, ScReal.sub_def]
  rfl

theorem madd_matOf (G F : Matrix (Fin d) (Fin d) ℝ) : madd (matOf G) (matOf F) = matOf (G + F) := by
  unfold madd matOf
  rw [zipWith_ofFn]
  congr 1; funext a
  unfold vadd
  rw [zipWith_ofFn]
  simp

theorem foldl_madd_ofFn {k : ℕ} (F : Fin k → Matrix (Fin d) (Fin d) ℝ) (G : Matrix (Fin d) (Fin d) ℝ) :
    (List.ofFn fun i => matOf (F i)).foldl madd (matOf G) = matOf (G + ∑ i, F i) := by
  induction k generalizing G with
  | zero => simp
  | succ k ih =>
    rw [List.ofFn_succ, List.foldl_cons, madd_matOf, ih (fun i => F i.succ) (G + F 0), Fin.sum_univ_succ, add_assoc]

theorem mzero_matOf : (mzero d : List (List ℝ)) = matOf (0 : Matrix (Fin d) (Fin d) ℝ) := by
  unfold mzero matOf
  apply List.ext_getElem
  · simp
  · intro a h1 h2
    apply List.ext_getElem <;> simp

theorem wcov_ofFn (xc : Fin n → Fin d → ℝ) (w : Fin n → ℝ) :
    Model.VolVar.wcov d (rowsOf xc) (vecOf w) = matOf (∑ i, w i • vecMulVec (xc i) (xc i)) := by
  unfold Model.VolVar.wcov Model.VolVar.dotT rowsOf vecOf
  rw [zipWith_ofFn, zipWith_ofFn, mzero_matOf]
  have h : (fun i => outer (List.ofFn (xc i)) ((List.ofFn (xc i)).map fun v => Sc.mul v (w i)))
      = fun i => matOf (w i • vecMulVec (xc i) (xc i)) := by
    funext i
    unfold outer matOf
    rw [List.map_ofFn, List.map_ofFn]
    congr 1; funext a
    simp only [Function.comp, List.map_ofFn]
    congr 1; funext b
    simp only [Function.comp, ScReal.mul_def, Matrix.smul_apply, vecMulVec_apply, smul_eq_mul]
    ring
  rw [h, foldl_madd_ofFn, zero_add]

theorem trace_matOf (M : Matrix (Fin d) (Fin d) ℝ) : Model.VolVar.trace (matOf M) = Matrix.trace M := by
  unfold Model.VolVar.trace matOf
  rw [zipIdx_ofFn, filterMap_ofFn_some _ _ (fun a => M a a), sc_sum_ofFn]
  · rfl
  · intro a; simp

theorem eye_matOf : (eye d : List (List ℝ)) = matOf (1 : Matrix (Fin d) (Fin d) ℝ) :=
  Lemmas.GaussJordan.range_map_identRow

theorem smulMat_matOf (M : Matrix (Fin d) (Fin d) ℝ) (c : ℝ) :
    (matOf M).map (fun r => r.map fun t => Sc.mul t c) = matOf (c • M) := by
  unfold matOf
  simp [List.map_ofFn, Function.comp_def, mul_comm]

theorem addRidge_matOf (M : Matrix (Fin d) (Fin d) ℝ) (c : ℝ) :
    addRidge d (matOf M) c = matOf (M + c • (1 : Matrix (Fin d) (Fin d) ℝ)) := by
  unfold addRidge
  rw [eye_matOf, smulMat_matOf, madd_matOf]

theorem matmul_ofFn (xc : Fin n → Fin d → ℝ) (B : Matrix (Fin d) (Fin d) ℝ) :
    matmul d (rowsOf xc) (matOf B) = rowsOf fun i => vecMul (xc i) B := by
  unfold matmul rowsOf matOf
  rw [List.map_ofFn]
  congr 1; funext i
  simp only [Function.comp]
  rw [lincomb_ofFn]
  congr 1

theorem maha2_ofFn (xc : Fin n → Fin d → ℝ) (B : Matrix (Fin d) (Fin d) ℝ) :
    maha2 d (rowsOf xc) (matOf B) = vecOf fun i => xc i ⬝ᵥ (B *ᵥ xc i) := by
  unfold maha2
  rw [matmul_ofFn]
  unfold rowsOf vecOf
  simp only [zipWith_ofFn, List.map_ofFn, Function.comp_def, sc_sum_ofFn, ScReal.mul_def]
  congr 1; funext i
  rw [dotProduct_mulVec]
  simp only [dotProduct]

theorem clip_eq (t : ℝ) :
    Model.VolVar.clip t (Sc.neg ((1000000 : ℕ) : ℝ)) ((1000000 : ℕ) : ℝ) = Lemmas.VolVar.clip t (-1e6) 1e6 := by
  have h6 : (1e6 : ℝ) = (1000000 : ℕ) := by norm_num
  rw [Model.VolVar.clip, Lemmas.VolVar.clip, ScReal.min_def, ScReal.max_def, ScReal.neg_def, h6]

theorem radicand_ofFn (w t : Fin n → ℝ) :
    radicand d (vecOf w) (vecOf t)
      = ∑ i, (w i) ^ 2 * (Lemmas.VolVar.clip (t i - (d : ℝ)) (-1e6) 1e6) ^ 2 := by
  unfold radicand vecOf
  simp only [List.map_ofFn, Function.comp_def, zipWith_ofFn, sc_sum_ofFn, ScReal.mul_def, ScReal.sub_def,
    ScReal.ofNat_def, clip_eq, sq]

theorem metricWith_ofFn (S : Matrix (Fin d) (Fin d) ℝ) (x : Fin n → Fin d → ℝ) (w : Fin n → ℝ) :
    (1 / 2 : ℝ) * Real.sqrt (radicand d (vecOf w)
        (maha2 d (centre (rowsOf x) (Model.VolVar.wmean d (rowsOf x) (vecOf w))) (matOf S⁻¹)))
      = Lemmas.VolVar.metricWith S x w := by
  rw [wmean_ofFn, centre_ofFn, maha2_ofFn, radicand_ofFn]
  unfold Lemmas.VolVar.metricWith Lemmas.Maha.maha
  simp only [Fintype.card_fin]

/-- **H_inv.** what the model's Gauss–Jordan routine must do on the matrix `S` it is handed: return the inverse when `S` is
    invertible, answer `none` when it is singular.  True for every positive semi-definite `S` (`InvOK_of_posSemidef`: the elimination
    without pivoting meets only positive pivots on a positive definite matrix); suite `volvar-exec-Q` checks both halves exactly, in
    rational arithmetic, on every case it generates. -/
def InvOK (S : Matrix (Fin d) (Fin d) ℝ) : Prop :=
  (IsUnit S.det → Model.Student.inv (matOf S) = some (matOf S⁻¹)) ∧
  (¬ IsUnit S.det → Model.Student.inv (matOf S) = none)

theorem InvOK_of_posSemidef (S : Matrix (Fin d) (Fin d) ℝ) (hS : S.PosSemidef) : InvOK S := by
  constructor
  · intro hu
    exact Lemmas.GaussJordan.inv_matOf_posDef S (hS.posDef_iff_isUnit.mpr ((Matrix.isUnit_iff_isUnit_det _).mpr hu))
  · exact fun hu => Lemmas.GaussJordan.inv_matOf_none S hS fun hp => hu ((Matrix.isUnit_iff_isUnit_det _).mp hp.isUnit)

/-- **the executable model equals the matrix model** (all four branches), under H_inv for the covariance and — when that is
    singular — for the ridge-regularised matrix -/
theorem C20_volvar_exec_eq_matrix (x : Fin n → Fin d → ℝ) (w0 : Fin n → ℝ)
    (h1 : InvOK (Lemmas.VolVar.wcov x (Lemmas.VolVar.wnorm w0)))
    (h2 : ¬ IsUnit (Lemmas.VolVar.wcov x (Lemmas.VolVar.wnorm w0)).det →
      InvOK (Lemmas.VolVar.wcov x (Lemmas.VolVar.wnorm w0)
        + (1e-6 * Matrix.trace (Lemmas.VolVar.wcov x (Lemmas.VolVar.wnorm w0))) • (1 : Matrix (Fin d) (Fin d) ℝ))) :
    Model.VolVar.volvar d (rowsOf x) (some (vecOf w0)) = Lemmas.VolVar.volvar x w0 := by
  have hlen : (rowsOf x).length = n := by simp [rowsOf]
  have hcov : Model.VolVar.wcov d (centre (rowsOf x) (Model.VolVar.wmean d (rowsOf x) (vecOf (Lemmas.VolVar.wnorm w0))))
      (vecOf (Lemmas.VolVar.wnorm w0)) = matOf (Lemmas.VolVar.wcov x (Lemmas.VolVar.wnorm w0)) := by
    rw [wmean_ofFn, centre_ofFn, wcov_ofFn]; rfl
  have hlit : (Sc.lit 1 6 : ℝ) = 1e-6 := by simp only [ScReal.lit_def]; norm_num
  have hhalf : (Sc.lit 5 1 : ℝ) = 1 / 2 := by simp only [ScReal.lit_def]; norm_num
  have hbig : (big : ℝ) = 1e10 := by simp only [big, ScReal.ofNat_def]; norm_num
  unfold Model.VolVar.volvar Model.VolVar.out Lemmas.VolVar.volvar
  simp only [hlen, Fintype.card_fin, normalise_vecOf]
  by_cases hc : n < d + 1
  · simp only [if_pos hc, hbig]
  · simp only [if_neg hc]
    rw [hcov]
    generalize Lemmas.VolVar.wcov x (Lemmas.VolVar.wnorm w0) = S at h1 h2 ⊢
    generalize Lemmas.VolVar.wnorm w0 = w
    by_cases hu : IsUnit S.det
    · rw [h1.1 hu]
      simp only [if_pos hu, hhalf, ScReal.mul_def, ScReal.sqrt_def]
      exact metricWith_ofFn S x w
    · rw [h1.2 hu]
      simp only [if_neg hu, hlit, trace_matOf, ScReal.mul_def, addRidge_matOf]
      obtain ⟨h2a, h2b⟩ := h2 hu
      by_cases hu' : IsUnit (S + (1e-6 * Matrix.trace S) • (1 : Matrix (Fin d) (Fin d) ℝ)).det
      · rw [h2a hu']
        simp only [if_pos hu', hhalf, ScReal.sqrt_def]
        exact metricWith_ofFn _ x w
      · rw [h2b hu']
        simp only [if_neg hu', hbig]

/-- **affine invariance of the executable model** on the full-rank branch: for an invertible `A`, any `b`, raw weights with
    non-zero sum and an invertible weighted covariance, under H_inv for the covariance before and after the map -/
theorem C20_volvar_exec_affine_invariant (A : Matrix (Fin d) (Fin d) ℝ) (b : Fin d → ℝ) (hA : IsUnit A.det)
    (x : Fin n → Fin d → ℝ) (w0 : Fin n → ℝ) (hw : ∑ i, w0 i ≠ 0)
    (hS : IsUnit (Lemmas.VolVar.wcov x (Lemmas.VolVar.wnorm w0)).det)
    (h1 : InvOK (Lemmas.VolVar.wcov x (Lemmas.VolVar.wnorm w0)))
    (h1' : InvOK (Lemmas.VolVar.wcov (fun i => A *ᵥ x i + b) (Lemmas.VolVar.wnorm w0))) :
    Model.VolVar.volvar d (rowsOf fun i => A *ᵥ x i + b) (some (vecOf w0))
      = Model.VolVar.volvar d (rowsOf x) (some (vecOf w0)) := by
  have hS' := Lemmas.VolVar.wcov_affine_isUnit A b hA x _ (Lemmas.VolVar.sum_wnorm w0 hw) hS
  rw [C20_volvar_exec_eq_matrix x w0 h1 (fun h => absurd hS h),
    C20_volvar_exec_eq_matrix _ w0 h1' (fun h => absurd hS' h)]
  exact Lemmas.VolVar.volvar_affine A b hA x w0 hw hS

/-- **for non-negative weights the executable model equals the matrix model, in every dimension, with no hypothesis left**: the
    covariance and the ridge-regularised matrix are positive semi-definite -/
theorem C20_volvar_exec_eq_matrix_of_nonneg (x : Fin n → Fin d → ℝ) (w0 : Fin n → ℝ)
    (hw : ∀ i, 0 ≤ Lemmas.VolVar.wnorm w0 i) :
    Model.VolVar.volvar d (rowsOf x) (some (vecOf w0)) = Lemmas.VolVar.volvar x w0 := by
  have hS := Lemmas.VolVar.wcov_posSemidef x _ hw
  exact C20_volvar_exec_eq_matrix x w0 (InvOK_of_posSemidef _ hS) fun _ =>
    InvOK_of_posSemidef _ (hS.add (Matrix.PosSemidef.one.smul (mul_nonneg (by norm_num) hS.trace_nonneg)))

/-- in one dimension, for non-negative normalised weights: executable model = matrix model, unconditionally -/
theorem C20_volvar_exec_eq_matrix_dim1 (x : Fin n → Fin 1 → ℝ) (w0 : Fin n → ℝ)
    (hw : ∀ i, 0 ≤ Lemmas.VolVar.wnorm w0 i) :
    Model.VolVar.volvar 1 (rowsOf x) (some (vecOf w0)) = Lemmas.VolVar.volvar x w0 :=
  C20_volvar_exec_eq_matrix_of_nonneg x w0 hw

example : Model.VolVar.volvar 1 (rowsOf Lemmas.VolVar.exX) (some (vecOf Lemmas.VolVar.exW))
    = Lemmas.VolVar.volvar Lemmas.VolVar.exX Lemmas.VolVar.exW :=
  C20_volvar_exec_eq_matrix_dim1 _ _ (by intro i; simp [Lemmas.VolVar.wnorm, Lemmas.VolVar.exW])

end Twin

/-! ### (D) the full-rank guard of the affine-invariance theorems is essential -/
section RidgeWitness
open Model.VolVar

/-- four points `±e₁, ±e₂` in ℝ³ (they span a plane: the covariance has rank 2) … -/
def ridgeX : List (List Rat) := [[1, 0, 0], [-1, 0, 0], [0, 1, 0], [0, -1, 0]]
/-- … and their images under the invertible map `diag(2, 1, 1)` -/
def ridgeY : List (List Rat) := [[2, 0, 0], [-2, 0, 0], [0, 1, 0], [0, -1, 0]]

/-- **the ridge-regularised branch is not affine invariant**, in exact rational arithmetic, on the executed definitions:
    both clouds go through the ridge branch and the numbers under the square root differ
    (`250003000009/1000004000004` vs `2844515556146668000001/11377920000586667555556`, a relative difference of about `4·10⁻⁶`). -/
theorem C20_volvar_ridge_not_affine_invariant :
    (out 3 ridgeX (some [1, 1, 1, 1])).branch = .ridge ∧ (out 3 ridgeY (some [1, 1, 1, 1])).branch = .ridge ∧
    (out 3 ridgeX (some [1, 1, 1, 1])).radicand ≠ (out 3 ridgeY (some [1, 1, 1, 1])).radicand := by
  decide +kernel

/-- the other branches on concrete rational data: full rank, all points identical, too few points -/
theorem C20_volvar_branch_witnesses :
    (out 1 ([[0], [1], [2]] : List (List Rat)) none).branch = .main ∧
    (out 1 ([[0], [1], [2]] : List (List Rat)) none).radicand = 1 / 6 ∧
    (out 2 ([[1, 1], [1, 1], [1, 1]] : List (List Rat)) none).branch = .singular ∧
    (out 2 ([[1, 1], [2, 3]] : List (List Rat)) none).branch = .tooFew ∧
    (out 2 ([[0, 1], [5, 7], [0, 3]] : List (List Rat)) (some [1, 0, 1])).branch = .ridge := by
  decide +kernel

end RidgeWitness

end Props.C20
