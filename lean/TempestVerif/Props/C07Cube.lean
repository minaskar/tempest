import TempestVerif.Lemmas.Boundary
import TempestVerif.Props.C07SM
/-
  C07 (clause audit) — "its unit-cube coordinates lie in [0,1]^d": the hypothesis `hfold` of the run theorems of
  `Props.C07SM` (a proposal that passed the bounds check after the boundary fold lies in the cube) is DISCHARGED
  here for the real maps `Model.Boundary.apply` / `checkBounds` (C16), in exact arithmetic and in rounded
  arithmetic (`RR r`: any monotone idempotent rounding fixing 0 and 1, binary64 included), and the run theorem
  is instantiated with them.  What remains an assumption is that `np.random.rand` returns numbers in [0,1).
-/
namespace Props.C07Cube
open Model.Boundary Model.RecSM Props.C07SM
-- `Inv` below is the StateManager invariant; without this alias the name is first read as Mathlib's `Inv` class
export Props.C07SM (Inv)

def InCube {α : Type} [Sc α] (u : List α) : Prop := ∀ x ∈ u, inUnit x = true

theorem inCube_real_iff (u : List ℝ) : InCube u ↔ ∀ x ∈ u, 0 ≤ x ∧ x ≤ 1 := by
  simp only [InCube, inUnit_real]

theorem inCube_of_checkBounds {α : Type} [Sc α] (per refl : List Nat) (u : List α)
    (hd : ∀ i x, i ∈ per ∨ i ∈ refl → u[i]? = some x → inUnit x = true) (h : checkBounds per refl u = true) : InCube u := by
  intro x hx
  obtain ⟨i, hi, rfl⟩ := List.getElem_of_mem hx
  by_cases hi' : i ∈ per ∨ i ∈ refl
  · exact hd i _ hi' (List.getElem?_eq_getElem hi)
  · rw [not_or] at hi'
    exact (checkBounds_iff per refl _).mp h i hi hi'.1 hi'.2

/-- exact arithmetic: after `apply_boundary_conditions`, a point accepted by `check_bounds` lies in [0,1]^d
    (designated coordinates by the fold, the others by the check) -/
theorem C07_fold_check_in_cube (per refl : List Nat) (raw : List ℝ)
    (h : checkBounds per refl (apply per refl raw) = true) : InCube (apply per refl raw) :=
  inCube_of_checkBounds per refl _ (apply_mem (inUnit · = true)
    (fun x => (inUnit_real _).mpr ⟨(periodic_range x).1, (periodic_range x).2.le⟩) (fun x => (inUnit_real _).mpr (reflect_range x))
    per refl raw) h

/-- the same in rounded arithmetic (a periodic coordinate may come out as exactly 1: still in the cube) -/
theorem C07_fold_check_in_cube_round (r : Rounding) (per refl : List Nat) (raw : List (RR r))
    (h : checkBounds per refl (apply per refl raw) = true) : InCube (apply per refl raw) :=
  inCube_of_checkBounds per refl _ (fun i x hd hx => by
    have := apply_mem (fun b : RR r => 0 ≤ b.val ∧ b.val ≤ 1) periodic_val_range reflect_val_range per refl raw i x hd hx
    simp [inUnit, this.1, this.2]) h

/-- the walker's own position substituted for a rejected proposal needs no check: it is in the cube by the invariant.
    Together: EVERY point `prior_transform` / `log_likelihood` are evaluated at during mutation lies in the cube -/
theorem C07_evaluated_points_in_cube (per refl : List Nat) (raws : List (List ℝ)) (cur : List (List ℝ))
    (hcur : ∀ u ∈ cur, InCube u) :
    ∀ u ∈ substitute (raws.map (apply per refl)) ((raws.map (apply per refl)).map (checkBounds per refl)) cur,
      InCube u :=
  evaluated_inCube (C07_fold_check_in_cube per refl) raws cur hcur

variable {X L B : Type}

/-- C07 over a whole run with the REAL boundary maps (exact arithmetic): no hypothesis about proposals is left — only
    that the prior draws (`np.random.rand`) lie in the cube -/
theorem C07_sm_run_boundary (T : List ℝ → X) (Lk : X → L × B) (cfg : Cfg) (hg : GateOk cfg) (isInf : L → Bool)
    (per refl : List Nat) (ts : List (TapeR (List ℝ))) {s' : St (List ℝ) X L B} {rets : List (Cur (List ℝ) X L B)}
    (hts : ∀ t ∈ ts, TapeOk InCube t)
    (h : runItersR cfg T Lk isInf (apply per refl) (checkBounds per refl) init ts = some (s', rets)) :
    Inv T Lk InCube cfg s' ∧ rets.length = ts.length ∧ ∀ c ∈ rets, CurCoh T Lk InCube cfg c :=
  C07_sm_run_fresh T Lk InCube cfg hg isInf _ _ (C07_fold_check_in_cube per refl) ts hts h

theorem C07_sm_run_boundary_round (r : Rounding) (T : List (RR r) → X) (Lk : X → L × B) (cfg : Cfg) (hg : GateOk cfg)
    (isInf : L → Bool) (per refl : List Nat) (ts : List (TapeR (List (RR r)))) {s' : St (List (RR r)) X L B}
    {rets : List (Cur (List (RR r)) X L B)} (hts : ∀ t ∈ ts, TapeOk InCube t)
    (h : runItersR cfg T Lk isInf (apply per refl) (checkBounds per refl) init ts = some (s', rets)) :
    Inv T Lk InCube cfg s' ∧ rets.length = ts.length ∧ ∀ c ∈ rets, CurCoh T Lk InCube cfg c :=
  C07_sm_run_fresh T Lk InCube cfg hg isInf _ _ (C07_fold_check_in_cube_round r per refl) ts hts h

/-- non-vacuity of the bounds-check hypothesis: a folded periodic coordinate and an untouched one inside the cube -/
example : checkBounds [0] [] (apply [0] [] [(5 / 4 : ℝ), 1 / 2]) = true ∧
    InCube (apply [0] [] [(5 / 4 : ℝ), 1 / 2]) := by
  have h : checkBounds [0] [] (apply [0] [] [(5 / 4 : ℝ), 1 / 2]) = true := by
    rw [checkBounds_iff_real]
    intro i hi h1 h2
    have hl : (apply [0] [] [(5 / 4 : ℝ), 1 / 2]).length = 2 := by simp [apply_length]
    have : i = 1 := by
      rw [hl] at hi
      have : i ≠ 0 := by simpa using h1
      omega
    subst this
    simp [apply]
    norm_num
  exact ⟨h, C07_fold_check_in_cube _ _ _ h⟩

end Props.C07Cube
