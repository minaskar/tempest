import TempestVerif.Props.C03
import TempestVerif.Lemmas.MHKernel
import TempestVerif.Lemmas.Boundary
import TempestVerif.Lemmas.KernelOfFn
import Mathlib.Probability.Distributions.Gaussian.Real
import Mathlib.Probability.Distributions.Gamma
import Mathlib.MeasureTheory.Measure.Count
import Mathlib.Probability.Kernel.Composition.Lemmas
import Mathlib.Probability.Kernel.Composition.KernelLemmas
/-
  C03, clause 14 — "leaves that distribution unchanged": from detailed balance to invariance of the LAW, formally.
  The kernel model is closed over a log-likelihood function; its step, as a function of the tapes, is an accept/reject step, and the
  law of such a step is a Metropolis–Hastings kernel (`Lemmas.MHKernel`).  Here: the abstract statements, the closed step on any
  state space, the tpCN step on any state space, and the instance d = 1 with hard walls (dimension d, periodic and reflective
  coordinates: `C03InvD`, `C03InvP`, `C03InvR`).
  Names: suffix `R` = RWM, `T` = tpCN; `1` = scalar state (d = 1), `V` = vector state `V d`, `VP` = vector with periodic
  coordinates, `1Rf` = scalar with the coordinate reflective; `dlt` / `dltV` = the code's `dot_product`, `cG σ g` = the scalar
  `σ √(1/g)` in front of `L z`, `varR L σ` = `(σL)²`, `rateT` / `rateV` = rate of the gamma draw, `meanT` / `meanV` = centre of the
  tpCN candidate.
-/
namespace Props.C03
open Real MeasureTheory ProbabilityTheory Set Model.Kernel Lemmas.MHKernel Lemmas.KernelOfFn
open scoped ENNReal NNReal

/-! ## detailed balance ⇒ invariance, on any measurable space (clause 14) -/

/-- **detailed balance ⇒ the target law is invariant**, any measurable space, any s-finite reference measure -/
theorem C03_db_implies_invariant {X : Type*} [MeasurableSpace X] (μ : Measure X) [SFinite μ] {k : X → X → ℝ≥0∞}
    (hk : Measurable (Function.uncurry k)) (hm : ∀ x, ∫⁻ y, k x y ∂μ ≤ 1) {p : X → ℝ≥0∞} (hp : Measurable p)
    (hdb : ∀ x y, p x * k x y = p y * k y x) :
    (μ.withDensity p).bind (mhKernel μ k) = μ.withDensity p :=
  mhKernel_invariant μ hk hm hp hdb

theorem C03_mh_kernel_apply {X : Type*} [MeasurableSpace X] (μ : Measure X) [SFinite μ] {k : X → X → ℝ≥0∞}
    (hk : Measurable (Function.uncurry k)) (x : X) {B : Set X} (hB : MeasurableSet B) :
    mhKernel μ k x B = ∫⁻ y in B, k x y ∂μ + (1 - ∫⁻ y, k x y ∂μ) * B.indicator 1 x :=
  mhKernel_apply μ hk x hB

theorem C03_db_implies_reversible {X : Type*} [MeasurableSpace X] (μ : Measure X) [SFinite μ] {k : X → X → ℝ≥0∞}
    (hk : Measurable (Function.uncurry k)) {p : X → ℝ≥0∞} (hp : Measurable p)
    (hdb : ∀ x y, p x * k x y = p y * k y x) {A B : Set X} (hA : MeasurableSet A) (hB : MeasurableSet B) :
    ∫⁻ x in A, mhKernel μ k x B ∂(μ.withDensity p) = ∫⁻ x in B, mhKernel μ k x A ∂(μ.withDensity p) :=
  mhKernel_reversible μ hk hp hdb hA hB

theorem C03_db_implies_invariant_finite {X : Type*} [Fintype X] [MeasurableSpace X] [MeasurableSingletonClass X]
    (k : X → X → ℝ≥0∞) (p : X → ℝ≥0∞) (hm : ∀ x, ∑ y, k x y ≤ 1) (hdb : ∀ x y, p x * k x y = p y * k y x) :
    (Measure.count.withDensity p).bind (mhKernel Measure.count k) = Measure.count.withDensity p := by
  refine mhKernel_invariant Measure.count (Measurable.of_discrete) (fun x => ?_) (Measurable.of_discrete) hdb
  unfold moveMass
  rw [lintegral_count, tsum_fintype]
  exact hm x

theorem C03_db_implies_invariant_finite_real {X : Type*} [Fintype X] [MeasurableSpace X] [MeasurableSingletonClass X]
    (k : X → X → ℝ) (p : X → ℝ) (hk : ∀ x y, 0 ≤ k x y) (hp : ∀ x, 0 ≤ p x) (hm : ∀ x, ∑ y, k x y ≤ 1)
    (hdb : ∀ x y, p x * k x y = p y * k y x) :
    (Measure.count.withDensity fun x => ENNReal.ofReal (p x)).bind
        (mhKernel Measure.count fun x y => ENNReal.ofReal (k x y))
      = Measure.count.withDensity fun x => ENNReal.ofReal (p x) := by
  refine C03_db_implies_invariant_finite _ _ (fun x => ?_) (fun x y => ?_)
  · rw [← ENNReal.ofReal_sum_of_nonneg fun y _ => hk x y]
    exact (ENNReal.ofReal_le_ofReal (hm x)).trans_eq ENNReal.ofReal_one
  · rw [← ENNReal.ofReal_mul (hp x), ← ENNReal.ofReal_mul (hp y), hdb]

/-- non-vacuity on three states: a lazy walk, non-uniform target `(1, 2, 1)`, non-trivial rejection mass -/
example :
    let k : Fin 3 → Fin 3 → ℝ := fun x y =>
      if x = 0 ∧ y = 1 then 1 / 2 else if x = 1 ∧ y = 0 then 1 / 4 else
      if x = 1 ∧ y = 2 then 1 / 4 else if x = 2 ∧ y = 1 then 1 / 2 else 0
    let p : Fin 3 → ℝ := fun x => if x = 1 then 2 else 1
    (Measure.count.withDensity fun x => ENNReal.ofReal (p x)).bind
        (mhKernel Measure.count fun x y => ENNReal.ofReal (k x y))
      = Measure.count.withDensity fun x => ENNReal.ofReal (p x) := by
  intro k p
  refine C03_db_implies_invariant_finite_real k p (fun x y => ?_) (fun x => ?_) (fun x => ?_) (fun x y => ?_)
  · simp only [k]; split_ifs <;> norm_num
  · simp only [p]; split_ifs <;> norm_num
  · fin_cases x <;> simp [k, Fin.sum_univ_three] <;> norm_num
  · fin_cases x <;> fin_cases y <;> simp [k, p] <;> norm_num

/-- **independent walkers**: two kernels that leave their targets invariant, run side by side on independent draws, leave
    the product target invariant (iterate for N walkers: each walker of `Model.Kernel.runStep` is stepped by `walkerStep`
    from its own state, its own mode and its own tapes — `C03_ensemble_walkers_independent`) -/
theorem C03_invariant_prod {X Y : Type*} [MeasurableSpace X] [MeasurableSpace Y] (κ : Kernel X X) (η : Kernel Y Y)
    [IsSFiniteKernel κ] [IsSFiniteKernel η] (μ : Measure X) (ν : Measure Y) [SFinite μ] [SFinite ν]
    (hκ : μ.bind κ = μ) (hη : ν.bind η = ν) : (μ.prod ν).bind (κ ∥ₖ η) = μ.prod ν := by
  have h1 : κ ∥ₖ η = (Kernel.id ∥ₖ η) ∘ₖ (κ ∥ₖ Kernel.id) := by
    rw [Kernel.parallelComp_id_left_comp_parallelComp, Kernel.comp_id]
  rw [h1, ← Measure.comp_assoc, ← Measure.prod_comp_left, ← Measure.prod_comp_right, hκ, hη]

/-- in the ensemble model the result of walker `k` is `walkerStep` of walker `k` alone (its state, its mode, its tapes; the
    modes, step sizes, β and boundary sets are shared constants of the step): no walker reads another walker -/
theorem C03_ensemble_walkers_independent {α : Type} [ScT α] (i : RunIn α) (outs : List (StepOut α)) (sg : List α)
    (h : runStep i = some (outs, sg)) (k : Nat) (w : Walker α) (hw : i.walkers[k]? = some w) :
    ∃ o, outs[k]? = some o ∧ walkerStep i w = some o := by
  obtain ⟨hm, -⟩ := (runStep_eq_some i outs sg).mp h
  obtain ⟨hlen, hget⟩ := List.forall₂_iff_get.1 ((Lemmas.OptionList.mapM_eq_some_iff_forall₂ _ _ _).1 hm)
  obtain ⟨hk, rfl⟩ := List.getElem?_eq_some_iff.1 hw
  exact ⟨outs[k]'(hlen ▸ hk), List.getElem?_eq_getElem _, hget k hk (hlen ▸ hk)⟩

/-! ### H_assign (`clauses/C03.md` row 11: the cluster assignment is a function of the walker index, fixed during the step) is
  necessary: a kernel CHOSEN BY THE START POINT is not invariant even if every candidate kernel is reversible

  Two states, uniform target, `P₀` = stay (identity), `P₁` = swap: both reversible w.r.t. the uniform law.  Selecting the kernel by
  the current state (`c 0 = 0`, `c 1 = 1`, as `clusterer.predict(u)` does in the pipeline) gives the kernel "go to 0", which maps
  the uniform law to the point mass at 0.  With the assignment a function of the walker INDEX (what the runner sees and never
  writes: `C03_run_assignments_fixed`) each walker has ONE kernel and the theorems above apply. -/

def selK (c : Fin 2) (x y : Fin 2) : ℚ := if c = 0 then (if x = y then 1 else 0) else (if x = y then 0 else 1)

theorem C03_state_dependent_assignment_not_invariant :
    (∀ c x y, (1 / 2 : ℚ) * selK c x y = (1 / 2 : ℚ) * selK c y x) ∧
    (∀ c y, ∑ x, (1 / 2 : ℚ) * selK c x y = 1 / 2) ∧
    (∑ x : Fin 2, (1 / 2 : ℚ) * selK x x 0 = 1 ∧ ∑ x : Fin 2, (1 / 2 : ℚ) * selK x x 1 = 0) := by
  refine ⟨fun c x y => ?_, fun c y => ?_, ?_, ?_⟩
  · simp only [selK, eq_comm]
  · rw [← Finset.mul_sum, Fin.sum_univ_two]
    fin_cases c <;> fin_cases y <;> norm_num [selK]
  · norm_num [selK, Fin.sum_univ_two]
  · norm_num [selK, Fin.sum_univ_two]

/-! ## the executable kernel model, closed over the likelihood -/

/-- the kernel model closed over the user's log-likelihood `ℓ` (a function of the point in the cube; `prior_transform` is
    absorbed into it): `l` is `ℓ` at the current point and `lp` is `ℓ` at the point the step passes on (`prop`: the candidate, or
    the current point when the candidate failed `check_bounds`) — `run` evaluates `log_likelihood(prior_transform(u_prime))`.
    The fields `l`, `lp` of the input are overwritten: the arguments `lx lp` of the input builders `in1`, `inD`, … matter for
    `step` only (`C03_walker_step_is_closed_step`), not for `closedStep` -/
noncomputable def closedStep (ℓ : List ℝ → ℝ) (i : StepIn ℝ) : StepOut ℝ :=
  step { i with l := ℓ i.u, lp := ℓ (step i).prop }

/-- a step whose caller supplied exactly these two values is the closed step -/
theorem closedStep_eq_step (ℓ : List ℝ → ℝ) (i : StepIn ℝ) (hl : i.l = ℓ i.u) (hlp : i.lp = ℓ (step i).prop) :
    closedStep ℓ i = step i := by
  rw [closedStep, ← hl, ← hlp]

/-- **the closed step IS an accept/reject step** (RWM): with `c` the folded proposal, the walker moves to `c` iff `c` passes
    `check_bounds` and `r < min 1 (exp (β (ℓ c − ℓ u)))` — for an out-of-bounds candidate the point passed on is the current one -/
theorem closedStep_rwm_newU (ℓ : List ℝ → ℝ) (i : StepIn ℝ) (hk : i.kind = .rwm) {c : List ℝ}
    (hc : Model.Boundary.apply i.per i.refl (rwmProposal i.u i.chol i.sigma i.z) = c) :
    (closedStep ℓ i).newU =
      if Model.Boundary.checkBounds i.per i.refl c = true ∧ i.r < min 1 (exp (i.beta * (ℓ c - ℓ i.u))) then c else i.u := by
  subst hc
  -- the closed input differs from `i` in `l`, `lp` only: same candidate and bounds check; in bounds the point passed on is `c`
  have hj : ({ i with l := ℓ i.u, lp := ℓ (step i).prop } : StepIn ℝ).kind = .rwm := hk
  rw [closedStep, step_newU_real, (step_inb_prop _).1, (step_rwm _ hj).1, (step_rwm _ hj).2]
  dsimp only
  rw [(step_inb_prop i).2, (step_inb_prop i).1, (step_rwm i hk).1]
  cases Model.Boundary.checkBounds i.per i.refl (Model.Boundary.apply i.per i.refl (rwmProposal i.u i.chol i.sigma i.z))
  · simp only [Bool.false_eq_true, false_and]
  · simp only [if_true, true_and, rwmLogFactor, ScReal.zero_def, add_zero]

theorem closedStep_tpcn_newU (ℓ : List ℝ → ℝ) (i : StepIn ℝ) (hk : i.kind = .tpcn) {c : List ℝ}
    (hc : Model.Boundary.apply i.per i.refl
      (tpcnProposal i.mu (Model.Kernel.vsub i.u i.mu) i.chol i.sigma (sFromGamma i.g) i.z) = c) :
    (closedStep ℓ i).newU =
      if Model.Boundary.checkBounds i.per i.refl c = true ∧ i.r < min 1 (exp (i.beta * (ℓ c - ℓ i.u)
          + tpcnLogFactor (i.u.length : ℝ) i.nu (qform (Model.Kernel.vsub i.u i.mu) i.invcov)
              (qform (Model.Kernel.vsub c i.mu) i.invcov))) then c else i.u := by
  subst hc
  obtain ⟨hc, hd, -, -, hp, hf⟩ := step_tpcn { i with l := ℓ i.u, lp := ℓ (step i).prop } hk
  obtain ⟨hb, hpr⟩ := step_inb_prop { i with l := ℓ i.u, lp := ℓ (step i).prop }
  rw [closedStep, step_newU_real, hf, hp, hd, hpr, hb, hc]
  dsimp only
  rw [(step_inb_prop i).2, (step_inb_prop i).1, (step_tpcn i hk).1]
  cases Model.Boundary.checkBounds i.per i.refl (Model.Boundary.apply i.per i.refl
    (tpcnProposal i.mu (Model.Kernel.vsub i.u i.mu) i.chol i.sigma (sFromGamma i.g) i.z))
  · simp only [Bool.false_eq_true, false_and]
  · simp only [if_true, true_and, ScReal.ofNat_def]

/-- the gamma parameters the tpCN model hands to `np.random.gamma` depend on the current point only -/
theorem closedStep_tpcn_shape_scale (ℓ : List ℝ → ℝ) (i : StepIn ℝ) (hk : i.kind = .tpcn) :
    (closedStep ℓ i).shape = gammaShape (i.u.length : ℝ) i.nu ∧
    (closedStep ℓ i).scale = gammaScale i.nu (qform (Model.Kernel.vsub i.u i.mu) i.invcov) := by
  obtain ⟨-, hd, hs, hsc, -, -⟩ := step_tpcn { i with l := ℓ i.u, lp := ℓ (step i).prop } hk
  exact ⟨hs, hsc.trans (congrArg _ hd)⟩

/-! ### the acceptance probability, on any state space -/

/-- acceptance probability of the RWM model as a function of the current point and the candidate: `0` outside `D` (what
    `check_bounds` lets through), `min 1 (exp (β (ℓ c − ℓ x)))` inside -/
noncomputable def accR {X : Type*} (D : Set X) (ℓ : X → ℝ) (β : ℝ) : X → X → ℝ := mhAccept D fun x c => β * (ℓ c - ℓ x)

/-- … and of the tpCN model; `δ` is the model's `dot_product` as a function of the point, `n` the dimension -/
noncomputable def accT {X : Type*} (D : Set X) (ℓ δ : X → ℝ) (n ν β : ℝ) : X → X → ℝ :=
  mhAccept D fun x c => β * (ℓ c - ℓ x) + tpcnLogFactor n ν (δ x) (δ c)

theorem measurable_accR {X : Type*} [MeasurableSpace X] {D : Set X} (hD : MeasurableSet D) {ℓ : X → ℝ} (hℓ : Measurable ℓ)
    (β : ℝ) : Measurable (Function.uncurry (accR D ℓ β)) :=
  measurable_mhAccept hD (measurable_logRatio hℓ β)

theorem measurable_logT (n ν : ℝ) : Measurable fun δ => logT n ν δ := by
  simp only [model_logT]
  fun_prop

theorem measurable_accT {X : Type*} [MeasurableSpace X] {D : Set X} (hD : MeasurableSet D) {ℓ δ : X → ℝ} (hℓ : Measurable ℓ)
    (hδ : Measurable δ) (n ν β : ℝ) : Measurable (Function.uncurry (accT D ℓ δ n ν β)) :=
  measurable_mhAccept hD ((measurable_logRatio hℓ β).add
    (((measurable_logT n ν).comp (hδ.comp measurable_snd)).neg.add ((measurable_logT n ν).comp (hδ.comp measurable_fst))))

theorem tpcn_ratio (n ν β lx lc a b : ℝ) (hν : 0 < ν) (ha : 0 ≤ a) (hb : 0 ≤ b) :
    exp (β * (lc - lx) + tpcnLogFactor n ν a b) = exp (β * lc) * tker n ν a / (exp (β * lx) * tker n ν b) := by
  rw [model_tpcnLogFactor, ← exp_logT n ν _ hν ha, ← exp_logT n ν _ hν hb, ← exp_add, ← exp_add, ← exp_sub]
  congr 1; ring

theorem accT_detailed_balance {X : Type*} (D : Set X) (ℓ δ : X → ℝ) (n ν β : ℝ) (hν : 0 < ν) (hδ : ∀ x, 0 ≤ δ x)
    {q : X → X → ℝ≥0∞}
    (hq : ∀ x y, ENNReal.ofReal (tker n ν (δ x)) * q x y = ENNReal.ofReal (tker n ν (δ y)) * q y x) (x y : X) :
    ENNReal.ofReal (D.indicator (fun x => exp (β * ℓ x)) x) * (q x y * ENNReal.ofReal (accT D ℓ δ n ν β x y))
      = ENNReal.ofReal (D.indicator (fun x => exp (β * ℓ x)) y) * (q y x * ENNReal.ofReal (accT D ℓ δ n ν β y x)) :=
  mh_detailed_balance (t := fun x => tker n ν (δ x)) (fun _ => exp_pos _) (fun x _ => tker_pos n ν _ hν (hδ x))
    (fun x _ y _ => hq x y)
    (fun x _ y hy => by rw [accT, mhAccept_of_mem hy, tpcn_ratio n ν β _ _ _ _ hν (hδ x) (hδ y)])
    (fun x y hy => by rw [accT, mhAccept_of_notMem hy, ENNReal.ofReal_zero, mul_zero]) x y

/-! ### the tpCN step on any state space

  The scale draw `g ~ Gamma(shape, rate (ν + δ x)/2)` and a second tape `z ~ N` build the candidate `c x (g, z)`; given `g > 0` it
  has density `ψ x g` w.r.t. `μ`, and (Student-t weight × gamma density × `ψ`) is symmetric in the two states for every `g > 0`.
  Then the mixture density is reversible w.r.t. the Student-t weight and the law of the step leaves the tempered target invariant. -/

theorem gammaShape_pos (n ν : ℝ) (hn : 0 ≤ n) (hν : 0 < ν) : 0 < gammaShape n ν := by
  rw [model_gammaShape]; positivity

theorem measurable_gammaPDF_rate (a : ℝ) : Measurable fun p : ℝ × ℝ => gammaPDF a p.1 p.2 := by
  unfold gammaPDF gammaPDFReal
  refine ENNReal.measurable_ofReal.comp (Measurable.ite ?_ ?_ measurable_const)
  · exact measurableSet_le measurable_const measurable_snd
  · exact (((measurable_fst.pow_const a).div_const _).mul (measurable_snd.pow_const _)).mul
      (measurable_exp.comp (measurable_fst.mul measurable_snd).neg)

theorem measurable_gammaPDF (a r : ℝ) : Measurable (gammaPDF a r) :=
  ENNReal.measurable_ofReal.comp (measurable_gammaPDFReal a r)

theorem ae_pos_of_gammaPDF_ne_zero (a r : ℝ) : ∀ᵐ g ∂(volume : Measure ℝ), gammaPDF a r g ≠ 0 → 0 < g := by
  refine ((volume : Measure ℝ).ae_ne 0).mono fun g hg hw => ?_
  exact lt_of_le_of_ne (not_lt.1 fun hneg => hw (gammaPDF_of_neg hneg)) (Ne.symm hg)

section TpcnStep
variable {X Z : Type*} [MeasurableSpace X] [MeasurableSpace Z] (μ : Measure X) [SFinite μ] (N : Measure Z)
  [IsProbabilityMeasure N] {D : Set X} (hD : MeasurableSet D) {ℓ δ : X → ℝ} (hℓ : Measurable ℓ) (hδ : Measurable δ)
  (hδ0 : ∀ x, 0 ≤ δ x) {n ν : ℝ} (hn : 0 ≤ n) (hν : 0 < ν) (β : ℝ) {c : X → ℝ × Z → X} (hc : ∀ x, Measurable (c x))
  {ψ : X → ℝ → X → ℝ} (hψ : Measurable fun p : (X × X) × ℝ => ENNReal.ofReal (ψ p.1.1 p.2 p.1.2))
  (hlaw : ∀ x g, 0 < g → N.map (fun z => c x (g, z)) = μ.withDensity fun y => ENNReal.ofReal (ψ x g y))
  (hsymm : ∀ x y g, 0 < g →
    tker n ν (δ x) * (gammaPDFReal (gammaShape n ν) ((ν + δ x) / 2) g * ψ x g y)
      = tker n ν (δ y) * (gammaPDFReal (gammaShape n ν) ((ν + δ y) / 2) g * ψ y g x))

include hδ hψ in
theorem measurable_tpcnMix : Measurable fun p : (X × X) × ℝ =>
    gammaPDF (gammaShape n ν) ((ν + δ p.1.1) / 2) p.2 * ENNReal.ofReal (ψ p.1.1 p.2 p.1.2) := by
  have hrate : Measurable fun p : (X × X) × ℝ => (ν + δ p.1.1) / 2 :=
    ((hδ.comp (measurable_fst.comp measurable_fst)).const_add ν).div_const 2
  -- the composition is built before it meets the goal: unifying `_ ∘ _` with the unfolded integrand is what is slow
  have hA := (measurable_gammaPDF_rate (gammaShape n ν)).comp (hrate.prodMk measurable_snd)
  exact hA.mul hψ

omit [MeasurableSpace X] in
include hδ0 hn hν hsymm in
/-- **the tpCN proposal density (the scale mixture over the gamma draw) is reversible w.r.t. the Student-t kernel of the mode**:
    `t(x) q(x,y) = t(y) q(y,x)` as densities with ALL normalising constants; the draws `g ≤ 0` carry no mass -/
theorem tpcnMix_reversible (x y : X) :
    ENNReal.ofReal (tker n ν (δ x)) * ∫⁻ g, gammaPDF (gammaShape n ν) ((ν + δ x) / 2) g * ENNReal.ofReal (ψ x g y)
      = ENNReal.ofReal (tker n ν (δ y)) * ∫⁻ g, gammaPDF (gammaShape n ν) ((ν + δ y) / 2) g * ENNReal.ofReal (ψ y g x) := by
  have hr : ∀ x, 0 < (ν + δ x) / 2 := fun x => half_pos (add_pos_of_pos_of_nonneg hν (hδ0 x))
  rw [← lintegral_const_mul' _ _ ENNReal.ofReal_ne_top, ← lintegral_const_mul' _ _ ENNReal.ofReal_ne_top]
  refine lintegral_congr_ae (((volume : Measure ℝ).ae_ne 0).mono fun g hg => ?_)
  rcases lt_or_gt_of_ne hg with hneg | hpos
  · simp only [gammaPDF_of_neg hneg, zero_mul, mul_zero]
  · simp only [gammaPDF]
    rw [← ENNReal.ofReal_mul (gammaPDFReal_nonneg (gammaShape_pos n ν hn hν) (hr x) g),
      ← ENNReal.ofReal_mul (gammaPDFReal_nonneg (gammaShape_pos n ν hn hν) (hr y) g),
      ← ENNReal.ofReal_mul (tker_pos n ν _ hν (hδ0 x)).le, ← ENNReal.ofReal_mul (tker_pos n ν _ hν (hδ0 y)).le,
      hsymm x y g hpos]

omit [MeasurableSpace X] in
include hδ0 hn hν in
theorem isProbabilityMeasure_tpcnTape (x : X) :
    IsProbabilityMeasure ((gammaMeasure (gammaShape n ν) ((ν + δ x) / 2)).prod N) := by
  have := isProbabilityMeasure_gammaMeasure (gammaShape_pos n ν hn hν) (half_pos (add_pos_of_pos_of_nonneg hν (hδ0 x)))
  infer_instance

include hc hψ hlaw in
/-- **the law of the tpCN candidate has the mixture density** w.r.t. `μ` (Tonelli: the gamma draw is integrated out, no change
    of variables `s = 1/g` is needed) -/
theorem tpcn_candidate_law (x : X) :
    ((gammaMeasure (gammaShape n ν) ((ν + δ x) / 2)).prod N).map (c x)
      = μ.withDensity fun y => ∫⁻ g, gammaPDF (gammaShape n ν) ((ν + δ x) / 2) g * ENNReal.ofReal (ψ x g y) := by
  have hψx := hψ.comp ((measurable_const.prodMk measurable_snd).prodMk measurable_fst :
    Measurable fun p : ℝ × X => ((x, p.2), p.1))
  exact map_prod_withDensity volume (measurable_gammaPDF _ _) N μ (hc x)
    (φ := fun g y => ENNReal.ofReal (ψ x g y)) hψx
    ((ae_pos_of_gammaPDF_ne_zero _ _).mono fun g hg hw => hlaw x g (hg hw))

include hD hℓ hδ hδ0 hn hν hc hψ hlaw hsymm in
theorem tpcn_step_invariant {F : X → (ℝ × Z) × ℝ → X}
    (hF : ∀ x t r, 0 ≤ r → F x (t, r) = acceptReject x (accT D ℓ δ n ν β x) (c x t, r)) :
    (μ.withDensity fun x => ENNReal.ofReal (D.indicator (fun x => exp (β * ℓ x)) x)).bind
        (fun x => (((gammaMeasure (gammaShape n ν) ((ν + δ x) / 2)).prod N).prod unif).map (F x))
      = μ.withDensity fun x => ENNReal.ofReal (D.indicator (fun x => exp (β * ℓ x)) x) := by
  have hq : Measurable (Function.uncurry fun x y =>
      ∫⁻ g, gammaPDF (gammaShape n ν) ((ν + δ x) / 2) g * ENNReal.ofReal (ψ x g y)) :=
    Measurable.lintegral_prod_right' (measurable_tpcnMix (n := n) (ν := ν) hδ hψ)
  exact tapeStep_invariant μ (isProbabilityMeasure_tpcnTape N hδ0 hn hν) hc hq (tpcn_candidate_law μ N hc hψ hlaw)
    (measurable_accT hD hℓ hδ n ν β) (mhAccept_nonneg _ _) (mhAccept_le_one _ _) hF (measurable_temperedDensity hD hℓ β)
    (accT_detailed_balance D ℓ δ n ν β hν hδ0 (tpcnMix_reversible hδ0 hn hν hsymm))

end TpcnStep

/-! ### the symmetry of the tpCN weights, in the scalars of the mode's quadratic form -/

theorem sq_diffCoef {σ : ℝ} (hσ0 : 0 < σ) (hσ1 : σ < 1) : (√(1 - σ * σ)) ^ 2 = 1 - σ ^ 2 := by
  rw [sq_sqrt (sub_nonneg.2 ((mul_self_le_mul_self hσ0.le hσ1.le).trans_eq (one_mul 1)))]; ring

theorem tker_mul_gammaPDFReal (n ν δ g : ℝ) (hν : 0 < ν) (hδ : 0 ≤ δ) (hg : 0 < g) :
    tker n ν δ * gammaPDFReal (gammaShape n ν) ((ν + δ) / 2) g
      = (ν / 2) ^ ((n + ν) / 2) / Real.Gamma ((n + ν) / 2) * g ^ ((n + ν) / 2 - 1) * exp (-(ν + δ) / (2 * g⁻¹)) := by
  unfold gammaPDFReal tker
  rw [if_pos hg.le, model_gammaShape, ← key ν δ ((n + ν) / 2) hν hδ, neg_div, ← div_div, div_inv_eq_mul]
  ring

/-- **pointwise in the gamma draw `g`** (no change of variables), any dimension `n`: Student-t weight of the start point × gamma
    density of the scale draw given the start point × Gaussian density of the candidate (`C` its state-free factor) is
    symmetric in the two states -/
theorem tpcn_weight_symm (n ν σ a0 g C δx δy δxy : ℝ) (hν : 0 < ν) (hg : 0 < g) (ha : a0 ^ 2 = 1 - σ ^ 2) (hσ : σ ≠ 0)
    (hx : 0 ≤ δx) (hy : 0 ≤ δy) :
    tker n ν δx * (gammaPDFReal (gammaShape n ν) ((ν + δx) / 2) g
        * (C * exp (-(δy - 2 * a0 * δxy + a0 ^ 2 * δx) / (2 * (σ ^ 2 / g)))))
      = tker n ν δy * (gammaPDFReal (gammaShape n ν) ((ν + δy) / 2) g
        * (C * exp (-(δx - 2 * a0 * δxy + a0 ^ 2 * δy) / (2 * (σ ^ 2 / g))))) := by
  -- with `s = g⁻¹` this is `cn_weight_symm`
  rw [← mul_assoc (tker n ν δx), ← mul_assoc (tker n ν δy), tker_mul_gammaPDFReal n ν δx g hν hx hg,
    tker_mul_gammaPDFReal n ν δy g hν hy hg, div_eq_mul_inv (σ ^ 2)]
  exact cn_weight_symm ν σ a0 g⁻¹ _ C δx δy δxy (by rw [ha, sub_add_cancel]) hσ

/-! ### d = 1, hard boundaries: the list model on one-element lists -/

/-- one-walker input of `Model.Kernel.step` in dimension 1 with hard boundaries -/
noncomputable def in1 (kind : Kind) (m L ic ν σ β lx lp x g z r : ℝ) : StepIn ℝ :=
  { kind, u := [x], mu := [m], chol := [[L]], invcov := [[ic]], nu := ν, sigma := σ, beta := β, l := lx, lp := lp,
    g := g, r := r, z := [z], per := [], refl := [] }

noncomputable def cand1T (m L σ x g z : ℝ) : ℝ := m + √(1 - σ * σ) * (x - m) + σ * √(1 / g) * L * z
noncomputable def cand1R (L σ x z : ℝ) : ℝ := x + σ * L * z

/-- `dot_product` of the model in d = 1 -/
noncomputable def dlt (m ic x : ℝ) : ℝ := (x - m) * ic * (x - m)

theorem raw_tpcn (m L σ x g z : ℝ) :
    Model.Boundary.apply ([] : List Nat) [] (tpcnProposal [m] [x - m] [[L]] σ (sFromGamma g) [z])
      = [cand1T m L σ x g z] := by
  rw [Model.Boundary.apply_nil, tpcnProposal_single]
  simp [cand1T, model_diffCoef, model_noiseScale, model_sFromGamma]

theorem raw_rwm (L σ x z : ℝ) :
    Model.Boundary.apply ([] : List Nat) [] (rwmProposal [x] [[L]] σ [z]) = [cand1R L σ x z] := by
  rw [Model.Boundary.apply_nil, rwmProposal_one]; rfl

theorem step_cand_tpcn (m L ic ν σ β lx lp x g z r : ℝ) :
    (step (in1 .tpcn m L ic ν σ β lx lp x g z r)).cand = [cand1T m L σ x g z] := by
  rw [(step_tpcn _ rfl).1]
  simp only [in1, vsub_single]
  exact raw_tpcn m L σ x g z

theorem step_cand_rwm (m L ic ν σ β lx lp x g z r : ℝ) :
    (step (in1 .rwm m L ic ν σ β lx lp x g z r)).cand = [cand1R L σ x z] :=
  ((step_rwm _ rfl).1).trans (raw_rwm L σ x z)

theorem checkBounds_single (c : ℝ) : Model.Boundary.checkBounds ([] : List Nat) [] [c] = true ↔ c ∈ Icc (0 : ℝ) 1 := by
  simpa using Model.Boundary.checkBounds_ofFn_iff [] [] ![c]

theorem closedStep_tpcn_1d (ℓ : List ℝ → ℝ) (m L ic ν σ β lx lp x g z r : ℝ) (hr : 0 ≤ r) :
    (closedStep ℓ (in1 .tpcn m L ic ν σ β lx lp x g z r)).newU
      = [acceptReject x (accT (Icc 0 1) (fun c => ℓ [c]) (dlt m ic) 1 ν β x) (cand1T m L σ x g z, r)] := by
  rw [closedStep_tpcn_newU _ _ rfl (raw_tpcn m L σ x g z), accT, acceptReject_mhAccept _ _ _ _ hr,
    apply_ite (fun a : ℝ => [a])]
  simp only [in1, checkBounds_single, vsub_single, qform_single, List.length_singleton, Nat.cast_one]
  congr  -- the `Decidable` instances of the two `if`s

theorem closedStep_rwm_1d (ℓ : List ℝ → ℝ) (m L ic ν σ β lx lp x g z r : ℝ) (hr : 0 ≤ r) :
    (closedStep ℓ (in1 .rwm m L ic ν σ β lx lp x g z r)).newU
      = [acceptReject x (accR (Icc 0 1) (fun c => ℓ [c]) β x) (cand1R L σ x z, r)] := by
  rw [closedStep_rwm_newU _ _ rfl (raw_rwm L σ x z), accR, acceptReject_mhAccept _ _ _ _ hr,
    apply_ite (fun a : ℝ => [a])]
  simp only [in1, checkBounds_single]
  congr  -- the `Decidable` instances of the two `if`s

theorem closedStep_tpcn_gamma (ℓ : List ℝ → ℝ) (m L ic ν σ β lx lp x g z r : ℝ) :
    (closedStep ℓ (in1 .tpcn m L ic ν σ β lx lp x g z r)).shape = gammaShape (1 : ℝ) ν ∧
    (closedStep ℓ (in1 .tpcn m L ic ν σ β lx lp x g z r)).scale = gammaScale ν ((x - m) * ic * (x - m)) := by
  simpa [in1, vsub_single, qform_single] using closedStep_tpcn_shape_scale ℓ (in1 .tpcn m L ic ν σ β lx lp x g z r) rfl

/-! ## the LAW of the step, and its invariance (d = 1, hard walls)

  Tapes: `z ~ N(0,1)` (`np.random.randn`), `r ~ U[0,1)` (`np.random.rand`), for tpCN `g ~ Gamma(shape, scale)` with the shape
  and scale the model hands to `np.random.gamma` (Mathlib's `gammaMeasure a r` has RATE `r = 1/scale`), all independent. -/

noncomputable def target1 (ℓ : ℝ → ℝ) (β : ℝ) : Measure ℝ :=
  volume.withDensity fun x => ENNReal.ofReal ((Icc (0 : ℝ) 1).indicator (fun x => exp (β * ℓ x)) x)

/-- a log-likelihood on points of the 1-dimensional cube, as the model sees it (a function of the coordinate list) -/
noncomputable def liftL (ℓ : ℝ → ℝ) : List ℝ → ℝ
  | [c] => ℓ c
  | _ => 0

/-- the new state of the closed model step in d = 1 as a real number (`newU` is a one-element list: `closedStep_*_1d`) -/
noncomputable def newState1 (kind : Kind) (ℓ : ℝ → ℝ) (m L ic ν σ β x g z r : ℝ) : ℝ :=
  match (closedStep (liftL ℓ) (in1 kind m L ic ν σ β 0 0 x g z r)).newU with
  | [y] => y
  | _ => x

noncomputable def varR (L σ : ℝ) : ℝ≥0 := ⟨(σ * L) ^ 2, sq_nonneg _⟩

theorem varR_ne_zero {L σ : ℝ} (h : σ * L ≠ 0) : varR L σ ≠ 0 := by
  intro h0
  have : ((varR L σ : ℝ≥0) : ℝ) = 0 := by rw [h0]; rfl
  exact h (pow_eq_zero_iff (two_ne_zero) |>.1 this)

theorem rwm_candidate_law (L σ x : ℝ) :
    (gaussianReal 0 1).map (cand1R L σ x) = gaussianReal x (varR L σ) := by
  have h1 : cand1R L σ x = (fun y => x + y) ∘ fun z => (σ * L) * z := by
    funext z; simp [cand1R]
  rw [h1, ← Measure.map_map (by fun_prop) (by fun_prop), gaussianReal_map_const_mul, gaussianReal_map_const_add]
  congr 1
  · ring
  · ext; simp [varR]; rfl

theorem measurable_cand1R (L σ x : ℝ) : Measurable (cand1R L σ x) := by unfold cand1R; fun_prop

noncomputable def rwmLaw1 (ℓ : ℝ → ℝ) (m L ic ν σ β x : ℝ) : Measure ℝ :=
  ((gaussianReal 0 1).prod unif).map fun w => newState1 .rwm ℓ m L ic ν σ β x 0 w.1 w.2

theorem measurable_gaussianPDF_pair (v : ℝ≥0) : Measurable (Function.uncurry fun x y : ℝ => gaussianPDF x v y) := by
  have h := measurable_uncurry_gaussianPDF.comp
    (measurable_fst.prodMk (measurable_const.prodMk measurable_snd) : Measurable fun p : ℝ × ℝ => (p.1, v, p.2))
  exact h

theorem gaussianPDF_congr_sq (v : ℝ≥0) {x y x' y' : ℝ} (h : (y - x) ^ 2 = (y' - x') ^ 2) :
    gaussianPDF x v y = gaussianPDF x' v y' := by
  unfold gaussianPDF gaussianPDFReal
  rw [h]

/-- **RWM, d = 1, hard walls: the law of the model's step leaves the tempered target invariant** — for every measurable
    log-likelihood, every β, every proposal scale `L` and every step size σ with `σ L ≠ 0` (`m ic ν` are fields of the input
    record that an RWM step does not read). -/
theorem C03_rwm_step_law_invariant_1d {ℓ : ℝ → ℝ} (hℓ : Measurable ℓ) (m L ic ν σ β : ℝ) (h : σ * L ≠ 0) :
    (target1 ℓ β).bind (rwmLaw1 ℓ m L ic ν σ β) = target1 ℓ β :=
  -- the step is accept/reject of `x + σ L z`, whose law `N(x, (σL)²)` has a symmetric density
  tapeStep_invariant volume (τ := fun _ => gaussianReal 0 1) (fun _ => inferInstance) (measurable_cand1R L σ)
    (measurable_gaussianPDF_pair (varR L σ))
    (fun x => by rw [rwm_candidate_law, gaussianReal_of_var_ne_zero _ (varR_ne_zero h)])
    (measurable_accR measurableSet_Icc hℓ β) (mhAccept_nonneg _ _) (mhAccept_le_one _ _)
    (fun x z r hr => by rw [newState1, closedStep_rwm_1d (liftL ℓ) m L ic ν σ β 0 0 x 0 z r hr]; rfl)
    (measurable_temperedDensity measurableSet_Icc hℓ β)
    (tempered_metropolis_detailed_balance Subset.rfl ℓ β (fun x _ y _ => gaussianPDF_congr_sq _ (by ring))
      fun _ _ hy hy' => absurd hy hy')

noncomputable def rateT (m ic ν x : ℝ) : ℝ := (ν + dlt m ic x) / 2
noncomputable def meanT (m σ x : ℝ) : ℝ := m + √(1 - σ * σ) * (x - m)
noncomputable def cG (σ g : ℝ) : ℝ := σ * √(1 / g)

theorem dlt_nonneg (m L ic x : ℝ) (hic : ic = (L * L)⁻¹) : 0 ≤ dlt m ic x := by
  rw [hic, dlt, mul_right_comm]
  exact mul_nonneg (mul_self_nonneg _) (inv_nonneg.2 (mul_self_nonneg L))

theorem measurable_dlt (m ic : ℝ) : Measurable (dlt m ic) :=
  ((measurable_id.sub_const m).mul_const ic).mul (measurable_id.sub_const m)

theorem cG_ne_zero {σ g : ℝ} (hσ : σ ≠ 0) (hg : 0 < g) : cG σ g ≠ 0 := by
  unfold cG; have : 0 < √(1 / g) := sqrt_pos.2 (by positivity); exact mul_ne_zero hσ this.ne'

theorem cG_sq (σ g : ℝ) (hg : 0 < g) : cG σ g ^ 2 = σ ^ 2 / g := by
  unfold cG; rw [mul_pow, sq_sqrt (by positivity)]; ring

theorem measurable_cG (σ : ℝ) : Measurable (cG σ) := (measurable_id.const_div 1).sqrt.const_mul σ

theorem measurable_varR (L : ℝ) : Measurable fun c : ℝ => varR L c :=
  Measurable.subtype_mk ((measurable_id.mul_const L).pow_const 2)

/-- the variance of an RWM candidate with step size `cG σ g` — what the tpCN candidate is once the gamma draw is given (from
    `meanT` instead of `x`) -/
theorem varR_cG_coe (L σ g : ℝ) (hg : 0 < g) : ((varR L (cG σ g) : ℝ≥0) : ℝ) = σ ^ 2 * L ^ 2 / g := by
  change (cG σ g * L) ^ 2 = _
  rw [mul_pow, cG_sq σ g hg]; ring

/-- Mathlib's `gammaMeasure a r` is parametrised by the RATE: `rateT` is `1 / scale` for the scale the model hands to
    `np.random.gamma` (`closedStep_tpcn_gamma`, where `dlt m ic x` is written out) -/
theorem rateT_eq_inv_scale (m ic ν x : ℝ) : rateT m ic ν x = 1 / gammaScale ν (dlt m ic x) := by
  rw [model_gammaScale]; unfold rateT; rw [one_div_div]

/-- joint law of the tapes that build the tpCN candidate: the gamma draw with the MODEL's shape and scale (rate = 1/scale:
    `rateT_eq_inv_scale`) and an independent standard normal -/
noncomputable def tapeT (m ic ν x : ℝ) : Measure (ℝ × ℝ) :=
  (gammaMeasure (gammaShape (1 : ℝ) ν) (rateT m ic ν x)).prod (gaussianReal 0 1)

theorem measurable_cand1T_pair (m L σ x : ℝ) : Measurable fun t : ℝ × ℝ => cand1T m L σ x t.1 t.2 := by
  unfold cand1T; fun_prop

/-- `tpcn_weight_symm` in d = 1, for the real-valued densities of Mathlib's `gammaMeasure` and `gaussianReal` (`gammaPDFReal`,
    `gaussianPDFReal`): only the Gaussian exponent has to be rewritten in the three scalars -/
theorem tpcn_mix_symm_real (m L ic ν σ x y g : ℝ) (hg : 0 < g) (hν : 0 < ν) (hσ0 : 0 < σ) (hσ1 : σ < 1)
    (hic : ic = (L * L)⁻¹) :
    tker 1 ν (dlt m ic x) * (gammaPDFReal (gammaShape (1 : ℝ) ν) (rateT m ic ν x) g
        * gaussianPDFReal (meanT m σ x) (varR L (cG σ g)) y)
      = tker 1 ν (dlt m ic y) * (gammaPDFReal (gammaShape (1 : ℝ) ν) (rateT m ic ν y) g
        * gaussianPDFReal (meanT m σ y) (varR L (cG σ g)) x) := by
  -- the Gaussian exponent in the scalars `δ_u`, `δ_w`, `δ_uw` of the mode's quadratic form
  have hexp : ∀ u w : ℝ, -(w - meanT m σ u) ^ 2 / (2 * (σ ^ 2 * L ^ 2 / g))
      = -(dlt m ic w - 2 * √(1 - σ * σ) * ((u - m) * ic * (w - m)) + (√(1 - σ * σ)) ^ 2 * dlt m ic u)
          / (2 * (σ ^ 2 / g)) := by
    intro u w
    have h1 : 2 * (σ ^ 2 * L ^ 2 / g) = 2 * (σ ^ 2 / g) * (L * L) := by ring
    rw [h1, div_eq_mul_inv, div_eq_mul_inv, mul_inv, ← hic]
    unfold meanT dlt
    ring
  have hc : (y - m) * ic * (x - m) = (x - m) * ic * (y - m) := by ring
  unfold gaussianPDFReal
  rw [varR_cG_coe L σ g hg, hexp x y, hexp y x, hc]
  exact tpcn_weight_symm 1 ν σ _ g _ _ _ _ hν hg (sq_diffCoef hσ0 hσ1) hσ0.ne' (dlt_nonneg m L ic x hic)
    (dlt_nonneg m L ic y hic)

noncomputable def tpcnLaw1 (ℓ : ℝ → ℝ) (m L ic ν σ β x : ℝ) : Measure ℝ :=
  ((tapeT m ic ν x).prod unif).map fun w => newState1 .tpcn ℓ m L ic ν σ β x w.1.1 w.1.2 w.2

/-- **tpCN, d = 1, hard walls: the law of the model's step leaves the tempered target invariant** — for every measurable
    log-likelihood, every β, every mode (mean `m`, Cholesky factor `L ≠ 0` with `inv_cov = (L L)⁻¹`, dof `ν > 0`) and every
    step size `0 < σ < 1`.  Nothing is assumed about densities, Jacobians or the change of variables `s = 1/g`: the tapes have
    Mathlib's `gammaMeasure`, `gaussianReal 0 1` and the uniform law on `[0,1)`. -/
theorem C03_tpcn_step_law_invariant_1d {ℓ : ℝ → ℝ} (hℓ : Measurable ℓ) (m L ic ν σ β : ℝ) (hν : 0 < ν) (hσ0 : 0 < σ)
    (hσ1 : σ < 1) (hL : L ≠ 0) (hic : ic = (L * L)⁻¹) :
    (target1 ℓ β).bind (tpcnLaw1 ℓ m L ic ν σ β) = target1 ℓ β := by
  -- given the draw `g > 0` the candidate is `N(meanT, (cG σ g · L)²)`; jointly measurable as Mathlib's `gaussianPDF`
  have hψ := measurable_uncurry_gaussianPDF.comp
    ((((measurable_fst.comp measurable_fst).sub_const m).const_mul _).const_add m |>.prodMk
      (((measurable_varR L).comp ((measurable_cG σ).comp measurable_snd)).prodMk (measurable_snd.comp measurable_fst)) :
      Measurable fun p : (ℝ × ℝ) × ℝ => (meanT m σ p.1.1, varR L (cG σ p.2), p.1.2))
  exact tpcn_step_invariant volume (gaussianReal 0 1) measurableSet_Icc hℓ (measurable_dlt m ic)
    (fun x => dlt_nonneg m L ic x hic) zero_le_one hν β (measurable_cand1T_pair m L σ)
    (ψ := fun x g y => gaussianPDFReal (meanT m σ x) (varR L (cG σ g)) y) hψ
    (fun x g hg => by
      rw [show (fun z => cand1T m L σ x g z) = cand1R L (cG σ g) (meanT m σ x) from rfl, rwm_candidate_law,
        gaussianReal_of_var_ne_zero _ (varR_ne_zero (mul_ne_zero (cG_ne_zero hσ0.ne' hg) hL))]; rfl)
    (fun x y g hg => tpcn_mix_symm_real m L ic ν σ x y g hg hν hσ0 hσ1 hic)
    fun x t r hr => by rw [newState1, closedStep_tpcn_1d (liftL ℓ) m L ic ν σ β 0 0 x t.1 t.2 r hr]; rfl

example : (target1 (fun x => 3 * x) (1 / 2)).bind (tpcnLaw1 (fun x => 3 * x) (3 / 10) (1 / 5) 25 (5 / 2) (1 / 2) (1 / 2))
    = target1 (fun x => 3 * x) (1 / 2) :=
  C03_tpcn_step_law_invariant_1d (by fun_prop) _ _ _ _ _ _ (by norm_num) (by norm_num) (by norm_num) (by norm_num)
    (by norm_num)

/-- RWM with a step size above 1 (the code starts at 2.38/√d and does not clip) -/
example : (target1 (fun x => 3 * x) 1).bind (rwmLaw1 (fun x => 3 * x) 0 (1 / 5) 25 3 (238 / 100) 1)
    = target1 (fun x => 3 * x) 1 :=
  C03_rwm_step_law_invariant_1d (by fun_prop) _ _ _ _ _ _ (by norm_num)

/-- … and with a negative one -/
example : (target1 (fun x => -x ^ 2) (1 / 3)).bind (rwmLaw1 (fun x => -x ^ 2) 0 (1 / 5) 25 3 (-1 / 5) (1 / 3))
    = target1 (fun x => -x ^ 2) (1 / 3) :=
  C03_rwm_step_law_invariant_1d (by fun_prop) _ _ _ _ _ _ (by norm_num)

/-- the target is not the zero measure (the statements above are not about `0 = 0`): mass of `[0,1]` under `ℓ = 0` is 1 -/
example : target1 (fun _ => 0) 1 (Icc 0 1) = 1 := by
  unfold target1
  rw [withDensity_apply _ measurableSet_Icc]
  have : ∀ x ∈ Icc (0 : ℝ) 1, ENNReal.ofReal ((Icc (0 : ℝ) 1).indicator (fun _ => exp (1 * 0)) x) = 1 := by
    intro x hx; simp [hx]
  rw [setLIntegral_congr_fun measurableSet_Icc this]
  simp

end Props.C03
