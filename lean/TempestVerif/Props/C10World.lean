import TempestVerif.Model.ClosedLoop
import TempestVerif.Lemmas.ScReal
import TempestVerif.Lemmas.PipelineEx
import TempestVerif.Lemmas.ClosedLoop
import TempestVerif.Lemmas.Kernel
import TempestVerif.Lemmas.StopRule
import TempestVerif.Props.C04
import TempestVerif.Lemmas.Ess
import TempestVerif.Lemmas.Trim
/-
  `Model.ClosedLoop` over ℝ: non-empty batches (`WFC`) as invariant of `iterate` and as the hypothesis `Props.C04.WF` of C04's
  theorems, the termination guard in real-number terms; and the example worlds on which the `example`s about the closed-loop
  run instantiate their hypotheses — `wEx` / `cfgCl` (a warm-up iteration with a −inf draw), `wEx0` (a discarded first batch),
  `wEx2` / `cfgCl2` (an annealing iteration, `sCl2 → sCl3`).
-/
namespace Props.C10
open Model.ClosedLoop Model.Pipeline Model.Weights Model.Reweight Model.Records Model.Resample
open Lemmas.PipelineShift Lemmas.Pipeline Lemmas.ClosedLoop
open Props.C04 (WF shiftH shiftB)

variable {P MS TS G : Type}

/-! ## Non-empty batches, the termination guard, the fuel of the redraw loop -/

def WFC (s : CState ℝ P TS G) : Prop := ∀ b ∈ s.hist, 1 ≤ b.logl.length

theorem WF_batchesOf (s : CState ℝ P TS G) (hs : WFC s) : batchesOf s.hist = [] ∨ WF (batchesOf s.hist) :=
  WF_map toBatch s.hist hs

theorem WF_of_WFC (s : CState ℝ P TS G) (hs : WFC s) (hne : s.hist ≠ []) : WF (batchesOf s.hist) :=
  ⟨mt List.map_eq_nil_iff.mp hne, List.forall_mem_map.mpr hs⟩

theorem length_poolOf (h : List (CBatch ℝ P)) (ha : ∀ b ∈ h, b.pts.length = b.logl.length) :
    (poolOf h).length = nTotal (batchesOf h) := by
  induction h with
  | nil => rfl
  | cons b bs ih =>
    have h2 := ih (fun b' hb' => ha b' (List.mem_cons_of_mem _ hb'))
    simp only [poolOf, List.flatMap_cons, List.length_append] at h2 ⊢
    rw [h2, ha b List.mem_cons_self]
    rfl

theorem WFC_init (ts : TS) (g : G) : WFC (Model.ClosedLoop.init ts g : CState ℝ P TS G) := by
  intro b hb; simp [Model.ClosedLoop.init] at hb

/-- "every stored batch is non-empty" is an invariant of the closed-loop iteration, with no condition on the world -/
theorem C10_cl_wellformed (W : World ℝ P MS TS G) (cfg : CCfg ℝ) (s s1 : CState ℝ P TS G) (o : CIterOut ℝ P)
    (hs : WFC s) (h : Model.ClosedLoop.iterate W cfg s = some (s1, o)) : WFC s1 :=
  iterate_forall_hist W cfg s s1 o _ (fun _ h1 _ => h1) hs h

/-- `_not_termination` on a state with (well-formed) history: `1 − β ≥ tol  or  ESS₁ < n_total`, where ESS₁ ≥ 1 is the pool
    ESS at β = 1.  In particular the loop can only stop at a state whose β is within `tol` of 1. -/
theorem contGuard_spec (c : CCfg ℝ) (s : CState ℝ P TS G) (hs : WFC s) (hne : s.hist ≠ []) :
    1 ≤ Model.Ess.ess (oracleM (batchesOf s.hist) 1).1 ∧
    (contGuard c s = true ↔ (c.tolTerm ≤ 1 - s.beta ∨ Model.Ess.ess (oracleM (batchesOf s.hist) 1).1 < c.nTotal)) := by
  have hwf := WF_of_WFC s hs hne
  have hlen : ((logw (batchesOf s.hist) 1 true).1).length = nTotal (batchesOf s.hist) := by
    rw [Props.C04.C04_normalised _ hwf, List.length_map, length_flatLogl]
  have hpos := Props.C04.nTotal_pos _ hwf
  rw [contGuard_eq]
  unfold Model.Run.notTermination
  rw [ScReal.one_def]
  cases hl : (logw (batchesOf s.hist) 1 true).1 with
  | nil => rw [hl] at hlen; simp at hlen; omega
  | cons x xs =>
    rw [oracleM_fst_of_cons hl]
    refine ⟨(Model.Ess.ess_expShift_bounds x xs).1, ?_⟩
    simp only [Model.Run.notTerm, Bool.or_eq_true, sc_real]

theorem WFC_startState (s : CState ℝ P TS G) (hs : WFC s) : WFC (startState s) := fun b hb =>
  hs b (startState_hist s ▸ hb)

theorem startState_init (ts : TS) (g : G) :
    startState (Model.ClosedLoop.init ts g : CState ℝ P TS G) = Model.ClosedLoop.init ts g :=
  startState_of_nil rfl

/-- the fuel `drawCap` is never the reason the loop stops: with `k` batches already drawn,
    `drawCap − k` further batches are all the cap allows, and any larger fuel gives the same result
    (`k = 0`, `f = drawCap`: `drawLoop W n (drawCap + extra) g 0 = drawLoop W n drawCap g 0`, which is how `warmupStep` calls it) -/
theorem drawLoop_fuel (W : World ℝ P MS TS G) (n : Nat) : ∀ (f k extra : Nat) (g : G), 1 ≤ f → k + f = drawCap →
    drawLoop W n (f + extra) g (k * n) = drawLoop W n f g (k * n) := by
  intro f
  induction f with
  | zero => intro k extra g h; omega
  | succ f ih =>
    intro k extra g _ hk
    have e : f + 1 + extra = (f + extra) + 1 := by omega
    rw [e]
    simp only [drawLoop]
    have hnd : k * n + n = (k + 1) * n := by ring
    rw [hnd]
    by_cases hc : countSome ((W.priorDraw g n).1.map W.like) = 0
    · simp only [hc, if_true]
      by_cases hcap : (k + 1) * n ≥ drawCap * n
      · simp [hcap]
      · simp only [hcap, if_false]
        have hlt : k + 1 < drawCap := by
          by_contra hge
          exact hcap (Nat.mul_le_mul_right n (by omega))
        exact ih (k + 1) extra _ (by omega) (by omega)
    · simp [hc]

/-! ### non-vacuity: a concrete world on records `P = ℕ` in which record 1 has likelihood zero (−inf) -/

/-- likelihood: record 1 is outside the support, every other record has `ℓ = p/4`; the prior draw is `[0, 1]` …,
    `np.random.choice` answers position 0; proposals: record `20 + k`, factor 0, the second one out of the cube -/
noncomputable def wEx : World ℝ Nat Unit Unit Nat where
  like := fun p => if p = 1 then none else some ((p : ℝ) / 4)
  priorDraw := fun g n => ((List.range n).map (· + 10 * g), g + 1)
  choice := fun g fin k => (List.replicate k (fin.headD 0), g + 1)
  resampleU := fun g n => (List.replicate n (1 / 2), g + 1)
  train := fun _ g _ _ _ _ => ((), (), g + 1)
  dummy := ()
  predict := fun _ pts => pts.map fun _ => 0
  modeIndex := fun _ a _ => (a, a)
  nModes := fun _ => 1
  propose := fun _ _ _ pts g => (pts.mapIdx fun k _ => (20 + k, 0, decide (k ≠ 1)), g + 1)
  unif := fun g n => (List.replicate n (1 / 2), g + 1)
  volvar := fun _ _ _ => 0

/-- fields in the order of `CCfg`: `rw`, syst, tpcn, nSteps, nMax, nDim, sigma0, trimEss, trimBins, tolTerm, nTotal, mcFuel -/
noncomputable def cfgCl : CCfg ℝ :=
  ⟨⟨1 / 2, 2, none, 1 / 100, 1 / 10000, 64⟩, true, true, 1, 1, 1, 238 / 100, 512, 1, 1 / 10000, 0, 8⟩

/-- the state after the warm-up iteration of the example world: draws `[0, 1]`, record 1 (−inf) replaced by a copy of
    record 0, the evidence overwritten by the correction `log(1/2)` -/
noncomputable def sCl1 : CState ℝ Nat Unit Nat :=
  ⟨[⟨0, Real.log (1 / 2), 1, [0, 0], [0, 0], 1, 2, 1, 1, 1⟩], 0, Real.log (1 / 2), 1, 1, 2, [0, 0], [0, 0], [0, 0], 1, 1, 1,
   (), 2⟩

theorem itCl1 : Model.ClosedLoop.iterate wEx cfgCl (Model.ClosedLoop.init () 0)
    = some (sCl1, ⟨0, 1, 0, Real.log (1 / 2), Branch.firstIter, [1 / 2, 1 / 2], none, [], [], []⟩) := by
  have hr : List.range 2 = [0, 1] := by decide
  have hd : drawLoop wEx 2 drawCap 0 0 = some ([0, 1], [some 0, none], 2, 1) := by
    show drawLoop wEx 2 (999 + 1) 0 0 = _
    simp [drawLoop, wEx, countSome, hr]
  have hn : cfgCl.rw.nPart = 2 := rfl
  have hw : warmupStep wEx cfgCl 0 = some ⟨[0, 0], [0, 0], some (Real.log (1 / 2)), 2, 2⟩ := by
    have hz : (ScT.log (Sc.div (Sc.ofNat 1) (Sc.ofNat 2)) : ℝ) = Real.log (1 / 2) := by simp
    rw [← hz]
    simp only [warmupStep, hn, hd, Option.bind_some]
    rfl
  have hrw : reweightStep wEx cfgCl (Model.ClosedLoop.init () 0)
      = ⟨0, .uniform 2, 1, 0, Branch.firstIter, [], [], []⟩ := by
    simp [reweightStep, Model.ClosedLoop.init, batchesOf, Model.Reweight.run, cfgCl, Cfg.target]
  unfold Model.ClosedLoop.iterate
  rw [hrw]
  have h00 := Ex.eqv_zero_zero
  simp only [trainStep, h00, if_true, Option.bind_some, Model.ClosedLoop.init, hw]
  simp [commit, sCl1, returnedWeights, hn]

/-- a world whose FIRST prior batch lies entirely outside the likelihood's support (records below 10 have ℓ = −inf) -/
noncomputable def wEx0 : World ℝ Nat Unit Unit Nat := { wEx with like := fun p => if p < 10 then none else some ((p : ℝ) / 4) }

/-- the redraw loop, evaluated: batch `[0, 1]` is all −inf and is discarded, batch `[10, 11]` is kept; four draws were made -/
theorem drawEx0 : drawLoop wEx0 2 drawCap 0 0 = some ([10, 11], [some (10 / 4), some (11 / 4)], 4, 2) := by
  have hr : List.range 2 = [0, 1] := by decide
  show drawLoop wEx0 2 (998 + 1 + 1) 0 0 = _
  simp [drawLoop, wEx0, wEx, countSome, hr, drawCap]

theorem wfc_sCl1 : WFC sCl1 := by
  intro b hb; simp [sCl1] at hb; subst hb; simp

section AnnealingExample
open Model.Trim Model.Ess

theorem normEx : normalise ([1/2, 1/2] : List ℝ) = [1/2, 1/2] := by
  simp [Model.Ess.normalise_def]; norm_num
/-- `TRIM_BINS = 1` in the example: the only pass of `trim_weights` keeps everything -/
theorem trimEx : Model.Trim.trim [0, 1] ([1/2, 1/2] : List ℝ) (99/100) 1 = some ([0, 1], [1/2, 1/2]) :=
  (Model.Trim.trim_bins_one ([0, 1] : List ℕ) ([1/2, 1/2] : List ℝ) (99/100) (by norm_num) (by norm_num) rfl).trans
    (by rw [normEx])

/-- a world without zero-likelihood records: records below 20 have ℓ = 0, the proposals (records 20, 21, …) ℓ = 1 -/
noncomputable def wEx2 : World ℝ Nat Unit Unit Nat := { wEx with like := fun p => some (if p < 20 then 0 else 1) }

/-- configuration of the annealing example (a run of its own: world `wEx2`, states `sCl2 → sCl3`): `cfgCl` with TRIM_ESS = 0.99 -/
noncomputable def cfgCl2 : CCfg ℝ :=
  ⟨⟨1 / 2, 2, none, 1 / 100, 1 / 10000, 64⟩, true, true, 1, 1, 1, 238 / 100, 99 / 100, 1, 1 / 10000, 0, 8⟩

noncomputable def sCl2 : CState ℝ Nat Unit Nat :=
  ⟨[⟨0, 0, 1, [0, 1], [0, 0], 1, 2, 1, 1, 1⟩], 0, 0, 1, 1, 2, [0, 1], [0, 0], [0, 0], 1, 1, 1, (), 2⟩

theorem rwCl2 : reweightStep wEx2 cfgCl2 sCl2
    = ⟨1, .of [1, 1], 2, oracleZ (batches Ex.s1.hist) 1, Branch.essUpper, [Branch.upOne], [0, 1, 0, 1], [1]⟩ := by
  have hb : batchesOf sCl2.hist = batches Ex.s1.hist := by
    simp [batchesOf, batches, sCl2, Ex.s1, toBatch]
  have hM : oracleMV wEx2 cfgCl2.rw.vv (poolOf sCl2.hist) (batches Ex.s1.hist) = oracleM (batches Ex.s1.hist) :=
    oracleMV_none wEx2 _ _
  rw [reweightStep_eq]
  simp only [hb]
  rw [hM]
  exact Ex.rw2

theorem stepEx : stepAll wEx2 1 [0, 1] [0, 0] [(20, 0, true), (21, 0, false)] [1 / 2, 1 / 2]
    = ([20, 1], [1, 0], [1, 0], [true, false]) := by
  have h20 : wEx2.like 20 = some 1 := rfl
  have ha : Gen.Kernel.acceptProb (1 : ℝ) 0 1 0 = 1 := by
    rw [Model.Kernel.gen_acceptProb]
    simp
  have hd := Ex.accept_half_one
  have ho : Gen.Kernel.alphaOutOfBounds (Sc.zero : ℝ) = 0 := Model.Kernel.gen_alphaOutOfBounds _
  simp only [stepAll, stepOne, if_true, h20, ha, hd, ho, Bool.false_eq_true, if_false]

theorem sigEx : adaptSigmas true (238 / 100 : ℝ) 1 [0, 0] [1, 0] [99 / 100] = [99 / 100] := by
  have hc : Model.Kernel.clusterAlphas [0, 0] ([1, 0] : List ℝ) 0 = [1, 0] := rfl
  have hm : Model.Kernel.mean ([1, 0] : List ℝ) = 1 / 2 := by simp [Model.Kernel.mean, ScReal.sum_def]
  have ht : Gen.Kernel.tpcnAdapt (99 / 100 : ℝ) (Sc.ofNat 1) (1 / 2) (238 / 100) = 99 / 100 := by
    simp [Gen.Kernel.tpcnAdapt, ScReal.min_def, ScReal.max_def]
    norm_num
  simp only [adaptSigmas, List.mapIdx_cons, List.mapIdx_nil, hc, hm, ht, List.isEmpty_cons, Bool.false_eq_true, if_false,
    if_true]

theorem mcCl2 : mcLoop wEx2 cfgCl2 () 1 [0, 0] 8 ⟨0, [0, 1], [0, 0], initSigmas true (238 / 100) 1, 4, [], []⟩
    = some ⟨1, [20, 1], [1, 0], [99 / 100], 6, [1, 0], [[true, false]]⟩ := by
  have hconv : ∀ acc ws : ℝ, Model.Steps.converged 1 1 1 1 acc ws (238 / 100) = true := fun _ _ =>
    Model.Steps.converged_of_cap (Nat.le_refl _)
  have hi : initSigmas true (238 / 100 : ℝ) 1 = [99 / 100] := by
    have h : min (238 / 100 : ℝ) (99 / 10 ^ 2) = 99 / 100 := by norm_num
    simp only [initSigmas, if_true, ScReal.min_def, ScReal.lit_def, Nat.cast_ofNat, h, List.replicate_one]
  have hp : wEx2.propose () [99 / 100] [0, 0] [0, 1] 4 = ([(20, 0, true), (21, 0, false)], 5) := rfl
  have hu : wEx2.unif 5 2 = ([1 / 2, 1 / 2], 6) := rfl
  -- one pass through the loop body; the stop rule fires at once
  rw [hi, show (8 : Nat) = 7 + 1 from rfl, mcLoop]
  simp only [hp, List.length_cons, List.length_nil, Nat.zero_add, Nat.reduceAdd, hu, stepEx]
  simp only [cfgCl2, sigEx, hconv, if_true, List.nil_append]

theorem tiEx : trainInput cfgCl2 ([1/2, 1/2] : List ℝ) [0, 1] = some ([0, 1], [1/2, 1/2]) := by
  have hr : List.range 2 = [0, 1] := by decide
  have hg : gather? ([0, 1] : List Nat) [0, 1] = some [0, 1] := rfl
  simp only [trainInput, List.length_cons, List.length_nil, Nat.zero_add, Nat.reduceAdd, hr, cfgCl2, trimEx,
    Option.bind_some, hg, Option.map_some]

theorem trCl2 : trainStep wEx2 cfgCl2 () 2 ([1/2, 1/2] : List ℝ) [0, 1] 1 2 = some ((), (), 3) := by
  simp only [trainStep, Ex.eqv_one_zero, Bool.false_eq_true, if_false, tiEx, Option.map_some]
  rfl

theorem rsCl2 : resampleStep wEx2 cfgCl2 sCl2.hist ([1/2, 1/2] : List ℝ) () 3
    = some ⟨[0, 1], [0, 1], [0, 0], [0, 0], 4⟩ := by
  have h := Ex.rs2
  rw [Ex.rwEx] at h
  simp only [one_div] at h
  simp [resampleStep, cfgCl2, wEx2, wEx, h, poolOf, sCl2, batchesOf, toBatch, flatLogl, gather?]

noncomputable def sCl3 : CState ℝ Nat Unit Nat :=
  ⟨sCl2.hist ++ [⟨1, Ex.z1, 2, [20, 1], [1, 0], 2, 4, 1, 1 / 2, (99 / 100) / (238 / 100)⟩], 1, Ex.z1, 2, 2, 4, [20, 1], [1, 0],
   [0, 0], 1, 1 / 2, (99 / 100) / (238 / 100), (), 6⟩

/-- the annealing iteration of the example, for ANY reweighting configuration `rw'` for two particles under which
    `Reweighter.run` jumps to β = 1: nothing after the reweighting step reads `rw'` but for `n_particles`.  `itCl2` is the
    ESS-mode instance, `Props.C05.itClV` the volume-variation one. -/
theorem itCl2_of (rw' : Cfg ℝ) (hn : rw'.nPart = 2) (br : Branch) (sub : List Branch) (calls zc : List ℝ)
    (hr : reweightStep wEx2 { cfgCl2 with rw := rw' } sCl2 = ⟨1, .of [1, 1], 2, Ex.z1, br, sub, calls, zc⟩) :
    Model.ClosedLoop.iterate wEx2 { cfgCl2 with rw := rw' } sCl2
      = some (sCl3, ⟨1, 2, Ex.z1, Ex.z1, br, [1/2, 1/2], some ([0, 1], [1/2, 1/2]), [0, 1], [[true, false]], [99 / 100]⟩) := by
  have h10 := Ex.eqv_one_zero
  have hpool : poolOf sCl2.hist = [0, 1] := rfl
  -- what the rest of the iteration reads of the configuration, taken from the evaluations at `cfgCl2`
  generalize hc : ({ cfgCl2 with rw := rw' } : CCfg ℝ) = c at hr ⊢
  have trV : trainStep wEx2 c () 2 ([1/2, 1/2] : List ℝ) [0, 1] 1 2 = some ((), (), 3) := hc ▸ trCl2
  have tiV : trainInput c ([1/2, 1/2] : List ℝ) [0, 1] = some ([0, 1], [1/2, 1/2]) := hc ▸ tiEx
  have rsV : resampleStep wEx2 c sCl2.hist ([1/2, 1/2] : List ℝ) () 3 = some ⟨[0, 1], [0, 1], [0, 0], [0, 0], 4⟩ := by
    subst hc
    have h := rsCl2
    unfold resampleStep at h ⊢
    simp only [hn]
    exact h
  have mcV : mutate wEx2 c 1 ((), (), 3) ⟨[0, 1], [0, 1], [0, 0], [0, 0], 4⟩
      = some ⟨1, [20, 1], [1, 0], [99 / 100], 6, [1, 0], [[true, false]]⟩ :=
    hc ▸ (mcLoop_congr wEx2 { cfgCl2 with rw := rw' } cfgCl2 ⟨rfl, rfl, rfl, rfl, rfl⟩ () 1 [0, 0] 8 _).trans mcCl2
  rw [Lemmas.ClosedLoop.iterate_eq, hr]
  simp only [Ex.rwEx, hpool, h10, Bool.false_eq_true, if_false]
  rw [show sCl2.ts = () from rfl, show sCl2.g = 2 from rfl, show sCl2.iter + 1 = 2 from rfl, trV]
  simp only [Option.bind_some, Lemmas.ClosedLoop.annealTail, Ex.rwEx, rsV, List.isEmpty_cons, Bool.false_eq_true, if_false, mcV,
    Option.map_some, annealResult, hpool, tiV]
  congr 1
  subst hc
  simp [commit, sCl3, sCl2, Ex.z1, Model.Kernel.mean, ScReal.sum_def]
  exact ⟨rfl, rfl, rfl⟩

theorem itCl2 : Model.ClosedLoop.iterate wEx2 cfgCl2 sCl2
    = some (sCl3, ⟨1, 2, Ex.z1, Ex.z1, Branch.essUpper, [1/2, 1/2], some ([0, 1], [1/2, 1/2]), [0, 1], [[true, false]],
        [99 / 100]⟩) :=
  itCl2_of cfgCl2.rw rfl _ _ _ _ rwCl2

theorem wfc_sCl3 : WFC sCl3 := by
  intro b hb
  simp only [sCl3, sCl2, List.cons_append, List.nil_append, List.mem_cons, List.not_mem_nil, or_false] at hb
  rcases hb with rfl | rfl <;> simp

end AnnealingExample

end Props.C10
