import TempestVerif.Model.Modes
import TempestVerif.Model.Cadence
import TempestVerif.Lemmas.CholeskyPD
import TempestVerif.Props.C15
import TempestVerif.Props.C14Resume
import TempestVerif.Lemmas.OptionList
import TempestVerif.Gen.Constants
import Mathlib.Data.List.Sort
/-
  C14 — cluster labels and proposal modes stay coherent.

  Four parts, mirroring the statement.  Labels: `Mutator.run` maps every RAW cluster label through `ModeStatistics.mode_index` to the
  index of a mode that exists and was built from exactly the training particles of the (re)label (the raw-index lookup used before
  commit 88d298f does not: F12).  Cadence: the shared clusterer is fitted before it is asked to predict; the invariant of reachable
  states comes from `Model.CadenceX` through the simulation in `Props/C14Resume.lean` (read that file first).  Cap: `K_fit ≤
  n_max_clusters` from the wiring and C15's bound.  Validity: a mode object that exists has a Cholesky factor of every scale matrix.
-/
namespace Props.C14
open Model.Modes Model.Cadence Lemmas.OptionList

/-! ## labels → modes -/

theorem mem_insertU (a x : Nat) (l : List Nat) : x ∈ insertU a l ↔ x = a ∨ x ∈ l := by
  fun_induction insertU a l with
  | case1 => simp
  | case2 b bs h => exact List.mem_cons
  | case3 bs h => simp
  | case4 b bs h1 h2 ih => rw [List.mem_cons, ih, List.mem_cons]; exact or_left_comm

theorem pairwise_insertU (a : Nat) (l : List Nat) (h : l.Pairwise (· < ·)) : (insertU a l).Pairwise (· < ·) := by
  fun_induction insertU a l with
  | case1 => exact List.pairwise_singleton _ _
  | case2 b bs hab =>
    refine List.pairwise_cons.2 ⟨fun x hx => ?_, h⟩
    rcases List.mem_cons.1 hx with rfl | hx
    · exact hab
    · exact Nat.lt_trans hab ((List.pairwise_cons.1 h).1 x hx)
  | case3 bs _ => exact h
  | case4 b bs h1 h2 ih =>
    obtain ⟨hb, hbs⟩ := List.pairwise_cons.1 h
    refine List.pairwise_cons.2 ⟨fun x hx => ?_, ih hbs⟩
    rcases (mem_insertU a x bs).1 hx with rfl | hx
    · omega
    · exact hb x hx

theorem mem_uniqueSorted (labels : List Nat) (x : Nat) : x ∈ uniqueSorted labels ↔ x ∈ labels := by
  induction labels with
  | nil => simp [uniqueSorted]
  | cons a as ih =>
    have : uniqueSorted (a :: as) = insertU a (uniqueSorted as) := rfl
    rw [this, mem_insertU, ih]; simp

theorem pairwise_uniqueSorted (labels : List Nat) : (uniqueSorted labels).Pairwise (· < ·) := by
  induction labels with
  | nil => simp [uniqueSorted]
  | cons a as ih => exact pairwise_insertU a _ ih

theorem mem_indicesOf (labels : List Nat) (a i : Nat) : i ∈ indicesOf labels a ↔ labels[i]? = some a := by
  unfold indicesOf
  simp only [List.mem_filter, List.mem_range, beq_iff_eq]
  constructor
  · exact fun h => h.2
  · intro h
    refine ⟨?_, h⟩
    by_contra hlt
    rw [List.getElem?_eq_none (by omega)] at h
    cases h

theorem indicesOf_ne_nil (labels : List Nat) (a : Nat) (h : a ∈ labels) : indicesOf labels a ≠ [] := by
  obtain ⟨i, hi, rfl⟩ := List.mem_iff_getElem.1 h
  intro hnil
  have : i ∈ indicesOf labels labels[i] := (mem_indicesOf labels _ i).2 (by simp [hi])
  rw [hnil] at this
  cases this

/-- **mode index = RANK of the label among the present labels** (what `from_particles` builds) -/
theorem C14_lookup_by_rank (labels : List Nat) (i : Nat) :
    modeOfRaw (fromParticles labels) i = ((uniqueSorted labels)[i]?).map (indicesOf labels) := by
  simp [modeOfRaw, fromParticles]

theorem numModes_eq (labels : List Nat) : numModes labels = (uniqueSorted labels).length := by
  simp [numModes, fromParticles]

theorem uniqueSorted_ne_nil {labels : List Nat} (hne : labels ≠ []) : uniqueSorted labels ≠ [] := by
  obtain ⟨x, hx⟩ := List.exists_mem_of_ne_nil labels hne
  exact List.ne_nil_of_mem ((mem_uniqueSorted labels x).2 hx)

theorem numModes_pos {labels : List Nat} (hne : labels ≠ []) : 0 < numModes labels :=
  numModes_eq labels ▸ List.length_pos_iff.2 (uniqueSorted_ne_nil hne)

theorem labelsOf_length (labels : List Nat) : (labelsOf labels).length = numModes labels := (numModes_eq labels).symm

theorem searchsorted_mem (ul : List Nat) (h : ul.Pairwise (· < ·)) (a : Nat) (ha : a ∈ ul) :
    ul[searchsorted ul a]? = some a := by
  induction ul with
  | nil => cases ha
  | cons b bs ih =>
    obtain ⟨hb, hbs⟩ := List.pairwise_cons.1 h
    rw [searchsorted]
    rcases List.mem_cons.1 ha with rfl | hab
    · rw [if_neg (Nat.lt_irrefl _)]; rfl
    · rw [if_pos (hb a hab)]; exact ih hbs hab

theorem modeIndex_present (ul : List Nat) (h : ul.Pairwise (· < ·)) (nearest a : Nat) (ha : a ∈ ul) :
    ul[modeIndex ul nearest a]? = some a ∧ modeIndex ul nearest a = searchsorted ul a := by
  have hs := searchsorted_mem ul h a ha
  have hlt : searchsorted ul a < ul.length := (List.getElem?_eq_some_iff.1 hs).1
  have hmin : min (searchsorted ul a) (ul.length - 1) = searchsorted ul a := by omega
  have : modeIndex ul nearest a = searchsorted ul a := by
    simp only [modeIndex, hmin, hs, beq_self_eq_true, if_true]
  exact ⟨this ▸ hs, this⟩

theorem modeIndex_lt (ul : List Nat) (hne : ul ≠ []) (nearest a : Nat) (hn : nearest < ul.length) :
    modeIndex ul nearest a < ul.length := by
  have hpos : 0 < ul.length := List.length_pos_iff.2 hne
  unfold modeIndex
  simp only
  split
  · omega
  · exact hn

/-- **C14 (labels), FULL.**  For every non-empty training label vector, EVERY raw assignment `a` (present or not, in range or
    not) and every value `nearest < K` of the nearest-mean `argmin`:
      * the index handed to the kernel is `< K_modes`, so the kernel's lookup succeeds;
      * the relabelled assignment written back to the state is a label PRESENT among the training particles;
      * the mode at that index was built from exactly the training particles carrying that (relabelled) label
        (`i ∈ mode ↔ labels[i] = l`), a non-empty set;
      * if the raw label is present the relabelling is the identity and the fallback is not consulted. -/
theorem C14_labels_full (labels : List Nat) (hne : labels ≠ []) (nearest a : Nat) (hn : nearest < numModes labels) :
    modeIndex (labelsOf labels) nearest a < numModes labels ∧
    ∃ l, relabel (labelsOf labels) nearest a = some l ∧ l ∈ labels ∧
      modeOf labels nearest a = some (indicesOf labels l) ∧
      (∀ i, i ∈ indicesOf labels l ↔ labels[i]? = some l) ∧ indicesOf labels l ≠ [] ∧
      (a ∈ labels → l = a ∧ ∀ n', modeIndex (labelsOf labels) n' a = modeIndex (labelsOf labels) nearest a) := by
  have hul := uniqueSorted_ne_nil hne
  rw [numModes_eq] at hn ⊢
  have hlt := modeIndex_lt (uniqueSorted labels) hul nearest a hn
  refine ⟨hlt, (uniqueSorted labels)[modeIndex (uniqueSorted labels) nearest a], ?_, ?_, ?_, ?_, ?_, ?_⟩
  · simp [relabel, labelsOf, hlt]
  · exact (mem_uniqueSorted labels _).1 (List.getElem_mem hlt)
  · simp [modeOf, labelsOf, C14_lookup_by_rank, hlt]
  · exact mem_indicesOf labels _
  · exact indicesOf_ne_nil labels _ ((mem_uniqueSorted labels _).1 (List.getElem_mem hlt))
  · intro ha
    have ha' := (mem_uniqueSorted labels a).2 ha
    obtain ⟨h1, h2⟩ := modeIndex_present (uniqueSorted labels) (pairwise_uniqueSorted labels) nearest a ha'
    refine ⟨?_, fun n' => ?_⟩
    · rw [List.getElem?_eq_getElem hlt] at h1
      exact Option.some.inj h1
    · show modeIndex (uniqueSorted labels) n' a = modeIndex (uniqueSorted labels) nearest a
      rw [(modeIndex_present (uniqueSorted labels) (pairwise_uniqueSorted labels) n' a ha').2, h2]

theorem uniqueSorted_eq_range (K : Nat) (labels : List Nat)
    (hrange : ∀ l ∈ labels, l < K) (hcov : ∀ k, k < K → k ∈ labels) :
    uniqueSorted labels = List.range K := by
  refine List.Pairwise.eq_of_mem_iff (pairwise_uniqueSorted labels) List.pairwise_lt_range ?_
  intro a
  rw [mem_uniqueSorted, List.mem_range]
  exact ⟨hrange a, hcov a⟩

/-- special case (the common one): when every label in `[0, K_fit)` occurs among the training labels, `K_modes = K_fit`,
    the mapping is the identity on indices and labels, and label `a` gets the mode built from the particles labelled `a`. -/
theorem C14_labels_partial (K : Nat) (labels : List Nat)
    (hrange : ∀ l ∈ labels, l < K) (hcov : ∀ k, k < K → k ∈ labels) :
    numModes labels = K ∧
    ∀ a nearest, a < K → modeIndex (labelsOf labels) nearest a = a ∧ relabel (labelsOf labels) nearest a = some a ∧
      modeOf labels nearest a = some (indicesOf labels a) := by
  have hu := uniqueSorted_eq_range K labels hrange hcov
  have hK : numModes labels = K := by rw [numModes_eq, hu, List.length_range]
  refine ⟨hK, fun a nearest ha => ?_⟩
  have hmem := hcov a ha
  -- `C14_labels_full` at the fallback 0; the index of a present label does not depend on the fallback
  obtain ⟨-, l, hrel, -, hmode, -, -, hkeep⟩ :=
    C14_labels_full labels (List.ne_nil_of_mem hmem) 0 a (hK ▸ Nat.zero_lt_of_lt ha)
  obtain ⟨rfl, hidx⟩ := hkeep hmem
  have hrel' : relabel (labelsOf labels) nearest l = some l := by rw [relabel, hidx nearest]; exact hrel
  -- the stored labels are `range K`, where the entry at an index is the index
  have hi : modeIndex (labelsOf labels) nearest l = l := by
    have h := hrel'
    rw [relabel] at h
    rw [labelsOf, hu] at h ⊢
    obtain ⟨_, e⟩ := List.getElem?_eq_some_iff.1 h
    rwa [List.getElem_range] at e
  exact ⟨hi, hrel', by rw [modeOf, hidx nearest]; exact hmode⟩

/-- the `self.labels is None` path (`from_global`: one mode, assignments all `0` when clustering is off): index `0 < 1` -/
theorem C14_index_global (nearest : Nat) : modeIndexOpt none nearest 0 < 1 := by
  simp [modeIndexOpt]

/-- the weighted resampling inside `from_particles` feeds `fit_mvstud` only particles of that same cluster -/
theorem fitInput_mem (mode : Mode) (tape xs : List Nat) (h : fitInput mode tape = some xs) :
    xs.length = tape.length ∧ ∀ x ∈ xs, x ∈ mode := by
  have e : ∀ t : List Nat, fitInput mode t = t.mapM (mode[·]?) := fun t => by
    induction t with
    | nil => rfl
    | cons j js ih => rw [fitInput, ih, List.mapM_cons]; cases mode[j]? <;> cases js.mapM (mode[·]?) <;> rfl
  rw [e] at h
  exact ⟨mapM_length h, fun x hx => let ⟨_, _, hi⟩ := mapM_mem h hx; List.mem_of_getElem? hi⟩

/-- … so whatever is drawn, the mode a particle is mutated with was fitted from training particles that all carry the
    label the particle ends up with (its own label whenever that label has a mode) -/
theorem C14_fit_from_same_cluster (labels : List Nat) (hne : labels ≠ []) (nearest a : Nat) (hn : nearest < numModes labels)
    (mode : Mode) (hm : modeOf labels nearest a = some mode) (tape xs : List Nat) (hx : fitInput mode tape = some xs) :
    ∃ l, relabel (labelsOf labels) nearest a = some l ∧ (a ∈ labels → l = a) ∧ ∀ i ∈ xs, labels[i]? = some l := by
  obtain ⟨_, l, h1, _, h3, _, _, h6⟩ := C14_labels_full labels hne nearest a hn
  rw [hm] at h3; injection h3 with h3; subst h3
  refine ⟨l, h1, fun ha => (h6 ha).1, ?_⟩
  intro i hi
  exact (mem_indicesOf labels l i).1 ((fitInput_mem _ tape xs hx).2 i hi)

/-! ### the nearest-mean fallback inside the model -/

section argmin
variable {α : Type} [Sc α]

theorem modeIndexD_spec (stored : List Nat) (hne : stored ≠ []) (drow : List α) (hlen : drow.length = stored.length) (a : Nat) :
    ∃ n, n < stored.length ∧ modeIndexD stored drow a = some (modeIndex stored n a) := by
  have hrow : drow ≠ [] := by
    intro h; rw [h] at hlen; exact hne (List.length_eq_zero_iff.1 hlen.symm)
  obtain ⟨n, hn1, hn2⟩ := Props.C15.argmin_range drow hrow
  refine ⟨n, by omega, ?_⟩
  unfold modeIndexD modeIndex
  simp only
  split <;> simp [hn1]

/-- **C14 (labels), FULL, with no hypothesis on the fallback**: for every non-empty training label vector, every raw assignment and
    every row of `K_modes` distances, `mode_index` returns an index `i < K_modes`; the relabelled assignment `l` is a present label; the
    mode at `i` was built from exactly the training particles carrying `l`; a label that has a mode keeps it. -/
theorem C14_labels_full_argmin (labels : List Nat) (hne : labels ≠ []) (drow : List α) (hlen : drow.length = numModes labels)
    (a : Nat) :
    ∃ i l, modeIndexD (labelsOf labels) drow a = some i ∧ i < numModes labels ∧ (labelsOf labels)[i]? = some l ∧ l ∈ labels ∧
      modeOfRaw (fromParticles labels) i = some (indicesOf labels l) ∧
      (∀ p, p ∈ indicesOf labels l ↔ labels[p]? = some l) ∧ indicesOf labels l ≠ [] ∧ (a ∈ labels → l = a) := by
  have hul := uniqueSorted_ne_nil hne
  rw [numModes_eq] at hlen
  obtain ⟨n, hn, hD⟩ := modeIndexD_spec (uniqueSorted labels) hul drow hlen a
  obtain ⟨h1, l, h2, h3, h4, h5, h6, h7⟩ := C14_labels_full labels hne n a (by rw [numModes_eq]; exact hn)
  exact ⟨_, l, hD, h1, h2, h3, h4, h5, h6, fun ha => (h7 ha).1⟩

end argmin

example : modeIndexD (α := Rat) (labelsOf [0, 2, 2]) [5, 1] 1 = some 1 ∧ modeIndexD (α := Rat) (labelsOf [0, 2, 2]) [1, 5] 1 = some 0 ∧
    modeIndexD (α := Rat) (labelsOf [0, 2, 2]) [1, 5] 2 = some 1 ∧ modeIndexD (α := Rat) (labelsOf [0, 2, 2]) [3, 3] 7 = some 0 := by decide

/-! ### the OLD lookup (before commit 88d298f): the kernels were handed the raw labels -/

/-- the statement the old raw-index lookup would have had to satisfy -/
def OldLookupCoherent : Prop :=
  ∀ (K : Nat) (train : List Nat), (∀ l ∈ train, l < K) →
    ∀ a, a < K → modeOfRaw (fromParticles train) a = some (indicesOf train a)

/-- **F12 (repaired in 88d298f), documented**: with the raw label as index, `train = [0,2,2]`, `K_fit = 3`:
    an active particle predicted `2` indexes past the end (`IndexError`), one predicted `1` silently gets the mode fitted
    from cluster `2`; so the old lookup was not coherent. -/
theorem C14_labels_old_lookup_fails :
    ¬ OldLookupCoherent ∧
    numModes [0, 2, 2] = 2 ∧ modeOfRaw (fromParticles [0, 2, 2]) 2 = none ∧
    modeOfRaw (fromParticles [0, 2, 2]) 1 = some (indicesOf [0, 2, 2] 2) ∧ indicesOf [0, 2, 2] 2 = [1, 2] := by
  refine ⟨?_, by decide, by decide, by decide, by decide⟩
  intro h
  have h2 := h 3 [0, 2, 2] (by decide) 2 (by decide)
  have h3 : modeOfRaw (fromParticles [0, 2, 2]) 2 = none := by decide
  rw [h3] at h2
  cases h2

/-- … and on the same input the lookup as it is now is right: label 2 → index 1 = its own mode; label 1 (no mode) → whichever
    existing mode is nearest, relabelled accordingly -/
theorem C14_labels_new_lookup_on_F12 :
    modeIndex (labelsOf [0, 2, 2]) 0 2 = 1 ∧ modeOf [0, 2, 2] 0 2 = some [1, 2] ∧ relabel (labelsOf [0, 2, 2]) 0 2 = some 2 ∧
    modeOf [0, 2, 2] 0 1 = some [0] ∧ relabel (labelsOf [0, 2, 2]) 0 1 = some 0 ∧
    modeOf [0, 2, 2] 1 1 = some [1, 2] ∧ relabel (labelsOf [0, 2, 2]) 1 1 = some 2 ∧
    modeOf [0, 2, 2] 1 7 = some [1, 2] := by decide

/-! non-vacuity -/
example : numModes [1, 0, 2, 0, 1] = 3 ∧
    modeOf [1, 0, 2, 0, 1] 0 0 = some [1, 3] ∧
    modeOf [1, 0, 2, 0, 1] 0 1 = some [0, 4] ∧
    modeOf [1, 0, 2, 0, 1] 0 2 = some [2] := by decide
example : [5, 2, 5] ≠ [] ∧ 1 < numModes [5, 2, 5] ∧ modeIndex (labelsOf [5, 2, 5]) 1 5 = 1 ∧ modeIndex (labelsOf [5, 2, 5]) 1 2 = 0 ∧
    modeIndex (labelsOf [5, 2, 5]) 1 3 = 1 ∧ modeIndex (labelsOf [5, 2, 5]) 0 9 = 0 ∧ modeOf [5, 2, 5] 0 9 = some [1] := by decide
example : (∀ l ∈ [1, 0, 2, 0, 1], l < 3) ∧ (∀ k, k < 3 → k ∈ [1, 0, 2, 0, 1]) := by decide
example : uniqueSorted [5, 2, 5, 0, 2] = [0, 2, 5] ∧ searchsorted [0, 2, 5] 3 = 2 ∧ searchsorted [0, 2, 5] 9 = 3 := by decide
example : fitInput [1, 3] [1, 1, 0, 1] = some [3, 3, 1, 3] ∧ fitInput [1, 3] [2] = none := by decide

/-! ## cadence -/

theorem run_snoc (c : Cfg) (iter0 : Nat) (steps : List Step) (st : Step) :
    run c iter0 (steps ++ [st]) = step c (run c iter0 steps) st := by
  simp [run, List.foldl_append]

theorem inv_run (ce : Nat) (clustering : Bool) (iter0 : Nat) (steps : List Step) :
    Inv (run { clusterEvery := ce, clustering := clustering, useFlag := true } iter0 steps) :=
  inv_of_sim (C14X_refines ce clustering iter0 steps) (invX_reach _ iter0 _)

/-- **C14 (cadence).**  For EVERY `cluster_every ≥ 1`, clustering on or off, every restored `iter`, and every run made of
    iterations with an arbitrary β = 0 / β > 0 flag and save/load/resume boundaries anywhere (any number of them):
    no `predict` ever reaches an unfitted clusterer object — stated on the verdict AND, independently, on the trace.
    (`1 ≤ ce` is the domain of Python's `%`; the proof does not use it.) -/
theorem C14_cadence (ce : Nat) (_hce : 1 ≤ ce) (clustering : Bool) (iter0 : Nat) (steps : List Step) :
    (run { clusterEvery := ce, clustering := clustering, useFlag := true } iter0 steps).verdict = .ok ∧
    noPredictBeforeFit (run { clusterEvery := ce, clustering := clustering, useFlag := true } iter0 steps).trace = true := by
  have h := inv_run ce clustering iter0 steps
  refine ⟨h.1, ?_⟩
  unfold noPredictBeforeFit
  rw [h.2.2]
  rfl

/-- the same in the driver's vocabulary: a β-schedule and ONE optional resume point -/
theorem C14_cadence_resume (ce : Nat) (hce : 1 ≤ ce) (iter0 : Nat) (sched : List Bool) (r : Option Nat) :
    (run { clusterEvery := ce } iter0 (withResume sched r)).verdict = .ok ∧
    noPredictBeforeFit (run { clusterEvery := ce } iter0 (withResume sched r)).trace = true :=
  C14_cadence ce hce true iter0 (withResume sched r)

theorem emitPredict_fitted (s : St) (hf : s.clFitted = true) : emitPredict s = { s with trace := s.trace ++ [.predict] } := by
  unfold emitPredict; rw [if_pos hf]

theorem trainer_anneal (c : Cfg) (hc : c.useFlag = true) (hcl : c.clustering = true) (s : St) (h : Inv s) :
    (trainer c false s).clFitted = true ∧ (trainer c false s).verdict = .ok ∧
    ∃ didFit : Bool, (trainer c false s).trace = s.trace ++ ((if didFit then [.fit] else []) ++ [.predict]) := by
  unfold trainer
  rw [if_neg Bool.false_ne_true, hcl, Bool.true_and, Bool.true_and]
  by_cases hfit : fitCond c s = true
  · rw [if_pos hfit, emitPredict_fitted _ rfl]
    exact ⟨rfl, h.1, true, List.append_assoc ..⟩
  · -- no fit is due: off the cadence, and the flag is set, so the object holds a fit
    have hon : onCadence c s = false ∧ s.flag = true := by
      revert hfit; unfold fitCond; rw [hc]
      cases onCadence c s <;> cases s.flag <;> decide
    rw [if_neg hfit, hon.1, emitPredict_fitted _ (h.2.1 hon.2)]
    exact ⟨h.2.1 hon.2, h.1, false, rfl⟩

theorem step_anneal (c : Cfg) (hc : c.useFlag = true) (hcl : c.clustering = true) (s : St) (h : Inv s) :
    (step c s (.iter false)).clFitted = true ∧ (step c s (.iter false)).verdict = .ok ∧
    ∃ didFit, (step c s (.iter false)).trace = s.trace ++ annealEvents didFit := by
  obtain ⟨hf, hv, b, ht⟩ := trainer_anneal c hc hcl { s with iter := s.iter + 1 } h
  have e : step c s (.iter false) = emitPredict (trainer c false { s with iter := s.iter + 1 }) := by
    rw [step, if_neg (by simp [h.1]), resampler, if_neg (by simp [hv]), if_neg Bool.false_ne_true, if_pos hcl]
  rw [e, emitPredict_fitted _ hf]
  exact ⟨hf, hv, b, by rw [ht, List.append_assoc, List.append_assoc]; rfl⟩

/-- when mutation runs (β > 0, clustering on), the clusterer object has been fitted: the assignments are real predictions -/
theorem C14_fitted_at_mutation (ce : Nat) (_hce : 1 ≤ ce) (iter0 : Nat) (steps : List Step) :
    (run { clusterEvery := ce } iter0 (steps ++ [.iter false])).clFitted = true := by
  rw [run_snoc]
  exact (step_anneal _ rfl rfl _ (inv_run ce true iter0 steps)).1

/-- **one clustering per mutation**: in an annealing iteration (clustering on) of an undisturbed run, the clusterer events are
    `[fit,] predict, predict` and nothing else — the training labels the modes are built from (`Trainer.run`) and the assignments of
    the active particles (`Resampler.run`) are predictions of the SAME fitted clusterer, with no refit in between. -/
theorem C14_same_fit_generation (c : Cfg) (hc : c.useFlag = true) (hcl : c.clustering = true) (s : St) (h : Inv s) :
    ∃ didFit, (step c s (.iter false)).trace = s.trace ++ annealEvents didFit ∧ (step c s (.iter false)).verdict = .ok := by
  obtain ⟨-, hv, b, ht⟩ := step_anneal c hc hcl s h
  exact ⟨b, ht, hv⟩

/-- the same at the end of every run: any `cluster_every`, restored `iter`, β-schedule and resume boundaries before it -/
theorem C14_same_fit_generation_run (ce iter0 : Nat) (steps : List Step) :
    ∃ didFit, (run { clusterEvery := ce } iter0 (steps ++ [.iter false])).trace
      = (run { clusterEvery := ce } iter0 steps).trace ++ annealEvents didFit := by
  rw [run_snoc]
  obtain ⟨b, hb, -⟩ := C14_same_fit_generation { clusterEvery := ce } rfl rfl _ (inv_run ce true iter0 steps)
  exact ⟨b, hb⟩

example : (run { clusterEvery := 3 } 0 ([.iter true, .iter false, .resume] ++ [.iter false])).trace
    = (run { clusterEvery := 3 } 0 [.iter true, .iter false, .resume]).trace ++ annealEvents true := by decide

/-- **why the fix was needed**: the same model WITHOUT the `not self._clusterer_fitted` disjunct, `cluster_every = 3`,
    three warm-up iterations: the first annealing iteration is `iter = 4`, `4 % 3 ≠ 0` ⇒ `predict` on an unfitted clusterer -/
theorem C14_cadence_old_fails :
    (run { clusterEvery := 3, useFlag := false } 0 (withResume [true, true, true, false] none)).verdict = .predictBeforeFit ∧
    (run { clusterEvery := 3, useFlag := false } 0 (withResume [true, true, true, false] none)).trace = [.fresh, .predict] ∧
    noPredictBeforeFit (run { clusterEvery := 3, useFlag := false } 0 (withResume [true, true, true, false] none)).trace = false := by
  decide

/-- … and the old model fails after EVERY resume that lands off the cadence, even with `cluster_every = 2` -/
theorem C14_cadence_old_fails_resume :
    (run { clusterEvery := 2, useFlag := false } 0 (withResume [true, false, false, false] (some 2))).verdict
      = .predictBeforeFit := by
  decide

/-! non-vacuity: the repaired model on the same inputs, and a resume in the middle -/
example : (run { clusterEvery := 3 } 0 (withResume [true, true, true, false, false, false] none)).trace
    = [.fresh, .fit, .predict, .predict, .predict, .predict, .fit, .predict, .predict] := by decide
example : (run { clusterEvery := 2 } 0 (withResume [true, false, false, false] (some 2))).trace
    = [.fresh, .fit, .predict, .predict, .fresh, .fit, .predict, .predict, .fit, .predict, .predict] := by decide
example : noPredictBeforeFit [.fresh, .fit, .predict, .fresh, .predict] = false := by decide

/-! ## cap -/

/-- **C14 (cap).**  Wiring (core.py): `max_iterations = n_max_clusters − 1`; C15 (`Props.C15.C15_cap`): the fitted
    hierarchy has `K ≤ max_iterations + 1` clusters.  Hence `K_fit ≤ n_max_clusters` (for `n_max_clusters ≥ 1`). -/
theorem C14_cap (nMax maxIt K : Nat) (hn : 1 ≤ nMax) (hwire : maxIt = nMax - 1) (hC15 : K ≤ maxIt + 1) : K ≤ nMax := by
  omega

/-- with `n_max_clusters = None` the wiring passes `max_iterations = 1000`: the cap is 1001 -/
theorem C14_cap_none (K : Nat) (hC15 : K ≤ 1000 + 1) : K ≤ 1001 := hC15

example : (2 : Nat) ≤ 2 := C14_cap 2 1 2 (by decide) rfl (by decide)

/-- the hypothesis `1 ≤ nMax` of `C14_cap` cannot be met at `n_max_clusters = 0`: there the code wires `max_iterations = −1`, the loop
    never runs and `K = 1 > 0`, so no cap of 0 holds -/
example : ¬ ((1 : Nat) ≤ 0) := by decide

/-- **cap, from C15's theorem and the wiring** (no bound assumed): the hierarchy fitted with `max_iterations` wired from
    `n_max_clusters = some nMax`, `nMax ≥ 1`, has between 1 and `nMax` clusters, for every split oracle that labels children validly -/
theorem C14_cap_hgmm {α : Type} [Sc α] (oracle : Nat → Nat → List Nat → Model.HGMM.Entry α) (n minPts nMax : Nat) (hn : 1 ≤ nMax)
    (hlab : ∀ it idx c, minPts ≤ c.length → Props.C15.LabelsOK c (oracle it idx c).childLabels) :
    1 ≤ (Model.HGMM.fitClusters oracle n minPts (wiredMaxIterations (some nMax))).length ∧
    (Model.HGMM.fitClusters oracle n minPts (wiredMaxIterations (some nMax))).length ≤ nMax := by
  obtain ⟨h1, h2⟩ := Props.C15.C15_cap oracle n minPts (wiredMaxIterations (some nMax)) hlab
  refine ⟨h1, ?_⟩
  simp only [wiredMaxIterations] at h2 ⊢
  omega

example : wiredMaxIterations none = 1000 ∧ wiredMaxIterations (some 1) = 0 ∧ wiredMaxIterations (some 3) = 2 := by decide

/-! ## validity by construction -/

/-- **C14 (validity by construction).**  `ModeStatistics.__init__` computes `inv` and `cholesky` of every covariance and
    raises on failure.  So for any mode object that EXISTS (reaches the kernel): means, scale matrices, degrees of freedom,
    inverses and Cholesky factors all have length `K`, and every scale matrix has an inverse and a Cholesky factor — hence is
    positive definite, for any `isPD` that `cholesky?` certifies.  (SPD-ness of what `fit_mvstud` returns, and the positive
    finite dof via the fallback, are C19's theorems `C19_sigma_pd`, `C19_nu_range`; not re-proved here.) -/
theorem C14_modes_valid_by_construction {V M D : Type} (inv? cholesky? : M → Option M) (isPD : M → Prop)
    (hchol : ∀ m l, cholesky? m = some l → isPD m)
    (means : List V) (covs : List M) (dofs : List D) (ms : ModeStats V M D)
    (h : mkModeStats inv? cholesky? means covs dofs = some ms) :
    ms.covs.length = ms.K ∧ ms.dofs.length = ms.K ∧ ms.invs.length = ms.K ∧ ms.chols.length = ms.K ∧
    ∀ k, k < ms.K → ∃ m l i, ms.covs[k]? = some m ∧ ms.chols[k]? = some l ∧ ms.invs[k]? = some i ∧
      cholesky? m = some l ∧ inv? m = some i ∧ isPD m := by
  unfold mkModeStats at h
  split at h
  · rename_i hshape
    split at h
    · rename_i is ls his hls
      cases h
      rw [modes_mapOpt] at his hls
      refine ⟨hshape.1, hshape.2, (mapM_length his).trans hshape.1, (mapM_length hls).trans hshape.1, fun k hk => ?_⟩
      have hk' : k < covs.length := hshape.1 ▸ hk
      have hck : covs[k]? = some covs[k] := List.getElem?_eq_getElem hk'
      have hl := List.getElem?_eq_getElem (mapM_length hls ▸ hk')
      have hi := List.getElem?_eq_getElem (mapM_length his ▸ hk')
      have hl2 := (mapM_get hls hck).trans hl
      exact ⟨_, _, _, hck, hl, hi, hl2, (mapM_get his hck).trans hi, hchol _ _ hl2⟩
    · cases h
  · cases h

/-- a lookup that succeeds on such an object returns a mode with a Cholesky factor -/
theorem C14_lookup_has_cholesky {V M D : Type} (inv? cholesky? : M → Option M) (isPD : M → Prop)
    (hchol : ∀ m l, cholesky? m = some l → isPD m)
    (means : List V) (covs : List M) (dofs : List D) (ms : ModeStats V M D)
    (h : mkModeStats inv? cholesky? means covs dofs = some ms) (a : Nat) (ha : a < ms.K) :
    ∃ m l, ms.covs[a]? = some m ∧ ms.chols[a]? = some l ∧ isPD m := by
  obtain ⟨m, l, _, h1, h2, _, _, _, h3⟩ :=
    (C14_modes_valid_by_construction inv? cholesky? isPD hchol means covs dofs ms h).2.2.2.2 a ha
  exact ⟨m, l, h1, h2, h3⟩

/-! non-vacuity: 1×1 "matrices" = integers, `cholesky?` defined on positive ones only -/
example : (mkModeStats (V := Nat) (D := Nat) (fun m : Int => if m = 0 then none else some m)
      (fun m : Int => if 0 < m then some m else none) [0, 1] [4, 9] [5, 5]).isSome = true ∧
    (mkModeStats (V := Nat) (D := Nat) (fun m : Int => if m = 0 then none else some m)
      (fun m : Int => if 0 < m then some m else none) [0, 1] [4, -9] [5, 5]).isSome = false ∧
    (mkModeStats (V := Nat) (D := Nat) (fun m : Int => if m = 0 then none else some m)
      (fun m : Int => if 0 < m then some m else none) [0, 1] [4] [5, 5]).isSome = false := by decide

/-- **degrees of freedom**: what `from_particles` stores is positive as soon as the fallback constant is and the fit answers a positive
    value whenever it answers a finite one (`Props.C19.C19_nu_range`) -/
theorem C14_dof_positive {D : Type} [LT D] [Zero D] (nu : Option D) (fallback : D) (hfb : 0 < fallback)
    (hfit : ∀ v, nu = some v → 0 < v) : 0 < applyDofFallback nu fallback := by
  cases nu with
  | none => exact hfb
  | some v => exact hfit v rfl

/-- the fallback the core passes (`DOF_FALLBACK`, regenerated from /repo's config.py by translator G1) is positive -/
theorem C14_dof_fallback_constant_pos : (0 : Rat) < (Gen.Constants.DOF_FALLBACKNum : Rat) / (Gen.Constants.DOF_FALLBACKDen : Rat) := by
  decide +kernel

/-- … hence with the shipped constant only the fit's own answer matters -/
theorem C14_dof_positive_shipped (nu : Option Rat) (hfit : ∀ v, nu = some v → 0 < v) :
    0 < applyDofFallback nu ((Gen.Constants.DOF_FALLBACKNum : Rat) / (Gen.Constants.DOF_FALLBACKDen : Rat)) :=
  C14_dof_positive nu _ C14_dof_fallback_constant_pos hfit

example : applyDofFallback (none : Option Rat) 1000000 = 1000000 ∧ applyDofFallback (some (3 : Rat)) 1000000 = 3 := by decide

/-! ## positive-definiteness made concrete -/

open Lemmas.CholeskyPD in
/-- **C14 (validity), concrete**: instantiate the constructor model at real `d×d` matrices with ANY `cholesky?` that honours the
    LAPACK contract (a returned `L` is lower triangular with positive diagonal and `L Lᵀ` = the symmetric matrix read from the lower
    triangle of the input).  Then for every mode object that exists, every scale matrix (as LAPACK reads it) is positive definite;
    and equal to the stored matrix whenever that is symmetric (`Props.C19.C19_sigma_symm`). -/
theorem C14_scale_matrices_posDef {V D : Type} {d : ℕ}
    (inv? cholesky? : Matrix (Fin d) (Fin d) ℝ → Option (Matrix (Fin d) (Fin d) ℝ))
    (hcontract : ∀ A L, cholesky? A = some L → IsCholeskyFactor A L)
    (means : List V) (covs : List (Matrix (Fin d) (Fin d) ℝ)) (dofs : List D) (ms : ModeStats V (Matrix (Fin d) (Fin d) ℝ) D)
    (h : mkModeStats inv? cholesky? means covs dofs = some ms) (k : Nat) (hk : k < ms.K) :
    ∃ A, ms.covs[k]? = some A ∧ (symLower A).PosDef ∧ (A.IsSymm → A.PosDef) := by
  obtain ⟨A, L, _, h1, _, _, h4, _, h6⟩ :=
    (C14_modes_valid_by_construction inv? cholesky? (fun A => (symLower A).PosDef)
      (fun A L hAL => posDef_of_factor A L (hcontract A L hAL)) means covs dofs ms h).2.2.2.2 k hk
  exact ⟨A, h1, h6, fun hs => by rw [← symLower_of_isSymm A hs]; exact h6⟩

end Props.C14
