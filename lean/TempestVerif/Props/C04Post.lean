import TempestVerif.Model.ClosedLoop
import TempestVerif.Model.WeightsKeys
import TempestVerif.Props.C04
import TempestVerif.Props.C04Keys
import TempestVerif.Props.C10World
import TempestVerif.Props.C12
/-
  C04 — `Sampler.posterior(return_logw=True)` / `Sampler.evidence()` expose exactly the
  numbers of the statement, and the statement's formula holds on EVERY history a run goes through.

  The composed model is `Model.ClosedLoop` (C10): `run_sampling` with `execute_iteration` inside it, the guard
  `_not_termination`, the epilogue `set_current("logz", compute_logw_and_logz(1.0)[1])`, `compute_posterior`
  (`Model.Posterior.posterior` on `posteriorArrs`) and `compute_evidence`.  The history of that model is a list of
  committed iterations (`CBatch`: β_t, z_t, the records and log-likelihoods of the batch, counters); `batchesOf` projects it
  to the `Batch` list `Model.Weights.logw` takes.  A run may start from ANY state (`runSampling W c fuel s0`): the fresh
  state, or a loaded checkpoint whose stored batches have other sizes than this sampler's `n_particles`
  (`load_sampler_state` restores the history and the current values, the configuration is the new sampler's).
-/
namespace Props.C04
open Model.Weights Model.ClosedLoop Model.Posterior
open Props.C10 (WF_of_WFC length_poolOf)

variable {P MS TS G : Type}

/-! ### the arrays `compute_posterior` starts from -/

def WFC (s : CState ℝ P TS G) : Prop := ∀ b ∈ s.hist, 1 ≤ b.logl.length

/-- the stored records and the stored log-likelihoods of every committed batch are equally many
    (`u`, `x`, `logl` of one iteration are committed together) -/
def PoolAligned (s : CState ℝ P TS G) : Prop := ∀ b ∈ s.hist, b.pts.length = b.logl.length

theorem posteriorArrs_eq (s : CState ℝ P TS G) (hs : WFC s) (hne : s.hist ≠ []) :
    posteriorArrs s = ⟨poolOf s.hist, flatLogl (batchesOf s.hist), poolOf s.hist,
      (flatLogl (batchesOf s.hist)).map (specNorm (batchesOf s.hist) 1), []⟩ := by
  rw [Lemmas.ClosedLoop.posteriorArrs_eq, ScReal.one_def, C04_normalised _ (WF_of_WFC s hs hne)]

/-! ### what `posterior(return_logw=True)` hands out -/

/-- **the plain call** `posterior(return_logw=True, trim_importance_weights=False)` (no resampling): the returned
    arrays are the whole flat history; the returned `logw` is, particle by particle, the statement's normalised
    log-weight at β = 1; the returned `weights` are exactly `exp(logw)` (they sum to one); `logl` is the stored array the
    weights were computed from -/
theorem C04_posterior_plain (tf rf : List String) (e : ℝ) (bins : Nat) (u0 : ℝ) (o : Opts)
    (ht : o.trim = false) (hr : o.resample = false)
    (s : CState ℝ P TS G) (hs : WFC s) (hne : s.hist ≠ []) :
    Model.ClosedLoop.posterior tf rf e bins u0 o s
      = some ⟨poolOf s.hist, flatLogl (batchesOf s.hist), poolOf s.hist,
          (flatLogl (batchesOf s.hist)).map (specNorm (batchesOf s.hist) 1),
          (flatLogl (batchesOf s.hist)).map fun l => Real.exp (specNorm (batchesOf s.hist) 1 l)⟩ := by
  have hwf := WF_of_WFC s hs hne
  have hlw : (flatLogl (batchesOf s.hist)).map (specNorm (batchesOf s.hist) 1) ≠ [] := by
    simpa using flatLogl_ne_nil _ hwf
  have hsum : (((flatLogl (batchesOf s.hist)).map (specNorm (batchesOf s.hist) 1)).map Real.exp).sum = 1 := by
    have := C04_normalised_sum_one _ hwf 1
    rwa [C04_normalised _ hwf] at this
  unfold Model.ClosedLoop.posterior
  rw [Model.Posterior.posterior_plain _ _ _ _ _ _ _ ht hr, posteriorArrs_eq s hs hne,
    Model.Posterior.weights0_of_normalised _ hlw hsum, Option.map_some, List.map_map]
  rfl

/-- **every option combination** (`resample`, `trim_importance_weights`; the two `return_*` flags only select arrays),
    every trimming threshold, every grid size ≥ 1, every resampling offset, with the gather tables regenerated from the
    source: the call returns; all arrays have one positive length; and every returned row `k` is ONE stored particle `i` —
    its record, its stored log-likelihood `ℓ_i`, and as its `logw` the statement's normalised log-weight of `ℓ_i` at β = 1
    computed from the whole stored history -/
theorem C04_posterior_rows (e : ℝ) (bins : Nat) (hb : 0 < bins) (u0 : ℝ) (o : Opts)
    (s : CState ℝ P TS G) (hs : WFC s) (hne : s.hist ≠ []) (ha : PoolAligned s) :
    ∃ r, Model.ClosedLoop.posterior Gen.Tables.posteriorTrimGather Gen.Tables.posteriorResampleGather e bins u0 o s = some r ∧
      ∃ m, 0 < m ∧ Props.C12.SameLen r m ∧
        ∀ k, k < m → ∃ i l, i < nTotal (batchesOf s.hist) ∧ (flatLogl (batchesOf s.hist))[i]? = some l ∧
          r.l[k]? = some l ∧ r.lw[k]? = some (specNorm (batchesOf s.hist) 1 l) ∧ r.x[k]? = (poolOf s.hist)[i]? := by
  have hwf := WF_of_WFC s hs hne
  have hlen : ((flatLogl (batchesOf s.hist)).map (specNorm (batchesOf s.hist) 1)).length = nTotal (batchesOf s.hist) := by
    rw [List.length_map, length_flatLogl]
  have hlw : (flatLogl (batchesOf s.hist)).map (specNorm (batchesOf s.hist) 1) ≠ [] := by
    simpa using flatLogl_ne_nil _ hwf
  have hpool := length_poolOf s.hist ha
  obtain ⟨r, hr, m, hm, hsl, hrows, _⟩ := Props.C12.C12_posterior_contract_gen e bins hb u0 o
    (⟨poolOf s.hist, flatLogl (batchesOf s.hist), poolOf s.hist,
      (flatLogl (batchesOf s.hist)).map (specNorm (batchesOf s.hist) 1), []⟩ : Arrs P ℝ P ℝ ℝ)
    hlw (hpool.trans hlen.symm) (List.length_map _).symm (hpool.trans hlen.symm)
  refine ⟨r, ?_, m, hm, hsl, ?_⟩
  · unfold Model.ClosedLoop.posterior; rw [posteriorArrs_eq s hs hne]; exact hr
  · intro k hk
    obtain ⟨i, hi, hx, hl, _, hw⟩ := hrows k hk
    simp only [hlen] at hi
    have hil : i < (flatLogl (batchesOf s.hist)).length := by rw [length_flatLogl]; exact hi
    refine ⟨i, (flatLogl (batchesOf s.hist))[i], hi, List.getElem?_eq_getElem hil, ?_, ?_, hx⟩
    · rw [hl]; exact List.getElem?_eq_getElem hil
    · rw [hw]; simp only [List.getElem?_map, List.getElem?_eq_getElem hil, Option.map_some]

/-! ### what `evidence()` hands out; and the statement at every point of a run -/

theorem runLoop_WFC_PoolAligned (W : World ℝ P MS TS G) (cfg : CCfg ℝ) (fuel : Nat) (s sf : CState ℝ P TS G)
    (tr : List (CState ℝ P TS G)) (os : List (CIterOut ℝ P)) (hs : WFC s) (ha : PoolAligned s)
    (h : runLoop W cfg fuel s = some (sf, tr, os)) :
    (∀ st ∈ tr, WFC st ∧ PoolAligned st) ∧ (WFC sf ∧ PoolAligned sf) ∧ sf ∈ tr :=
  Lemmas.ClosedLoop.runLoop_invariant W cfg (fun s => WFC s ∧ PoolAligned s)
    (fun s s1 o hi h => ⟨Props.C10.C10_cl_wellformed W cfg s s1 o hi.1 h,
      Lemmas.ClosedLoop.iterate_forall_hist W cfg s s1 o _ (fun _ _ h2 => h2) hi.2 h⟩) fuel s sf tr os ⟨hs, ha⟩ h

/-- **the statement at every point of a run.**  Start `run_sampling` in any state whose stored batches are non-empty — the
    fresh state, or a loaded checkpoint with whatever batch sizes — with any world, any configuration (any
    `n_particles`).  In every state at the top of the loop (these are the states on which the reweighting step, the guard
    and a `save_every` checkpoint evaluate `compute_logw_and_logz`), as soon as anything is stored: for EVERY requested
    target β the returned unnormalised log-weights are the statement's formula over that state's history, the normalised ones
    sum to one, and the evidence is the log of the mean unnormalised weight. -/
theorem C04_run_every_state (W : World ℝ P MS TS G) (cfg : CCfg ℝ) (fuel : Nat) (s0 sf : CState ℝ P TS G)
    (tr : List (CState ℝ P TS G)) (os : List (CIterOut ℝ P)) (hs : WFC s0) (ha : PoolAligned s0)
    (h : runLoop W cfg fuel s0 = some (sf, tr, os)) :
    ∀ st ∈ tr, st.hist ≠ [] → ∀ β : ℝ,
      (logw (batchesOf st.hist) β false).1 = (flatLogl (batchesOf st.hist)).map (specRaw (batchesOf st.hist) β) ∧
      (((logw (batchesOf st.hist) β true).1).map Real.exp).sum = 1 ∧
      (∀ nrm, (logw (batchesOf st.hist) β nrm).2 = some (specLogz (batchesOf st.hist) β)) := by
  intro st hst hne β
  have hwf := WF_of_WFC st ((runLoop_WFC_PoolAligned W cfg fuel s0 sf tr os hs ha h).1 st hst).1 hne
  exact ⟨C04_formula _ hwf β, C04_normalised_sum_one _ hwf β, fun nrm => C04_logz _ hwf β nrm⟩

/-- **`evidence()` after `run()`**: whenever `run_sampling` returns (from any admissible start state), the value
    `compute_evidence()` hands out is the log of the mean unnormalised β = 1 weight over the final stored history — the
    second result of `compute_logw_and_logz(1.0)` on that history — and that history is in the statement's domain -/
theorem C04_evidence_after_run (W : World ℝ P MS TS G) (cfg : CCfg ℝ) (fuel : Nat) (s0 sf : CState ℝ P TS G)
    (tr : List (CState ℝ P TS G)) (os : List (CIterOut ℝ P)) (hs : WFC s0) (ha : PoolAligned s0)
    (h : runSampling W cfg fuel s0 = some (sf, tr, os)) :
    WF (batchesOf sf.hist) ∧ PoolAligned sf ∧
    Model.ClosedLoop.evidence sf = specLogz (batchesOf sf.hist) 1 ∧
    (∀ nrm, (logw (batchesOf sf.hist) 1 nrm).2 = some (Model.ClosedLoop.evidence sf)) := by
  obtain ⟨s', z, hl, hz, rfl⟩ := Lemmas.ClosedLoop.runSampling_some.mp h
  -- the head of `run_sampling` (only an EMPTY state is initialised, a loaded or finished one is continued) keeps the history
  have ha0 : PoolAligned (startState s0) := fun b hb => ha b (Lemmas.ClosedLoop.startState_hist s0 ▸ hb)
  obtain ⟨_, ⟨hs', ha'⟩, _⟩ :=
    runLoop_WFC_PoolAligned W cfg fuel (startState s0) s' tr os (Props.C10.WFC_startState s0 hs) ha0 hl
  rw [Lemmas.ClosedLoop.finalLogz_eq, ScReal.one_def] at hz
  have hne : s'.hist ≠ [] := by
    intro h0
    rw [h0] at hz
    cases hz
  have hwf := WF_of_WFC s' hs' hne
  rw [C04_logz _ hwf, Option.some.injEq] at hz
  subst hz
  exact ⟨hwf, ha', rfl, fun nrm => C04_logz _ hwf 1 nrm⟩

/-- `posterior()` called on the state `run_sampling` returns, in every option combination, returns rows of that state's
    history (the conclusion of `C04_posterior_rows`) -/
theorem C04_posterior_after_run (W : World ℝ P MS TS G) (cfg : CCfg ℝ) (fuel : Nat) (s0 sf : CState ℝ P TS G)
    (tr : List (CState ℝ P TS G)) (os : List (CIterOut ℝ P)) (hs : WFC s0) (ha : PoolAligned s0)
    (h : runSampling W cfg fuel s0 = some (sf, tr, os)) (e : ℝ) (bins : Nat) (hb : 0 < bins) (u0 : ℝ) (o : Opts) :
    ∃ r, Model.ClosedLoop.posterior Gen.Tables.posteriorTrimGather Gen.Tables.posteriorResampleGather e bins u0 o sf = some r ∧
      ∃ m, 0 < m ∧ Props.C12.SameLen r m ∧
        ∀ k, k < m → ∃ i l, i < nTotal (batchesOf sf.hist) ∧ (flatLogl (batchesOf sf.hist))[i]? = some l ∧
          r.l[k]? = some l ∧ r.lw[k]? = some (specNorm (batchesOf sf.hist) 1 l) ∧ r.x[k]? = (poolOf sf.hist)[i]? := by
  obtain ⟨hwf, ha', _, _⟩ := C04_evidence_after_run W cfg fuel s0 sf tr os hs ha h
  exact C04_posterior_rows e bins hb u0 o sf (fun b hb => hwf.2 _ (List.mem_map_of_mem hb))
    (fun h0 => hwf.1 (by rw [h0]; rfl)) ha'

/-- **the empty history inside a run**: on the fresh state `compute_logw_and_logz` returns `([], −∞)` (model: `([], none)`),
    the guard therefore continues (`len(logw) == 0`), and the epilogue can only be reached after at least one commit
    (`runSampling` is `none` on a state whose history is still empty) -/
theorem C04_empty_history_in_run (W : World ℝ P MS TS G) (cfg : CCfg ℝ) (ts : TS) (g : G) :
    logw (batchesOf (Model.ClosedLoop.init ts g : CState ℝ P TS G).hist) (1 : ℝ) true = ([], none) ∧
    contGuard cfg (Model.ClosedLoop.init ts g : CState ℝ P TS G) = true ∧
    runSampling W cfg 0 (Model.ClosedLoop.init ts g) = none := by
  exact ⟨rfl, rfl, rfl⟩

/-! ### the composed model's history and the per-key lists of the real object -/

/-- `commit` of the composed model is a commit of the key-level model in which all three values are set -/
theorem C04_commit_is_full_commit (s : CState ℝ P TS G) :
    Model.WeightsKeys.ofBatches (batchesOf (commit s).hist)
      = Model.WeightsKeys.commitK ⟨some s.beta, some s.logz, some s.curL⟩ (Model.WeightsKeys.ofBatches (batchesOf s.hist)) := by
  rw [Props.C04Keys.C04K_commit_full]
  simp [commit, batchesOf, toBatch]

/-! ### non-vacuity -/

/-- a "loaded checkpoint": two stored iterations of DIFFERENT size (2 particles at β = 0, 3 particles at β = 1) -/
noncomputable def sR : CState ℝ Nat Unit Nat :=
  ⟨[⟨0, 0, 1, [10, 11], [-1, -2], 1, 2, 1, 1, 1⟩, ⟨1, -1/2, 2, [20, 21, 22], [-3/10, 0, 4], 2, 5, 1, 1/2, 1/2⟩],
   1, -1/2, 2, 2, 5, [20, 21, 22], [-3/10, 0, 4], [0, 0, 0], 1, 1/2, 1/2, (), 7⟩

theorem wfc_sR : WFC sR := by unfold WFC; decide

theorem aligned_sR : PoolAligned sR := by unfold PoolAligned; decide

example : batchesOf sR.hist = [⟨0, 0, [-1, -2]⟩, ⟨1, -1/2, [-3/10, 0, 4]⟩] := rfl

example : ∃ r, Model.ClosedLoop.posterior Gen.Tables.posteriorTrimGather Gen.Tables.posteriorResampleGather (99/100) 1000 (1/3)
    ⟨false, false, false, true⟩ sR = some r ∧ r.x = [10, 11, 20, 21, 22] ∧ r.l = [-1, -2, -3/10, 0, 4] ∧
    r.lw = r.l.map (specNorm (batchesOf sR.hist) 1) ∧ r.w = r.lw.map Real.exp := by
  refine ⟨_, C04_posterior_plain _ _ _ _ _ ⟨false, false, false, true⟩ rfl rfl sR wfc_sR (List.cons_ne_nil _ _), rfl, rfl, rfl, ?_⟩
  simp [List.map_map, Function.comp_def]

/-- trimming and resampling on: the hypotheses of `C04_posterior_rows` are met by it -/
example : ∃ r, Model.ClosedLoop.posterior Gen.Tables.posteriorTrimGather Gen.Tables.posteriorResampleGather (99/100) 1000 (1/3)
    ⟨true, true, false, true⟩ sR = some r ∧ ∃ m, 0 < m ∧ r.lw.length = m := by
  obtain ⟨r, hr, m, hm, hsl, _⟩ := C04_posterior_rows (99/100) 1000 (by norm_num) (1/3) ⟨true, true, false, true⟩ sR wfc_sR
    (List.cons_ne_nil _ _) aligned_sR
  exact ⟨r, hr, m, hm, hsl.2.2.2.1⟩

/-- the fresh state meets the hypotheses of the run theorems (`Props.C10.itCl1` evaluates its first iteration) -/
example (ts : TS) (g : G) : WFC (Model.ClosedLoop.init ts g : CState ℝ P TS G) ∧
    PoolAligned (Model.ClosedLoop.init ts g : CState ℝ P TS G) :=
  ⟨Props.C10.WFC_init ts g, by intro b hb; simp [Model.ClosedLoop.init] at hb⟩

end Props.C04
