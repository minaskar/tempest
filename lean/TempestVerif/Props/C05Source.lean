import TempestVerif.Model.Reweight
import TempestVerif.Gen.ReweightSrc
/-
  C05 — the executable model `Model.Reweight` is built from the expressions of /repo's `steps/reweight.py`.

  `Gen/ReweightSrc.lean` is regenerated from the source on every run of the check (translator G10): every comparison and every
  arithmetic expression on temperatures of `_find_beta_upper_limit`, `_find_beta_bisection` and `Reweighter.run` compiled to a
  term over `Sc α` — literals (`1e10`, `0.5`, `1.0`, `0.0`) and comparison operators included — plus the statement skeletons of
  the five methods and of `__init__`'s target (six tables).  The parameters of every generated term are listed in the order the
  SOURCE binds them (function parameters in signature order, then locals by first assignment, then `__init__`'s attributes) —
  not in order of appearance — so an operand swap in the source
  (`beta_high - beta_low` → `beta_low - beta_high`, `ess >= target` → `target >= ess`, even the value-identical `(lo + hi) * 0.5`)
  changes the term and breaks a theorem here.
  The theorems below hold by `rfl` (`C05_src_bisVal` after a case split on the mode) for EVERY scalar type, `Float` (what the
  driver executes) included: the model's definitions unfold to the generated terms.  A change of control flow (which branch
  assigns what, what is returned, order/arguments of the oracle calls, state keys written) changes a skeleton table.

  So the literal `1e10` (`Model.Reweight.big`), the comparison operators and the operand orders of the model are the source's by
  proof, not by the reader comparing model and code (clause 9 of clauses/C05.md).
-/
namespace Props.C05.Src
open Model.Reweight
variable {α : Type} [Sc α] {W : Type}

/-- `(hi + lo) * 0.5` is the source's midpoint expression in both search functions -/
theorem C05_src_mid (hi lo : α) :
    mid hi lo = Gen.ReweightSrc.upMid lo hi ∧ mid hi lo = Gen.ReweightSrc.bisMid lo hi := ⟨rfl, rfl⟩

/-- the replacement of a non-finite metric is the source's literal, in both modes -/
theorem C05_src_big : (big : α) = Gen.ReweightSrc.bisNonfiniteDyn ∧ (big : α) = Gen.ReweightSrc.bisNonfiniteEss := ⟨rfl, rfl⟩

/-- one pass of the `while` loop of `_find_beta_upper_limit` -/
theorem C05_src_upLoop_succ (M : α → W × α × α) (target tol : α) (n : Nat) (lo hi : α) :
    upLoop M target tol (n+1) lo hi =
      if Gen.ReweightSrc.upWhileTest lo hi tol then
        let m := Gen.ReweightSrc.upMid lo hi
        let r := if Gen.ReweightSrc.upRaiseTest target (M m).2.1 then upLoop M target tol n m hi else upLoop M target tol n lo m
        { r with steps := r.steps + 1, calls := m :: r.calls }
      else ⟨lo, hi, 0, .upLoop, []⟩ := rfl

theorem C05_src_upLoop_zero (M : α → W × α × α) (target tol : α) (lo hi : α) :
    upLoop M target tol 0 lo hi = ⟨lo, hi, 0, if Gen.ReweightSrc.upWhileTest lo hi tol then .upFuel else .upLoop, []⟩ := rfl

/-- `_find_beta_upper_limit`: both early returns and the initial bracket -/
theorem C05_src_upperLimit (M : α → W × α × α) (target tol : α) (fuel : Nat) (prev : α) :
    upperLimit M target tol fuel prev =
      if Gen.ReweightSrc.upStayTest target (M prev).2.1 then ⟨prev, Gen.ReweightSrc.upInitHigh, 0, .upStay, [prev]⟩
      else if Gen.ReweightSrc.upOneTest target (M Gen.ReweightSrc.upSecondArg).2.1 then
        ⟨Gen.ReweightSrc.upOneReturn, Gen.ReweightSrc.upInitHigh, 0, .upOne, [prev, Gen.ReweightSrc.upSecondArg]⟩
      else
        let r := upLoop M target tol fuel prev Gen.ReweightSrc.upInitHigh
        { r with calls := prev :: Gen.ReweightSrc.upSecondArg :: r.calls } := rfl

/-- `if metric_converged or beta_converged or beta == 1.0` -/
theorem C05_src_bisStop (m target tolE tolB bmin bmax b : α) :
    bisStop m target tolE tolB bmin bmax b =
      if Gen.ReweightSrc.bisMetricConv target m tolE then some .bisMetric
      else if Gen.ReweightSrc.bisBetaConv bmin bmax tolB then some .bisBeta
      else if Gen.ReweightSrc.bisOneTest b then some .bisOne
      else none := rfl

/-- `if not np.isfinite(metric_val): metric_val = <literal of the mode>` -/
theorem C05_src_bisVal (M : α → W × α × α) (fin : α → Bool) (dyn : Bool) (b : α) :
    bisVal M fin dyn b =
      (let m0 := if dyn then (M b).2.2 else (M b).2.1
       if fin m0 then m0 else if dyn then Gen.ReweightSrc.bisNonfiniteDyn else Gen.ReweightSrc.bisNonfiniteEss) := by
  cases dyn <;> rfl

/-- which end of the bracket moves: ESS mode `if m < target: beta_max = beta else: beta_min = beta`,
    volume-variation mode `if m < target: beta_min = beta else: beta_max = beta` (skeleton rows 0.5e.0t.* / 0.5e.0e.*) -/
theorem C05_src_bisRaise (dyn : Bool) (m target : α) :
    bisRaise dyn m target = if dyn then Gen.ReweightSrc.bisDynTest target m else !(Gen.ReweightSrc.bisEssTest target m) := rfl

theorem C05_src_bisect_succ (M : α → W × α × α) (fin : α → Bool) (dyn : Bool) (target tolE tolB : α) (n : Nat) (bmin bmax : α) :
    bisect M fin dyn target tolE tolB (n+1) bmin bmax =
      (let b := Gen.ReweightSrc.bisMid bmin bmax
       match bisStop (bisVal M fin dyn b) target tolE tolB bmin bmax b with
       | some t => ⟨b, (M b).1, (M b).2.1, 0, t, [b]⟩
       | Option.none =>
         let q := if bisRaise dyn (bisVal M fin dyn b) target
           then bisect M fin dyn target tolE tolB n b bmax
           else bisect M fin dyn target tolE tolB n bmin b
         { q with steps := q.steps + 1, calls := b :: q.calls }) := rfl

/-- `ess_max = target_ess = self.ess_ratio * self.n_particles`, also the ESS recorded by the first iteration -/
theorem C05_src_target (c : Cfg α) :
    c.target = Gen.ReweightSrc.runTarget (Sc.ofNat c.nPart) c.essRatio ∧
    c.target = Gen.ReweightSrc.essTarget (Sc.ofNat c.nPart) c.essRatio ∧
    c.target = Gen.ReweightSrc.firstEss (Sc.ofNat c.nPart) c.essRatio := ⟨rfl, rfl, rfl⟩

/-- the first-iteration branch writes the source's literals -/
theorem C05_src_first (c : Cfg α) (M : α → W × α × α) (Z : α → α) (fin : α → Bool) (prev : α) :
    run c true M Z fin prev =
      ⟨Gen.ReweightSrc.firstBeta, .uniform c.nPart, Gen.ReweightSrc.firstEss (Sc.ofNat c.nPart) c.essRatio,
       Gen.ReweightSrc.firstLogz, .firstIter, [], [], []⟩ := rfl

/-- ESS mode of `run`: the two boundary tests -/
theorem C05_src_runEss (M : α → W × α × α) (Z : α → α) (fin : α → Bool) (target tolE tolB : α) (fuel : Nat) (prev : α) :
    runEss M Z fin target tolE tolB fuel prev =
      (let up := upperLimit M target tolB fuel prev
       let rp := M prev
       let ru := M up.beta
       let calls := up.calls ++ [prev, up.beta]
       if Gen.ReweightSrc.essStayTest target rp.2.1 then
         finalize prev rp.1 rp.2.1 (Z prev) .essStay [up.branch] calls
       else if Gen.ReweightSrc.essUpperTest target ru.2.1 then
         finalize up.beta ru.1 ru.2.1 (Z up.beta) .essUpper [up.branch] calls
       else
         let b := bisect M fin false target tolE tolB fuel prev up.beta
         finalize b.beta b.w b.ess (Z b.beta) .essBisect [up.branch, b.branch] (calls ++ b.calls)) := rfl

/-- volume-variation mode of `run`: the stuck test and the two boundary tests -/
theorem C05_src_runDyn (M : α → W × α × α) (Z : α → α) (fin : α → Bool) (target vv tolE tolB : α) (fuel : Nat) (prev : α) :
    runDyn M Z fin target vv tolE tolB fuel prev =
      (let up := upperLimit M target tolB fuel prev
       if Gen.ReweightSrc.dynStuckTest prev up.beta then
         let r := M prev
         finalize prev r.1 r.2.1 (Z prev) .dynStuck [up.branch] (up.calls ++ [prev])
       else
         let rp := M prev
         let ru := M up.beta
         if Gen.ReweightSrc.dynUpperTest ru.2.2 vv then
           let r := M up.beta
           finalize up.beta r.1 r.2.1 (Z up.beta) .dynUpper [up.branch] (up.calls ++ [prev, up.beta, up.beta])
         else if Gen.ReweightSrc.dynStayTest rp.2.2 vv then
           let r := M prev
           finalize prev r.1 r.2.1 (Z prev) .dynStay [up.branch] (up.calls ++ [prev, up.beta, prev])
         else
           let b := bisect M fin true vv tolE tolB fuel prev up.beta
           finalize b.beta b.w b.ess (Z b.beta) .dynBisect [up.branch, b.branch]
             (up.calls ++ [prev, up.beta] ++ b.calls)) := rfl

/-! ### the statement skeletons the model was written against

  Each table is the program-order list of statements (`path: statement`; `t`/`e` = then/else block) of one method, the one
  `Model.Reweight` follows; the theorem says the regenerated table is this one.  What the model takes from each:
  which variable each branch assigns (`beta_low = beta_mid` when the ESS at the midpoint is sufficient, …), the value returned,
  order and arguments of the `_compute_metric_and_weights` calls (the `calls` list of the model), the single
  `compute_logw_and_logz(beta)` call of `run` (the `zcalls` list), the state keys `_finalize_iteration` writes, and that the
  weights are normalised after the decision (`WTag.of`). -/

def expected_upperLimitSkeleton : List String :=
  ["0: beta_low = beta_current",
   "1: beta_high = 1.0",
   "2: _, ess_at_current, _ = self._compute_metric_and_weights(beta_current)",
   "3: if ess_at_current < ess_ratio",
   "3t.0: return beta_current",
   "4: _, ess_at_one, _ = self._compute_metric_and_weights(1.0)",
   "5: if ess_at_one >= ess_ratio",
   "5t.0: return 1.0",
   "6: while beta_high - beta_low > self.BETA_TOLERANCE",
   "6.0: beta_mid = (beta_high + beta_low) * 0.5",
   "6.1: _, ess_mid, _ = self._compute_metric_and_weights(beta_mid)",
   "6.2: if ess_mid >= ess_ratio",
   "6.2t.0: beta_low = beta_mid",
   "6.2e.0: beta_high = beta_mid",
   "7: return beta_low"]

theorem C05_src_upperLimitSkeleton : Gen.ReweightSrc.upperLimitSkeleton = expected_upperLimitSkeleton := rfl

def expected_bisectionSkeleton : List String :=
  ["0: while True",
   "0.0: beta = (beta_max + beta_min) * 0.5",
   "0.1: metric_val, aux_data = metric_fn(beta)",
   "0.2: if not np.isfinite(metric_val)",
   "0.2t.0: if self.volume_variation is not None",
   "0.2t.0t.0: metric_val = 10000000000.0",
   "0.2t.0e.0: metric_val = 10000000000.0",
   "0.3: metric_converged = np.abs(metric_val - target) < self.ESS_TOLERANCE * target",
   "0.4: beta_converged = beta_max - beta_min < self.BETA_TOLERANCE",
   "0.5: if metric_converged or beta_converged or beta == 1.0",
   "0.5t.0: return (beta, aux_data)",
   "0.5e.0: if self.volume_variation is None",
   "0.5e.0t.0: if metric_val < target",
   "0.5e.0t.0t.0: beta_max = beta",
   "0.5e.0t.0e.0: beta_min = beta",
   "0.5e.0e.0: if metric_val < target",
   "0.5e.0e.0t.0: beta_min = beta",
   "0.5e.0e.0e.0: beta_max = beta"]

theorem C05_src_bisectionSkeleton : Gen.ReweightSrc.bisectionSkeleton = expected_bisectionSkeleton := rfl

def expected_runSkeleton : List String :=
  ["0: iter_val = self.state.get_current('iter') + 1",
   "1: self.state.set_current('iter', iter_val)",
   "2: if self.state.get_history_length() == 0",
   "2t.0: self.state.update_current({'beta': 0.0, 'logz': 0.0, 'ess': self.ess_ratio * self.n_particles})",
   "2t.1: return np.ones(self.n_particles) / self.n_particles",
   "3: beta_prev = self.state.get_current('beta')",
   "4: ess_max = self.ess_ratio * self.n_particles",
   "5: beta_upper = self._find_beta_upper_limit(beta_prev, ess_max)",
   "6: if self.volume_variation is None",
   "6t.0: target_ess = self.ess_ratio * self.n_particles",
   "6t.1: def ess_fn(beta)",
   "6t.1.0: weights, ess_est, _ = self._compute_metric_and_weights(beta)",
   "6t.1.1: return (ess_est, (weights, ess_est))",
   "6t.2: _, (weights_prev, ess_prev) = ess_fn(beta_prev)",
   "6t.3: _, (weights_upper, ess_upper) = ess_fn(beta_upper)",
   "6t.4: if ess_prev <= target_ess",
   "6t.4t.0: beta = beta_prev",
   "6t.4t.1: weights = weights_prev",
   "6t.4t.2: ess_est = ess_prev",
   "6t.4e.0: if ess_upper >= target_ess",
   "6t.4e.0t.0: beta = beta_upper",
   "6t.4e.0t.1: weights = weights_upper",
   "6t.4e.0t.2: ess_est = ess_upper",
   "6t.4e.0e.0: beta, (weights, ess_est) = self._find_beta_bisection(beta_prev, beta_upper, target_ess, ess_fn)",
   "6t.5: _, logz = self.state.compute_logw_and_logz(beta)",
   "6t.6: return self._finalize_iteration(beta, weights, ess_est, logz)",
   "6e.0: if beta_upper == beta_prev",
   "6e.0t.0: beta = beta_prev",
   "6e.0t.1: weights, ess_est, _ = self._compute_metric_and_weights(beta)",
   "6e.0e.0: _, ess_at_prev, vol_var_prev = self._compute_metric_and_weights(beta_prev)",
   "6e.0e.1: _, ess_at_upper, vol_var_upper = self._compute_metric_and_weights(beta_upper)",
   "6e.0e.2: if self.volume_variation >= vol_var_upper",
   "6e.0e.2t.0: beta = beta_upper",
   "6e.0e.2t.1: weights = None",
   "6e.0e.2t.2: ess_est = ess_at_upper",
   "6e.0e.2e.0: if self.volume_variation <= vol_var_prev",
   "6e.0e.2e.0t.0: beta = beta_prev",
   "6e.0e.2e.0t.1: weights = None",
   "6e.0e.2e.0t.2: ess_est = ess_at_prev",
   "6e.0e.2e.0e.0: def volume_variation_fn(beta)",
   "6e.0e.2e.0e.0.0: weights, ess_est, metric_val = self._compute_metric_and_weights(beta)",
   "6e.0e.2e.0e.0.1: return (metric_val, (weights, ess_est))",
   "6e.0e.2e.0e.1: beta, (weights, ess_est) = self._find_beta_bisection(beta_prev, beta_upper, self.volume_variation, volume_variation_fn)",
   "6e.0e.3: if weights is None",
   "6e.0e.3t.0: weights, ess_est, _ = self._compute_metric_and_weights(beta)",
   "6e.1: _, logz = self.state.compute_logw_and_logz(beta)",
   "6e.2: return self._finalize_iteration(beta, weights, ess_est, logz)"]

theorem C05_src_runSkeleton : Gen.ReweightSrc.runSkeleton = expected_runSkeleton := rfl

def expected_finalizeSkeleton : List String :=
  ["0: weights = weights / np.sum(weights)",
   "1: self.state.update_current({'logz': logz, 'beta': beta, 'ess': ess_est})",
   "2: return weights"]

theorem C05_src_finalizeSkeleton : Gen.ReweightSrc.finalizeSkeleton = expected_finalizeSkeleton := rfl

def expected_metricSkeleton : List String :=
  ["0: logw, _ = self.state.compute_logw_and_logz(beta)",
   "1: weights = np.exp(logw - np.max(logw))",
   "2: ess_est = effective_sample_size(weights)",
   "3: if self.volume_variation is not None",
   "3t.0: u = self.state.get_history('u', flat=True)",
   "3t.1: weights_norm = weights / np.sum(weights)",
   "3t.2: metric_val = volume_variation(u, weights_norm)",
   "3e.0: metric_val = ess_est",
   "4: return (weights, ess_est, metric_val)"]

theorem C05_src_metricSkeleton : Gen.ReweightSrc.metricSkeleton = expected_metricSkeleton := rfl

def expected_initTargetSkeleton : List String :=
  ["0: if volume_variation is not None",
   "0t.0: self.target_metric = volume_variation",
   "0e.0: self.target_metric = ess_ratio * n_particles"]

theorem C05_src_initTargetSkeleton : Gen.ReweightSrc.initTargetSkeleton = expected_initTargetSkeleton := rfl

/-! ### who can write `state["beta"]`

  The pipeline and closed-loop models hand the β chosen by `Reweighter.run` unchanged to `Trainer.run`, `Resampler.run`,
  `Mutator.run` and `commit_current_to_history`, and from one iteration to the next.  In the code these steps READ
  `state.get_current("beta")`; the hand-off is correct iff nothing else writes that key.  `betaWriters` lists every literal-key
  writer of `beta` in the whole package: `_initialize_fresh` (the fresh-run prologue), and the two writes of the reweighting
  step itself.  `dynamicKeyWriters` lists every writer whose key is computed: the `StateManager` primitives themselves, the bulk
  restore `update_from_dict`, and the defaults loop of `load_sampler_state` (which writes only keys whose value is `None`). -/

def expected_betaWriters : List String :=
  ["tempest/core.py:SamplerCore._initialize_fresh set_current",
   "tempest/steps/reweight.py:Reweighter._finalize_iteration update_current",
   "tempest/steps/reweight.py:Reweighter.run update_current"]

theorem C05_src_betaWriters : Gen.ReweightSrc.betaWriters = expected_betaWriters := rfl

def expected_dynamicKeyWriters : List String :=
  ["tempest/core.py:SamplerCore.load_sampler_state self.state.set_current(key, default_val)",
   "tempest/state_manager.py:StateManager.__init__ self._current = dict.fromkeys(CURRENT_STATE_KEYS, None)",
   "tempest/state_manager.py:StateManager.set_current self._current[key] = self._ensure_copy(value) if copy else value",
   "tempest/state_manager.py:StateManager.update_current self._current[key] = self._ensure_copy(value) if copy else value",
   "tempest/state_manager.py:StateManager.update_from_dict self._current.update({k: self._ensure_copy(v) for k, v in state_dict['_current'].items()})"]

theorem C05_src_dynamicKeyWriters : Gen.ReweightSrc.dynamicKeyWriters = expected_dynamicKeyWriters := rfl

end Props.C05.Src
