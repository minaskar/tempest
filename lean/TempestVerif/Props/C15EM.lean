import TempestVerif.Model.EM
import TempestVerif.Lemmas.ScReal
import TempestVerif.Lemmas.Ess
import Mathlib.Algebra.BigOperators.Field
/-
  C15 — the algebra of `GaussianMixture._m_step` (`Model/EM.lean`) at `ℝ`.  Every sum the M-step forms is a weighted sum
  `dot ω g` (`scatter_eq_dot`, `diagSum_eq_dot`); sign, scaling and replication are proved for `dot`.
  `estepNormalise` is the E-step rule of tempest before commit 632b97e (`/= row sum + 1e-10`); the log-space E-step of the
  checked-out source, and the whole `fit`, are in `Props/C15Fit.lean`.
-/
namespace Props.C15
open Model.EM

theorem list_induction₂ {β γ : Type} {motive : List β → List γ → Prop} (nil_left : ∀ l, motive [] l)
    (nil_right : ∀ c, motive c []) (cons_cons : ∀ x c y l, motive c l → motive (x :: c) (y :: l)) :
    ∀ c l, motive c l
  | [], l => nil_left l
  | c, [] => nil_right c
  | x :: c, y :: l => cons_cons x c y l (list_induction₂ nil_left nil_right cons_cons c l)

theorem mul_fun : (Sc.mul : ℝ → ℝ → ℝ) = fun a b => a * b := rfl

theorem col_mem {β : Type} (M : List (List β)) (k : Nat) (x : β) (h : x ∈ col M k) :
    ∃ row ∈ M, x ∈ row := by
  simp only [col, List.mem_filterMap] at h
  obtain ⟨row, hrow, hx⟩ := h
  exact ⟨row, hrow, List.mem_of_getElem? hx⟩

theorem col_cons_lt {β : Type} (r : List β) (M : List (List β)) (k : Nat) (h : k < r.length) :
    col (r :: M) k = r[k] :: col M k := by
  simp [col, List.getElem?_eq_getElem h]

theorem col_cons_getD (r : List ℝ) (D : List (List ℝ)) (a : Nat) (h : a < r.length) :
    col (r :: D) a = r.getD a 0 :: col D a := by
  rw [col_cons_lt r D a h, List.getD_eq_getElem?_getD, List.getElem?_eq_getElem h, Option.getD_some]

theorem col_append {β : Type} (A B : List (List β)) (k : Nat) : col (A ++ B) k = col A k ++ col B k :=
  List.filterMap_append

theorem col_length {β : Type} (M : List (List β)) (k : Nat) (h : ∀ row ∈ M, k < row.length) :
    (col M k).length = M.length := by
  induction M with
  | nil => rfl
  | cons r M ih =>
    rw [col_cons_lt r M k (h r List.mem_cons_self), List.length_cons, List.length_cons,
      ih fun row hrow => h row (List.mem_cons_of_mem _ hrow)]

theorem col_map (f : ℝ → ℝ) (M : List (List ℝ)) (k : Nat) :
    col (M.map fun row => row.map f) k = (col M k).map f := by
  induction M with
  | nil => rfl
  | cons r M ih =>
    simp only [col] at ih
    simp only [col, List.map_cons, List.filterMap_cons, List.getElem?_map]
    cases r[k]? <;> simp [ih]

/- `Model.EM.normalise` and `Model.Ess.normalise` are two constants with one body.  The lemmas of `Lemmas/Ess.lean` apply to the EM one
   by `exact` (definitional unfolding), not by `rw` / `simp`: `normalise_length`, `normalise_sum`, `normalise_simplex` restate them for it -/
theorem normalise_length {α : Type} [Sc α] (S : List α) : (normalise S).length = S.length :=
  Model.Ess.length_normalise S

theorem colSums_length {α : Type} [Sc α] (K : Nat) (W : List (List α)) : (colSums K W).length = K := by
  rw [colSums, List.length_map, List.length_range]

theorem wcol_nonneg (R : List (List ℝ)) (s : List ℝ) (k : Nat) (hR : ∀ row ∈ R, ∀ r ∈ row, 0 ≤ r)
    (hs : ∀ x ∈ s, 0 ≤ x) : ∀ w ∈ col (weightedResp R s) k, 0 ≤ w := by
  intro w hw
  obtain ⟨row, hrow, hin⟩ := col_mem _ _ _ hw
  obtain ⟨i, hi, rfl⟩ := List.mem_iff_getElem.mp hrow
  simp only [weightedResp, List.getElem_zipWith] at hin
  obtain ⟨x, hx, rfl⟩ := List.mem_map.mp hin
  exact mul_nonneg (hR _ (List.getElem_mem _) x hx) (hs _ (List.getElem_mem _))

theorem wcol_eq (k : Nat) (R : List (List ℝ)) (s : List ℝ) (hR : ∀ row ∈ R, k < row.length) :
    col (weightedResp R s) k = List.zipWith (fun r a => r * a) (col R k) s := by
  induction R, s using list_induction₂ with
  | nil_left s => rfl
  | nil_right R => rw [weightedResp, List.zipWith_nil_right, List.zipWith_nil_right]; rfl
  | cons_cons r R a s ih =>
    have hr : k < r.length := hR r List.mem_cons_self
    have e : weightedResp (r :: R) (a :: s) = (r.map fun x => x * a) :: weightedResp R s := rfl
    rw [e, col_cons_lt _ _ k (by rw [List.length_map]; exact hr), col_cons_lt r R k hr,
      ih fun row h => hR row (List.mem_cons_of_mem _ h), List.zipWith_cons_cons, List.getElem_map]

/-! ### weighted sums: every sum the M-step forms is `dot ω g` for a list `g` -/

theorem dot_eq (a b : List ℝ) : dot a b = (List.zipWith (fun x y => x * y) a b).sum := ScReal.sum_def _

theorem dot_nil_left (g : List ℝ) : dot [] g = 0 := by rw [dot_eq, List.zipWith_nil_left, List.sum_nil]

theorem dot_nil_right (ω : List ℝ) : dot ω [] = 0 := by rw [dot_eq, List.zipWith_nil_right, List.sum_nil]

theorem dot_cons (w x : ℝ) (ω g : List ℝ) : dot (w :: ω) (x :: g) = w * x + dot ω g := by
  rw [dot_eq, dot_eq, List.zipWith_cons_cons, List.sum_cons]

theorem scatter_eq_dot (ω da db : List ℝ) :
    scatter ω da db = dot ω (List.zipWith (fun x y => x * y) da db) := by
  unfold scatter dot
  rw [mul_fun, List.zipWith_zipWith_left, List.zipWith_zipWith_right]
  simp only [mul_assoc]

theorem diagSum_eq_dot (ω xs : List ℝ) :
    Sc.sum (List.zipWith (fun w x => Sc.mul w (Sc.mul x x)) ω xs) = dot ω (xs.map fun x => x * x) := by
  rw [dot, List.zipWith_map_right]; rfl

theorem dot_nonneg (ω g : List ℝ) (hω : ∀ w ∈ ω, 0 ≤ w) (hg : ∀ x ∈ g, 0 ≤ x) : 0 ≤ dot ω g := by
  rw [dot_eq]
  apply List.sum_nonneg
  intro y hy
  obtain ⟨i, hi, rfl⟩ := List.mem_iff_getElem.mp hy
  rw [List.getElem_zipWith]
  exact mul_nonneg (hω _ (List.getElem_mem _)) (hg _ (List.getElem_mem _))

theorem dot_scale (c : ℝ) (ω g : List ℝ) : dot (ω.map fun w => c * w) g = c * dot ω g := by
  induction ω, g using list_induction₂ with
  | nil_left g => rw [List.map_nil, dot_nil_left, mul_zero]
  | nil_right ω => rw [dot_nil_right, dot_nil_right, mul_zero]
  | cons_cons w ω x g ih => rw [List.map_cons, dot_cons, dot_cons, ih]; ring

theorem dot_bounds (lo hi : ℝ) (ω xs : List ℝ) (hω : ∀ w ∈ ω, 0 ≤ w) (hx : ∀ x ∈ xs, lo ≤ x ∧ x ≤ hi)
    (hlen : ω.length = xs.length) : lo * ω.sum ≤ dot ω xs ∧ dot ω xs ≤ hi * ω.sum := by
  induction ω, xs using list_induction₂ with
  | nil_left xs =>
    rw [dot_nil_left, List.sum_nil, mul_zero, mul_zero]
    exact ⟨le_refl _, le_refl _⟩
  | nil_right ω =>
    rw [List.eq_nil_of_length_eq_zero hlen, dot_nil_left, List.sum_nil, mul_zero, mul_zero]
    exact ⟨le_refl _, le_refl _⟩
  | cons_cons w ω x xs ih =>
    have hw : 0 ≤ w := hω w List.mem_cons_self
    obtain ⟨hx1, hx2⟩ := hx x List.mem_cons_self
    obtain ⟨i1, i2⟩ := ih (fun w h => hω w (List.mem_cons_of_mem _ h)) (fun x h => hx x (List.mem_cons_of_mem _ h))
      (Nat.succ.inj hlen)
    rw [dot_cons, List.sum_cons, mul_add, mul_add, mul_comm lo w, mul_comm hi w]
    exact ⟨add_le_add (mul_le_mul_of_nonneg_left hx1 hw) i1, add_le_add (mul_le_mul_of_nonneg_left hx2 hw) i2⟩

theorem normalise_sum (S : List ℝ) (ht : S.sum ≠ 0) : Sc.sum (normalise S) = 1 :=
  (ScReal.sum_def _).trans (Model.Ess.sum_normalise S ht)

theorem normalise_simplex (S : List ℝ) (h0 : ∀ x ∈ S, 0 ≤ x) (ht : 0 < S.sum) :
    (∀ p ∈ normalise S, 0 ≤ p) ∧ Sc.sum (normalise S) = 1 := by
  obtain ⟨h1, h2, _, _⟩ := Model.Ess.wn_facts S h0 ht
  exact ⟨h2, (ScReal.sum_def _).trans h1⟩

/-- **mixing weights lie on the simplex**: `π_k ≥ 0`, `Σ_k π_k = 1`, K of them — whenever responsibilities
    and sample weights are non-negative and the total weighted responsibility is positive -/
theorem C15_mstep_weights_simplex (K : Nat) (R : List (List ℝ)) (s : List ℝ)
    (hR : ∀ row ∈ R, ∀ r ∈ row, 0 ≤ r) (hs : ∀ x ∈ s, 0 ≤ x)
    (htot : 0 < Sc.sum (colSums K (weightedResp R s))) :
    (∀ p ∈ mstepWeights K R s, 0 ≤ p) ∧ Sc.sum (mstepWeights K R s) = 1 ∧ (mstepWeights K R s).length = K := by
  rw [ScReal.sum_def] at htot
  have h0 : ∀ x ∈ colSums K (weightedResp R s), 0 ≤ x := by
    intro x hx
    obtain ⟨k, _, rfl⟩ := List.mem_map.mp hx
    rw [ScReal.sum_def]
    exact List.sum_nonneg (wcol_nonneg R s k hR hs)
  obtain ⟨h1, h2⟩ := normalise_simplex _ h0 htot
  exact ⟨h1, h2, by rw [mstepWeights, normalise_length, colSums_length]⟩

theorem mstep_weights_eq (tiny eps : ℝ) (d K : Nat) (X R : List (List ℝ)) (s : List ℝ) :
    (mstep tiny eps d K X R s).weights = mstepWeights K R s := rfl

theorem mstep_means_eq (tiny eps : ℝ) (d K : Nat) (X R : List (List ℝ)) (s : List ℝ) :
    (mstep tiny eps d K X R s).means = mstepMeans tiny d K X R s := rfl

theorem wmean_in_bounds (tiny lo hi : ℝ) (ω xs : List ℝ) (hlen : ω.length = xs.length)
    (hω : ∀ w ∈ ω, 0 ≤ w) (htiny : 0 < tiny) (hS : tiny ≤ Sc.sum ω)
    (hx : ∀ x ∈ xs, lo ≤ x ∧ x ≤ hi) : lo ≤ wmean tiny ω xs ∧ wmean tiny ω xs ≤ hi := by
  rw [ScReal.sum_def] at hS
  have hpos : 0 < ω.sum := lt_of_lt_of_le htiny hS
  obtain ⟨h1, h2⟩ := dot_bounds lo hi ω xs hω hx hlen
  rw [wmean, ScReal.max_def, ScReal.sum_def, max_eq_left hS, ScReal.div_def]
  exact ⟨(le_div_iff₀ hpos).mpr h1, (div_le_iff₀ hpos).mpr h2⟩

/-- **the mean of a component of non-negligible weight lies in the data's bounding box**
    (coordinate `j` of component `k`; `lo`, `hi` any bounds on coordinate `j` of the data, in particular
    its minimum and maximum).  `S_k = Σ_i ω_ik ≥ tiny` is "non-negligible weight". -/
theorem C15_mean_in_bbox (tiny lo hi : ℝ) (d K : Nat) (X R : List (List ℝ)) (s : List ℝ) (k j : Nat)
    (hk : k < K) (hj : j < d)
    (hX : ∀ x ∈ X, x.length = d) (hRl : R.length = X.length) (hsl : s.length = X.length)
    (hRK : ∀ row ∈ R, row.length = K)
    (hR0 : ∀ row ∈ R, ∀ r ∈ row, 0 ≤ r) (hs0 : ∀ x ∈ s, 0 ≤ x)
    (htiny : 0 < tiny) (hS : tiny ≤ Sc.sum (col (weightedResp R s) k))
    (hbox : ∀ v ∈ col X j, lo ≤ v ∧ v ≤ hi) :
    ∃ m, ((mstepMeans tiny d K X R s)[k]?.bind (·[j]?)) = some m ∧ lo ≤ m ∧ m ≤ hi := by
  refine ⟨wmean tiny (col (weightedResp R s) k) (col X j), ?_, ?_⟩
  · simp only [mstepMeans, meanVec, List.getElem?_map, List.getElem?_range hk, List.getElem?_range hj, Option.map_some,
      Option.bind_some]
  · apply wmean_in_bounds tiny lo hi _ _ _ (wcol_nonneg R s k hR0 hs0) htiny hS hbox
    have hRk : ∀ row ∈ R, k < row.length := fun row hrow => by rw [hRK row hrow]; exact hk
    rw [wcol_eq k R s hRk, List.length_zipWith, col_length R k hRk,
      col_length X j fun row hrow => by rw [hX row hrow]; exact hj, hRl, hsl, min_self]

theorem scatter_nil_left (da db : List ℝ) : scatter [] da db = 0 := by
  rw [scatter_eq_dot, dot_nil_left]

theorem scatter_nil_mid (ω db : List ℝ) : scatter ω [] db = 0 := by
  rw [scatter_eq_dot, List.zipWith_nil_left, dot_nil_right]

theorem scatter_cons (w x y : ℝ) (ω da db : List ℝ) :
    scatter (w :: ω) (x :: da) (y :: db) = w * x * y + scatter ω da db := by
  rw [scatter_eq_dot, scatter_eq_dot, List.zipWith_cons_cons, dot_cons, mul_assoc]

theorem scatter_comm (ω da db : List ℝ) : scatter ω da db = scatter ω db da := by
  rw [scatter_eq_dot, scatter_eq_dot, List.zipWith_comm_of_comm mul_comm]

open Finset (range)

theorem quad_add_rank_one (d : Nat) (v r : ℕ → ℝ) (w : ℝ) (F : ℕ → ℕ → ℝ) :
    ∑ a ∈ range d, ∑ b ∈ range d, v a * (w * r a * r b + F a b) * v b
      = w * (∑ a ∈ range d, v a * r a) ^ 2 + ∑ a ∈ range d, ∑ b ∈ range d, v a * F a b * v b := by
  rw [sq, Finset.sum_mul_sum, Finset.mul_sum, ← Finset.sum_add_distrib]
  apply Finset.sum_congr rfl
  intro a _
  rw [Finset.mul_sum, ← Finset.sum_add_distrib]
  apply Finset.sum_congr rfl
  intro b _
  ring

/-- the quadratic form of the scatter matrix is `Σ_i ω_i (v·d_i)²`, hence non-negative -/
theorem scatter_quad_nonneg (d : Nat) (v : ℕ → ℝ) : ∀ (D : List (List ℝ)) (ω : List ℝ),
    (∀ w ∈ ω, 0 ≤ w) → (∀ r ∈ D, r.length = d) →
    0 ≤ ∑ a ∈ range d, ∑ b ∈ range d, v a * scatter ω (col D a) (col D b) * v b := by
  intro D
  induction D with
  | nil =>
    intro ω _ _
    have : ∀ a b, scatter ω (col ([] : List (List ℝ)) a) (col ([] : List (List ℝ)) b) = 0 :=
      fun a b => scatter_nil_mid ω _
    simp only [this, mul_zero, zero_mul, Finset.sum_const_zero, le_refl]
  | cons r D ih =>
    intro ω hω hD
    cases ω with
    | nil => simp only [scatter_nil_left, mul_zero, zero_mul, Finset.sum_const_zero, le_refl]
    | cons w ω =>
      have hr : r.length = d := hD r List.mem_cons_self
      have key : ∑ a ∈ range d, ∑ b ∈ range d,
            v a * scatter (w :: ω) (col (r :: D) a) (col (r :: D) b) * v b
          = ∑ a ∈ range d, ∑ b ∈ range d,
              v a * (w * r.getD a 0 * r.getD b 0 + scatter ω (col D a) (col D b)) * v b := by
        apply Finset.sum_congr rfl
        intro a ha
        apply Finset.sum_congr rfl
        intro b hb
        rw [col_cons_getD r D a (by rw [hr]; exact Finset.mem_range.mp ha),
          col_cons_getD r D b (by rw [hr]; exact Finset.mem_range.mp hb), scatter_cons]
      rw [key, quad_add_rank_one]
      exact add_nonneg (mul_nonneg (hω w List.mem_cons_self) (sq_nonneg _))
        (ih ω (fun w h => hω w (List.mem_cons_of_mem _ h)) fun r h => hD r (List.mem_cons_of_mem _ h))

theorem covFull_entry (eps : ℝ) (d : Nat) (ω : List ℝ) (D : List (List ℝ)) (a b : Nat)
    (ha : a < d) (hb : b < d) :
    ((covFull eps d ω D)[a]?.bind (·[b]?)) = some (covEntry eps ω D a b) := by
  simp only [covFull, List.getElem?_map, List.getElem?_range ha, List.getElem?_range hb, Option.map_some, Option.bind_some]

theorem covDiag_entry (eps : ℝ) (d : Nat) (ω : List ℝ) (D : List (List ℝ)) (a : Nat) (ha : a < d) :
    (covDiag eps d ω D)[a]? = some (covDiagEntry eps ω D a) := by
  simp only [covDiag, List.getElem?_map, List.getElem?_range ha, Option.map_some]

/-- **covariances are symmetric positive semidefinite** ('full': `C = Σ_i ω_i d_i d_iᵀ / (Σ_i ω_i + eps)`
    with `vᵀ C v = Σ_i ω_i (v·d_i)² / (Σ_i ω_i + eps) ≥ 0` for every `v`; 'diag': entries ≥ 0), for
    any non-negative weighted responsibilities `ω` and any difference rows `D` (whatever the mean is) -/
theorem C15_cov_sym_psd (eps : ℝ) (d : Nat) (ω : List ℝ) (D : List (List ℝ)) (heps : 0 < eps)
    (hω : ∀ w ∈ ω, 0 ≤ w) (hD : ∀ r ∈ D, r.length = d) :
    (∀ a b, covEntry eps ω D a b = covEntry eps ω D b a) ∧
    (∀ v : ℕ → ℝ, 0 ≤ ∑ a ∈ range d, ∑ b ∈ range d, v a * covEntry eps ω D a b * v b) ∧
    (∀ a, 0 ≤ covDiagEntry eps ω D a) := by
  have hS : 0 ≤ ω.sum + eps := (add_pos_of_nonneg_of_pos (List.sum_nonneg hω) heps).le
  refine ⟨?_, ?_, ?_⟩
  · intro a b; rw [covEntry, covEntry, scatter_comm]
  · intro v
    have e : ∑ a ∈ range d, ∑ b ∈ range d, v a * covEntry eps ω D a b * v b
        = (∑ a ∈ range d, ∑ b ∈ range d, v a * scatter ω (col D a) (col D b) * v b) / (ω.sum + eps) := by
      rw [Finset.sum_div]
      apply Finset.sum_congr rfl
      intro a _
      rw [Finset.sum_div]
      apply Finset.sum_congr rfl
      intro b _
      rw [covEntry, ScReal.sum_def, ScReal.div_def, ScReal.add_def]
      ring
    rw [e]
    exact div_nonneg (scatter_quad_nonneg d v D ω hω hD) hS
  · intro a
    rw [covDiagEntry, diagSum_eq_dot, ScReal.sum_def]
    exact div_nonneg (dot_nonneg ω _ hω fun x hx => by
      obtain ⟨y, _, rfl⟩ := List.mem_map.mp hx
      exact mul_self_nonneg y) hS

theorem meanVec_length (tiny : ℝ) (d : Nat) (ω : List ℝ) (X : List (List ℝ)) :
    (meanVec tiny d ω X).length = d := by simp [meanVec]

theorem diffRows_shape (d : Nat) (X : List (List ℝ)) (m : List ℝ) (hX : ∀ x ∈ X, x.length = d)
    (hm : m.length = d) : ∀ r ∈ diffRows X m, r.length = d := by
  intro r hr
  obtain ⟨x, hx, rfl⟩ := List.mem_map.mp hr
  rw [List.length_zipWith, hX x hx, hm, min_self]

theorem mstep_cov_get (tiny eps : ℝ) (d K : Nat) (X R : List (List ℝ)) (s : List ℝ) (k : Nat) (hk : k < K) :
    (mstep tiny eps d K X R s).covFull[k]? = some (covFull eps d (col (weightedResp R s) k)
        (diffRows X (meanVec tiny d (col (weightedResp R s) k) X))) ∧
      (mstep tiny eps d K X R s).covDiag[k]? = some (covDiag eps d (col (weightedResp R s) k)
        (diffRows X (meanVec tiny d (col (weightedResp R s) k) X))) := by
  simp only [mstep, List.getElem?_map, List.getElem?_range hk, Option.map_some, and_self]

/-- the covariances the M-step returns for component `k` are `covFull` / `covDiag` of non-negative weighted
    responsibilities and well-shaped difference rows: `C15_cov_sym_psd` applies to them -/
theorem C15_mstep_cov_psd (tiny eps : ℝ) (d K : Nat) (X R : List (List ℝ)) (s : List ℝ) (k : Nat)
    (hk : k < K) (heps : 0 < eps) (hX : ∀ x ∈ X, x.length = d)
    (hR0 : ∀ row ∈ R, ∀ r ∈ row, 0 ≤ r) (hs0 : ∀ x ∈ s, 0 ≤ x) :
    ∃ (ω : List ℝ) (D : List (List ℝ)),
      (mstep tiny eps d K X R s).covFull[k]? = some (covFull eps d ω D) ∧
      (mstep tiny eps d K X R s).covDiag[k]? = some (covDiag eps d ω D) ∧
      (∀ a b, covEntry eps ω D a b = covEntry eps ω D b a) ∧
      (∀ v : ℕ → ℝ, 0 ≤ ∑ a ∈ range d, ∑ b ∈ range d, v a * covEntry eps ω D a b * v b) ∧
      (∀ a, 0 ≤ covDiagEntry eps ω D a) := by
  obtain ⟨hf, hd⟩ := mstep_cov_get tiny eps d K X R s k hk
  exact ⟨_, _, hf, hd, C15_cov_sym_psd eps d _ _ heps (wcol_nonneg R s k hR0 hs0)
    (diffRows_shape d X _ hX (meanVec_length tiny d _ X))⟩

/-- `estepNormalise` is `responsibilities /= row sum + 1e-10`, the rule the log-space E-step (`Model.GMM.softRow`,
    `Props/C15Fit.lean`) replaced: its rows are non-negative and sum to `T/(T+eps) ≤ 1`, not to 1
    (`C15_old_estep_not_normalised` gives the exact value) -/
theorem C15_estep_rows (eps : ℝ) (P : List (List ℝ)) (heps : 0 < eps) (hP : ∀ row ∈ P, ∀ p ∈ row, 0 ≤ p) :
    ∀ row ∈ estepNormalise eps P, (∀ r ∈ row, 0 ≤ r) ∧ Sc.sum row ≤ 1 := by
  intro row hrow
  obtain ⟨p, hp, rfl⟩ := List.mem_map.mp hrow
  have h0 : 0 ≤ p.sum := List.sum_nonneg (hP p hp)
  have ht : 0 < p.sum + eps := add_pos_of_nonneg_of_pos h0 heps
  constructor
  · intro r hr
    obtain ⟨x, hx, rfl⟩ := List.mem_map.mp hr
    rw [ScReal.sum_def]
    exact div_nonneg (hP p hp x hx) ht.le
  · rw [ScReal.sum_def, ScReal.sum_def]
    exact (ScReal.sum_map_div p _).trans_le ((div_le_one ht).mpr (le_add_of_nonneg_right heps.le))

/-! ### the soft assignment of `_initialize_parameters` (log-domain, shifted by the row maximum) -/

/-- after the shift every entry is in (0, 1] and the entry of the row maximum is exactly `exp 0 = 1`:
    the normaliser is ≥ 1, never 0 (without the shift `exp` underflows to 0 in doubles for a point far from every centre:
    finding F22) -/
theorem C15_init_shift_has_one (row : List ℝ) (h : row ≠ []) :
    (1 : ℝ) ∈ shiftExp row ∧ ∀ e ∈ shiftExp row, 0 < e ∧ e ≤ 1 := by
  cases row with
  | nil => exact absurd rfl h
  | cons x xs =>
    -- `shiftExp (x :: xs)` is the `w` of `expShift_valid`: `rowMax` and `Model.Ess.maxOf` are the same fold
    obtain ⟨hent, hone, _⟩ := Model.Ess.expShift_valid x xs
    exact ⟨hone, hent⟩

/-- **every row of the initial responsibilities is a probability vector** (entries ≥ 0, sum exactly 1),
    for every real matrix of log-values with K ≥ 1 columns -/
theorem C15_init_rows_simplex_full (L : List (List ℝ)) (hL : ∀ row ∈ L, row ≠ []) :
    ∀ row ∈ initNormalise L, (∀ r ∈ row, 0 ≤ r) ∧ Sc.sum row = 1 := by
  intro row hrow
  obtain ⟨l, hl, rfl⟩ := List.mem_map.mp hrow
  obtain ⟨h1, hpos⟩ := C15_init_shift_has_one l (hL l hl)
  have h0 : ∀ e ∈ shiftExp l, 0 ≤ e := fun e he => (hpos e he).1.le
  exact normalise_simplex (shiftExp l) h0 (lt_of_lt_of_le one_pos (List.single_le_sum h0 1 h1))

theorem initNormalise_shape (L : List (List ℝ)) :
    (initNormalise L).length = L.length := by simp [initNormalise]

/-! ### a common positive factor in the sample weights (`sample_weight / np.sum(sample_weight)`) -/

theorem weightedResp_scale (c : ℝ) (R : List (List ℝ)) (s : List ℝ) :
    weightedResp R (s.map fun x => c * x) = (weightedResp R s).map fun row => row.map fun w => c * w := by
  rw [weightedResp, weightedResp, List.zipWith_map_right, List.map_zipWith]
  congr 1
  funext row a
  rw [List.map_map]
  exact List.map_congr_left fun x _ => by rw [mul_fun]; exact mul_left_comm x c a

theorem wcol_scale (c : ℝ) (R : List (List ℝ)) (s : List ℝ) (k : Nat) :
    col (weightedResp R (s.map fun x => c * x)) k = (col (weightedResp R s) k).map fun w => c * w := by
  rw [weightedResp_scale, col_map]

/-- **mixing weights do not depend on the scale of the sample weights** -/
theorem C15_mstep_weight_scale_invariant (c : ℝ) (hc : 0 < c) (K : Nat) (R : List (List ℝ)) (s : List ℝ) :
    mstepWeights K R (s.map fun x => c * x) = mstepWeights K R s := by
  have hS : colSums K (weightedResp R (s.map fun x => c * x))
      = (colSums K (weightedResp R s)).map fun x => c * x := by
    rw [colSums, colSums, List.map_map]
    apply List.map_congr_left
    intro k _
    rw [Function.comp, wcol_scale, ScReal.sum_def, ScReal.sum_def, List.sum_map_mul_left, List.map_id']
  rw [mstepWeights, mstepWeights, hS]
  exact Model.Ess.normalise_smul c hc.ne' _

set_option linter.unusedVariables false in
/-- **means do not depend on the scale of the sample weights** as long as the `tiny` guard is inactive
    before and after scaling (`h1`, `h2`; the proof does not need `htiny`) -/
theorem C15_mstep_mean_scale_invariant (c tiny : ℝ) (hc : 0 < c) (ω xs : List ℝ) (htiny : 0 < tiny)
    (h1 : tiny ≤ Sc.sum ω) (h2 : tiny ≤ c * Sc.sum ω) :
    wmean tiny (ω.map fun w => c * w) xs = wmean tiny ω xs := by
  rw [ScReal.sum_def] at h1 h2
  rw [wmean, wmean, dot_scale, ScReal.max_def, ScReal.max_def, ScReal.sum_def, ScReal.sum_def, List.sum_map_mul_left,
    List.map_id', max_eq_left h1, max_eq_left h2]
  exact mul_div_mul_left _ _ hc.ne'

theorem scale_div (c a s eps : ℝ) (hc : c ≠ 0) : c * a / (c * s + eps) = a / (s + eps / c) := by
  rw [show c * s + eps = c * (s + eps / c) by rw [mul_add, mul_div_cancel₀ eps hc]]
  exact mul_div_mul_left _ _ hc

/-- covariances carry the `+eps`: scaling the sample weights by `c` is the same as replacing `eps` by
    `eps / c`.  So they are scale invariant exactly only for `eps = 0`; with `eps = 1e-10` and normalised
    weights the two differ by the relative amount `eps·|1/c − 1| / (S + eps/c)`. -/
theorem C15_cov_scale (c eps : ℝ) (hc : 0 < c) (ω : List ℝ) (D : List (List ℝ)) (a b : Nat) :
    covEntry eps (ω.map fun w => c * w) D a b = covEntry (eps / c) ω D a b ∧
    covDiagEntry eps (ω.map fun w => c * w) D a = covDiagEntry (eps / c) ω D a := by
  constructor
  · rw [covEntry, covEntry, scatter_eq_dot, scatter_eq_dot, dot_scale, ScReal.sum_def, ScReal.sum_def,
      List.sum_map_mul_left, List.map_id']
    exact scale_div c _ _ eps hc.ne'
  · rw [covDiagEntry, covDiagEntry, diagSum_eq_dot, diagSum_eq_dot, dot_scale, ScReal.sum_def, ScReal.sum_def,
      List.sum_map_mul_left, List.map_id']
    exact scale_div c _ _ eps hc.ne'

/-- exact scale invariance of the covariances when there is no `eps` -/
theorem C15_cov_scale_eps0 (c : ℝ) (hc : 0 < c) (ω : List ℝ) (D : List (List ℝ)) (a b : Nat) :
    covEntry 0 (ω.map fun w => c * w) D a b = covEntry 0 ω D a b := by
  rw [(C15_cov_scale c 0 hc ω D a b).1, zero_div]

/-! ### integer sample weights ≡ replicated points -/

theorem replicateBy_nil_left {β : Type} (l : List β) : replicateBy [] l = [] := by simp [replicateBy]

theorem replicateBy_nil_right {β : Type} (c : List ℕ) : replicateBy c ([] : List β) = [] := by
  simp [replicateBy]

theorem replicateBy_cons {β : Type} (n : ℕ) (c : List ℕ) (x : β) (l : List β) :
    replicateBy (n :: c) (x :: l) = List.replicate n x ++ replicateBy c l := by simp [replicateBy]

/-- **integer weights are replication**: for natural-number weights `c_i`, every weighted sum
    `Σ_i c_i · g(x_i)` is the plain sum of `g` over the list in which `x_i` is repeated `c_i` times -/
theorem C15_replicate_equiv {β : Type} (g : β → ℝ) : ∀ (c : List ℕ) (l : List β),
    ((replicateBy c l).map g).sum = (List.zipWith (fun (ci : ℕ) x => (ci : ℝ) * g x) c l).sum := by
  intro c l
  induction c, l using list_induction₂ with
  | nil_left l => simp [replicateBy_nil_left]
  | nil_right c => simp [replicateBy_nil_right]
  | cons_cons n c x l ih =>
    simp only [replicateBy_cons, List.map_append, List.sum_append, List.map_replicate, List.sum_replicate,
      List.zipWith_cons_cons, List.sum_cons, ih, nsmul_eq_mul]

theorem map_replicateBy {β γ : Type} (f : β → γ) (c : List ℕ) (l : List β) :
    (replicateBy c l).map f = replicateBy c (l.map f) := by
  induction c, l using list_induction₂ with
  | nil_left l => simp [replicateBy_nil_left]
  | nil_right c => simp [replicateBy_nil_right]
  | cons_cons n c x l ih => simp [replicateBy_cons, ih]

theorem replicateBy_zipWith {β γ δ : Type} (f : β → γ → δ) : ∀ (c : List ℕ) (a : List β) (b : List γ),
    replicateBy c (List.zipWith f a b) = List.zipWith f (replicateBy c a) (replicateBy c b) := by
  intro c
  induction c with
  | nil => intro a b; simp [replicateBy_nil_left]
  | cons k c ih =>
    intro a b
    cases a with
    | nil => simp [replicateBy_nil_right]
    | cons x a =>
      cases b with
      | nil => simp [replicateBy_nil_right]
      | cons y b =>
        rw [List.zipWith_cons_cons, replicateBy_cons, replicateBy_cons, replicateBy_cons,
          List.zipWith_append (by simp), ih a b]
        simp

theorem length_replicateBy {β : Type} (c : List ℕ) (l : List β) (h : c.length = l.length) :
    (replicateBy c l).length = c.sum := by
  induction c, l using list_induction₂ with
  | nil_left l => simp [replicateBy_nil_left]
  | nil_right c => rw [List.eq_nil_of_length_eq_zero h]; rfl
  | cons_cons n c x l ih => simp [replicateBy_cons, ih (Nat.succ.inj h)]

theorem mem_replicateBy {β : Type} (y : β) (c : List ℕ) (l : List β) (h : y ∈ replicateBy c l) : y ∈ l := by
  induction c, l using list_induction₂ with
  | nil_left l => simp [replicateBy_nil_left] at h
  | nil_right c => simp [replicateBy_nil_right] at h
  | cons_cons n c x l ih =>
    rw [replicateBy_cons, List.mem_append] at h
    rcases h with h | h
    · exact (List.eq_of_mem_replicate h) ▸ List.mem_cons_self
    · exact List.mem_cons_of_mem _ (ih h)

theorem replicateBy_replicate {β : Type} (t : β) : ∀ (cnt : List ℕ) (n : ℕ), cnt.length ≤ n →
    replicateBy cnt (List.replicate n t) = List.replicate cnt.sum t := by
  intro cnt
  induction cnt with
  | nil => intro n _; exact replicateBy_nil_left _
  | cons k cnt ih =>
    intro n hn
    cases n with
    | zero => cases hn
    | succ n =>
      rw [List.replicate_succ, replicateBy_cons, ih n (Nat.le_of_succ_le_succ hn), List.sum_cons, List.replicate_add]

theorem replicateBy_ne_nil {β : Type} (cnt : List ℕ) (l : List β) (h : 0 < cnt.headD 0) (hl : l ≠ []) :
    replicateBy cnt l ≠ [] := by
  cases cnt with
  | nil => simp at h
  | cons k cnt =>
    cases l with
    | nil => exact absurd rfl hl
    | cons x l =>
      cases k with
      | zero => exact absurd h (Nat.lt_irrefl 0)
      | succ k =>
        rw [replicateBy_cons]
        exact List.cons_ne_nil _ _

theorem col_replicate {β : Type} (n : ℕ) (r : List β) (k : Nat) (h : k < r.length) :
    col (List.replicate n r) k = List.replicate n r[k] := by
  induction n with
  | zero => simp [col]
  | succ n ih => rw [List.replicate_succ, col_cons_lt _ _ _ h, ih, List.replicate_succ]

theorem col_replicateBy {β : Type} (k : Nat) (c : List ℕ) (M : List (List β)) (hM : ∀ row ∈ M, k < row.length) :
    col (replicateBy c M) k = replicateBy c (col M k) := by
  induction c, M using list_induction₂ with
  | nil_left M => simp [replicateBy_nil_left, col]
  | nil_right c => simp [replicateBy_nil_right, col]
  | cons_cons n c r M ih =>
    have hr : k < r.length := hM r List.mem_cons_self
    rw [replicateBy_cons, col_append, col_replicate n r k hr, col_cons_lt r M k hr, replicateBy_cons,
      ih fun row h => hM row (List.mem_cons_of_mem _ h)]

theorem zipWith_replicate_right {β γ δ : Type} (f : β → γ → δ) (t : γ) :
    ∀ (l : List β) (n : ℕ), l.length ≤ n →
    List.zipWith f l (List.replicate n t) = l.map fun x => f x t := by
  intro l
  induction l with
  | nil => intro n _; rfl
  | cons x l ih =>
    intro n hn
    cases n with
    | zero => cases hn
    | succ n => rw [List.replicate_succ, List.zipWith_cons_cons, ih n (Nat.le_of_succ_le_succ hn), List.map_cons]

theorem wcol_rep (k : Nat) (t : ℝ) (c : List ℕ) (R : List (List ℝ)) (hR : ∀ row ∈ R, k < row.length)
    (hc : c.length = R.length) :
    col (weightedResp (replicateBy c R) (List.replicate c.sum t)) k
        = replicateBy c ((col R k).map fun r => r * t) ∧
      col (weightedResp R (c.map fun (ci : ℕ) => (ci : ℝ) * t)) k
        = List.zipWith (fun (ci : ℕ) u => (ci : ℝ) * u) c ((col R k).map fun r => r * t) := by
  constructor
  · rw [wcol_eq k _ _ (fun row h => hR row (mem_replicateBy row c R h)), col_replicateBy k c R hR,
      zipWith_replicate_right _ t _ _ (by
        rw [length_replicateBy c _ (by rw [col_length R k hR]; exact hc)]), map_replicateBy]
  · rw [wcol_eq k R _ hR, List.zipWith_map_right, List.zipWith_map_right, List.zipWith_comm]
    congr 1
    funext ci r
    exact mul_left_comm r ci t

theorem sum_rep (c : List ℕ) (u : List ℝ) :
    Sc.sum (replicateBy c u) = Sc.sum (List.zipWith (fun (ci : ℕ) x => (ci : ℝ) * x) c u) := by
  have := C15_replicate_equiv (fun x : ℝ => x) c u
  rwa [List.map_id', ← ScReal.sum_def, ← ScReal.sum_def] at this

theorem dot_rep (c : List ℕ) (u g : List ℝ) :
    dot (replicateBy c u) (replicateBy c g) = dot (List.zipWith (fun (ci : ℕ) x => (ci : ℝ) * x) c u) g := by
  unfold dot
  rw [← replicateBy_zipWith, sum_rep, mul_fun, List.zipWith_zipWith_left, List.zipWith_zipWith_right]
  simp only [mul_assoc]

/-! The quantities of one mixture component on replicated data, the component's weighted responsibilities
    being the replicated list `u`, are those of the original data with weights `c_i · u_i`. -/

theorem meanVec_rep (tiny : ℝ) (d : Nat) (c : List ℕ) (u : List ℝ) (X : List (List ℝ))
    (hX : ∀ x ∈ X, x.length = d) :
    meanVec tiny d (replicateBy c u) (replicateBy c X)
      = meanVec tiny d (List.zipWith (fun (ci : ℕ) x => (ci : ℝ) * x) c u) X := by
  apply List.map_congr_left
  intro j hj
  rw [col_replicateBy j c X fun x hx => by rw [hX x hx]; exact List.mem_range.mp hj, wmean, wmean, dot_rep,
    sum_rep]

theorem covFull_rep (eps : ℝ) (d : Nat) (c : List ℕ) (u : List ℝ) (X : List (List ℝ)) (m : List ℝ)
    (hX : ∀ x ∈ X, x.length = d) (hm : m.length = d) :
    covFull eps d (replicateBy c u) (diffRows (replicateBy c X) m)
      = covFull eps d (List.zipWith (fun (ci : ℕ) x => (ci : ℝ) * x) c u) (diffRows X m) := by
  have hcol : ∀ a ∈ List.range d, ∀ r ∈ diffRows X m, a < r.length :=
    fun a ha r hr => by rw [diffRows_shape d X m hX hm r hr]; exact List.mem_range.mp ha
  rw [show diffRows (replicateBy c X) m = replicateBy c (diffRows X m) from map_replicateBy _ c X]
  apply List.map_congr_left
  intro a ha
  apply List.map_congr_left
  intro b hb
  rw [covEntry, covEntry, col_replicateBy a c _ (hcol a ha), col_replicateBy b c _ (hcol b hb), scatter_eq_dot,
    scatter_eq_dot, ← replicateBy_zipWith, dot_rep, sum_rep]

theorem covDiag_rep (eps : ℝ) (d : Nat) (c : List ℕ) (u : List ℝ) (X : List (List ℝ)) (m : List ℝ)
    (hX : ∀ x ∈ X, x.length = d) (hm : m.length = d) :
    covDiag eps d (replicateBy c u) (diffRows (replicateBy c X) m)
      = covDiag eps d (List.zipWith (fun (ci : ℕ) x => (ci : ℝ) * x) c u) (diffRows X m) := by
  rw [show diffRows (replicateBy c X) m = replicateBy c (diffRows X m) from map_replicateBy _ c X]
  apply List.map_congr_left
  intro a ha
  rw [covDiagEntry, covDiagEntry,
    col_replicateBy a c _ fun r hr => by rw [diffRows_shape d X m hX hm r hr]; exact List.mem_range.mp ha,
    diagSum_eq_dot, diagSum_eq_dot, map_replicateBy, dot_rep, sum_rep]

/-- **the M-step factors through weighted sums, so integer weights and replication give the same
    parameters**: the M-step on the data with `x_i` (and its responsibilities) repeated `c_i` times, every copy carrying
    the weight `t`, is the M-step on the original data with sample weights `c_i · t`.  (`fit` normalises the sample weights
    first, which makes `t = 1/Σc` on both sides — so even the `+eps` terms agree.) -/
theorem C15_em_factors_through_wsum (tiny eps t : ℝ) (d K : Nat) (X R : List (List ℝ)) (c : List ℕ)
    (hX : ∀ x ∈ X, x.length = d) (hR : ∀ row ∈ R, row.length = K)
    (hcR : c.length = R.length) :
    mstep tiny eps d K (replicateBy c X) (replicateBy c R) (List.replicate c.sum t)
      = mstep tiny eps d K X R (c.map fun (ci : ℕ) => (ci : ℝ) * t) := by
  have hω := fun k (hk : k ∈ List.range K) =>
    wcol_rep k t c R (fun row h => by rw [hR row h]; exact List.mem_range.mp hk) hcR
  simp only [mstep, MStep.mk.injEq]
  refine ⟨congrArg normalise (List.map_congr_left fun k hk => ?_), List.map_congr_left fun k hk => ?_,
    List.map_congr_left fun k hk => ?_, List.map_congr_left fun k hk => ?_⟩
  · rw [(hω k hk).1, (hω k hk).2, sum_rep]
  · rw [(hω k hk).1, (hω k hk).2, meanVec_rep tiny d c _ X hX]
  · rw [(hω k hk).1, (hω k hk).2, meanVec_rep tiny d c _ X hX]
    exact covFull_rep eps d c _ X _ hX (meanVec_length tiny d _ X)
  · rw [(hω k hk).1, (hω k hk).2, meanVec_rep tiny d c _ X hX]
    exact covDiag_rep eps d c _ X _ hX (meanVec_length tiny d _ X)

/-- the form met in `GaussianMixture.fit`, which first divides the sample weights by their sum: counts `c_i`
    become `c_i / N`, the `N = Σ c_i` replicated unit weights become `1 / N` — the same factor on both sides -/
theorem C15_replicate_normalised (tiny eps : ℝ) (d K : Nat) (X R : List (List ℝ)) (c : List ℕ)
    (hX : ∀ x ∈ X, x.length = d) (hR : ∀ row ∈ R, row.length = K) (hcR : c.length = R.length) :
    mstep tiny eps d K (replicateBy c X) (replicateBy c R) (List.replicate c.sum (1 / (c.sum : ℝ)))
      = mstep tiny eps d K X R (c.map fun (ci : ℕ) => (ci : ℝ) / (c.sum : ℝ)) := by
  rw [C15_em_factors_through_wsum tiny eps (1 / (c.sum : ℝ)) d K X R c hX hR hcR]
  congr 1
  exact List.map_congr_left fun ci _ => mul_one_div _ _

/-! ### non-vacuity: a concrete weighted data set (3 points in 1-D, 2 components) -/

/- the content of the simp set `list_eval` (`Lemmas/KernelSimp.lean`) -/
attribute [list_eval] List.range_succ List.range_zero List.nil_append List.cons_append List.zipWith_cons_cons
  List.zipWith_nil_right List.map_cons List.map_nil List.filterMap_cons List.filterMap_nil List.getElem?_cons_zero
  List.getElem?_cons_succ List.sum_cons List.sum_nil ScReal.sum_def ScReal.add_def ScReal.sub_def ScReal.mul_def
  ScReal.div_def ScReal.max_def

noncomputable def exX : List (List ℝ) := [[1], [3], [5]]
noncomputable def exR : List (List ℝ) := [[1, 0], [1/2, 1/2], [0, 1]]
noncomputable def exS : List ℝ := [1, 2, 1]

example : mstepWeights 2 exR exS = [1/2, 1/2] := by
  simp only [list_eval, mstepWeights, normalise, colSums, weightedResp, col, exR, exS]
  norm_num

example : 0 < Sc.sum (colSums 2 (weightedResp exR exS)) := by
  simp only [list_eval, colSums, weightedResp, col, exR, exS]
  norm_num

example : mstepMeans (1/1000) 1 2 exX exR exS = [[2], [4]] := by
  simp only [list_eval, mstepMeans, meanVec, wmean, dot_eq, weightedResp, col, exX, exR, exS]
  norm_num

/-- the hypotheses of `C15_mean_in_bbox` hold for this data: component 0 has `S_0 = 2 ≥ tiny` and its
    mean 2 lies in the bounding box [1, 5] -/
example : ∃ m, ((mstepMeans (1/1000) 1 2 exX exR exS)[0]?.bind (·[0]?)) = some m ∧ 1 ≤ m ∧ m ≤ 5 := by
  apply C15_mean_in_bbox (1/1000) 1 5 1 2 exX exR exS 0 0 (Nat.succ_pos 1) Nat.one_pos (by decide) rfl rfl (by decide)
  · simp only [exR, List.forall_mem_cons, List.not_mem_nil, false_imp_iff, implies_true, and_true]
    norm_num
  · simp only [exS, List.forall_mem_cons, List.not_mem_nil, false_imp_iff, implies_true, and_true]
    norm_num
  · norm_num
  · simp only [list_eval, weightedResp, col, exR, exS]
    norm_num
  · simp only [list_eval, col, exX, List.mem_cons, List.not_mem_nil, or_false]
    rintro v (rfl | rfl | rfl) <;> norm_num

/-- the log soft assignment of a point 40 and 50 away from the two centres (`exp` of either underflows in
    doubles) and of a point at a centre: the hypothesis of `C15_init_rows_simplex_full` holds, rows sum to 1 -/
example : ∀ row ∈ initNormalise ([[-800, -1250], [0, -2]] : List (List ℝ)),
    (∀ r ∈ row, 0 ≤ r) ∧ Sc.sum row = 1 :=
  C15_init_rows_simplex_full _ (by simp)

example : shiftExp ([-800, -1250] : List ℝ) = [1, Real.exp (-450)] := by
  simp only [shiftExp, rowMax, list_eval, List.foldl_cons, List.foldl_nil, ScReal.exp_def]
  norm_num

/-- a full covariance entry of the example (component 0, mean 2): (1·1 + 1·1)/(2 + 1/10) -/
example : covEntry (1/10) (col (weightedResp exR exS) 0) (diffRows exX [2]) 0 0 = 20/21 := by
  simp only [list_eval, covEntry, scatter_eq_dot, dot_eq, diffRows, weightedResp, col, exX, exR, exS]
  norm_num

example : replicateBy [1, 2, 1] exX = [[1], [3], [3], [5]] := rfl

example : (mstep (1/1000) (1/10) 1 2 (replicateBy [1, 2, 1] exX) (replicateBy [1, 2, 1] exR)
      (List.replicate 4 (1/4))).weights = [1/2, 1/2] := by
  rw [show (4 : ℕ) = ([1, 2, 1] : List ℕ).sum by rfl,
    C15_em_factors_through_wsum (1/1000) (1/10) (1/4) 1 2 exX exR [1, 2, 1] (by decide) (by decide) rfl]
  simp only [list_eval, mstep, normalise, colSums, weightedResp, col, exR]
  norm_num

end Props.C15
