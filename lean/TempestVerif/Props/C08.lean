import TempestVerif.Model.FS
import TempestVerif.Model.Checkpoint
import TempestVerif.Gen.Checkpoint
import TempestVerif.Gen.CheckpointSM
import TempestVerif.Gen.Tables
import Mathlib.Tactic.Ring
import Mathlib.Tactic.Positivity
/-
  C08 — checkpoints restore exactly, resume continues, saves are crash-safe and work with a pool.

  Models: `Model.FS` (process-crash semantics of the file operations of a save), `Model.Checkpoint` (StateManager save/load as maps,
  defaults loop, resume prologue, save cadence, pool detachment).  Which protocol, StateManager method and cadence test /repo uses is
  not assumed: it is regenerated into `Gen.Checkpoint`, and the `C08_gen_*` theorems are obligations on that table.  dill is trusted:
  `dec (enc d) = some d`, and `dec` of a strict prefix of a pickle fails.  In the comments `save_state` / `load_state` are the
  sampler's (`save_sampler_state` / `load_sampler_state`), except in the section on the StateManager's own persistence.

  File system and StateManager maps are association lists used only through `lookup`.  A crash state is the complete run of a cut of
  the program (`Cut`), so crash safety is stated about `run`: a program that never names the final name and ends by a rename onto it
  is atomic (`rename_last_atomic`), with one converse (`inplace_truncations`); every save result is an instance.  The round trip is
  the defaults loop and `update` read as maps; resuming is one unfolding of an iteration (`iteration_some`).
-/
namespace Props.C08

-- `Path` is to mean the model's paths wherever `Model.FS` is open, not the paths of topology in `_root_`
export Model.FS (Path)

/-! ## Dictionaries: association lists read through `lookup` -/

section Dict
open Model.Checkpoint
variable {β : Type}

theorem lookup_eq_list (k : Key) (d : List (Key × β)) : lookup k d = d.lookup k := by
  induction d with
  | nil => rfl
  | cons e r ih =>
    obtain ⟨k', v⟩ := e
    rw [lookup, List.lookup_cons, ih]
    by_cases h : k' = k
    · simp [h]
    · simp [h, beq_false_of_ne (Ne.symm h)]

theorem lookup_setKey (k' k : Key) (v : β) (d : List (Key × β)) :
    lookup k' (setKey k v d) = if k' = k then some v else lookup k' d := by
  induction d with
  | nil => simp [setKey, lookup, eq_comm]
  | cons e r ih =>
    obtain ⟨k0, v0⟩ := e
    by_cases h0 : k0 = k
    · by_cases h : k' = k <;> simp [setKey, lookup, h0, h, eq_comm]
    · by_cases h : k0 = k' <;> simp_all [setKey, lookup]

theorem lookup_updateAll (k : Key) (d e : List (Key × β)) :
    lookup k (updateAll d e) = (lookup k e).or (lookup k d) := by
  induction e with
  | nil => rfl
  | cons kv r ih => by_cases h : k = kv.1 <;> simp [updateAll, lookup, lookup_setKey, h, ih, eq_comm]

theorem lookup_mem {k : Key} {v : β} {d : List (Key × β)} (h : lookup k d = some v) : (k, v) ∈ d := by
  obtain ⟨l₁, l₂, rfl, _⟩ := List.lookup_eq_some_iff.mp (lookup_eq_list k d ▸ h)
  exact List.mem_append_right _ (List.mem_cons_self ..)

theorem lookup_filter_none (k : Key) (p : Key × β → Bool) (l : List (Key × β)) (hp : ∀ v, p (k, v) = false) :
    lookup k (l.filter p) = none := by
  rw [lookup_eq_list, List.lookup_eq_none_iff]
  intro e he
  obtain ⟨_, hpe⟩ := List.mem_filter.mp he
  refine bne_iff_ne.mpr fun hk => ?_
  rw [show e = (k, e.2) from Prod.ext hk.symm rfl, hp] at hpe
  cases hpe

theorem lookup_isSome_of_mem {k : Key} {l : List (Key × β)} (h : k ∈ l.map (·.1)) : (lookup k l).isSome := by
  obtain ⟨p, hp, rfl⟩ := List.mem_map.mp h
  rw [lookup_eq_list, List.lookup_isSome_iff]
  exact ⟨p, hp, beq_self_eq_true _⟩

theorem setKey_keys {k : Key} (v : β) {l : List (Key × β)} (h : k ∈ l.map (·.1)) :
    (setKey k v l).map (·.1) = l.map (·.1) := by
  induction l with
  | nil => simp at h
  | cons e r ih =>
    obtain ⟨k', v'⟩ := e
    by_cases hk : k' = k
    · subst hk; simp [setKey]
    · simp only [List.map_cons, List.mem_cons] at h
      rcases h with h | h
      · exact absurd h.symm hk
      · simp [setKey, hk, ih h]

theorem setKey_keys_eq {k : Key} (v : β) {l : List (Key × β)} {ks : List Key} (hl : l.map (·.1) = ks) (hk : k ∈ ks) :
    (setKey k v l).map (·.1) = ks := by
  rw [setKey_keys v (hl ▸ hk), hl]

theorem updateAll_keys (d e : List (Key × β)) (h : ∀ kv ∈ e, kv.1 ∈ d.map (·.1)) :
    (updateAll d e).map (·.1) = d.map (·.1) := by
  induction e with
  | nil => rfl
  | cons kv r ih =>
    obtain ⟨k, v⟩ := kv
    have hr : ∀ kv ∈ r, kv.1 ∈ d.map (·.1) := fun kv hkv => h kv (by simp [hkv])
    simp only [updateAll]
    rw [setKey_keys v (by rw [ih hr]; exact h (k, v) (by simp)), ih hr]

theorem updateAll_cons_of_not_mem {k : Key} (v : β) (d e : List (Key × β)) (h : k ∉ e.map (·.1)) :
    updateAll ((k, v) :: d) e = (k, v) :: updateAll d e := by
  induction e with
  | nil => rfl
  | cons kv r ih =>
    rw [List.map_cons, List.mem_cons, not_or] at h
    rw [updateAll, ih h.2, setKey, if_neg h.1, updateAll]

theorem updateAll_same_keys (d e : List (Key × β)) (hk : d.map (·.1) = e.map (·.1)) (hnd : (e.map (·.1)).Nodup) :
    updateAll d e = e := by
  induction e generalizing d with
  | nil => exact List.map_eq_nil_iff.mp hk
  | cons kv r ih =>
    cases d with
    | nil => cases hk
    | cons kv0 d' =>
      rw [List.map_cons, List.map_cons, List.cons.injEq] at hk
      rw [List.map_cons, List.nodup_cons] at hnd
      obtain ⟨k, v⟩ := kv
      obtain ⟨k0, v0⟩ := kv0
      obtain rfl : k0 = k := hk.1
      rw [updateAll, updateAll_cons_of_not_mem _ _ _ hnd.1, ih d' hk.2 hnd.2, setKey, if_pos rfl]

theorem lookup_map_const (v : β) {k : Key} {ks : List Key} (h : k ∈ ks) :
    lookup k (ks.map fun k => (k, v)) = some v := by
  induction ks with
  | nil => cases h
  | cons k' ks ih =>
    by_cases hk : k' = k
    · simp [lookup, hk]
    · simp [lookup, hk, ih ((List.mem_cons.mp h).resolve_left (Ne.symm hk))]

end Dict

section FilePart
open Model.FS

/-! ## The file system -/

/-! The file system is the same kind of association list as the StateManager's dictionaries: `put` is `setKey`. -/

theorem lookup_eq_dict (p : Path) (fs : FS) : lookup p fs = Model.Checkpoint.lookup p fs := by
  induction fs with
  | nil => rfl
  | cons e r ih => simp only [lookup, Model.Checkpoint.lookup, ih]

theorem put_eq_setKey (p : Path) (c : Bytes) (fs : FS) : put p c fs = Model.Checkpoint.setKey p c fs := by
  induction fs with
  | nil => rfl
  | cons e r ih => simp only [put, Model.Checkpoint.setKey, ih]

theorem lookup_put (r p : Path) (c : Bytes) (fs : FS) : lookup r (put p c fs) = if r = p then some c else lookup r fs := by
  rw [lookup_eq_dict, lookup_eq_dict, put_eq_setKey, lookup_setKey]

theorem lookup_erase (r p : Path) (fs : FS) : lookup r (erase p fs) = if r = p then none else lookup r fs := by
  induction fs with
  | nil => simp [erase, lookup]
  | cons e fs ih =>
    obtain ⟨q, c⟩ := e
    by_cases hq : q = p
    · rw [erase, if_pos hq, ih, lookup]
      by_cases hr : r = p
      · rw [if_pos hr, if_pos hr]
      · rw [if_neg hr, if_neg hr, if_neg (hq ▸ Ne.symm hr)]
    · rw [erase, if_neg hq, lookup, lookup, ih]
      by_cases hqr : q = r
      · rw [if_pos hqr, if_pos hqr, if_neg (hqr ▸ hq)]
      · rw [if_neg hqr, if_neg hqr]

theorem lookup_exec (q : Path) (fs : FS) (o : FsOp) :
    lookup q (exec fs o) = match o with
      | .openTrunc p => if q = p then some [] else lookup q fs
      | .write p b => if q = p then (lookup p fs).map (· ++ b) else lookup q fs
      | .rename p r =>
        if p = r ∨ lookup p fs = none then lookup q fs else if q = r then lookup p fs else if q = p then none else lookup q fs
      | _ => lookup q fs := by
  cases o with
  | openTrunc p => rw [exec, lookup_put]
  | write p b =>
    simp only [exec]
    cases h : lookup p fs with
    | none => by_cases hq : q = p <;> simp [hq, h]
    | some c => rw [lookup_put]; rfl
  | rename p r =>
    simp only [exec]
    cases lookup p fs with
    | none => simp
    | some c => by_cases hpr : p = r <;> simp [hpr, lookup_put, lookup_erase]
  | _ => rfl

theorem exec_frame {q : Path} {o : FsOp} (h : q ∉ opPaths o) (fs : FS) : lookup q (exec fs o) = lookup q fs := by
  rw [lookup_exec]
  cases o <;> simp_all [opPaths]

theorem run_frame {q : Path} (ops : List FsOp) (h : ∀ o ∈ ops, q ∉ opPaths o) (fs : FS) :
    lookup q (run fs ops) = lookup q fs := by
  induction ops generalizing fs with
  | nil => rfl
  | cons o os ih => rw [run, ih (fun o' ho' => h o' (.tail _ ho')), exec_frame (h o (.head _))]

theorem run_append (a b : List FsOp) (fs : FS) : run fs (a ++ b) = run (run fs a) b := by
  induction a generalizing fs with
  | nil => rfl
  | cons o os ih => simp [run, ih]

/-- what a crash lets a program complete: a prefix, the next `write` possibly cut short -/
inductive Cut : List FsOp → List FsOp → Prop
  | stop (ops : List FsOp) : Cut [] ops
  | part (p : Path) (b : Bytes) (k : Nat) (r : List FsOp) : Cut [.write p (b.take k)] (.write p b :: r)
  | step (o : FsOp) {c r : List FsOp} : Cut c r → Cut (o :: c) (o :: r)

theorem crashStates_cut {ops : List FsOp} {fs fs' : FS} (h : fs' ∈ crashStates ops fs) : ∃ c, Cut c ops ∧ fs' = run fs c := by
  induction ops generalizing fs with
  | nil => exact ⟨[], .stop _, List.mem_singleton.mp h⟩
  | cons o os ih =>
    rcases List.mem_append.mp h with h | h
    · cases o with
      | write p b =>
        obtain ⟨k, -, rfl⟩ := List.mem_map.mp h
        exact ⟨_, .part p b k os, rfl⟩
      | _ => exact ⟨[], .stop _, List.mem_singleton.mp h⟩
    · obtain ⟨c, hc, rfl⟩ := ih h
      exact ⟨o :: c, .step o hc, rfl⟩

theorem Cut.forall {P : FsOp → Prop} (hP : ∀ p b b', P (.write p b) → P (.write p b')) {c ops : List FsOp} (h : Cut c ops)
    (ha : ∀ o ∈ ops, P o) : ∀ o ∈ c, P o := by
  induction h with
  | stop => exact fun _ ho => nomatch ho
  | part p b k r => exact fun o ho => List.mem_singleton.mp ho ▸ hP p b _ (ha _ (.head _))
  | step o _ ih => exact List.forall_mem_cons.mpr ⟨ha o (.head _), ih fun o' ho' => ha o' (.tail _ ho')⟩

theorem Cut.of_append {c a b : List FsOp} (h : Cut c (a ++ b)) : Cut c a ∨ ∃ c', c = a ++ c' ∧ Cut c' b := by
  induction a generalizing c with
  | nil => exact .inr ⟨c, rfl, h⟩
  | cons o a ih =>
    cases h with
    | stop => exact .inl (.stop _)
    | part p b k r => exact .inl (.part ..)
    | step _ h =>
      rcases ih h with h1 | ⟨c', rfl, h2⟩
      exacts [.inl (.step o h1), .inr ⟨c', rfl, h2⟩]

theorem Cut.filter (p : FsOp → Bool) (hp : ∀ q b b', p (.write q b) = p (.write q b')) {c ops : List FsOp} (h : Cut c ops) :
    Cut (c.filter p) (ops.filter p) := by
  induction h with
  | stop => exact .stop _
  | part q b k r =>
    rw [List.filter_cons, List.filter_cons, hp q (b.take k) b]
    split
    exacts [.part .., .stop _]
  | step o _ ih =>
    rw [List.filter_cons, List.filter_cons]
    split
    exacts [.step o ih, ih]

theorem crash_frame {q : Path} {ops : List FsOp} (h : ∀ o ∈ ops, q ∉ opPaths o) {fs fs' : FS}
    (hm : fs' ∈ crashStates ops fs) : lookup q fs' = lookup q fs := by
  obtain ⟨c, hc, rfl⟩ := crashStates_cut hm
  exact run_frame c (hc.forall (fun _ _ _ h => h) h) fs

theorem run_mkdirs (mk : List Path) (fs : FS) : run fs (mk.map .mkdir) = fs := by
  induction mk with
  | nil => rfl
  | cons p r ih => exact ih

theorem crashStates_append_right (a b : List FsOp) (fs fs' : FS) (hm : fs' ∈ crashStates b (run fs a)) :
    fs' ∈ crashStates (a ++ b) fs := by
  induction a generalizing fs with
  | nil => exact hm
  | cons o os ih => exact List.mem_append_right _ (ih _ hm)

theorem inplace_truncations (mk : List Path) (p : Path) (payload : Bytes) (rest : List FsOp) (fs : FS) (k : Nat)
    (hk : k ≤ payload.length) :
    ∃ fs' ∈ crashStates (mk.map .mkdir ++ .openTrunc p :: .write p payload :: rest) fs,
      lookup p fs' = some (payload.take k) := by
  refine ⟨exec (exec fs (.openTrunc p)) (.write p (payload.take k)), crashStates_append_right _ _ _ _ ?_, ?_⟩
  · rw [run_mkdirs]
    simp only [crashStates, during, List.mem_append, List.mem_map, List.mem_range]
    exact .inr (.inl ⟨k, by omega, rfl⟩)
  · simp [lookup_exec]

theorem rename_last_atomic {pre c : List FsOp} {t final : Path} (hpre : ∀ o ∈ pre, final ∉ opPaths o) (fs : FS)
    (hc : Cut c (pre ++ [.rename t final])) :
    lookup final (run fs c) = lookup final fs ∨ lookup final (run fs c) = lookup t (run fs pre) := by
  rcases hc.of_append with h | ⟨c', rfl, h⟩
  · exact .inl (run_frame c (h.forall (fun _ _ _ h => h) hpre) fs)
  · rw [run_append]
    cases h with
    | stop => exact .inl (run_frame _ hpre fs)
    | step _ h =>
      cases h
      rw [run, run, lookup_exec]
      dsimp only
      split
      · exact .inl (run_frame _ hpre fs)
      · exact .inr (if_pos rfl)

/-- what the temp-file protocol does before its rename: optional `mkdir`s, open a temporary `t`, write it in any number of
    pieces, flush, fsync, close -/
def tempPre (mk : List Path) (t : Path) (ws : List Bytes) : List FsOp :=
  mk.map .mkdir ++ ([.openTrunc t] ++ (ws.map (.write t) ++ [.flush t, .fsync t, .close t]))

def tempShape (mk : List Path) (t final : Path) (ws : List Bytes) : List FsOp :=
  tempPre mk t ws ++ [.rename t final]

theorem run_writes (t : Path) (ws : List Bytes) (fs : FS) (c : Bytes) (h : lookup t fs = some c) :
    lookup t (run fs (ws.map (.write t))) = some (c ++ ws.flatten) := by
  induction ws generalizing fs c with
  | nil => simpa [run] using h
  | cons w r ih =>
    rw [List.map_cons, run, ih _ (c ++ w) (by simp [lookup_exec, h])]
    simp

theorem tempPre_paths (mk : List Path) (t : Path) (ws : List Bytes) : ∀ o ∈ tempPre mk t ws, ∀ q ∈ opPaths o, q = t := by
  intro o ho
  simp only [tempPre, List.mem_append, List.mem_map, List.mem_cons, List.not_mem_nil, or_false] at ho
  rcases ho with ⟨p, _, rfl⟩ | rfl | ⟨b, _, rfl⟩ | rfl | rfl | rfl <;> simp [opPaths]

theorem tempShape_paths (mk : List Path) (t final : Path) (ws : List Bytes) :
    ∀ o ∈ tempShape mk t final ws, ∀ q ∈ opPaths o, q = t ∨ q = final := by
  intro o ho q hq
  rcases List.mem_append.mp ho with h | h
  · exact .inl (tempPre_paths mk t ws o h q hq)
  · obtain rfl := List.mem_singleton.mp h
    simpa [opPaths] using hq

theorem tempShape_frame (mk : List Path) {t final q : Path} (ht : q ≠ t) (hf : q ≠ final) (ws : List Bytes) :
    ∀ o ∈ tempShape mk t final ws, q ∉ opPaths o :=
  fun o ho hq => (tempShape_paths mk t final ws o ho q hq).elim ht hf

theorem tempPre_run (mk : List Path) (t : Path) (ws : List Bytes) (fs : FS) :
    lookup t (run fs (tempPre mk t ws)) = some ws.flatten := by
  rw [tempPre, run_append, run_mkdirs, run_append, run_append]
  have := run_writes t ws (run fs [FsOpOf.openTrunc t]) [] (by simp [run, lookup_exec])
  simpa [run, lookup_exec] using this

theorem tempShape_completes (mk : List Path) {t final : Path} (ht : t ≠ final) (ws : List Bytes) (fs : FS) :
    lookup final (run fs (tempShape mk t final ws)) = some ws.flatten ∧
    lookup t (run fs (tempShape mk t final ws)) = none := by
  simp [tempShape, run_append, run, lookup_exec, tempPre_run, ht]

theorem tempShape_atomic (mk : List Path) {t final : Path} (ht : t ≠ final) (ws : List Bytes) (fs : FS) {c : List FsOp}
    (hc : Cut c (tempShape mk t final ws)) :
    lookup final (run fs c) = lookup final fs ∨ lookup final (run fs c) = some ws.flatten :=
  (rename_last_atomic (fun o ho hq => ht (tempPre_paths mk t ws o ho _ hq).symm) fs hc).imp_right (·.trans (tempPre_run mk t ws fs))

def written : List FsOp → Bytes
  | [] => []
  | .write _ b :: r => b ++ written r
  | _ :: r => written r

theorem written_append (a b : List FsOp) : written (a ++ b) = written a ++ written b := by
  induction a with
  | nil => rfl
  | cons o a ih => cases o <;> simp [written, ih]

theorem written_tempShape (mk : List Path) (t final : Path) (ws : List Bytes) :
    written (tempShape mk t final ws) = ws.flatten := by
  have h1 : written (mk.map FsOpOf.mkdir) = [] := by
    induction mk with
    | nil => rfl
    | cons p l ih => exact ih
  have h2 : written (ws.map (FsOpOf.write t)) = ws.flatten := by
    induction ws with
    | nil => rfl
    | cons b l ih => simp [written, ih]
  simp [tempShape, tempPre, written_append, h1, h2, written]

theorem tempRename_eq (final : Path) (payload : Bytes) : tempRename final payload = tempShape [] (tmpOf final) final [payload] := rfl

theorem samplerSave_eq (dir final : Path) (payload : Bytes) :
    samplerSave dir final payload = tempShape [dir] (tmpOf final) final [payload] := rfl

theorem tmpOf_ne (final : Path) : tmpOf final ≠ final := by
  intro h
  have := congrArg String.length h
  simp [tmpOf, String.length_append] at this

/-- whatever the file system held before (no file, a complete old checkpoint, a stale temporary …): in every crash state of the
    temp-file protocol the final name holds the old content or the complete new payload — never a strict prefix. -/
theorem C08_tempRename_atomic (final : Path) (payload : Bytes) (fs fs' : FS)
    (hm : fs' ∈ crashStates (tempRename final payload) fs) :
    lookup final fs' = lookup final fs ∨ lookup final fs' = some payload := by
  rw [tempRename_eq] at hm
  obtain ⟨c, hc, rfl⟩ := crashStates_cut hm
  simpa using tempShape_atomic [] (tmpOf_ne final) [payload] fs hc

theorem C08_tempRename_completes (final : Path) (payload : Bytes) (fs : FS) :
    lookup final (run fs (tempRename final payload)) = some payload := by
  rw [tempRename_eq]
  exact (tempShape_completes [] (tmpOf_ne final) [payload] fs).1.trans (by simp)

section loadable
variable {D : Type} (enc : D → Bytes) (dec : Bytes → Option D)

/-- with `dec (enc d) = some d`: if the final name was absent or held a complete checkpoint `enc dOld`, then in every crash
    state of the temp-file protocol it is absent, or decodes to the old dictionary, or decodes to the new one. -/
theorem C08_tempRename_loadable (hdec : ∀ d, dec (enc d) = some d) (final : Path) (dNew : D) (old : Option D)
    (fs fs' : FS) (hold : lookup final fs = old.map enc)
    (hm : fs' ∈ crashStates (tempRename final (enc dNew)) fs) :
    (lookup final fs' = none ∧ old = none) ∨
    (∃ c, lookup final fs' = some c ∧ (dec c = some dNew ∨ ∃ dOld, old = some dOld ∧ dec c = some dOld)) := by
  rcases C08_tempRename_atomic final (enc dNew) fs fs' hm with h | h
  · rw [hold] at h
    cases old with
    | none => left; exact ⟨h, rfl⟩
    | some dOld => right; exact ⟨enc dOld, h, Or.inr ⟨dOld, rfl, hdec dOld⟩⟩
  · right; exact ⟨enc dNew, h, Or.inl (hdec dNew)⟩

/-- writing in place, EVERY strict prefix of the payload (including the empty file)
    is a crash content under the final name — whatever complete checkpoint was there before is gone. -/
theorem C08_direct_not_atomic (final : Path) (payload : Bytes) (fs : FS) (k : Nat) (hk : k ≤ payload.length) :
    ∃ fs' ∈ crashStates (direct final payload) fs, lookup final fs' = some (payload.take k) :=
  inplace_truncations [] final payload [.close final] fs k hk

/-- a truncated file left by the in-place protocol does not load (dill fails on a strict prefix of a pickle), whatever loadable
    checkpoint stood under the final name before -/
theorem C08_direct_unloadable (hpre : ∀ d (c : Bytes), c <+: enc d → c ≠ enc d → dec c = none)
    (final : Path) (dNew : D) (hne : enc dNew ≠ []) (fs : FS) :
    ∃ fs' ∈ crashStates (direct final (enc dNew)) fs, ∃ c, lookup final fs' = some c ∧ dec c = none := by
  obtain ⟨fs', hm, hl⟩ := C08_direct_not_atomic final (enc dNew) fs 0 (Nat.zero_le _)
  refine ⟨fs', hm, [], by simpa using hl, hpre dNew [] (List.nil_prefix) (Ne.symm hne)⟩

end loadable

section classify
variable {β : Type}

theorem dropMkdirs_spec (tr : List (FsOpOf β)) : ∃ mk : List Path, tr = mk.map .mkdir ++ dropMkdirs tr := by
  induction tr with
  | nil => exact ⟨[], rfl⟩
  | cons o r ih =>
    cases o with
    | mkdir p =>
      obtain ⟨mk, h⟩ := ih
      refine ⟨p :: mk, ?_⟩
      simp only [dropMkdirs, List.map_cons, List.cons_append]
      rw [← h]
    | _ => exact ⟨[], rfl⟩

theorem dropWrites_spec (t : Path) (r : List (FsOpOf β)) : ∃ ws : List β, r = ws.map (.write t) ++ dropWrites t r := by
  induction r with
  | nil => exact ⟨[], rfl⟩
  | cons o r ih =>
    cases o with
    | write p b =>
      by_cases h : p = t
      · subst h
        obtain ⟨ws, hw⟩ := ih
        refine ⟨b :: ws, ?_⟩
        simp only [dropWrites, if_true, List.map_cons, List.cons_append]
        rw [← hw]
      · exact ⟨[], by simp [dropWrites, h]⟩
    | _ => exact ⟨[], rfl⟩

theorem isTempTail_spec {t final : Path} {l : List (FsOpOf β)} (h : isTempTail t final l = true) :
    l = [.flush t, .fsync t, .close t, .rename t final] := by
  unfold isTempTail at h
  split at h
  · simp only [Bool.and_eq_true, decide_eq_true_eq] at h
    obtain ⟨⟨⟨⟨rfl, rfl⟩, rfl⟩, rfl⟩, rfl⟩ := h
    rfl
  · cases h

theorem classify_some {tr : List (FsOpOf β)} {final : Path} {p : Protocol} (h : classify tr final = some p) :
    ∃ (mk : List Path) (t : Path) (b : β) (r : List (FsOpOf β)), tr = mk.map .mkdir ++ .openTrunc t :: .write t b :: r ∧
      ((p = .direct ∧ t = final) ∨ (p = .tempRename ∧ t ≠ final ∧ isTempTail t final (dropWrites t r) = true)) := by
  obtain ⟨mk, hmk⟩ := dropMkdirs_spec tr
  unfold classify at h
  split at h
  · next t w b r heq =>
    split at h
    · next hw =>
      subst hw
      refine ⟨mk, w, b, r, by rw [hmk, heq], ?_⟩
      split at h
      · next hf =>
        split at h
        · cases h
          exact .inl ⟨rfl, hf⟩
        · cases h
      · next hne =>
        split at h
        · next htail =>
          cases h
          exact .inr ⟨rfl, hne, htail⟩
        · cases h
    · cases h
  · cases h

/-- a trace classified as `tempRename` has exactly the shape the atomicity theorem needs: after optional `mkdir`s a temporary
    file DIFFERENT from the final name is opened, written (≥ 1 piece), flushed, fsynced, closed and only then renamed onto the
    final name; nothing else happens. -/
theorem C08_classify_sound (tr : List (FsOpOf β)) (final : Path) (h : classify tr final = some .tempRename) :
    ∃ (mk : List Path) (t : Path) (b : β) (ws : List β), t ≠ final ∧
      tr = mk.map .mkdir ++ ([.openTrunc t] ++ ((b :: ws).map (.write t) ++ [.flush t, .fsync t, .close t])) ++ [.rename t final] := by
  obtain ⟨mk, t, b, r, rfl, ⟨hd, _⟩ | ⟨_, hne, htail⟩⟩ := classify_some h
  · cases hd
  · obtain ⟨ws, hws⟩ := dropWrites_spec t r
    rw [isTempTail_spec htail] at hws
    exact ⟨mk, t, b, ws, hne, by simp only [hws, List.map_cons, List.cons_append, List.nil_append, List.append_assoc]⟩

/-- the same for `direct`: the final name itself is opened and written in place -/
theorem C08_classify_direct (tr : List (FsOpOf β)) (final : Path) (h : classify tr final = some .direct) :
    ∃ (mk : List Path) (b : β) (r : List (FsOpOf β)), tr = mk.map .mkdir ++ (.openTrunc final :: .write final b :: r) := by
  obtain ⟨mk, t, b, r, rfl, ⟨_, rfl⟩ | ⟨hd, _⟩⟩ := classify_some h
  · exact ⟨mk, b, r, rfl⟩
  · cases hd

end classify

/-- consequence for executable traces: every crash state of ANY trace classified as `tempRename` has the old
    content or everything the trace wrote under the final name -/
theorem C08_classified_atomic (tr : List FsOp) (final : Path) (h : classify tr final = some .tempRename)
    (fs fs' : FS) (hm : fs' ∈ crashStates tr fs) :
    lookup final fs' = lookup final fs ∨ lookup final fs' = some (written tr) := by
  obtain ⟨mk, t, b, ws, hne, htr⟩ := C08_classify_sound tr final h
  have hs : tr = tempShape mk t final (b :: ws) := by rw [htr]; rfl
  rw [hs, written_tempShape]
  rw [hs] at hm
  obtain ⟨c, hc, rfl⟩ := crashStates_cut hm
  exact tempShape_atomic mk hne (b :: ws) fs hc

theorem C08_classify_protocols (final : Path) (payload : Bytes) :
    classify (tempRename final payload) final = some .tempRename ∧
    classify (direct final payload) final = some .direct := by
  have ht := tmpOf_ne final
  constructor
  · simp [classify, tempRename, dropMkdirs, dropWrites, isTempTail, ht]
  · simp [classify, direct, dropMkdirs, dropWrites, isDirectTail]

/-- old checkpoint [1,1,1] under "ck", payload [2,2,2,2]: the contents seen under "ck" over all crash states of
    the temp-file protocol are exactly the old and the new file … -/
example : ((crashStates (tempRename "ck" [2, 2, 2, 2]) [("ck", [1, 1, 1])]).map (lookup "ck")).eraseDups
    = [some [1, 1, 1], some [2, 2, 2, 2]] := by decide +kernel

/-- the in-place protocol over the same file system shows every truncation -/
example : ((crashStates (direct "ck" [2, 2, 2, 2]) [("ck", [1, 1, 1])]).map (lookup "ck")).eraseDups
    = [some [1, 1, 1], some [], some [2], some [2, 2], some [2, 2, 2], some [2, 2, 2, 2]] := by decide +kernel

example : classify ([.openTrunc "a.tmp", .write "a.tmp" 10, .write "a.tmp" 20, .flush "a.tmp", .fsync "a.tmp",
    .close "a.tmp", .rename "a.tmp" "a"] : List (FsOpOf Nat)) "a" = some .tempRename := by decide +kernel
-- the fsync dropped, or the temporary name equal to the final name: not recognised
example : classify ([.openTrunc "a.tmp", .write "a.tmp" 10, .flush "a.tmp", .close "a.tmp", .rename "a.tmp" "a"] : List (FsOpOf Nat)) "a" = none := by decide +kernel

example : classify ([.openTrunc "a", .write "a" 10, .flush "a", .fsync "a", .close "a", .rename "a" "a"] : List (FsOpOf Nat)) "a" = none := by decide +kernel

example : classify ([.openTrunc "a", .write "a" 10, .close "a"] : List (FsOpOf Nat)) "a" = some .direct := by decide +kernel

/-! ### the two extracted programs, `save_sampler_state` and `StateManager.save_state`: obligations and what follows -/

/-- OBLIGATION: the statically extracted operation sequence of `save_sampler_state` is the temp-file protocol -/
theorem C08_gen_protocol : classify Gen.Checkpoint.saveOps "final" = some .tempRename := by decide

/-- the rename is an atomic replace (`os.replace`; `os.rename` is the same call on POSIX) -/
theorem C08_gen_rename_call : Gen.Checkpoint.renameCall = "os.replace" ∨ Gen.Checkpoint.renameCall = "os.rename" := by decide

/-- OBLIGATION: the operation sequence extracted from `StateManager.save_state` is the temp-file protocol -/
theorem C08_gen_sm_protocol : classify Gen.Checkpoint.stateManagerSave "final" = some .tempRename := by decide

/-- OBLIGATION: how the two temporary names are derived from the final name in the source: both saves APPEND ".temp"
    to the file name (`with_name(name + ".temp")`).  The pre-fix shape of StateManager.save_state, `with_suffix(".temp")`,
    is extracted as "replace_suffix" and makes this obligation fail. -/
theorem C08_gen_tmp_names :
    Gen.Checkpoint.tmpNameKind = "append" ∧ Gen.Checkpoint.tmpSuffix = ".temp" ∧
    Gen.Checkpoint.smTmpNameKind = "append" ∧ Gen.Checkpoint.smTmpSuffix = ".temp" ∧
    (Gen.Checkpoint.smRenameCall = "os.rename" ∨ Gen.Checkpoint.smRenameCall = "os.replace") :=
  ⟨rfl, rfl, rfl, rfl, by decide⟩

theorem samplerSave_atomic (dir final : Path) (payload : Bytes) (fs fs' : FS)
    (hm : fs' ∈ crashStates (samplerSave dir final payload) fs) :
    lookup final fs' = lookup final fs ∨ lookup final fs' = some payload := by
  rw [samplerSave_eq] at hm
  obtain ⟨c, hc, rfl⟩ := crashStates_cut hm
  simpa using tempShape_atomic [dir] (tmpOf_ne final) [payload] fs hc

theorem sm_program_eq (dir final : Path) (payload : Bytes) :
    instantiate dir (final ++ Gen.Checkpoint.smTmpSuffix) final payload Gen.Checkpoint.stateManagerSave = smSave dir final payload := by
  simp [instantiate, substPath, Gen.Checkpoint.stateManagerSave, Gen.Checkpoint.smTmpSuffix, smSave, tmpOf]

/-- the program extracted from `StateManager.save_state`, for EVERY final name (no condition on its suffix: `final ++ ".temp"`
    differs from every final name), payload and file system: in every crash state the final name holds the old content or the
    complete new payload. -/
theorem C08_state_manager_save_crash_safe (dir final : Path) (payload : Bytes) (fs fs' : FS)
    (hm : fs' ∈ crashStates (instantiate dir (final ++ Gen.Checkpoint.smTmpSuffix) final payload
                              Gen.Checkpoint.stateManagerSave) fs) :
    lookup final fs' = lookup final fs ∨ lookup final fs' = some payload := by
  rw [sm_program_eq] at hm
  exact samplerSave_atomic dir final payload fs fs' hm

theorem C08_state_manager_save_completes (dir final : Path) (payload : Bytes) (fs : FS) :
    lookup final (run fs (smSave dir final payload)) = some payload ∧
    lookup (tmpOf final) (run fs (smSave dir final payload)) = none := by
  have h := tempShape_completes [dir] (tmpOf_ne final) [payload] fs
  exact ⟨h.1.trans (by simp), h.2⟩

/-- distinct final names have distinct temporary names: no two checkpoints of a directory share a temporary file (under the
    `with_suffix` naming of /repo before b1898a0 all `stem.*` shared `stem.temp`) -/
theorem C08_sm_temp_name_injective (a b : Path) (h : tmpOf a = tmpOf b) : a = b :=
  (String.append_left_inj ".temp").mp h

/-- MODEL OF THE PRE-FIX CODE (before /repo b1898a0, `temp = Path(path).with_suffix(".temp")`; witness F27): when the final
    name itself ends in ".temp" the temporary name IS the final name, the save writes in place, and every truncation of
    the payload is a crash content under the final name. -/
theorem C08_state_manager_temp_suffix_in_place (n : PName) (hs : n.suffix = ".temp") (payload : Bytes) (fs : FS)
    (k : Nat) (hk : k ≤ payload.length) :
    ∃ fs' ∈ crashStates (smSaveOld n payload) fs, lookup n.path fs' = some (payload.take k) := by
  have hp : n.path = n.withSuffix ".temp" := by simp [PName.withSuffix, PName.path, hs]
  rw [hp]
  exact inplace_truncations [n.dir] _ payload _ fs k hk

/-- OBLIGATION-backed: the operation sequence extracted from `save_sampler_state`, instantiated with the names it computes,
    IS the program `samplerSave` the run model executes -/
theorem sampler_program_eq (dir final : Path) (payload : Bytes) :
    instantiate dir (final ++ Gen.Checkpoint.tmpSuffix) final payload Gen.Checkpoint.saveOps = samplerSave dir final payload := by
  simp [instantiate, substPath, Gen.Checkpoint.saveOps, Gen.Checkpoint.tmpSuffix, samplerSave, tempRename, tmpOf]

/-- the same for the sampler's extracted program (so atomicity is a statement about the program `save_sampler_state` runs,
    not only about its classification) -/
theorem C08_sampler_save_crash_safe (dir final : Path) (payload : Bytes) (fs fs' : FS)
    (hm : fs' ∈ crashStates (instantiate dir (final ++ Gen.Checkpoint.tmpSuffix) final payload Gen.Checkpoint.saveOps) fs) :
    lookup final fs' = lookup final fs ∨ lookup final fs' = some payload := by
  rw [sampler_program_eq] at hm
  exact samplerSave_atomic dir final payload fs fs' hm

example : ((crashStates (smSave "ck/" "ck/a.state" [2, 2, 2, 2]) [("ck/a.state", [1, 1, 1]), ("ck/a.state.temp", [9])]).map
    (lookup "ck/a.state")).eraseDups = [some [1, 1, 1], some [2, 2, 2, 2]] := by decide +kernel
-- a final name that itself ends in ".temp" is atomic as well …
example : ((crashStates (smSave "" "x.temp" [2, 2]) [("x.temp", [1, 1, 1])]).map (lookup "x.temp")).eraseDups
    = [some [1, 1, 1], some [2, 2]] := by decide +kernel
-- … whereas the `with_suffix` naming (`smSaveOld`) wrote it in place
example : ((crashStates (smSaveOld ⟨"", "x", ".temp"⟩ [2, 2]) [("x.temp", [1, 1, 1])]).map (lookup "x.temp")).eraseDups
    = [some [1, 1, 1], some [], some [2], some [2, 2]] := by decide +kernel

end FilePart

/-! ## What is saved, what is loaded, how a run continues -/

section StatePart
open Model.Checkpoint

theorem applyDefaults_spec (dl : List (Key × Val)) (hd : ∀ kv ∈ dl, kv.2 ≠ Val.none) (cur : List (Key × Val))
    (hp : ∀ kv ∈ dl, (lookup kv.1 cur).isSome) :
    ∃ cur', applyDefaults dl cur = some cur' ∧
      ∀ k, lookup k cur' = (lookup k cur).map fun v => if v = Val.none then (lookup k dl).getD Val.none else v := by
  induction dl generalizing cur with
  | nil => exact ⟨cur, rfl, fun k => by cases lookup k cur <;> simp [lookup]⟩
  | cons kv r ih =>
    obtain ⟨k0, dv⟩ := kv
    rw [List.forall_mem_cons] at hd hp
    obtain ⟨v, hv⟩ := Option.isSome_iff_exists.mp hp.1
    -- the dictionary the loop goes on with: the slot filled if it held `None`; every key that was present still is
    obtain ⟨cur', h', hl⟩ := ih hd.2 (if v = Val.none then setKey k0 dv cur else cur) fun kv hkv => by
      split
      · rw [lookup_setKey]
        split
        exacts [rfl, hp.2 kv hkv]
      · exact hp.2 kv hkv
    refine ⟨cur', ?_, fun k => ?_⟩
    · rw [applyDefaults, hv]
      cases v <;> exact h'
    · rw [hl]
      by_cases hk : k = k0
      · subst hk
        by_cases hvn : v = Val.none <;> simp [hvn, lookup, lookup_setKey, hv, hd.1]
      · have hk' : ¬ k0 = k := fun h => hk h.symm
        by_cases hvn : v = Val.none <;> simp [hvn, lookup, lookup_setKey, hk, hk']

theorem applyDefaults_id (dl : List (Key × Val)) (cur : List (Key × Val))
    (h : ∀ kv ∈ dl, ∃ v, lookup kv.1 cur = some v ∧ v ≠ Val.none) : applyDefaults dl cur = some cur := by
  induction dl with
  | nil => rfl
  | cons kv r ih =>
    obtain ⟨k0, dv⟩ := kv
    obtain ⟨v, hv, hne⟩ := h (k0, dv) (by simp)
    simp only [applyDefaults, hv]
    cases v with
    | none => exact absurd rfl hne
    | _ => exact ih fun kv hkv => h kv (List.mem_cons_of_mem _ hkv)

/-- a freshly constructed StateManager: every current key present and `None`, every history list empty (`init n` is one:
    `init_isFresh`) -/
def IsFresh (f : State) : Prop :=
  (∀ k ∈ currentKeys, lookup k f.current = some Val.none) ∧
  (∀ kv ∈ f.current, kv.2 = Val.none) ∧
  (∀ kv ∈ f.history, kv.2 = [])

theorem init_isFresh (n : Nat) : IsFresh (init n) := by
  refine ⟨fun _ hk => lookup_map_const _ hk, fun kv h => ?_, fun kv h => ?_⟩ <;>
  · obtain ⟨k, _, rfl⟩ := List.mem_map.mp h
    rfl

def defaultOf (k : Key) : Val := match lookup k defaults with | some dv => dv | none => Val.none

/-- what `load fresh (save s)` holds under `k`:
    * a value that is not `None` in `s`: that value;
    * `None` in `s` (or a key `s` does not define but the fresh sampler does): the default of `load_sampler_state`
      for `iter, calls, beta, logz, steps, acceptance, efficiency`, and `None` for every other key. -/
def expectCur (s f : State) (k : Key) : Option Val :=
  match lookup k s.current with
  | some Val.none => some (defaultOf k)
  | some v => some v
  | none => (lookup k f.current).map fun _ => defaultOf k

theorem defaults_ne_none : ∀ kv ∈ defaults, kv.2 ≠ Val.none := by decide

theorem defaults_sub_current : ∀ kv ∈ defaults, kv.1 ∈ currentKeys := by decide +kernel

/-- for EVERY state `s` and ANY freshly constructed state `f`, loading the bytes written by saving `s`
    succeeds, and the loaded state has: `current[k]` as described by `expectCur` (= `s.current[k]` wherever that is not
    `None`), `history[k] = s.history[k]` for every key `s` has (other keys keep the fresh, empty list), `n_dim = s.n_dim`. -/
theorem C08_restore (enc : Dict → Bytes) (dec : Bytes → Option Dict) (hdec : ∀ d, dec (enc d) = some d)
    (s f : State) (hf : IsFresh f) :
    ∃ s', load dec f (save enc s) = some s' ∧
      (∀ k, lookup k s'.current = expectCur s f k) ∧
      (∀ k, lookup k s'.history = match lookup k s.history with | some l => some l | none => lookup k f.history) ∧
      s'.nDim = s.nDim := by
  obtain ⟨hf1, hf2, hf3⟩ := hf
  obtain ⟨c, hc, hl⟩ := applyDefaults_spec defaults defaults_ne_none (updateAll f.current s.current) fun kv hkv => by
    rw [lookup_updateAll]
    cases lookup kv.1 s.current with
    | some v => rfl
    | none => simp [hf1 kv.1 (defaults_sub_current kv hkv)]
  refine ⟨{ current := c, history := updateAll f.history s.history, nDim := s.nDim }, ?_, ?_, ?_, rfl⟩
  · simp [load, save, hdec, loadDict, updateFromDict, toDict, hc]
  · intro k
    have hd : (lookup k defaults).getD Val.none = defaultOf k := by unfold defaultOf; cases lookup k defaults <;> rfl
    rw [hl k, lookup_updateAll, hd]
    unfold expectCur
    cases hs : lookup k s.current with
    | some v => cases v <;> simp
    | none =>
      cases hfk : lookup k f.current with
      | none => rfl
      | some v =>
        obtain rfl : v = Val.none := hf2 (k, v) (lookup_mem hfk)
        simp
  · intro k
    show lookup k (updateAll f.history s.history) = _
    rw [lookup_updateAll]
    cases lookup k s.history <;> rfl

/-- exactness where it matters: every value of `s` that is not `None`, and every `None` under a key without a default
    (e.g. `blobs` when the likelihood has none), is restored as it was.  In a checkpoint written by a run the seven
    keys with defaults are all set (they are committed at every iteration), so nothing is replaced. -/
theorem C08_restore_exact (enc : Dict → Bytes) (dec : Bytes → Option Dict) (hdec : ∀ d, dec (enc d) = some d)
    (s f : State) (hf : IsFresh f) :
    ∃ s', load dec f (save enc s) = some s' ∧
      (∀ k v, lookup k s.current = some v → (v ≠ Val.none ∨ lookup k defaults = none) → lookup k s'.current = some v) ∧
      (∀ k l, lookup k s.history = some l → lookup k s'.history = some l) ∧ s'.nDim = s.nDim := by
  obtain ⟨s', h1, h2, h3, h4⟩ := C08_restore enc dec hdec s f hf
  refine ⟨s', h1, ?_, ?_, h4⟩
  · intro k v hv hcase
    rw [h2 k]
    simp only [expectCur, hv]
    cases v with
    | none =>
      rcases hcase with h | h
      · exact absurd rfl h
      · simp [defaultOf, h]
    | _ => rfl
  · intro k l hl
    rw [h3 k, hl]

/-- a truncated checkpoint file does not load (so the crash analysis of the file system matters) -/
theorem C08_truncated_fails (enc : Dict → Bytes) (dec : Bytes → Option Dict)
    (hpre : ∀ d (c : Bytes), c <+: enc d → c ≠ enc d → dec c = none) (s f : State) (c : Bytes)
    (h1 : c <+: save enc s) (h2 : c ≠ save enc s) : load dec f c = none := by
  simp [load, hpre (toDict s) c h1 h2]

/-! ### OBLIGATIONS on what `load_sampler_state` in /repo does -/

/-- the unpickled dictionary is handed to `update_from_dict` (in place), not to the classmethod `from_dict` -/
theorem C08_gen_load_method : Gen.Checkpoint.loadMethod = "update_from_dict" := rfl

/-- the defaults table and loop of the source are the modelled ones -/
theorem C08_defaults_match : Gen.Checkpoint.defaults = defaults ∧ Gen.Checkpoint.defaultsLoopShape = true := ⟨rfl, rfl⟩

/-- the key sets of the model are those of state_manager.py -/
theorem C08_keys_match : currentKeys = Gen.Tables.currentKeys ∧ historyKeys = Gen.Tables.historyKeys := ⟨rfl, rfl⟩

theorem appendHist_some {k : Key} {v : Val} {h h' : List (Key × List Val)} (ha : appendHist k v h = some h') :
    ∃ l, lookup k h = some l ∧ h' = setKey k (l ++ [v]) h := by
  induction h generalizing h' with
  | nil => cases ha
  | cons e r ih =>
    obtain ⟨k0, l⟩ := e
    rw [appendHist] at ha
    split at ha
    · next hk0 =>
      obtain rfl := Option.some.inj ha
      exact ⟨l, by simp [lookup, hk0], by simp [setKey, hk0]⟩
    · next hk0 =>
      obtain ⟨r', hr', rfl⟩ := Option.map_eq_some_iff.mp ha
      obtain ⟨l', hl', rfl⟩ := ih hr'
      exact ⟨l', by simp [lookup, hk0, hl'], by simp [setKey, hk0]⟩

theorem appendHist_lookup {k : Key} {v : Val} {h h' : List (Key × List Val)} (ha : appendHist k v h = some h') (k' : Key) :
    lookup k' h' = if k' = k then (lookup k' h).map (· ++ [v]) else lookup k' h := by
  obtain ⟨l, hl, rfl⟩ := appendHist_some ha
  rw [lookup_setKey]
  split
  · next hk => rw [hk, hl]; rfl
  · rfl

/-- what `commit_current_to_history` appends to the list of key `k`: the current value, if `k` is committed and the value
    is not `None` -/
def commitAdd (cur : List (Key × Val)) (ks : List Key) (k : Key) : List Val :=
  if k ∈ ks then
    match lookup k cur with
    | some v => if v = Val.none then [] else [v]
    | none => []
  else []

theorem commitLoop_lookup (cur : List (Key × Val)) (ks : List Key) (hnd : ks.Nodup) (h h' : List (Key × List Val))
    (hc : commitLoop cur ks h = some h') (k : Key) :
    lookup k h' = (lookup k h).map (· ++ commitAdd cur ks k) := by
  induction ks generalizing h with
  | nil =>
    obtain rfl := Option.some.inj hc
    simp [commitAdd]
  | cons k0 ks ih =>
    have hnot : k0 ∉ ks := (List.nodup_cons.mp hnd).1
    have hnd' : ks.Nodup := (List.nodup_cons.mp hnd).2
    simp only [commitLoop] at hc
    split at hc
    · cases hc
    · next hk0 =>
      rw [ih hnd' _ hc]
      by_cases hk : k = k0
      · subst hk
        simp [commitAdd, hnot, hk0]
      · simp [commitAdd, hk]
    · next v hv hk0 =>
      obtain ⟨h1, ha, hc⟩ := Option.bind_eq_some_iff.mp hc
      rw [ih hnd' _ hc, appendHist_lookup ha]
      have hvn : v ≠ Val.none := fun e => hv e
      by_cases hk : k = k0
      · subst hk
        simp [commitAdd, hnot, hk0, hvn, Function.comp_def]
      · simp [commitAdd, hk]

/-- histories only grow: every list of `h` is a prefix of the corresponding list of `h'` -/
def HistExt (h h' : List (Key × List Val)) : Prop :=
  ∀ k l, lookup k h = some l → ∃ l', lookup k h' = some (l ++ l')

theorem HistExt.refl (h : List (Key × List Val)) : HistExt h h := fun _ l hl => ⟨[], by simpa using hl⟩

theorem HistExt.trans {a b c : List (Key × List Val)} (h1 : HistExt a b) (h2 : HistExt b c) : HistExt a c := by
  intro k l hl
  obtain ⟨l1, h1'⟩ := h1 k l hl
  obtain ⟨l2, h2'⟩ := h2 k _ h1'
  exact ⟨l1 ++ l2, by simpa using h2'⟩

theorem currentKeys_nodup : currentKeys.Nodup := by decide +kernel

theorem historyKeys_nodup : historyKeys.Nodup := by decide +kernel

theorem commitKeys_nodup : commitKeys.Nodup := currentKeys_nodup.filter _

theorem mem_commitKeys {k : Key} : k ∈ commitKeys ↔ k ∈ currentKeys ∧ k ∈ historyKeys := by
  rw [commitKeys, List.mem_filter, List.contains_iff_mem]

theorem iter_mem_commitKeys : "iter" ∈ commitKeys :=
  mem_commitKeys.mpr ⟨defaults_sub_current _ (.head _), by decide +kernel⟩

theorem commitLoop_histExt {cur : List (Key × Val)} {h h' : List (Key × List Val)}
    (hc : commitLoop cur commitKeys h = some h') : HistExt h h' := fun k l hl =>
  ⟨commitAdd cur commitKeys k, by rw [commitLoop_lookup cur commitKeys commitKeys_nodup _ _ hc k, hl, Option.map_some]⟩

/-- `_current` as an iteration leaves it: `iter` incremented, then the values of the step (the counters left out), then
    `calls` increased -/
def stepCur (cur : List (Key × Val)) (it ca : Int) (i : StepIn) : List (Key × Val) :=
  setKey "calls" (Val.int (ca + (i.nCalls : Int)))
    (updateAll (setKey "iter" (Val.int (it + 1)) cur) (i.vals.filter fun kv => !counterKeys.contains kv.1))

theorem lookup_stepCur_calls (cur : List (Key × Val)) (it ca : Int) (i : StepIn) :
    lookup "calls" (stepCur cur it ca i) = some (Val.int (ca + (i.nCalls : Int))) :=
  (lookup_setKey ..).trans (if_pos rfl)

theorem lookup_stepCur {k : Key} (hk : k ≠ "calls") (cur : List (Key × Val)) (it ca : Int) (i : StepIn) :
    lookup k (stepCur cur it ca i) =
      (lookup k (i.vals.filter fun kv => !counterKeys.contains kv.1)).or (lookup k (setKey "iter" (Val.int (it + 1)) cur)) := by
  rw [stepCur, lookup_setKey, if_neg hk, lookup_updateAll]

theorem lookup_stepCur_iter (cur : List (Key × Val)) (it ca : Int) (i : StepIn) :
    lookup "iter" (stepCur cur it ca i) = some (Val.int (it + 1)) := by
  rw [lookup_stepCur (by decide), lookup_filter_none "iter" _ _ (by intro v; simp [counterKeys]), Option.none_or, lookup_setKey, if_pos rfl]

theorem iteration_some {s s' : State} {i : StepIn} (h : iteration s i = some s') :
    ∃ it ca hist, getInt "iter" s.current = some it ∧ getInt "calls" s.current = some ca ∧
      commitLoop (stepCur s.current it ca i) commitKeys s.history = some hist ∧
      s' = { current := stepCur s.current it ca i, history := hist, nDim := s.nDim } := by
  unfold iteration at h
  split at h
  · next it ca hit hca =>
    obtain ⟨hist, hc, rfl⟩ := Option.map_eq_some_iff.mp h
    exact ⟨it, ca, hist, hit, hca, hc, rfl⟩
  · cases h

theorem iteration_spec {s s' : State} {i : StepIn} (h : iteration s i = some s') :
    HistExt s.history s'.history ∧
    ∃ it ca, getInt "iter" s.current = some it ∧ getInt "calls" s.current = some ca ∧
      getInt "iter" s'.current = some (it + 1) ∧ getInt "calls" s'.current = some (ca + (i.nCalls : Int)) ∧
      (∀ l, lookup "iter" s.history = some l → lookup "iter" s'.history = some (l ++ [Val.int (it + 1)])) := by
  obtain ⟨it, ca, hist, hit, hca, hc, rfl⟩ := iteration_some h
  refine ⟨commitLoop_histExt hc, it, ca, hit, hca, ?_, ?_, ?_⟩
  · simp only [getInt, lookup_stepCur_iter]
  · simp only [getInt, lookup_stepCur_calls]
  · intro l hl
    rw [commitLoop_lookup _ commitKeys commitKeys_nodup _ _ hc "iter", hl]
    simp [commitAdd, iter_mem_commitKeys, lookup_stepCur_iter]

/-- `iter` values committed by `n` iterations that start after `t0` -/
def iterVals (t0 : Int) (n : Nat) : List Val := (List.range n).map fun (j : Nat) => Val.int (t0 + (j : Int) + 1)

theorem iterStarts_succ (t0 : Int) (n : Nat) :
    iterStarts t0 (n + 1) = t0 :: iterStarts (t0 + 1) n := by
  simp only [iterStarts, List.range_succ_eq_map, List.map_cons, List.map_map]
  congr 1
  · simp
  · apply List.map_congr_left
    intro j _
    simp only [Function.comp]
    push_cast
    ring

theorem iterVals_succ (t0 : Int) (n : Nat) : iterVals t0 (n + 1) = Val.int (t0 + 1) :: iterVals (t0 + 1) n := by
  have h : ∀ t m, iterVals t m = (iterStarts t m).map fun i => Val.int (i + 1) := fun t m => by
    rw [iterVals, iterStarts, List.map_map]
    rfl
  rw [h, h, iterStarts_succ, List.map_cons]

/-- let `s0` be the state after `load_state` (so `t0 = s0.iter` is what `run_sampling` takes as
    `t0`).  For EVERY sequence of iterations that runs from it: each restored history list is a prefix of the later
    one (append-only), `iter` has continued from `t0` (the first resumed iteration is number `t0 + 1`, and those
    numbers are what the history records), and `calls` has continued from the restored count. -/
theorem C08_resume_prefix (s0 s1 : State) (t0 : Int) (ht0 : resumeT0 s0 = some t0) (is : List StepIn)
    (hrun : runIters s0 is = some s1) :
    HistExt s0.history s1.history ∧
    resumeT0 s1 = some (t0 + (is.length : Int)) ∧
    (∀ c0, getInt "calls" s0.current = some c0 → getInt "calls" s1.current = some (c0 + ((is.map (·.nCalls)).sum : Nat))) ∧
    (∀ l, lookup "iter" s0.history = some l → lookup "iter" s1.history = some (l ++ iterVals t0 is.length)) := by
  induction is generalizing s0 t0 with
  | nil =>
    obtain rfl := Option.some.inj hrun
    refine ⟨HistExt.refl _, ?_, fun c0 h => ?_, fun l hl => ?_⟩
    · rwa [List.length_nil, Nat.cast_zero, add_zero]
    · rwa [List.map_nil, List.sum_nil, Nat.cast_zero, add_zero]
    · rwa [List.length_nil, iterVals, List.range_zero, List.map_nil, List.append_nil]
  | cons i is ih =>
    obtain ⟨sm, hstep, hrest⟩ := Option.bind_eq_some_iff.mp hrun
    obtain ⟨hext, it, ca, hit, hca, hit', hca', hhist⟩ := iteration_spec hstep
    obtain rfl : it = t0 := Option.some.inj (hit.symm.trans ht0)
    obtain ⟨e2, t2, c2, h2⟩ := ih sm (it + 1) hit' hrest
    refine ⟨hext.trans e2, ?_, ?_, ?_⟩
    · rw [t2, List.length_cons, Nat.cast_succ, add_assoc, add_comm 1]
    · intro c0 hc0
      obtain rfl : ca = c0 := Option.some.inj (hca.symm.trans hc0)
      rw [c2 _ hca', List.map_cons, List.sum_cons, Nat.cast_add, add_assoc]
    · intro l hl
      rw [h2 _ (hhist l hl), List.length_cons, iterVals_succ, List.append_assoc, List.singleton_append]

/-- the first iteration after a resume has number `t0 + 1` (`C08_resume_prefix` at a single iteration) -/
theorem C08_resume_first (s0 s1 : State) (t0 : Int) (ht0 : resumeT0 s0 = some t0) (i : StepIn)
    (h : iteration s0 i = some s1) : resumeT0 s1 = some (t0 + 1) := by
  simpa using (C08_resume_prefix s0 s1 t0 ht0 [i] (by simp [runIters, h])).2.1

/-- when the checkpoint holds an integer `iter`, that is the `t0` the prologue finds after `load_state` (a saved `iter = None`
    comes back as the default `0`: `C08_restore`, `expectCur`) -/
theorem C08_resume_t0 (enc : Dict → Bytes) (dec : Bytes → Option Dict) (hdec : ∀ d, dec (enc d) = some d)
    (s f : State) (hf : IsFresh f) (t : Int) (hs : lookup "iter" s.current = some (Val.int t)) :
    ∃ s', load dec f (save enc s) = some s' ∧ resumeT0 s' = some t := by
  obtain ⟨s', h1, h2, _, _⟩ := C08_restore enc dec hdec s f hf
  refine ⟨s', h1, ?_⟩
  simp [resumeT0, getInt, h2 "iter", expectCur, hs]

theorem mem_iterStarts (t0 : Int) (n : Nat) (i : Int) : i ∈ iterStarts t0 n ↔ ∃ m : Nat, m < n ∧ i = t0 + (m : Int) := by
  simp only [iterStarts, List.mem_map, List.mem_range, eq_comm]

theorem savesAt_iff (t0 k : Int) (hk : 1 ≤ k) (m : Nat) :
    savesAt t0 k (t0 + m) = true ↔ ∃ j : Nat, 1 ≤ j ∧ (m : Int) = j * k := by
  obtain ⟨kn, rfl⟩ := Int.eq_ofNat_of_zero_le (by omega : 0 ≤ k)
  -- the test `(t0 + m - t0) % k = 0 ∧ t0 + m ≠ t0` is `k ∣ m ∧ m ≠ 0`, read in ℕ
  simp only [savesAt, add_sub_cancel_left, Bool.and_eq_true, beq_iff_eq, bne_iff_ne, ne_eq, add_eq_left,
    ← Int.dvd_iff_emod_eq_zero, Int.natCast_dvd_natCast, Nat.cast_eq_zero]
  constructor
  · rintro ⟨⟨c, rfl⟩, hm⟩
    exact ⟨c, Nat.pos_of_ne_zero (by rintro rfl; exact hm rfl), by push_cast; ring⟩
  · rintro ⟨j, hj, h⟩
    obtain rfl : m = j * kn := by exact_mod_cast h
    exact ⟨Dvd.intro_left _ rfl, Nat.mul_ne_zero (by omega) (by omega)⟩

/-- in a run that starts at `t0` (`0`, or the restored `iter`) with `save_every = k ≥ 1` and
    executes `n` iterations, the periodic checkpoints are written exactly at the iterations whose number at the
    START of the iteration is `t0 + j·k` with `j ≥ 1` (i.e. after every `k` completed iterations, and never at `t0`
    itself — the checkpoint one resumed from is not rewritten). -/
theorem C08_save_cadence (t0 k : Int) (hk : 1 ≤ k) (n : Nat) (i : Int) :
    i ∈ periodicSaves t0 k n ↔ ∃ j : Nat, 1 ≤ j ∧ i = t0 + (j : Int) * k ∧ (j : Int) * k < (n : Int) := by
  simp only [periodicSaves, List.mem_filter, mem_iterStarts]
  constructor
  · rintro ⟨⟨m, hm, rfl⟩, hs⟩
    obtain ⟨j, hj, hjm⟩ := (savesAt_iff t0 k hk m).mp hs
    exact ⟨j, hj, by rw [hjm], by rw [← hjm]; exact_mod_cast hm⟩
  · rintro ⟨j, hj, rfl, hlt⟩
    obtain ⟨m, hm⟩ := Int.eq_ofNat_of_zero_le (by positivity : 0 ≤ (j : Int) * k)
    rw [hm] at hlt ⊢
    exact ⟨⟨m, by exact_mod_cast hlt, rfl⟩, (savesAt_iff t0 k hk m).mpr ⟨j, hj, hm.symm⟩⟩

inductive CkName where
  | iter (i : Int)      -- `<label>_<i>.state`
  | final               -- `<label>_final.state`
  deriving DecidableEq, Repr

/-- the checkpoints a run of `n` iterations writes; whether there is a final one is read off the source -/
def checkpoints (finalSave : Bool) (t0 k : Int) (n : Nat) : List CkName :=
  (periodicSaves t0 k n).map .iter ++ (if finalSave then [.final] else [])

/-- OBLIGATION on the source: the test is `(iter − t0) % save_every == 0 and iter != t0`, `iter` is read (and the
    checkpoint written) before `Reweighter.run` increments it, the files are `<label>_<iter>.state`, there is a final
    save `<label>_final.state` after the loop, and on resume `t0` is the restored `iter`. -/
theorem C08_gen_cadence :
    Gen.Checkpoint.cadenceModZero = true ∧ Gen.Checkpoint.cadenceNeT0 = true ∧
    Gen.Checkpoint.iterReadBeforeReweight = true ∧ Gen.Checkpoint.periodicNameOk = true ∧
    Gen.Checkpoint.finalSave = true ∧ Gen.Checkpoint.finalNameOk = true ∧
    Gen.Checkpoint.resumeT0FromIter = true := by decide

/-- the files written by a run with `save_every = k`: the periodic ones of `C08_save_cadence` and the final one -/
theorem C08_checkpoints_written (t0 k : Int) (hk : 1 ≤ k) (n : Nat) (c : CkName) :
    c ∈ checkpoints Gen.Checkpoint.finalSave t0 k n ↔
      c = .final ∨ ∃ j : Nat, 1 ≤ j ∧ c = .iter (t0 + (j : Int) * k) ∧ (j : Int) * k < (n : Int) := by
  have hf : Gen.Checkpoint.finalSave = true := C08_gen_cadence.2.2.2.2.1
  simp only [checkpoints, hf, if_true, List.mem_append, List.mem_map, List.mem_singleton]
  constructor
  · rintro (⟨i, hi, rfl⟩ | rfl)
    · obtain ⟨j, hj, rfl, hlt⟩ := (C08_save_cadence t0 k hk n i).mp hi
      exact Or.inr ⟨j, hj, rfl, hlt⟩
    · exact Or.inl rfl
  · rintro (rfl | ⟨j, hj, rfl, hlt⟩)
    · exact Or.inr rfl
    · exact Or.inl ⟨_, (C08_save_cadence t0 k hk n _).mpr ⟨j, hj, rfl, hlt⟩, rfl⟩

/-! ### saving with a worker pool -/

/-- whatever the pickler does — return bytes or raise — after `save` the core is exactly what it
    was (the pool is re-attached), and the object that was pickled carried no pool. -/
theorem C08_pool_detach {P R E B : Type} (pickle : Core P R → Except E B) (c : Core P R) :
    (pickleDetached pickle c).1 = c ∧
    (pickleDetached pickle c).2 = pickle { c with pool := none } ∧
    ({ c with pool := none } : Core P R).pool = none := by
  obtain ⟨pool, rest⟩ := c
  cases pool <;> simp [pickleDetached]

/-- OBLIGATION on the source: the pool is detached before `dill.dumps(self)` and re-attached in a `finally` -/
theorem C08_gen_pool : Gen.Checkpoint.poolDetached = true ∧ Gen.Checkpoint.poolReattachInFinally = true := by decide

/-! ### the StateManager's own `load_state` / `from_dict` / `save_state(exclude=…)` -/

/-- `load_state` into ANY manager (fresh or not) is a merge — a key the loaded section holds takes
    the loaded value, every other key keeps what the manager had; an absent section changes nothing. -/
theorem C08_sm_merge (s0 : State) (d : Dict) :
    (∀ k, lookup k (updateFromDict s0 d).current = match d.cur with
        | some c => (match lookup k c with | some v => some v | none => lookup k s0.current)
        | none => lookup k s0.current) ∧
    (∀ k, lookup k (updateFromDict s0 d).history = match d.hist with
        | some h => (match lookup k h with | some l => some l | none => lookup k s0.history)
        | none => lookup k s0.history) ∧
    (updateFromDict s0 d).nDim = (match d.nDim with | some n => n | none => s0.nDim) := by
  refine ⟨?_, ?_, rfl⟩
  · intro k
    cases hc : d.cur with
    | none => simp [updateFromDict, hc]
    | some c =>
      simp only [updateFromDict, hc]
      rw [lookup_updateAll]
      cases lookup k c <;> rfl
  · intro k
    cases hh : d.hist with
    | none => simp [updateFromDict, hh]
    | some h =>
      simp only [updateFromDict, hh]
      rw [lookup_updateAll]
      cases lookup k h <;> rfl

theorem excludeDict_id (ex : List String) (h : ex.contains "_current" = false ∧ ex.contains "_history" = false ∧ ex.contains "n_dim" = false)
    (d : Dict) : excludeDict ex d = d := by
  obtain ⟨h1, h2, h3⟩ := h
  unfold excludeDict
  rw [h1, h2, h3]
  rfl

theorem smDefaultExclude_harmless :
    smDefaultExclude.contains "_current" = false ∧ smDefaultExclude.contains "_history" = false ∧
    smDefaultExclude.contains "n_dim" = false := by decide

/-- `StateManager.save_state(p)` (any `exclude` that names none of `_current`, `_history`,
    `n_dim`; in particular the default, `smDefaultExclude_harmless`) followed by `load_state(p)` into ANY manager `f` succeeds and gives, for every
    key `s` defines, exactly `s`'s value — `None` included, there is no defaults loop here — and `s`'s history list;
    keys `s` does not define keep `f`'s entries; `n_dim = s.n_dim`.  For a fresh `f` that is `s` itself. -/
theorem C08_state_manager_restore (enc : Dict → Bytes) (dec : Bytes → Option Dict) (hdec : ∀ d, dec (enc d) = some d)
    (ex : List String) (hex : ex.contains "_current" = false ∧ ex.contains "_history" = false ∧ ex.contains "n_dim" = false)
    (s f : State) :
    ∃ s', smLoad dec f (enc (smSaveDict ex s)) = some s' ∧
      (∀ k, lookup k s'.current = match lookup k s.current with | some v => some v | none => lookup k f.current) ∧
      (∀ k, lookup k s'.history = match lookup k s.history with | some l => some l | none => lookup k f.history) ∧
      s'.nDim = s.nDim := by
  refine ⟨updateFromDict f (toDict s), ?_, ?_, ?_, rfl⟩
  · simp [smLoad, smSaveDict, excludeDict_id ex hex, hdec]
  · intro k; exact (C08_sm_merge f (toDict s)).1 k
  · intro k; exact (C08_sm_merge f (toDict s)).2.1 k

/-- `StateManager.from_dict(sm.to_dict())` holds `sm`'s value under every key `sm` defines
    (and `None` / an empty list under a state key `sm` lacks), with `sm`'s `n_dim`. -/
theorem C08_from_dict_to_dict (s : State) :
    (∀ k, lookup k (fromDict (toDict s)).current = match lookup k s.current with | some v => some v | none => lookup k (init s.nDim).current) ∧
    (∀ k, lookup k (fromDict (toDict s)).history = match lookup k s.history with | some l => some l | none => lookup k (init s.nDim).history) ∧
    (fromDict (toDict s)).nDim = s.nDim := by
  refine ⟨?_, ?_, rfl⟩
  · intro k; exact (C08_sm_merge (init s.nDim) (toDict s)).1 k
  · intro k; exact (C08_sm_merge (init s.nDim) (toDict s)).2.1 k

/-- what `exclude` can do: dropping a section leaves that part of the receiving manager untouched -/
theorem C08_sm_exclude_section (enc : Dict → Bytes) (dec : Bytes → Option Dict) (hdec : ∀ d, dec (enc d) = some d) (s f : State) :
    (smLoad dec f (enc (smSaveDict ["_history"] s))).map (·.history) = some f.history ∧
    (smLoad dec f (enc (smSaveDict ["_current"] s))).map (·.current) = some f.current ∧
    (smLoad dec f (enc (smSaveDict ["n_dim"] s))).map (·.nDim) = some f.nDim := by
  simp [smLoad, smSaveDict, excludeDict, hdec, updateFromDict, toDict]

/-- OBLIGATIONS on state_manager.py: the pickled dictionary is `{_current, _history, n_dim}` of the manager, the
    default `exclude` and its loop are the modelled ones, `load_state` = unpickle + `update_from_dict`,
    `from_dict` = `cls(state_dict.get("n_dim", 1))` + `update_from_dict`, `update_from_dict` has its three guarded sections -/
theorem C08_gen_sm_io :
    Gen.Checkpoint.smDictKeys = ["_current", "_history", "n_dim"] ∧ Gen.Checkpoint.smDictValuesOk = true ∧
    Gen.Checkpoint.smExcludeDefault = smDefaultExclude ∧ Gen.Checkpoint.smExcludeLoopShape = true ∧
    Gen.Checkpoint.smLoadMethod = "update_from_dict" ∧ Gen.Checkpoint.smLoadShape = true ∧
    Gen.Checkpoint.fromDictViaUpdate = true ∧ Gen.Checkpoint.fromDictDefaultNDim = 1 ∧
    Gen.Checkpoint.updateFromDictShape = true :=
  ⟨rfl, rfl, rfl, rfl, rfl, rfl, rfl, rfl, rfl⟩

end StatePart

/-! ## Crash, then load -/

/-- a save of `sNew` over a final name that is absent or holds the complete checkpoint of `sOld`, interrupted ANYWHERE: loading
    the final name finds no file (only if there was none before), or behaves as loading the complete checkpoint of `sOld`, or of
    `sNew` — to both of which `C08_restore` applies. -/
theorem C08_crash_then_load (enc : Model.Checkpoint.Dict → Model.FS.Bytes) (dec : Model.FS.Bytes → Option Model.Checkpoint.Dict)
    (final : Model.FS.Path) (sNew : Model.Checkpoint.State)
    (old : Option Model.Checkpoint.State) (fs fs' : Model.FS.FS)
    (hold : Model.FS.lookup final fs = old.map (Model.Checkpoint.save enc))
    (hm : fs' ∈ Model.FS.crashStates (Model.FS.tempRename final (Model.Checkpoint.save enc sNew)) fs)
    (f : Model.Checkpoint.State) :
    (Model.FS.lookup final fs' = none ∧ old = none) ∨
    (∃ c, Model.FS.lookup final fs' = some c ∧
      (Model.Checkpoint.load dec f c = Model.Checkpoint.load dec f (Model.Checkpoint.save enc sNew) ∨
       ∃ sOld, old = some sOld ∧ Model.Checkpoint.load dec f c = Model.Checkpoint.load dec f (Model.Checkpoint.save enc sOld))) := by
  rcases C08_tempRename_atomic final _ fs fs' hm with h | h
  · rw [hold] at h
    cases old with
    | none => left; exact ⟨h, rfl⟩
    | some sOld => right; exact ⟨_, h, Or.inr ⟨sOld, rfl, rfl⟩⟩
  · right; exact ⟨_, h, Or.inl rfl⟩

section Examples
open Model.Checkpoint

/-- a state as it is after two iterations, with `blobs = None` -/
def exState : State :=
  { current := [("iter", .int 2), ("calls", .int 64), ("beta", .real 4602678819172646912), ("logz", .arr 1), ("steps", .int 1),
                ("acceptance", .arr 2), ("efficiency", .arr 3), ("u", .arr 4), ("x", .arr 5), ("logl", .arr 6), ("blobs", .none),
                ("assignments", .arr 7), ("ess", .arr 8)]
    history := [("iter", [.int 1, .int 2]), ("u", [.arr 10, .arr 4]), ("beta", [.real 0, .real 4602678819172646912])]
    nDim := 2 }

-- `exState` saved and loaded into a fresh StateManager: identical maps
example : (loadDict (init 1) (toDict exState)).map (fun s => (currentKeys.map (fun k => lookup k s.current), lookup "u" s.history, lookup "blobs" s.history, s.nDim))
    = some (currentKeys.map (fun k => lookup k exState.current), some [.arr 10, .arr 4], some [], 2) := by decide +kernel

/-- a state saved before the first iteration (`steps`, `acceptance`, `efficiency` still `None`): those come back as defaults -/
example : (loadDict (init 2) (toDict { init 2 with current := setKey "iter" (.int 0) (init 2).current })).map
      (fun s => (lookup "iter" s.current, lookup "steps" s.current, lookup "acceptance" s.current, lookup "u" s.current))
    = some (some (.int 0), some (.int 0), some (.real 0), some .none) := by decide +kernel

/-- resume: two more iterations after loading `exState` → iter 3, 4; calls 64 → 64+32+40; history extended -/
example : (runIters { exState with history := updateAll (init 2).history exState.history }
      [⟨32, [("beta", .real 1), ("u", .arr 20)]⟩, ⟨40, [("u", .arr 21), ("iter", .int 99)]⟩]).map
      (fun s => (lookup "iter" s.current, lookup "calls" s.current, lookup "iter" s.history, lookup "u" s.history))
    = some (some (.int 4), some (.int 136), some [.int 1, .int 2, .int 3, .int 4], some [.arr 10, .arr 4, .arr 20, .arr 21]) := by decide +kernel

example : periodicSaves 0 2 8 = [2, 4, 6] := by decide +kernel

example : periodicSaves 4 3 4 = [7] := by decide +kernel

example : checkpoints true 4 3 4 = [.iter 7, .final] := by decide +kernel

example : periodicSaves 0 1 3 = [1, 2] := by decide +kernel

/-- pool: the pickler raises — the pool is back; the pickler succeeds — it saw no pool -/
example : (pickleDetached (fun (c : Core Nat String) => if c.pool.isSome then Except.error "cannot pickle pool" else Except.ok c.rest.length)
    ⟨some 7, "core"⟩) = (⟨some 7, "core"⟩, Except.ok 4) := by rfl

example : (pickleDetached (fun (_ : Core Nat String) => (Except.error "boom" : Except String Nat)) ⟨some 7, "core"⟩).1.pool = some 7 := by decide +kernel

/-- StateManager round trip: a state with `steps = None` comes back with `steps = None` (no defaults), into a manager
    that had other data the loaded keys override and `assignments` (absent from the file) stays -/
example : (let s := { init 2 with current := setKey "iter" (.int 3) (init 2).current }
           let f : State := { current := [("assignments", .arr 9), ("iter", .int 7)], history := [("u", [.arr 1])], nDim := 5 }
           let r := updateFromDict f (smSaveDict smDefaultExclude { s with current := s.current.filter (·.1 != "assignments") })
           (lookup "iter" r.current, lookup "steps" r.current, lookup "assignments" r.current, lookup "u" r.history, r.nDim))
    = (some (.int 3), some .none, some (.arr 9), some [], 2) := by decide +kernel

example : (fromDict { cur := some [("beta", .real 5)], hist := none, nDim := none }).nDim = 1 := by decide +kernel

end Examples

end Props.C08
