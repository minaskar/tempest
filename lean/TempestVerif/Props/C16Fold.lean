import Mathlib.Topology.Algebra.InfiniteSum.Basic
import Mathlib.Topology.MetricSpace.Pseudo.Defs
/-
  C16, last clause, form (i): the preimage sums `Kper` / `Krefl` of a random-walk proposal folded into the unit interval,
  q~(x -> y) = sum over {w : fold w = y} of k(w - x), are symmetric in (x, y) when the increment density `k` is even.  Pure
  re-indexing of a `tsum`: nothing of the boundary model enters (that the families are the preimages of the model's maps is
  `Props/C16.lean`).
-/
namespace Props.C16

/-- all points that reflect to `y`: `2m + y` and `2m − y` -/
def reflPre (p : ℤ × Bool) (y : ℝ) : ℝ := if p.2 then 2 * p.1 + y else 2 * p.1 - y

noncomputable def Krefl (k : ℝ → ℝ) (x y : ℝ) : ℝ := ∑' p : ℤ × Bool, k (reflPre p y - x)
noncomputable def Kper (k : ℝ → ℝ) (x y : ℝ) : ℝ := ∑' m : ℤ, k (m + y - x)

/-- label flip `(m, +) ↦ (−m, +)`, `(m, −) ↦ (m, −)`: it exchanges the preimages of `y` seen from `x` with those of `x`
    seen from `y` (`reflPre_flipE`) -/
def flipE : ℤ × Bool ≃ ℤ × Bool where
  toFun p := (if p.2 then -p.1 else p.1, p.2)
  invFun p := (if p.2 then -p.1 else p.1, p.2)
  left_inv p := by rcases p with ⟨m, b⟩; cases b <;> simp
  right_inv p := by rcases p with ⟨m, b⟩; cases b <;> simp

theorem reflPre_flipE (p : ℤ × Bool) (x y : ℝ) :
    reflPre (flipE p) y - x = if p.2 then -(reflPre p x - y) else reflPre p x - y := by
  rcases p with ⟨m, b⟩
  cases b
  · simp only [flipE, reflPre, Equiv.coe_fn_mk, Bool.false_eq_true, if_false]; ring
  · simp only [flipE, reflPre, Equiv.coe_fn_mk, if_true, Int.cast_neg]; ring

/-- the two preimage sums, in any codomain that has sums (`ℝ` here, `ℝ≥0∞` for the densities of `Props/C16.lean`) -/
theorem tsum_reflPre_symm {β : Type*} [AddCommMonoid β] [TopologicalSpace β] (k : ℝ → β)
    (hk : ∀ z, k (-z) = k z) (x y : ℝ) :
    ∑' p : ℤ × Bool, k (reflPre p y - x) = ∑' p : ℤ × Bool, k (reflPre p x - y) := by
  rw [← flipE.tsum_eq]
  refine tsum_congr fun p => ?_
  rw [reflPre_flipE]
  split
  · exact hk _
  · rfl

theorem tsum_intCast_add_symm {β : Type*} [AddCommMonoid β] [TopologicalSpace β] (k : ℝ → β)
    (hk : ∀ z, k (-z) = k z) (x y : ℝ) :
    ∑' m : ℤ, k (m + y - x) = ∑' m : ℤ, k (m + x - y) := by
  rw [← (Equiv.neg ℤ).tsum_eq]
  refine tsum_congr fun m => ?_
  rw [← hk, Equiv.neg_apply, Int.cast_neg]; congr 1; ring

/-- density of `reflect (x + ξ)` at `y` when `ξ` has an even density `k`: symmetric in (x, y) -/
theorem C16_fold_reflective_symmetric (k : ℝ → ℝ) (hk : ∀ z, k (-z) = k z) (x y : ℝ) :
    Krefl k x y = Krefl k y x :=
  tsum_reflPre_symm k hk x y

/-- density of `periodic (x + ξ)` at `y`: symmetric in (x, y) -/
theorem C16_fold_periodic_symmetric (k : ℝ → ℝ) (hk : ∀ z, k (-z) = k z) (x y : ℝ) :
    Kper k x y = Kper k y x :=
  tsum_intCast_add_symm k hk x y

end Props.C16
