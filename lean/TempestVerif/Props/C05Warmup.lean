import TempestVerif.Model.Pipeline
import TempestVerif.Lemmas.Pipeline
import TempestVerif.Props.C04
import TempestVerif.Props.C05
import TempestVerif.Props.C20
/-
  C05 (warm-up): while every stored batch has beta = 0 the pool weights at beta = 0 are uniform, so the ESS the
  reweighter sees is exactly the pool size N; hence the temperature STAYS at 0 while N < ess_ratio * n_particles (in ESS mode
  also at equality).  This ties C04 (uniform weights at beta = 0), C20 (ESS of uniform weights) and the branch tree of C05:
  first on the oracle of the pipeline model (`Model.Pipeline.oracleM`), then for either mode and any metric oracle whose ESS at 0
  is the pool's (`warm_pool`), and as an invariant of the stored history (`WarmH`: `k` batches at β = 0, all of one size) that
  the tape model and the closed loop share.
-/
namespace Props.C05
open Model.Weights Model.Reweight Model.Ess Model.Pipeline Props.C04

theorem maxOf_replicate (c : ℝ) (n : Nat) : maxOf c (List.replicate n c) = c := by
  induction n with
  | zero => simp [maxOf]
  | succ n ih =>
    simp only [maxOf, List.replicate_succ, List.foldl_cons] at *
    rw [ScReal.max_def, max_self]; exact ih

theorem oracle_of_replicate (h : List (Batch ℝ)) (β c : ℝ) (hN : 0 < nTotal h)
    (hrep : (logw h β true).1 = List.replicate (nTotal h) c) :
    oracleM h β = (List.replicate (nTotal h) 1, (nTotal h : ℝ), (nTotal h : ℝ)) := by
  obtain ⟨k, hk⟩ : ∃ k, nTotal h = k + 1 := ⟨nTotal h - 1, by omega⟩
  rw [hk, List.replicate_succ] at hrep
  have hw : (oracleM h β).1 = List.replicate (k + 1) 1 := by
    simp only [Lemmas.Pipeline.oracleM_fst_of_cons hrep, maxOf_replicate c k, ScReal.sub_def, sub_self, ScReal.exp_def,
      Real.exp_zero, List.map_cons, List.map_replicate, List.replicate_succ]
  rw [← Prod.mk.eta (p := oracleM h β), Lemmas.Pipeline.oracleM_snd, hw, hk,
    Props.C20.C20_ess_uniform (k + 1) (Nat.succ_pos k) 1 one_pos]

/-- the ESS oracle of the pipeline at beta = 0 over an all-beta-0 history is the pool size -/
theorem C05_warmup_ess (h : List (Batch ℝ)) (hwf : WF h) (h0 : ∀ b ∈ h, b.beta = 0) :
    (oracleM h 0).2.1 = (nTotal h : ℝ) := by
  have hrep : (logw h 0 true).1 = List.replicate (nTotal h) (-Real.log (nTotal h : ℝ)) :=
    List.eq_replicate_iff.mpr
      ⟨by rw [C04_normalised h hwf, List.length_map, length_flatLogl], C04_uniform_value h hwf h0⟩
  rw [oracle_of_replicate h 0 _ (nTotal_pos h hwf) hrep]

theorem oracle_equal_logl (h : List (Batch ℝ)) (hwf : WF h) (l : ℝ) (hl : ∀ x ∈ flatLogl h, x = l) (β : ℝ) :
    oracleM h β = (List.replicate (nTotal h) 1, (nTotal h : ℝ), (nTotal h : ℝ)) := by
  refine oracle_of_replicate h β (specNorm h β l) (nTotal_pos h hwf) ?_
  rw [C04_normalised h hwf, List.eq_replicate_iff]
  exact ⟨by rw [List.length_map, length_flatLogl], List.forall_mem_map.mpr fun x hx => by rw [hl x hx]⟩

/-- C05 (warm-up): in ESS mode, with every stored batch at beta = 0 and the pool no larger than the ESS target,
    the reweighter stays at beta = 0 (branch `essStay`) and records ESS = pool size -/
theorem C05_warmup_stays (h : List (Batch ℝ)) (hwf : WF h) (h0 : ∀ b ∈ h, b.beta = 0)
    (c : Model.Reweight.Cfg ℝ) (hvv : c.vv = none) (hN : (nTotal h : ℝ) ≤ c.target) :
    let r := Model.Reweight.run c false (oracleM h) (oracleZ h) isFin 0
    r.beta = 0 ∧ r.ess = (nTotal h : ℝ) ∧ r.branch = Branch.essStay := by
  intro r
  have hess := C05_warmup_ess h hwf h0
  rcases runEss_cases (oracleM h) isFin c.target c.tolE c.tolB c.fuel 0 with ⟨_, e⟩ | ⟨hlt, _, _⟩ | ⟨hlt, _, _⟩
  · have hr : r = _ := (run_ess c (oracleM h) (oracleZ h) isFin 0 hvv).trans (e _)
    rw [hr]; exact ⟨rfl, hess, rfl⟩
  · exact absurd hN (not_le.mpr (hess ▸ hlt))
  · exact absurd hN (not_le.mpr (hess ▸ hlt))

/-- … and it cannot stay for ever: a pool larger than the target is never in the `essStay` branch at beta = 0 -/
theorem C05_warmup_leaves_stay_branch (h : List (Batch ℝ)) (hwf : WF h) (h0 : ∀ b ∈ h, b.beta = 0)
    (c : Model.Reweight.Cfg ℝ) (hvv : c.vv = none) (hN : c.target < (nTotal h : ℝ)) :
    (Model.Reweight.run c false (oracleM h) (oracleZ h) isFin 0).branch ≠ Branch.essStay := by
  have hess := C05_warmup_ess h hwf h0
  rw [run_ess c (oracleM h) (oracleZ h) isFin 0 hvv]
  rcases runEss_cases (oracleM h) isFin c.target c.tolE c.tolB c.fuel 0 with ⟨hle, _⟩ | ⟨_, _, e⟩ | ⟨_, _, e⟩
  · exact absurd (hess ▸ hle) (not_le.mpr hN)
  · rw [e]; exact (by decide : Branch.essUpper ≠ Branch.essStay)
  · rw [e]; exact (by decide : Branch.essBisect ≠ Branch.essStay)

/-- **The reweighting step of a run that is still sampling the prior stays at β = 0**, either mode, for every metric oracle `M`
    whose ESS at β = 0 is the pool's (`oracleM`, the closed loop's `oracleMV`): on an empty
    history β = 0 is the first iteration; otherwise the pool's ESS at β = 0 is its size, and while that is below the target
    (ESS mode: not above it) `run` returns β_prev = 0. -/
theorem warm_pool {Wt : Type} (c : Model.Reweight.Cfg ℝ) (h : List (Batch ℝ)) (M : ℝ → Wt × ℝ × ℝ) (Z : ℝ → ℝ) (fin : ℝ → Bool)
    (hM : (M 0).2.1 = (oracleM h 0).2.1) (h0 : ∀ b ∈ h, b.beta = 0) (hn : ∀ b ∈ h, 1 ≤ b.logl.length)
    (hpool : h ≠ [] → (nTotal h : ℝ) < c.target ∨ (c.vv = none ∧ (nTotal h : ℝ) ≤ c.target)) :
    (Model.Reweight.run c h.isEmpty M Z fin 0).beta = 0 := by
  by_cases he : h = []
  · rw [he]; exact (C05_first_iteration c M Z fin 0).1
  · rw [List.isEmpty_eq_false_iff.mpr he]
    exact run_stays c M Z fin 0 zero_le_one (by rw [hM, C05_warmup_ess h ⟨he, hn⟩ h0]; exact hpool he)

/-- `k` warm-up batches (β = 0) of `n` particles each -/
def WarmH (h : List (Batch ℝ)) (n k : Nat) : Prop := h.length = k ∧ ∀ b ∈ h, b.beta = 0 ∧ b.logl.length = n

theorem WarmH.snoc {h : List (Batch ℝ)} {n k : Nat} (hw : WarmH h n k) {b : Batch ℝ} (hb : b.beta = 0) (hl : b.logl.length = n) :
    WarmH (h ++ [b]) n (k + 1) :=
  ⟨by rw [List.length_append, hw.1]; rfl, fun x hx =>
    (List.mem_append.mp hx).elim (hw.2 x) fun hx => List.mem_singleton.mp hx ▸ ⟨hb, hl⟩⟩

theorem WarmH.stays {Wt : Type} {h : List (Batch ℝ)} {n k : Nat} (hw : WarmH h n k) (hn : 1 ≤ n) (c : Model.Reweight.Cfg ℝ)
    (M : ℝ → Wt × ℝ × ℝ) (Z : ℝ → ℝ) (fin : ℝ → Bool) (hM : (M 0).2.1 = (oracleM h 0).2.1)
    (hsz : ((k * n : Nat) : ℝ) < c.target ∨ (c.vv = none ∧ ((k * n : Nat) : ℝ) ≤ c.target)) :
    (Model.Reweight.run c h.isEmpty M Z fin 0).beta = 0 :=
  warm_pool c h M Z fin hM (fun b hb => (hw.2 b hb).1) (fun b hb => (hw.2 b hb).2 ▸ hn) fun _ => by
    rw [nTotal_eq_length_mul h n fun b hb => (hw.2 b hb).2, hw.1]; exact hsz

/-- non-vacuity: two warm-up batches of sizes 2 and 1, target 4: the pool (3) is below the target -/
example : (oracleM ([⟨0, 0, [-1, -2]⟩, ⟨0, -1 / 2, [-3 / 10]⟩] : List (Batch ℝ)) 0).2.1 = 3 := by
  have hwf : WF ([⟨0, 0, [-1, -2]⟩, ⟨0, -1 / 2, [-3 / 10]⟩] : List (Batch ℝ)) := by
    refine ⟨by simp, ?_⟩
    intro b hb; simp at hb; rcases hb with rfl | rfl <;> simp
  have := C05_warmup_ess _ hwf (by intro b hb; simp at hb; rcases hb with rfl | rfl <;> rfl)
  simpa [nTotal] using this

end Props.C05
