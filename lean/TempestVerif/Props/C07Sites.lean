import TempestVerif.Gen.Sites
/-
  C07 (clause audit) — CLOSED WORLD of record movement.  `Gen.Sites` is regenerated from /repo's source on every run by
  `translate/g5_sites.py`; the `expected…` tables below are the sites, gates and wiring that `Model.RecSM`
  (`Model/RecSM.lean`, `Model/RecSM2.lean`) and `Model.LogLike` model (reviewed by hand against /repo @ 5a51476).
  Every theorem here is an OBLIGATION decided on the generated tables: a new writer of a record key anywhere in the package, a new fancy index on a record array, a change
  of a blob gate, of the argument order between `Mutator.run` and the runner, of the statement skeleton of one MCMC pass
  or of `_log_like` makes the corresponding `rfl` fail — "no movement site outside the model" is checked, not assumed.
-/
namespace Props.C07Sites

def expectedRecordWriters : List (String × String) :=
  [("steps.mutate:Mutator.run", "blobs"),
   ("steps.mutate:Mutator.run", "logl"),
   ("steps.mutate:Mutator.run", "u"),
   ("steps.mutate:Mutator.run", "x"),
   ("steps.resample:Resampler.run", "blobs"),
   ("steps.resample:Resampler.run", "logl"),
   ("steps.resample:Resampler.run", "u"),
   ("steps.resample:Resampler.run", "x")]

/-- OBLIGATION: only `Resampler.run` and `Mutator.run` write record keys of the current state -/
theorem C07_sites_recordWriters : Gen.Sites.recordWriters = expectedRecordWriters := by rfl

def expectedWriterCalls : List (String × String) :=
  [("steps.mutate:Mutator.run", "update_current:u=u,x=x,logl=logl,blobs=blobs,assignments=assignments,calls=calls,steps=1,acceptance=1.0,efficiency=1.0"),
   ("steps.mutate:Mutator.run", "set_current:x=x"),
   ("steps.mutate:Mutator.run", "set_current:u=u"),
   ("steps.mutate:Mutator.run", "set_current:logl=logl"),
   ("steps.mutate:Mutator.run", "set_current:blobs=blobs"),
   ("steps.mutate:Mutator.run", "set_current:logz=logz"),
   ("steps.mutate:Mutator.run", "set_current:assignments=mode_labels"),
   ("steps.mutate:Mutator.run", "update_current:u=u,x=x,logl=logl,efficiency=efficiency,acceptance=acceptance,steps=steps"),
   ("steps.mutate:Mutator.run", "set_current:blobs=blobs.copy()"),
   ("steps.mutate:Mutator.run", "set_current:calls=calls"),
   ("steps.resample:Resampler.run", "set_current:assignments=np.zeros(self.n_particles, dtype=int)"),
   ("steps.resample:Resampler.run", "update_current:u=u_resampled,x=x[idx_resampled],logl=logl[idx_resampled],assignments=self.clusterer.predict(u_resampled) if s"),
   ("steps.resample:Resampler.run", "set_current:blobs=blobs[idx_resampled]")]

/-- OBLIGATION: every writing call of `Resampler.run` / `Mutator.run`, in source order, stores exactly these keys from exactly
    these expressions: u, x, logl (and blobs under its gate) are always written TOGETHER, each from the array of its own name -/
theorem C07_sites_writerCalls : Gen.Sites.writerCalls = expectedWriterCalls := by rfl

def expectedRecordReaders : List (String × String) :=
  [("core:SamplerCore._update_progress_bar", "get_current:*"),
   ("core:SamplerCore.compute_posterior", "get_current:blobs"),
   ("core:SamplerCore.compute_posterior", "get_history:blobs"),
   ("core:SamplerCore.compute_posterior", "get_history:logl"),
   ("core:SamplerCore.compute_posterior", "get_history:u"),
   ("core:SamplerCore.compute_posterior", "get_history:x"),
   ("core:SamplerCore.execute_iteration", "get_current:*"),
   ("state_manager:StateManager.compute_logw_and_logz", "get_history:logl"),
   ("state_manager:StateManager.compute_results", "get_history:*"),
   ("steps.mutate:Mutator.have_blobs", "get_current:blobs"),
   ("steps.mutate:Mutator.run", "get_current:blobs"),
   ("steps.mutate:Mutator.run", "get_current:logl"),
   ("steps.mutate:Mutator.run", "get_current:u"),
   ("steps.mutate:Mutator.run", "get_current:x"),
   ("steps.resample:Resampler.have_blobs", "get_current:blobs"),
   ("steps.resample:Resampler.run", "get_history:blobs"),
   ("steps.resample:Resampler.run", "get_history:logl"),
   ("steps.resample:Resampler.run", "get_history:u"),
   ("steps.resample:Resampler.run", "get_history:x"),
   ("steps.reweight:Reweighter._compute_metric_and_weights", "get_history:u"),
   ("steps.train:Trainer.run", "get_history:u")]

/-- OBLIGATION: who reads record keys (readers get copies: `get_current` / `get_history` copy) -/
theorem C07_sites_recordReaders : Gen.Sites.recordReaders = expectedRecordReaders := by rfl

def expectedStoreInternals : List (String × String) :=
  [("state_manager:StateManager.__init__", "_current:rebind"),
   ("state_manager:StateManager.__init__", "_history:rebind"),
   ("state_manager:StateManager.commit_current_to_history", "_history:append"),
   ("state_manager:StateManager.set_current", "_current:setitem"),
   ("state_manager:StateManager.update_current", "_current:setitem"),
   ("state_manager:StateManager.update_from_dict", "_current:update"),
   ("state_manager:StateManager.update_from_dict", "_history:update"),
   ("state_manager:StateManager.compute_logw_and_logz", "_history:mention"),
   ("state_manager:StateManager.compute_results", "_history:mention"),
   ("state_manager:StateManager.get_current", "_current:mention"),
   ("state_manager:StateManager.get_history", "_history:mention"),
   ("state_manager:StateManager.get_history_length", "_history:mention"),
   ("state_manager:StateManager.get_last_history", "_history:mention"),
   ("state_manager:StateManager.save_state", "_current:mention"),
   ("state_manager:StateManager.save_state", "_history:mention"),
   ("state_manager:StateManager.to_dict", "_current:mention"),
   ("state_manager:StateManager.to_dict", "_history:mention")]

/-- OBLIGATION: only `StateManager`'s own methods touch `_current` / `_history`; the writers are `__init__`,
    `set_current`, `update_current`, `commit_current_to_history` (append) and `update_from_dict` -/
theorem C07_sites_storeInternals : Gen.Sites.storeInternals = expectedStoreInternals := by rfl

def expectedBlobGates : List (String × String) :=
  [("Resampler.have_blobs", "property:self._have_blobs or self.state.get_current('blobs') is not None"),
   ("Resampler._have_blobs", "have_blobs"),
   ("Mutator.have_blobs", "property:self._have_blobs or self.state.get_current('blobs') is not None"),
   ("Mutator._have_blobs", "have_blobs"),
   ("core:Mutator(have_blobs=)", "config.blobs_dtype is not None"),
   ("core:Resampler(have_blobs=)", "config.blobs_dtype is not None"),
   ("compute_posterior:fetch_blobs_if", "self.config.blobs_dtype is not None or self.state.get_current('blobs') is not None"),
   ("compute_posterior:if", "return_blobs and blobs is not None"),
   ("compute_posterior:if", "blobs is not None"),
   ("Resampler.run:self.state.set_current('blobs', blobs[idx_resampled])", "self.have_blobs"),
   ("Mutator.run:blobs[infinite_idx] = blobs[idx]", "self.have_blobs"),
   ("Mutator.run:self.state.set_current('blobs', blobs)", "self.have_blobs"),
   ("Mutator.run:self.state.set_current('blobs', blobs.copy())", "self.have_blobs"),
   ("BaseMCMCRunner.run:self.blobs[mask_accept] = blobs_prime[mask_accept]", "self.blobs is not None")]

/-- OBLIGATION: the blob gates are the ones of `Model.RecSM` (`Cfg.gate` with `stateGate = true`; runner: `self.blobs is not None`) -/
theorem C07_sites_blobGates : Gen.Sites.blobGates = expectedBlobGates := by rfl

def expectedProposeReturns : List (String × String) :=
  [("RWMRunner._propose", "apply_boundary_conditions(proposal, self.periodic, self.reflective)"),
   ("TPCNRunner._propose", "apply_boundary_conditions(proposal, self.periodic, self.reflective)")]

/-- OBLIGATION: both kernels return `apply_boundary_conditions(proposal, self.periodic, self.reflective)` -/
theorem C07_sites_proposeReturns : Gen.Sites.proposeReturns = expectedProposeReturns := by rfl

def expectedWiring : List (String × String) :=
  [("BaseMCMCRunner.__init__:params", "u,x,logl,blobs,assignments"),
   ("BaseMCMCRunner.__init__:self.blobs", "blobs.copy() if blobs is not None else None"),
   ("BaseMCMCRunner.__init__:self.logl", "logl.copy()"),
   ("BaseMCMCRunner.__init__:self.u", "u.copy()"),
   ("BaseMCMCRunner.__init__:self.x", "x.copy()"),
   ("BaseMCMCRunner._evaluate_likelihood:if", "self.blobs is not None: logl_prime, blobs_prime = self.log_likelihood(x_prime) else: logl_prime, _ = self.log_likelihood(x_prime) ; blobs_prime = None"),
   ("BaseMCMCRunner._evaluate_likelihood:return", "(logl_prime, blobs_prime)"),
   ("BaseMCMCRunner.run:return", "self.u,self.x,self.logl,self.blobs"),
   ("Mutator.run->parallel_mcmc", "pos: kw:u=self.state.get_current('u'),x=self.state.get_current('x'),logl=self.state.get_current('logl'),blobs=blobs,assignments=mode_index,log_likelihood=self.log_likelihood,prior_transform=self.prior_transform,periodic=self.periodic,reflective=self.reflective"),
   ("Mutator.run<-parallel_mcmc", "u,x,logl,blobs"),
   ("parallel_mcmc->parallel_random_walk_metropolis", "pos:u,x,logl,blobs,assignments"),
   ("parallel_mcmc->parallel_t_preconditioned_crank_nicolson", "pos:u,x,logl,blobs,assignments"),
   ("parallel_mcmc:params", "u,x,logl,blobs,assignments"),
   ("parallel_random_walk_metropolis->RWMRunner", "pos:u,x,logl,blobs,assignments"),
   ("parallel_random_walk_metropolis:params", "u,x,logl,blobs,assignments"),
   ("parallel_t_preconditioned_crank_nicolson->TPCNRunner", "pos:u,x,logl,blobs,assignments"),
   ("parallel_t_preconditioned_crank_nicolson:params", "u,x,logl,blobs,assignments")]

/-- OBLIGATION: u, x, logl, blobs travel in this order, by position, from `Mutator.run` to the runner and back; the runner works on copies -/
theorem C07_sites_wiring : Gen.Sites.wiring = expectedWiring := by rfl

def expectedFancySites : List (String × String × String × String) :=
  [("Resampler.run", "u", "idx_resampled", "load"),
   ("Resampler.run", "x", "idx_resampled", "load"),
   ("Resampler.run", "logl", "idx_resampled", "load"),
   ("Resampler.run", "blobs", "idx_resampled", "load"),
   ("Mutator.run", "u", "i", "load"),
   ("Mutator.run", "u", "i", "load"),
   ("Mutator.run", "x", "infinite_idx", "store"),
   ("Mutator.run", "x", "idx", "load"),
   ("Mutator.run", "u", "infinite_idx", "store"),
   ("Mutator.run", "u", "idx", "load"),
   ("Mutator.run", "logl", "infinite_idx", "store"),
   ("Mutator.run", "logl", "idx", "load"),
   ("Mutator.run", "blobs", "infinite_idx", "store"),
   ("Mutator.run", "blobs", "idx", "load"),
   ("BaseMCMCRunner.run", "u_prime", "k", "store"),
   ("BaseMCMCRunner.run", "u_prime", "~in_bounds", "store"),
   ("BaseMCMCRunner.run", "self.u", "~in_bounds", "load"),
   ("BaseMCMCRunner.run", "alpha", "~in_bounds", "store"),
   ("BaseMCMCRunner.run", "self.u", "mask_accept", "store"),
   ("BaseMCMCRunner.run", "u_prime", "mask_accept", "load"),
   ("BaseMCMCRunner.run", "self.x", "mask_accept", "store"),
   ("BaseMCMCRunner.run", "x_prime", "mask_accept", "load"),
   ("BaseMCMCRunner.run", "self.logl", "mask_accept", "store"),
   ("BaseMCMCRunner.run", "logl_prime", "mask_accept", "load"),
   ("BaseMCMCRunner.run", "self.blobs", "mask_accept", "store"),
   ("BaseMCMCRunner.run", "blobs_prime", "mask_accept", "load"),
   ("BaseMCMCRunner.run", "alpha", "mask_cluster", "load"),
   ("SamplerCore.compute_posterior", "u", "idx", "load"),
   ("SamplerCore.compute_posterior", "x", "idx", "load"),
   ("SamplerCore.compute_posterior", "logl", "idx", "load"),
   ("SamplerCore.compute_posterior", "logw", "idx", "load"),
   ("SamplerCore.compute_posterior", "blobs", "idx", "load"),
   ("SamplerCore.compute_posterior", "u", "idx", "load"),
   ("SamplerCore.compute_posterior", "x", "idx", "load"),
   ("SamplerCore.compute_posterior", "logl", "idx", "load"),
   ("SamplerCore.compute_posterior", "logw", "idx", "load"),
   ("SamplerCore.compute_posterior", "blobs", "idx", "load"),
   ("SamplerCore._log_like", "rows", "i", "store")]

/-- OBLIGATION: every fancy index on a record array in the array-handling functions: one index name per site group -/
theorem C07_sites_fancySites : Gen.Sites.fancySites = expectedFancySites := by rfl

def expectedMcmcBody : List String :=
  ["u_prime = np.empty_like(self.u)",
   "for: u_prime[k] = self._propose(k)",
   "in_bounds = np.atleast_1d(check_bounds(u_prime, self.periodic, self.reflective))",
   "u_prime[~in_bounds] = self.u[~in_bounds]",
   "x_prime = np.array([self.prior_transform(u_p) for u_p in u_prime])",
   "logl_prime, blobs_prime = self._evaluate_likelihood(x_prime)",
   "alpha = self._compute_acceptance_factor(u_prime, logl_prime)",
   "alpha = np.exp(self.beta * (logl_prime - self.logl) + alpha)",
   "alpha = np.minimum(1.0, alpha)",
   "alpha = np.nan_to_num(alpha, nan=0.0)",
   "alpha[~in_bounds] = 0.0",
   "u_rand = np.random.rand(self.n_walkers)",
   "mask_accept = u_rand < alpha",
   "self.u[mask_accept] = u_prime[mask_accept]",
   "self.x[mask_accept] = x_prime[mask_accept]",
   "self.logl[mask_accept] = logl_prime[mask_accept]",
   "if self.blobs is not None: self.blobs[mask_accept] = blobs_prime[mask_accept]",
   "current_acceptance = mask_accept.mean()"]

/-- OBLIGATION: the statement skeleton of one pass of `BaseMCMCRunner.run`, in source order -/
theorem C07_sites_mcmcBody : Gen.Sites.mcmcBody = expectedMcmcBody := by rfl

def expectedIterationReturn : List String :=
  ["self.state.get_current()"]

/-- OBLIGATION: `execute_iteration` (= `Sampler.sample`) returns `get_current()` -/
theorem C07_sites_iterationReturn : Gen.Sites.iterationReturn = expectedIterationReturn := by rfl

def expectedLogLikeShape : List String :=
  ["if self.config.vectorize",
   "  return (self.config.log_likelihood(x), None)",
   "if self.config.pool is not None",
   "  results = list(self._get_distribute_func()(self.config.log_likelihood, x))",
   "else",
   "  results = list(map(self.config.log_likelihood, x))",
   "if results and isinstance(results[0], (tuple, list)) and (len(results[0]) > 1)",
   "  blob = [item[1:] for item in results]",
   "  logl = np.array([float(item[0]) for item in results])",
   "  if self.config.blobs_dtype is not None",
   "  else",
   "    try",
   "    except ValueError",
   "    if dt.kind in 'US'",
   "  try",
   "    blob = np.array(blob, dtype=dt)",
   "  except ValueError",
   "    if not all((len(b) == 1 for b in blob))",
   "      raise",
   "    rows = np.empty(len(blob), dtype=dt)",
   "    for (i, b) in enumerate(blob): rows[i] = b[0]",
   "    blob = rows",
   "  if len(shape)",
   "    if len(axes)",
   "      blob = np.squeeze(blob, tuple(axes))",
   "  return (logl, blob)",
   "else",
   "  logl = np.array([float(value) for value in results])",
   "  return (logl, None)"]

/-- OBLIGATION: the branch skeleton of `_log_like` -/
theorem C07_sites_logLikeShape : Gen.Sites.logLikeShape = expectedLogLikeShape := by rfl

def expectedWarmupBody : List String :=
  ["u = np.random.rand(self.n_particles, self.n_dim)",
   "x = np.array([self.prior_transform(u[i]) for i in range(self.n_particles)])",
   "logl, blobs = self.log_likelihood(x)",
   "n_drawn = self.n_particles",
   "while np.all(np.isinf(logl))",
   "  if n_drawn >= 1000 * self.n_particles",
   "    raise ValueError",
   "  u = np.random.rand(self.n_particles, self.n_dim)",
   "  x = np.array([self.prior_transform(u[i]) for i in range(self.n_particles)])",
   "  logl, blobs = self.log_likelihood(x)",
   "  n_drawn += self.n_particles",
   "assignments = np.zeros(self.n_particles, dtype=int)",
   "calls = self.state.get_current('calls') + n_drawn",
   "self.state.update_current(…)",
   "inf_logl_mask = np.isinf(logl)",
   "if np.any(inf_logl_mask) or n_drawn > self.n_particles",
   "  all_idx = np.arange(len(x))",
   "  infinite_idx = all_idx[inf_logl_mask]",
   "  finite_idx = all_idx[~inf_logl_mask]",
   "  if len(infinite_idx) > 0",
   "    idx = np.random.choice(finite_idx, size=len(infinite_idx), replace=True)",
   "    x[infinite_idx] = x[idx]",
   "    u[infinite_idx] = u[idx]",
   "    logl[infinite_idx] = logl[idx]",
   "    if self.have_blobs",
   "      blobs[infinite_idx] = blobs[idx]",
   "    self.state.set_current('x', x)",
   "    self.state.set_current('u', u)",
   "    self.state.set_current('logl', logl)",
   "    if self.have_blobs",
   "      self.state.set_current('blobs', blobs)",
   "  n_finite = len(finite_idx)",
   "  n_total = n_drawn",
   "  logz = np.log(n_finite / n_total)",
   "  self.state.set_current('logz', logz)",
   "return"]

/-- OBLIGATION: the statement skeleton of `Mutator.run`'s beta = 0 branch (/repo 959029e) is the one
    `Model.RecSM.warmupR` (`drawLoop`, then `warmupKept`) mirrors: redraw while ALL draws are infinite, cap at
    1000·n_particles (ValueError), one `update_current` of the final batch, the copy guarded by
    `len(infinite_idx) > 0`, the blob moves under `self.have_blobs` -/
theorem C07_sites_warmupBody : Gen.Sites.warmupBody = expectedWarmupBody := by rfl

end Props.C07Sites
