import TempestVerif.Model.RunEntry
import TempestVerif.Props.C12
import TempestVerif.Props.C05
import TempestVerif.Props.C10World
/-
  C12 — the run() postconditions on the CLOSED-LOOP model (`Model.ClosedLoop`, nothing read from a tape) and
  on the whole `run_sampling` with its three-way entry (`Model.RunEntry`, /repo aeb0399).
-/
namespace Props.C12
open Model.ClosedLoop Model.RunEntry Model.Weights Model.Posterior
open Props.C10 (WFC)
open Model.Run (notTermination_eq_false_iff notTermination_false notTermination_nil)
open Lemmas.ClosedLoop

variable {P MS TS G : Type}

/-- the vector `compute_logw_and_logz(1.0)[0]` of a state: read by `_not_termination` AND by `compute_posterior` -/
noncomputable def lw1 (s : CState ℝ P TS G) : List ℝ := (logw (batchesOf s.hist) Sc.one true).1

theorem posteriorArrs_lw (s : CState ℝ P TS G) : (posteriorArrs s).lw = lw1 s := rfl

/-! ### invariants of the stored history: non-empty batches, records and log-likelihoods of one length, β ≤ 1 -/

/-- every stored batch has as many records (`u`, `x`, `blobs`) as log-likelihoods -/
def XLen (s : CState ℝ P TS G) : Prop := ∀ b ∈ s.hist, b.pts.length = b.logl.length

def BInv (s : CState ℝ P TS G) : Prop := s.hist = [] ∨ s.beta ≤ 1

structure Good (s : CState ℝ P TS G) : Prop where
  wfc : WFC s
  xlen : XLen s
  binv : BInv s

theorem good_of_nil {s : CState ℝ P TS G} (h : s.hist = []) : Good s :=
  ⟨(by intro b hb; rw [h] at hb; cases hb), (by intro b hb; rw [h] at hb; cases hb), Or.inl h⟩

theorem reweightStep_beta (W : World ℝ P MS TS G) (cfg : CCfg ℝ) (s : CState ℝ P TS G) :
    (s.hist = [] → (reweightStep W cfg s).beta = 0) ∧
    (s.hist ≠ [] → s.beta ≤ 1 → s.beta ≤ (reweightStep W cfg s).beta ∧ (reweightStep W cfg s).beta ≤ 1) := by
  rw [reweightStep_eq]
  constructor
  · intro h
    rw [h]; exact ScReal.zero_def
  · intro h h1
    rw [List.isEmpty_eq_false_iff.mpr h]
    exact Props.C05.C05_run_range _ _ _ _ _ h1

theorem iterate_good (W : World ℝ P MS TS G) (cfg : CCfg ℝ) (s s1 : CState ℝ P TS G) (o : CIterOut ℝ P)
    (g : Good s) (h : Model.ClosedLoop.iterate W cfg s = some (s1, o)) :
    Good s1 ∧ (s.hist ≠ [] → s.beta ≤ s1.beta) ∧ ∃ b, s1.hist = s.hist ++ [b] := by
  have f := iterated W cfg s s1 o h
  obtain ⟨r0, r1⟩ := reweightStep_beta W cfg s
  have hle : s1.beta ≤ 1 ∧ (s.hist ≠ [] → s.beta ≤ s1.beta) := by
    rw [f.sbeta.trans f.beta]
    by_cases he : s.hist = []
    · rw [r0 he]; exact ⟨zero_le_one, fun hne => absurd he hne⟩
    · exact ⟨(r1 he (g.binv.resolve_left he)).2, fun _ => (r1 he (g.binv.resolve_left he)).1⟩
  exact ⟨⟨iterate_forall_hist W cfg s s1 o _ (fun _ h1 _ => h1) g.wfc h,
    iterate_forall_hist W cfg s s1 o _ (fun _ _ h2 => h2) g.xlen h, Or.inr hle.1⟩, hle.2, _, f.hist⟩

theorem runLoop_good (W : World ℝ P MS TS G) (cfg : CCfg ℝ) (fuel : Nat) (s sf : CState ℝ P TS G)
    (tr : List (CState ℝ P TS G)) (os : List (CIterOut ℝ P)) (g : Good s) (h : runLoop W cfg fuel s = some (sf, tr, os)) :
    Good sf ∧ (∀ t ∈ tr, Good t) ∧ s.hist <+: sf.hist ∧ sf.hist.length = s.hist.length + os.length ∧
      (s.hist ≠ [] → s.beta ≤ sf.beta) := by
  -- after `k` iterations: good, `k` batches appended, and the temperature not below the start's once there is a history
  obtain ⟨-, -, tl, inv, -⟩ := runLoop_at W cfg fuel s sf tr os h
    (fun k a => Good a ∧ s.hist <+: a.hist ∧ a.hist.length = s.hist.length + k ∧ (s.hist ≠ [] → a.hist ≠ [] ∧ s.beta ≤ a.beta))
    ⟨g, List.prefix_refl _, rfl, fun hne => ⟨hne, le_rfl⟩⟩
    fun k a a' o _ ⟨ga, hp, hl, hb⟩ hi => by
      obtain ⟨g1, hmono, b, hh⟩ := iterate_good W cfg a a' o ga hi
      refine ⟨g1, hp.trans (hh ▸ List.prefix_append _ _), ?_, fun hne => ?_⟩
      · rw [hh, List.length_append, hl, List.length_singleton, Nat.add_assoc]
      · exact ⟨hh ▸ List.append_ne_nil_of_right_ne_nil _ (List.cons_ne_nil _ _), (hb hne).2.trans (hmono (hb hne).1)⟩
  obtain ⟨gf, hp, hl, hb⟩ := inv _ sf tl
  exact ⟨gf, fun t ht => by obtain ⟨k, hk⟩ := List.getElem?_of_mem ht; exact (inv k t hk).1, hp, hl, fun hne => (hb hne).2⟩

/-! ### the stored history as `compute_posterior` and the guard see it -/

theorem lw1_nil_of_hist_nil (s : CState ℝ P TS G) (h : s.hist = []) : lw1 s = [] := by
  simp [lw1, h, batchesOf]

/-- on a good non-empty history the four arrays `compute_posterior` starts from have ONE length: the assumption
    "equal-length history arrays" of `C12_posterior_contract`, discharged by the run invariant -/
theorem posteriorArrs_lengths (s : CState ℝ P TS G) (g : Good s) (hne : s.hist ≠ []) :
    (posteriorArrs s).lw ≠ [] ∧ (posteriorArrs s).x.length = (posteriorArrs s).lw.length ∧
    (posteriorArrs s).l.length = (posteriorArrs s).lw.length ∧ (posteriorArrs s).b.length = (posteriorArrs s).lw.length := by
  have hwf := Props.C10.WF_of_WFC s g.wfc hne
  have hl : (posteriorArrs s).lw.length = nTotal (batchesOf s.hist) := by
    rw [posteriorArrs_eq, ScReal.one_def]; exact Props.C04.C04_length _ hwf 1 true
  have hp := Props.C10.length_poolOf s.hist g.xlen
  have hN := Props.C04.nTotal_pos _ hwf
  refine ⟨?_, ?_, ?_, ?_⟩
  · intro h0; rw [h0] at hl; simp at hl; omega
  · rw [hl]; exact hp
  · rw [hl, posteriorArrs_eq]; exact length_flatLogl _
  · rw [hl]; exact hp

theorem contGuard_false_of_ess (cfg : CCfg ℝ) (s : CState ℝ P TS G) (hb : 1 - s.beta < cfg.tolTerm) (w0 : List ℝ)
    (hw : weights0 (lw1 s) = some w0) (he : cfg.nTotal ≤ Model.Ess.ess w0) : contGuard cfg s = false :=
  (contGuard_eq cfg s).trans ((notTermination_eq_false_iff _ _ _ _).2 ⟨hb, w0, hw, he⟩)

/-! ### checkpoints, the three-way entry, the whole `run_sampling` -/

def GoodK (k : Ckpt ℝ P) : Prop :=
  (∀ b ∈ k.hist, 1 ≤ b.logl.length ∧ b.pts.length = b.logl.length) ∧ (k.hist = [] ∨ k.beta ≤ 1)

theorem goodK_checkpoint (s : CState ℝ P TS G) (g : Good s) : GoodK (checkpoint s) :=
  ⟨fun b hb => ⟨g.wfc b hb, g.xlen b hb⟩, g.binv⟩

theorem good_restore (k : Ckpt ℝ P) (hk : GoodK k) (ts : TS) (g : G) : Good (restore k ts g : CState ℝ P TS G) :=
  ⟨fun b hb => (hk.1 b hb).1, fun b hb => (hk.1 b hb).2, hk.2⟩

/-- `load_state(save_state())` gives back history and current values (the clusterer is the receiver's) -/
theorem restore_checkpoint (s : CState ℝ P TS G) : restore (checkpoint s) s.ts s.g = s := rfl

structure GoodCore (c : Core ℝ P TS G) : Prop where
  good : Good c.st
  started : c.st.hist ≠ [] → c.started = true

theorem goodCore_new (ts : TS) (g : G) : GoodCore (newCore ts g : Core ℝ P TS G) :=
  ⟨good_of_nil rfl, fun h => absurd rfl h⟩

theorem goodCore_load (c : Core ℝ P TS G) (f : CkFile ℝ P G) (hk : GoodK f.sm) : GoodCore (loadCore c f) :=
  ⟨good_restore _ hk _ _, fun _ => rfl⟩

theorem prologue_resume (reseed : G → G) (c : Core ℝ P TS G) (nT : Nat) (f : CkFile ℝ P G) :
    prologue reseed c ⟨nT, some f⟩ = { loadCore c f with t0 := f.sm.iter, nTotal := some nT } := rfl

theorem prologue_continue (reseed : G → G) (c : Core ℝ P TS G) (nT : Nat) (h : c.st.hist ≠ []) :
    prologue reseed c ⟨nT, none⟩ = { c with t0 := c.st.iter, nTotal := some nT } := by
  have hb : entryBranch false c.st.hist.length = Entry.continue_ := by simp [entryBranch, List.length_pos_iff.2 h]
  simp only [prologue, hb]

theorem prologue_fresh (reseed : G → G) (c : Core ℝ P TS G) (nT : Nat) (h : c.st.hist = []) :
    prologue reseed c ⟨nT, none⟩ = { c with st := initFresh reseed c.st, started := true, t0 := 0, nTotal := some nT } := by
  have hb : entryBranch false c.st.hist.length = Entry.fresh := by simp [entryBranch, h]
  simp only [prologue, hb]

theorem prologue_good (reseed : G → G) (c : Core ℝ P TS G) (call : Call ℝ P G) (gc : GoodCore c)
    (hf : ∀ f, call.resume = some f → GoodK f.sm) :
    GoodCore (prologue reseed c call) ∧ (prologue reseed c call).started = true ∧
    (prologue reseed c call).nTotal = some call.nTotal := by
  refine ⟨?_, ?_, rfl⟩ <;> obtain ⟨nT, _ | f⟩ := call
  · by_cases hne : c.st.hist = []
    · rw [prologue_fresh reseed c nT hne]; exact ⟨good_of_nil hne, fun _ => rfl⟩
    · rw [prologue_continue reseed c nT hne]; exact ⟨gc.good, gc.started⟩
  · exact ⟨good_restore _ (hf f rfl) _ _, fun _ => rfl⟩
  · by_cases hne : c.st.hist = []
    · rw [prologue_fresh reseed c nT hne]
    · rw [prologue_continue reseed c nT hne]; exact gc.started hne
  · rfl

/-- the epilogue on a good non-empty history: the evidence is `log((1/N) Σ_s exp(logw_s))` at β = 1 — the balance-heuristic
    mixture-importance-sampling estimate `Props.C04.specLogz` (shown there to be the statement's formula) -/
theorem finalLogz_spec (s : CState ℝ P TS G) (g : Good s) (hne : s.hist ≠ []) :
    finalLogz s = some (Props.C04.specLogz (batchesOf s.hist) 1) := by
  rw [finalLogz_eq, ScReal.one_def]
  exact Props.C04.C04_logz _ (Props.C10.WF_of_WFC s g.wfc hne) 1 true

theorem runFull_unpack (W : World ℝ P MS TS G) (cfg : CCfg ℝ) (reseed : G → G) (fuel : Nat) (c c' : Core ℝ P TS G)
    (call : Call ℝ P G) (tr : List (CState ℝ P TS G)) (os : List (CIterOut ℝ P))
    (h : runFull W cfg reseed fuel c call = some (c', tr, os)) :
    ∃ sf z, runLoop W (guardCfg cfg (prologue reseed c call)) fuel (prologue reseed c call).st = some (sf, tr, os) ∧
      finalLogz sf = some z ∧ c' = { prologue reseed c call with st := { sf with logz := z } } := by
  obtain ⟨⟨sf, tr0, os0⟩, hl, h⟩ := Option.bind_eq_some_iff.1 h
  obtain ⟨z, hz, hc⟩ := Option.map_eq_some_iff.1 h
  cases hc
  exact ⟨sf, z, hl, hz, rfl⟩

/-- **C12 (run), whole routine, closed loop.**  For every world (likelihood, prior, trainer, proposals, random stream), every
    configuration (both kernels, both resamplers, both metric modes), every sampler whose stored history is good (a new
    sampler; one that ran before; one into which a good checkpoint was loaded), every call `run(n_total, resume_state_path)`
    (fresh / second `run()` / manual resume / resume from a file, whatever `n_total` the file or the sampler carried):
    IF the call returns, THEN
      * `self.n_total` is THIS call's `int(n_total)`;
      * `1 − β < tol` and `β ≤ 1` (the temperature is within the tolerance of 1, from below);
      * the history is non-empty and the ESS of the normalised posterior weights over the WHOLE history is ≥ `n_total`;
      * `evidence()[0]` is the mixture-IS evidence at β = 1 recomputed from that history;
      * the history only grew (one batch per iteration executed), every loop-top state — every possible checkpoint — is good. -/
theorem C12x_run_post (W : World ℝ P MS TS G) (cfg : CCfg ℝ) (reseed : G → G) (fuel : Nat) (c c' : Core ℝ P TS G)
    (call : Call ℝ P G) (tr : List (CState ℝ P TS G)) (os : List (CIterOut ℝ P)) (gc : GoodCore c)
    (hf : ∀ f, call.resume = some f → GoodK f.sm)
    (h : runFull W cfg reseed fuel c call = some (c', tr, os)) :
    c'.nTotal = some call.nTotal ∧
    (1 - c'.st.beta < cfg.tolTerm ∧ c'.st.beta ≤ 1) ∧
    (c'.st.hist ≠ [] ∧ ∃ w0, weights0 (lw1 c'.st) = some w0 ∧ w0.length = (lw1 c'.st).length ∧ (∀ y ∈ w0, 0 ≤ y) ∧
        w0.sum = 1 ∧ (call.nTotal : ℝ) ≤ Model.Ess.ess w0 ∧ 1 ≤ Model.Ess.ess w0 ∧ Model.Ess.ess w0 ≤ w0.length) ∧
    Model.RunEntry.evidence c' = some (Props.C04.specLogz (batchesOf c'.st.hist) 1) ∧
    ((prologue reseed c call).st.hist <+: c'.st.hist ∧
      c'.st.hist.length = (prologue reseed c call).st.hist.length + os.length) ∧
    GoodCore c' ∧ (∀ t ∈ tr, Good t) ∧ c'.t0 = (prologue reseed c call).t0 := by
  obtain ⟨gc1, hst, -⟩ := prologue_good reseed c call gc hf
  obtain ⟨sf, z, hl, hz, rfl⟩ := runFull_unpack W cfg reseed fuel c c' call tr os h
  obtain ⟨gf, gtr, hpre, hlen, -⟩ := runLoop_good W _ fuel _ _ _ _ gc1.good hl
  obtain ⟨hlw, hb, w0, hw0, hwl, hnn, hsum, hess, he1, he2⟩ :=
    notTermination_false _ _ _ _ ((contGuard_eq _ _).symm.trans (runLoop_guard W _ fuel _ _ _ _ hl))
  have hne : sf.hist ≠ [] := fun h0 => hlw (lw1_nil_of_hist_nil sf h0)
  have hzs := (finalLogz_spec sf gf hne).symm.trans hz
  exact ⟨rfl, ⟨hb, gf.binv.resolve_left hne⟩, ⟨hne, w0, hw0, hwl, hnn, hsum, hess, he1, he2⟩, (if_pos hst).trans hzs.symm,
    ⟨hpre, hlen⟩, ⟨⟨gf.wfc, gf.xlen, gf.binv⟩, fun _ => hst⟩, gtr, rfl⟩

/-! ### the entries one by one: a new sampler, a resume with another `n_total`, a second `run()`, the manual resume -/

/-- a NEW sampler, `run(n_total)`: the postconditions with no hypothesis but "it returned"; numbering starts at 0 and the
    history holds exactly the batches of the iterations executed -/
theorem C12x_fresh_run (W : World ℝ P MS TS G) (cfg : CCfg ℝ) (reseed : G → G) (fuel : Nat) (ts : TS) (g : G) (nT : Nat)
    (c' : Core ℝ P TS G) (tr : List (CState ℝ P TS G)) (os : List (CIterOut ℝ P))
    (h : runFull W cfg reseed fuel (newCore ts g) ⟨nT, none⟩ = some (c', tr, os)) :
    c'.nTotal = some nT ∧ (1 - c'.st.beta < cfg.tolTerm ∧ c'.st.beta ≤ 1) ∧
    (∃ w0, weights0 (lw1 c'.st) = some w0 ∧ (nT : ℝ) ≤ Model.Ess.ess w0) ∧
    Model.RunEntry.evidence c' = some (Props.C04.specLogz (batchesOf c'.st.hist) 1) ∧
    c'.t0 = 0 ∧ c'.st.hist.length = os.length := by
  obtain ⟨h1, h2, ⟨-, w0, hw0, -, -, -, he, -⟩, h4, ⟨-, hlen⟩, -, -, ht0⟩ :=
    C12x_run_post W cfg reseed fuel _ c' ⟨nT, none⟩ tr os (goodCore_new ts g) nofun h
  rw [prologue_fresh reseed (newCore ts g) nT rfl] at hlen ht0
  exact ⟨h1, h2, ⟨w0, hw0, he⟩, h4, ht0, hlen.trans (Nat.zero_add _)⟩

/-- **resumed with ANOTHER n_total** (and in another sampler object, world and configuration if one likes).  Run A is any
    returned call; `s` is ANY of its loop-top states — a superset of the states `save_every` writes; the file written there
    carries A's `n_total`.  Run B resumes from that file with `n_total = nB`.  If B returns: `self.n_total = nB`, the
    postconditions hold for `nB` (NOT for the `n_total` in the file), the history of B extends the history in the file, and
    the iteration numbering continues (`t0` = the file's `iter`). -/
theorem C12x_resume_other_ntotal (W W' : World ℝ P MS TS G) (cfg cfg' : CCfg ℝ) (reseed reseed' : G → G) (fuelA fuelB : Nat)
    (cA0 cA cB0 cB : Core ℝ P TS G) (callA : Call ℝ P G) (trA trB : List (CState ℝ P TS G)) (osA osB : List (CIterOut ℝ P))
    (gcA : GoodCore cA0) (hfA : ∀ f, callA.resume = some f → GoodK f.sm)
    (hA : runFull W cfg reseed fuelA cA0 callA = some (cA, trA, osA))
    (s : CState ℝ P TS G) (hs : s ∈ trA) (gcB : GoodCore cB0) (nB : Nat)
    (hB : runFull W' cfg' reseed' fuelB cB0 ⟨nB, some (ckptAt (prologue reseed cA0 callA) s)⟩ = some (cB, trB, osB)) :
    (ckptAt (prologue reseed cA0 callA) s).nTotal = some callA.nTotal ∧ cB.nTotal = some nB ∧
    (1 - cB.st.beta < cfg'.tolTerm ∧ cB.st.beta ≤ 1) ∧
    (∃ w0, weights0 (lw1 cB.st) = some w0 ∧ (nB : ℝ) ≤ Model.Ess.ess w0) ∧
    Model.RunEntry.evidence cB = some (Props.C04.specLogz (batchesOf cB.st.hist) 1) ∧
    s.hist <+: cB.st.hist ∧ cB.t0 = s.iter := by
  obtain ⟨-, -, -, -, -, -, gtr, -⟩ := C12x_run_post W cfg reseed fuelA cA0 cA callA trA osA gcA hfA hA
  have hfB : ∀ f, (⟨nB, some (ckptAt (prologue reseed cA0 callA) s)⟩ : Call ℝ P G).resume = some f → GoodK f.sm := by
    rintro _ ⟨⟩; exact goodK_checkpoint s (gtr s hs)
  -- the resume arm restores the file: `prologue_resume` holds by `rfl`, so history and `t0` below are the file's
  obtain ⟨h1, h2, ⟨-, w0, hw0, -, -, -, he, -⟩, h4, ⟨hpre, -⟩, -, -, ht0⟩ :=
    C12x_run_post W' cfg' reseed' fuelB cB0 cB _ trB osB gcB hfB hB
  exact ⟨rfl, h1, h2, ⟨w0, hw0, he⟩, h4, hpre, ht0⟩

/-- **a second `run()`** on the same sampler (no path): the finished run is CONTINUED — nothing is re-initialised, the
    history of the first call is a prefix of the new one, `t0` is the first call's last `iter` — and the postconditions hold
    for the second call's `n_total` -/
theorem C12x_second_run (W W' : World ℝ P MS TS G) (cfg cfg' : CCfg ℝ) (reseed reseed' : G → G) (fuel1 fuel2 : Nat)
    (c c1 c2 : Core ℝ P TS G) (call1 : Call ℝ P G) (tr1 tr2 : List (CState ℝ P TS G)) (os1 os2 : List (CIterOut ℝ P))
    (gc : GoodCore c) (hf : ∀ f, call1.resume = some f → GoodK f.sm)
    (h1 : runFull W cfg reseed fuel1 c call1 = some (c1, tr1, os1)) (n2 : Nat)
    (h2 : runFull W' cfg' reseed' fuel2 c1 ⟨n2, none⟩ = some (c2, tr2, os2)) :
    c2.nTotal = some n2 ∧ (1 - c2.st.beta < cfg'.tolTerm ∧ c2.st.beta ≤ 1) ∧
    (∃ w0, weights0 (lw1 c2.st) = some w0 ∧ (n2 : ℝ) ≤ Model.Ess.ess w0) ∧
    Model.RunEntry.evidence c2 = some (Props.C04.specLogz (batchesOf c2.st.hist) 1) ∧
    c1.st.hist <+: c2.st.hist ∧ c2.st.hist.length = c1.st.hist.length + os2.length ∧ c2.t0 = c1.st.iter := by
  obtain ⟨-, -, ⟨hne1, -⟩, -, -, gc1, -, -⟩ := C12x_run_post W cfg reseed fuel1 c c1 call1 tr1 os1 gc hf h1
  obtain ⟨a1, a2, ⟨-, w0, hw0, -, -, -, he, -⟩, a4, ⟨hpre, hlen⟩, -, -, ht0⟩ :=
    C12x_run_post W' cfg' reseed' fuel2 c1 c2 ⟨n2, none⟩ tr2 os2 gc1 nofun h2
  rw [prologue_continue reseed' c1 n2 hne1] at hpre hlen ht0
  exact ⟨a1, a2, ⟨w0, hw0, he⟩, a4, hpre, hlen, ht0⟩

theorem runFull_stop (W : World ℝ P MS TS G) (cfg : CCfg ℝ) (reseed : G → G) (fuel : Nat) (c : Core ℝ P TS G)
    (call : Call ℝ P G) (hg : contGuard (guardCfg cfg (prologue reseed c call)) (prologue reseed c call).st = false) (z : ℝ)
    (hz : finalLogz (prologue reseed c call).st = some z) :
    runFull W cfg reseed fuel c call =
      some ({ prologue reseed c call with st := { (prologue reseed c call).st with logz := z } },
        [(prologue reseed c call).st], []) := by
  unfold runFull
  simp only [runLoop_stop W _ fuel _ hg, Option.bind_some, hz, Option.map_some]

/-- … and when the second call asks for NO MORE than the first delivered (`n2 ≤ n1`), it executes no iteration at all: same
    history, same temperature, same evidence (recomputed to the same value); only `n_total` and `t0` change.  Holds for
    every fuel: such a call always returns. -/
theorem C12x_second_run_noop (W W' : World ℝ P MS TS G) (cfg : CCfg ℝ) (reseed reseed' : G → G) (fuel1 fuel2 : Nat)
    (c c1 : Core ℝ P TS G) (call1 : Call ℝ P G) (tr1 : List (CState ℝ P TS G)) (os1 : List (CIterOut ℝ P))
    (gc : GoodCore c) (hf : ∀ f, call1.resume = some f → GoodK f.sm)
    (h1 : runFull W cfg reseed fuel1 c call1 = some (c1, tr1, os1)) (n2 : Nat) (hn : n2 ≤ call1.nTotal) :
    runFull W' cfg reseed' fuel2 c1 ⟨n2, none⟩ = some ({ c1 with nTotal := some n2, t0 := c1.st.iter }, [c1.st], []) := by
  obtain ⟨-, ⟨hb, -⟩, ⟨hne1, w0, hw0, -, -, -, he, -⟩, -, -, -, -, -⟩ :=
    C12x_run_post W cfg reseed fuel1 c c1 call1 tr1 os1 gc hf h1
  obtain ⟨sf, z, -, hz, hc1⟩ := runFull_unpack W cfg reseed fuel1 c c1 call1 tr1 os1 h1
  have e := prologue_continue reseed' c1 n2 hne1
  refine (runFull_stop W' cfg reseed' fuel2 c1 ⟨n2, none⟩ ?_ c1.st.logz ?_).trans ?_
  · rw [e]; exact contGuard_false_of_ess _ c1.st hb w0 hw0 (le_trans (Nat.cast_le.2 hn) he)
  · rw [e, hc1]; exact hz
  · rw [e]

/-- **manual resume** — `load_state(file)` then `run(n_total)` without a path — is the same call as
    `run(n_total, resume_state_path=file)` whenever the file holds a history (since /repo aeb0399; before, the manual form
    re-initialised counters, temperature and stream on top of the loaded history).  For a file WITHOUT history (written before
    the first iteration) the two differ — the manual form takes the fresh arm: counters zeroed, stream reseeded — but both start
    from an empty history and `C12x_run_post` covers each. -/
theorem C12x_manual_resume_eq (W : World ℝ P MS TS G) (cfg : CCfg ℝ) (reseed : G → G) (fuel : Nat) (c : Core ℝ P TS G)
    (f : CkFile ℝ P G) (nT : Nat) (hne : f.sm.hist ≠ []) :
    manualResume W cfg reseed fuel c f nT = runFull W cfg reseed fuel c ⟨nT, some f⟩ := by
  have e : prologue reseed (loadCore c f) (⟨nT, none⟩ : Call ℝ P G) = prologue reseed c ⟨nT, some f⟩ :=
    prologue_continue reseed (loadCore c f) nT hne
  simp only [manualResume, runFull, e]

/-- the manual form with a good file: the postconditions for the call's `n_total`, whatever the file's -/
theorem C12x_manual_resume_post (W : World ℝ P MS TS G) (cfg : CCfg ℝ) (reseed : G → G) (fuel : Nat) (c c' : Core ℝ P TS G)
    (f : CkFile ℝ P G) (nT : Nat) (hk : GoodK f.sm) (tr : List (CState ℝ P TS G)) (os : List (CIterOut ℝ P))
    (h : manualResume W cfg reseed fuel c f nT = some (c', tr, os)) :
    c'.nTotal = some nT ∧ (1 - c'.st.beta < cfg.tolTerm ∧ c'.st.beta ≤ 1) ∧
    (∃ w0, weights0 (lw1 c'.st) = some w0 ∧ (nT : ℝ) ≤ Model.Ess.ess w0) ∧
    Model.RunEntry.evidence c' = some (Props.C04.specLogz (batchesOf c'.st.hist) 1) := by
  obtain ⟨a1, a2, ⟨-, w0, hw0, -, -, -, he, -⟩, a4, -⟩ :=
    C12x_run_post W cfg reseed fuel (loadCore c f) c' ⟨nT, none⟩ tr os (goodCore_load c f hk) nofun h
  exact ⟨a1, a2, ⟨w0, hw0, he⟩, a4⟩

/-- with the regenerated tolerance and a temperature a double can hold, "within the tolerance" is exactly the statement's
    `1 − β < 1e-4`; together with `β ≤ 1`: `|1 − β| < 1e-4` -/
theorem C12x_within_1e4 (β : ℝ) (hb : 1 - β < termTol) (h1 : β ≤ 1) (hd : β < 1 / 2 ∨ ∃ m : ℤ, β = (m : ℝ) / 2 ^ 53) :
    |1 - β| < 1e-4 := by
  rw [abs_of_nonneg (by linarith)]
  exact (C12_tol_exact_for_doubles β hd).mp hb

/-! ### before anything ran (error paths) -/

/-- `evidence()` of a new sampler is `(None, None)`; `Sampler.n_total` is `None` -/
theorem C12x_new_sampler (ts : TS) (g : G) :
    Model.RunEntry.evidence (newCore ts g : Core ℝ P TS G) = none ∧ nTotalProp (newCore ts g : Core ℝ P TS G) = none :=
  ⟨rfl, rfl⟩

/-- `posterior()` of a new sampler raises (the `ValueError` of `np.max` on the empty log-weight vector), for every option
    combination -/
theorem C12x_posterior_before_run (tf rf : List String) (e : ℝ) (bins : Nat) (u0 : ℝ) (o : Opts) (ts : TS) (g : G) :
    Model.ClosedLoop.posterior tf rf e bins u0 o (Model.ClosedLoop.init ts g : CState ℝ P TS G) = none := by
  rw [Model.ClosedLoop.posterior, Model.Posterior.posterior, show (posteriorArrs (Model.ClosedLoop.init ts g : CState ℝ P TS G)).lw = [] from rfl,
    weights0_nil]
  rfl

/-- `_not_termination()` on an empty history says "continue" whatever β and `n_total` are: a new sampler's `run()` always
    executes at least one iteration -/
theorem C12x_guard_empty_history (cfg : CCfg ℝ) (s : CState ℝ P TS G) (h : s.hist = []) : contGuard cfg s = true := by
  show Model.Run.notTermination cfg.tolTerm s.beta (lw1 s) cfg.nTotal = true
  rw [lw1_nil_of_hist_nil s h, notTermination_nil]

/-! ### `posterior()` on the history a run leaves behind -/

/-- **C12 (posterior) on the closed-loop state**: on every good non-empty history — in particular after every returned
    `run()` (`C12x_run_post`) and on every checkpoint — `compute_posterior` with the regenerated gather tables, for every option
    combination, every `ess_trim`, `bins_trim ≥ 1` and resampling offset: does not raise; one positive length `m`; every row
    is one stored particle in x, logl, blobs and logw alike; weights ≥ 0 summing to 1, exactly `1/m` with resampling; and the
    blob column IS the record column (`x` and `blobs` of a stored particle are one record, so a returned blob is the blob of
    the returned `x`).  `C12_posterior_contract` assumes the three history arrays and the log-weight vector to have one length; here
    that is the run invariant `Good`. -/
theorem C12x_posterior_on_history (s : CState ℝ P TS G) (g : Good s) (hne : s.hist ≠ []) (e : ℝ) (bins : Nat)
    (hb : 0 < bins) (u0 : ℝ) (o : Opts) :
    ∃ r, Model.ClosedLoop.posterior Gen.Tables.posteriorTrimGather Gen.Tables.posteriorResampleGather e bins u0 o s = some r ∧
      ∃ m, 0 < m ∧ SameLen r m ∧ (∀ k, k < m → ∃ i, i < (lw1 s).length ∧ RowOf r k (posteriorArrs s) i) ∧
        (∀ y ∈ r.w, 0 ≤ y) ∧ r.w.sum = 1 ∧ (o.resample = true → r.w = List.replicate m (1 / (m : ℝ))) ∧ r.b = r.x := by
  obtain ⟨h0, hx, hl, hbl⟩ := posteriorArrs_lengths s g hne
  obtain ⟨r, hr, m, hm, hsl, hrows, hnn, hsum, hres⟩ :=
    C12_posterior_contract_gen e bins hb u0 o (posteriorArrs s) h0 hx hl hbl
  refine ⟨r, hr, m, hm, hsl, hrows, hnn, hsum, hres, ?_⟩
  apply List.ext_getElem?
  intro k
  by_cases hk : k < m
  · obtain ⟨i, _, h1, _, h3, _⟩ := hrows k hk
    rw [h3, h1]; rfl
  · have h1 : r.b.length ≤ k := by rw [hsl.b]; omega
    have h2 : r.x.length ≤ k := by rw [hsl.1]; omega
    rw [List.getElem?_eq_none h1, List.getElem?_eq_none h2]

/-- the weights `posterior(trim_importance_weights=False, resample=False)` returns ARE the vector whose ESS the loop guard
    tested: "the effective sample size of the posterior weights over the whole history" is literally about what
    `posterior()` hands out -/
theorem C12x_untrimmed_weights (tf rf : List String) (e : ℝ) (bins : Nat) (u0 : ℝ) (rb rl : Bool) (s : CState ℝ P TS G)
    (w0 : List ℝ) (hw : weights0 (lw1 s) = some w0) :
    Model.ClosedLoop.posterior tf rf e bins u0 ⟨false, false, rb, rl⟩ s = some { posteriorArrs s with w := w0 } := by
  rw [Model.ClosedLoop.posterior, posterior_plain _ _ _ _ _ _ _ rfl rfl, show weights0 (posteriorArrs s).lw = some w0 from hw]
  rfl

/-- run() and posterior() together: after a returned call the untrimmed, un-resampled `posterior()` has weights of ESS ≥ the
    call's `n_total` -/
theorem C12x_run_then_posterior (W : World ℝ P MS TS G) (cfg : CCfg ℝ) (reseed : G → G) (fuel : Nat) (c c' : Core ℝ P TS G)
    (call : Call ℝ P G) (tr : List (CState ℝ P TS G)) (os : List (CIterOut ℝ P)) (gc : GoodCore c)
    (hf : ∀ f, call.resume = some f → GoodK f.sm)
    (h : runFull W cfg reseed fuel c call = some (c', tr, os)) (tf rf : List String) (e : ℝ) (bins : Nat) (u0 : ℝ)
    (rb rl : Bool) :
    ∃ r, Model.ClosedLoop.posterior tf rf e bins u0 ⟨false, false, rb, rl⟩ c'.st = some r ∧
      (call.nTotal : ℝ) ≤ Model.Ess.ess r.w ∧ r.x = poolOf c'.st.hist ∧ r.lw = lw1 c'.st := by
  obtain ⟨_, _, ⟨_, w0, hw0, _, _, _, he, _, _⟩, _⟩ := C12x_run_post W cfg reseed fuel c c' call tr os gc hf h
  exact ⟨_, C12x_untrimmed_weights tf rf e bins u0 rb rl c'.st w0 hw0, he, rfl, rfl⟩

/-! ### non-vacuity: the annealing example of `Props.C10` as a CONTINUED run (history present, no path) -/

section Example
open Props.C10 (WFC wEx2 cfgCl2 sCl2 sCl3 itCl2 wfc_sCl3)

theorem sCl3_hist_ne : sCl3.hist ≠ [] := List.append_ne_nil_of_right_ne_nil _ (List.cons_ne_nil _ _)

theorem good_sCl3 : Good sCl3 := by
  refine ⟨wfc_sCl3, ?_, Or.inr (le_refl _)⟩
  unfold XLen; decide

theorem good_sCl2 : Good sCl2 := by
  refine ⟨?_, ?_, Or.inr zero_le_one⟩
  · unfold WFC; decide
  · unfold XLen; decide

/-- a sampler holding the one-batch warm-up history of the example, with a stale `n_total = 7` attribute -/
noncomputable def cEx : Core ℝ Nat Unit Nat := ⟨sCl2, true, some 7, 0⟩

theorem goodCore_cEx : GoodCore cEx := ⟨good_sCl2, fun _ => rfl⟩

theorem guard_sCl3 (c : Core ℝ Nat Unit Nat) (h : attrNTotal c = 1) : contGuard (guardCfg cfgCl2 c) sCl3 = false := by
  obtain ⟨w0, hw0, -, hnn, hsum⟩ := weights0_facts (lw1 sCl3) (posteriorArrs_lengths sCl3 good_sCl3 sCl3_hist_ne).1
  refine contGuard_false_of_ess _ sCl3 ?_ w0 hw0 ?_
  · show (1 : ℝ) - 1 < 1 / 10000
    norm_num
  · show ((attrNTotal c : ℕ) : ℝ) ≤ _
    rw [h, Nat.cast_one]
    exact (Model.Ess.ess_bounds w0 hnn (hsum ▸ one_pos)).1

/-- `run(n_total=1)` on it: the continue arm (t0 = 1, the stale attribute is overwritten), one annealing iteration (β: 0 → 1),
    then the guard is false and the epilogue writes the evidence — every hypothesis of `C12x_run_post`, `C12x_second_run`,
    `C12x_second_run_noop`, `C12x_resume_other_ntotal`, `C12x_run_then_posterior` is met by this call -/
theorem exRun : ∃ c' o, runFull wEx2 cfgCl2 id 1 cEx ⟨1, none⟩ = some (c', [sCl2, sCl3], [o]) ∧
    c'.nTotal = some 1 ∧ c'.t0 = 1 ∧ c'.st.hist = sCl3.hist := by
  have e := prologue_continue id cEx 1 (List.cons_ne_nil _ _)
  -- at the top of the loop β = 0: the guard says "continue" whatever the weights are
  have hg2 : contGuard (guardCfg cfgCl2 (prologue id cEx ⟨1, none⟩)) sCl2 = true := by
    show Model.Run.notTermination _ _ (lw1 sCl2) _ = true
    cases lw1 sCl2 with
    | nil => rfl
    | cons x xs =>
      refine Bool.or_eq_true_iff.2 (Or.inl ?_)
      simp [guardCfg, cfgCl2, sCl2]; norm_num
  obtain ⟨o, hit⟩ : ∃ o, Model.ClosedLoop.iterate wEx2 (guardCfg cfgCl2 (prologue id cEx ⟨1, none⟩)) sCl2 = some (sCl3, o) :=
    ⟨_, (iterate_nTotal wEx2 cfgCl2 _ sCl2).trans itCl2⟩
  have hg3 := guard_sCl3 (prologue id cEx ⟨1, none⟩) rfl
  have hz := finalLogz_spec sCl3 good_sCl3 sCl3_hist_ne
  refine ⟨{ prologue id cEx ⟨1, none⟩ with st := { sCl3 with logz := Props.C04.specLogz (batchesOf sCl3.hist) 1 } }, o, ?_,
    rfl, congrArg Core.t0 e, rfl⟩
  unfold runFull
  have hst : (prologue id cEx (⟨1, none⟩ : Call ℝ Nat Nat)).st = sCl2 := congrArg Core.st e
  simp only [hst, runLoop, hg2, if_true, hit, Option.bind_some, hg3, Bool.false_eq_true, if_false, Option.map_some, hz]

/-- `C12x_run_post` applied to the example: `n_total` is the call's (1, not the stale 7), β = 1, ESS ≥ 1, evidence = Z(1) -/
example : ∃ c' tr os, runFull wEx2 cfgCl2 id 1 cEx ⟨1, none⟩ = some (c', tr, os) ∧ c'.nTotal = some 1 ∧
    c'.st.beta ≤ 1 ∧ 1 - c'.st.beta < cfgCl2.tolTerm ∧
    Model.RunEntry.evidence c' = some (Props.C04.specLogz (batchesOf c'.st.hist) 1) := by
  obtain ⟨c', o, h, _⟩ := exRun
  obtain ⟨a1, ⟨a2, a3⟩, _, a4, _⟩ := C12x_run_post wEx2 cfgCl2 id 1 cEx c' ⟨1, none⟩ _ _ goodCore_cEx
    nofun h
  exact ⟨c', _, _, h, a1, a3, a2, a4⟩

/-- `C12x_second_run_noop` applied to it: running the finished example again with `n_total = 0 ≤ 1` returns at once -/
example : ∃ c', (∃ o, runFull wEx2 cfgCl2 id 1 cEx ⟨1, none⟩ = some (c', [sCl2, sCl3], [o])) ∧
    runFull wEx2 cfgCl2 id 0 c' ⟨0, none⟩ = some ({ c' with nTotal := some 0, t0 := c'.st.iter }, [c'.st], []) := by
  obtain ⟨c', o, h, _⟩ := exRun
  exact ⟨c', ⟨o, h⟩, C12x_second_run_noop wEx2 wEx2 cfgCl2 id id 1 0 cEx c' ⟨1, none⟩ _ _ goodCore_cEx
    nofun h 0 (by norm_num)⟩

/-- `C12x_posterior_on_history` applied to the example's final history (all four flags on) -/
example : ∃ r, Model.ClosedLoop.posterior Gen.Tables.posteriorTrimGather Gen.Tables.posteriorResampleGather (99 / 100) 1000
    (1 / 3) ⟨true, true, true, true⟩ sCl3 = some r ∧ r.b = r.x := by
  obtain ⟨r, h, _, _, _, _, _, _, _, hb⟩ := C12x_posterior_on_history sCl3 good_sCl3 sCl3_hist_ne (99 / 100) 1000
    (by norm_num) (1 / 3) ⟨true, true, true, true⟩
  exact ⟨r, h, hb⟩

/-- `C12x_resume_other_ntotal` / `C12x_manual_resume_eq` applied: run A is the example (`n_total = 1`, stale attribute 7); the
    file written at its last loop-top state `sCl3` carries `n_total = 1`; a NEW sampler resumes from it asking for `n_total = 1`
    again under another attribute-free core — the hypotheses of both theorems are met, and the manual form is the same call -/
example : ∃ cA o cB, runFull wEx2 cfgCl2 id 1 cEx ⟨1, none⟩ = some (cA, [sCl2, sCl3], [o]) ∧
    runFull wEx2 cfgCl2 id 0 (newCore () 6) ⟨1, some (ckptAt (prologue id cEx ⟨1, none⟩) sCl3)⟩ = some (cB, [sCl3], []) ∧
    (ckptAt (prologue id cEx (⟨1, none⟩ : Call ℝ Nat Nat)) sCl3).nTotal = some 1 ∧ cB.nTotal = some 1 ∧ cB.t0 = sCl3.iter ∧
    sCl3.hist <+: cB.st.hist ∧
    manualResume wEx2 cfgCl2 id 0 (newCore () 6) (ckptAt (prologue id cEx ⟨1, none⟩) sCl3) 1
      = runFull wEx2 cfgCl2 id 0 (newCore () 6) ⟨1, some (ckptAt (prologue id cEx ⟨1, none⟩) sCl3)⟩ := by
  obtain ⟨cA, o, hA, -⟩ := exRun
  -- run B: the entry restores exactly `sCl3`, the guard is false at once
  have hB := runFull_stop wEx2 cfgCl2 id 0 (newCore () 6 : Core ℝ Nat Unit Nat)
    ⟨1, some (ckptAt (prologue id cEx ⟨1, none⟩) sCl3)⟩ (guard_sCl3 _ rfl) _
    (finalLogz_spec sCl3 good_sCl3 sCl3_hist_ne)
  obtain ⟨a1, a2, -, -, -, a6, a7⟩ := C12x_resume_other_ntotal wEx2 wEx2 cfgCl2 cfgCl2 id id 1 0 cEx cA (newCore () 6) _ ⟨1, none⟩
    _ _ _ _ goodCore_cEx nofun hA sCl3 (List.mem_cons_of_mem _ List.mem_cons_self) (goodCore_new () 6) 1 hB
  exact ⟨cA, o, _, hA, hB, a1, a2, a7, a6,
    C12x_manual_resume_eq wEx2 cfgCl2 id 0 (newCore () 6) _ 1 sCl3_hist_ne⟩

/-- `C12x_second_run` applied: the example run, then the returning second call of `C12x_second_run_noop` -/
example : ∃ c1 c2 o, runFull wEx2 cfgCl2 id 1 cEx ⟨1, none⟩ = some (c1, [sCl2, sCl3], [o]) ∧
    runFull wEx2 cfgCl2 id 0 c1 ⟨0, none⟩ = some (c2, [c1.st], []) ∧ c2.nTotal = some 0 ∧ c2.t0 = c1.st.iter ∧
    c1.st.hist <+: c2.st.hist := by
  obtain ⟨c1, o, h1, _⟩ := exRun
  have h2 := C12x_second_run_noop wEx2 wEx2 cfgCl2 id id 1 0 cEx c1 ⟨1, none⟩ _ _ goodCore_cEx nofun h1 0 (by norm_num)
  obtain ⟨b1, _, _, _, b5, _, b7⟩ := C12x_second_run wEx2 wEx2 cfgCl2 cfgCl2 id id 1 0 cEx c1 _ ⟨1, none⟩ _ _ _ _ goodCore_cEx
    nofun h1 0 h2
  exact ⟨c1, _, o, h1, h2, b1, b7, b5⟩

example : entryBranch true 5 = Entry.resume ∧ entryBranch true 0 = Entry.resume ∧ entryBranch false 5 = Entry.continue_ ∧
    entryBranch false 0 = Entry.fresh := by decide

end Example

end Props.C12
