import TempestVerif.Gen.Kernel
import TempestVerif.Model.Kernel
import TempestVerif.Model.KernelRun
import TempestVerif.Lemmas.StopRule
import TempestVerif.Lemmas.Boundary
import TempestVerif.Lemmas.OptionList
import TempestVerif.Props.C03
/-
  C03 — the RUN LOOP of `BaseMCMCRunner` around the single step (model: `Model/KernelRun.lean`).

  The unit of the property is ONE mutation step with one step size per cluster (`Model.Kernel.runStep`, `Props/C03.lean`).
  This file proves what the loop around it must guarantee for the one-step theorems to apply at every iteration of a run:
  assignments and mode statistics are never written, every pass is one `runStep` with the step sizes it is handed, adaptation
  happens between passes, the points stay in the cube, the tpCN step sizes stay in `[0, 0.99]`, the stopping rule bounds the passes.

  How the proofs go: every record of a run is a pass (`run_recs_iterate`), and `iterate_spec` says what a pass is; a statement
  about all passes of a run is therefore a lemma about one pass.  What depends on the order of the passes is proved by functional
  induction on `run`; invariants of the loop body go through `run_invariant`.
-/
namespace Props.C03
open Model.Kernel Model.KernelRun

/-! ## 1. bridging obligations (generated = canonical) -/

attribute [kernel_real] Gen.Kernel.sigma0Of Gen.Kernel.tpcnInitSigma Gen.Kernel.rwmInitSigma Gen.Kernel.adaptiveSteps
  Gen.Kernel.convergedRule Gen.Kernel.retEfficiency Gen.Kernel.retAcceptance Gen.Kernel.iterStep Gen.Kernel.nCallsStep
  Model.KernelRun.sigma0 Model.KernelRun.initSigmaTpcn Model.KernelRun.initSigmaRwm Model.KernelRun.adaptiveSteps
  Model.KernelRun.boundedSteps Model.KernelRun.adaptiveRaw Model.KernelRun.converged Model.KernelRun.result

theorem gen_eq_canon_sigma0 (n : ℕ) : Gen.Kernel.sigma0Of (n : ℝ) = Model.KernelRun.sigma0 n := by
  kernel_bridge

theorem gen_eq_canon_tpcnInitSigma (s0 : ℝ) : Gen.Kernel.tpcnInitSigma s0 = Model.KernelRun.initSigmaTpcn s0 := by
  kernel_bridge

theorem gen_eq_canon_rwmInitSigma (s0 : ℝ) : Gen.Kernel.rwmInitSigma s0 = Model.KernelRun.initSigmaRwm s0 := by
  kernel_bridge

theorem gen_eq_canon_adaptiveSteps (nSteps nDim nMax : ℕ) (acc ws s0 : ℝ) :
    Gen.Kernel.adaptiveSteps (nSteps : ℝ) (nDim : ℝ) (nMax : ℝ) acc ws s0
      = Model.KernelRun.adaptiveSteps nSteps nDim nMax acc ws s0 := by
  kernel_bridge

theorem gen_eq_canon_convergedRule (it : ℕ) (steps : ℝ) :
    Gen.Kernel.convergedRule (it : ℝ) steps = Model.KernelRun.converged it steps := by
  kernel_bridge

theorem gen_eq_canon_retEfficiency (c : Config ℝ) (s : State ℝ) :
    Gen.Kernel.retEfficiency (mean s.sigmas) (Model.KernelRun.sigma0 c.nDim) (mean s.alpha) = (result c s).efficiency := by
  kernel_bridge

theorem gen_eq_canon_retAcceptance (c : Config ℝ) (s : State ℝ) :
    Gen.Kernel.retAcceptance (mean s.sigmas) (Model.KernelRun.sigma0 c.nDim) (mean s.alpha) = (result c s).acceptance := by
  kernel_bridge

theorem gen_eq_canon_iterStep (n : ℕ) : Gen.Kernel.iterStep (n : ℝ) = ((n + 1 : ℕ) : ℝ) := by
  kernel_bridge

theorem gen_eq_canon_nCallsStep (a b : ℕ) : Gen.Kernel.nCallsStep (a : ℝ) (b : ℝ) = ((a + b : ℕ) : ℝ) := by
  kernel_bridge

/-! ## 2. static tables (G4) -/

/-- **H_assign for the runner, statically**: in all of tempest/mcmc.py the assignments, the mode arrays, `beta`, the boundary
    index sets, `sigma_0`, `n_steps`, `n_max` and the shape attributes are written ONLY by a constructor and only by plain
    assignment (no subscript store, no augmented assignment, no in-place call); `self.sigmas` is assigned in the base
    constructor and stored into by the two `_adapt_sigma` — nowhere else; the two counters are written by the constructor and by
    `_evaluate_likelihood` (`n_calls`) / the loop head (`iteration`).  The expected sites are present (the table is not empty). -/
theorem C03_run_write_sites :
    (∀ e ∈ Gen.Kernel.writeSites,
      e.1 ∈ [Gen.Kernel.WAttr.assignments, .modeStats, .means, .invCovs, .cholCovs, .dof, .beta, .periodic, .reflective,
             .sigma0, .nSteps, .nMax, .nDim, .nWalkers, .nClusters] →
        e.2.1 ∈ [Gen.Kernel.WFn.baseInit, .tpcnInit, .rwmInit] ∧ e.2.2.1 = .assign) ∧
    (∀ e ∈ Gen.Kernel.writeSites, e.1 = .sigmas →
        (e.2.1 = .baseInit ∧ e.2.2.1 = .assign) ∨ (e.2.1 ∈ [Gen.Kernel.WFn.tpcnAdapt, .rwmAdapt] ∧ e.2.2.1 = .store)) ∧
    (∀ e ∈ Gen.Kernel.writeSites, e.1 = .nCalls →
        (e.2.1 = .baseInit ∧ e.2.2.1 = .assign) ∨ (e.2.1 = .evaluate ∧ e.2.2.1 = .aug)) ∧
    (∀ e ∈ Gen.Kernel.writeSites, e.1 = .iteration →
        (e.2.1 = .baseInit ∧ e.2.2.1 = .assign) ∨ (e.2.1 = .run ∧ e.2.2.1 = .aug)) ∧
    (Gen.Kernel.writeSites.filter (fun e => e.1 == .assignments)).map (fun e => (e.2.1, e.2.2.1)) = [(.baseInit, .assign)] ∧
    (Gen.Kernel.writeSites.filter (fun e => e.1 == .sigmas)).length = 3 ∧
    (Gen.Kernel.writeSites.filter (fun e => e.1 == .nCalls && e.2.1 == .evaluate)).length = 1 ∧
    (Gen.Kernel.writeSites.filter (fun e => e.1 == .iteration && e.2.1 == .run)).length = 1 := by
  decide

/-- `_adapt_sigma`, `_evaluate_likelihood` and `_check_convergence` are referenced exactly once, in `run`;
    `_calculate_adaptive_steps` only by `_check_convergence`; `_initialize_sigmas` only by the base constructor; `.run` is
    invoked by the two wrappers only.  Together with the statement order: one `iteration += 1`, one likelihood evaluation, one
    adaptation and one convergence test per pass, the adaptation after the update and before the convergence test. -/
theorem C03_run_self_refs :
    (∀ e ∈ Gen.Kernel.selfRefs, e.1 ∈ [Gen.Kernel.WCallee.adaptSigma, .evaluate, .checkConvergence, .propose, .factor] →
        e.2.1 = .run) ∧
    (Gen.Kernel.selfRefs.filter (fun e => e.1 == .adaptSigma)).length = 1 ∧
    (Gen.Kernel.selfRefs.filter (fun e => e.1 == .evaluate)).length = 1 ∧
    (Gen.Kernel.selfRefs.filter (fun e => e.1 == .checkConvergence)).length = 1 ∧
    (Gen.Kernel.selfRefs.filter (fun e => e.1 == .calcAdaptive)).map (·.2.1) = [.checkConv] ∧
    (Gen.Kernel.selfRefs.filter (fun e => e.1 == .initSigmas)).map (·.2.1) = [.baseInit] ∧
    (∀ e ∈ Gen.Kernel.selfRefs, e.1 = .runLoop → e.2.1 ∈ [Gen.Kernel.WFn.tpcnWrapper, .rwmWrapper]) ∧
    Gen.Kernel.stepOrder.count .iter = 1 ∧ Gen.Kernel.stepOrder.count .evaluate = 1 ∧
    Gen.Kernel.stepOrder.count .converge = 1 ∧
    Gen.Kernel.stepOrder.idxOf .iter < Gen.Kernel.stepOrder.idxOf .propose ∧
    Gen.Kernel.stepOrder.idxOf .adapt < Gen.Kernel.stepOrder.idxOf .converge := by
  decide

/-- the 15 parameters of `BaseMCMCRunner.__init__`, of the two wrappers and of `parallel_mcmc`, in positional order -/
def runAll15 : List Gen.Kernel.Param :=
  [.u, .x, .logl, .blobs, .assignments, .beta, .modeStats, .logLikelihood, .priorTransform, .progressBar, .nSteps, .nMax,
   .periodic, .reflective, .verbose]

/-- `parallel_mcmc`: `sample == "rwm"` selects the RWM wrapper, everything else the tpCN wrapper; each wrapper constructs ITS
    runner class and returns `runner.run()`; at all four call sites every one of the 15 parameters of the callee receives the
    caller's variable of the same name (after Python's positional/keyword binding); the base constructor stores each of them
    under its own name, the five arrays as copies; `run` returns `(u, x, logl, blobs, efficiency, acceptance, iteration,
    n_calls)`; the stopping rule sees `mask_accept.mean()`; the weighted step size pairs the FIRST m step sizes with the m
    non-empty populations (what `Model.KernelRun.weightedSigma` does). -/
theorem C03_run_dispatch_tables :
    Gen.Kernel.dispatchRule = [(.sampleEqRwm, .rwmWrapper), (.otherwise, .tpcnWrapper)] ∧
    Gen.Kernel.wrapperRunner.length = 2 ∧ (.tpcnWrapper, .tpcnRunner) ∈ Gen.Kernel.wrapperRunner ∧
    (.rwmWrapper, .rwmRunner) ∈ Gen.Kernel.wrapperRunner ∧
    Gen.Kernel.bindTable.length = 4 ∧
    (∀ b ∈ Gen.Kernel.bindTable, b.2.map (·.1) = runAll15 ∧ ∀ p ∈ b.2, p.1 = p.2) ∧
    (∀ p ∈ runAll15, (Gen.Kernel.initStores.filter (fun e => e.1 == p)).map (·.2.1) = [p]) ∧
    (∀ p ∈ [Gen.Kernel.Param.u, .x, .logl, .blobs, .assignments], (p, p, true) ∈ Gen.Kernel.initStores) ∧
    Gen.Kernel.returnTuple = [.u, .x, .logl, .blobs, .efficiency, .acceptance, .iteration, .nCalls] ∧
    Gen.Kernel.curAccSource = .maskMean ∧ Gen.Kernel.weightedSigmaPairing = .firstM := by
  decide

theorem C03_run_dispatch (sample : String) :
    (sample = "rwm" → dispatch sample = .rwm) ∧ (sample ≠ "rwm" → dispatch sample = .tpcn) := by
  constructor <;> intro h <;> simp [dispatch, h]

theorem C03_run_construct {α : Type} [ScT α] (kind : Kind) (a : Args α) :
    let cs := construct kind a
    cs.1.kind = kind ∧ cs.1.modes = a.modes ∧ cs.1.beta = a.beta ∧ cs.1.per = a.per ∧ cs.1.refl = a.refl ∧
    cs.1.nSteps = a.nSteps ∧ cs.1.nMax = a.nMax ∧ cs.1.nDim = shapeDim a.x ∧
    cs.2.u = a.u ∧ cs.2.x = a.x ∧ cs.2.logl = a.logl ∧ cs.2.assign = a.assign ∧ cs.2.iteration = 0 ∧ cs.2.nCalls = 0 ∧
    cs.2.sigmas = List.replicate a.modes.length (initSigma kind (Model.KernelRun.sigma0 (shapeDim a.x))) := by
  simp [construct, initSigmas]

example : dispatch "rwm" = .rwm ∧ dispatch "tpcn" = .tpcn ∧ dispatch "other" = .tpcn := by
  refine ⟨(C03_run_dispatch "rwm").1 rfl, (C03_run_dispatch "tpcn").2 (by decide), (C03_run_dispatch "other").2 (by decide)⟩

/-! ## 3. the run as a chain of `runStep` applications -/

section Chain
variable {α : Type} [ScT α]

structure PassSpec (c : Config α) (s : State α) (t : List (Draw α)) (r : IterRec α) : Prop where
  pre : r.pre = s
  tape : r.tape = t
  step : runStep (stepInput c s.sigmas s t) = some (r.outs, r.post.sigmas)
  u : r.post.u = r.outs.map (·.newU)
  x : r.post.x = select (r.outs.map (·.accept)) (t.map (·.xp)) s.x
  logl : r.post.logl = select (r.outs.map (·.accept)) (t.map (·.lp)) s.logl
  assign : r.post.assign = s.assign
  iteration : r.post.iteration = s.iteration + 1
  nCalls : r.post.nCalls = s.nCalls + nWalkers s
  alpha : r.post.alpha = r.outs.map (·.alpha)
  curAcc : r.curAcc = meanBool (r.outs.map (·.accept))
  wsigma : r.wsigma = weightedSigma r.post.sigmas (clusterSizes c.modes.length s.assign)
  steps : r.steps = adaptiveSteps c.nSteps c.nDim c.nMax r.curAcc r.wsigma (Model.KernelRun.sigma0 c.nDim)
  stop : r.stop = converged (s.iteration + 1) r.steps

theorem iterate_spec {c : Config α} {s : State α} {t : List (Draw α)} {r : IterRec α} (h : iterate c s t = some r) :
    PassSpec c s t r := by
  unfold iterate at h
  cases hr : runStep (stepInput c s.sigmas s t) with
  | none => simp [hr] at h
  | some p =>
    obtain ⟨outs, sig⟩ := p
    simp only [hr, Option.some.injEq] at h
    subst h
    exact ⟨rfl, rfl, hr, rfl, rfl, rfl, rfl, rfl, rfl, rfl, rfl, rfl, rfl, rfl⟩

omit [ScT α] in
theorem run_mem_walkers : ∀ (us : List (List α)) (as : List Nat) (ls : List α) (ds : List (Draw α)) (w : Walker α),
    w ∈ walkers us as ls ds → w.u ∈ us ∧ w.assign ∈ as := by
  intro us as ls ds w
  fun_induction walkers us as ls ds with
  | case1 u us a as l ls d ds ih =>
    intro h
    rcases List.mem_cons.mp h with rfl | h
    · exact ⟨List.mem_cons_self, List.mem_cons_self⟩
    · exact ⟨List.mem_cons_of_mem _ (ih h).1, List.mem_cons_of_mem _ (ih h).2⟩
  | case2 => exact fun h => nomatch h

omit [ScT α] in
theorem run_walkers_length : ∀ (n : Nat) (us : List (List α)) (as : List Nat) (ls : List α) (ds : List (Draw α)),
    us.length = n → as.length = n → ls.length = n → ds.length = n → (walkers us as ls ds).length = n
  | 0, [], _, _, _, _, _, _, _ => rfl
  | n + 1, _ :: us, _ :: as, _ :: ls, _ :: ds, h1, h2, h3, h4 =>
    congrArg (· + 1) (run_walkers_length n us as ls ds (Nat.succ.inj h1) (Nat.succ.inj h2) (Nat.succ.inj h3)
      (Nat.succ.inj h4))

theorem pass_outs (c : Config α) (s : State α) (t : List (Draw α)) (r : IterRec α) (h : iterate c s t = some r) :
    ∀ o ∈ r.outs, ∃ si : StepIn α, o = step si ∧ si.u ∈ s.u ∧ si.per = c.per ∧ si.refl = c.refl := by
  obtain ⟨hm, -⟩ := (runStep_eq_some _ _ _).mp (iterate_spec h).step
  intro o ho
  obtain ⟨w, hw, hws⟩ := Lemmas.OptionList.mapM_mem hm ho
  obtain ⟨m, sg, -, -, hos⟩ := C03_walker_uses_own_mode _ w o hws
  exact ⟨_, hos, (run_mem_walkers _ _ _ _ w hw).1, rfl, rfl⟩

theorem run_recs_iterate (c : Config α) (s : State α) (ts : List (List (Draw α))) :
    ∀ r ∈ (run c s ts).recs, iterate c r.pre r.tape = some r := by
  -- the four cases of `run`: no tape left; IndexError in the pass; the pass `r` stops the loop; the pass `r` does not
  fun_induction run c s ts with
  | case1 | case2 => exact fun _ h => nomatch h
  | case3 s t _ r hi =>
    obtain ⟨rfl, rfl, -⟩ := iterate_spec hi
    exact fun _ h => List.mem_singleton.mp h ▸ hi
  | case4 s t _ r hi _ _ ih =>
    obtain ⟨rfl, rfl, -⟩ := iterate_spec hi
    exact fun _ h => (List.mem_cons.mp h).elim (· ▸ hi) (ih _)

theorem run_invariant (c : Config α) (P : State α → Prop)
    (hstep : ∀ s t r, P s → iterate c s t = some r → P r.post) :
    ∀ (ts : List (List (Draw α))) (s : State α), P s →
      P (run c s ts).final ∧ ∀ r ∈ (run c s ts).recs, P r.pre ∧ P r.post := by
  intro ts s
  fun_induction run c s ts with
  | case1 | case2 => exact fun hs => ⟨hs, fun _ h => nomatch h⟩
  | case3 s t _ r hi =>
    intro hs
    have hr : P r.pre ∧ P r.post := ⟨(iterate_spec hi).pre ▸ hs, hstep s t r hs hi⟩
    exact ⟨hr.2, fun _ h => List.mem_singleton.mp h ▸ hr⟩
  | case4 s t _ r hi _ _ ih =>
    intro hs
    have hr : P r.pre ∧ P r.post := ⟨(iterate_spec hi).pre ▸ hs, hstep s t r hs hi⟩
    exact ⟨(ih hr.2).1, fun _ h => (List.mem_cons.mp h).elim (· ▸ hr) ((ih hr.2).2 _)⟩

/-- **the assignments are never written by `run`** (model) -/
theorem C03_run_assignments_fixed (c : Config α) (s : State α) (ts : List (List (Draw α))) :
    (run c s ts).final.assign = s.assign ∧
    ∀ r ∈ (run c s ts).recs, r.pre.assign = s.assign ∧ r.post.assign = s.assign :=
  run_invariant c (fun st => st.assign = s.assign)
    (fun _ _ _ hs hi => (iterate_spec hi).assign.trans hs) ts s rfl

/-- **one mutation step for any step size = one application of `Model.Kernel.runStep`**: every executed pass is `runStep` on the
    input assembled from the state at the loop head, the step sizes IT WAS GIVEN (`r.pre.sigmas`, a parameter of `stepInput`),
    and the incremented iteration number; the states are updated from its outputs and the adapted step sizes are stored for
    the NEXT pass only. -/
theorem C03_run_pass_is_runStep (c : Config α) (s : State α) (ts : List (List (Draw α))) :
    ∀ r ∈ (run c s ts).recs,
      runStep (stepInput c r.pre.sigmas r.pre r.tape) = some (r.outs, r.post.sigmas) ∧
      (stepInput c r.pre.sigmas r.pre r.tape).sigmas = r.pre.sigmas ∧
      (stepInput c r.pre.sigmas r.pre r.tape).iter = Sc.ofNat r.post.iteration ∧
      r.post.sigmas = adaptAll (stepInput c r.pre.sigmas r.pre r.tape) (r.outs.map (·.alpha)) ∧
      r.post.u = r.outs.map (·.newU) ∧ r.post.alpha = r.outs.map (·.alpha) := by
  intro r hr
  have p := iterate_spec (run_recs_iterate c s ts r hr)
  exact ⟨p.step, rfl, congrArg Sc.ofNat p.iteration.symm, ((runStep_eq_some _ _ _).mp p.step).2, p.u, p.alpha⟩

theorem run_handoff (c : Config α) (s : State α) (ts : List (List (Draw α))) :
    (∀ r, (run c s ts).recs.head? = some r → r.pre = s) ∧
    ∀ k r r', (run c s ts).recs[k]? = some r → (run c s ts).recs[k + 1]? = some r' → r'.pre = r.post := by
  fun_induction run c s ts with
  | case1 | case2 => exact ⟨fun _ h => (by cases h), fun _ _ _ h => (by cases h)⟩
  | case3 s t _ r hi => exact ⟨fun _ h => Option.some.inj h ▸ (iterate_spec hi).pre, fun _ _ _ _ h => (by cases h)⟩
  | case4 s t ts r hi _ o ih =>
    refine ⟨fun _ h => Option.some.inj h ▸ (iterate_spec hi).pre, fun k r0 r1 h0 h1 => ?_⟩
    cases k with
    | zero => exact Option.some.inj h0 ▸ ih.1 r1 (List.head?_eq_getElem? ▸ h1)
    | succ k => exact ih.2 k r0 r1 h0 h1

/-- **adaptation happens strictly between steps**: the step sizes pass t+1 uses are exactly what pass t stored, i.e.
    `adaptAll` of pass t's acceptance probabilities; the first pass uses the input's -/
theorem C03_run_sigma_handoff (c : Config α) (s : State α) (ts : List (List (Draw α))) :
    (∀ r, (run c s ts).recs.head? = some r → r.pre = s) ∧
    ∀ k (h : k + 1 < (run c s ts).recs.length),
      ((run c s ts).recs[k + 1]).pre = ((run c s ts).recs[k]).post :=
  ⟨(run_handoff c s ts).1, fun k h =>
    (run_handoff c s ts).2 k _ _ (List.getElem?_eq_getElem (Nat.lt_of_succ_lt h)) (List.getElem?_eq_getElem h)⟩

/-- within a pass every walker is handed the step size of ITS cluster from the vector the pass was given: two walkers of the
    same cluster see the same value -/
theorem C03_run_walker_sigma (c : Config α) (sg : List α) (s : State α) (t : List (Draw α)) (w : Walker α) (si : StepIn α)
    (h : walkerInput (stepInput c sg s t) w = some si) : sg[w.assign]? = some si.sigma := by
  obtain ⟨m, v, -, hv, rfl⟩ := (walkerInput_eq_some _ w si).mp h
  exact hv

end Chain

/-! ## 4. hard boundaries: the rejection rule on the model step (tempest commit 9001dc4) and the cube invariant over the run -/

section Hard
variable {α : Type} [ScT α]

/-- **rejection rule, any scalar type**: `inb` is `check_bounds` of the folded candidate; a candidate that fails it is NOT
    passed on — the walker is evaluated at its current point, its acceptance probability is the generated out-of-bounds value
    and its state is unchanged whatever the uniform draw is; a candidate that passes is the point passed on and its alpha is
    the Metropolis–Hastings value. -/
theorem C03_run_hard_reject_rule (i : StepIn α) :
    (step i).inb = Model.Boundary.checkBounds i.per i.refl (step i).cand ∧
    ((step i).inb = false →
      (step i).prop = i.u ∧ (step i).newU = i.u ∧
      (step i).alpha = Model.Kernel.alphaOutOfBounds (acceptProb i.beta i.l i.lp (step i).factor)) ∧
    ((step i).inb = true →
      (step i).prop = (step i).cand ∧ (step i).alpha = acceptProb i.beta i.l i.lp (step i).factor ∧
      (step i).newU = if (step i).accept then (step i).cand else i.u) := by
  obtain ⟨hinb, hprop⟩ := step_inb_prop i
  obtain ⟨halpha, -, hnew⟩ := step_fields i
  refine ⟨hinb, fun h => ?_, fun h => ?_⟩
  · have hp : (step i).prop = i.u := by rw [hprop, h]; rfl
    exact ⟨hp, by rw [hnew, hp, ite_self], by rw [halpha, h]; rfl⟩
  · have hp : (step i).prop = (step i).cand := by rw [hprop, h]; rfl
    exact ⟨hp, by rw [halpha, h]; rfl, by rw [hnew, hp]⟩

/-- **rejection rule at ℝ, with the GENERATED out-of-bounds value**: alpha is `Gen.Kernel.alphaOutOfBounds … = 0`, so for a
    uniform draw `r ≥ 0` the proposal is rejected -/
theorem C03_run_hard_reject_real (i : StepIn ℝ) (h : (step i).inb = false) :
    (step i).alpha = Gen.Kernel.alphaOutOfBounds (acceptProb i.beta i.l i.lp (step i).factor) ∧ (step i).alpha = 0 ∧
    (step i).prop = i.u ∧ (step i).newU = i.u ∧ (0 ≤ i.r → (step i).accept = false) := by
  obtain ⟨-, hout, -⟩ := C03_run_hard_reject_rule i
  obtain ⟨hp, hn, ha⟩ := hout h
  have h0 : (step i).alpha = 0 := ha.trans (alphaOutOfBounds_real _)
  refine ⟨by rw [gen_eq_canon_alphaOutOfBounds]; exact ha, h0, hp, hn, ?_⟩
  intro hr
  rw [(step_fields i).2.1, h0]
  simp [acceptDecision, hr]

theorem run_step_alpha_unit (i : StepIn ℝ) : 0 ≤ (step i).alpha ∧ (step i).alpha ≤ 1 := by
  obtain ⟨-, hout, hin⟩ := C03_run_hard_reject_rule i
  cases hb : (step i).inb with
  | false => rw [(hout hb).2.2, alphaOutOfBounds_real]; exact ⟨le_rfl, zero_le_one⟩
  | true => rw [(hin hb).2.1]; exact acceptProb_mem_unit _ _ _ _

def RunInCube (c : Config α) (s : State α) : Prop := ∀ u ∈ s.u, Model.Boundary.checkBounds c.per c.refl u = true

/-- **the states stay in the cube over the whole run**: before and after every pass and at the end (accepted points passed
    `check_bounds`, rejected walkers did not move) — the hypothesis "current state inside" of the hard-boundary theorems holds at
    every iteration -/
theorem C03_run_stays_in_cube (c : Config α) (s : State α) (ts : List (List (Draw α))) (h : RunInCube c s) :
    RunInCube c (run c s ts).final ∧ ∀ r ∈ (run c s ts).recs, RunInCube c r.pre ∧ RunInCube c r.post := by
  refine run_invariant c (RunInCube c) ?_ ts s h
  intro s' t r hs hi u hu
  rw [(iterate_spec hi).u] at hu
  obtain ⟨o, ho, rfl⟩ := List.mem_map.mp hu
  obtain ⟨si, rfl, hmem, hp, hr⟩ := pass_outs c s' t r hi o ho
  have := C03_step_stays_in_cube si (by rw [hp, hr]; exact hs _ hmem)
  rwa [hp, hr] at this

/-- over the whole run, every walker whose candidate failed `check_bounds` kept its point and had acceptance probability 0 -/
theorem C03_run_hard_reject (c : Config ℝ) (s : State ℝ) (ts : List (List (Draw ℝ))) :
    ∀ r ∈ (run c s ts).recs, ∀ o ∈ r.outs, o.inb = false → o.alpha = 0 ∧ o.newU = o.prop ∧ o.newU ∈ r.pre.u := by
  intro r hr o ho hinb
  obtain ⟨si, rfl, hmem, -, -⟩ := pass_outs c r.pre r.tape r (run_recs_iterate c s ts r hr) o ho
  obtain ⟨-, ha, hp, hn, -⟩ := C03_run_hard_reject_real si hinb
  exact ⟨ha, hn.trans hp.symm, hn ▸ hmem⟩

end Hard

/-! ## 5. step sizes over the whole run: range invariant (tpCN) and diminishing adaptation (both kernels) -/

section Sigma

theorem run_mean_unit (l : List ℝ) (hne : l ≠ []) (h : ∀ a ∈ l, 0 ≤ a ∧ a ≤ 1) : 0 ≤ mean l ∧ mean l ≤ 1 := by
  have hlen : (0 : ℝ) < l.length := Nat.cast_pos.mpr (List.length_pos_iff.mpr hne)
  have hsum : l.sum ≤ l.length := by simpa using List.sum_le_card_nsmul l 1 fun a ha => (h a ha).2
  simp only [mean, ScReal.sum_def, ScReal.div_def, ScReal.ofNat_def]
  exact ⟨div_nonneg (List.sum_nonneg fun a ha => (h a ha).1) hlen.le, (div_le_one hlen).mpr hsum⟩

theorem run_mem_clusterAlphas (as : List Nat) (alphas : List ℝ) (c : Nat) (a : ℝ) (h : a ∈ clusterAlphas as alphas c) :
    a ∈ alphas := by
  obtain ⟨p, hp, hpa⟩ := List.mem_filterMap.mp h
  split at hpa
  · exact Option.some.inj hpa ▸ (List.of_mem_zip hp).2
  · cases hpa

theorem run_sigma0_pos (n : ℕ) (h : 1 ≤ n) : (0 : ℝ) < Model.KernelRun.sigma0 n := by
  have hn : (0 : ℝ) < Real.sqrt n := Real.sqrt_pos.mpr (Nat.cast_pos.mpr h)
  simp only [Model.KernelRun.sigma0, sc_real]
  positivity

/-- the upper clip of tpCN: `min(sigma_0, 0.99)` -/
noncomputable def sigmaCap (c : Config ℝ) : ℝ := min (Model.KernelRun.sigma0 c.nDim) (99 / 100)

def SigmaRange (c : Config ℝ) (s : State ℝ) : Prop := ∀ sg ∈ s.sigmas, 0 ≤ sg ∧ sg ≤ sigmaCap c

theorem sigmaCap_pos (c : Config ℝ) (hd : 1 ≤ c.nDim) : 0 < sigmaCap c ∧ sigmaCap c ≤ 99 / 100 :=
  ⟨lt_min (run_sigma0_pos _ hd) (by norm_num), min_le_right _ _⟩

/-- the initial step sizes of the constructed runner: tpCN `min(sigma_0, 0.99) ∈ (0, 0.99]`, RWM `sigma_0 > 0` -/
theorem C03_run_init_sigmas (kind : Kind) (a : Args ℝ) (hd : 1 ≤ shapeDim a.x) :
    (construct kind a).2.sigmas.length = a.modes.length ∧
    (kind = .tpcn → SigmaRange (construct kind a).1 (construct kind a).2 ∧
        ∀ sg ∈ (construct kind a).2.sigmas, 0 < sg ∧ sg ≤ 99 / 100) ∧
    (kind = .rwm → ∀ sg ∈ (construct kind a).2.sigmas, sg = Model.KernelRun.sigma0 (shapeDim a.x) ∧ 0 < sg) := by
  refine ⟨List.length_replicate, ?_, ?_⟩
  · rintro rfl
    have hc := sigmaCap_pos (construct Kind.tpcn a).1 hd
    have hval : ∀ sg ∈ (construct Kind.tpcn a).2.sigmas, sg = sigmaCap (construct Kind.tpcn a).1 := by
      intro sg hsg
      rw [List.eq_of_mem_replicate hsg, initSigma, initSigmaTpcn, model_npMinimum, lit_99, ScReal.mul_def, ScReal.one_def,
        one_mul]
      rfl
    exact ⟨fun sg hsg => by rw [hval sg hsg]; exact ⟨hc.1.le, le_rfl⟩, fun sg hsg => by rw [hval sg hsg]; exact hc⟩
  · rintro rfl sg hsg
    have : sg = Model.KernelRun.sigma0 (shapeDim a.x) := by
      rw [List.eq_of_mem_replicate hsg, initSigma, initSigmaRwm, ScReal.mul_def, ScReal.one_def, one_mul]
    exact ⟨this, this ▸ run_sigma0_pos _ hd⟩

/-- **range invariant over the whole run (tpCN)**: if the step sizes start in `[0, min(sigma_0, 0.99)]` (the constructor's do:
    `C03_run_init_sigmas`) they are there before and after EVERY pass and at the end — in particular `σ ≤ 0.99 < 1`, the
    hypothesis of `C03_tpcn_interior`, at every iteration -/
theorem C03_run_tpcn_sigma_range (c : Config ℝ) (s : State ℝ) (ts : List (List (Draw ℝ))) (hk : c.kind = .tpcn)
    (hd : 1 ≤ c.nDim) (h : SigmaRange c s) :
    SigmaRange c (run c s ts).final ∧ ∀ r ∈ (run c s ts).recs, SigmaRange c r.pre ∧ SigmaRange c r.post := by
  refine run_invariant c (SigmaRange c) ?_ ts s h
  intro s' t r hs hi
  rw [SigmaRange, ((runStep_eq_some _ _ _).mp (iterate_spec hi).step).2]
  exact adaptAll_tpcn_mem (stepInput c s'.sigmas s' t) _ hk (run_sigma0_pos _ hd).le hs

theorem abs_clip_sub_le {a b y : ℝ} (x : ℝ) (ha : a ≤ y) (hb : y ≤ b) : |min (max x a) b - y| ≤ |x - y| :=
  calc |min (max x a) b - y| = |min (max x a) b - min (max y a) b| := by rw [max_eq_left ha, min_eq_left hb]
    _ ≤ max |max x a - max y a| |b - b| := abs_min_sub_min_le_max _ _ _ _
    _ = |max x a - max y a| := by rw [sub_self, abs_zero, max_eq_left (abs_nonneg _)]
    _ ≤ |x - y| := abs_max_sub_max_le_abs _ _ _

/-- one adaptation moves a step size by at most `0.766/(iteration+1)`: the raw rule moves it by `(acc − 0.234)/(iteration+1)`,
    and the clip of tpCN is towards an interval that contains the old value -/
theorem adapt_move_bound (kind : Kind) (sg it acc s0 : ℝ) (hit : 0 ≤ it) (h0 : 0 ≤ acc) (h1 : acc ≤ 1)
    (hr : kind = .tpcn → 0 ≤ sg ∧ sg ≤ min s0 (99 / 100)) :
    |adaptOne kind sg it acc s0 - sg| ≤ 766 / 1000 / (it + 1) := by
  have hpos : 0 < it + 1 := by linarith
  have hraw : |adaptRaw sg it acc - sg| ≤ 766 / 1000 / (it + 1) := by
    rw [model_adaptRaw, add_sub_cancel_left, one_div_mul_eq_div, abs_div, abs_of_pos hpos]
    exact div_le_div_of_nonneg_right (abs_le.mpr ⟨by linarith, by linarith⟩) hpos.le
  cases kind with
  | rwm => exact hraw
  | tpcn =>
    rw [adaptOne, model_tpcnAdapt]
    exact (abs_clip_sub_le _ (hr rfl).1 (hr rfl).2).trans hraw

theorem pass_adapt_move (c : Config ℝ) (s : State ℝ) (t : List (Draw ℝ)) (r : IterRec ℝ) (hi : iterate c s t = some r)
    (h : c.kind = .tpcn → SigmaRange c s) (k : Nat) (sg sg' : ℝ) (hpre : s.sigmas[k]? = some sg)
    (hpost : r.post.sigmas[k]? = some sg') : |sg' - sg| ≤ 766 / 1000 / ((r.post.iteration : ℝ) + 1) := by
  have hit := (iterate_spec hi).iteration
  rw [((runStep_eq_some _ _ _).mp (iterate_spec hi).step).2, C03_adapt_per_cluster _ _ k sg hpre, Option.some.injEq] at hpost
  subst hpost
  split
  · rw [sub_self, abs_zero]; positivity
  · rename_i hne
    have halpha : ∀ a ∈ r.outs.map (·.alpha), 0 ≤ a ∧ a ≤ 1 := by
      intro a ha
      obtain ⟨o, ho, rfl⟩ := List.mem_map.mp ha
      obtain ⟨si, rfl, -⟩ := pass_outs c s t r hi o ho
      exact run_step_alpha_unit si
    have hmean := run_mean_unit _ (fun he => hne (by rw [he]; rfl)) fun a ha => halpha a (run_mem_clusterAlphas _ _ _ a ha)
    have hiter : (stepInput c s.sigmas s t).iter = (r.post.iteration : ℝ) := by rw [hit]; rfl
    rw [← hiter]
    exact adapt_move_bound _ sg _ _ _ (hiter ▸ Nat.cast_nonneg _) hmean.1 hmean.2
      fun hk => h hk sg (List.mem_of_getElem? hpre)

/-- **diminishing adaptation over the whole run, both kernels**: the step size of every cluster moves by at most
    `0.766/(t+1)` in the pass that brings the iteration counter to `t` (tpCN: given the range invariant, which
    `C03_run_tpcn_sigma_range` maintains; RWM: unconditionally).  The acceptance means are in `[0,1]` because they are means of
    the model step's acceptance probabilities (`run_step_alpha_unit`) — not an assumption. -/
theorem C03_run_diminishing_adaptation (c : Config ℝ) (s : State ℝ) (ts : List (List (Draw ℝ))) (hd : 1 ≤ c.nDim)
    (h : c.kind = .tpcn → SigmaRange c s) :
    ∀ r ∈ (run c s ts).recs, ∀ (k : Nat) (sg sg' : ℝ), r.pre.sigmas[k]? = some sg → r.post.sigmas[k]? = some sg' →
      |sg' - sg| ≤ 766 / 1000 / ((r.post.iteration : ℝ) + 1) := fun r hr =>
  pass_adapt_move c r.pre r.tape r (run_recs_iterate c s ts r hr)
    fun hk => ((C03_run_tpcn_sigma_range c s ts hk hd (h hk)).2 r hr).1

end Sigma

/-! ## 6. bookkeeping: counters, the iteration bounds of the stopping rule, fuel, return values -/

section Counters
variable {α : Type} [ScT α]

def RunWF (s : State α) (n : Nat) : Prop := s.u.length = n ∧ s.x.length = n ∧ s.logl.length = n ∧ s.assign.length = n

omit [ScT α] in
theorem run_select_length {β : Type} : ∀ (n : Nat) (m : List Bool) (ns os : List β), m.length = n → ns.length = n →
    os.length = n → (select m ns os).length = n
  | 0, [], _, _, _, _, _ => rfl
  | n + 1, _ :: m, _ :: ns, _ :: os, h1, h2, h3 =>
    congrArg (· + 1) (run_select_length n m ns os (Nat.succ.inj h1) (Nat.succ.inj h2) (Nat.succ.inj h3))

theorem iterate_wf (c : Config α) (s : State α) (t : List (Draw α)) (r : IterRec α) (n : Nat)
    (h : iterate c s t = some r) (hwf : RunWF s n) (ht : t.length = n) : RunWF r.post n ∧ r.outs.length = n := by
  have p := iterate_spec h
  obtain ⟨hm, -⟩ := (runStep_eq_some _ _ _).mp p.step
  have hlen : r.outs.length = n := by
    rw [Lemmas.OptionList.mapM_length hm]
    exact run_walkers_length n _ _ _ _ hwf.1 hwf.2.2.2 hwf.2.2.1 ht
  refine ⟨⟨by rw [p.u]; simpa using hlen, ?_, ?_, by rw [p.assign]; exact hwf.2.2.2⟩, hlen⟩
  · rw [p.x]; exact run_select_length n _ _ _ (by simpa using hlen) (by simpa using ht) hwf.2.1
  · rw [p.logl]; exact run_select_length n _ _ _ (by simpa using hlen) (by simpa using ht) hwf.2.2.1

theorem run_iteration_count (c : Config α) (s : State α) (ts : List (List (Draw α))) :
    (run c s ts).final.iteration = s.iteration + (run c s ts).recs.length := by
  fun_induction run c s ts with
  | case1 | case2 => rfl
  | case3 s t _ r hi => exact (iterate_spec hi).iteration
  | case4 s t _ r hi _ _ ih => exact ih.trans ((iterate_spec hi).iteration ▸ Nat.add_right_comm _ _ _)

/-- **counters**: `iteration` counts the executed passes, `n_calls` grows by `n_walkers` per pass:
    after the run `iteration = iteration₀ + #passes` and `n_calls = n_calls₀ + #passes × n_walkers` -/
theorem C03_run_counters (c : Config α) (n : Nat) : ∀ (ts : List (List (Draw α))) (s : State α), RunWF s n →
    (∀ t ∈ ts, t.length = n) →
    (run c s ts).final.iteration = s.iteration + (run c s ts).recs.length ∧
    (run c s ts).final.nCalls = s.nCalls + (run c s ts).recs.length * n ∧ RunWF (run c s ts).final n := by
  intro ts s hwf ht
  refine ⟨run_iteration_count c s ts, ?_⟩
  revert hwf ht
  fun_induction run c s ts with
  | case1 | case2 => exact fun hwf _ => ⟨(Nat.zero_mul n).symm ▸ rfl, hwf⟩
  | case3 s t _ r hi =>
    intro hwf ht
    have hnw : nWalkers s = n := hwf.2.1
    exact ⟨by rw [(iterate_spec hi).nCalls, hnw]; exact congrArg _ (Nat.one_mul n).symm,
      (iterate_wf c s t r n hi hwf (ht t List.mem_cons_self)).1⟩
  | case4 s t ts r hi _ o ih =>
    intro hwf ht
    obtain ⟨i2, i3⟩ := ih (iterate_wf c s t r n hi hwf (ht t List.mem_cons_self)).1
      fun t' ht' => ht t' (List.mem_cons_of_mem _ ht')
    have hnw : nWalkers s = n := hwf.2.1
    refine ⟨?_, i3⟩
    show (run c r.post ts).final.nCalls = s.nCalls + ((run c r.post ts).recs.length + 1) * n
    rw [i2, (iterate_spec hi).nCalls, hnw, Nat.succ_mul]; omega

theorem C03_run_iteration_numbers (c : Config α) : ∀ (ts : List (List (Draw α))) (s : State α) (k : Nat) (r : IterRec α),
    (run c s ts).recs[k]? = some r → r.pre.iteration = s.iteration + k ∧ r.post.iteration = s.iteration + k + 1 := by
  intro ts s
  fun_induction run c s ts with
  | case1 | case2 => exact fun _ _ h => by cases h
  | case3 s t _ r hi =>
    intro k r' h
    cases k with
    | zero => exact Option.some.inj h ▸ ⟨congrArg _ (iterate_spec hi).pre, (iterate_spec hi).iteration⟩
    | succ k => cases h
  | case4 s t ts r hi _ o ih =>
    intro k r' h
    have hpre := (iterate_spec hi).pre
    have hit := (iterate_spec hi).iteration
    cases k with
    | zero => exact Option.some.inj h ▸ ⟨congrArg _ hpre, hit⟩
    | succ k =>
      obtain ⟨j1, j2⟩ := ih k r' h
      rw [j1, j2, hit]
      omega

theorem run_done_last (c : Config α) : ∀ (ts : List (List (Draw α))) (s : State α), (run c s ts).status = .done →
    ∃ r, (run c s ts).recs.getLast? = some r ∧ r.stop = true ∧ (run c s ts).final = r.post ∧
      ∀ r' ∈ (run c s ts).recs.dropLast, r'.stop = false := by
  intro ts s
  fun_induction run c s ts with
  | case1 | case2 => exact fun h => by cases h
  | case3 s t _ r hi hs => exact fun _ => ⟨r, rfl, hs, rfl, fun _ h => by cases h⟩
  | case4 s t ts r hi hs o ih =>
    intro h
    obtain ⟨r1, g1, g2, g3, g4⟩ := ih h
    have hne : o.recs ≠ [] := fun he => by rw [he] at g1; cases g1
    refine ⟨r1, (List.getLast?_cons_of_ne_nil hne).trans g1, g2, g3, fun r' hr' => ?_⟩
    rw [List.dropLast_cons_of_ne_nil hne] at hr'
    exact (List.mem_cons.mp hr').elim (· ▸ Bool.eq_false_iff.mpr hs) (g4 r')

/-- **return values**: `average_efficiency` is the mean of the FINAL step sizes — those adapted after the last step, which no
    step of this run has used — over `sigma_0`; `average_acceptance` is the mean acceptance probability of the LAST step;
    `iteration` and `n_calls` are the counters -/
theorem C03_run_result (c : Config α) (s : State α) (ts : List (List (Draw α))) (hd : (run c s ts).status = .done) :
    ∃ r, (run c s ts).recs.getLast? = some r ∧ r.stop = true ∧ (run c s ts).final = r.post ∧
      (result c (run c s ts).final).efficiency
        = Sc.div (mean (adaptAll (stepInput c r.pre.sigmas r.pre r.tape) (r.outs.map (·.alpha)))) (Model.KernelRun.sigma0 c.nDim) ∧
      (result c (run c s ts).final).acceptance = mean (r.outs.map (·.alpha)) ∧
      (result c (run c s ts).final).u = r.outs.map (·.newU) ∧
      (result c (run c s ts).final).iteration = r.post.iteration ∧ (result c (run c s ts).final).nCalls = r.post.nCalls := by
  obtain ⟨r, h1, h2, h3, -⟩ := run_done_last c ts s hd
  obtain ⟨-, -, -, hsig, hu, hal⟩ := C03_run_pass_is_runStep c s ts r (List.mem_of_getLast? h1)
  refine ⟨r, h1, h2, h3, ?_, ?_, ?_, ?_, ?_⟩ <;> simp [result, h3, hsig, hal, hu]

/-- the step of every pass can be executed (no IndexError): the step-size vector has one entry per mode and every assignment
    is a mode index -/
def RunValid (c : Config α) (s : State α) : Prop := s.sigmas.length = c.modes.length ∧ ∀ a ∈ s.assign, a < c.modes.length

theorem iterate_some_of_valid (c : Config α) (s : State α) (t : List (Draw α)) (h : RunValid c s) :
    ∃ r, iterate c s t = some r := by
  have hm : ∃ outs, (stepInput c s.sigmas s t).walkers.mapM (walkerStep (stepInput c s.sigmas s t)) = some outs := by
    apply Lemmas.OptionList.mapM_some_of_forall
    intro w hw
    have ha : w.assign < c.modes.length := h.2 _ (run_mem_walkers _ _ _ _ w hw).2
    have h1 : (stepInput c s.sigmas s t).modes[w.assign]? = some (c.modes[w.assign]) := by
      simp [stepInput, ha]
    have h2 : (stepInput c s.sigmas s t).sigmas[w.assign]? = some (s.sigmas[w.assign]'(by rw [h.1]; exact ha)) := by
      simp [stepInput, h.1, ha]
    exact ⟨_, (congrArg (Option.map step) ((walkerInput_eq_some _ w _).mpr ⟨_, _, h1, h2, rfl⟩)).trans rfl⟩
  obtain ⟨outs, ho⟩ := hm
  have hrun := (runStep_eq_some (stepInput c s.sigmas s t) outs _).mpr ⟨ho, rfl⟩
  unfold iterate
  rw [hrun]
  exact ⟨_, rfl⟩

theorem valid_post (c : Config α) (s : State α) (t : List (Draw α)) (r : IterRec α) (h : RunValid c s)
    (hi : iterate c s t = some r) : RunValid c r.post := by
  refine ⟨?_, by rw [(iterate_spec hi).assign]; exact h.2⟩
  rw [((runStep_eq_some _ _ _).mp (iterate_spec hi).step).2, C03_adapt_length]
  exact h.1

end Counters

section Stop

theorem adaptiveSteps_real (nS nD nM : ℕ) (acc ws s0 : ℝ) :
    Model.KernelRun.adaptiveSteps nS nD nM acc ws s0
      = ((⌊min (max ((nS * nD : ℕ) : ℝ) (adaptiveRaw nS nD acc ws s0)) ((nM * nD : ℕ) : ℝ)⌋ : ℤ) : ℝ) := by
  simp only [Model.KernelRun.adaptiveSteps, boundedSteps, sc_real]

theorem stop_of_iter_ge (c : Config ℝ) (s : State ℝ) (t : List (Draw ℝ)) (r : IterRec ℝ) (h : iterate c s t = some r)
    (hge : c.nMax * c.nDim ≤ s.iteration + 1) : r.stop = true := by
  rw [(iterate_spec h).stop, (iterate_spec h).steps, ← Model.Steps.converged_eq_kernelRun]
  exact Model.Steps.converged_of_cap hge

theorem iter_ge_of_stop (c : Config ℝ) (s : State ℝ) (t : List (Draw ℝ)) (r : IterRec ℝ) (h : iterate c s t = some r)
    (hst : r.stop = true) : min (c.nSteps * c.nDim) (c.nMax * c.nDim) ≤ s.iteration + 1 := by
  rw [(iterate_spec h).stop, (iterate_spec h).steps, ← Model.Steps.converged_eq_kernelRun] at hst
  exact Model.Steps.lo_of_converged hst

theorem continue_lt_fuelBound {c : Config ℝ} {s : State ℝ} {t : List (Draw ℝ)} {r : IterRec ℝ} (hi : iterate c s t = some r)
    (hs : ¬ r.stop = true) : r.post.iteration < fuelBound c := by
  rw [(iterate_spec hi).iteration]
  exact lt_of_lt_of_le (Nat.lt_of_not_le fun hge => hs (stop_of_iter_ge c s t r hi hge)) (Nat.le_max_right _ _)

/-- **upper bound on the number of iterations, for every tape**: a runner started below `max(1, n_max*n_dim)` never counts
    beyond it -/
theorem C03_run_iteration_upper (c : Config ℝ) : ∀ (ts : List (List (Draw ℝ))) (s : State ℝ),
    s.iteration < fuelBound c → (run c s ts).final.iteration ≤ fuelBound c := by
  intro ts s
  fun_induction run c s ts with
  | case1 | case2 => exact Nat.le_of_lt
  | case3 s t _ r hi => exact fun h => (iterate_spec hi).iteration ▸ h
  | case4 s t _ r hi hs _ ih => exact fun _ => ih (continue_lt_fuelBound hi hs)

/-- **lower bounds**: when the stopping rule fired, at least one pass was executed and the counter reached
    `min(n_steps, n_max) * n_dim` -/
theorem C03_run_iteration_lower (c : Config ℝ) : ∀ (ts : List (List (Draw ℝ))) (s : State ℝ),
    (run c s ts).status = .done →
    s.iteration + 1 ≤ (run c s ts).final.iteration ∧
    min (c.nSteps * c.nDim) (c.nMax * c.nDim) ≤ (run c s ts).final.iteration := by
  intro ts s h
  obtain ⟨r, hlast, hstop, hfin, -⟩ := run_done_last c ts s h
  have hmem := List.mem_of_getLast? hlast
  have hr := run_recs_iterate c s ts r hmem
  rw [hfin, (iterate_spec hr).iteration]
  refine ⟨?_, iter_ge_of_stop c _ _ r hr hstop⟩
  obtain ⟨k, hk⟩ := List.getElem?_of_mem hmem
  rw [(C03_run_iteration_numbers c ts s k r hk).1]
  omega

/-- **fuel is never the reason the model loop stops**: with at least `max(1, n_max*n_dim)` tapes (counted from the current
    iteration) the run does not end by exhausting them -/
theorem C03_run_fuel_suffices (c : Config ℝ) : ∀ (ts : List (List (Draw ℝ))) (s : State ℝ),
    s.iteration < fuelBound c → fuelBound c ≤ s.iteration + ts.length → (run c s ts).status ≠ .outOfTape := by
  intro ts s
  fun_induction run c s ts with
  | case1 => exact fun h1 h2 => absurd h2 (Nat.not_le_of_lt h1)
  | case2 | case3 => exact fun _ _ => nofun
  | case4 s t ts r hi hs _ ih =>
    intro _ h2
    refine ih (continue_lt_fuelBound hi hs) ?_
    rw [(iterate_spec hi).iteration, Nat.add_right_comm]
    exact h2

theorem C03_run_done (c : Config ℝ) : ∀ (ts : List (List (Draw ℝ))) (s : State ℝ), RunValid c s →
    s.iteration < fuelBound c → fuelBound c ≤ s.iteration + ts.length → (run c s ts).status = .done := by
  intro ts s
  fun_induction run c s ts with
  | case1 => exact fun _ h1 h2 => absurd h2 (Nat.not_le_of_lt h1)
  | case2 s t _ hi => exact fun hv => absurd hi (by obtain ⟨r, hr⟩ := iterate_some_of_valid c s t hv; rw [hr]; nofun)
  | case3 => exact fun _ _ _ => rfl
  | case4 s t ts r hi hs _ ih =>
    intro hv _ h2
    refine ih (valid_post c s t r hv hi) (continue_lt_fuelBound hi hs) ?_
    rw [(iterate_spec hi).iteration, Nat.add_right_comm]
    exact h2

theorem C03_run_fuel_irrelevant {α : Type} [ScT α] (c : Config α) (more : List (List (Draw α))) :
    ∀ (ts : List (List (Draw α))) (s : State α), (run c s ts).status ≠ .outOfTape → run c s (ts ++ more) = run c s ts := by
  intro ts s
  fun_induction run c s ts with
  | case1 => exact fun h => absurd rfl h
  | case2 s t ts hi => exact fun _ => by rw [List.cons_append, run, hi]
  | case3 s t ts r hi hs => exact fun _ => by rw [List.cons_append, run, hi]; exact if_pos hs
  | case4 s t ts r hi hs _ ih =>
    intro h
    rw [List.cons_append, run, hi]
    show (if r.stop = true then _ else _) = _
    rw [if_neg hs, ih h]

/-- **the exact picture for a freshly constructed runner** (`iteration = 0`): the run ends by its own rule after `T` passes with
    `max(1, min(n_steps, n_max)·n_dim) ≤ T ≤ max(1, n_max·n_dim)`; in particular `T = max(1, n_max·n_dim)` exactly whenever
    `n_max ≤ n_steps` (the maximum bound wins over the minimum bound) -/
theorem C03_run_iteration_bounds (c : Config ℝ) (s : State ℝ) (ts : List (List (Draw ℝ))) (hv : RunValid c s)
    (h0 : s.iteration = 0) (hfuel : fuelBound c ≤ ts.length) :
    (run c s ts).status = .done ∧
    (run c s ts).final.iteration = (run c s ts).recs.length ∧
    1 ≤ (run c s ts).final.iteration ∧
    min (c.nSteps * c.nDim) (c.nMax * c.nDim) ≤ (run c s ts).final.iteration ∧
    (run c s ts).final.iteration ≤ fuelBound c ∧
    (c.nMax ≤ c.nSteps → (run c s ts).final.iteration = fuelBound c) := by
  have hpos : s.iteration < fuelBound c := by rw [h0]; exact Nat.lt_of_lt_of_le Nat.zero_lt_one (Nat.le_max_left _ _)
  have hd := C03_run_done c ts s hv hpos (by omega)
  obtain ⟨l1, l2⟩ := C03_run_iteration_lower c ts s hd
  have hu := C03_run_iteration_upper c ts s hpos
  have hlen : (run c s ts).final.iteration = (run c s ts).recs.length := by
    rw [run_iteration_count, h0, Nat.zero_add]
  refine ⟨hd, hlen, by omega, l2, hu, ?_⟩
  intro hle
  have hmul : c.nMax * c.nDim ≤ c.nSteps * c.nDim := Nat.mul_le_mul_right _ hle
  have hmin : min (c.nSteps * c.nDim) (c.nMax * c.nDim) = c.nMax * c.nDim := Nat.min_eq_right hmul
  rw [hmin] at l2
  have : fuelBound c ≤ (run c s ts).final.iteration := Nat.max_le.mpr ⟨by omega, l2⟩
  omega

end Stop

/-! ## 7. everything together, from the arguments of `parallel_mcmc`; non-vacuity -/

section Whole

/-- **the whole call `parallel_mcmc(…)`** for any `sample`, any tapes: for arguments as the pipeline provides them (at least
    one dimension, every assignment a mode index, all points in the cube, consistent shapes) and enough tapes, the run ends by
    its own stopping rule after between 1 and `max(1, n_max·n_dim)` passes; at EVERY pass the assignments are the input's, the
    points lie in the cube, the tpCN step sizes lie in `[0, min(σ₀, 0.99)] ⊂ [0, 1)`, the pass is one `runStep` with the step
    sizes it is handed; afterwards `iteration = #passes`, `n_calls = #passes × n_walkers`. -/
theorem C03_run_whole (sample : String) (a : Args ℝ) (ts : List (List (Draw ℝ))) (n : ℕ)
    (hd : 1 ≤ shapeDim a.x) (hassign : ∀ k ∈ a.assign, k < a.modes.length)
    (hcube : ∀ u ∈ a.u, Model.Boundary.checkBounds a.per a.refl u = true)
    (hwf : a.u.length = n ∧ a.x.length = n ∧ a.logl.length = n ∧ a.assign.length = n)
    (hts : ∀ t ∈ ts, t.length = n) (hfuel : max 1 (a.nMax * shapeDim a.x) ≤ ts.length) :
    (parallelMcmc sample a ts).2.status = .done ∧
    (parallelMcmc sample a ts).2.final.assign = a.assign ∧
    (∀ r ∈ (parallelMcmc sample a ts).2.recs,
        r.pre.assign = a.assign ∧ RunInCube (parallelMcmc sample a ts).1 r.pre ∧ RunInCube (parallelMcmc sample a ts).1 r.post ∧
        ((parallelMcmc sample a ts).1.kind = .tpcn → ∀ sg ∈ r.pre.sigmas, 0 ≤ sg ∧ sg ≤ 99 / 100) ∧
        runStep (stepInput (parallelMcmc sample a ts).1 r.pre.sigmas r.pre r.tape) = some (r.outs, r.post.sigmas)) ∧
    (parallelMcmc sample a ts).2.final.iteration = (parallelMcmc sample a ts).2.recs.length ∧
    (parallelMcmc sample a ts).2.final.nCalls = (parallelMcmc sample a ts).2.recs.length * n ∧
    1 ≤ (parallelMcmc sample a ts).2.recs.length ∧
    (parallelMcmc sample a ts).2.recs.length ≤ max 1 (a.nMax * shapeDim a.x) := by
  -- `construct` is a record of its arguments: what the hypotheses say of `a` they say of the constructed runner
  set c := (construct (dispatch sample) a).1
  set s := (construct (dispatch sample) a).2
  show (run c s ts).status = .done ∧ (run c s ts).final.assign = a.assign ∧ (∀ r ∈ (run c s ts).recs, _) ∧
    (run c s ts).final.iteration = (run c s ts).recs.length ∧ (run c s ts).final.nCalls = (run c s ts).recs.length * n ∧
    1 ≤ (run c s ts).recs.length ∧ (run c s ts).recs.length ≤ max 1 (a.nMax * shapeDim a.x)
  obtain ⟨b1, b2, b3, -, b5, -⟩ := C03_run_iteration_bounds c s ts ⟨List.length_replicate, hassign⟩ rfl hfuel
  obtain ⟨a1, a2⟩ := C03_run_assignments_fixed c s ts
  obtain ⟨-, q2⟩ := C03_run_stays_in_cube c s ts hcube
  obtain ⟨-, n2, -⟩ := C03_run_counters c n ts s hwf hts
  refine ⟨b1, a1, fun r hr => ?_, b2, n2.trans (Nat.zero_add _), b2 ▸ b3, b2 ▸ b5⟩
  refine ⟨(a2 r hr).1, (q2 r hr).1, (q2 r hr).2, fun hk sg hsg => ?_, (C03_run_pass_is_runStep c s ts r hr).1⟩
  have hrange := ((C03_run_tpcn_sigma_range c s ts hk hd ((C03_run_init_sigmas _ a hd).2.1 hk).1).2 r hr).1 sg hsg
  exact ⟨hrange.1, hrange.2.trans (sigmaCap_pos c hd).2⟩

/-- **what `_calculate_adaptive_steps` averages (suspected defect, affects only the NUMBER of steps)**: the populations of the
    non-empty clusters are paired with the FIRST m step sizes, not with the step sizes of those clusters.  With two modes and
    every walker in mode 1 the "weighted average" is the step size of the EMPTY mode 0 (which is never adapted), whatever mode 1's
    step size is; with three modes and mode 1 empty, mode 2's population weighs mode 1's step size. -/
theorem C03_run_weighted_sigma_pairing (a b e : ℝ) :
    weightedSigma [a, b] (clusterSizes 2 [1, 1, 1, 1]) = a ∧
    weightedSigma [a, b, e] (clusterSizes 3 [0, 0, 0, 2]) = (a * 3 + b * 1) / 4 := by
  constructor
  · have : clusterSizes 2 [1, 1, 1, 1] = [4] := by decide
    rw [this]
    simp [weightedSigma, ScReal.sum_def]
  · have : clusterSizes 3 [0, 0, 0, 2] = [3, 1] := by decide
    rw [this]
    simp [weightedSigma, ScReal.sum_def]
    norm_num

noncomputable def exRunArgs : Args ℝ :=
  { u := [[2/5], [7/10], [1]], x := [[2/5], [7/10], [1]], logl := [0, -1, -2], assign := [1, 0, 1], beta := 1 / 2,
    modes := exModes, nSteps := 3, nMax := 2, per := [], refl := [] }

theorem exRunArgs_cube : ∀ u ∈ exRunArgs.u, Model.Boundary.checkBounds exRunArgs.per exRunArgs.refl u = true := by
  intro u hu
  rw [Model.Boundary.checkBounds_iff_real]
  simp only [exRunArgs, List.mem_cons, List.not_mem_nil, or_false] at hu
  rcases hu with rfl | rfl | rfl <;> intro i hi _ _ <;>
    (have : i = 0 := by simpa using hi) <;> subst this <;> norm_num

section TwoPasses
variable (sample : String) (t1 t2 : List (Draw ℝ))

-- the tape lengths are not needed: the count of passes does not depend on them
set_option linter.unusedVariables false in
/-- `n_max = 2 ≤ n_steps = 3`, one dimension: for EVERY tape and both kernels the run of `exRunArgs` ends by the stopping rule
    after exactly `max(1, n_max·n_dim) = 2` passes (the case `n_max ≤ n_steps` of `C03_run_iteration_bounds`) -/
theorem exRun_two_passes (h1 : t1.length = 3) (h2 : t2.length = 3) :
    (run (construct (dispatch sample) exRunArgs).1 (construct (dispatch sample) exRunArgs).2 [t1, t2]).status = .done ∧
    (run (construct (dispatch sample) exRunArgs).1 (construct (dispatch sample) exRunArgs).2 [t1, t2]).recs.length = 2 := by
  obtain ⟨b1, b2, -, -, -, b6⟩ := C03_run_iteration_bounds (construct (dispatch sample) exRunArgs).1
    (construct (dispatch sample) exRunArgs).2 [t1, t2] ⟨List.length_replicate, (by decide : ∀ a ∈ [1, 0, 1], a < 2)⟩ rfl (Nat.le_refl 2)
  exact ⟨b1, b2 ▸ b6 (by decide : 2 ≤ 3)⟩

end TwoPasses

/-- two modes of different dof, a point on the cube face: the hypotheses of `C03_run_whole` instantiated, conclusion not
    vacuous (two records) -/
example (sample : String) (t1 t2 : List (Draw ℝ)) (h1 : t1.length = 3) (h2 : t2.length = 3) :
    (parallelMcmc sample exRunArgs [t1, t2]).2.status = .done ∧ (parallelMcmc sample exRunArgs [t1, t2]).2.recs.length = 2 ∧
    (parallelMcmc sample exRunArgs [t1, t2]).2.final.nCalls = 6 ∧
    (parallelMcmc sample exRunArgs [t1, t2]).2.final.assign = [1, 0, 1] := by
  obtain ⟨w1, w2, -, -, w5, -⟩ := C03_run_whole sample exRunArgs [t1, t2] 3 (by decide) (by decide) exRunArgs_cube
    ⟨rfl, rfl, rfl, rfl⟩ (fun t ht => by rcases List.mem_pair.mp ht with rfl | rfl <;> assumption) (Nat.le_refl 2)
  have hlen := (exRun_two_passes sample t1 t2 h1 h2).2
  exact ⟨w1, hlen, w5.trans (congrArg (· * 3) hlen), w2⟩

/-- the range invariant's hypothesis holds for the constructed tpCN runner, with a value strictly inside `(0, 0.99]` -/
example : ∀ sg ∈ (construct Kind.tpcn exRunArgs).2.sigmas, 0 < sg ∧ sg ≤ 99 / 100 :=
  ((C03_run_init_sigmas Kind.tpcn exRunArgs (by simp [exRunArgs, shapeDim])).2.1 rfl).2

/-- diminishing adaptation is not vacuous: a concrete adaptation at iteration 1 from σ = 0.5 with mean acceptance 1 moves by
    exactly `0.766/2`, the bound; clipped at the cap it moves less -/
example : |adaptOne Kind.rwm (1/2 : ℝ) 1 1 (238/100) - 1/2| = 766 / 1000 / (1 + 1) ∧
    |adaptOne Kind.tpcn (9/10 : ℝ) 1 1 (238/100) - 9/10| ≤ 766 / 1000 / (1 + 1) ∧
    adaptOne Kind.tpcn (9/10 : ℝ) 1 1 (238/100) = 99 / 100 := by
  refine ⟨?_, adapt_move_bound Kind.tpcn (9/10) 1 1 (238/100) (by norm_num) (by norm_num) (by norm_num)
    (fun _ => ⟨by norm_num, by norm_num [min_def]⟩), ?_⟩
  · rw [adaptOne, rwmAdapt, model_adaptRaw]; norm_num
  · rw [adaptOne, model_tpcnAdapt, model_adaptRaw]; norm_num [min_def, max_def]

noncomputable def exRunOutside : StepIn ℝ :=
  { kind := .rwm, u := [2/5], mu := [0], chol := [[1]], invcov := [[1]], nu := 1, sigma := 238/100,
    beta := 1, l := 0, lp := 5, g := 1, r := 0, z := [1], per := [], refl := [] }

/-- rejection rule on a concrete RWM walker: σ·L·z = 2.38·1·1 carries 0.4 to 2.78, outside the cube: alpha 0, point kept -/
example : (step exRunOutside).inb = false ∧ (step exRunOutside).alpha = 0 ∧ (step exRunOutside).newU = [2/5] := by
  have hinb : (step exRunOutside).inb = false := by
    rw [(C03_run_hard_reject_rule _).1]
    simp only [exRunOutside, step, finish, Model.Boundary.apply, List.foldl_nil, rwmProposal, vadd, matVec, scaleMat, dotv,
      List.map_cons, List.map_nil, List.zipWith_cons_cons, List.zipWith_nil_right, ScReal.sum_def, List.sum_cons, List.sum_nil,
      ScReal.mul_def, ScReal.add_def]
    rw [Bool.eq_false_iff, Ne, Model.Boundary.checkBounds_iff_real]
    intro h
    have := h 0 (by simp) (by simp) (by simp)
    norm_num at this
  exact ⟨hinb, (C03_run_hard_reject_real _ hinb).2.1, (C03_run_hard_reject_real _ hinb).2.2.2.1⟩

/-- the stopping rule on concrete numbers: `n_steps = 2, n_dim = 3, n_max = 10`, acceptance 0.234, weighted σ = σ₀ gives
    exactly the minimum `n_steps·n_dim = 6`; acceptance 0.0585 (a quarter) gives 24; both are capped by `n_max·n_dim = 30` -/
example : Model.KernelRun.adaptiveSteps 2 3 10 (234/1000 : ℝ) (5 : ℝ) 5 = 6 ∧
    Model.KernelRun.adaptiveSteps 2 3 10 (585/10000 : ℝ) (5 : ℝ) 5 = 24 ∧
    Model.KernelRun.adaptiveSteps 2 3 10 (1/1000 : ℝ) (5 : ℝ) 5 = 30 := by
  refine ⟨?_, ?_, ?_⟩ <;> rw [adaptiveSteps_real] <;>
    simp only [adaptiveRaw, sc_real] <;>
    norm_num [Int.floor_eq_iff, max_def, min_def]

section Handover
variable (sample : String) (t1 t2 : List (Draw ℝ))

/-- hand-over between the two passes: the second pass starts from exactly what the first one left (step sizes included) -/
example (h1 : t1.length = 3) (h2 : t2.length = 3) :
    ∃ r0 r1, (run (construct (dispatch sample) exRunArgs).1 (construct (dispatch sample) exRunArgs).2 [t1, t2]).recs = [r0, r1] ∧
      r1.pre = r0.post ∧ r1.pre.sigmas = adaptAll (stepInput (construct (dispatch sample) exRunArgs).1 r0.pre.sigmas r0.pre r0.tape)
        (r0.outs.map (·.alpha)) ∧ r0.stop = false ∧ r1.stop = true := by
  obtain ⟨hd, hlen⟩ := exRun_two_passes sample t1 t2 h1 h2
  set c := (construct (dispatch sample) exRunArgs).1
  set s := (construct (dispatch sample) exRunArgs).2
  obtain ⟨r0, r1, hrecs⟩ : ∃ r0 r1, (run c s [t1, t2]).recs = [r0, r1] := by
    match h : (run c s [t1, t2]).recs, hlen with
    | [a, b], _ => exact ⟨a, b, rfl⟩
  have hand := (C03_run_sigma_handoff c s [t1, t2]).2 0 (by rw [hlen]; decide)
  simp only [hrecs, List.getElem_cons_zero, List.getElem_cons_succ, Nat.zero_add] at hand
  have hp := (C03_run_pass_is_runStep c s [t1, t2] r0 (by rw [hrecs]; simp)).2.2.2.1
  obtain ⟨rl, g1, g2, -, g4⟩ := run_done_last c [t1, t2] s hd
  rw [hrecs] at g1 g4
  simp at g1 g4
  exact ⟨r0, r1, hrecs, hand, by rw [hand]; exact hp, g4, by rw [g1]; exact g2⟩

/-- the return values of that run are those of its last pass; more tapes than the two needed change nothing -/
example (h1 : t1.length = 3) (h2 : t2.length = 3) (more : List (List (Draw ℝ))) :
    (∃ r, (run (construct (dispatch sample) exRunArgs).1 (construct (dispatch sample) exRunArgs).2 [t1, t2]).recs.getLast? = some r ∧
      (result (construct (dispatch sample) exRunArgs).1
        (run (construct (dispatch sample) exRunArgs).1 (construct (dispatch sample) exRunArgs).2 [t1, t2]).final).acceptance
        = mean (r.outs.map (·.alpha))) ∧
    run (construct (dispatch sample) exRunArgs).1 (construct (dispatch sample) exRunArgs).2 ([t1, t2] ++ more)
      = run (construct (dispatch sample) exRunArgs).1 (construct (dispatch sample) exRunArgs).2 [t1, t2] := by
  obtain ⟨hd, -⟩ := exRun_two_passes sample t1 t2 h1 h2
  obtain ⟨r, g1, -, -, -, g5, -⟩ := C03_run_result _ _ [t1, t2] hd
  exact ⟨⟨r, g1, g5⟩, C03_run_fuel_irrelevant _ more [t1, t2] _ (by rw [hd]; decide)⟩

/-- two walkers of the same cluster are handed the same step size (walkers 0 and 2 of the example are both in cluster 1) -/
example (sg : List ℝ) (s : State ℝ) (t : List (Draw ℝ)) (w0 w2 : Walker ℝ) (si0 si2 : StepIn ℝ) (c : Config ℝ)
    (ha : w0.assign = w2.assign) (h0 : walkerInput (stepInput c sg s t) w0 = some si0)
    (h2 : walkerInput (stepInput c sg s t) w2 = some si2) : si0.sigma = si2.sigma := by
  have a := C03_run_walker_sigma c sg s t w0 si0 h0
  have b := C03_run_walker_sigma c sg s t w2 si2 h2
  rw [ha] at a
  rw [a] at b
  exact Option.some.inj b

end Handover

end Whole

end Props.C03
