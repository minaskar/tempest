import TempestVerif.Model.Student
import TempestVerif.Lemmas.Maha
import Mathlib.LinearAlgebra.Matrix.PosDef
import Mathlib.Analysis.Matrix.Order
import Mathlib.Algebra.Order.Star.Real
import Mathlib.LinearAlgebra.Matrix.NonsingularInverse
import TempestVerif.Lemmas.Scatter
import Mathlib.Algebra.BigOperators.Fin
/-
  C19 — the Student-t proposal fit (`tempest/student.py: fit_mvstud`, `tempest/modes.py`) is well-posed and
  equivariant.

  Objects: exact real arithmetic, Mathlib matrices (`Matrix (Fin d) (Fin d) ℝ`), data `x : Fin n → Fin d → ℝ`.
  The definitions below (`delta`, `weight`, `wts`, `sigmaNext`, `muNext`, `update`, `loop`, `init`, `fitTrace`, `fit`)
  are the matrix form of the executable list twin `Model/Student.lean` (same formulas, same control flow; the twin is
  what the correspondence check runs against the Python).  That the twin at `ℝ` computes exactly this matrix form, with no
  hypothesis left, is `C19_twin_fit` in `Props/C19Twin.lean` (the twin's Gauss–Jordan inverse IS the inverse on positive
  definite matrices: `Lemmas/GaussJordan.lean`).  `np.linalg.solve(Σ, v)` is `Σ⁻¹ v`.

  Uninterpreted, with the hypotheses used stated where they are used:
  * `optNu : (Fin n → ℝ) → NuAns` — `opt_nu` (scipy `psi` + `bisect` on `[1e-300, 1e6]`): a value, `inf` (early
    return) or `fail` (`bisect` raising `ValueError`, which the loop catches); only its dependence on the `δ`'s is
    used, plus `hopt : optNu δ = .val ν → 0 < ν` (the bracket is positive) wherever positivity of the weights is
    needed.  `ν ∈ (0, ∞]` is therefore a property of the *assumed* contract of scipy's bisection (returns a point
    of its bracket), not proved about scipy.
  * the exits added in commit 3acbd02 are modelled in exact arithmetic: `np.linalg.solve` raises iff `Σ` is
    singular (`¬ IsUnit Σ.det`) → stop before any update; `np.linalg.cholesky(new_Σ)` raises iff `new_Σ` is not
    positive definite → stop, keeping the previous `(μ, Σ, ν)`.  Consequently the well-posedness and equivariance
    theorems hold for EVERY data set with `n ≥ 2` (degenerate ones included); non-degeneracy is only needed for
    "positive definite, always".
  * `med : (Fin n → ℝ) → ℝ` — `np.median` of one coordinate, with `med (a·f + c) = a·med f + c` (true of the
    median for every real `a`, also negative: the order statistics reverse and the middle one / the mean of
    the two middle ones is preserved) and `min f ≤ med f ≤ max f`.

  NOT provable here: the clause "recovers the generating parameters of large t-distributed samples"
  (statistical consistency of the maximum-likelihood estimator; it needs the law of the sample and the
  behaviour of scipy's root finder) — covered only by a fixed-seed regression witness and a loose sanity
  check in the harness.  IEEE rounding is bridged by the correspondence check, not here.
-/
namespace Props.C19
open Matrix Lemmas.Maha
variable {d n : ℕ}

def aff (A : Matrix (Fin d) (Fin d) ℝ) (b : Fin d → ℝ) (x : Fin n → Fin d → ℝ) : Fin n → Fin d → ℝ :=
  fun i => A *ᵥ x i + b

noncomputable def delta (x : Fin n → Fin d → ℝ) (μ : Fin d → ℝ) (S : Matrix (Fin d) (Fin d) ℝ) (i : Fin n) : ℝ :=
  maha S (x i - μ)

noncomputable def weight (d : ℕ) (ν δ : ℝ) : ℝ := (ν + d) / (ν + δ)

noncomputable def sigmaNext (x : Fin n → Fin d → ℝ) (μ : Fin d → ℝ) (w : Fin n → ℝ) : Matrix (Fin d) (Fin d) ℝ :=
  (1 / (n : ℝ)) • ∑ i, w i • vecMulVec (x i - μ) (x i - μ)

noncomputable def muNext (x : Fin n → Fin d → ℝ) (w : Fin n → ℝ) : Fin d → ℝ :=
  (∑ i, w i)⁻¹ • ∑ i, w i • x i

theorem sigmaNext_eq_scatter (x : Fin n → Fin d → ℝ) (μ : Fin d → ℝ) (w : Fin n → ℝ) :
    sigmaNext x μ w = (1 / (n : ℝ)) • Lemmas.Scatter.scatter w fun i => x i - μ := rfl

theorem aff_sub (A : Matrix (Fin d) (Fin d) ℝ) (b μ : Fin d → ℝ) (x : Fin n → Fin d → ℝ) (i : Fin n) :
    aff A b x i - (A *ᵥ μ + b) = A *ᵥ (x i - μ) := by
  rw [aff, mulVec_sub, add_sub_add_right_eq_sub]

theorem C19_delta_affine_invariant (A S : Matrix (Fin d) (Fin d) ℝ) (b μ : Fin d → ℝ) (x : Fin n → Fin d → ℝ)
    (hA : IsUnit A.det) (i : Fin n) :
    delta (aff A b x) (A *ᵥ μ + b) (A * S * Aᵀ) i = delta x μ S i := by
  unfold delta
  rw [aff_sub, maha_affine A S _ hA]

theorem sigmaNext_aff (A : Matrix (Fin d) (Fin d) ℝ) (b μ : Fin d → ℝ) (x : Fin n → Fin d → ℝ) (w : Fin n → ℝ) :
    sigmaNext (aff A b x) (A *ᵥ μ + b) w = A * sigmaNext x μ w * Aᵀ := by
  simp only [sigmaNext_eq_scatter, aff_sub, Lemmas.Scatter.scatter_map_mulVec, Matrix.mul_smul, Matrix.smul_mul]

theorem muNext_aff (A : Matrix (Fin d) (Fin d) ℝ) (b : Fin d → ℝ) (x : Fin n → Fin d → ℝ) (w : Fin n → ℝ)
    (hw : ∑ i, w i ≠ 0) :
    muNext (aff A b x) w = A *ᵥ muNext x w + b := by
  unfold muNext aff
  simp only [smul_add, Finset.sum_add_distrib, ← Finset.sum_smul]
  rw [← smul_assoc, smul_eq_mul, inv_mul_cancel₀ hw, one_smul, mulVec_smul, mulVec_sum]
  simp only [mulVec_smul]

/-- the data do not lie in an affine hyperplane `{v · x = c}` -/
def NonDegenerate (x : Fin n → Fin d → ℝ) : Prop :=
  ∀ v : Fin d → ℝ, v ≠ 0 → ∀ c : ℝ, ∃ i, v ⬝ᵥ x i ≠ c

theorem delta_nonneg (x : Fin n → Fin d → ℝ) (μ : Fin d → ℝ) {S : Matrix (Fin d) (Fin d) ℝ} (hS : S.PosDef)
    (i : Fin n) : 0 ≤ delta x μ S i := by
  have := hS.inv.posSemidef.dotProduct_mulVec_nonneg (x i - μ)
  rwa [star_trivial] at this

theorem weight_pos {ν δ : ℝ} (hν : 0 < ν) (hδ : 0 ≤ δ) : 0 < weight d ν δ := by
  unfold weight; positivity

theorem C19_sigma_symm (x : Fin n → Fin d → ℝ) (μ : Fin d → ℝ) (w : Fin n → ℝ) :
    (sigmaNext x μ w).IsSymm := by
  unfold sigmaNext Matrix.IsSymm
  rw [transpose_smul, transpose_sum]
  simp only [transpose_smul, transpose_vecMulVec]

theorem sigmaNext_quadForm (x : Fin n → Fin d → ℝ) (μ : Fin d → ℝ) (w : Fin n → ℝ) (v : Fin d → ℝ) :
    v ⬝ᵥ (sigmaNext x μ w *ᵥ v) = (1 / (n : ℝ)) * ∑ i, w i * (v ⬝ᵥ (x i - μ)) ^ 2 := by
  rw [sigmaNext_eq_scatter, smul_mulVec, dotProduct_smul, Lemmas.Scatter.scatter_quadForm, smul_eq_mul]
  simp only [dotProduct_comm v]

theorem sigmaNext_posSemidef (x : Fin n → Fin d → ℝ) (μ : Fin d → ℝ) (w : Fin n → ℝ) (hw : ∀ i, 0 ≤ w i) :
    (sigmaNext x μ w).PosSemidef :=
  (Lemmas.Scatter.scatter_posSemidef w _ hw).smul (one_div_nonneg.mpr (Nat.cast_nonneg n))

theorem C19_sigma_psd (x : Fin n → Fin d → ℝ) (μ : Fin d → ℝ) (w : Fin n → ℝ) (hw : ∀ i, 0 ≤ w i)
    (v : Fin d → ℝ) : 0 ≤ v ⬝ᵥ (sigmaNext x μ w *ᵥ v) :=
  (sigmaNext_posSemidef x μ w hw).dotProduct_mulVec_nonneg v

theorem C19_sigma_pd (x : Fin n → Fin d → ℝ) (μ : Fin d → ℝ) (w : Fin n → ℝ) (hw : ∀ i, 0 < w i)
    (hx : ∀ v : Fin d → ℝ, v ≠ 0 → ∃ i, v ⬝ᵥ (x i - μ) ≠ 0) : (sigmaNext x μ w).PosDef := by
  refine PosDef.of_dotProduct_mulVec_pos (sigmaNext_posSemidef x μ w fun i => (hw i).le).isHermitian fun v hv => ?_
  obtain ⟨j, hj⟩ := hx v hv
  rw [star_trivial, sigmaNext_quadForm]
  exact mul_pos (one_div_pos.mpr (Nat.cast_pos.mpr (Fin.pos j))) (Finset.sum_pos'
    (fun i _ => mul_nonneg (hw i).le (sq_nonneg _)) ⟨j, Finset.mem_univ j, mul_pos (hw j) (by positivity)⟩)

theorem nonDegenerate_centred {x : Fin n → Fin d → ℝ} (hx : NonDegenerate x) (μ : Fin d → ℝ) :
    ∀ v : Fin d → ℝ, v ≠ 0 → ∃ i, v ⬝ᵥ (x i - μ) ≠ 0 := by
  intro v hv
  obtain ⟨i, hi⟩ := hx v hv (v ⬝ᵥ μ)
  exact ⟨i, by rw [dotProduct_sub]; exact sub_ne_zero.mpr hi⟩

theorem muNext_apply (x : Fin n → Fin d → ℝ) (w : Fin n → ℝ) (a : Fin d) :
    muNext x w a = (∑ i, w i * x i a) / ∑ i, w i := by
  unfold muNext
  rw [Pi.smul_apply, Finset.sum_apply, smul_eq_mul, div_eq_inv_mul]
  rfl

theorem left_le_midpoint_real {u v : ℝ} (h : u ≤ v) : u ≤ (u + v) / 2 :=
  (add_self_div_two u).symm.trans_le (div_le_div_of_nonneg_right (add_le_add le_rfl h) zero_le_two)

theorem midpoint_le_right_real {u v : ℝ} (h : u ≤ v) : (u + v) / 2 ≤ v :=
  (div_le_div_of_nonneg_right (add_le_add h le_rfl) zero_le_two).trans_eq (add_self_div_two v)

theorem mean_box {ι : Type} (f : ι → ℝ) (i j : ι) : ∃ i' j', f i' ≤ (f i + f j) / 2 ∧ (f i + f j) / 2 ≤ f j' := by
  rcases le_total (f i) (f j) with h | h
  · exact ⟨i, j, left_le_midpoint_real h, midpoint_le_right_real h⟩
  · exact ⟨j, i, add_comm (f j) (f i) ▸ left_le_midpoint_real h, add_comm (f j) (f i) ▸ midpoint_le_right_real h⟩

/-- coordinate-wise inside the bounding box of the data -/
def InBox (x : Fin n → Fin d → ℝ) (μ : Fin d → ℝ) : Prop :=
  ∀ a, ∃ i j, x i a ≤ μ a ∧ μ a ≤ x j a

theorem C19_mu_in_bbox (x : Fin n → Fin d → ℝ) (w : Fin n → ℝ) (hw : ∀ i, 0 < w i) (hn : 0 < n) :
    InBox x (muNext x w) := by
  intro a
  have hne : (Finset.univ : Finset (Fin n)).Nonempty := ⟨⟨0, hn⟩, Finset.mem_univ _⟩
  -- `Σ wᵢ xᵢ = Σ wᵢ μ`: some term is at most, and some at least, its counterpart
  have hsum : ∑ i, w i * x i a = ∑ i, w i * muNext x w a := by
    rw [← Finset.sum_mul, muNext_apply, mul_div_cancel₀ _ (Finset.sum_pos (fun i _ => hw i) hne).ne']
  obtain ⟨i, -, hi⟩ := Finset.exists_le_of_sum_le hne hsum.le
  obtain ⟨j, -, hj⟩ := Finset.exists_le_of_sum_le hne hsum.ge
  exact ⟨i, j, le_of_mul_le_mul_left hi (hw i), le_of_mul_le_mul_left hj (hw j)⟩

/-! ### the fuel-indexed loop (`fuel = max_iter − i`), `opt_nu` uninterpreted -/

structure St (d : ℕ) where
  mu : Fin d → ℝ
  sigma : Matrix (Fin d) (Fin d) ℝ

def St.map (A : Matrix (Fin d) (Fin d) ℝ) (b : Fin d → ℝ) (s : St d) : St d :=
  ⟨A *ᵥ s.mu + b, A * s.sigma * Aᵀ⟩

/-- what `opt_nu` does in one iteration -/
inductive NuAns where
  | val (ν : ℝ)
  | inf
  | fail

noncomputable def wts (x : Fin n → Fin d → ℝ) (s : St d) (ν : ℝ) : Fin n → ℝ :=
  fun i => weight d ν (delta x s.mu s.sigma i)

/-- `new_Sigma` / `mu` update of one iteration once the new `ν` is known -/
noncomputable def update (x : Fin n → Fin d → ℝ) (s : St d) (ν : ℝ) : St d :=
  ⟨muNext x (wts x s ν), sigmaNext x s.mu (wts x s ν)⟩

open Classical in
/-- all `(μ, Σ)` iterates (initial one first) and the returned `ν` (`none` = ∞) -/
noncomputable def loop (optNu : (Fin n → ℝ) → NuAns) (tol : ℝ) (x : Fin n → Fin d → ℝ) :
    ℕ → St d → ℝ → ℝ → List (St d) × Option ℝ
  | 0, s, ν, _ => ([s], some ν)
  | k+1, s, ν, lastν =>
    if tol < |lastν - ν| then
      if IsUnit s.sigma.det then                       -- `solve` does not raise
        match optNu (delta x s.mu s.sigma) with
        | .fail => ([s], some ν)                       -- `except ValueError: break`
        | .inf => ([s], none)                          -- early return
        | .val ν' =>
          if (update x s ν').sigma.PosDef then         -- `cholesky(new_Sigma)` succeeds
            let r := loop optNu tol x k (update x s ν') ν' ν
            (s :: r.1, r.2)
          else ([s], some ν)                           -- `nu = last_nu; break`
      else ([s], some ν)                               -- `except LinAlgError: break`
    else ([s], some ν)

theorem loop_succ_cases (optNu : (Fin n → ℝ) → NuAns) (tol : ℝ) (x : Fin n → Fin d → ℝ) (k : ℕ) (s : St d)
    (ν lastν : ℝ) :
    loop optNu tol x (k + 1) s ν lastν = ([s], some ν) ∨ loop optNu tol x (k + 1) s ν lastν = ([s], none) ∨
    ∃ ν', optNu (delta x s.mu s.sigma) = .val ν' ∧ (update x s ν').sigma.PosDef ∧
      loop optNu tol x (k + 1) s ν lastν =
        (s :: (loop optNu tol x k (update x s ν') ν' ν).1, (loop optNu tol x k (update x s ν') ν' ν).2) := by
  rw [loop]
  by_cases hc : tol < |lastν - ν|
  · rw [if_pos hc]
    by_cases hu : IsUnit s.sigma.det
    · rw [if_pos hu]
      cases h : optNu (delta x s.mu s.sigma) with
      | fail => exact Or.inl rfl
      | inf => exact Or.inr (Or.inl rfl)
      | val ν' =>
        by_cases hp : (update x s ν').sigma.PosDef
        · exact Or.inr (Or.inr ⟨ν', rfl, hp, if_pos hp⟩)
        · exact Or.inl (if_neg hp)
    · exact Or.inl (if_neg hu)
  · exact Or.inl (if_neg hc)

theorem delta_aff_eq (A : Matrix (Fin d) (Fin d) ℝ) (b : Fin d → ℝ) (x : Fin n → Fin d → ℝ) (s : St d)
    (hA : IsUnit A.det) :
    delta (aff A b x) (s.map A b).mu (s.map A b).sigma = delta x s.mu s.sigma :=
  funext fun i => C19_delta_affine_invariant A s.sigma b s.mu x hA i

theorem wts_pos (x : Fin n → Fin d → ℝ) (s : St d) (hS : s.sigma.PosDef) {ν : ℝ} (hν : 0 < ν) (i : Fin n) :
    0 < wts x s ν i :=
  weight_pos hν (delta_nonneg x s.mu hS i)

theorem sum_wts_ne_zero (x : Fin n → Fin d → ℝ) (s : St d) (hS : s.sigma.PosDef) {ν : ℝ} (hν : 0 < ν)
    (hn : 0 < n) : ∑ i, wts x s ν i ≠ 0 := by
  have : Nonempty (Fin n) := ⟨⟨0, hn⟩⟩
  exact (Finset.sum_pos (fun i _ => wts_pos x s hS hν i) Finset.univ_nonempty).ne'

theorem isUnit_det_conj (A S : Matrix (Fin d) (Fin d) ℝ) (hA : IsUnit A.det) :
    IsUnit (A * S * Aᵀ).det ↔ IsUnit S.det := by
  have hA' : A.det ≠ 0 := hA.ne_zero
  simp only [det_mul, det_transpose, isUnit_iff_ne_zero, ne_eq, mul_eq_zero, hA', false_or, or_false]

theorem posDef_conj (A S : Matrix (Fin d) (Fin d) ℝ) (hA : IsUnit A.det) :
    (A * S * Aᵀ).PosDef ↔ S.PosDef := by
  have hU : IsUnit A := (Matrix.isUnit_iff_isUnit_det A).mpr hA
  have := Matrix.IsUnit.posDef_star_right_conjugate_iff (x := S) hU
  simpa [star_eq_conjTranspose] using this

theorem update_aff (A : Matrix (Fin d) (Fin d) ℝ) (b : Fin d → ℝ) (x : Fin n → Fin d → ℝ) (s : St d)
    (hA : IsUnit A.det) (hS : s.sigma.PosDef) (hn : 0 < n) {ν' : ℝ} (hν : 0 < ν') :
    update (aff A b x) (s.map A b) ν' = (update x s ν').map A b := by
  have hw : wts (aff A b x) (s.map A b) ν' = wts x s ν' := by
    unfold wts; rw [delta_aff_eq A b x s hA]
  unfold update
  rw [hw]
  simp only [St.map]
  rw [muNext_aff A b x _ (sum_wts_ne_zero x s hS hν hn), sigmaNext_aff]

/-- one iteration commutes with every invertible affine map: the `δ`'s (hence `opt_nu`'s answer) are the same,
    the updated state is the image of the updated state, and both exit tests decide the same -/
theorem C19_step_equivariant (A : Matrix (Fin d) (Fin d) ℝ) (b : Fin d → ℝ)
    (x : Fin n → Fin d → ℝ) (s : St d) (hA : IsUnit A.det) (hS : s.sigma.PosDef) (hn : 0 < n)
    {ν' : ℝ} (hν : 0 < ν') :
    delta (aff A b x) (s.map A b).mu (s.map A b).sigma = delta x s.mu s.sigma ∧
    update (aff A b x) (s.map A b) ν' = (update x s ν').map A b ∧
    (IsUnit (s.map A b).sigma.det ↔ IsUnit s.sigma.det) ∧
    (((update x s ν').map A b).sigma.PosDef ↔ (update x s ν').sigma.PosDef) :=
  ⟨delta_aff_eq A b x s hA, update_aff A b x s hA hS hn hν, isUnit_det_conj A _ hA, posDef_conj A _ hA⟩

theorem C19_loop_equivariant (optNu : (Fin n → ℝ) → NuAns) (tol : ℝ) (A : Matrix (Fin d) (Fin d) ℝ)
    (b : Fin d → ℝ) (x : Fin n → Fin d → ℝ) (hA : IsUnit A.det)
    (hopt : ∀ δ ν, optNu δ = .val ν → 0 < ν) (hn : 0 < n)
    (k : ℕ) (s : St d) (hS : s.sigma.PosDef) (ν lastν : ℝ) :
    loop optNu tol (aff A b x) k (s.map A b) ν lastν =
      ((loop optNu tol x k s ν lastν).1.map (St.map A b), (loop optNu tol x k s ν lastν).2) := by
  induction k generalizing s ν lastν with
  | zero => rfl
  | succ k ih =>
    rw [loop, loop]
    by_cases hc : tol < |lastν - ν|
    · rw [if_pos hc, if_pos hc]
      have hdet : IsUnit (s.map A b).sigma.det ↔ IsUnit s.sigma.det := isUnit_det_conj A _ hA
      by_cases hu : IsUnit s.sigma.det
      · rw [if_pos hu, if_pos (hdet.mpr hu), delta_aff_eq A b x s hA]
        cases h : optNu (delta x s.mu s.sigma) with
        | fail => rfl
        | inf => rfl
        | val ν' =>
          have hup := update_aff A b x s hA hS hn (hopt _ _ h)
          have hpd' : (update (aff A b x) (s.map A b) ν').sigma.PosDef ↔ (update x s ν').sigma.PosDef := by
            rw [hup]; exact posDef_conj A _ hA
          by_cases hp : (update x s ν').sigma.PosDef
          · simp only [if_pos hp, if_pos (hpd'.mpr hp)]
            rw [hup, ih (update x s ν') hp ν' ν]
            rfl
          · simp only [if_neg hp, if_neg (fun h => hp (hpd'.mp h))]
            rfl
      · rw [if_neg hu, if_neg (fun h => hu (hdet.mp h))]
        rfl
    · rw [if_neg hc, if_neg hc]
      rfl

/-- every iterate of the loop — in particular the returned one, whichever exit is taken — has a positive
    definite scale matrix and a location inside the bounding box of the data, if the initial state has
    (no hypothesis on the data: a `new_Σ` that is not positive definite is never accepted) -/
theorem C19_loop_sound (optNu : (Fin n → ℝ) → NuAns) (tol : ℝ) (x : Fin n → Fin d → ℝ)
    (hopt : ∀ δ ν, optNu δ = .val ν → 0 < ν) (hn : 0 < n)
    (k : ℕ) (s : St d) (hS : s.sigma.PosDef) (hμ : InBox x s.mu) (ν lastν : ℝ) :
    ∀ s' ∈ (loop optNu tol x k s ν lastν).1, s'.sigma.PosDef ∧ InBox x s'.mu := by
  induction k generalizing s ν lastν with
  | zero => exact List.forall_mem_singleton.mpr ⟨hS, hμ⟩
  | succ k ih =>
    rcases loop_succ_cases optNu tol x k s ν lastν with h | h | ⟨ν', h1, hp, h⟩ <;> rw [h]
    · exact List.forall_mem_singleton.mpr ⟨hS, hμ⟩
    · exact List.forall_mem_singleton.mpr ⟨hS, hμ⟩
    · exact List.forall_mem_cons.mpr ⟨⟨hS, hμ⟩,
        ih (update x s ν') hp (C19_mu_in_bbox x _ (wts_pos x s hS (hopt _ _ h1)) hn) ν' ν⟩

/-- for non-degenerate data the positive-definiteness exit is never taken: `new_Σ` is always positive definite -/
theorem update_posDef (x : Fin n → Fin d → ℝ) (s : St d) (hS : s.sigma.PosDef) {ν : ℝ} (hν : 0 < ν)
    (hx : NonDegenerate x) : (update x s ν).sigma.PosDef :=
  C19_sigma_pd x s.mu _ (wts_pos x s hS hν) (nonDegenerate_centred hx s.mu)

theorem loop_nu_inv (P : ℝ → Prop) (optNu : (Fin n → ℝ) → NuAns) (tol : ℝ) (x : Fin n → Fin d → ℝ)
    (hopt : ∀ δ ν, optNu δ = .val ν → P ν) (k : ℕ) (s : St d) (ν lastν : ℝ) (hν : P ν) :
    ∀ ν', (loop optNu tol x k s ν lastν).2 = some ν' → P ν' := by
  induction k generalizing s ν lastν with
  | zero => intro ν' h; cases h; exact hν
  | succ k ih =>
    rcases loop_succ_cases optNu tol x k s ν lastν with h | h | ⟨ν1, h1, -, h⟩ <;> rw [h]
    · intro ν' h; cases h; exact hν
    · intro ν' h; cases h
    · exact ih (update x s ν1) ν1 ν (hopt _ _ h1)

/-- the returned degrees of freedom lie in `(0, ∞]` (`none` = ∞) on every exit, given that `opt_nu` answers in
    `(0, ∞]` when it answers (a property of scipy's bisection bracket `[1e-300, 1e6]`, assumed here) -/
theorem C19_nu_range (optNu : (Fin n → ℝ) → NuAns) (tol : ℝ) (x : Fin n → Fin d → ℝ)
    (hopt : ∀ δ ν, optNu δ = .val ν → 0 < ν) (k : ℕ) (s : St d) (ν lastν : ℝ) (hν : 0 < ν) :
    ∀ ν', (loop optNu tol x k s ν lastν).2 = some ν' → 0 < ν' :=
  loop_nu_inv (0 < ·) optNu tol x hopt k s ν lastν hν

theorem loop_ne_nil (optNu : (Fin n → ℝ) → NuAns) (tol : ℝ) (x : Fin n → Fin d → ℝ)
    (k : ℕ) (s : St d) (ν lastν : ℝ) : (loop optNu tol x k s ν lastν).1 ≠ [] := by
  cases k with
  | zero => exact List.cons_ne_nil _ _
  | succ k =>
    rcases loop_succ_cases optNu tol x k s ν lastν with h | h | ⟨ν', -, -, h⟩ <;> rw [h] <;>
      exact List.cons_ne_nil _ _

theorem loop_singular (optNu : (Fin n → ℝ) → NuAns) (tol : ℝ) (x : Fin n → Fin d → ℝ)
    (k : ℕ) (s : St d) (hu : ¬ IsUnit s.sigma.det) (ν lastν : ℝ) :
    loop optNu tol x k s ν lastν = ([s], some ν) := by
  cases k with
  | zero => simp [loop]
  | succ k =>
    unfold loop
    by_cases hc : tol < |lastν - ν|
    · rw [if_pos hc, if_neg hu]
    · rw [if_neg hc]

/-- the returned degrees of freedom are `∞` (`none`), the start value 20, or a value of the bracket: never above `1e6` -/
theorem C19_nu_upper (optNu : (Fin n → ℝ) → NuAns) (tol : ℝ) (x : Fin n → Fin d → ℝ) (B : ℝ)
    (hopt : ∀ δ ν, optNu δ = .val ν → ν ≤ B) (k : ℕ) (s : St d) (ν lastν : ℝ) (hν : ν ≤ B) :
    ∀ ν', (loop optNu tol x k s ν lastν).2 = some ν' → ν' ≤ B :=
  loop_nu_inv (· ≤ B) optNu tol x hopt k s ν lastν hν

/-! ### "return the last valid estimate" (the exits of commit 3acbd02), and what degenerate data do

The loop is a total function: `solve` raising (`¬ IsUnit Σ.det`), `opt_nu` raising `ValueError` and `cholesky(new_Σ)` raising are
exits, not exceptions.  What is returned on each of them is a CONSISTENT triple: -/

/-- **the returned `ν` belongs to the returned `(μ, Σ)`**: either no update was accepted (the state the loop was entered with
    is returned, with the `ν` it was entered with or `∞`), or the returned state is `update x s' ν'` for the state `s'`
    before it and the returned `ν` is that same `ν'` (or `∞`).  In particular after a rejected `new_Σ` the previous `ν` comes
    back with the previous `(μ, Σ)` (`nu = last_nu; break`) — never the rejected candidate's `ν`. -/
theorem C19_last_valid_estimate (optNu : (Fin n → ℝ) → NuAns) (tol : ℝ) (x : Fin n → Fin d → ℝ) (k : ℕ) (s : St d)
    (ν lastν : ℝ) :
    ((loop optNu tol x k s ν lastν).1 = [s] ∧
        ((loop optNu tol x k s ν lastν).2 = some ν ∨ (loop optNu tol x k s ν lastν).2 = none)) ∨
    (∃ (T : List (St d)) (s' : St d) (ν' : ℝ), (loop optNu tol x k s ν lastν).1 = T ++ [s', update x s' ν'] ∧
        ((loop optNu tol x k s ν lastν).2 = some ν' ∨ (loop optNu tol x k s ν lastν).2 = none)) := by
  induction k generalizing s ν lastν with
  | zero => exact Or.inl ⟨rfl, Or.inl rfl⟩
  | succ k ih =>
    rcases loop_succ_cases optNu tol x k s ν lastν with h | h | ⟨ν1, -, -, h⟩ <;> rw [h]
    · exact Or.inl ⟨rfl, Or.inl rfl⟩
    · exact Or.inl ⟨rfl, Or.inr rfl⟩
    · right
      rcases ih (update x s ν1) ν1 ν with ⟨h1, h2⟩ | ⟨T, s', ν', h1, h2⟩
      · exact ⟨[], s, ν1, by rw [h1]; rfl, h2⟩
      · exact ⟨s :: T, s', ν', by rw [h1]; rfl, h2⟩

/-- data inside a hyperplane `{v·x = c}`, current location in that hyperplane: the candidate `new_Σ` is singular in the
    direction `v`, so it is NOT positive definite whatever `ν` is — in exact arithmetic the Cholesky test rejects it -/
theorem C19_degenerate_update_not_pd (x : Fin n → Fin d → ℝ) (s : St d) (ν : ℝ) (v : Fin d → ℝ) (c : ℝ) (hv : v ≠ 0)
    (hx : ∀ i, v ⬝ᵥ x i = c) (hμ : v ⬝ᵥ s.mu = c) : ¬ (update x s ν).sigma.PosDef := by
  intro hpd
  have hq := sigmaNext_quadForm x s.mu (wts x s ν) v
  have hz : ∑ i, wts x s ν i * (v ⬝ᵥ (x i - s.mu)) ^ 2 = 0 :=
    Finset.sum_eq_zero fun i _ => by rw [dotProduct_sub, hx i, hμ, sub_self, zero_pow two_ne_zero, mul_zero]
  rw [hz, mul_zero] at hq
  have := hpd.dotProduct_mulVec_pos hv
  rw [star_trivial] at this
  exact lt_irrefl 0 (this.trans_eq hq)

/-- … and an accepted update puts the location INTO the hyperplane (a weighted mean of points of the hyperplane) -/
theorem C19_degenerate_mu_in_plane (x : Fin n → Fin d → ℝ) (s : St d) (ν : ℝ) (v : Fin d → ℝ) (c : ℝ)
    (hx : ∀ i, v ⬝ᵥ x i = c) (hw : ∑ i, wts x s ν i ≠ 0) : v ⬝ᵥ (update x s ν).mu = c := by
  have : ∀ i, v ⬝ᵥ (wts x s ν i • x i) = wts x s ν i * c := fun i => by rw [dotProduct_smul, hx i]; rfl
  show v ⬝ᵥ ((∑ i, wts x s ν i)⁻¹ • ∑ i, wts x s ν i • x i) = c
  rw [dotProduct_smul, dotProduct_sum]
  simp only [this, ← Finset.sum_mul, smul_eq_mul]
  rw [← mul_assoc, inv_mul_cancel₀ hw, one_mul]

/-- **degenerate data: at most one update.**  If the data lie in a hyperplane the loop accepts at most one update (possible
    only when the coordinate-wise median is off the hyperplane) and then leaves through the Cholesky exit: the trace has at
    most two states.  This is what "non-degenerate" has to mean for the positive-definiteness theorems (`NonDegenerate`: not
    inside a hyperplane) — the code itself checks nothing in advance, it relies on these two exits. -/
theorem C19_degenerate_at_most_one_update (optNu : (Fin n → ℝ) → NuAns) (tol : ℝ) (x : Fin n → Fin d → ℝ)
    (hopt : ∀ δ ν, optNu δ = .val ν → 0 < ν) (hn : 0 < n) (v : Fin d → ℝ) (c : ℝ) (hv : v ≠ 0)
    (hx : ∀ i, v ⬝ᵥ x i = c) (k : ℕ) (s : St d) (hS : s.sigma.PosDef) (ν lastν : ℝ) :
    (loop optNu tol x k s ν lastν).1.length ≤ 2 := by
  cases k with
  | zero => exact Nat.le_succ 1
  | succ k =>
    rcases loop_succ_cases optNu tol x k s ν lastν with h | h | ⟨ν1, h1, -, h⟩ <;> rw [h]
    · exact Nat.le_succ 1
    · exact Nat.le_succ 1
    · -- the accepted state has its location in the hyperplane: the next candidate is rejected
      have hμ := C19_degenerate_mu_in_plane x s ν1 v c hx (sum_wts_ne_zero x s hS (hopt _ _ h1) hn)
      cases k with
      | zero => exact le_rfl
      | succ k =>
        rcases loop_succ_cases optNu tol x k (update x s ν1) ν1 ν with h' | h' | ⟨ν2, -, hp2, -⟩
        · rw [h']; exact le_rfl
        · rw [h']; exact le_rfl
        · exact absurd hp2 (C19_degenerate_update_not_pd x (update x s ν1) ν2 v c hv hx hμ)

/-! ### initialisation: coordinate-wise median, `cov·(n−1)/n + diag(var)/n` -/

noncomputable def colMean (x : Fin n → Fin d → ℝ) (a : Fin d) : ℝ := (∑ i, x i a) / (n : ℝ)

/-- `np.cov(data)` (`ddof = 1`) -/
noncomputable def covM (x : Fin n → Fin d → ℝ) : Matrix (Fin d) (Fin d) ℝ :=
  of fun a b => (∑ i, (x i a - colMean x a) * (x i b - colMean x b)) / ((n : ℝ) - 1)

/-- `np.var(data, axis=1)` (`ddof = 0`) -/
noncomputable def varV (x : Fin n → Fin d → ℝ) (a : Fin d) : ℝ := (∑ i, (x i a - colMean x a) ^ 2) / (n : ℝ)

noncomputable def initSigma (x : Fin n → Fin d → ℝ) : Matrix (Fin d) (Fin d) ℝ :=
  of fun a b => covM x a b * ((n : ℝ) - 1) / (n : ℝ) + (1 / (n : ℝ)) * diagonal (varV x) a b

/-- `med` stands for `np.median` of one coordinate (uninterpreted; see the hypotheses where it is used) -/
noncomputable def init (med : (Fin n → ℝ) → ℝ) (x : Fin n → Fin d → ℝ) : St d :=
  ⟨fun a => med fun i => x i a, initSigma x⟩

/-- monomial matrix: row `a` has the single entry `s a` in column `σ a`
    (coordinate permutation followed by per-coordinate scaling) -/
def mono (σ : Equiv.Perm (Fin d)) (s : Fin d → ℝ) : Matrix (Fin d) (Fin d) ℝ :=
  of fun a j => if j = σ a then s a else 0

theorem mono_mulVec (σ : Equiv.Perm (Fin d)) (s v : Fin d → ℝ) (a : Fin d) :
    (mono σ s *ᵥ v) a = s a * v (σ a) := by
  simp only [mono, mulVec, dotProduct, of_apply, ite_mul, zero_mul, Finset.sum_ite_eq', Finset.mem_univ, if_true]

theorem mono_conj_apply (σ : Equiv.Perm (Fin d)) (s : Fin d → ℝ) (M : Matrix (Fin d) (Fin d) ℝ) (a c : Fin d) :
    (mono σ s * M * (mono σ s)ᵀ) a c = s a * s c * M (σ a) (σ c) := by
  simp only [mono, Matrix.mul_apply, of_apply, transpose_apply, ite_mul, zero_mul, mul_ite, mul_zero,
    Finset.sum_ite_eq', Finset.mem_univ, if_true]
  ring

theorem mono_isUnit_det (σ : Equiv.Perm (Fin d)) (s : Fin d → ℝ) (hs : ∀ a, s a ≠ 0) :
    IsUnit (mono σ s).det := by
  apply isUnit_det_of_right_inverse (B := of fun j a => if j = σ a then (s a)⁻¹ else 0)
  ext a c
  rw [Matrix.mul_apply]
  simp only [mono, of_apply, ite_mul, zero_mul, Finset.sum_ite_eq', Finset.mem_univ, if_true, one_apply,
    σ.injective.eq_iff, mul_ite, mul_zero]
  by_cases h : a = c
  · subst h; rw [if_pos rfl, if_pos rfl, mul_inv_cancel₀ (hs a)]
  · rw [if_neg (Ne.symm h), if_neg h]

theorem aff_mono_apply (σ : Equiv.Perm (Fin d)) (s b : Fin d → ℝ) (x : Fin n → Fin d → ℝ) (i : Fin n) (a : Fin d) :
    aff (mono σ s) b x i a = s a * x i (σ a) + b a := by
  simp [aff, mono_mulVec]

theorem colMean_aff_mono (σ : Equiv.Perm (Fin d)) (s b : Fin d → ℝ) (x : Fin n → Fin d → ℝ) (hn : 0 < n)
    (a : Fin d) : colMean (aff (mono σ s) b x) a = s a * colMean x (σ a) + b a := by
  have hn' : (n : ℝ) ≠ 0 := Nat.cast_ne_zero.mpr hn.ne'
  simp only [colMean, aff_mono_apply, Finset.sum_add_distrib, ← Finset.mul_sum, Finset.sum_const,
    Finset.card_univ, Fintype.card_fin, nsmul_eq_mul]
  rw [add_div, mul_div_assoc, mul_div_cancel_left₀ _ hn']

theorem initSigma_aff_mono (σ : Equiv.Perm (Fin d)) (s b : Fin d → ℝ) (x : Fin n → Fin d → ℝ) (hn : 0 < n) :
    initSigma (aff (mono σ s) b x) = mono σ s * initSigma x * (mono σ s)ᵀ := by
  ext a c
  rw [mono_conj_apply]
  have hcen : ∀ i e, aff (mono σ s) b x i e - colMean (aff (mono σ s) b x) e
      = s e * (x i (σ e) - colMean x (σ e)) := fun i e => by
    rw [colMean_aff_mono σ s b x hn, aff_mono_apply]; ring
  simp only [initSigma, covM, varV, of_apply, hcen, diagonal_apply]
  have e1 : ∑ i, s a * (x i (σ a) - colMean x (σ a)) * (s c * (x i (σ c) - colMean x (σ c)))
      = s a * s c * ∑ i, (x i (σ a) - colMean x (σ a)) * (x i (σ c) - colMean x (σ c)) := by
    rw [Finset.mul_sum]; exact Finset.sum_congr rfl fun i _ => by ring
  have e2 : ∑ i, (s a * (x i (σ a) - colMean x (σ a))) ^ 2
      = s a * s a * ∑ i, (x i (σ a) - colMean x (σ a)) ^ 2 := by
    rw [Finset.mul_sum]; exact Finset.sum_congr rfl fun i _ => by ring
  rw [e1, e2]
  by_cases hac : a = c
  · subst hac; rw [if_pos rfl, if_pos rfl]; ring
  · rw [if_neg hac, if_neg (σ.injective.ne hac)]; ring

/-- the initial state transforms like the data under coordinate permutations, per-coordinate scalings
    (any sign) and translations; `hmed` is the corresponding (true) property of `np.median` -/
theorem C19_init_equivariant (med : (Fin n → ℝ) → ℝ)
    (hmed : ∀ (f : Fin n → ℝ) (a c : ℝ), med (fun i => a * f i + c) = a * med f + c)
    (σ : Equiv.Perm (Fin d)) (s b : Fin d → ℝ) (x : Fin n → Fin d → ℝ) (hn : 0 < n) :
    init med (aff (mono σ s) b x) = (init med x).map (mono σ s) b := by
  unfold init St.map
  congr 1
  · funext a
    simp only [aff_mono_apply, hmed, Pi.add_apply, mono_mulVec]
  · exact initSigma_aff_mono σ s b x hn

theorem initSigma_eq (x : Fin n → Fin d → ℝ) (hn : 2 ≤ n) :
    initSigma x = sigmaNext x (colMean x) (fun _ => 1) + (1 / (n : ℝ)) • diagonal (varV x) := by
  have h1 : ((n : ℝ) - 1) ≠ 0 := sub_ne_zero.mpr (Nat.cast_ne_one.mpr (Nat.lt_of_lt_of_le one_lt_two hn).ne')
  ext a c
  simp only [initSigma, covM, sigmaNext, of_apply, Matrix.add_apply, Matrix.smul_apply, Matrix.sum_apply,
    vecMulVec_apply, Pi.sub_apply, one_smul, smul_eq_mul]
  rw [div_mul_cancel₀ _ h1, div_eq_inv_mul, one_div]

theorem varV_nonneg (x : Fin n → Fin d → ℝ) : 0 ≤ varV x := by
  intro a
  simp only [Pi.zero_apply, varV]
  exact div_nonneg (Finset.sum_nonneg fun i _ => sq_nonneg _) (Nat.cast_nonneg n)

theorem initSigma_posDef (x : Fin n → Fin d → ℝ) (hx : NonDegenerate x) (hn : 2 ≤ n) :
    (initSigma x).PosDef := by
  rw [initSigma_eq x hn]
  refine PosDef.add_posSemidef ?_ ?_
  · exact C19_sigma_pd x _ _ (fun _ => one_pos) (nonDegenerate_centred hx _)
  · exact (PosSemidef.diagonal (varV_nonneg x)).smul (by positivity)

theorem initSigma_posSemidef (x : Fin n → Fin d → ℝ) (hn : 2 ≤ n) : (initSigma x).PosSemidef := by
  rw [initSigma_eq x hn]
  exact (sigmaNext_posSemidef x _ _ fun _ => zero_le_one).add
    ((PosSemidef.diagonal (varV_nonneg x)).smul (by positivity))

/-- positive semidefinite for every data set, hence positive definite as soon as it is non-singular (i.e. as soon as
    the first `solve` does not raise) -/
theorem initSigma_posDef_of_isUnit (x : Fin n → Fin d → ℝ) (hn : 2 ≤ n) (hu : IsUnit (initSigma x).det) :
    (initSigma x).PosDef :=
  (initSigma_posSemidef x hn).posDef_iff_isUnit.mpr ((Matrix.isUnit_iff_isUnit_det _).mpr hu)

/-! ### the whole fit -/

/-- `fit_mvstud(data, tol, max_iter)`: all `(μ, Σ)` iterates and the returned `ν` (`none` = ∞) -/
noncomputable def fitTrace (optNu : (Fin n → ℝ) → NuAns) (med : (Fin n → ℝ) → ℝ) (tol : ℝ) (maxIter : ℕ)
    (x : Fin n → Fin d → ℝ) : List (St d) × Option ℝ :=
  loop optNu tol x maxIter (init med x) 20 0

noncomputable def fit (optNu : (Fin n → ℝ) → NuAns) (med : (Fin n → ℝ) → ℝ) (tol : ℝ) (maxIter : ℕ)
    (x : Fin n → Fin d → ℝ) : St d × Option ℝ :=
  ((fitTrace optNu med tol maxIter x).1.getLast (loop_ne_nil _ _ _ _ _ _ _), (fitTrace optNu med tol maxIter x).2)

theorem fit_singular (optNu : (Fin n → ℝ) → NuAns) (med : (Fin n → ℝ) → ℝ) (tol : ℝ) (maxIter : ℕ)
    (x : Fin n → Fin d → ℝ) (hu : ¬ IsUnit (initSigma x).det) :
    fitTrace optNu med tol maxIter x = ([init med x], some 20) ∧
    fit optNu med tol maxIter x = (init med x, some 20) := by
  have h : fitTrace optNu med tol maxIter x = ([init med x], some 20) :=
    loop_singular optNu tol x maxIter (init med x) hu 20 0
  refine ⟨h, ?_⟩
  unfold fit
  simp only [h, List.getLast_singleton]

/-- **well-posedness**, for EVERY data set with `n ≥ 2` (median inside the range of each coordinate, `opt_nu`
    answering in `(0, ∞]` when it answers), whichever exit the loop takes:
    * every iterate — in particular the returned one — has its location inside the bounding box and a symmetric
      positive semidefinite scale matrix;
    * the returned scale matrix is positive definite, except in the one degenerate case where the initial matrix is
      singular (some coordinate combination has zero spread), in which case the initial state and `ν = 20` are returned;
    * the returned `ν` is in `(0, ∞]`;
    * for non-degenerate data every iterate is positive definite. -/
theorem C19_fit_wellposed (optNu : (Fin n → ℝ) → NuAns) (med : (Fin n → ℝ) → ℝ) (tol : ℝ) (maxIter : ℕ)
    (x : Fin n → Fin d → ℝ) (hopt : ∀ δ ν, optNu δ = .val ν → 0 < ν)
    (hmedbox : ∀ f : Fin n → ℝ, ∃ i j, f i ≤ med f ∧ med f ≤ f j) (hn : 2 ≤ n) :
    (∀ s ∈ (fitTrace optNu med tol maxIter x).1, InBox x s.mu ∧ s.sigma.IsSymm ∧ s.sigma.PosSemidef) ∧
    (fit optNu med tol maxIter x).1 ∈ (fitTrace optNu med tol maxIter x).1 ∧
    ((fit optNu med tol maxIter x).1.sigma.PosDef ∨
      (¬ IsUnit (initSigma x).det ∧ fit optNu med tol maxIter x = (init med x, some 20))) ∧
    (∀ ν, (fit optNu med tol maxIter x).2 = some ν → 0 < ν) ∧
    (NonDegenerate x → ∀ s ∈ (fitTrace optNu med tol maxIter x).1, s.sigma.PosDef) := by
  have hsymm : ∀ M : Matrix (Fin d) (Fin d) ℝ, M.PosSemidef → M.IsSymm := fun M hM =>
    (conjTranspose_eq_transpose_of_trivial M).symm.trans hM.isHermitian
  have hbox0 : InBox x (init med x).mu := fun a => hmedbox fun i => x i a
  have hmem : (fit optNu med tol maxIter x).1 ∈ (fitTrace optNu med tol maxIter x).1 := List.getLast_mem _
  have hnu : ∀ ν, (fit optNu med tol maxIter x).2 = some ν → 0 < ν :=
    C19_nu_range optNu tol x hopt maxIter (init med x) 20 0 (by norm_num)
  by_cases hu : IsUnit (initSigma x).det
  · have hall := C19_loop_sound optNu tol x hopt (Nat.lt_of_lt_of_le two_pos hn) maxIter (init med x)
      (initSigma_posDef_of_isUnit x hn hu) hbox0 20 0
    exact ⟨fun s hs => ⟨(hall s hs).2, hsymm _ (hall s hs).1.posSemidef, (hall s hs).1.posSemidef⟩, hmem,
      Or.inl (hall _ hmem).1, hnu, fun _ s hs => (hall s hs).1⟩
  · obtain ⟨h1, h2⟩ := fit_singular optNu med tol maxIter x hu
    refine ⟨fun s hs => ?_, hmem, Or.inr ⟨hu, h2⟩, hnu, fun hx => absurd ?_ hu⟩
    · rw [h1] at hs
      simp only [List.mem_singleton] at hs
      subst hs
      exact ⟨hbox0, hsymm _ (initSigma_posSemidef x hn), initSigma_posSemidef x hn⟩
    · exact (Matrix.isUnit_iff_isUnit_det _).mp (initSigma_posDef x hx hn).isUnit

/-- **equivariance**, for EVERY data set with `n ≥ 2`.  Under `y_i = A x_i + b` with `A` monomial (coordinate
    permutation × non-zero per-coordinate scalings) every iterate and the returned triple transform as
    `(A μ + b, A Σ Aᵀ, ν)`; `ν` and the exit taken are unchanged. -/
theorem C19_equivariant (optNu : (Fin n → ℝ) → NuAns) (med : (Fin n → ℝ) → ℝ) (tol : ℝ) (maxIter : ℕ)
    (x : Fin n → Fin d → ℝ) (hopt : ∀ δ ν, optNu δ = .val ν → 0 < ν)
    (hmed : ∀ (f : Fin n → ℝ) (a c : ℝ), med (fun i => a * f i + c) = a * med f + c)
    (hn : 2 ≤ n) (σ : Equiv.Perm (Fin d)) (s b : Fin d → ℝ) (hs : ∀ a, s a ≠ 0) :
    fitTrace optNu med tol maxIter (aff (mono σ s) b x) =
        ((fitTrace optNu med tol maxIter x).1.map (St.map (mono σ s) b), (fitTrace optNu med tol maxIter x).2) ∧
    fit optNu med tol maxIter (aff (mono σ s) b x) =
        ((fit optNu med tol maxIter x).1.map (mono σ s) b, (fit optNu med tol maxIter x).2) := by
  have hA := mono_isUnit_det σ s hs
  have h1 : fitTrace optNu med tol maxIter (aff (mono σ s) b x) =
      ((fitTrace optNu med tol maxIter x).1.map (St.map (mono σ s) b), (fitTrace optNu med tol maxIter x).2) := by
    unfold fitTrace
    rw [C19_init_equivariant med hmed σ s b x (Nat.lt_of_lt_of_le two_pos hn)]
    by_cases hu : IsUnit (initSigma x).det
    · exact C19_loop_equivariant optNu tol _ b x hA hopt (Nat.lt_of_lt_of_le two_pos hn) maxIter _
        (initSigma_posDef_of_isUnit x hn hu) 20 0
    · have hu' : ¬ IsUnit ((init med x).map (mono σ s) b).sigma.det :=
        fun h => hu ((isUnit_det_conj _ _ hA).mp h)
      rw [loop_singular _ _ _ _ _ hu', loop_singular _ _ _ _ _ (show ¬ IsUnit (init med x).sigma.det from hu)]
      rfl
  refine ⟨h1, ?_⟩
  unfold fit
  simp only [h1, List.getLast_map]

/-! ### `if ~np.isfinite(dof): dof = dof_fallback` -/

open Model.Student in
/-- the value handed to the kernel is finite; it is the fallback when the fit's `ν` was `inf` **or** NaN,
    and the fitted value otherwise -/
theorem C19_dof_fallback (fb : ℝ) (t : Dof ℝ) :
    (applyFallback fb t).isFinite = true ∧
    (t = .inf ∨ t = .nan → applyFallback fb t = .fin fb) ∧
    (∀ x, t = .fin x → applyFallback fb t = .fin x) := by
  cases t <;> simp [applyFallback, Dof.isFinite]

open Model.Student in
theorem C19_dof_fallback_iff (fb : ℝ) (t : Dof ℝ) :
    applyFallback fb t = .fin fb ↔ (t.isFinite = false ∨ t = .fin fb) := by
  cases t <;> simp [applyFallback, Dof.isFinite]

/-! ### non-vacuity: the hypotheses of the main theorems hold on concrete values -/

/-- two points on a line (`d = 1`, `n = 2`) -/
def exX : Fin 2 → Fin 1 → ℝ := ![![0], ![1]]
/-- `np.median` of two numbers -/
noncomputable def exMed (f : Fin 2 → ℝ) : ℝ := (f 0 + f 1) / 2

theorem exX_nonDegenerate : NonDegenerate exX := by
  intro v hv c
  have hv0 : v 0 ≠ 0 := fun h => hv (funext fun a => by rw [Subsingleton.elim a 0, h]; rfl)
  by_cases hc : c = 0
  · exact ⟨1, by simp [exX, dotProduct, hc, hv0]⟩
  · exact ⟨0, by simpa [exX, dotProduct] using Ne.symm hc⟩

theorem exMed_aff (f : Fin 2 → ℝ) (a c : ℝ) : exMed (fun i => a * f i + c) = a * exMed f + c := by
  unfold exMed; ring

theorem exMed_box (f : Fin 2 → ℝ) : ∃ i j, f i ≤ exMed f ∧ exMed f ≤ f j :=
  mean_box f 0 1

example (tol : ℝ) (k : ℕ) :
    InBox exX (fit (fun _ => .val 3) exMed tol k exX).1.mu ∧
    (∀ s ∈ (fitTrace (fun _ => .val 3) exMed tol k exX).1, s.sigma.PosDef) :=
  let h := C19_fit_wellposed (fun _ => .val 3) exMed tol k exX (by intro δ ν h; cases h; norm_num)
    exMed_box le_rfl
  ⟨(h.1 _ h.2.1).1, h.2.2.2.2 exX_nonDegenerate⟩

/-- scaling by `-2` and shifting by `5`, whatever `opt_nu` does (a value, the `inf` early return, a failure) -/
example (tol : ℝ) (k : ℕ) (optNu : (Fin 2 → ℝ) → NuAns)
    (h : optNu = (fun _ => .val 3) ∨ optNu = (fun _ => .inf) ∨ optNu = fun _ => .fail) :
    fit optNu exMed tol k (aff (mono 1 ![-2]) ![5] exX) =
      ((fit optNu exMed tol k exX).1.map (mono 1 ![-2]) ![5], (fit optNu exMed tol k exX).2) :=
  (C19_equivariant optNu exMed tol k exX
    (by
      rcases h with rfl | rfl | rfl <;> intro δ ν h
      · cases h; norm_num
      · cases h
      · cases h)
    exMed_aff le_rfl 1 ![-2] ![5]
    (by intro a; rw [Subsingleton.elim a 0]; norm_num)).2

/-- a degenerate data set: the same point twice -/
def exD : Fin 2 → Fin 1 → ℝ := ![![1], ![1]]

/- on `exD` the initial matrix is singular, `solve` raises, and the fit returns the initial state with `ν = 20`: the
   second alternative of `C19_fit_wellposed` is the one that holds -/

example : ¬ IsUnit (initSigma exD).det := by
  have : initSigma exD = 0 := by
    ext a c
    have ha : a = 0 := Subsingleton.elim _ _
    have hc : c = 0 := Subsingleton.elim _ _
    subst ha hc
    simp [initSigma, covM, varV, colMean, exD, Fin.sum_univ_two]
  simp [this]

example (optNu : (Fin 2 → ℝ) → NuAns) (tol : ℝ) (k : ℕ) (hu : ¬ IsUnit (initSigma exD).det) :
    fit optNu exMed tol k exD = (init exMed exD, some 20) :=
  (fit_singular optNu exMed tol k exD hu).2

/-- a genuine coordinate swap with scalings of both signs is an admissible `A` -/
example : IsUnit (mono (Equiv.swap (0 : Fin 2) 1) ![2, -3]).det :=
  mono_isUnit_det _ _ (fun a => by fin_cases a; exacts [two_ne_zero, neg_ne_zero.mpr three_ne_zero])

example (a : Fin 2) (v : Fin 2 → ℝ) :
    (mono (Equiv.swap (0 : Fin 2) 1) ![2, -3] *ᵥ v) a = ![2 * v 1, -3 * v 0] a := by
  rw [mono_mulVec]; fin_cases a <;> rfl

/-- `δ` is invariant under a non-monomial invertible map as well -/
example (S : Matrix (Fin 2) (Fin 2) ℝ) (b μ : Fin 2 → ℝ) (x : Fin 3 → Fin 2 → ℝ) (i : Fin 3) :
    delta (aff !![1, 2; 0, 1] b x) (!![1, 2; 0, 1] *ᵥ μ + b) (!![1, 2; 0, 1] * S * !![1, 2; 0, 1]ᵀ) i
      = delta x μ S i :=
  C19_delta_affine_invariant _ S b μ x (by simp [det_fin_two]) i

/-- the guard of `C19_sigma_pd` holds for the two points at `μ = 1/2`, all weights `1` -/
example : (sigmaNext exX ![1 / 2] fun _ => 1).PosDef :=
  C19_sigma_pd exX _ _ (fun _ => one_pos) (nonDegenerate_centred exX_nonDegenerate _)

open Model.Student in
example : applyFallback (1e6 : ℝ) .nan = .fin 1e6 ∧ applyFallback (1e6 : ℝ) .inf = .fin 1e6 ∧
    applyFallback (1e6 : ℝ) (.fin 3.5) = .fin 3.5 := by
  simp [applyFallback, Dof.isFinite]

end Props.C19
