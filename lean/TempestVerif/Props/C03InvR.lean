import TempestVerif.Props.C16
import TempestVerif.Props.C03Inv
/-
  C03, clause 8 in ONE dimension: RWM with a reflective coordinate — the law of the model's step leaves the tempered target
  invariant.  (In d ≥ 2 with a correlated covariance the statement is FALSE: finding F21, `C03_reflect_correlated_asymmetric`.)
-/
namespace Props.C03
open Real MeasureTheory ProbabilityTheory Set Model.Kernel Lemmas.MHKernel Lemmas.KernelOfFn

/-- one-walker RWM input in d = 1 with the coordinate reflective -/
noncomputable def in1Rf (m L ic ν σ β lx lp x g z r : ℝ) : StepIn ℝ :=
  { kind := .rwm, u := [x], mu := [m], chol := [[L]], invcov := [[ic]], nu := ν, sigma := σ, beta := β, l := lx, lp := lp,
    g := g, r := r, z := [z], per := [], refl := [0] }

theorem raw_rwm_refl (L σ x z : ℝ) :
    Model.Boundary.apply ([] : List Nat) [0] (rwmProposal [x] [[L]] σ [z]) = [Model.Boundary.reflect (cand1R L σ x z)] := by
  rw [rwmProposal_one]
  simp [cand1R, Model.Boundary.apply]

theorem checkBounds_refl_single (c : ℝ) : Model.Boundary.checkBounds ([] : List Nat) [0] [c] = true :=
  Props.C16.C16_checkBounds_all_special [] [0] [c] fun i hi => Or.inr (by simpa using hi)

theorem closedStep_rwm_refl_1d (ℓ : List ℝ → ℝ) (m L ic ν σ β lx lp x g z r : ℝ) (hr : 0 ≤ r) :
    (closedStep ℓ (in1Rf m L ic ν σ β lx lp x g z r)).newU
      = [acceptReject x (accR univ (fun c => ℓ [c]) β x) (Model.Boundary.reflect (cand1R L σ x z), r)] := by
  rw [closedStep_rwm_newU _ _ rfl (raw_rwm_refl L σ x z), accR, acceptReject_mhAccept _ _ _ _ hr,
    apply_ite (fun a : ℝ => [a])]
  simp only [in1Rf, checkBounds_refl_single, mem_univ]

noncomputable def newState1Rf (ℓ : ℝ → ℝ) (m L ic ν σ β x g z r : ℝ) : ℝ :=
  match (closedStep (liftL ℓ) (in1Rf m L ic ν σ β 0 0 x g z r)).newU with
  | [y] => y
  | _ => x

noncomputable def rwmLaw1Rf (ℓ : ℝ → ℝ) (m L ic ν σ β x : ℝ) : Measure ℝ :=
  ((gaussianReal 0 1).prod unif).map fun w => newState1Rf ℓ m L ic ν σ β x 0 w.1 w.2

noncomputable def target1o (ℓ : ℝ → ℝ) (β : ℝ) : Measure ℝ :=
  volume.withDensity fun x => ENNReal.ofReal ((Ioo (0 : ℝ) 1).indicator (fun x => exp (β * ℓ x)) x)

/-- the two end points are a null set: the same measure as `target1` -/
theorem target1o_eq (ℓ : ℝ → ℝ) (β : ℝ) : target1o ℓ β = target1 ℓ β := by
  refine withDensity_congr_ae ?_
  filter_upwards [indicator_ae_eq_of_ae_eq_set (f := fun x => exp (β * ℓ x)) (Ioo_ae_eq_Icc (μ := volume) (a := (0 : ℝ)) (b := 1))]
    with x hx
  rw [hx]

/-- **RWM, d = 1, reflective coordinate: the law of the model's step leaves the tempered target invariant** -/
theorem C03_rwm_reflective_step_law_invariant_1d {ℓ : ℝ → ℝ} (hℓ : Measurable ℓ) (m L ic ν σ β : ℝ) (h : σ * L ≠ 0) :
    (target1 ℓ β).bind (rwmLaw1Rf ℓ m L ic ν σ β) = target1 ℓ β := by
  -- `x + σ L z` is `x` plus an `N(0, (σL)²)` increment; C16 gives the law of its reflection as a sum over the preimages, on the
  -- open interval (same measure as the closed one); no coordinate is hard
  have hN : (gaussianReal 0 1).map (fun z => σ * L * z) = volume.withDensity (gaussianPDF 0 (varR L σ)) := by
    rw [← gaussianReal_of_var_ne_zero _ (varR_ne_zero h), ← rwm_candidate_law L σ 0]
    exact congrArg (fun f => (gaussianReal 0 1).map f) (funext fun z => (zero_add (σ * L * z)).symm)
  rw [← target1o_eq]
  exact foldedStep_invariant volume (gaussianReal 0 1) (measurable_const_mul _) hN Props.C16.measurable_reflect
    measurableSet_Ioo MeasurableSet.univ (inter_univ _).symm (Props.C16.measurable_KreflE _ (measurable_gaussianPDF 0 _))
    (Props.C16.C16_KreflE_symmetric _ fun z => gaussianPDF_congr_sq _ (by ring))
    (fun x B hB => Props.C16.C16_reflective_pushforward _ _ (measurable_gaussianPDF 0 _) (measurable_one.indicator hB) x)
    hℓ β fun x z r hr => by rw [newState1Rf, closedStep_rwm_refl_1d (liftL ℓ) m L ic ν σ β 0 0 x 0 z r hr]; rfl

example : (target1 (fun x => 3 * x) 1).bind (rwmLaw1Rf (fun x => 3 * x) 0 (1 / 5) 25 3 (1 / 2) 1)
    = target1 (fun x => 3 * x) 1 :=
  C03_rwm_reflective_step_law_invariant_1d (by fun_prop) _ _ _ _ _ _ (by norm_num)

end Props.C03
