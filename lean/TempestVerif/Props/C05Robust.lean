import TempestVerif.Lemmas.Reweight
import TempestVerif.Lemmas.Steps
/-
  C05 — what holds of `Model.Reweight` at EVERY scalar type (`Float`, at which the driver executes the model, included), for
  every oracle and whatever the comparisons of oracle answers return: an answer can be NaN (every comparison false — a
  rank-deficient covariance in `volume_variation`) and every operation on temperatures is rounded, so neither "a comparison or
  its converse holds" nor "`(hi + lo)·0.5` is the midpoint" is available here.  `Props/C05.lean` (ℝ) and `Props/C05Ieee.lean`
  (reals + NaN under a rounding) are instances of this file.

  Order is replaced by a relation `R` on temperatures in which the midpoint of a bracket lies in the bracket (`Bracket R`).
  The two searches have one invariant each (`upLoop_R`, `C05_R_bisect`); the statements about `run` are read off
  `Model.Reweight.run_lands` (`Lemmas/Reweight.lean`, where the equations of the model are): at which temperature a non-first `run`
  finalises and which searches it reports.
-/
namespace Props.C05.Robust
open Model.Reweight
variable {α : Type} [Sc α] {W : Type}

/-! ### `_find_beta_upper_limit` -/

structure Bracket (R : α → α → Prop) : Prop where
  trans : ∀ {a b c : α}, R a b → R b c → R a c
  left : ∀ {a b : α}, R a b → R a a
  right : ∀ {a b : α}, R a b → R b b
  mid : ∀ {lo hi : α}, R lo hi → R lo (mid hi lo) ∧ R (mid hi lo) hi

/-- the relation that holds of everything: the invariants below then speak of the comparisons only -/
theorem bracket_true : Bracket (fun (_ _ : α) => True) :=
  ⟨fun _ _ => trivial, fun _ => trivial, fun _ => trivial, fun _ => ⟨trivial, trivial⟩⟩

/-- the loop invariant of `_find_beta_upper_limit`, for ANY outcome of the comparisons: an end of the bracket that moved is a
    midpoint at which the ESS test said so; `upFuel` is reported only after `n` passes with the `while` test still True -/
theorem upLoop_R {R : α → α → Prop} (hR : Bracket R) (M : α → W × α × α) (target tol : α) :
    ∀ (n : Nat) (lo hi : α) (r : UpOut α), upLoop M target tol n lo hi = r → R lo hi →
      (R lo r.beta ∧ R r.beta r.hi ∧ R r.hi hi) ∧
      (r.beta = lo ∨ Sc.ge (M r.beta).2.1 target = true) ∧
      (r.hi = hi ∨ Sc.ge (M r.hi).2.1 target = false) ∧
      (r.branch = Branch.upLoop ∧ Sc.gt (Sc.sub r.hi r.beta) tol = false ∨
        r.branch = Branch.upFuel ∧ r.steps = n ∧ Sc.gt (Sc.sub r.hi r.beta) tol = true) := by
  intro n
  induction n with
  | zero =>
    rintro lo hi r rfl h
    refine ⟨⟨hR.left h, h, hR.right h⟩, Or.inl rfl, Or.inl rfl, ?_⟩
    cases hw : Sc.gt (Sc.sub hi lo) tol with
    | false => exact Or.inl ⟨if_neg (ne_true_of_eq_false hw), hw⟩
    | true => exact Or.inr ⟨if_pos hw, rfl, hw⟩
  | succ n ih =>
    intro lo hi r hr h
    cases hw : Sc.gt (Sc.sub hi lo) tol with
    | false =>
      rw [upLoop_stop_any M target tol n lo hi hw] at hr
      subst hr
      exact ⟨⟨hR.left h, h, hR.right h⟩, Or.inl rfl, Or.inl rfl, Or.inl ⟨rfl, hw⟩⟩
    | true =>
      obtain ⟨m1, m2⟩ := hR.mid h
      cases he : Sc.ge (M (mid hi lo)).2.1 target with
      | true =>
        obtain ⟨⟨a1, a2, a3⟩, a4, a5, a6⟩ := ih (mid hi lo) hi _ rfl m2
        rw [upLoop_up_any M target tol n lo hi hw he] at hr
        subst hr
        -- the ESS test held at the midpoint, so it holds at `beta_low` even if that never moved afterwards
        exact ⟨⟨hR.trans m1 a1, a2, a3⟩, Or.inr (a4.elim (fun e => by rw [e]; exact he) id), a5,
          a6.imp id fun ⟨b, s, w⟩ => ⟨b, congrArg (· + 1) s, w⟩⟩
      | false =>
        obtain ⟨⟨a1, a2, a3⟩, a4, a5, a6⟩ := ih lo (mid hi lo) _ rfl m1
        rw [upLoop_down_any M target tol n lo hi hw he] at hr
        subst hr
        exact ⟨⟨a1, a2, hR.trans a3 m2⟩, a4, Or.inr (a5.elim (fun e => by rw [e]; exact he) id),
          a6.imp id fun ⟨b, s, w⟩ => ⟨b, congrArg (· + 1) s, w⟩⟩

/-- `_find_beta_upper_limit` as a whole: `β_prev R β_upper R 1`; the value returned IS `beta_current` or the test `ess >= target`
    evaluated to True at it; the tag conjunct is there because `run` lists the tags of both searches in one list, `sub` -/
theorem C05_R_upper {R : α → α → Prop} (hR : Bracket R) (M : α → W × α × α) (target tol : α) (fuel : Nat) (prev : α)
    (h1 : R prev Sc.one) :
    R prev (upperLimit M target tol fuel prev).beta ∧ R (upperLimit M target tol fuel prev).beta Sc.one ∧
    ((upperLimit M target tol fuel prev).beta = prev ∨
      Sc.ge (M (upperLimit M target tol fuel prev).beta).2.1 target = true) ∧
    (upperLimit M target tol fuel prev).branch ≠ Branch.bisFuel := by
  rcases upperLimit_cases_any M target tol fuel prev with ⟨_, e⟩ | ⟨_, h, e⟩ | ⟨_, _, e⟩
  · rw [e]; exact ⟨hR.left h1, h1, Or.inl rfl, (by decide : Branch.upStay ≠ Branch.bisFuel)⟩
  · rw [e]; exact ⟨h1, hR.right h1, Or.inr h, (by decide : Branch.upOne ≠ Branch.bisFuel)⟩
  · rw [e]
    obtain ⟨⟨a1, a2, a3⟩, a4, _, a6⟩ := upLoop_R hR M target tol fuel prev Sc.one _ rfl h1
    refine ⟨a1, hR.trans a2 a3, a4, ?_⟩
    rcases a6 with ⟨h, _⟩ | ⟨h, _⟩
    · exact h ▸ (by decide : Branch.upLoop ≠ Branch.bisFuel)
    · exact h ▸ (by decide : Branch.upFuel ≠ Branch.bisFuel)

theorem C05_any_upper_ess (M : α → W × α × α) (target tol : α) (fuel : Nat) (prev : α) :
    (upperLimit M target tol fuel prev).beta = prev ∨
      Sc.ge (M (upperLimit M target tol fuel prev).beta).2.1 target = true :=
  (C05_R_upper bracket_true M target tol fuel prev trivial).2.2.1

/-! ### `_find_beta_bisection` -/

theorem C05_R_bisect {R : α → α → Prop} (hR : Bracket R) (M : α → W × α × α) (fin : α → Bool) (dyn : Bool)
    (target tolE tolB : α) :
    ∀ (n : Nat) (bmin bmax : α), R bmin bmax →
      R bmin (bisect M fin dyn target tolE tolB n bmin bmax).beta ∧
      R (bisect M fin dyn target tolE tolB n bmin bmax).beta bmax := by
  intro n
  induction n with
  | zero =>
    intro bmin bmax h
    rcases bisect_unfold_any M fin dyn target tolE tolB 0 bmin bmax with ⟨t, _, _, e⟩ | ⟨_, _, e⟩ | ⟨k, _, _, hk, _⟩
    · rw [e]; exact hR.mid h
    · rw [e]; exact hR.mid h
    · exact absurd hk (Nat.succ_ne_zero k).symm
  | succ n ih =>
    intro bmin bmax h
    obtain ⟨m1, m2⟩ := hR.mid h
    rcases bisect_unfold_any M fin dyn target tolE tolB (n+1) bmin bmax with
      ⟨t, _, _, e⟩ | ⟨hk, _⟩ | ⟨k, lo, hi, hk, _, hlh, e⟩
    · rw [e]; exact ⟨m1, m2⟩
    · exact absurd hk (Nat.succ_ne_zero n)
    · cases Nat.succ.inj hk
      rw [e]
      rcases hlh with ⟨rfl, rfl⟩ | ⟨rfl, rfl⟩
      · exact ⟨hR.trans m1 (ih _ _ m2).1, (ih _ _ m2).2⟩
      · exact ⟨(ih _ _ m1).1, hR.trans (ih _ _ m1).2 m2⟩

/-! ### `run` -/

/-- what "refers to the temperature β" means for the output of `run`, any scalar type -/
def CoherentAny (M : α → W × α × α) (Z : α → α) (r : RunOut α W) : Prop :=
  r.weightsTag = WTag.of (M r.beta).1 ∧ r.ess = (M r.beta).2.1 ∧ r.logz = Z r.beta ∧ r.zcalls = [r.beta]

section
variable {M : α → W × α × α} {fin : α → Bool} {dyn : Bool} {target tg tolE tolB : α} {fuel : Nat} {prev : α}
  {f : (α → α) → RunOut α W} (h : Lands M fin dyn target tg tolE tolB fuel prev f) (Z : α → α)
include h

theorem lands_range_R {R : α → α → Prop} (hR : Bracket R) (h1 : R prev Sc.one) :
    R prev (f Z).beta ∧ R (f Z).beta (upperLimit M target tolB fuel prev).beta ∧
      R (upperLimit M target tolB fuel prev).beta Sc.one := by
  obtain ⟨u1, u2, _⟩ := C05_R_upper hR M target tolB fuel prev h1
  obtain ⟨β, br, sub, calls, e, hβ⟩ := h
  rw [e Z]
  rcases hβ with ⟨rfl | rfl, _⟩ | ⟨rfl, _⟩
  · exact ⟨hR.left u1, u1, u2⟩
  · exact ⟨u1, hR.right u1, u2⟩
  · obtain ⟨b1, b2⟩ := C05_R_bisect hR M fin dyn tg tolE tolB fuel prev _ u1
    exact ⟨b1, b2, u2⟩

end

/-- **Same temperature, for every scalar type (`Float` included) and every oracle** — NaN answers, rounding, any outcome of any
    comparison: in all 7 branches the returned weights, the recorded ESS and the recorded logZ are `(M β).1`, `(M β).2.1`,
    `Z β` for the very β that is written to state, and `compute_logw_and_logz` is called once, at that β. -/
theorem C05_any_same_temperature (c : Cfg α) (M : α → W × α × α) (Z : α → α) (fin : α → Bool) (prev : α) :
    CoherentAny M Z (run c false M Z fin prev) :=
  (run_lands c M fin prev).coherent Z

/-- **ESS mode, any scalar type**: which comparison results lead to which branch.
    `essUpper`: the test `ess(β) >= target` evaluated to True at the new β;  `essStay`: β is β_prev;
    `essBisect` — dead code over ℝ — is entered exactly when `ess_prev <= target` was False and `ess_upper >= target` was False,
    and then β_upper IS β_prev, so BOTH `ess_prev <= target` and `ess_prev >= target` were False: the ESS at β_prev is
    unordered with the target (NaN). -/
theorem C05_any_ess_floor (M : α → W × α × α) (Z : α → α) (fin : α → Bool) (target tolE tolB : α) (fuel : Nat) (prev : α) :
    ((runEss M Z fin target tolE tolB fuel prev).branch = Branch.essStay ∧
      (runEss M Z fin target tolE tolB fuel prev).beta = prev) ∨
    ((runEss M Z fin target tolE tolB fuel prev).branch = Branch.essUpper ∧
      Sc.ge (M (runEss M Z fin target tolE tolB fuel prev).beta).2.1 target = true) ∨
    ((runEss M Z fin target tolE tolB fuel prev).branch = Branch.essBisect ∧
      Sc.le (M prev).2.1 target = false ∧ Sc.ge (M prev).2.1 target = false) := by
  rcases runEss_cases_any M fin target tolE tolB fuel prev with ⟨_, e⟩ | ⟨_, h, e⟩ | ⟨h1, h2, e⟩
  · left; rw [e Z]; exact ⟨rfl, rfl⟩
  · right; left; rw [e Z]; exact ⟨rfl, h⟩
  · right; right; rw [e Z]
    refine ⟨rfl, h1, ?_⟩
    rcases C05_any_upper_ess M target tolB fuel prev with hp | hp
    · rw [hp] at h2; exact h2
    · rw [hp] at h2; exact absurd h2 (by simp)

theorem C05_R_run {R : α → α → Prop} (hR : Bracket R) (c : Cfg α) (M : α → W × α × α) (Z : α → α) (fin : α → Bool) (prev : α)
    (h1 : R prev Sc.one) :
    R prev (run c false M Z fin prev).beta ∧
    R (run c false M Z fin prev).beta (upperLimit M c.target c.tolB c.fuel prev).beta ∧
    R (upperLimit M c.target c.tolB c.fuel prev).beta Sc.one :=
  lands_range_R (run_lands c M fin prev) Z hR h1

/-! ### the schedule: `betas` is a run (`Lemmas.Steps`) of a step function without input, so `Lemmas.Steps.schedule` applies -/

/-- one pass of `schedule`: the state is (what the sampler carries, the β handed on), the output is the β written -/
def schedStep {σ : Type} (c : Cfg α) (env : σ → Oracles α W) (emp : σ → Bool) (next : σ → RunOut α W → σ) (sp : σ × α)
    (_ : Unit) : Option ((σ × α) × α) :=
  let r := run c (emp sp.1) (env sp.1).M (env sp.1).Z (env sp.1).fin sp.2
  some ((next sp.1 r, r.beta), r.beta)

theorem betas_steps {σ : Type} (c : Cfg α) (env : σ → Oracles α W) (emp : σ → Bool) (next : σ → RunOut α W → σ) (n : Nat) :
    ∀ (s : σ) (prev : α), ∃ sf, Lemmas.Steps (schedStep c env emp next) (s, prev) (List.replicate n ())
      (betas c env emp next n s prev) sf := by
  induction n with
  | zero => exact fun s prev => ⟨_, .nil _⟩
  | succ n ih => exact fun s prev => (ih _ _).imp fun sf h => .cons rfl h

/-- the temperature of a state is the β handed on, or 0 if nothing has been committed: the first `run` ignores `state["beta"]` -/
theorem schedule_R {R : α → α → Prop} (hR : Bracket R) {σ : Type} (c : Cfg α) (env : σ → Oracles α W) (emp : σ → Bool)
    (next : σ → RunOut α W → σ) (hne : ∀ s r, emp (next s r) = false) (n : Nat) (s : σ) (prev : α)
    (h1 : R (if emp s = true then Sc.zero else prev) Sc.one) :
    (emp s = true → ∀ b, (betas c env emp next n s prev)[0]? = some b → b = Sc.zero) ∧
    (∀ b ∈ betas c env emp next n s prev, R (if emp s = true then Sc.zero else prev) b ∧ R b Sc.one) ∧
    (∀ k a b, (betas c env emp next n s prev)[k]? = some a → (betas c env emp next n s prev)[k+1]? = some b → R a b) := by
  obtain ⟨sf, h⟩ := betas_steps c env emp next n s prev
  refine h.schedule (R := R) hR.trans (zero := Sc.zero) (one := Sc.one) (v := fun sp => if emp sp.1 = true then Sc.zero else sp.2)
    (fresh := fun sp => emp sp.1 = true) (ob := id) ?_ h1 fun he => ⟨if_pos he, by rw [if_pos he] at h1; exact hR.left h1⟩
  rintro ⟨s, p⟩ _ _ o hi hp
  cases hi
  refine ⟨if_neg (ne_true_of_eq_false (hne _ _)), ne_true_of_eq_false (hne _ _), fun he => ?_, fun he => ?_⟩
  · show (run c (emp s) _ _ _ p).beta = Sc.zero
    rw [he]; rfl
  · have he' : emp s = false := Bool.eq_false_iff.mpr he
    rw [if_neg he] at hp
    show R (if emp s = true then Sc.zero else p) (run c (emp s) _ _ _ p).beta ∧ R (run c (emp s) _ _ _ p).beta Sc.one
    rw [if_neg he, he']
    obtain ⟨r1, r2, r3⟩ := C05_R_run hR c (env s).M (env s).Z (env s).fin p hp
    exact ⟨r1, hR.trans r2 r3⟩

theorem C05_R_schedule {R : α → α → Prop} (hR : Bracket R) {σ : Type} (c : Cfg α) (env : σ → Oracles α W) (emp : σ → Bool)
    (next : σ → RunOut α W → σ) (hne : ∀ s r, emp (next s r) = false) (n : Nat) (s : σ) (prev : α) (hs : emp s = false)
    (h1 : R prev Sc.one) :
    (∀ b ∈ betas c env emp next n s prev, R prev b ∧ R b Sc.one) ∧
    (∀ k a b, (betas c env emp next n s prev)[k]? = some a → (betas c env emp next n s prev)[k+1]? = some b → R a b) := by
  have h := schedule_R hR c env emp next hne n s prev
  rw [hs, if_neg Bool.false_ne_true] at h
  exact (h h1).2

theorem C05_R_schedule_fresh {R : α → α → Prop} (hR : Bracket R) (h01 : R Sc.zero Sc.one) {σ : Type} (c : Cfg α)
    (env : σ → Oracles α W) (emp : σ → Bool) (next : σ → RunOut α W → σ) (hne : ∀ s r, emp (next s r) = false)
    (s0 : σ) (p0 : α) (h0 : emp s0 = true) (n : Nat) :
    (0 < n → (betas c env emp next n s0 p0)[0]? = some Sc.zero) ∧
    (∀ b ∈ betas c env emp next n s0 p0, R Sc.zero b ∧ R b Sc.one) ∧
    (∀ k a b, (betas c env emp next n s0 p0)[k]? = some a → (betas c env emp next n s0 p0)[k+1]? = some b → R a b) := by
  have h := schedule_R hR c env emp next hne n s0 p0
  rw [if_pos h0] at h
  obtain ⟨a1, a2⟩ := h h01
  refine ⟨fun hn => ?_, a2⟩
  cases n with
  | zero => exact absurd hn (lt_irrefl 0)
  | succ n => exact congrArg some (a1 h0 _ rfl)

end Props.C05.Robust
