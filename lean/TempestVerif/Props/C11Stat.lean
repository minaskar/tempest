import TempestVerif.Props.C11
import TempestVerif.Lemmas.ProdLaw
import TempestVerif.Lemmas.WarmupR
import Mathlib.Data.Fin.Tuple.Basic
import Mathlib.Algebra.BigOperators.Fin
/-
  C11, clause 2 ("the evidence recorded in the prior-sampling phase equals the log of the supported prior mass f"): for finite
  batches a statement in expectation and in probability.  Space: n independent prior draws with law `p` on a finite Ω; only the
  indicator `A` = "likelihood finite" of a draw matters.  First part: the first batch without redraws — mean f, variance f(1−f)/n,
  Chebyshev, weak law of large numbers, and the union bound over a whole phase of k batches; everything about the product law comes
  from `Lemmas.ProdLaw.factor`.  Second part: the rule of /repo 959029e (a block without a finite draw is drawn again, the batch records
  `n_finite/(K·n)`): expectation f·Σ_j r^j/(j+1) with r = (1−f)^n, hence biased upwards by at most the factor Σ_j r^j.
  Hypothesis throughout (H_iid): the indicators are independent Bernoulli(f) — `np.random.rand` i.i.d., user functions pure.
-/
namespace Props.C11
open Model.Warmup Model.WarmupR Finset

section stat
variable {Ω : Type} [Fintype Ω]

/-! ### the first recorded value: mean and variance -/

/-- the supported prior mass `f = p(A)` -/
noncomputable def mass (p : Ω → ℝ) (A : Ω → Prop) [DecidablePred A] : ℝ := ∑ x, if A x then p x else 0

theorem mass_eq (p : Ω → ℝ) (A : Ω → Prop) [DecidablePred A] :
    mass p A = ∑ x, p x * (if A x then (1 : ℝ) else 0) := by
  unfold mass; refine Finset.sum_congr rfl fun x _ => ?_; split <;> simp

theorem mass_nonneg (p : Ω → ℝ) (hp : ∀ x, 0 ≤ p x) (A : Ω → Prop) [DecidablePred A] : 0 ≤ mass p A :=
  Finset.sum_nonneg fun x _ => by split; exact hp x; exact le_refl _

theorem mass_le_one (p : Ω → ℝ) (hp : ∀ x, 0 ≤ p x) (hp1 : ∑ x, p x = 1) (A : Ω → Prop) [DecidablePred A] :
    mass p A ≤ 1 := by
  rw [← hp1]; unfold mass
  exact Finset.sum_le_sum fun x _ => by split; exact le_refl _; exact hp x

theorem card_filter_fin_le {n : ℕ} (P : Fin n → Prop) [DecidablePred P] : (univ.filter P).card ≤ n :=
  (Finset.card_filter_le _ _).trans_eq (by rw [Finset.card_univ, Fintype.card_fin])

omit [Fintype Ω] in
theorem batchZ_first_mean (A : Ω → Prop) [DecidablePred A] (n : ℕ) (hn : 0 < n) (ω : Fin n → Ω) :
    batchZ ([] : List (Nat × ℝ)) n (univ.filter fun i => A (ω i)).card
      = (1 / (n : ℝ)) * ∑ j, if A (ω j) then (1 : ℝ) else 0 := by
  rw [batchZ_first n _ hn (card_filter_fin_le _), one_div_mul_eq_div]
  congr 1
  rw [Finset.card_filter]; push_cast; rfl

/-- C11 (the recorded evidence estimates the supported prior mass): over `n` independent prior draws (law `p` on a finite
    space, `A` = "the likelihood is finite"), the EXPECTATION of the evidence recorded for the first warm-up batch —
    including the batches with no -inf draw (records 1) and with no finite draw (records 0) — is exactly `p(A)`. -/
theorem C11_first_batch_unbiased (p : Ω → ℝ) (hp1 : ∑ x, p x = 1) (A : Ω → Prop) [DecidablePred A]
    (n : ℕ) (hn : 0 < n) :
    ∑ ω : Fin n → Ω, (∏ i, p (ω i)) * batchZ ([] : List (Nat × ℝ)) n (univ.filter fun i => A (ω i)).card
      = ∑ x, if A x then p x else 0 := by
  simp_rw [batchZ_first_mean A n hn]
  exact (Lemmas.ProdLaw.mean_unbiased p hp1 (fun x => if A x then (1 : ℝ) else 0) n hn).trans (mass_eq p A).symm

theorem coin_total : ∑ _x : Fin 2, (1 / 2 : ℝ) = 1 := by
  rw [Finset.sum_const, Finset.card_univ, Fintype.card_fin]; norm_num

theorem coin_mass : mass (fun _ : Fin 2 => (1 / 2 : ℝ)) (fun x => x = 1) = 1 / 2 := by
  simp only [mass, Finset.sum_ite_eq', Finset.mem_univ, if_true]

example : ∑ ω : Fin 3 → Fin 2, (∏ i, (fun _ : Fin 2 => (1 / 2 : ℝ)) (ω i)) *
    batchZ ([] : List (Nat × ℝ)) 3 (univ.filter fun i => ω i = 1).card = 1 / 2 := by
  rw [C11_first_batch_unbiased (fun _ : Fin 2 => (1 / 2 : ℝ)) coin_total (fun x => x = 1) 3 (by norm_num)]
  simp

open Lemmas.MIS (Zf Zf_zero) in
/-- C11 (warm-up evidence ↔ final evidence): the expectation of the first recorded warm-up evidence is exactly the
    beta = 0 normaliser `Z_0` of the supported region that `C11_final` needs — the supported prior mass, counted once -/
theorem C11_first_batch_is_Z0 {Ω : Type} [Fintype Ω] (p L : Ω → ℝ) (hp1 : ∑ x, p x = 1) (n : ℕ) (hn : 0 < n) :
    ∑ ω : Fin n → Ω, (∏ i, p (ω i)) *
        batchZ ([] : List (Nat × ℝ)) n (Finset.univ.filter fun i => 0 < L (ω i)).card
      = Zf (fun x : {x : Ω // 0 < L x} => p x.1) (fun x => L x.1) 0 := by
  rw [C11_first_batch_unbiased p hp1 (fun x => 0 < L x) n hn, Zf_zero, sum_supported L p]

theorem indicator_variance (p : Ω → ℝ) (hp1 : ∑ x, p x = 1) (A : Ω → Prop) [DecidablePred A] :
    ∑ t, p t * ((if A t then (1 : ℝ) else 0) - mass p A) ^ 2 = mass p A * (1 - mass p A) := by
  have h : ∀ t, p t * ((if A t then (1 : ℝ) else 0) - mass p A) ^ 2
      = (if A t then p t else 0) * (1 - 2 * mass p A) + p t * mass p A ^ 2 := by
    intro t; split <;> ring
  simp_rw [h]
  rw [Finset.sum_add_distrib, ← Finset.sum_mul, ← Finset.sum_mul, hp1]
  unfold mass; ring

/-- C11 (2c, finite n): over `n` independent prior draws the evidence recorded for the first warm-up batch has mean `f`
    (`C11_first_batch_unbiased`) and variance EXACTLY `f(1−f)/n` -/
theorem C11_first_batch_variance (p : Ω → ℝ) (hp1 : ∑ x, p x = 1) (A : Ω → Prop) [DecidablePred A]
    (n : ℕ) (hn : 0 < n) :
    ∑ ω : Fin n → Ω, (∏ i, p (ω i)) *
        (batchZ ([] : List (Nat × ℝ)) n (univ.filter fun i => A (ω i)).card - mass p A) ^ 2
      = mass p A * (1 - mass p A) / n := by
  simp_rw [batchZ_first_mean A n hn]
  rw [← indicator_variance p hp1 A, mass_eq]
  exact Lemmas.ProdLaw.mean_variance p hp1 (fun x => if A x then (1 : ℝ) else 0) n hn

theorem chebyshev_finite {ι : Type} [Fintype ι] (w D : ι → ℝ) (hw : ∀ i, 0 ≤ w i) (ε : ℝ) (hε : 0 < ε) :
    ∑ i, (if ε ≤ |D i| then w i else 0) ≤ (∑ i, w i * D i ^ 2) / ε ^ 2 := by
  rw [le_div_iff₀ (by positivity), Finset.sum_mul]
  refine Finset.sum_le_sum fun i _ => ?_
  split
  · rename_i h
    have : ε ^ 2 ≤ D i ^ 2 := by
      rw [← sq_abs (D i)]; exact pow_le_pow_left₀ hε.le h 2
    exact mul_le_mul_of_nonneg_left this (hw i)
  · rw [zero_mul]; exact mul_nonneg (hw i) (sq_nonneg (D i))

/-- C11 (2c, finite n, tail bound): the probability that the evidence recorded for the first batch misses the supported
    prior mass by `ε` or more is at most `f(1−f)/(n ε²)` -/
theorem C11_first_batch_chebyshev (p : Ω → ℝ) (hp : ∀ x, 0 ≤ p x) (hp1 : ∑ x, p x = 1) (A : Ω → Prop)
    [DecidablePred A] (n : ℕ) (hn : 0 < n) (ε : ℝ) (hε : 0 < ε) :
    ∑ ω : Fin n → Ω, (if ε ≤ |batchZ ([] : List (Nat × ℝ)) n (univ.filter fun i => A (ω i)).card - mass p A|
        then ∏ i, p (ω i) else 0)
      ≤ mass p A * (1 - mass p A) / (n * ε ^ 2) := by
  have := chebyshev_finite (fun ω : Fin n → Ω => ∏ i, p (ω i))
    (fun ω => batchZ ([] : List (Nat × ℝ)) n (univ.filter fun i => A (ω i)).card - mass p A)
    (Lemmas.ProdLaw.nonneg p hp) ε hε
  rw [C11_first_batch_variance p hp1 A n hn] at this
  rw [← div_div]; exact this

/-- C11 (2c, the limit): the evidence recorded for the first batch converges IN PROBABILITY to the supported prior mass as
    the batch size grows — for every tolerance `ε` and every `δ > 0` all sufficiently large batches miss by `ε` or more with
    probability at most `δ` -/
theorem C11_first_batch_lln (p : Ω → ℝ) (hp : ∀ x, 0 ≤ p x) (hp1 : ∑ x, p x = 1) (A : Ω → Prop) [DecidablePred A]
    (ε δ : ℝ) (hε : 0 < ε) (hδ : 0 < δ) :
    ∃ N : ℕ, ∀ n : ℕ, N ≤ n → 0 < n →
      ∑ ω : Fin n → Ω, (if ε ≤ |batchZ ([] : List (Nat × ℝ)) n (univ.filter fun i => A (ω i)).card - mass p A|
        then ∏ i, p (ω i) else 0) ≤ δ := by
  obtain ⟨N, hN⟩ := exists_nat_gt (1 / (ε ^ 2 * δ))
  refine ⟨N, fun n hNn hn => (C11_first_batch_chebyshev p hp hp1 A n hn ε hε).trans ?_⟩
  have hf1 := mass_le_one p hp hp1 A
  have hq : mass p A * (1 - mass p A) ≤ 1 :=
    mul_le_one₀ hf1 (sub_nonneg.mpr hf1) (sub_le_self 1 (mass_nonneg p hp A))
  have hnr : (0 : ℝ) < n := by exact_mod_cast hn
  -- `n > 1/(ε²δ)`, so the Chebyshev bound `≤ 1/(n ε²)` is below `δ`
  have hn1 : 1 ≤ (n : ℝ) * (ε ^ 2 * δ) :=
    ((div_lt_iff₀ (mul_pos (pow_pos hε 2) hδ)).mp (hN.trans_le (Nat.cast_le.mpr hNn))).le
  rw [div_le_iff₀ (mul_pos hnr (pow_pos hε 2))]
  calc mass p A * (1 - mass p A) ≤ 1 := hq
    _ ≤ (n : ℝ) * (ε ^ 2 * δ) := hn1
    _ = δ * (n * ε ^ 2) := by ring

/-! ### the whole prior-sampling phase: k iterations of n draws each -/

/-- the `(n, n_finite)` sizes of the k batches of an outcome `ω` (batch t = draws `ω t 0 … ω t (n−1)`) -/
def phaseSizes (A : Ω → Prop) [DecidablePred A] (k n : ℕ) (ω : Fin k → Fin n → Ω) : List (Nat × Nat) :=
  List.ofFn fun t : Fin k => (n, (univ.filter fun i => A (ω t i)).card)

/-- the good event: every batch has a finite draw (no F8 batch) and every recorded warm-up evidence is within `ε` of `f` -/
def PhaseGood (A : Ω → Prop) [DecidablePred A] (k n : ℕ) (f ε : ℝ) (ω : Fin k → Fin n → Ω) : Prop :=
  (∀ t : Fin k, 0 < (univ.filter fun i => A (ω t i)).card) ∧
  ∀ e ∈ run batchZ [] (phaseSizes A k n ω), |e.2 - f| ≤ ε

omit [Fintype Ω] in
theorem phaseGood_of_fractions (A : Ω → Prop) [DecidablePred A] (k n : ℕ) (hn : 0 < n) (f ε : ℝ) (hε : ε < f)
    (ω : Fin k → Fin n → Ω)
    (h : ∀ t : Fin k, |((univ.filter fun i => A (ω t i)).card : ℝ) / (n : ℝ) - f| ≤ ε) :
    PhaseGood A k n f ε ω := by
  constructor
  · intro t
    by_contra hc
    have h0 : (univ.filter fun i => A (ω t i)).card = 0 := by omega
    have := h t
    rw [h0] at this
    simp only [Nat.cast_zero, zero_div, zero_sub, abs_neg] at this
    exact absurd (le_trans (le_abs_self f) this) (not_le.mpr hε)
  · apply C11_once_eps_all f ε hε
    intro b hb
    simp only [phaseSizes, List.mem_ofFn] at hb
    obtain ⟨t, rfl⟩ := hb
    exact ⟨hn, card_filter_fin_le _, h t⟩

/-- C11 (2c + 3, the whole prior-sampling phase): `k` warm-up iterations of `n` independent prior draws each (product law).
    Outside an event of probability at most `k · f(1−f)/(n ε²)` EVERY batch has a finite draw and EVERY one of the `k`
    recorded evidences is within `ε` of the supported prior mass `f` — the fraction is counted once however many
    prior-sampling iterations occur, and the bound degrades only linearly (union bound) in their number -/
theorem C11_warmup_concentration (p : Ω → ℝ) (hp : ∀ x, 0 ≤ p x) (hp1 : ∑ x, p x = 1) (A : Ω → Prop) [DecidablePred A]
    (k n : ℕ) (hn : 0 < n) (ε : ℝ) (hε0 : 0 < ε) (hε : ε < mass p A) [∀ ω, Decidable (PhaseGood A k n (mass p A) ε ω)] :
    ∑ ω : Fin k → Fin n → Ω, (if PhaseGood A k n (mass p A) ε ω then 0 else ∏ t, ∏ i, p (ω t i))
      ≤ k * (mass p A * (1 - mass p A) / (n * ε ^ 2)) := by
  -- a batch is bad when its own fraction misses `f` by `ε` or more: Chebyshev for each, union bound over the `k` batches
  refine le_trans (Lemmas.ProdLaw.union_bound (fun η : Fin n → Ω => ∏ i, p (η i)) (Lemmas.ProdLaw.nonneg p hp) (Lemmas.ProdLaw.total p hp1)
    (fun η => ε ≤ |batchZ ([] : List (Nat × ℝ)) n (univ.filter fun i => A (η i)).card - mass p A|) k
    (PhaseGood A k n (mass p A) ε) fun ω hng => ?_)
    (mul_le_mul_of_nonneg_left (C11_first_batch_chebyshev p hp hp1 A n hn ε hε0) (Nat.cast_nonneg k))
  by_contra hc
  refine hng (phaseGood_of_fractions A k n hn _ ε hε ω fun t => ?_)
  have := (not_le.mp (not_exists.mp hc t)).le
  rwa [batchZ_first n _ hn (card_filter_fin_le _)] at this

omit [Fintype Ω] in
/-- … and in log space: on the good event every stored `logz_t` of the prior-sampling phase is within `ε/(f−ε)` of
    `log f` -/
theorem C11_warmup_logz_concentration (A : Ω → Prop) [DecidablePred A] (k n : ℕ) (f ε : ℝ) (hε0 : 0 ≤ ε) (hε : ε < f)
    (ω : Fin k → Fin n → Ω) (hg : PhaseGood A k n f ε ω) :
    ∀ e ∈ run batchZ [] (phaseSizes A k n ω), |Real.log e.2 - Real.log f| ≤ ε / (f - ε) :=
  fun e he => C11_log_close f ε e.2 hε0 hε (hg.2 e he)

end stat

/-! ### the rule with `n_drawn = n` on the batches of a phase -/

/-- `runR` fed with `n_drawn = n` for every batch of the phase records the evidences of `run batchZ`; the hypothesis `_hg` is not
    used.  That the loop returns `n_drawn = n` when a batch has a finite draw (`drawLoop_of_hasFin`) is not part of the statement. -/
theorem C11_phase_good_no_redraw {Ω : Type} (A : Ω → Prop) [DecidablePred A] (k n : ℕ) (f ε : ℝ)
    (ω : Fin k → Fin n → Ω) (_hg : PhaseGood A k n f ε ω) :
    runR ([] : List (Nat × ℝ)) ((phaseSizes A k n ω).map fun b => (b.1, b.2, b.1)) = run batchZ [] (phaseSizes A k n ω) :=
  runR_no_redraw _ _

/-! ### non-vacuity of the first-batch statements -/

example : ∑ ω : Fin 4 → Fin 2, (∏ i, (fun _ : Fin 2 => (1 / 2 : ℝ)) (ω i)) *
    (batchZ ([] : List (Nat × ℝ)) 4 (univ.filter fun i => ω i = 1).card
      - mass (fun _ : Fin 2 => (1 / 2 : ℝ)) (fun x => x = 1)) ^ 2 = 1 / 16 := by
  rw [C11_first_batch_variance (fun _ : Fin 2 => (1 / 2 : ℝ)) coin_total (fun x => x = 1) 4 (by norm_num)]
  rw [coin_mass]; norm_num

example : ∀ e ∈ run batchZ ([] : List (Nat × ℝ)) [(4, 2), (8, 4), (4, 3)], |e.2 - 1 / 2| ≤ 1 / 4 := by
  apply C11_once_eps_all (1 / 2) (1 / 4) (by norm_num)
  intro b hb
  simp only [List.mem_cons, List.mem_nil_iff, or_false] at hb
  rcases hb with rfl | rfl | rfl <;>
    exact ⟨by norm_num, by norm_num, (abs_sub_le_iff_interval _ _ _).mpr ⟨by norm_num, by norm_num⟩⟩

example : |Real.log (3 / 4 : ℝ) - Real.log (1 / 2)| ≤ (1 / 4) / (1 / 2 - 1 / 4) :=
  C11_log_close (1 / 2) (1 / 4) (3 / 4) (by norm_num) (by norm_num)
    ((abs_sub_le_iff_interval _ _ _).mpr ⟨by norm_num, by norm_num⟩)

/-! ### the redraw rule in expectation: the recorded value as a function of the blocks' finite counts -/

/-- `c_k / ((k+1)·n)` for the first block `k ≥ k0` (position in the list shifted by `k0`) with a finite draw; 0 if none -/
noncomputable def redrawSum (n : Nat) : List Nat → Nat → ℝ
  | [], _ => 0
  | c :: rest, k => if 0 < c then (c : ℝ) / (((k + 1) * n : ℕ) : ℝ) else redrawSum n rest (k + 1)

/-- the evidence the FIRST warm-up iteration records (empty history) when the successive blocks have `cs` finite draws:
    the loop of `Model.WarmupR` on the counts, then the rule `Model.Warmup.batchZR`; `none` = raised / tape ended -/
noncomputable def redrawZ (n : Nat) (c0 : Nat) (rest : List Nat) : Option ℝ :=
  (Model.WarmupR.draw (fun c : Nat => decide (0 < c)) n c0 rest).map fun r => batchZR ([] : List (Nat × ℝ)) n r.1 r.2

/-- the loop on the counts `c :: rest`, entered at block position `k` (so with `n_drawn = (k+1)·n`; the cap is not reached because
    `k + rest.length + 1 ≤ 1000`), records `redrawSum` from position `k` on; `redrawZ_eq_sum` is the case `k = 0` -/
theorem redrawLoop_eq_sum (n : Nat) (hn : 0 < n) : ∀ (rest : List Nat) (c k : Nat),
    (∀ x ∈ c :: rest, x ≤ n) → k + rest.length + 1 ≤ capFactor →
    ((drawLoop (fun c : Nat => decide (0 < c)) n rest c ((k + 1) * n)).map
      fun r => batchZR ([] : List (Nat × ℝ)) n r.1 r.2).getD 0 = redrawSum n (c :: rest) k := by
  -- a block with a finite draw is kept and records its own fraction
  have pos : ∀ (rest : List Nat) (c k : Nat), 0 < c → c ≤ n →
      ((drawLoop (fun c : Nat => decide (0 < c)) n rest c ((k + 1) * n)).map
        fun r => batchZR ([] : List (Nat × ℝ)) n r.1 r.2).getD 0 = redrawSum n (c :: rest) k := by
    intro rest c k h hc
    rw [drawLoop_of_hasFin (fun c : Nat => decide (0 < c)) n rest c _ (decide_eq_true h)]
    simp only [Option.map_some, Option.getD_some, redrawSum, h, if_true]
    exact batchZR_first n c ((k + 1) * n) hn hc (Nat.le_mul_of_pos_left n (Nat.succ_pos k))
  intro rest
  induction rest with
  | nil =>
    intro c k hle _
    by_cases h : 0 < c
    · exact pos [] c k h (hle c List.mem_cons_self)
    · rw [drawLoop_nil (fun c : Nat => decide (0 < c)) n c _ (decide_eq_false h)]
      simp only [redrawSum, h, if_false, Option.map_none, Option.getD_none]
  | cons b rest ih =>
    intro c k hle hcap
    by_cases h : 0 < c
    · exact pos _ c k h (hle c List.mem_cons_self)
    · -- the block is discarded: the cap is not reached, the next block is position `k + 1`
      have hcap' : ¬ capFactor * n ≤ (k + 1) * n := by
        intro hc'
        have := Nat.le_of_mul_le_mul_right hc' hn
        simp only [List.length_cons] at hcap
        omega
      rw [drawLoop_discard (fun c : Nat => decide (0 < c)) n b rest c _ (decide_eq_false h) hcap', ← Nat.succ_mul, redrawSum,
        if_neg h]
      exact ih b (k + 1) (fun x hx => hle x (List.mem_cons_of_mem _ hx))
        (by simp only [List.length_cons] at hcap; omega)

theorem redrawZ_eq_sum (n : Nat) (hn : 0 < n) (c0 : Nat) (rest : List Nat) (hle : ∀ x ∈ c0 :: rest, x ≤ n)
    (hcap : rest.length + 1 ≤ capFactor) : (redrawZ n c0 rest).getD 0 = redrawSum n (c0 :: rest) 0 := by
  have := redrawLoop_eq_sum n hn rest c0 0 hle (by omega)
  simpa [redrawZ, Model.WarmupR.draw] using this

/-! ### the probability space: K blocks of n i.i.d. prior draws -/
section space
variable {Ω : Type} [Fintype Ω]

def cnt (A : Ω → Prop) [DecidablePred A] {n : ℕ} (η : Fin n → Ω) : ℕ := (univ.filter fun i => A (η i)).card

noncomputable def blockLaw (p : Ω → ℝ) {n : ℕ} (η : Fin n → Ω) : ℝ := ∏ i, p (η i)

noncomputable def pAllInf (p : Ω → ℝ) (A : Ω → Prop) [DecidablePred A] (n : ℕ) : ℝ :=
  ∑ η : Fin n → Ω, blockLaw p η * (if cnt A η = 0 then 1 else 0)

omit [Fintype Ω] in
theorem cnt_zero_iff (A : Ω → Prop) [DecidablePred A] {n : ℕ} (η : Fin n → Ω) : cnt A η = 0 ↔ ∀ i, ¬ A (η i) := by
  unfold cnt
  rw [Finset.card_eq_zero, Finset.filter_eq_empty_iff]
  exact ⟨fun h i => h (Finset.mem_univ i), fun h i _ => h i⟩

theorem allInf_prob (p : Ω → ℝ) (hp1 : ∑ x, p x = 1) (A : Ω → Prop) [DecidablePred A] (n : ℕ) :
    pAllInf p A n = (1 - mass p A) ^ n := by
  have h := Lemmas.ProdLaw.factor p fun (_ : Fin n) x => if ¬ A x then (1 : ℝ) else 0
  have h2 : ∑ x, p x * (if ¬ A x then (1 : ℝ) else 0) = 1 - mass p A := by
    rw [eq_sub_iff_add_eq, mass, ← Finset.sum_add_distrib]
    refine (Finset.sum_congr rfl fun x _ => ?_).trans hp1
    by_cases hx : A x <;> simp [hx]
  rw [h2, Finset.prod_const, Finset.card_univ, Fintype.card_fin] at h
  rw [← h]
  refine Finset.sum_congr rfl fun η _ => ?_
  rw [Finset.prod_ite_zero, Finset.prod_const_one]
  simp only [blockLaw, cnt_zero_iff, Finset.mem_univ, forall_true_left]

theorem block_fraction_mean (p : Ω → ℝ) (hp1 : ∑ x, p x = 1) (A : Ω → Prop) [DecidablePred A] (n : ℕ) (hn : 0 < n) :
    ∑ η : Fin n → Ω, blockLaw p η * ((cnt A η : ℝ) / (n : ℝ)) = mass p A := by
  have := C11_first_batch_unbiased p hp1 A n hn
  unfold mass
  rw [← this]
  refine Finset.sum_congr rfl fun η _ => ?_
  unfold blockLaw cnt
  rw [batchZ_first n _ hn (card_filter_fin_le _)]

/-- the recursion behind the expectation, for any law `q` of a block and any count `c` of its finite draws: block `j` is
    reached after `j` discarded blocks (probability `r^j`, `r` = probability that a block has no finite draw) and then contributes
    the mean of `c / ((k0 + j + 1)·n)` over one block -/
theorem redraw_expectation_rec {B : Type} [Fintype B] (q : B → ℝ) (hq1 : ∑ x, q x = 1) (c : B → ℕ) (n : ℕ) :
    ∀ K k0 : ℕ, ∑ ω : Fin K → B, (∏ t, q (ω t)) * redrawSum n (List.ofFn fun t => c (ω t)) k0
      = ∑ j ∈ Finset.range K, (∑ x, q x * if c x = 0 then 1 else 0) ^ j *
          ∑ x, q x * ((c x : ℝ) / (((k0 + j + 1) * n : ℕ) : ℝ)) := by
  intro K
  induction K with
  | zero => intro k0; simp only [List.ofFn_zero, redrawSum, mul_zero, Finset.sum_const_zero, Finset.range_zero, Finset.sum_empty]
  | succ K ih =>
    intro k0
    -- the first block either ends the loop or is discarded, and then the other `K` blocks start one position later
    have hx : ∀ x, q x * ∑ ω' : Fin K → B, (∏ t, q (ω' t)) *
          redrawSum n (List.ofFn fun t => c ((Fin.cons x ω' : Fin (K + 1) → B) t)) k0
        = q x * ((c x : ℝ) / (((k0 + 1) * n : ℕ) : ℝ)) + (q x * if c x = 0 then 1 else 0) *
          ∑ ω' : Fin K → B, (∏ t, q (ω' t)) * redrawSum n (List.ofFn fun t => c (ω' t)) (k0 + 1) := by
      intro x
      simp only [List.ofFn_succ, Fin.cons_zero, Fin.cons_succ, redrawSum]
      by_cases h : c x = 0
      · simp only [h, lt_irrefl, if_false, if_true, Nat.cast_zero, zero_div, mul_zero, zero_add, mul_one]
      · simp only [Nat.pos_of_ne_zero h, h, if_true, if_false, mul_zero, zero_mul, add_zero, ← Finset.sum_mul,
          Lemmas.ProdLaw.total q hq1, one_mul]
    rw [Lemmas.ProdLaw.succ q K, Finset.sum_range_succ']
    simp_rw [hx]
    rw [Finset.sum_add_distrib, ← Finset.sum_mul, ih (k0 + 1), Finset.mul_sum, add_comm]
    congr 1
    · refine Finset.sum_congr rfl fun j _ => ?_
      rw [pow_succ', mul_assoc, show k0 + 1 + j + 1 = k0 + (j + 1) + 1 by omega]
    · rw [pow_zero, one_mul, Nat.add_zero]

/-- C11 (what the redraw rule records, in expectation): `K` blocks of `n` independent prior draws each.  The evidence recorded
    by the first warm-up iteration of /repo 959029e — `n_finite/((k+1)·n)` for the first block `k` with a finite draw — has,
    restricted to the event that the loop ends within the `K` blocks,
        `E[Z] = f · Σ_{j<K} r^j / (j + 1)`,   `r = P(block without a finite draw) = (1−f)^n`. -/
theorem C11_redraw_expectation (p : Ω → ℝ) (hp1 : ∑ x, p x = 1) (A : Ω → Prop) [DecidablePred A] (n : ℕ) (hn : 0 < n)
    (K : ℕ) :
    ∑ ω : Fin K → Fin n → Ω, (∏ t, blockLaw p (ω t)) * redrawSum n (List.ofFn fun t => cnt A (ω t)) 0
      = mass p A * ∑ j ∈ Finset.range K, ((1 - mass p A) ^ n) ^ j / ((j + 1 : ℕ) : ℝ) := by
  have hnr : (n : ℝ) ≠ 0 := by exact_mod_cast hn.ne'
  rw [redraw_expectation_rec (fun η => blockLaw p η) (Lemmas.ProdLaw.total p hp1) (cnt A) n K 0, Finset.mul_sum]
  refine Finset.sum_congr rfl fun j _ => ?_
  -- block `j` is reached with probability `r^j`; its expected fraction is `f`, divided by the `j + 1` blocks drawn
  have hr : ∑ η : Fin n → Ω, blockLaw p η * (if cnt A η = 0 then (1 : ℝ) else 0) = (1 - mass p A) ^ n :=
    allInf_prob p hp1 A n
  have hm : ∑ η : Fin n → Ω, blockLaw p η * ((cnt A η : ℝ) / (((0 + j + 1) * n : ℕ) : ℝ)) = mass p A / ((j + 1 : ℕ) : ℝ) := by
    rw [← block_fraction_mean p hp1 A n hn, Finset.sum_div]
    refine Finset.sum_congr rfl fun η _ => ?_
    rw [zero_add, Nat.cast_mul, mul_div_assoc, div_div, mul_comm (n : ℝ)]
  rw [hr, hm]; ring

/-- C11 (how far from `f`): the restricted expectation lies between `f` and `f · Σ_{j<K} r^j`, `r = (1−f)^n`.  (For `r < 1` the
    geometric series gives `≤ f/(1−r)`, an excess of at most the factor `r/(1−r)`; that step is not part of the statement.) -/
theorem C11_redraw_bias_bounds (p : Ω → ℝ) (hp : ∀ x, 0 ≤ p x) (hp1 : ∑ x, p x = 1) (A : Ω → Prop) [DecidablePred A]
    (n : ℕ) (hn : 0 < n) (K : ℕ) (hK : 0 < K) :
    let E := ∑ ω : Fin K → Fin n → Ω, (∏ t, blockLaw p (ω t)) * redrawSum n (List.ofFn fun t => cnt A (ω t)) 0
    mass p A ≤ E ∧ E ≤ mass p A * ∑ j ∈ Finset.range K, ((1 - mass p A) ^ n) ^ j := by
  intro E
  have hf0 := mass_nonneg p hp A
  have hr0 : 0 ≤ (1 - mass p A) ^ n := pow_nonneg (sub_nonneg.mpr (mass_le_one p hp hp1 A)) n
  have hterm : ∀ j : ℕ, 0 ≤ ((1 - mass p A) ^ n) ^ j / ((j + 1 : ℕ) : ℝ) := fun j =>
    div_nonneg (pow_nonneg hr0 j) (Nat.cast_nonneg _)
  rw [show E = _ from C11_redraw_expectation p hp1 A n hn K]
  constructor
  · -- the term `j = 0` of the sum is 1
    have h1 := Finset.single_le_sum (fun j _ => hterm j) (Finset.mem_range.mpr hK)
    simp only [pow_zero, zero_add, Nat.cast_one, div_one] at h1
    exact le_mul_of_one_le_right hf0 h1
  · exact mul_le_mul_of_nonneg_left (Finset.sum_le_sum fun j _ =>
      div_le_self (pow_nonneg hr0 j) (Nat.one_le_cast.mpr j.succ_pos)) hf0

end space

/-! ### the caveat, explicitly, and non-vacuity -/

/-- C11 (the n = 1 caveat): a fair coin (`f = 1/2`), batches of ONE draw, at most two blocks.  The restricted expectation of the
    recorded evidence is `5/8`, whereas `f · P(the loop ends) = 1/2 · 3/4 = 3/8`: conditional on completing, the mean is `5/6`,
    not `1/2`.  The redraw estimator `n_finite/(K·n)` is consistent in `n` (`C11_redraw_bias_bounds`: excess ≤ r/(1−r),
    r = 2^{−n} here) but NOT unbiased, and useless at `n = 1`. -/
theorem C11_redraw_biased_n1 :
    ∑ ω : Fin 2 → Fin 1 → Fin 2, (∏ t, blockLaw (fun _ : Fin 2 => (1 / 2 : ℝ)) (ω t)) *
        redrawSum 1 (List.ofFn fun t => cnt (fun x : Fin 2 => x = 1) (ω t)) 0 = 5 / 8 ∧
    mass (fun _ : Fin 2 => (1 / 2 : ℝ)) (fun x => x = 1) * (1 - pAllInf (fun _ : Fin 2 => (1 / 2 : ℝ)) (fun x => x = 1) 1 ^ 2)
      = 3 / 8 := by
  constructor
  · rw [C11_redraw_expectation (fun _ : Fin 2 => (1 / 2 : ℝ)) coin_total (fun x => x = 1) 1 (by norm_num) 2, coin_mass]
    norm_num [Finset.sum_range_succ]
  · rw [allInf_prob (fun _ : Fin 2 => (1 / 2 : ℝ)) coin_total (fun x => x = 1) 1, coin_mass]
    norm_num

example : (redrawZ 4 0 [0, 3]).getD 0 = redrawSum 4 [0, 0, 3] 0 :=
  redrawZ_eq_sum 4 (by norm_num) 0 [0, 3] (by intro x hx; simp at hx; rcases hx with rfl | rfl | rfl <;> norm_num)
    (by simp [capFactor])

example : redrawSum 4 [0, 0, 3] 0 = 3 / 12 := by simp [redrawSum]

end Props.C11
