import TempestVerif.Model.Weights
import TempestVerif.Lemmas.Weights
import TempestVerif.Lemmas.ScReal
import Mathlib.Analysis.SpecialFunctions.Log.Basic
import Mathlib.Analysis.SpecialFunctions.Exp
import Mathlib.Algebra.Order.BigOperators.Group.List
/-
  C04 — importance weights follow the balance-heuristic mixture formula.
  Theorems are about `Model.Weights` at `ℝ` (exact arithmetic).  The same model under rounding is treated in
  `Props/C04Round.lean` / `Props/C04RoundQ.lean`; IEEE doubles are tied to it by the toleranced correspondence.
-/
namespace Props.C04
open Model.Weights

/-! ### `logaddexp` is `log (exp a + exp b)`; its fold is log-sum-exp -/

theorem laeArg_eq (a b : ℝ) : laeArg a b = -|a - b| := by
  simp only [laeArg, sc_real]
  split_ifs with h
  · rw [abs_of_pos h]
  · rw [abs_of_nonpos (not_lt.mp h), neg_neg]

/-- in the max-shifted evaluation the argument of `exp` is never positive (no overflow) -/
theorem C04_exp_arg_nonpos (a b : ℝ) : laeArg a b ≤ 0 := by
  rw [laeArg_eq]
  exact neg_nonpos.mpr (abs_nonneg _)

theorem logaddexp_eq (a b : ℝ) : logaddexp a b = Real.log (Real.exp a + Real.exp b) := by
  -- factor out one term: `x + log (1 + e^(y−x)) = log (e^x + e^y)`; each branch below applies it with `x` the larger argument
  have key : ∀ x y : ℝ, x + Real.log (1 + Real.exp (y - x)) = Real.log (Real.exp x + Real.exp y) := by
    intro x y
    have h1 : Real.exp x + Real.exp y = Real.exp x * (1 + Real.exp (y - x)) := by
      rw [mul_add, mul_one, ← Real.exp_add, add_sub_cancel]
    rw [h1, Real.log_mul (Real.exp_pos x).ne' (by positivity), Real.log_exp]
  simp only [logaddexp, laeArg_eq, sc_real, Bool.and_eq_true, sub_pos]
  rcases lt_trichotomy a b with h | rfl | h
  · rw [if_neg (fun h' => h.not_ge h'.2), if_neg h.not_gt, abs_of_neg (sub_neg.mpr h), neg_neg, add_comm (Real.exp a),
      key b a]
  · rw [if_pos ⟨le_rfl, le_rfl⟩, ← key a a, sub_self, Real.exp_zero, one_add_one_eq_two]
  · rw [if_neg (fun h' => h.not_ge h'.1), if_pos h, abs_of_pos (sub_pos.mpr h), neg_sub, key a b]

theorem logaddexpReduce1_eq (x : ℝ) (xs : List ℝ) :
    logaddexpReduce1 x xs = Real.log (Real.exp x + (xs.map Real.exp).sum) := by
  unfold logaddexpReduce1
  induction xs generalizing x with
  | nil => simp
  | cons y ys ih =>
    rw [List.foldl_cons, ih, logaddexp_eq, Real.exp_log (add_pos (Real.exp_pos x) (Real.exp_pos y))]
    simp [add_assoc]

theorem logaddexpReduce_eq (l : List ℝ) (hl : l ≠ []) :
    logaddexpReduce l = some (Real.log (l.map Real.exp).sum) := by
  cases l with
  | nil => exact absurd rfl hl
  | cons x xs => simp [logaddexpReduce, logaddexpReduce1_eq]

theorem exp_le_sum_exp (l : List ℝ) (y : ℝ) (hy : y ∈ l) : Real.exp y ≤ (l.map Real.exp).sum :=
  List.single_le_sum (List.forall_mem_map.mpr fun z _ => (Real.exp_pos z).le) _ (List.mem_map_of_mem hy)

theorem sum_exp_pos (x : ℝ) (xs : List ℝ) : 0 < Real.exp x + (xs.map Real.exp).sum :=
  (Real.exp_pos x).trans_le (exp_le_sum_exp (x :: xs) x List.mem_cons_self)

/-! ### the statement's formulas (linear-space specification) -/

/-- a stored history the statement quantifies over: T ≥ 1 iterations, every batch size n_t ≥ 1 -/
def WF (h : List (Batch ℝ)) : Prop := h ≠ [] ∧ ∀ b ∈ h, 1 ≤ b.logl.length

/-- `Σ_t (n_t/N) · exp(β_t ℓ − z_t)`: batch-size-weighted mixture of the normalised tempered densities -/
noncomputable def mix (h : List (Batch ℝ)) (l : ℝ) : ℝ :=
  (h.map fun b => ((b.logl.length : ℝ) / (nTotal h : ℝ)) * Real.exp (b.beta * l - b.logz)).sum

noncomputable def specRaw (h : List (Batch ℝ)) (β l : ℝ) : ℝ := β * l - Real.log (mix h l)

noncomputable def sumW (h : List (Batch ℝ)) (β : ℝ) : ℝ :=
  ((flatLogl h).map fun l => Real.exp (specRaw h β l)).sum

noncomputable def specLogz (h : List (Batch ℝ)) (β : ℝ) : ℝ :=
  Real.log ((1 / (nTotal h : ℝ)) * sumW h β)

noncomputable def specNorm (h : List (Batch ℝ)) (β l : ℝ) : ℝ := specRaw h β l - Real.log (sumW h β)

theorem nTotal_pos (h : List (Batch ℝ)) (hwf : WF h) : 0 < nTotal h := one_le_nTotal hwf.1 hwf.2

theorem flatLogl_ne_nil (h : List (Batch ℝ)) (hwf : WF h) : flatLogl h ≠ [] :=
  List.ne_nil_of_length_pos (length_flatLogl h ▸ nTotal_pos h hwf)

/-! ### the model's `B_s` and unnormalised weights are the statement's -/

theorem exp_entry (N : ℕ) (hN : 0 < N) (l : ℝ) (b : Batch ℝ) (hb : 1 ≤ b.logl.length) :
    Real.exp (entry (Real.log (N : ℝ)) l b)
      = ((b.logl.length : ℝ) / (N : ℝ)) * Real.exp (b.beta * l - b.logz) := by
  have hn : (0 : ℝ) < (b.logl.length : ℝ) := by exact_mod_cast hb
  have hN' : (0 : ℝ) < (N : ℝ) := by exact_mod_cast hN
  simp only [entry, sc_real]
  rw [Real.exp_add, Real.exp_sub (Real.log _), Real.exp_log hn, Real.exp_log hN', mul_comm l b.beta]
  ring

theorem mix_pos (h : List (Batch ℝ)) (hwf : WF h) (l : ℝ) : 0 < mix h l := by
  have hN : (0 : ℝ) < (nTotal h : ℝ) := Nat.cast_pos.mpr (nTotal_pos h hwf)
  refine List.sum_pos _ (fun x hx => ?_) (by simpa using hwf.1)
  obtain ⟨b, hb, rfl⟩ := List.mem_map.mp hx
  exact mul_pos (div_pos (Nat.cast_pos.mpr (hwf.2 b hb)) hN) (Real.exp_pos _)

theorem mixLog_eq (b0 : Batch ℝ) (bs : List (Batch ℝ)) (hwf : WF (b0 :: bs)) (l : ℝ) :
    mixLog b0 bs (Real.log (nTotal (b0 :: bs) : ℝ)) l = Real.log (mix (b0 :: bs) l) := by
  have hexp : ∀ b ∈ b0 :: bs, Real.exp (entry (Real.log (nTotal (b0 :: bs) : ℝ)) l b) = _ :=
    fun b hb => exp_entry _ (nTotal_pos _ hwf) l b (hwf.2 b hb)
  rw [mixLog, logaddexpReduce1_eq, List.map_map]
  exact congrArg Real.log (congrArg₂ (· + ·) (hexp b0 List.mem_cons_self)
    (congrArg List.sum (List.map_congr_left fun b hb => hexp b (List.mem_cons_of_mem _ hb))))

theorem sumW_pos (h : List (Batch ℝ)) (hwf : WF h) (β : ℝ) : 0 < sumW h β :=
  List.sum_pos _ (List.forall_mem_map.mpr fun _ _ => Real.exp_pos _) (by simpa using flatLogl_ne_nil h hwf)

theorem rawLogw_eq (b0 : Batch ℝ) (bs : List (Batch ℝ)) (hwf : WF (b0 :: bs)) (β : ℝ) :
    rawLogw b0 bs β = (flatLogl (b0 :: bs)).map (specRaw (b0 :: bs) β) := by
  unfold rawLogw
  apply List.map_congr_left
  intro l _
  simp only [sc_real]
  rw [mixLog_eq b0 bs hwf l, specRaw, mul_comm]

/-! ### behaviour of the tail (`logz_new`, normalisation) -/

theorem finish_fst_true (w : List ℝ) :
    (finish w true).1 = w.map fun x => x - Real.log (w.map Real.exp).sum := by
  cases w with
  | nil => rfl
  | cons w0 ws => simp [finish_cons_fst_true, logaddexpReduce1_eq]

theorem finish_snd (w : List ℝ) (hw : w ≠ []) (nrm : Bool) :
    (finish w nrm).2 = some (Real.log (w.map Real.exp).sum - Real.log (w.length : ℝ)) := by
  cases w with
  | nil => exact absurd rfl hw
  | cons w0 ws => simp [finish_cons_snd, logaddexpReduce1_eq]

/-! ### C04: the formula of the statement -/

theorem logw_eq (h : List (Batch ℝ)) (hwf : WF h) (β : ℝ) (nrm : Bool) :
    logw h β nrm = finish ((flatLogl h).map (specRaw h β)) nrm := by
  cases h with
  | nil => exact absurd rfl hwf.1
  | cons b0 bs => rw [← rawLogw_eq b0 bs hwf]; rfl

/-- every stored sample's (unnormalised) log-weight is `β ℓ_s − log Σ_t (n_t/N) exp(β_t ℓ_s − z_t)`,
    in flat order (batches in order, particles in order) -/
theorem C04_formula (h : List (Batch ℝ)) (hwf : WF h) (β : ℝ) :
    (logw h β false).1 = (flatLogl h).map (specRaw h β) := by
  rw [logw_eq h hwf, finish_fst_false]

/-- the evidence estimate is the log of the mean unnormalised weight (whatever `normalize` is) -/
theorem C04_logz (h : List (Batch ℝ)) (hwf : WF h) (β : ℝ) (nrm : Bool) :
    (logw h β nrm).2 = some (specLogz h β) := by
  have hN : (nTotal h : ℝ) ≠ 0 := Nat.cast_ne_zero.mpr (nTotal_pos _ hwf).ne'
  rw [logw_eq h hwf, finish_snd _ (by simpa using flatLogl_ne_nil _ hwf), specLogz,
    Real.log_mul (one_div_ne_zero hN) (sumW_pos _ hwf β).ne', one_div, Real.log_inv, List.length_map, length_flatLogl,
    List.map_map, neg_add_eq_sub]
  rfl

/-- normalised log-weights: the unnormalised ones minus the log of their linear-space sum -/
theorem C04_normalised (h : List (Batch ℝ)) (hwf : WF h) (β : ℝ) :
    (logw h β true).1 = (flatLogl h).map (specNorm h β) := by
  rw [logw_eq h hwf, finish_fst_true, List.map_map, List.map_map]
  rfl

/-- returned normalised weights sum to one -/
theorem C04_normalised_sum_one (h : List (Batch ℝ)) (hwf : WF h) (β : ℝ) :
    (((logw h β true).1).map Real.exp).sum = 1 := by
  rw [C04_normalised h hwf, List.map_map]
  have hS := sumW_pos h hwf β
  have : ((flatLogl h).map (Real.exp ∘ specNorm h β))
      = (flatLogl h).map fun l => Real.exp (specRaw h β l) * (sumW h β)⁻¹ := by
    apply List.map_congr_left
    intro l _
    simp only [Function.comp_def, specNorm]
    rw [Real.exp_sub, Real.exp_log hS, div_eq_mul_inv]
  rw [this, List.sum_map_mul_right]
  exact mul_inv_cancel₀ hS.ne'

/-- every returned normalised log-weight is `≤ 0`: every normalised weight `exp w_s` is at most 1 -/
theorem C04_normalised_le_one (h : List (Batch ℝ)) (hwf : WF h) (β : ℝ) :
    ∀ w ∈ (logw h β true).1, w ≤ 0 := by
  intro w hw
  have h2 := exp_le_sum_exp _ w hw
  rw [C04_normalised_sum_one h hwf β, ← Real.exp_zero] at h2
  exact Real.exp_le_exp.mp h2

/-- normalised weight = unnormalised weight / (N · Ẑ): `logw_norm = logw − logz − log N` -/
theorem C04_norm_raw_logz (h : List (Batch ℝ)) (hwf : WF h) (β l : ℝ) :
    specNorm h β l = specRaw h β l - specLogz h β - Real.log (nTotal h : ℝ) := by
  have hN : (0 : ℝ) < (nTotal h : ℝ) := by exact_mod_cast nTotal_pos _ hwf
  have hS := sumW_pos h hwf β
  unfold specNorm specLogz
  rw [Real.log_mul (by positivity) hS.ne', one_div, Real.log_inv]
  ring

/-- one log-weight per stored sample (either `normalize` flag) -/
theorem C04_length (h : List (Batch ℝ)) (hwf : WF h) (β : ℝ) (nrm : Bool) :
    ((logw h β nrm).1).length = nTotal h :=
  length_logw h β nrm

/-- the weights of iteration `t` sit, in particle order, behind those of the iterations before it:
    the output for `pre ++ b :: post` is (weights of `pre`) ++ (weights of `b`) ++ (weights of `post`),
    each computed by the same weight function of the whole history -/
theorem C04_batch_slices (pre post : List (Batch ℝ)) (b : Batch ℝ) (hwf : WF (pre ++ b :: post)) (β : ℝ) :
    (logw (pre ++ b :: post) β false).1
      = (flatLogl pre).map (specRaw (pre ++ b :: post) β)
        ++ b.logl.map (specRaw (pre ++ b :: post) β)
        ++ (flatLogl post).map (specRaw (pre ++ b :: post) β) := by
  rw [C04_formula _ hwf, flatLogl_split, List.map_append, List.map_append, List.append_assoc]

/-! ### independence of the order of iterations -/

theorem WF_perm {h h' : List (Batch ℝ)} (p : h.Perm h') (hwf : WF h) : WF h' := by
  refine ⟨?_, fun b hb => hwf.2 b (p.mem_iff.mpr hb)⟩
  intro he
  subst he
  exact hwf.1 (List.Perm.eq_nil p)

theorem mix_perm {h h' : List (Batch ℝ)} (p : h.Perm h') (l : ℝ) : mix h l = mix h' l := by
  unfold mix
  rw [nTotal_perm p]
  exact (p.map _).sum_eq

theorem specRaw_perm {h h' : List (Batch ℝ)} (p : h.Perm h') (β l : ℝ) :
    specRaw h β l = specRaw h' β l := by
  unfold specRaw; rw [mix_perm p]

theorem sumW_perm {h h' : List (Batch ℝ)} (p : h.Perm h') (β : ℝ) : sumW h β = sumW h' β := by
  unfold sumW
  simp only [specRaw_perm p]
  exact ((p.flatMap_right _).map _).sum_eq

theorem specNorm_perm {h h' : List (Batch ℝ)} (p : h.Perm h') (β l : ℝ) : specNorm h β l = specNorm h' β l := by
  unfold specNorm; rw [specRaw_perm p, sumW_perm p]

theorem specLogz_perm {h h' : List (Batch ℝ)} (p : h.Perm h') (β : ℝ) : specLogz h β = specLogz h' β := by
  unfold specLogz; rw [nTotal_perm p, sumW_perm p]

/-- the weight function itself is order-independent -/
theorem C04_perm_weight {h h' : List (Batch ℝ)} (p : h.Perm h') (β l : ℝ) :
    specRaw h β l = specRaw h' β l ∧ specNorm h β l = specNorm h' β l ∧ specLogz h β = specLogz h' β :=
  ⟨specRaw_perm p β l, specNorm_perm p β l, specLogz_perm p β⟩

/-- Re-ordering the iterations (each batch carried along with its β_t, z_t) changes nothing:
    the model's output is the image of the stored particles under ONE weight function of the
    particle's log-likelihood, that function is the same for both orders, and the evidence is the same. -/
theorem C04_perm_invariant {h h' : List (Batch ℝ)} (p : h.Perm h') (hwf : WF h) (β : ℝ) (nrm : Bool) :
    ∃ w : ℝ → ℝ,
      (logw h β nrm).1 = (flatLogl h).map w ∧
      (logw h' β nrm).1 = (flatLogl h').map w ∧
      (logw h β nrm).2 = (logw h' β nrm).2 := by
  have hwf' := WF_perm p hwf
  have hz : (logw h β nrm).2 = (logw h' β nrm).2 := by
    rw [C04_logz h hwf, C04_logz h' hwf', specLogz_perm p]
  have eRaw : specRaw h β = specRaw h' β := funext (specRaw_perm p β)
  have eNorm : specNorm h β = specNorm h' β := funext (specNorm_perm p β)
  cases nrm with
  | false => exact ⟨specRaw h β, C04_formula h hwf β, eRaw ▸ C04_formula h' hwf' β, hz⟩
  | true => exact ⟨specNorm h β, C04_normalised h hwf β, eNorm ▸ C04_normalised h' hwf' β, hz⟩

/-! ### rescaling the likelihood -/

/-- ℓ ↦ ℓ + c for every stored particle, z_t ↦ z_t + β_t c -/
def shiftB (c : ℝ) (b : Batch ℝ) : Batch ℝ := ⟨b.beta, b.logz + b.beta * c, b.logl.map (· + c)⟩
def shiftH (c : ℝ) (h : List (Batch ℝ)) : List (Batch ℝ) := h.map (shiftB c)

theorem WF_shift (c : ℝ) (h : List (Batch ℝ)) (hwf : WF h) : WF (shiftH c h) := by
  refine ⟨by simpa [shiftH] using hwf.1, ?_⟩
  intro b hb
  simp only [shiftH, List.mem_map] at hb
  obtain ⟨b', hb', rfl⟩ := hb
  simpa [shiftB] using hwf.2 b' hb'

theorem nTotal_shift (c : ℝ) (h : List (Batch ℝ)) : nTotal (shiftH c h) = nTotal h :=
  nTotal_map _ (fun _ => List.length_map _) h

theorem flatLogl_shift (c : ℝ) (h : List (Batch ℝ)) :
    flatLogl (shiftH c h) = (flatLogl h).map (· + c) :=
  flatLogl_map _ _ (fun _ => rfl) h

theorem mix_shift (c : ℝ) (h : List (Batch ℝ)) (l : ℝ) : mix (shiftH c h) (l + c) = mix h l := by
  unfold mix
  rw [nTotal_shift]
  simp only [shiftH, List.map_map]
  congr 1
  apply List.map_congr_left
  intro b _
  simp only [Function.comp_def, shiftB, List.length_map]
  congr 2; ring

theorem specRaw_shift (c : ℝ) (h : List (Batch ℝ)) (β l : ℝ) :
    specRaw (shiftH c h) β (l + c) = specRaw h β l + β * c := by
  unfold specRaw; rw [mix_shift]; ring

theorem sumW_shift (c : ℝ) (h : List (Batch ℝ)) (β : ℝ) :
    sumW (shiftH c h) β = sumW h β * Real.exp (β * c) := by
  unfold sumW
  rw [flatLogl_shift, List.map_map, ← List.sum_map_mul_right]
  congr 1
  apply List.map_congr_left
  intro l _
  simp only [Function.comp_def]
  rw [specRaw_shift, Real.exp_add]

theorem specNorm_shift (c : ℝ) (h : List (Batch ℝ)) (hwf : WF h) (β l : ℝ) :
    specNorm (shiftH c h) β (l + c) = specNorm h β l := by
  unfold specNorm
  rw [specRaw_shift, sumW_shift, Real.log_mul (sumW_pos h hwf β).ne' (Real.exp_pos _).ne', Real.log_exp]
  ring

theorem specLogz_shift (c : ℝ) (h : List (Batch ℝ)) (hwf : WF h) (β : ℝ) :
    specLogz (shiftH c h) β = specLogz h β + β * c := by
  have hN : (0 : ℝ) < (nTotal h : ℝ) := Nat.cast_pos.mpr (nTotal_pos _ hwf)
  unfold specLogz
  rw [nTotal_shift, sumW_shift, ← mul_assoc,
    Real.log_mul (mul_pos (one_div_pos.mpr hN) (sumW_pos h hwf β)).ne' (Real.exp_pos _).ne', Real.log_exp]

/-- rescaling the likelihood by `e^c` (with the stored evidences rescaled consistently) shifts every
    unnormalised log-weight and the evidence by `β c` and leaves the normalised weights unchanged -/
theorem C04_shift (h : List (Batch ℝ)) (hwf : WF h) (β c : ℝ) (nrm : Bool) :
    (logw (shiftH c h) β false).1 = ((logw h β false).1).map (· + β * c) ∧
    (logw (shiftH c h) β true).1 = (logw h β true).1 ∧
    (logw (shiftH c h) β nrm).2 = ((logw h β nrm).2).map (· + β * c) := by
  have hwf' := WF_shift c h hwf
  refine ⟨?_, ?_, ?_⟩
  · rw [C04_formula _ hwf', C04_formula _ hwf, flatLogl_shift, List.map_map, List.map_map]
    exact List.map_congr_left fun l _ => specRaw_shift c h β l
  · rw [C04_normalised _ hwf', C04_normalised _ hwf, flatLogl_shift, List.map_map]
    exact List.map_congr_left fun l _ => specNorm_shift c h hwf β l
  · rw [C04_logz _ hwf', C04_logz _ hwf, specLogz_shift c h hwf]
    rfl

/-! ### every stored temperature equal to the target -/

theorem specRaw_of_beta_eq (h : List (Batch ℝ)) (hwf : WF h) (β : ℝ) (hβ : ∀ b ∈ h, b.beta = β) (l : ℝ) :
    specRaw h β l = -Real.log (mix h 0) := by
  have hmix : mix h l = Real.exp (β * l) * mix h 0 := by
    unfold mix
    rw [← List.sum_map_mul_left]
    congr 1
    apply List.map_congr_left
    intro b hb
    rw [hβ b hb, mul_zero, zero_sub, sub_eq_add_neg, Real.exp_add]
    ring
  rw [specRaw, hmix, Real.log_mul (Real.exp_pos _).ne' (mix_pos h hwf 0).ne', Real.log_exp]
  ring

theorem sumW_of_const (h : List (Batch ℝ)) (β c : ℝ) (hc : ∀ l ∈ flatLogl h, specRaw h β l = c) :
    sumW h β = (nTotal h : ℝ) * Real.exp c := by
  rw [sumW, List.map_congr_left fun l hl => congrArg Real.exp (hc l hl), List.map_const', List.sum_replicate, nsmul_eq_mul,
    length_flatLogl]

theorem specLogz_specNorm_of_const (h : List (Batch ℝ)) (hwf : WF h) (β c : ℝ) (hc : ∀ l ∈ flatLogl h, specRaw h β l = c) :
    specLogz h β = c ∧ ∀ l ∈ flatLogl h, specNorm h β l = -Real.log (nTotal h : ℝ) := by
  have hN : (nTotal h : ℝ) ≠ 0 := Nat.cast_ne_zero.mpr (nTotal_pos _ hwf).ne'
  have hS := sumW_of_const h β c hc
  refine ⟨by rw [specLogz, hS, one_div, inv_mul_cancel_left₀ hN, Real.log_exp], fun l hl => ?_⟩
  rw [specNorm, hc l hl, hS, Real.log_mul hN (Real.exp_pos c).ne', Real.log_exp]
  ring

theorem normalised_of_beta_eq (h : List (Batch ℝ)) (hwf : WF h) (β : ℝ) (hβ : ∀ b ∈ h, b.beta = β) :
    ∀ w ∈ (logw h β true).1, w = -Real.log (nTotal h : ℝ) := by
  rw [C04_normalised h hwf]
  exact List.forall_mem_map.mpr (specLogz_specNorm_of_const h hwf β _ fun l _ => specRaw_of_beta_eq h hwf β hβ l).2

theorem logw_const_of_beta_eq (h : List (Batch ℝ)) (hwf : WF h) (β : ℝ) (hβ : ∀ b ∈ h, b.beta = β) (nrm : Bool) :
    ∃ c : ℝ, ∀ w ∈ (logw h β nrm).1, w = c := by
  cases nrm with
  | false =>
    rw [C04_formula h hwf]
    exact ⟨_, List.forall_mem_map.mpr fun l _ => specRaw_of_beta_eq h hwf β hβ l⟩
  | true => exact ⟨_, normalised_of_beta_eq h hwf β hβ⟩

/-- target β = 0 and every stored β_t = 0 ⇒ all log-weights are equal -/
theorem C04_uniform_at_zero (h : List (Batch ℝ)) (hwf : WF h) (h0 : ∀ b ∈ h, b.beta = 0) (nrm : Bool) :
    ∃ c : ℝ, ∀ w ∈ (logw h 0 nrm).1, w = c :=
  logw_const_of_beta_eq h hwf 0 h0 nrm

/-- target β = 0 and every stored β_t = 0 ⇒ the normalised weights are exactly `1/N` each -/
theorem C04_uniform_value (h : List (Batch ℝ)) (hwf : WF h) (h0 : ∀ b ∈ h, b.beta = 0) :
    ∀ w ∈ (logw h 0 true).1, w = -Real.log (nTotal h : ℝ) :=
  normalised_of_beta_eq h hwf 0 h0

/-! ### a single stored iteration (the state after the first `execute_iteration`) -/

theorem WF_singleton {b : Batch ℝ} (hb : 1 ≤ b.logl.length) : WF [b] :=
  ⟨List.cons_ne_nil _ _, fun b' hb' => by rw [List.mem_singleton.mp hb']; exact hb⟩

theorem specRaw_singleton (b : Batch ℝ) (hb : 1 ≤ b.logl.length) (β l : ℝ) :
    specRaw [b] β l = (β - b.beta) * l + b.logz := by
  have hn : (b.logl.length : ℝ) ≠ 0 := Nat.cast_ne_zero.mpr (Nat.pos_iff_ne_zero.mp hb)
  simp only [specRaw, mix, nTotal_cons, nTotal_nil, List.map_cons, List.map_nil, List.sum_cons, List.sum_nil, add_zero]
  rw [div_self hn, one_mul, Real.log_exp]
  ring

/-- with one stored iteration `(β₁, z₁)` every unnormalised log-weight at target β is `(β − β₁)·ℓ + z₁`, whatever the batch
    size: the weights of a first warm-up batch (β₁ = 0) at target β are `β ℓ + z₁`; re-targeting at β₁ itself gives the
    constant `z₁` (`C04_single_batch_fixed_point`) -/
theorem C04_single_batch (b : Batch ℝ) (hb : 1 ≤ b.logl.length) (β : ℝ) :
    (logw [b] β false).1 = b.logl.map fun l => (β - b.beta) * l + b.logz := by
  rw [C04_formula _ (WF_singleton hb), flatLogl_singleton]
  exact List.map_congr_left fun l _ => specRaw_singleton b hb β l

/-- a single stored iteration re-targeted at its own temperature: every unnormalised log-weight and the
    evidence estimate reproduce the stored evidence value `z_1` -/
theorem C04_single_batch_fixed_point (b : Batch ℝ) (hb : 1 ≤ b.logl.length) :
    (∀ w ∈ (logw [b] b.beta false).1, w = b.logz) ∧ (logw [b] b.beta false).2 = some b.logz := by
  have hwf := WF_singleton hb
  have hraw : ∀ l ∈ flatLogl [b], specRaw [b] b.beta l = b.logz := fun l _ => by
    rw [specRaw_singleton b hb, sub_self, zero_mul, zero_add]
  rw [C04_formula _ hwf, C04_logz _ hwf, (specLogz_specNorm_of_const _ hwf _ _ hraw).1]
  exact ⟨List.forall_mem_map.mpr hraw, rfl⟩

/-! ### finiteness structure of the max-shifted evaluation -/

theorem le_logaddexpReduce1 (x : ℝ) (xs : List ℝ) (y : ℝ) (hy : y ∈ x :: xs) :
    y ≤ logaddexpReduce1 x xs := by
  rw [logaddexpReduce1_eq]
  exact (Real.le_log_iff_exp_le (sum_exp_pos x xs)).mpr (exp_le_sum_exp (x :: xs) y hy)

theorem logaddexpReduce1_le (x : ℝ) (xs : List ℝ) (M : ℝ) (hM : ∀ y ∈ x :: xs, y ≤ M) :
    logaddexpReduce1 x xs ≤ M + Real.log ((x :: xs).length : ℝ) := by
  have h1 : ((x :: xs).map Real.exp).sum ≤ ((x :: xs).map Real.exp).length • Real.exp M :=
    List.sum_le_card_nsmul _ _ fun z hz => by
      obtain ⟨y, hy, rfl⟩ := List.mem_map.mp hz
      exact Real.exp_le_exp.mpr (hM y hy)
  rw [List.length_map, nsmul_eq_mul] at h1
  have hT : (0 : ℝ) < ((x :: xs).length : ℝ) := Nat.cast_pos.mpr (Nat.succ_pos _)
  rw [logaddexpReduce1_eq, add_comm M, ← Real.log_exp M, ← Real.log_mul hT.ne' (Real.exp_pos M).ne']
  exact Real.log_le_log (sum_exp_pos x xs) h1

/-- `max_t b_{s,t} ≤ B_s ≤ max_t b_{s,t} + log T`, with `b` including the log mixture weight
    (stated against an arbitrary upper bound `M` of the row, in particular its maximum) -/
theorem C04_mixture_bounds (b0 : Batch ℝ) (bs : List (Batch ℝ)) (logN l : ℝ) :
    (∀ b ∈ b0 :: bs, entry logN l b ≤ mixLog b0 bs logN l) ∧
    (∀ M, (∀ b ∈ b0 :: bs, entry logN l b ≤ M) →
      mixLog b0 bs logN l ≤ M + Real.log ((b0 :: bs).length : ℝ)) := by
  refine ⟨fun b hb => le_logaddexpReduce1 _ _ _ (List.mem_map_of_mem (f := entry logN l) hb), fun M hM => ?_⟩
  have := logaddexpReduce1_le (entry logN l b0) (bs.map (entry logN l)) M
    ((List.forall_mem_map (l := b0 :: bs) (f := entry logN l)).mpr hM)
  rwa [List.length_cons, List.length_map] at this

/-- explicit bound on every log-weight: with `|b_{s,t}| ≤ M` for all t,
    `|logw_s| ≤ |β ℓ_s| + M + log T`.  For |ℓ| ≤ 1e6, β, β_t ∈ [0,1], |z_t| ≤ 1e5, N ≤ 480, T ≤ 12 one may take
    `M = 1e6 + 1e5 + log 480`, and the bound is `1e6 + M + log 12 < 2.2e6`. -/
theorem C04_bounds (h : List (Batch ℝ)) (hwf : WF h) (β l M : ℝ)
    (hM : ∀ b ∈ h, |entry (Real.log (nTotal h : ℝ)) l b| ≤ M) :
    |specRaw h β l| ≤ |β * l| + M + Real.log (h.length : ℝ) := by
  cases h with
  | nil => exact absurd rfl hwf.1
  | cons b0 bs =>
    obtain ⟨hlo, hhi⟩ := C04_mixture_bounds b0 bs (Real.log (nTotal (b0 :: bs) : ℝ)) l
    have hT : 0 ≤ Real.log ((b0 :: bs).length : ℝ) := Real.log_nonneg (by simp)
    have hBabs : |mixLog b0 bs (Real.log (nTotal (b0 :: bs) : ℝ)) l| ≤ M + Real.log ((b0 :: bs).length : ℝ) :=
      abs_le.mpr ⟨(neg_le_neg (le_add_of_nonneg_right hT)).trans
          ((abs_le.mp (hM b0 List.mem_cons_self)).1.trans (hlo b0 List.mem_cons_self)),
        hhi M fun b hb => (abs_le.mp (hM b hb)).2⟩
    rw [specRaw, ← mixLog_eq b0 bs hwf l, add_assoc]
    exact (abs_sub _ _).trans (add_le_add_right hBabs _)

/-! ### stability: the max-shifted reduction does not amplify input errors (1-Lipschitz in the sup norm) -/

theorem sum_exp_le_of_pointwise (xs ys : List ℝ) (δ : ℝ) (hxy : List.Forall₂ (fun a b => b ≤ a + δ) xs ys) :
    (ys.map Real.exp).sum ≤ Real.exp δ * (xs.map Real.exp).sum := by
  induction hxy with
  | nil => simp
  | cons hab _ ih =>
    simp only [List.map_cons, List.sum_cons, mul_add]
    have := Real.exp_le_exp.mpr hab
    rw [Real.exp_add, mul_comm] at this
    linarith

theorem logaddexpReduce1_mono_add (x y : ℝ) (xs ys : List ℝ) (δ : ℝ) (h0 : y ≤ x + δ)
    (hxy : List.Forall₂ (fun a b => b ≤ a + δ) xs ys) :
    logaddexpReduce1 y ys ≤ logaddexpReduce1 x xs + δ := by
  have h1 := sum_exp_le_of_pointwise (x :: xs) (y :: ys) δ (List.Forall₂.cons h0 hxy)
  rw [logaddexpReduce1_eq, logaddexpReduce1_eq, ← Real.log_exp δ, ← Real.log_mul (sum_exp_pos x xs).ne' (Real.exp_pos δ).ne',
    mul_comm]
  exact Real.log_le_log (sum_exp_pos y ys) h1

/-- input errors of size `δ` in the terms of a log-sum-exp (e.g. the rounding of `ℓ·β_t − z_t + log(n_t/N)`) move `B_s`
    by at most `δ`: the evaluation is stable whatever the magnitudes involved -/
theorem C04_lse_lipschitz (x y : ℝ) (xs ys : List ℝ) (δ : ℝ) (h0 : |y - x| ≤ δ)
    (hxy : List.Forall₂ (fun x y => |y - x| ≤ δ) xs ys) :
    |logaddexpReduce1 y ys - logaddexpReduce1 x xs| ≤ δ := by
  have up : ∀ a b : ℝ, |b - a| ≤ δ → b ≤ a + δ := fun _ _ h => sub_le_iff_le_add'.mp (le_of_abs_le h)
  have dn : ∀ a b : ℝ, |b - a| ≤ δ → a ≤ b + δ := fun a b h => up b a ((abs_sub_comm a b).trans_le h)
  have h1 := logaddexpReduce1_mono_add x y xs ys δ (up x y h0) (hxy.imp up)
  have h2 := logaddexpReduce1_mono_add y x ys xs δ (dn x y h0) (hxy.flip.imp fun b a => dn a b)
  exact abs_sub_le_iff.mpr ⟨sub_le_iff_le_add'.mpr h1, sub_le_iff_le_add'.mpr h2⟩

theorem C04_empty (β : ℝ) (nrm : Bool) : logw ([] : List (Batch ℝ)) β nrm = ([], none) := logw_nil β nrm

/-! ### non-vacuity: a concrete 2-iteration history with unequal batch sizes and distinct β_t -/

noncomputable def h0 : List (Batch ℝ) := [⟨0, 0, [-1, -2]⟩, ⟨1, -1/2, [-3/10]⟩]

theorem wf_h0 : WF h0 := ⟨List.cons_ne_nil _ _, by decide⟩

example : nTotal h0 = 3 ∧ flatLogl h0 = [-1, -2, -3/10] := ⟨rfl, rfl⟩
example : logaddexp (0 : ℝ) 0 = Real.log 2 := by rw [logaddexp_eq]; norm_num
example : ((logw h0 1 false).1).length = 3 := by
  rw [C04_formula h0 wf_h0]; rfl
example : (logw h0 1 false).1 = [specRaw h0 1 (-1), specRaw h0 1 (-2), specRaw h0 1 (-3/10)] := by
  rw [C04_formula h0 wf_h0]; rfl
example : mix h0 (-1) = 2 / 3 * Real.exp 0 + 1 / 3 * Real.exp (-1 / 2) := by
  simp [mix, h0, nTotal]; norm_num
example : (logw h0 1 true).2 = some (specLogz h0 1) := C04_logz h0 wf_h0 1 true
example : (((logw h0 1 true).1).map Real.exp).sum = 1 := C04_normalised_sum_one h0 wf_h0 1
example : ∃ w : ℝ → ℝ, (logw h0 1 true).1 = (flatLogl h0).map w ∧
    (logw h0.reverse 1 true).1 = (flatLogl h0.reverse).map w ∧
    (logw h0 1 true).2 = (logw h0.reverse 1 true).2 :=
  C04_perm_invariant (List.reverse_perm h0).symm wf_h0 1 true
example : (logw (shiftH 1000000 h0) 1 true).1 = (logw h0 1 true).1 := (C04_shift h0 wf_h0 1 1000000 true).2.1
example : ((logw h0 1 true).1).length = 3 := by rw [C04_length h0 wf_h0]; rfl

/-- all-zero temperatures, unequal sizes: uniform weights `−log 3` -/
noncomputable def h1 : List (Batch ℝ) := [⟨0, 0, [5, -7]⟩, ⟨0, 3, [1000000]⟩]

theorem wf_h1 : WF h1 := ⟨List.cons_ne_nil _ _, by decide⟩

example : ∀ w ∈ (logw h1 0 true).1, w = -Real.log 3 := by
  have h := C04_uniform_value h1 wf_h1 (by simp [h1])
  rwa [show nTotal h1 = 3 from rfl, Nat.cast_ofNat] at h

example : (logw [(⟨1/2, 7, [3, -4]⟩ : Batch ℝ)] (1/2) false).2 = some 7 :=
  (C04_single_batch_fixed_point ⟨1/2, 7, [3, -4]⟩ (by simp)).2
example : |logaddexpReduce1 (1 : ℝ) [2, 1000001] - logaddexpReduce1 (1.5 : ℝ) [2, 1000000.5]| ≤ 1/2 := by
  apply C04_lse_lipschitz
  · norm_num [abs_le]
  · refine List.Forall₂.cons ?_ (List.Forall₂.cons ?_ List.Forall₂.nil) <;> norm_num [abs_le]

end Props.C04
