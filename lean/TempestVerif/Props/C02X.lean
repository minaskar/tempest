import TempestVerif.Props.C01X
import Mathlib.Probability.Independence.Basic
import Mathlib.MeasureTheory.MeasurableSpace.Basic
/-
  C02 on the EXTENDED whole-run model `Model.PipelineX` (both reweighting modes, clustering, the whole mutation loop, the
  loop guard and the epilogue of `run()`): what an iteration records and what `run()` then `evidence()` reports; with
  `C02_mean_of_runs_mse` / `C02_runs_variance_general` (`Props/C02Stat.lean`), `C02_X_runs_independent` is the 1/√R clause.
-/
namespace Props.C02
open Model.PipelineX Model.Weights Model.Reweight Model.Kernel
open Model.Pipeline hiding batches

/-! ### sizes: every committed batch is non-empty -/

def WFSX (s : XState ℝ) : Prop := ∀ xb ∈ s.hist, 1 ≤ xb.b.logl.length

/-- one iteration keeps it: the model leaves its domain (`none`) rather than commit an empty batch (`n_particles ≥ 1`) -/
theorem iterateX_WFS (cfg : XCfg ℝ) (s : XState ℝ) (t : XTape ℝ) (s1 : XState ℝ) (o : XOut ℝ)
    (hs : WFSX s) (h : iterateX cfg s t = some (s1, o)) : WFSX s1 := by
  obtain ⟨hh, -, -⟩ := Props.C01.C01_X_commit_appends_one cfg s t s1 o h
  obtain ⟨-, hne⟩ := Lemmas.PipelineX.iterateX_out cfg s t s1 o h
  intro xb hxb
  rw [hh, List.mem_append, List.mem_singleton] at hxb
  rcases hxb with hxb | rfl
  · exact hs xb hxb
  · exact List.length_pos_iff.mpr hne

/-- **every stored batch of a run of the model is non-empty** — for every tape, with no side condition: the history of
    every run is one the C04 formulas (`C04_formula`, `C04_logz`, `C04_normalised`) apply to -/
theorem C02_X_batches_nonempty (cfg : XCfg ℝ) (ts : List (XTape ℝ)) :
    ∀ (s sf : XState ℝ) (os : List (XOut ℝ)), WFSX s → runItersX cfg s ts = some (sf, os) → WFSX sf :=
  fun _ _ _ hs h => (Lemmas.PipelineX.runItersX_iff_steps.mp h).inv (iterateX_WFS cfg) hs

theorem WFSX_init : WFSX (initX : XState ℝ) := by intro xb hxb; simp [initX] at hxb

theorem WF_of_WFSX (s : XState ℝ) (hs : WFSX s) (hne : s.hist ≠ []) : Props.C04.WF (batches s.hist) :=
  (Lemmas.PipelineShift.WF_map XBatch.b s.hist hs).resolve_left (mt List.map_eq_nil_iff.mp hne)

/-! ### what is recorded, what is reported -/

/-- the evidence an iteration records is the mixture evidence functional at the iteration's OWN β over the history
    available at that iteration, `log((1/N) Σ_s exp(β ℓ_s − log mixture(ℓ_s)))`, in BOTH reweighting modes; in an annealing
    iteration it is the value committed with the batch -/
theorem C02_X_recorded_logz (cfg : XCfg ℝ) (s : XState ℝ) (t : XTape ℝ) (s1 : XState ℝ) (o : XOut ℝ)
    (hs : WFSX s) (hne : s.hist ≠ []) (h : iterateX cfg s t = some (s1, o)) :
    o.logzRw = Props.C04.specLogz (Model.PipelineX.batches s.hist) o.beta ∧ (o.beta ≠ 0 → o.logz = o.logzRw) ∧
    ∃ xb, s1.hist = s.hist ++ [xb] ∧ xb.b.beta = o.beta ∧ xb.b.logz = o.logz := by
  have hwf := WF_of_WFSX s hs hne
  obtain ⟨_, h2, -⟩ := Props.C01.C01_X_same_temperature cfg s t s1 o hne h
  obtain ⟨hh, _, _⟩ := Props.C01.C01_X_commit_appends_one cfg s t s1 o h
  refine ⟨?_, fun hb => ?_, _, hh, rfl, rfl⟩
  · rw [h2, Lemmas.PipelineShift.oracleZ_eq _ hwf]
  · exact Lemmas.PipelineX.iterateX_logz cfg s t s1 o h hb

/-- **what `run()` followed by `evidence()` reports**: for EVERY tape the number is `log((1/N) Σ_s W_s)`, `W_s = exp(ℓ_s − log Σ_t (n_t/N) exp(β_t ℓ_s − z_t))` the unnormalised
    mixture-importance weights at β = 1 of ALL `N` particles stored during the run (C04's `specLogz`), it is written to the
    state, and the run was complete (`1 − β < tol`). -/
theorem C02_X_evidence_reported (cfg : XCfg ℝ) (tol nTot : ℝ) (ts : List (XTape ℝ))
    (sf : XState ℝ) (os : List (XOut ℝ)) (z : ℝ) (h : runSamplingX cfg tol nTot ts = some (sf, os, z)) :
    z = Props.C04.specLogz (Model.PipelineX.batches sf.hist) 1 ∧ sf.logz = z ∧ 1 - sf.beta < tol ∧
    z = Real.log ((1 / (nTotal (Model.PipelineX.batches sf.hist) : ℝ)) *
      ((flatLogl (Model.PipelineX.batches sf.hist)).map fun l =>
        Real.exp (Props.C04.specRaw (Model.PipelineX.batches sf.hist) 1 l)).sum) := by
  obtain ⟨s0, hr, hh, _, hz, hfe, hb, w0, hw0, _⟩ := Props.C01.C01_X_completed_run cfg tol nTot ts sf os z h
  have hs0 : WFSX s0 := C02_X_batches_nonempty cfg ts initX s0 os WFSX_init hr
  have hne : s0.hist ≠ [] := by
    intro he
    rw [hh, he] at hw0
    cases (Model.Posterior.weights0_nil (α := ℝ)).symm.trans hw0
  have hwf := WF_of_WFSX s0 hs0 hne
  have : z = Props.C04.specLogz (batches s0.hist) 1 :=
    (Option.some.inj ((Props.C01.finalEvidenceX_of_WF s0 hwf).symm.trans hfe)).symm
  rw [hh]
  exact ⟨this, hz, hb, by rw [this]; rfl⟩

/-! ### runs driven by separate tapes -/

section indep
open MeasureTheory ProbabilityTheory

/-- A run's reported value is a function of ITS OWN tape: for tapes drawn independently (product measure, ANY tape law)
    the values reported by `R` runs are mutually independent.  `run` is any measurable function of the tape — below it is
    instantiated with the model's `runSamplingX`. -/
theorem C02_X_runs_independent {T E : Type} [MeasurableSpace T] [MeasurableSpace E] (μ : Measure T)
    [IsProbabilityMeasure μ] (R : ℕ) (run : T → E) (hrun : Measurable run) :
    iIndepFun (fun (r : Fin R) (ω : Fin R → T) => run (ω r)) (Measure.pi fun _ : Fin R => μ) :=
  iIndepFun_pi (μ := fun _ : Fin R => μ) (X := fun _ => run) (fun _ => hrun.aemeasurable)

/-- the evidence a model run reports, as a function of its tape list and nothing else (`none`: the run left the model) -/
noncomputable def reportedEvidence (cfg : XCfg ℝ) (tol nTot : ℝ) (ts : List (XTape ℝ)) : Option ℝ :=
  (runSamplingX cfg tol nTot ts).map fun r => r.2.2

/-- the discrete σ-algebra on tape lists and on reported values: EVERY function of the tape is measurable -/
@[instance_reducible] def tapeMS : MeasurableSpace (List (XTape ℝ)) := ⊤
@[instance_reducible] def valueMS : MeasurableSpace (Option ℝ) := ⊤
attribute [local instance] tapeMS valueMS

example (cfg : XCfg ℝ) (tol nTot : ℝ) (R : ℕ) (μ : Measure (List (XTape ℝ))) [IsProbabilityMeasure μ] :
    iIndepFun (fun (r : Fin R) (ω : Fin R → List (XTape ℝ)) => reportedEvidence cfg tol nTot (ω r))
      (Measure.pi fun _ : Fin R => μ) :=
  C02_X_runs_independent μ R (reportedEvidence cfg tol nTot) measurable_from_top

end indep

/-! ### non-vacuity on the concrete run of `Props/C01X.lean` (`X_cfgX`, `X_s1`, `X_s2`, …) -/
section ex
open Props.C01

example : WFSX X_s2 := C02_X_batches_nonempty X_cfgX [X_t1, X_t2] initX X_s2 [X_o1, X_o2] WFSX_init X_run2

example : X_o2.logzRw = Props.C04.specLogz (Model.PipelineX.batches X_s1.hist) X_o2.beta ∧ (X_o2.beta ≠ 0 → X_o2.logz = X_o2.logzRw) ∧
    ∃ xb, X_s2.hist = X_s1.hist ++ [xb] ∧ xb.b.beta = X_o2.beta ∧ xb.b.logz = X_o2.logz :=
  C02_X_recorded_logz X_cfgX X_s1 X_t2 X_s2 X_o2
    (C02_X_batches_nonempty X_cfgX [X_t1] initX X_s1 [X_o1] WFSX_init (by simp [runItersX, X_it1])) (List.cons_ne_nil _ _) X_it2

example : X_z2 = Props.C04.specLogz (Model.PipelineX.batches ({ X_s2 with logz := X_z2 } : XState ℝ).hist) 1 ∧
    ({ X_s2 with logz := X_z2 } : XState ℝ).logz = X_z2 ∧ 1 - ({ X_s2 with logz := X_z2 } : XState ℝ).beta < X_tolX ∧
    X_z2 = Real.log ((1 / (nTotal (Model.PipelineX.batches ({ X_s2 with logz := X_z2 } : XState ℝ).hist) : ℝ)) *
      ((flatLogl (Model.PipelineX.batches ({ X_s2 with logz := X_z2 } : XState ℝ).hist)).map fun l =>
        Real.exp (Props.C04.specRaw (Model.PipelineX.batches ({ X_s2 with logz := X_z2 } : XState ℝ).hist) 1 l)).sum) :=
  C02_X_evidence_reported X_cfgX X_tolX 2 [X_t1, X_t2] _ _ X_z2 X_runS

end ex

end Props.C02
