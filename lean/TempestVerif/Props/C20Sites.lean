import TempestVerif.Props.C20Audit
import TempestVerif.Model.TrimSites
import TempestVerif.Lemmas.Records
import TempestVerif.Gen.Constants
import Mathlib.Analysis.SpecialFunctions.Exp
/-
  C20 — the CALL SITES of the weight utilities (`Model.TrimSites`), at `ℝ`.
  `Trainer.run` (indexing through `np.arange` + fancy indexing is masking the rows directly: `C20_trainer_is_trim`, then the contract of
  `trim_weights` at the call site), `execute_iteration` (what the resampler receives after the in-place normalisation), the reweighter
  and the termination guard (`exp(logw − max)` is always a valid weight vector), and `compute_ess` on log-weights with `-inf` entries.
-/
namespace Props.C20
open Model.Ess Model.Trim Model.Records Model.TrimSites

/-! ### fancy indexing with the kept indices = boolean masking -/

theorem gather_filterMask_range {σ : Type} (u : List σ) (m : List Bool) (h : m.length = u.length) :
    gather? u (filterMask (List.range u.length) m) = some (filterMask u m) := by
  induction u generalizing m with
  | nil => cases m <;> rfl
  | cons x xs ih =>
    cases m with
    | nil => exact absurd h (by simp)
    | cons b m =>
      have hm : m.length = xs.length := Nat.succ.inj h
      rw [List.length_cons, List.range_succ_eq_map]
      cases b
      · rw [filterMask_cons_false, filterMask_cons_false, filterMask_map, gather?_cons_map_succ, ih m hm]
      · rw [filterMask_cons_true, filterMask_cons_true, filterMask_map, gather?, gather?_cons_map_succ, ih m hm]
        rfl

theorem trimStop_mask_length (w : List ℝ) (e : ℝ) (bins : Nat) (j : Nat) (st : Step ℝ)
    (h : trimStop w e bins = some (j, st)) : st.mask.length = w.length := by
  obtain ⟨_, hm, _, _⟩ := step_spec _ _ _ _ _ (trimStop_spec w e bins j st h).2.1
  rw [hm, List.length_map, length_normalise]

/-- **Trainer.run, alignment through the index detour.**  `trim_weights(np.arange(N), w, …)` followed by `u[trim_idx]` hands
    the fitting routines exactly what `trim_weights(u, w, …)` would have returned: the rows of `u` selected by the SAME mask
    as the weights — for every weight vector (no validity hypothesis), as long as `u` has one row per weight. -/
theorem C20_trainer_is_trim {σ : Type} (u : List σ) (w : List ℝ) (e : ℝ) (bins : Nat) (hl : u.length = w.length) :
    trainerRun false u w e bins = (trim u w e bins).map fun r => (some (r.1, r.2), normalise w) := by
  unfold trainerRun trim
  simp only [Bool.false_eq_true, if_false]
  cases hts : trimStop w e bins with
  | none => simp
  | some r =>
    obtain ⟨j, st⟩ := r
    have hml := trimStop_mask_length w e bins j st hts
    simp only [Option.map_some, Option.bind_some]
    rw [← hl, gather_filterMask_range u st.mask (by rw [hml, hl])]
    rfl

/-- at `beta == 0` the trainer returns before trimming: nothing is handed to a fitting routine and the caller's
    array is left as it was -/
theorem C20_trainer_beta_zero {σ : Type} (u : List σ) (w : List ℝ) (e : ℝ) (bins : Nat) :
    trainerRun true u w e bins = some (none, w) := rfl

/-- **Trainer.run, the contract at the call site.**  The call does not raise; what is handed to `clusterer.fit` / `from_particles` /
    `from_global` is `C20_trim_contract` on the (history row, normalised weight) pairs; and the caller's array has become `w/Σw`. -/
theorem C20_trainer_site {σ : Type} (u : List σ) (w : List ℝ) (e : ℝ) (bins : Nat)
    (h0 : ∀ x ∈ w, 0 ≤ x) (hs : 0 < w.sum) (hl : u.length = w.length) (hb : 0 < bins) (he : e ≤ 1) :
    ∃ uk wt θ, trainerRun false u w e bins = some (some (uk, wt), normalise w) ∧
      uk.zip ((normalise w).filter (fun x => decide (θ ≤ x)))
        = (u.zip (normalise w)).filter (fun q => decide (θ ≤ q.2)) ∧
      wt = ((normalise w).filter (fun x => decide (θ ≤ x))).map
            (fun x => x / ((normalise w).filter (fun x => decide (θ ≤ x))).sum) ∧
      uk.length = wt.length ∧ uk ≠ [] ∧ uk.Sublist u ∧
      wt.sum = 1 ∧ (∀ x ∈ wt, 0 ≤ x) ∧ e * ess w ≤ ess wt ∧ ess wt ≤ ess w := by
  obtain ⟨uk, wt, θ, h, rest⟩ := C20_trim_contract u w e bins h0 hs hl hb he
  refine ⟨uk, wt, θ, ?_, rest⟩
  rw [C20_trainer_is_trim u w e bins hl, h]; rfl

/-- the sampler's trimming constants, regenerated from `/repo/tempest/config.py` on every run (translator G1):
    the requested fraction is in (0, 1] — so `C20_trainer_site` applies with `e = TRIM_ESS` — and the grid is non-empty -/
theorem C20_gen_trim_constants :
    (0 : ℝ) < (Gen.Constants.TRIM_ESSNum : ℝ) / Gen.Constants.TRIM_ESSDen ∧
    (Gen.Constants.TRIM_ESSNum : ℝ) / Gen.Constants.TRIM_ESSDen ≤ 1 ∧ 0 < Gen.Constants.TRIM_BINS := by
  refine ⟨?_, ?_, by decide⟩ <;> norm_num [Gen.Constants.TRIM_ESSNum, Gen.Constants.TRIM_ESSDen]

/-- **what the resampler receives** (`execute_iteration`: `trainer.run(weights); resampler.run(weights)` on one array object):
    untouched weights at `beta == 0`; otherwise `w/Σw` — proportional to what the reweighter returned, summing to one, same ESS -/
theorem C20_weights_after_trainer {σ : Type} (u : List σ) (w : List ℝ) (e : ℝ) (bins : Nat)
    (h0 : ∀ x ∈ w, 0 ≤ x) (hs : 0 < w.sum) (hl : u.length = w.length) (hb : 0 < bins) :
    weightsAfterTrainer true u w e bins = some w ∧
    weightsAfterTrainer false u w e bins = some (w.map (fun x => x / w.sum)) ∧
    (w.map (fun x => x / w.sum)).sum = 1 ∧ ess (w.map (fun x => x / w.sum)) = ess w := by
  obtain ⟨r, hr⟩ := C20_trim_terminates_any u w e bins h0 hs hb
  refine ⟨rfl, ?_, ScReal.sum_map_div_self hs.ne', ?_⟩
  · unfold weightsAfterTrainer
    rw [C20_trainer_is_trim u w e bins hl, hr, normalise_def]; rfl
  · rw [← normalise_def]; exact ess_normalise w hs.ne'

/-! ### `weights = np.exp(logw - np.max(logw))` is always a valid argument -/

/-- **`exp(logw − max logw)` is a valid weight vector**: every entry in (0, 1], one entry equal to 1 (so the sum is ≥ 1) -/
theorem C20_expShift_valid (x : ℝ) (xs : List ℝ) :
    (∀ y ∈ expShift x xs, 0 < y ∧ y ≤ 1) ∧ (1 : ℝ) ∈ expShift x xs ∧ 1 ≤ (expShift x xs).sum ∧
    (expShift x xs).length = xs.length + 1 :=
  expShift_valid x xs

/-- hence the ESS the reweighter and the termination guard compute is always in `[1, N]` -/
theorem C20_callsite_ess_bounds (x : ℝ) (xs : List ℝ) :
    1 ≤ ess (expShift x xs) ∧ ess (expShift x xs) ≤ (xs.length + 1 : ℕ) :=
  ess_expShift_bounds x xs

/-- `_compute_metric_and_weights`: on a non-empty history it returns the weights `exp(logw − max)`, their ESS ∈ [1, N], and as
    metric either that ESS (ESS mode) or the volume metric of `(u, weights/Σweights)` — the SAME rows and the same weights,
    normalised to sum one -/
theorem C20_metric_site {σ : Type} (vv : Option (List σ → List ℝ → ℝ)) (u : List σ) (x : ℝ) (xs : List ℝ) :
    ∃ w, metricAndWeights vv u (x :: xs) = some (w, ess w, match vv with
        | none => ess w
        | some f => f u (w.map (fun y => y / w.sum))) ∧
      w = expShift x xs ∧ 1 ≤ ess w ∧ ess w ≤ (xs.length + 1 : ℕ) ∧ (w.map (fun y => y / w.sum)).sum = 1 := by
  obtain ⟨hent, _, hsum, _⟩ := C20_expShift_valid x xs
  obtain ⟨hb1, hb2⟩ := C20_callsite_ess_bounds x xs
  refine ⟨expShift x xs, ?_, rfl, hb1, hb2, ?_⟩
  · cases vv <;> simp [metricAndWeights, normalise_def]
  · exact ScReal.sum_map_div_self (one_pos.trans_le hsum).ne'

/-! ### `compute_ess(logw)` when some log-weights are `-inf` -/

/-- the weight of a log-weight, `-inf ↦ 0` -/
noncomputable def expOpt : Option ℝ → ℝ
  | none => 0
  | some l => Real.exp l

theorem maxFinite_eq (lw : List (Option ℝ)) : maxFinite lw = (lw.filterMap id).max? := by
  induction lw with
  | nil => rfl
  | cons a r ih =>
    cases a with
    | none => exact ih
    | some a =>
      rw [List.filterMap_cons_some (f := id) rfl, List.max?_cons', maxFinite, ih]
      cases r.filterMap id with
      | nil => rfl
      | cons b l => rw [List.max?_cons', List.foldl_cons, List.foldl_assoc]; exact congrArg some (ScReal.max_def _ _)

theorem maxFinite_none_iff (lw : List (Option ℝ)) : maxFinite lw = none ↔ ∀ a ∈ lw, a = none := by
  rw [maxFinite_eq, List.max?_eq_none_iff, List.filterMap_eq_nil_iff]
  rfl

theorem maxFinite_some (lw : List (Option ℝ)) (m : ℝ) (h : maxFinite lw = some m) :
    (∀ l, some l ∈ lw → l ≤ m) ∧ some m ∈ lw := by
  rw [maxFinite_eq, List.max?_eq_some_iff] at h
  simpa only [List.mem_filterMap, id, exists_eq_right, and_comm] using h

/-- **`compute_ess` with `-inf` log-weights** = ESS of the weights `exp(l)` (zero where the log-weight is `-inf`), divided by `N`:
    as long as one log-weight is finite the max-shift is a no-op and the `-inf` entries are zero-weight samples -/
theorem C20_compute_ess_neginf (lw : List (Option ℝ)) (m : ℝ) (h : maxFinite lw = some m) :
    computeEssE lw = some (ess (lw.map expOpt) / lw.length) := by
  have hmap : expShiftE m lw = (lw.map expOpt).map (fun y => Real.exp (-m) * y) := by
    unfold expShiftE
    rw [List.map_map]
    apply List.map_congr_left
    intro a _
    cases a with
    | none => exact ScReal.zero_def.trans (mul_zero (Real.exp (-m))).symm
    | some l => rw [Function.comp, expOpt, ← Real.exp_add, neg_add_eq_sub]; rfl
  rw [← ess_smul (Real.exp (-m)) (Real.exp_pos _).ne' (lw.map expOpt), ← hmap]
  simp only [computeEssE, h, Option.map_some]
  rfl

/-- … and it lies in `[1/N, 1]` -/
theorem C20_compute_ess_neginf_bounds (lw : List (Option ℝ)) (m : ℝ) (h : maxFinite lw = some m) :
    ∃ v, computeEssE lw = some v ∧ 1 / (lw.length : ℝ) ≤ v ∧ v ≤ 1 := by
  obtain ⟨_, hmem⟩ := maxFinite_some lw m h
  have hnn : ∀ x ∈ lw.map expOpt, 0 ≤ x := by
    intro x hx
    obtain ⟨a, _, rfl⟩ := List.mem_map.mp hx
    cases a with
    | none => exact le_refl _
    | some l => exact (Real.exp_pos l).le
  have hpos : 0 < (lw.map expOpt).sum :=
    lt_of_lt_of_le (Real.exp_pos m) (List.single_le_sum hnn _ (List.mem_map.mpr ⟨some m, hmem, rfl⟩))
  have hb := ess_div_length_bounds _ hnn hpos
  rw [List.length_map] at hb
  exact ⟨_, C20_compute_ess_neginf lw m h, hb⟩

/-- all log-weights `-inf` (or an empty array): no value (`nan` / `ValueError` in the code) — the case the statement of property C20
    excludes (positive sum) -/
theorem C20_compute_ess_all_neginf (lw : List (Option ℝ)) (h : ∀ a ∈ lw, a = none) : computeEssE lw = none := by
  simp [computeEssE, (maxFinite_none_iff lw).mpr h]

/-- with no `-inf` entry the extended model is `compute_ess` itself -/
theorem C20_compute_ess_ext_agrees (x : ℝ) (xs : List ℝ) :
    computeEssE ((x :: xs).map some) = computeEss (x :: xs) := by
  have hne : maxFinite ((x :: xs).map some) ≠ none := by
    rw [Ne, maxFinite_none_iff]; intro h; have := h (some x) (by simp); simp at this
  obtain ⟨m, hm⟩ := Option.ne_none_iff_exists'.mp hne
  rw [C20_compute_ess_neginf _ m hm, C20_compute_ess _ (by simp)]
  simp only [List.map_map, List.length_map]
  rfl

example : computeEssE [some (0 : ℝ), none, some 0] = some ((2 : ℝ) / 3) := by
  rw [C20_compute_ess_neginf _ (Sc.max 0 0) (by simp [maxFinite])]
  simp only [List.map_cons, List.map_nil, expOpt, Real.exp_zero, List.length_cons, List.length_nil]
  rw [ess_eq_kish]; norm_num

end Props.C20
