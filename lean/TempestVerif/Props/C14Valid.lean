import TempestVerif.Props.C19Modes
import TempestVerif.Props.C14
import TempestVerif.Lemmas.GaussJordan
import TempestVerif.Model.ModeGate
/-
  C14 — "… an existing proposal mode with FINITE MEAN, SYMMETRIC POSITIVE-DEFINITE SCALE MATRIX and POSITIVE
  DEGREES OF FREEDOM, and that mode was fitted from the particles of that same cluster" on the EXECUTABLE model of the
  construction: `Model.StudentModes.fromParticles / fromGlobal / trainerRun` (normalisation of the weights, per-cluster
  renormalisation, numpy's legacy `choice` on the uniform stream, gather, `fit_mvstud` = `fitRowsF` with the modelled
  median / `opt_nu` / bisect / Gauss–Jordan solve / Cholesky test, the dof fallback), tied to /repo by C19's suites
  `modes-F`, `trainer-dof-paths` and by C14's suite `trainer-modes-real`.

  Everything holds at ℝ for every `special.psi`, weight vector, label vector and stream of uniforms.  The idea:
  `clusterLoop_each` (`Lemmas/StudentModes.lean`: what holds of each fit's stored answer holds of every mode, relative to the rows of ITS cluster),
  `fit_modeOK` (the modelled fit on one resample: mean in the bounding box, scale symmetric positive semidefinite, positive
  definite iff no coordinate of the resample is constant, positive dof), and the constructor's gate `pdGate` (all Gauss–Jordan
  pivots > 0, the exact criterion of LAPACK `potrf` — H_lapack as in C19, checked on the real constructor by suites 5 and 8),
  which on positive semidefinite input IS positive definiteness (`pdGate_matOf_iff`).  Finding F24 is the case of a resample
  constant in a coordinate: the scale matrix is singular, the gate refuses it, no mode object exists and mutation does not run.
-/
namespace Props.C14
open Model.Student Model.StudentModes Model.ModeGate Props.C19 Matrix Lemmas.StudentModes

theorem gather_length {β : Type} (a : List β) (idx : List ℕ) (rows : List β) (h : gather a idx = some rows) :
    rows.length = idx.length := Lemmas.OptionList.mapM_length h

/-! ### at ℝ, with the modelled `fit_mvstud` inside -/

section Real
variable {d : ℕ}

/-- some coordinate takes one single value over the whole sample (e.g. the sample consists of copies of ONE particle) -/
def ConstCoord {m : ℕ} (y : Fin m → Fin d → ℝ) : Prop := ∃ a, ∀ i j, y i a = y j a

theorem colMean_of_const {m : ℕ} (y : Fin m → Fin d → ℝ) (hm : 0 < m) (a : Fin d) (h : ∀ i j, y i a = y j a) (i : Fin m) :
    colMean y a = y i a := by
  unfold colMean
  rw [Finset.sum_congr rfl fun j _ => h j i, Finset.sum_const, Finset.card_univ, Fintype.card_fin, nsmul_eq_mul,
    mul_div_cancel_left₀ _ (Nat.cast_ne_zero.2 hm.ne')]

theorem varV_pos_of_not_const {m : ℕ} (y : Fin m → Fin d → ℝ) (hm : 0 < m) (a : Fin d) (h : ¬ ∀ i j, y i a = y j a) :
    0 < varV y a := by
  refine div_pos ((Finset.sum_nonneg fun i _ => sq_nonneg _).lt_of_ne' fun hz => h fun i j => ?_) (Nat.cast_pos.2 hm)
  have hall : ∀ i, y i a = colMean y a := fun i =>
    sub_eq_zero.1 ((pow_eq_zero_iff two_ne_zero).1
      ((Finset.sum_eq_zero_iff_of_nonneg fun i _ => sq_nonneg (y i a - colMean y a)).1 hz i (Finset.mem_univ i)))
  rw [hall i, hall j]

/-- **when the initial scale matrix `cov·(n−1)/n + diag(var)/n` is positive definite**: exactly when no coordinate is constant
    over the sample (the `diag(var)/n` term makes every other degenerate sample — points on a tilted line or plane — pass) -/
theorem initSigma_posDef_iff {m : ℕ} (y : Fin m → Fin d → ℝ) (hm : 2 ≤ m) : (Props.C19.initSigma y).PosDef ↔ ¬ ConstCoord y := by
  constructor
  · rintro hpd ⟨a, ha⟩
    -- a constant coordinate has zero deviations, so the diagonal entry vanishes
    have hmean : ∀ i, y i a - colMean y a = 0 := fun i => sub_eq_zero.2 (colMean_of_const y (by omega) a ha i).symm
    have h0 : Props.C19.initSigma y a a = 0 := by
      simp only [Props.C19.initSigma, covM, varV, of_apply, diagonal_apply_eq, hmean, mul_zero, Finset.sum_const_zero, zero_div,
        zero_mul, ne_eq, OfNat.ofNat_ne_zero, not_false_eq_true, zero_pow, add_zero]
    exact absurd (hpd.diag_pos (i := a)) (h0 ▸ lt_irrefl (0 : ℝ))
  · intro hnc
    rw [Props.C19.initSigma_eq y hm]
    refine PosDef.posSemidef_add (sigmaNext_posSemidef y _ _ fun _ => zero_le_one) (PosDef.smul ?_ ?_)
    · exact posDef_diagonal_iff.2 fun a => varV_pos_of_not_const y (by omega) a fun h => hnc ⟨a, h⟩
    · exact one_div_pos.2 (Nat.cast_pos.2 (by omega))

/-- the fit's verdict on ONE resample `y` of `m` particles, in matrix form -/
structure ModeOK {m : ℕ} (y : Fin m → Fin d → ℝ) (fb : ℝ) (μ : Fin d → ℝ) (S : Matrix (Fin d) (Fin d) ℝ) (ν : ℝ) : Prop where
  box : InBox y μ
  symm : S.IsSymm
  psd : S.PosSemidef
  pd_iff : S.PosDef ↔ ¬ ConstCoord y
  dof_pos : 0 < fb → 0 < ν
  dof_le : ν ≤ max 1000000 fb

noncomputable def dofVal (fb : ℝ) : Option ℝ → ℝ
  | none => fb
  | some x => x

theorem applyFallback_dofOf (fb : ℝ) (t : Option ℝ) : applyFallback fb (dofOf t) = .fin (dofVal fb t) := by
  cases t <;> simp [applyFallback, dofOf, dofVal, Dof.isFinite]

theorem fit_modeOK (psi : ℝ → ℝ) {m : ℕ} (y : Fin m → Fin d → ℝ) (hm : 2 ≤ m) (fb : ℝ) :
    ModeOK y fb (fit (optNuR psi d m) medR defaultTol defaultMaxIter y).1.mu
      (fit (optNuR psi d m) medR defaultTol defaultMaxIter y).1.sigma
      (dofVal fb (fit (optNuR psi d m) medR defaultTol defaultMaxIter y).2) := by
  obtain ⟨h1, h2, h3, _, _⟩ := C19_fit_wellposed_modelled psi defaultTol defaultMaxIter y hm
  obtain ⟨hb, hs, hp⟩ := h1 _ h2
  have hnu := C19_fit_nu_range_modelled psi defaultTol defaultMaxIter y
  refine ⟨hb, hs, hp, ?_, ?_, ?_⟩
  · constructor
    · intro hpd hc
      have hnpd : ¬ (Props.C19.initSigma y).PosDef := fun h => (initSigma_posDef_iff y hm).1 h hc
      have hu : ¬ IsUnit (Props.C19.initSigma y).det := fun hu => hnpd (initSigma_posDef_of_isUnit y hm hu)
      have := (fit_singular (optNuR psi d m) medR defaultTol defaultMaxIter y hu).2
      rw [this] at hpd
      exact hnpd hpd
    · intro hnc
      rcases h3 with h | ⟨hu, _⟩
      · exact h
      · exact absurd ((Matrix.isUnit_iff_isUnit_det _).1 ((initSigma_posDef_iff y hm).2 hnc).isUnit) hu
  · intro hfb
    cases hν : (fit (optNuR psi d m) medR defaultTol defaultMaxIter y).2 with
    | none => simpa [dofVal] using hfb
    | some ν => simpa [dofVal] using (hnu ν hν).1
  · cases hν : (fit (optNuR psi d m) medR defaultTol defaultMaxIter y).2 with
    | none => simp [dofVal]
    | some ν => simp only [dofVal]; exact le_trans (hnu ν hν).2 (le_max_left _ _)

/-- what a stored mode is, relative to the rows `uc` of its cluster -/
def StoredOK (fb : ℝ) (uc : Mat ℝ) (o : FitOut ℝ) : Prop :=
  ∃ (m : ℕ) (y : Fin m → Fin d → ℝ) (μ : Fin d → ℝ) (S : Matrix (Fin d) (Fin d) ℝ) (ν : ℝ),
    2 ≤ m ∧ (∀ i, vecOf (y i) ∈ uc) ∧ o = ⟨vecOf μ, matOf S, Dof.fin ν⟩ ∧ ModeOK y fb μ S ν

theorem fitRowsF_storedOK (psi : ℝ → ℝ) (fb : ℝ) {N : ℕ} (U : Fin N → Fin d → ℝ) (uc rows : Mat ℝ) (o0 : FitOut ℝ)
    (huc : ∀ r ∈ uc, r ∈ rowsOf U) (hrows : ∀ r ∈ rows, r ∈ uc) (h : fitRowsF psi d rows = some o0) :
    StoredOK (d := d) fb uc ⟨o0.mu, o0.sigma, applyFallback fb o0.dof⟩ := by
  obtain ⟨y, hy⟩ := rows_of_mem_rowsOf U rows (fun r hr => huc r (hrows r hr))
  by_cases hm : 2 ≤ rows.length
  · rw [hy, fitRowsF_rowsOf psi y hm] at h
    injection h with h
    subst h
    refine ⟨rows.length, y, _, _, _, hm, ?_, ?_, fit_modeOK psi y hm fb⟩
    · intro i
      apply hrows
      have : vecOf (y i) ∈ rowsOf y := by
        unfold rowsOf; rw [List.mem_ofFn]; exact ⟨i, rfl⟩
      rw [← hy] at this
      exact this
    · simp only [applyFallback_dofOf]
  · rw [hy, fitRowsF_small psi y (by omega)] at h
    cases h

theorem mem_rowsOf_iff {N : ℕ} (U : Fin N → Fin d → ℝ) (r : List ℝ) (i : ℕ) :
    (rowsOf U)[i]? = some r ↔ ∃ h : i < N, r = vecOf (U ⟨i, h⟩) := by
  unfold rowsOf
  constructor
  · intro h
    have hi : i < N := by
      by_contra hge
      rw [List.getElem?_eq_none (by simp; omega)] at h
      cases h
    refine ⟨hi, ?_⟩
    rw [List.getElem?_eq_getElem (by simpa using hi), List.getElem_ofFn] at h
    exact (Option.some.inj h).symm
  · rintro ⟨hi, rfl⟩
    rw [List.getElem?_eq_getElem (by simpa using hi), List.getElem_ofFn]

theorem vecOf_injective {m : ℕ} : Function.Injective (vecOf (m := m)) := by
  intro v w h
  have := congrArg (vecFn m) h
  simpa using this

/-- **`ModeStatistics.from_particles`, executable model at ℝ — every mode handed to the constructor is valid and was fitted from
    particles of its own cluster.**  For every `special.psi`, particle set `U`, weight vector, label vector, fallback, resample
    factor and stream of uniforms: if the construction does not raise, then there is one mode per distinct label, in increasing
    label order, and mode `k` (label `lab`) is `(vecOf μ, matOf S, fin ν)` where, for the resample `y` the fit was handed,
    every `y i` is a particle of `U` CARRYING LABEL `lab`, and `ModeOK y fb μ S ν` holds. -/
theorem C14_fromParticles_valid (psi : ℝ → ℝ) {N : ℕ} (U : Fin N → Fin d → ℝ) (w : List ℝ) (labels : List ℕ) (fb : ℝ)
    (rf : ℕ) (us : List ℝ) (K : ℕ) (ms : MS ℝ)
    (h : fromParticles (List.replicate K (fitRowsF psi d)) (rowsOf U) w labels fb rf us = .ok ms) :
    ms.labels = some (Model.Modes.labelsOf labels) ∧
    ms.means.length = Model.Modes.numModes labels ∧ ms.covs.length = Model.Modes.numModes labels ∧
    ms.dofs.length = Model.Modes.numModes labels ∧
    ∀ (k lab : ℕ), (Model.Modes.labelsOf labels)[k]? = some lab →
      ∃ (m : ℕ) (y : Fin m → Fin d → ℝ) (μ : Fin d → ℝ) (S : Matrix (Fin d) (Fin d) ℝ) (ν : ℝ),
        2 ≤ m ∧ (∀ i, ∃ j : Fin N, labels[j.val]? = some lab ∧ y i = U j) ∧
        ms.means[k]? = some (vecOf μ) ∧ ms.covs[k]? = some (matOf S) ∧ ms.dofs[k]? = some (Dof.fin ν) ∧
        ModeOK y fb μ S ν := by
  obtain ⟨os, hc, rfl⟩ := fromParticles_ok _ _ w labels fb rf us ms h
  obtain ⟨hlen, heach⟩ := clusterLoop_each
    (fun uc o => (∀ r ∈ uc, r ∈ rowsOf U) → StoredOK (d := d) fb uc o) (rowsOf U) (normalise w) labels fb rf
    (Model.Modes.uniqueSorted labels) (List.replicate K (fitRowsF psi d)) us os
    (by
      intro f hf uc rows o0 hrows hfit huc
      rw [List.eq_of_mem_replicate hf] at hfit
      exact fitRowsF_storedOK psi fb U uc rows o0 huc hrows hfit) hc
  have hK : Model.Modes.numModes labels = (Model.Modes.uniqueSorted labels).length := numModes_eq labels
  have hl : ∀ {β : Type} (f : FitOut ℝ → β), (os.map f).length = Model.Modes.numModes labels :=
    fun f => (List.length_map f).trans (hlen.trans hK.symm)
  refine ⟨rfl, hl _, hl _, hl _, ?_⟩
  intro k lab hk
  have hk' : k < os.length := hlen ▸ (List.getElem?_eq_some_iff.1 hk).1
  have hok' : os[k]? = some os[k] := List.getElem?_eq_getElem hk'
  obtain ⟨uc, hg, hP⟩ := heach k lab os[k] hk hok'
  have huc : ∀ r ∈ uc, r ∈ rowsOf U := gather_mem _ _ _ hg
  obtain ⟨m, y, μ, S, ν, hm, hy, ho, hok⟩ := hP huc
  refine ⟨m, y, μ, S, ν, hm, ?_, ?_, ?_, ?_, hok⟩
  · intro i
    obtain ⟨idx, hidx, hrow⟩ := gather_mem_idx _ _ _ hg _ (hy i)
    obtain ⟨hlt, hv⟩ := (mem_rowsOf_iff U _ idx).1 hrow
    exact ⟨⟨idx, hlt⟩, (mem_indicesOf labels lab idx).1 hidx, vecOf_injective hv⟩
  all_goals rw [List.getElem?_map, hok', ho]; rfl

/-- μ lies in the bounding box of the training particles carrying the mode's own label -/
def InClusterBox {N : ℕ} (U : Fin N → Fin d → ℝ) (labels : List ℕ) (lab : ℕ) (μ : Fin d → ℝ) : Prop :=
  ∀ a, ∃ i j : Fin N, labels[i.val]? = some lab ∧ labels[j.val]? = some lab ∧ U i a ≤ μ a ∧ μ a ≤ U j a

theorem inClusterBox_of_inBox {N m : ℕ} (U : Fin N → Fin d → ℝ) (labels : List ℕ) (lab : ℕ) (y : Fin m → Fin d → ℝ)
    (hy : ∀ i, ∃ j : Fin N, labels[j.val]? = some lab ∧ y i = U j) (μ : Fin d → ℝ) (h : InBox y μ) :
    InClusterBox U labels lab μ := by
  intro a
  obtain ⟨i, j, h1, h2⟩ := h a
  obtain ⟨i', hi1, hi2⟩ := hy i
  obtain ⟨j', hj1, hj2⟩ := hy j
  exact ⟨i', j', hi1, hj1, by rw [← hi2]; exact h1, by rw [← hj2]; exact h2⟩

/-- **finite mean, concretely**: particles of the unit cube give mode means in the unit cube -/
theorem inUnitCube_of_inClusterBox {N : ℕ} (U : Fin N → Fin d → ℝ) (labels : List ℕ) (lab : ℕ) (μ : Fin d → ℝ)
    (hU : ∀ i a, 0 ≤ U i a ∧ U i a ≤ 1) (h : InClusterBox U labels lab μ) : ∀ a, 0 ≤ μ a ∧ μ a ≤ 1 := by
  intro a
  obtain ⟨i, j, _, _, h1, h2⟩ := h a
  exact ⟨le_trans (hU i a).1 h1, le_trans h2 (hU j a).2⟩

/-! ### the constructor's gate -/

theorem construct_isSome_iff (ms : MS ℝ) :
    (construct ms).isSome = true ↔
      ms.means ≠ [] ∧ ms.covs.length = ms.means.length ∧ ms.dofs.length = ms.means.length ∧
      ∀ S ∈ ms.covs, pdGate S = true := by
  unfold construct
  by_cases h0 : ms.means.length = 0
  · simp [List.length_eq_zero_iff.1 h0]
  · have hne : ms.means ≠ [] := fun h => h0 (by simp [h])
    by_cases hs : ms.covs.length = ms.means.length ∧ ms.dofs.length = ms.means.length
    · simp only [h0, if_false, hs, and_self, if_true, Option.isSome_map, Lemmas.OptionList.modes_mapOpt, Lemmas.OptionList.mapM_isSome_iff, pdGate]
      simp [hne]
    · simp only [h0, if_false, hs, if_false]
      simp only [Option.isSome_none, Bool.false_eq_true, false_iff]
      rintro ⟨_, h1, h2, _⟩
      exact hs ⟨h1, h2⟩

theorem construct_some (ms : MS ℝ) (o : Obj ℝ) (h : construct ms = some o) : o.ms = ms ∧ o.invs.length = ms.covs.length := by
  unfold construct at h
  split_ifs at h
  obtain ⟨is, hm, rfl⟩ := Option.map_eq_some_iff.1 h
  exact ⟨rfl, Lemmas.OptionList.mapM_length (Lemmas.OptionList.modes_mapOpt _ _ ▸ hm)⟩

theorem trainerObject_some {b : Built ℝ} {o : Obj ℝ} (h : trainerObject b = some o) :
    ∃ ms, b = .ok ms ∧ construct ms = some o := by
  cases b with
  | ok ms => exact ⟨ms, rfl, h⟩
  | valueError => cases h
  | raised => cases h

/-- **the gate on a symmetric positive semidefinite matrix is positive definiteness** (`Lemmas.GaussJordan.inv_matOf_psd`) -/
theorem pdGate_matOf_iff (S : Matrix (Fin d) (Fin d) ℝ) (hS : S.PosSemidef) : pdGate (matOf S) = true ↔ S.PosDef := by
  unfold pdGate
  rw [matOf_eq]
  exact Lemmas.GaussJordan.inv_matOf_psd S hS

/-- **C14 (validity of the mode OBJECT, clustering path).**  If `Trainer.run`'s `from_particles` branch returns an object at
    all — construction and constructor did not raise — then the training label vector is non-empty, there is exactly one mode
    per distinct training label, and mode `k` (label `lab`) has: mean inside the bounding box of the training particles
    carrying `lab`, scale matrix symmetric POSITIVE DEFINITE, degrees of freedom positive (given a positive fallback). -/
theorem C14_object_valid (psi : ℝ → ℝ) {N : ℕ} (U : Fin N → Fin d → ℝ) (w : List ℝ) (labels : List ℕ) (fb : ℝ) (hfb : 0 < fb)
    (rf : ℕ) (us : List ℝ) (K : ℕ) (o : Obj ℝ)
    (h : trainerObject (fromParticles (List.replicate K (fitRowsF psi d)) (rowsOf U) w labels fb rf us) = some o) :
    labels ≠ [] ∧ o.ms.labels = some (Model.Modes.labelsOf labels) ∧ o.K = Model.Modes.numModes labels ∧
    o.ms.covs.length = o.K ∧ o.ms.dofs.length = o.K ∧ o.invs.length = o.K ∧
    ∀ (k lab : ℕ), (Model.Modes.labelsOf labels)[k]? = some lab →
      ∃ (μ : Fin d → ℝ) (S : Matrix (Fin d) (Fin d) ℝ) (ν : ℝ),
        o.ms.means[k]? = some (vecOf μ) ∧ o.ms.covs[k]? = some (matOf S) ∧ o.ms.dofs[k]? = some (Dof.fin ν) ∧
        InClusterBox U labels lab μ ∧ S.IsSymm ∧ S.PosDef ∧ 0 < ν ∧ ν ≤ max 1000000 fb := by
  obtain ⟨ms, hb, h⟩ := trainerObject_some h
  obtain ⟨hms, hinv⟩ := construct_some ms o h
  obtain ⟨hne, hc, hd, hgate⟩ := (construct_isSome_iff ms).1 (h ▸ rfl)
  obtain ⟨hl, h1, -, -, heach⟩ := C14_fromParticles_valid psi U w labels fb rf us K ms hb
  have hlab : labels ≠ [] := by
    rintro rfl
    exact hne (List.length_eq_zero_iff.1 h1)
  subst hms
  refine ⟨hlab, hl, h1, hc, hd, hinv.trans hc, fun k lab hk => ?_⟩
  obtain ⟨m, y, μ, S, ν, hm, hy, hmu, hcov, hdof, hok⟩ := heach k lab hk
  exact ⟨μ, S, ν, hmu, hcov, hdof, inClusterBox_of_inBox U labels lab y hy μ hok.box, hok.symm,
    (pdGate_matOf_iff S hok.psd).1 (hgate _ (List.mem_of_getElem? hcov)), hok.dof_pos hfb, hok.dof_le⟩

/-- **finding F24, in the model**: the constructor accepts the modes built by `from_particles` exactly when every stored scale
    matrix that is positive semidefinite is positive definite — otherwise `np.linalg.inv` raises, no object exists and mutation
    does not run.  Which resamples give a singular matrix is `C14_mode_passes_gate_iff`: those constant in a coordinate (e.g.
    copies of ONE particle); every other degenerate resample passes, thanks to the `diag(var)/n` term. -/
theorem C14_object_exists_iff (psi : ℝ → ℝ) {N : ℕ} (U : Fin N → Fin d → ℝ) (w : List ℝ) (labels : List ℕ) (fb : ℝ)
    (rf : ℕ) (us : List ℝ) (K : ℕ) (ms : MS ℝ) (hne : labels ≠ [])
    (hb : fromParticles (List.replicate K (fitRowsF psi d)) (rowsOf U) w labels fb rf us = .ok ms) :
    (construct ms).isSome = true ↔
      ∀ (k : ℕ) (S : Matrix (Fin d) (Fin d) ℝ), ms.covs[k]? = some (matOf S) → S.PosSemidef → S.PosDef := by
  obtain ⟨hl, h1, h2, h3, heach⟩ := C14_fromParticles_valid psi U w labels fb rf us K ms hb
  have hK := numModes_pos hne
  rw [construct_isSome_iff]
  constructor
  · rintro ⟨_, _, _, hg⟩ k S hk hpsd
    exact (pdGate_matOf_iff S hpsd).1 (hg _ (List.mem_of_getElem? hk))
  · intro hall
    refine ⟨fun h => by rw [h] at h1; simp at h1; omega, by omega, by omega, ?_⟩
    intro M hM
    obtain ⟨k, hk, rfl⟩ := List.mem_iff_getElem.1 hM
    have hk' : k < (Model.Modes.labelsOf labels).length := by rw [labelsOf_length]; omega
    obtain ⟨m, y, μ, S, ν, _, _, _, hcov, _, hok⟩ := heach k _ (List.getElem?_eq_getElem hk')
    have hcov' : ms.covs[k] = matOf S := by
      rw [List.getElem?_eq_getElem hk] at hcov; exact Option.some.inj hcov
    rw [hcov']
    exact (pdGate_matOf_iff S hok.psd).2 (hall k S (by rw [List.getElem?_eq_getElem hk, hcov']) hok.psd)

/-- … and the resample-level reading: mode `k` passes the gate iff its resample is constant in no coordinate -/
theorem C14_mode_passes_gate_iff (psi : ℝ → ℝ) {m : ℕ} (y : Fin m → Fin d → ℝ) (hm : 2 ≤ m) :
    pdGate (matOf (fit (optNuR psi d m) medR defaultTol defaultMaxIter y).1.sigma) = true ↔ ¬ ConstCoord y := by
  have hok := fit_modeOK psi y hm 1
  rw [pdGate_matOf_iff _ hok.psd]
  exact hok.pd_iff

/-- a cluster whose particles all share one coordinate value (in particular a cluster of ONE distinct particle) is refused by
    the constructor whatever the weighted draw picks -/
theorem constCoord_of_cluster {N m : ℕ} (U : Fin N → Fin d → ℝ) (labels : List ℕ) (lab : ℕ) (y : Fin m → Fin d → ℝ)
    (hy : ∀ i, ∃ j : Fin N, labels[j.val]? = some lab ∧ y i = U j) (a : Fin d)
    (hcl : ∀ i j : Fin N, labels[i.val]? = some lab → labels[j.val]? = some lab → U i a = U j a) : ConstCoord y := by
  refine ⟨a, fun i j => ?_⟩
  obtain ⟨i', hi1, hi2⟩ := hy i
  obtain ⟨j', hj1, hj2⟩ := hy j
  rw [hi2, hj2]
  exact hcl i' j' hi1 hj1

/-! ### the other paths of `Trainer.run` -/

/-- **`ModeStatistics.from_global`** (clustering off): one mode, fitted from particles of the pool, valid in the same sense -/
theorem C14_fromGlobal_valid (psi : ℝ → ℝ) {N : ℕ} (U : Fin N → Fin d → ℝ) (w : List ℝ) (fb : ℝ) (rf : ℕ) (us : List ℝ)
    (ms : MS ℝ) (h : fromGlobal (fitRowsF psi d) (rowsOf U) w fb rf us = .ok ms) :
    ms.labels = none ∧
    ∃ (m : ℕ) (y : Fin m → Fin d → ℝ) (μ : Fin d → ℝ) (S : Matrix (Fin d) (Fin d) ℝ) (ν : ℝ),
      2 ≤ m ∧ (∀ i, ∃ j : Fin N, y i = U j) ∧
      ms.means = [vecOf μ] ∧ ms.covs = [matOf S] ∧ ms.dofs = [Dof.fin ν] ∧ ModeOK y fb μ S ν := by
  obtain ⟨o, us', hf, rfl⟩ := fromGlobal_ok _ _ w fb rf us ms h
  obtain ⟨rows, o0, hrows, hfit, ho⟩ := fitOne_rows _ fb rf _ _ us o us' hf
  obtain ⟨m, y, μ, S, ν, hm, hy, ho', hok⟩ :=
    fitRowsF_storedOK psi fb U (rowsOf U) rows o0 (fun r hr => hr) hrows hfit
  subst ho
  obtain ⟨e1, e2, e3⟩ := FitOut.mk.inj ho'
  refine ⟨rfl, m, y, μ, S, ν, hm, ?_, by simp [e1], by simp [e2], by simp [e3], hok⟩
  intro i
  have := hy i
  unfold rowsOf at this
  rw [List.mem_ofFn] at this
  obtain ⟨j, hj⟩ := this
  exact ⟨j, (vecOf_injective hj).symm⟩

theorem dummyOut_eq (dd : ℕ) (fb : ℝ) :
    (⟨List.replicate dd Sc.zero, (List.range dd).map (identRow dd), .fin fb⟩ : FitOut ℝ) =
      ⟨vecOf (0 : Fin dd → ℝ), matOf (1 : Matrix (Fin dd) (Fin dd) ℝ), .fin fb⟩ := by
  have hv : List.replicate dd (Sc.zero : ℝ) = vecOf (0 : Fin dd → ℝ) := by
    rw [ScReal.zero_def]; exact (List.ofFn_const dd (0 : ℝ)).symm
  have hm : (List.range dd).map (identRow dd) = matOf (1 : Matrix (Fin dd) (Fin dd) ℝ) :=
    Lemmas.GaussJordan.range_map_identRow
  rw [hv, hm]

/-- the dummy statistics of the `beta = 0` branch: zero mean, identity scale (positive definite), the configured fallback -/
theorem C14_dummy_valid (dd : ℕ) (fb : ℝ) (fitFns : List (Mat ℝ → Option (FitOut ℝ))) (u : Mat ℝ) (w : List ℝ)
    (labels : List ℕ) (us : List ℝ) :
    trainerRun (α := ℝ) .dummy fitFns dd u w labels fb us =
      .ok ⟨[vecOf (0 : Fin dd → ℝ)], [matOf (1 : Matrix (Fin dd) (Fin dd) ℝ)], [Dof.fin fb], none⟩ ∧
    (1 : Matrix (Fin dd) (Fin dd) ℝ).PosDef ∧ (1 : Matrix (Fin dd) (Fin dd) ℝ).IsSymm := by
  obtain ⟨e1, e2, -⟩ := FitOut.mk.inj (dummyOut_eq dd fb)
  exact ⟨by rw [trainerRun, e1, e2], PosDef.one, isSymm_one⟩

/-- **every path of `Trainer.run` on which a mode object is produced** (beta = 0 dummy, fit + predict, predict only, no
    clustering): an object that exists has at least one mode, and every mode has a symmetric positive-definite scale matrix
    and positive degrees of freedom -/
theorem C14_trainer_object_valid (psi : ℝ → ℝ) (path : Path) {N : ℕ} (U : Fin N → Fin d → ℝ) (w : List ℝ) (labels : List ℕ)
    (cfgFb : ℝ) (hfb : 0 < cfgFb) (us : List ℝ) (K : ℕ) (o : Obj ℝ)
    (h : trainerObject (trainerRun path (List.replicate K (fitRowsF psi d)) d (rowsOf U) w labels cfgFb us) = some o) :
    0 < o.K ∧ ∀ k, k < o.K → ∃ (μ : Fin d → ℝ) (S : Matrix (Fin d) (Fin d) ℝ) (ν : ℝ),
      o.ms.means[k]? = some (vecOf μ) ∧ o.ms.covs[k]? = some (matOf S) ∧ o.ms.dofs[k]? = some (Dof.fin ν) ∧
      S.IsSymm ∧ S.PosDef ∧ 0 < ν := by
  obtain ⟨ms, hb, hc⟩ := trainerObject_some h
  obtain ⟨rfl, -⟩ := construct_some ms o hc
  obtain ⟨hne, -, -, hgate⟩ := (construct_isSome_iff o.ms).1 (hc ▸ rfl)
  -- on every path each mode is a matrix-form triple with a symmetric positive semidefinite scale and a positive dof
  obtain ⟨os, hP, e1, e2, e3⟩ := trainerRun_each (fun o => ∃ (μ : Fin d → ℝ) (S : Matrix (Fin d) (Fin d) ℝ) (ν : ℝ),
      o = ⟨vecOf μ, matOf S, .fin ν⟩ ∧ S.IsSymm ∧ S.PosSemidef ∧ 0 < ν) path _ d (rowsOf U) w labels cfgFb us o.ms
    ⟨0, 1, cfgFb, dummyOut_eq d cfgFb, isSymm_one, PosSemidef.one, hfb⟩
    (fun f hf rows o0 hrows h0 => by
      obtain ⟨m, y, μ, S, ν, -, -, ho, hok⟩ :=
        fitRowsF_storedOK psi cfgFb U (rowsOf U) rows o0 (fun _ hr => hr) hrows (List.eq_of_mem_replicate hf ▸ h0)
      exact ⟨μ, S, ν, ho, hok.symm, hok.psd, hok.dof_pos hfb⟩) hb
  refine ⟨List.length_pos_iff.2 hne, fun k hk => ?_⟩
  have hk' : k < os.length := by rwa [Obj.K, e1, List.length_map] at hk
  obtain ⟨μ, S, ν, ho, hs, hpsd, hν⟩ := hP _ (List.getElem_mem hk')
  have hcov : o.ms.covs[k]? = some (matOf S) := by rw [e2, List.getElem?_map, List.getElem?_eq_getElem hk', ho]; rfl
  -- the constructor's gate turns semidefinite into definite
  exact ⟨μ, S, ν, by rw [e1, List.getElem?_map, List.getElem?_eq_getElem hk', ho]; rfl, hcov,
    by rw [e3, List.getElem?_map, List.getElem?_eq_getElem hk', ho]; rfl, hs,
    (pdGate_matOf_iff S hpsd).1 (hgate _ (List.mem_of_getElem? hcov)), hν⟩

/-! ### the statement, assembled: raw label → mode object → valid mode of the same cluster -/

/-- **C14, assembled on the executable models.**  Training particles `U` (any), weights, training labels, fallback `fb > 0`;
    the mode object `o` exists (`Trainer.run` returned).  Then for EVERY raw cluster label `a` of an active particle and every
    row `drow` of its distances to the `K` mode means, `mode_index` answers an index `i < K` and a label `l` such that
      * `l` is carried by some training particle, and `l = a` whenever `a` is (a label that has a mode keeps it);
      * mode `i` of the object is the mode of label `l`: mean inside the bounding box of the training particles carrying `l`
        (fitted from the particles of that same cluster), symmetric positive-definite scale matrix, positive degrees of freedom. -/
theorem C14_statement_model (psi : ℝ → ℝ) {N : ℕ} (U : Fin N → Fin d → ℝ) (w : List ℝ) (labels : List ℕ) (fb : ℝ) (hfb : 0 < fb)
    (rf : ℕ) (us : List ℝ) (K : ℕ) (o : Obj ℝ)
    (h : trainerObject (fromParticles (List.replicate K (fitRowsF psi d)) (rowsOf U) w labels fb rf us) = some o)
    (a : ℕ) (drow : List ℝ) (hrow : drow.length = o.K) :
    ∃ (i l : ℕ) (μ : Fin d → ℝ) (S : Matrix (Fin d) (Fin d) ℝ) (ν : ℝ),
      Model.Modes.modeIndexD (Model.Modes.labelsOf labels) drow a = some i ∧ i < o.K ∧
      (Model.Modes.labelsOf labels)[i]? = some l ∧ l ∈ labels ∧ (a ∈ labels → l = a) ∧
      o.ms.means[i]? = some (vecOf μ) ∧ o.ms.covs[i]? = some (matOf S) ∧ o.ms.dofs[i]? = some (Dof.fin ν) ∧
      InClusterBox U labels l μ ∧ S.IsSymm ∧ S.PosDef ∧ 0 < ν := by
  obtain ⟨hne, _, hK, _, _, _, heach⟩ := C14_object_valid psi U w labels fb hfb rf us K o h
  obtain ⟨i, l, hi, hlt, hl, hmem, _, _, _, hkeep⟩ :=
    C14_labels_full_argmin labels hne drow (by rw [hrow, hK]) a
  obtain ⟨μ, S, ν, h1, h2, h3, h4, h5, h6, h7, _⟩ := heach i l hl
  exact ⟨i, l, μ, S, ν, hi, by rw [hK]; exact hlt, hl, hmem, hkeep, h1, h2, h3, h4, h5, h6, h7⟩

end Real

/-! ### non-vacuity -/

/-- three particles in the plane, none of the two coordinates constant: the initial scale matrix is positive definite -/
example : ¬ ConstCoord (d := 2) (![![0, 0], ![1, 0], ![0, 1]] : Fin 3 → Fin 2 → ℝ) := by
  rintro ⟨a, ha⟩
  fin_cases a
  · have := ha 0 1; simp at this
  · have := ha 0 2; simp at this

/-- copies of one particle: constant in every coordinate, so the constructor refuses the mode (F24) -/
example : ConstCoord (d := 2) (fun _ : Fin 8 => (![3/10, 7/10] : Fin 2 → ℝ)) := ⟨0, fun _ _ => rfl⟩

/-- the fit on the three particles above passes the gate, for every `psi` -/
example (psi : ℝ → ℝ) :
    pdGate (matOf (fit (optNuR psi 2 3) medR defaultTol defaultMaxIter
      (![![0, 0], ![1, 0], ![0, 1]] : Fin 3 → Fin 2 → ℝ)).1.sigma) = true := by
  rw [C14_mode_passes_gate_iff psi _ (by norm_num)]
  rintro ⟨a, ha⟩
  fin_cases a
  · have := ha 0 1; simp at this
  · have := ha 0 2; simp at this

/-- the constructor model on concrete rational-valued input: a singular scale matrix and an empty mode list are refused -/
example : (construct (⟨[[0, 0]], [[[1, 0], [0, 1]]], [Dof.fin 5], none⟩ : MS Rat)).isSome = true ∧
    (construct (⟨[[0, 0]], [[[1, 1], [1, 1]]], [Dof.fin 5], none⟩ : MS Rat)).isSome = false ∧
    (construct (⟨[], [], [], some []⟩ : MS Rat)).isSome = false ∧
    (construct (⟨[[0, 0]], [[[1, 0], [0, 1]]], [], none⟩ : MS Rat)).isSome = false := by decide +kernel

/-- at ℝ: the dummy statistics of the `beta = 0` branch pass the constructor (identity scale is positive definite), a zero
    scale matrix does not — `construct_isSome_iff` and `pdGate_matOf_iff` are not vacuous -/
example : (construct (⟨[vecOf (0 : Fin 2 → ℝ)], [matOf (1 : Matrix (Fin 2) (Fin 2) ℝ)], [Dof.fin 5], none⟩ : MS ℝ)).isSome = true ∧
    (construct (⟨[vecOf (0 : Fin 2 → ℝ)], [matOf (0 : Matrix (Fin 2) (Fin 2) ℝ)], [Dof.fin 5], none⟩ : MS ℝ)).isSome ≠ true := by
  constructor
  · rw [construct_isSome_iff]
    refine ⟨by simp, by simp, by simp, ?_⟩
    intro S hS
    simp only [List.mem_singleton] at hS
    subst hS
    exact (pdGate_matOf_iff 1 PosDef.one.posSemidef).2 PosDef.one
  · intro hc
    obtain ⟨_, _, _, h⟩ := (construct_isSome_iff _).1 hc
    have h0 := h (matOf (0 : Matrix (Fin 2) (Fin 2) ℝ)) (by simp)
    have hpd := (pdGate_matOf_iff (0 : Matrix (Fin 2) (Fin 2) ℝ) PosSemidef.zero).1 h0
    have := hpd.diag_pos (i := 0)
    simp at this

end Props.C14
