import TempestVerif.Model.PipelineR
import TempestVerif.Lemmas.WarmupR
import TempestVerif.Props.C11Pipeline
/-
  C11 on the pipeline model with the redraw loop of /repo 959029e (`Model.PipelineR`): a warm-up batch without a finite draw is
  discarded and drawn again (at most 1000·n draws), the discarded draws count in the recorded fraction `n_finite / n_drawn`.
  What the loop hands to the replacement step always has a finite draw, so no −inf is stored for ANY tape; any number of
  warm-up iterations commit exactly the evidences of `runR`; and the loop model agrees with C01's kept-block model `warmupR`.
-/
namespace Props.C11
open Model.Pipeline Model.PipelineR Model.Weights Model.Warmup Model.WarmupR Props.C04

/-! ### a block without a finite draw: /repo before 959029e, and the loop -/

theorem hasFin_iff {α : Type} [ScT α] (b : Block α) : hasFin b = true ↔ 0 < countSome b.2 := by
  simp [hasFin]

/-- C11 (finding F8): before /repo 959029e a non-empty warm-up batch with NO finite draw went through
    the replacement step unchanged (`Model.Pipeline.warmup`, `Model.RecSM.warmup`: nothing to copy from), so all its stored
    log-likelihoods were −inf — it could not be committed as a batch of real numbers — and the evidence recorded for it was
    `Z = 0`, i.e. `logz = −inf` (`Model.Warmup.batchZ`).  Since 959029e the same first block is DISCARDED: if the next block
    has a finite draw, that block is kept and `n_drawn = 2n`. -/
theorem C11_old_all_inf_batch_stored (t : Tape ℝ) (z : ℝ) (h0 : countSome t.drawL = 0) (hn : 0 < t.drawL.length)
    (h : List (Nat × ℝ)) (b : Block ℝ) (rest : List (Block ℝ)) (hb : hasFin b = true)
    (hcap : ¬ capFactor * t.drawL.length ≤ t.drawL.length) :
    -- old rule, pipeline model and linear-space model
    ((warmup t z).2.1 = t.drawL ∧ allSome (warmup t z).2.1 = none ∧ batchZ h t.drawL.length 0 = 0) ∧
    -- the loop of 959029e: the block is dropped, the next one is kept
    Model.WarmupR.draw hasFin t.drawL.length (t.drawTags, t.drawL) (b :: rest) = some (b, t.drawL.length + t.drawL.length) := by
  obtain ⟨e1, _, e3⟩ := C11_warmup_all_inf_excluded t z h0 hn
  refine ⟨⟨e1, e3, C11_all_inf_batch h _ hn⟩, ?_⟩
  have hnf : hasFin ((t.drawTags, t.drawL) : Block ℝ) = false :=
    Bool.eq_false_iff.mpr fun hf => absurd ((hasFin_iff _).mp hf) (h0 ▸ Nat.lt_irrefl 0)
  rw [Model.WarmupR.draw, drawLoop_discard _ _ _ _ _ _ hnf hcap, drawLoop_of_hasFin _ _ _ _ _ hb]

/-! ### the warm-up mutation with the loop -/

theorem warmupL_eq (n : Nat) (rt : RTape ℝ) (z : ℝ) (kept : Block ℝ) (nd : Nat)
    (hd : Model.WarmupR.draw hasFin n (rt.t.drawTags, rt.t.drawL) rt.pending = some (kept, nd)) :
    warmupL n rt z = some ((warmup { rt.t with drawTags := kept.1, drawL := kept.2 } z).1,
      (warmup { rt.t with drawTags := kept.1, drawL := kept.2 } z).2.1,
      (if countSome kept.2 < kept.2.length ∨ n < nd
        then Real.log ((countSome kept.2 : ℝ) / (nd : ℝ)) else z), nd) := by
  unfold warmupL
  rw [hd]
  rfl

theorem draw_spec (n : Nat) (first : Block ℝ) (pending : List (Block ℝ)) (kept : Block ℝ) (nd : Nat)
    (hd : Model.WarmupR.draw hasFin n first pending = some (kept, nd)) :
    0 < countSome kept.2 ∧ kept ∈ first :: pending ∧ n ≤ nd := by
  obtain ⟨h1, k, h2, h3, _⟩ := drawLoop_spec hasFin n pending first n kept nd hd
  exact ⟨(hasFin_iff _).mp h1, List.mem_of_getElem? h2, by rw [h3]; exact Nat.le_add_right _ _⟩

/-- C11 (no −inf particle is stored — for EVERY tape): whatever blocks of draws arrive, whenever the warm-up mutation of the
    code of /repo 959029e returns at all (it raises only after `1000·n` draws without a finite one), every stored log-likelihood is
    finite, the batch has the size of the kept block, and every stored value is a finite value that was DRAWN in this
    iteration.  The only hypothesis is numpy's: the picks are positions of finite draws of the kept block. -/
theorem C11_warmupL_all_finite (n : Nat) (rt : RTape ℝ) (z : ℝ) (r : List Nat × List (Option ℝ) × ℝ × Nat)
    (h : warmupL n rt z = some r)
    (hp : ∀ kept nd, Model.WarmupR.draw hasFin n (rt.t.drawTags, rt.t.drawL) rt.pending = some (kept, nd) →
      PicksOk kept.2 rt.t.picks) :
    ∃ l, allSome r.2.1 = some l ∧
      (∃ kept ∈ (rt.t.drawTags, rt.t.drawL) :: rt.pending, l.length = kept.2.length ∧ ∀ v ∈ l, some v ∈ kept.2) ∧
      n ≤ r.2.2.2 := by
  obtain ⟨⟨kept, nd⟩, hd, rfl⟩ := Option.map_eq_some_iff.mp h
  obtain ⟨hfin, hmem, hnd⟩ := draw_spec n _ _ kept nd hd
  obtain ⟨l, h1, h2, h3⟩ := C11_warmup_all_finite ({ rt.t with drawTags := kept.1, drawL := kept.2 } : Tape ℝ) z hfin
    (hp kept nd hd)
  exact ⟨l, h1, ⟨kept, hmem, h2, h3⟩, hnd⟩

/-! ### warm-up iterations of the pipeline model with the loop -/

/-- a warm-up tape the statement covers: the loop ends (before the cap, on the tape), the block it keeps has `n_particles` rows, the
    picks are numpy's.  NOTHING is assumed about which draws are finite. -/
structure RTapeOk (n : Nat) (rt : RTape ℝ) (kept : Block ℝ) (nd : Nat) : Prop where
  draw : Model.WarmupR.draw hasFin n (rt.t.drawTags, rt.t.drawL) rt.pending = some (kept, nd)
  len : kept.2.length = n
  picks : PicksOk kept.2 rt.t.picks

theorem warm_iterateL (c : PCfg ℝ) (s : PState ℝ) (hs : WInv s) (rt : RTape ℝ) (kept : Block ℝ) (nd : Nat)
    (ht : RTapeOk c.rw.nPart rt kept nd)
    (hpool : s.hist ≠ [] → PoolOk c.rw (nTotal (batches s.hist) : ℝ)) :
    ∃ s' o, iterateL c s rt = some (s', o) ∧ WInv s' ∧ o.o.beta = 0 ∧ o.nDrawn = nd ∧
      lin (batches s'.hist) = lin (batches s.hist) ++
        [(kept.2.length, batchZR (lin (batches s.hist)) kept.2.length (countSome kept.2) nd)] ∧
      nTotal (batches s'.hist) = nTotal (batches s.hist) + kept.2.length := by
  obtain ⟨hrb, hrz⟩ := warm_reweight c.rw (batches s.hist) hs.hist0 hs.npos
    (fun hne => hpool fun he => hne (by simp [batches, he]))
  unfold iterateL
  simp only [hs.beta0, ScReal.zero_def]
  generalize Model.Reweight.run c.rw (batches s.hist).isEmpty (oracleM (batches s.hist)) (oracleZ (batches s.hist))
    isFin 0 = r at hrb hrz ⊢
  obtain ⟨hfin, _, hnd⟩ := draw_spec _ _ _ kept nd ht.draw
  obtain ⟨l, hl, hlen, _⟩ := C11_warmup_all_finite { rt.t with drawTags := kept.1, drawL := kept.2 } r.logz hfin ht.picks
  have hnpos : 0 < kept.2.length := lt_of_lt_of_le hfin List.countP_le_length
  have hexp := exp_warm_logz _ (lin_pos _ hs.npos) kept.2.length (countSome kept.2) nd hfin
    (lt_of_lt_of_le (ht.len ▸ hnpos) hnd)
  have heq : Model.Reweight.eqv r.beta 0 = true := (Model.Reweight.eqv_real r.beta 0).mpr hrb
  rw [if_pos heq, warmupL_eq c.rw.nPart rt r.logz kept nd ht.draw, Option.bind_some, hl]
  obtain ⟨hw, hlin, hnt⟩ := winv_commit hs (warmup { rt.t with drawTags := kept.1, drawL := kept.2 } r.logz).1 l
    (if countSome kept.2 < kept.2.length ∨ c.rw.nPart < nd then Real.log ((countSome kept.2 : ℝ) / (nd : ℝ)) else r.logz)
    (by rw [hlen]; exact hnpos) r.beta hrb
  refine ⟨_, _, rfl, hw, hrb, rfl, ?_, by rw [hnt, hlen]⟩
  rw [hlin, hlen, ← hexp, ht.len, hrz]

def sizesR (kn : Block ℝ × Nat) : Nat × Nat × Nat := (kn.1.2.length, countSome kn.1.2, kn.2)

theorem warm_runItersL (c : PCfg ℝ) {ts : List (RTape ℝ)} {ks : List (Block ℝ × Nat)}
    (hts : List.Forall₂ (fun t kn => RTapeOk c.rw.nPart t kn.1 kn.2) ts ks) :
    ∀ s : PState ℝ, WInv s →
      (∀ k, k < ts.length → (s.hist ≠ [] ∨ 0 < k) →
        PoolOk c.rw ((nTotal (batches s.hist) : ℝ) + ((k * c.rw.nPart : ℕ) : ℝ))) →
      ∃ sf outs, runItersL c s ts = some (sf, outs) ∧ WInv sf ∧ (∀ o ∈ outs, o.o.beta = 0) ∧
        outs.map (·.nDrawn) = ks.map (·.2) ∧
        lin (batches sf.hist) = runR (lin (batches s.hist)) (ks.map sizesR) := by
  induction hts with
  | nil => intro s hs _; exact ⟨s, [], rfl, hs, by simp, rfl, rfl⟩
  | @cons t kn ts ks ht0 _ ih =>
    intro s hs hpool
    obtain ⟨s', o, hit, hs', hob, hnd, hlin, hnt⟩ := warm_iterateL c s hs t kn.1 kn.2 ht0
      (fun hne => by
        have := hpool 0 (Nat.succ_pos _) (Or.inl hne)
        rwa [Nat.zero_mul, Nat.cast_zero, add_zero] at this)
    obtain ⟨sf, outs, hrun, hsf, hbeta, hnds, hfin⟩ := ih s' hs'
      (fun k hk _ => by
        have := hpool (k + 1) (Nat.succ_lt_succ hk) (Or.inr k.succ_pos)
        rw [hnt, ht0.len]
        rwa [Nat.succ_mul, Nat.add_comm, Nat.cast_add, ← add_assoc, ← Nat.cast_add] at this)
    refine ⟨sf, o :: outs, by simp [runItersL, hit, hrun], hsf, List.forall_mem_cons.mpr ⟨hob, hbeta⟩, by simp [hnd, hnds], ?_⟩
    rw [hfin, hlin]; rfl

/-- C11 (pipeline, counted once, /repo 959029e, both reweighting modes): run ANY number of iterations of
    `Model.PipelineR.iterateL` from the initial state.  NOTHING is assumed about which draws are finite: the tapes only have to
    let the redraw loop end (a block with a finite draw arrives before the cap and before the tape ends).  With the pool below
    the ESS target before each iteration: every iteration succeeds — so every stored log-likelihood is a real number —, is
    at beta = 0, makes the `n_drawn` draws the loop says, and the committed `(n_t, exp logz_t)` are exactly the evidences of
    the linear-space model `runR` with the rule `n_finite / n_drawn`. -/
theorem C11_pipelineL_warmup (c : PCfg ℝ) (ts : List (RTape ℝ)) (ks : List (Block ℝ × Nat)) (hlen : ts.length = ks.length)
    (hts : ∀ i (hi : i < ts.length) (hk : i < ks.length), RTapeOk c.rw.nPart ts[i] ks[i].1 ks[i].2)
    (hpool : ∀ k, 0 < k → k < ts.length → PoolOk c.rw (((k * c.rw.nPart : ℕ)) : ℝ)) :
    ∃ sf outs, runItersL c init ts = some (sf, outs) ∧ (∀ o ∈ outs, o.o.beta = 0) ∧
      outs.map (·.nDrawn) = ks.map (·.2) ∧ (∀ b ∈ batches sf.hist, b.beta = 0) ∧
      lin (batches sf.hist) = runR [] (ks.map sizesR) := by
  obtain ⟨sf, outs, h1, h2, h3, h4, h5⟩ := warm_runItersL c (List.forall₂_iff_get.mpr ⟨hlen, hts⟩) init winv_init
    (fun k hk hor => by
      rcases hor with h | h
      · exact absurd rfl h
      · have := hpool k h hk
        show PoolOk c.rw (((0 : ℕ) : ℝ) + _)
        rwa [Nat.cast_zero, zero_add])
  exact ⟨sf, outs, h1, h3, h4, h2.hist0, h5⟩

/-- … hence on the pipeline model of /repo 959029e: if the first iteration's evidence was set and every set fraction
    `n_finite/n_drawn` lies in `[lo, hi]`, every committed warm-up evidence satisfies `log lo ≤ logz_t ≤ log hi` -/
theorem C11_pipelineL_once (c : PCfg ℝ) (ts : List (RTape ℝ)) (k0 : Block ℝ × Nat) (ks : List (Block ℝ × Nat))
    (hlen : ts.length = (k0 :: ks).length)
    (hts : ∀ i (hi : i < ts.length) (hk : i < (k0 :: ks).length), RTapeOk c.rw.nPart ts[i] (k0 :: ks)[i].1 (k0 :: ks)[i].2)
    (hpool : ∀ k, 0 < k → k < ts.length → PoolOk c.rw (((k * c.rw.nPart : ℕ)) : ℝ))
    (lo hi : ℝ) (hlo : 0 < lo) (hfirst : (sizesR k0).2.1 < (sizesR k0).1 ∨ (sizesR k0).1 < (sizesR k0).2.2)
    (hb : ∀ kn ∈ k0 :: ks, BatchOkR lo hi (sizesR kn)) :
    ∃ sf outs, runItersL c init ts = some (sf, outs) ∧
      ∀ b ∈ batches sf.hist, b.beta = 0 ∧ Real.log lo ≤ b.logz ∧ b.logz ≤ Real.log hi := by
  obtain ⟨sf, outs, h1, _, _, h4, h5⟩ := C11_pipelineL_warmup c ts (k0 :: ks) hlen hts hpool
  refine ⟨sf, outs, h1, fun b hb' => ⟨h4 b hb', logz_bounds_of_lin _ lo hi hlo ?_ b hb'⟩⟩
  rw [h5]
  exact C11_onceR lo hi hlo (sizesR k0) hfirst (ks.map sizesR) (List.forall_mem_map (l := k0 :: ks).mpr hb)

/-! ### the loop model and C01's kept-block model of the same branch agree -/

/-- `Model.Pipeline.warmupR t disc z` (C01's model of the same branch; what `pipe.F` executes and the replay suites tie to
    the real sampler) sees the warm-up from the KEPT block with the number `disc` of discarded draws as an input.  The loop
    model computes both: `warmupL` is `Model.Pipeline.warmupR` on the block the loop keeps with `disc = n_drawn − n` -/
theorem warmupL_is_warmupR (n : Nat) (rt : RTape ℝ) (z : ℝ) (kept : Block ℝ) (nd : Nat)
    (hd : Model.WarmupR.draw hasFin n (rt.t.drawTags, rt.t.drawL) rt.pending = some (kept, nd))
    (hlen : kept.2.length = n) :
    warmupL n rt z = some ((Model.Pipeline.warmupR { rt.t with drawTags := kept.1, drawL := kept.2 } (nd - n) z).1,
      (Model.Pipeline.warmupR { rt.t with drawTags := kept.1, drawL := kept.2 } (nd - n) z).2.1,
      (Model.Pipeline.warmupR { rt.t with drawTags := kept.1, drawL := kept.2 } (nd - n) z).2.2, nd) := by
  obtain ⟨hfin, _, hnd⟩ := draw_spec n _ _ kept nd hd
  have hnn : n + (nd - n) = nd := by omega
  rw [warmupL_eq n rt z kept nd hd, warmupR_eq_warmup _ _ _ hfin]
  simp only [hlen, hnn, Nat.sub_pos_iff_lt, ScReal.log_def, ScReal.div_def, ScReal.ofNat_def]

/-- n_particles = 2, ess_ratio = 3/2: first iteration: block 1 has no finite draw and is discarded, block 2 (tags 4, 5) has one;
    n_drawn = 4, recorded Z = 1/4.  Second iteration: all finite, nothing redrawn: harmonic mean = 1/4. -/
example : ∃ sf outs, runItersL (⟨⟨3 / 2, 2, none, 1 / 100, 1 / 10000, 20⟩, true⟩ : PCfg ℝ) init
      [⟨⟨[0, 1], [none, none], [1], [], []⟩, [([4, 5], [none, some (-1)])]⟩,
       ⟨⟨[2, 3], [some (-2), some (-3)], [], [], []⟩, []⟩] = some (sf, outs) ∧
    (∀ o ∈ outs, o.o.beta = 0) ∧ outs.map (·.nDrawn) = [4, 2] ∧ (∀ b ∈ batches sf.hist, b.beta = 0) ∧
    lin (batches sf.hist) = runR [] [(2, 1, 4), (2, 2, 2)] := by
  exact C11_pipelineL_warmup (⟨⟨3 / 2, 2, none, 1 / 100, 1 / 10000, 20⟩, true⟩ : PCfg ℝ) _
    [(([4, 5], [none, some (-1)]), 4), (([2, 3], [some (-2), some (-3)]), 2)] rfl
    ((List.forall₂_iff_get (R := fun (t : RTape ℝ) (kn : Block ℝ × Nat) => RTapeOk 2 t kn.1 kn.2)).mp
      (.cons ⟨rfl, rfl, rfl, fun p hp => by rw [List.mem_singleton.mp hp]; exact ⟨-1, rfl⟩⟩
        (.cons ⟨rfl, rfl, rfl, fun _ hp => absurd hp List.not_mem_nil⟩ .nil))).2
    (by
      intro k hk0 hk
      obtain rfl : k = 1 := by simp at hk; omega
      exact Or.inl ⟨rfl, by simp [Model.Reweight.Cfg.target]; norm_num⟩)

example : (runR ([] : List (Nat × ℝ)) [(2, 1, 4), (2, 2, 2)]).map (·.2) = [1 / 4, 1 / 4] := by
  simp [runR, batchZR, reweightZ_single]

end Props.C11
