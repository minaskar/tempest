import TempestVerif.Props.C05Resume
import TempestVerif.Props.C10World
import TempestVerif.Lemmas.PipelineEx
import TempestVerif.Lemmas.Posterior
/-
  C05 on the closed-loop model, non-vacuity: the theorems of `Props/C05Closed.lean` and `Props/C05Resume.lean` applied to evaluated
  iterations and runs of the example worlds of `Props/C10World.lean` — an annealing iteration in each metric mode, a continued run
  that stops at β = 1 and is resumed from its checkpoint, a fresh volume-variation run with two warm-up iterations — and what the
  stopping rule says of the final β.
-/
namespace Props.C05
open Model.ClosedLoop Model.Weights Model.Reweight Model.Ess
open Model.Pipeline (oracleM oracleZ isFin returnedWeights)

variable {P MS TS G : Type}

/-! ### when the loop stops -/

theorem stop_beta (c : CCfg ℝ) (s : CState ℝ P TS G) (hs : Props.C10.WFC s) (hne : s.hist ≠ [])
    (hg : contGuard c s = false) : 1 - s.beta < c.tolTerm := by
  obtain ⟨_, he⟩ := Props.C10.contGuard_spec c s hs hne
  by_contra hcon
  have : contGuard c s = true := he.mpr (Or.inl (not_lt.mp hcon))
  rw [hg] at this; exact absurd this (by simp)

/-! ### non-vacuity: the evaluated iterations of `Props/C10World.lean`, and a volume-variation twin -/
section Examples
open Props.C10 Lemmas.PipelineShift

-- the warm-up iteration of the example world (fresh state): `C05_cl_first` applies, β = 0, uniform weights [1/2, 1/2]
example := C05_cl_first wEx cfgCl (Model.ClosedLoop.init () 0) _ _ itCl1 rfl

-- ESS mode, annealing iteration `itCl2` (pool of two records with equal likelihood, target 1): β advances 0 → 1 …
theorem sCl2_hist_ne : sCl2.hist ≠ [] := by simp [sCl2]
example : (1 : ℝ) ≠ sCl2.beta → cfgCl2.rw.target ≤ ess (oracleM (batchesOf sCl2.hist) 1).1 ∧ cfgCl2.rw.target ≤ (2 : ℝ) :=
  (C05_cl_iteration wEx2 cfgCl2 sCl2 _ _ itCl2 sCl2_hist_ne (by simp [sCl2])).2.2.2.2 rfl
-- … the hypothesis `o.beta ≠ s.beta` is met (1 ≠ 0) …
example : (1 : ℝ) ≠ sCl2.beta := by simp [sCl2]
-- … the trainer received the pool weights at β = 1, trimmed, together with β = 1 and iteration number 2
example := (C05_cl_trainer wEx2 cfgCl2 sCl2 _ _ itCl2 sCl2_hist_ne).2.2 (by norm_num)
example := C05_cl_resampler wEx2 cfgCl2 sCl2 _ _ itCl2 sCl2_hist_ne (by norm_num)

/-- the same configuration in volume-variation mode with target metric 1 (the example world's metric is constantly 0) -/
noncomputable def cfgClV : CCfg ℝ :=
  ⟨⟨1 / 2, 2, some 1, 1 / 100, 1 / 10000, 64⟩, true, true, 1, 1, 1, 238 / 100, 99 / 100, 1, 1 / 10000, 0, 8⟩

theorem rwClV : reweightStep wEx2 cfgClV sCl2
    = ⟨1, .of [1, 1], 2, oracleZ (Model.Pipeline.batches Ex.s1.hist) 1, Branch.dynUpper, [Branch.upOne], [0, 1, 0, 1, 1], [1]⟩ := by
  have hb : batchesOf sCl2.hist = Model.Pipeline.batches Ex.s1.hist := by
    simp [batchesOf, Model.Pipeline.batches, sCl2, Ex.s1, toBatch]
  have hM : oracleMV wEx2 cfgClV.rw.vv (poolOf sCl2.hist) (Model.Pipeline.batches Ex.s1.hist) = fun _ => ([1, 1], 2, 0) := by
    funext β; simp [oracleMV, cfgClV, Ex.oM, wEx2, wEx]
  unfold reweightStep
  simp only [hb]
  rw [hM]
  simp [Model.Reweight.run, cfgClV, runDyn, upperLimit, finalize, Cfg.target, sCl2, Model.Pipeline.batches, Ex.s1, eqv]

/-- a volume-variation iteration of the closed-loop model, evaluated: the ESS limit is 1 (pool ESS 2 ≥ target 1 everywhere),
    the metric at the limit (0) does not exceed the target (1), so β = β_upper = 1 (branch `dynUpper`); the rest of the
    iteration is that of `itCl2` -/
theorem itClV : Model.ClosedLoop.iterate wEx2 cfgClV sCl2
    = some (sCl3, ⟨1, 2, Ex.z1, Ex.z1, Branch.dynUpper, [1/2, 1/2], some ([0, 1], [1/2, 1/2]), [0, 1], [[true, false]],
        [99 / 100]⟩) :=
  itCl2_of cfgClV.rw rfl _ _ _ _ rwClV

-- volume-variation mode: β advanced (1 ≠ 0), so the pool ESS at the ESS-limited temperature is ≥ the target …
example : cfgClV.rw.target ≤
    ess (oracleM (batchesOf sCl2.hist) (upperLimit (clM wEx2 cfgClV sCl2) cfgClV.rw.target cfgClV.rw.tolB cfgClV.rw.fuel sCl2.beta).beta).1 :=
  (C05_cl_iteration wEx2 cfgClV sCl2 _ _ itClV sCl2_hist_ne (by simp [sCl2])).2.2.2.1 (by simp [sCl2])
-- … and trainer and resampler received the pool weights at the recorded β = 1
example := (C05_cl_trainer wEx2 cfgClV sCl2 _ _ itClV sCl2_hist_ne).2.2 (by norm_num)
example := C05_cl_same_temperature wEx2 cfgClV sCl2 _ _ itClV sCl2_hist_ne

theorem guard_sCl3 : contGuard cfgCl2 sCl3 = false := by
  obtain ⟨h1, he⟩ := Props.C10.contGuard_spec cfgCl2 sCl3 wfc_sCl3 (List.append_ne_nil_of_right_ne_nil _ (List.cons_ne_nil _ _))
  refine Bool.eq_false_iff.mpr fun hc => (he.mp hc).elim (fun h => ?_) fun h => ?_
  · -- `tolTerm ≤ 1 − β` reads `1/10000 ≤ 1 − 1`
    exact absurd (show (1 / 10000 : ℝ) ≤ 1 - 1 from h) (by norm_num)
  · -- `ESS₁ < n_total` reads `ESS₁ < 0`, but `1 ≤ ESS₁`
    exact absurd (h1.trans_lt (show _ < (0 : ℝ) from h)) (by norm_num)

/-- a CONTINUED run, evaluated: started from the one-batch state `sCl2` (what a checkpoint taken after the warm-up iteration
    restores), the loop executes the annealing iteration `itCl2` and stops at β = 1 -/
theorem runCl2 : runLoop wEx2 cfgCl2 1 sCl2 = some (sCl3, [sCl2, sCl3],
    [⟨1, 2, Ex.z1, Ex.z1, Branch.essUpper, [1/2, 1/2], some ([0, 1], [1/2, 1/2]), [0, 1], [[true, false]], [99 / 100]⟩]) := by
  have hw2 : Props.C10.WFC sCl2 := by intro b hb; simp [sCl2] at hb; subst hb; simp
  have g2 : contGuard cfgCl2 sCl2 = true := by
    obtain ⟨_, he⟩ := Props.C10.contGuard_spec cfgCl2 sCl2 hw2 sCl2_hist_ne
    exact he.mpr (Or.inl (by simp [cfgCl2, sCl2]; norm_num))
  simp [runLoop, g2, guard_sCl3, itCl2]

theorem start_sCl2 : Start sCl2 := ⟨by simp [sCl2], by simp [sCl2], fun h => absurd h sCl2_hist_ne⟩
example := C05_cl_schedule_from wEx2 cfgCl2 1 sCl2 _ _ _ runCl2 start_sCl2
example := C05_cl_run_iterations wEx2 cfgCl2 1 sCl2 _ _ _ runCl2 start_sCl2 0 sCl2 _ rfl rfl sCl2_hist_ne
example : 1 - sCl3.beta < cfgCl2.tolTerm := stop_beta cfgCl2 sCl3 wfc_sCl3 (by simp [sCl3]) guard_sCl3

/-! a fresh VOLUME-VARIATION run with two warm-up iterations (ess_ratio 2, n_particles 2: target 4; stop rule: ESS₁ ≥ 3) -/
noncomputable def cfgW : CCfg ℝ :=
  ⟨⟨2, 2, some 1, 1 / 100, 1 / 10000, 64⟩, true, true, 1, 1, 1, 238 / 100, 99 / 100, 1, 2, 3, 8⟩
noncomputable def sW1 : CState ℝ Nat Unit Nat :=
  ⟨[⟨0, 0, 4, [0, 1], [0, 0], 1, 2, 1, 1, 1⟩], 0, 0, 4, 1, 2, [0, 1], [0, 0], [0, 0], 1, 1, 1, (), 1⟩
noncomputable def zW : ℝ := oracleZ (batchesOf sW1.hist) 0
noncomputable def sW2 : CState ℝ Nat Unit Nat :=
  ⟨sW1.hist ++ [⟨0, zW, 2, [10, 11], [0, 0], 2, 4, 1, 1, 1⟩], 0, zW, 2, 2, 4, [10, 11], [0, 0], [0, 0], 1, 1, 1, (), 2⟩

theorem wfc_sW1 : Props.C10.WFC sW1 := by intro b hb; simp [sW1] at hb; subst hb; simp
theorem wfc_sW2 : Props.C10.WFC sW2 := by
  intro b hb
  simp only [sW2, sW1, List.cons_append, List.nil_append, List.mem_cons, List.not_mem_nil, or_false] at hb
  rcases hb with rfl | rfl <;> simp

theorem oW1 (β : ℝ) : oracleM (batchesOf sW1.hist) β = ([1, 1], 2, 2) := by
  have hwf := (Props.C10.WF_batchesOf sW1 wfc_sW1).resolve_left (by simp [batchesOf, sW1])
  have := oracle_equal_logl (batchesOf sW1.hist) hwf 0 (by simp [batchesOf, sW1, toBatch, flatLogl]) β
  simpa [nTotal, batchesOf, sW1, toBatch, List.replicate] using this
theorem oW2 (β : ℝ) : oracleM (batchesOf sW2.hist) β = ([1, 1, 1, 1], 4, 4) := by
  have hwf := (Props.C10.WF_batchesOf sW2 wfc_sW2).resolve_left (by simp [batchesOf, sW2])
  have := oracle_equal_logl (batchesOf sW2.hist) hwf 0 (by simp [batchesOf, sW2, sW1, toBatch, flatLogl]) β
  simpa [nTotal, batchesOf, sW2, sW1, toBatch, List.replicate] using this

theorem itW0 : Model.ClosedLoop.iterate wEx2 cfgW (Model.ClosedLoop.init () 0)
    = some (sW1, ⟨0, 4, 0, 0, Branch.firstIter, [1 / 2, 1 / 2], none, [], [], []⟩) := by
  have hr : List.range 2 = [0, 1] := by decide
  have hd : drawLoop wEx2 2 drawCap 0 0 = some ([0, 1], [some 0, some 0], 2, 1) := by
    show drawLoop wEx2 2 (999 + 1) 0 0 = _
    simp [drawLoop, wEx2, wEx, Model.Pipeline.countSome, hr]
  have hn : cfgW.rw.nPart = 2 := rfl
  have hw : warmupStep wEx2 cfgW 0 = some ⟨[0, 1], [0, 0], none, 2, 1⟩ := by
    simp only [warmupStep, hn, hd, Option.bind_some]
    simp [Model.Pipeline.countSome, Model.Pipeline.allSome]
  have hrw : reweightStep wEx2 cfgW (Model.ClosedLoop.init () 0)
      = ⟨0, .uniform 2, 4, 0, Branch.firstIter, [], [], []⟩ := by
    simp [reweightStep, Model.ClosedLoop.init, batchesOf, Model.Reweight.run, cfgW, Cfg.target]; norm_num
  unfold Model.ClosedLoop.iterate
  rw [hrw]
  simp only [trainStep, Ex.eqv_zero_zero, if_true, Option.bind_some, Model.ClosedLoop.init, hw]
  simp [commit, sW1, returnedWeights, hn]

theorem rwW1 : reweightStep wEx2 cfgW sW1 = ⟨0, .of [1, 1], 2, zW, Branch.dynStuck, [Branch.upStay], [0, 0], [0]⟩ := by
  have hM : oracleMV wEx2 cfgW.rw.vv (poolOf sW1.hist) (batchesOf sW1.hist) = fun _ => ([1, 1], 2, 0) := by
    funext β; simp [oracleMV, cfgW, oW1, wEx2, wEx]
  have he : (batchesOf sW1.hist).isEmpty = false := by simp [batchesOf, sW1]
  unfold reweightStep
  simp only [hM, he]
  simp [Model.Reweight.run, cfgW, runDyn, upperLimit, finalize, Cfg.target, sW1, eqv, zW]

theorem itW1 : Model.ClosedLoop.iterate wEx2 cfgW sW1
    = some (sW2, ⟨0, 2, zW, zW, Branch.dynStuck, [1 / 2, 1 / 2], none, [], [], []⟩) := by
  have hr : List.range 2 = [0, 1] := by decide
  have hd : drawLoop wEx2 2 drawCap 1 0 = some ([10, 11], [some 0, some 0], 2, 2) := by
    show drawLoop wEx2 2 (999 + 1) 1 0 = _
    simp [drawLoop, wEx2, wEx, Model.Pipeline.countSome, hr]
  have hn : cfgW.rw.nPart = 2 := rfl
  have hw : warmupStep wEx2 cfgW 1 = some ⟨[10, 11], [0, 0], none, 2, 2⟩ := by
    simp only [warmupStep, hn, hd, Option.bind_some]
    simp [Model.Pipeline.countSome, Model.Pipeline.allSome]
  unfold Model.ClosedLoop.iterate
  rw [rwW1]
  have e1 : sW1.g = 1 := rfl
  simp only [trainStep, Ex.eqv_zero_zero, if_true, Option.bind_some, e1, hw]
  simp [commit, sW2, sW1, Ex.rwEx, hn]

/-- the evaluated run: two iterations, both at β = 0 -/
theorem runW : runLoop wEx2 cfgW 2 (Model.ClosedLoop.init () 0) = some (sW2, [Model.ClosedLoop.init () 0, sW1, sW2],
    [⟨0, 4, 0, 0, Branch.firstIter, [1 / 2, 1 / 2], none, [], [], []⟩,
     ⟨0, 2, zW, zW, Branch.dynStuck, [1 / 2, 1 / 2], none, [], [], []⟩]) := by
  have g0 : contGuard cfgW (Model.ClosedLoop.init () 0 : CState ℝ Nat Unit Nat) = true :=
    Model.Run.notTermination_nil _ _ _
  -- the pool ESS at β = 1 is the second component of the oracle's answer: 2 < 3 after one batch, 4 ≥ 3 after two
  have g1 : contGuard cfgW sW1 = true := by
    obtain ⟨_, he⟩ := Props.C10.contGuard_spec cfgW sW1 wfc_sW1 (by simp [sW1])
    refine he.mpr (Or.inr ?_)
    show (oracleM (batchesOf sW1.hist) 1).2.1 < (3 : ℝ)
    rw [oW1]; norm_num
  have g2 : contGuard cfgW sW2 = false := by
    obtain ⟨_, he⟩ := Props.C10.contGuard_spec cfgW sW2 wfc_sW2 (by simp [sW2])
    refine Bool.eq_false_iff.mpr fun hc => (he.mp hc).elim (fun h => ?_) fun h => ?_
    · exact absurd (show (2 : ℝ) ≤ 1 - 0 from h) (by norm_num)
    · have h' : (oracleM (batchesOf sW2.hist) 1).2.1 < (3 : ℝ) := h
      rw [oW2] at h'; norm_num at h'
  simp [runLoop, g0, g1, g2, itW0, itW1]

-- `C05_cl_warmup_count` on it: iteration 1 sees a pool of 2 < 4 = target, so it MUST report β = 0 (volume-variation mode)
example : (⟨0, 2, zW, zW, Branch.dynStuck, [1 / 2, 1 / 2], none, [], [], []⟩ : CIterOut ℝ Nat).beta = 0 :=
  C05_cl_warmup_count wEx2 cfgW (by intro g; simp [wEx2, wEx, cfgW]) (by simp [cfgW]) 2 () 0 _ _ _ runW 1 _ rfl
    (Or.inl (by simp [cfgW]))
example := C05_cl_schedule wEx2 cfgW 2 () 0 _ _ _ runW

end Examples

/-! ### the continued run, resumed from its checkpoint -/
section Resume
open Props.C10 Model.ClosedResume

-- `sCl2` is the loop-top state 0 of the evaluated run `runCl2`; resuming its checkpoint on a sampler object whose stream
-- position is the stored one reproduces the run, and `C05_resume_schedule` applies to the pair (A = B = that run)
theorem resumeCl2 : runLoop wEx2 cfgCl2 1 (prologue (some (checkpoint sCl2, some 2)) none (Model.ClosedLoop.init () 7))
    = some (sCl3, [sCl2, sCl3],
      [⟨1, 2, Lemmas.PipelineShift.Ex.z1, Lemmas.PipelineShift.Ex.z1, Branch.essUpper, [1/2, 1/2], some ([0, 1], [1/2, 1/2]), [0, 1],
        [[true, false]], [99 / 100]⟩]) := by
  have := C05_resume_exact wEx2 cfgCl2 1 none sCl2 (Model.ClosedLoop.init () 7) rfl
  rw [show sCl2.g = 2 from rfl] at this
  rw [this, runCl2]
example := C05_resume_schedule wEx2 wEx2 cfgCl2 cfgCl2 1 1 sCl2 _ _ _ runCl2 start_sCl2 0 sCl2 rfl (some 2) none
  (Model.ClosedLoop.init () 7) _ _ _ resumeCl2
example := C05_continue_schedule wEx2 cfgCl2 1 none sCl2 _ _ _ start_sCl2 sCl2_hist_ne
  (by rw [prologue_continue none sCl2 sCl2_hist_ne]; exact runCl2)
example : (prologueOld none (none : Option Nat) sCl3).beta = 0 ∧ (prologue none (none : Option Nat) sCl3).beta = 1 :=
  ⟨(C05_old_prologue_restarts none sCl3).1, by rw [prologue_continue none sCl3 (by simp [sCl3])]; simp [sCl3]⟩

end Resume

end Props.C05
