import TempestVerif.Model.Student
import TempestVerif.Model.StudentNu
import TempestVerif.Model.StudentModes
import TempestVerif.Gen.StudentSrc
/-
  C19 — the executable model (`Model/Student.lean`, `Model/StudentNu.lean`, `Model/StudentModes.lean`) is built from the
  expressions that are in /repo's `tempest/student.py` and `tempest/modes.py` when the check runs.

  `Gen/StudentSrc.lean` is regenerated from the source on every run of the check (translator G17, `translate/g17_student.py`):
  the KERNEL of every arithmetic statement (the scalar function a numpy expression applies element-wise, e.g.
  `w_iobs = (nu + dim) / (nu + delta_iobs)` ↦ `weightsK nu dim δ`; literals, operators, operand order and comparisons taken from
  the source), for every kernel the list of its LEAVES (the numpy primitives it is applied to), the argument lists of
  `optimize.bisect`, `np.random.choice`, `fit_mvstud`, and the statement skeletons.  Local names are canonicalised, so a pure
  renaming / reformatting / comment / type-annotation change regenerates the same file.

  The theorems hold by `rfl` (a few by a two-line `simp`/`omega` about `Nat`) for EVERY scalar type — `Float`, which the
  driver executes, included: the model's definitions unfold to the list combinators (the broadcasting layout, hand-written)
  applied to exactly the generated kernels.  A change of a literal, an operator, an operand order or a comparison in the
  source breaks the corresponding theorem; a change of control flow changes a skeleton table.

  Canonical names —
    fit_mvstud: a0 data, a1 tolerance, a2 max_iter; f0 opt_nu (f0a0 delta_iobs, f0a1 nu, f0v0 nu_max, f0f0 func0 (f0f0a0 nu,
      f0f0v0 w_iobs, f0f0v1 f)); v0 dim, v1 n, v2 mu, v3 Sigma, v4 nu, v5 last_nu, v6 i, v7 diffs, v8 delta_iobs, v9 new_nu,
      v10 w_iobs, v11 new_Sigma.
    from_particles: a0 cls, a1 u, a2 weights, a3 labels, a4 dof_fallback, a5 resample_factor; v0 means, v1 covariances,
      v2 degrees_of_freedom, v3 unique_labels, v4 label, v5 idx_cluster, v6 u_cluster, v7 weights_cluster, v8 n_cluster,
      v9 n_resample, v10 idx_resample, v11 u_resampled, v12 mean, v13 covariance, v14 dof.
    from_global: a0 cls, a1 u, a2 weights, a3 dof_fallback, a4 resample_factor; v0 n_particles, v1 n_resample, v2 idx_resample,
      v3 u_resampled, v4 mean, v5 covariance, v6 dof.
-/
namespace Props.C19.Src
open Model.Student Model.StudentModes
variable {α : Type}

/-! ## `fit_mvstud` (tempest/student.py) -/
section Fit
variable [Sc α]

/-- `def fit_mvstud(data, tolerance=1e-6, max_iter=100)` -/
theorem C19_src_defaults :
    (defaultTol : α) = Gen.StudentSrc.tolDefault ∧ defaultMaxIter = Gen.StudentSrc.maxIterDefault := ⟨rfl, rfl⟩

/-- `Sigma = np.cov(data) * (n - 1) / n + (1 / n) * np.diag(np.var(data, axis=1))`, entry `(a, b)`; the two leaves are the
    model's `np.cov` entry `⟨c_a, c_b⟩/(n-1)` and `np.diag(np.var)` entry `[a = b]·⟨c_a, c_a⟩/n` (hand-written: numpy's) -/
theorem C19_src_initSigma (n : Nat) (X : Mat α) :
    initSigma n X =
      (let C := X.map center
       C.zipIdx.map fun (ca, a) => C.zipIdx.map fun (cb, b) =>
         Gen.StudentSrc.initSigmaK (Sc.div (dot ca cb) (Sc.ofNat (n - 1))) n
           (if a == b then Sc.div (dot ca ca) (Sc.ofNat n) else Sc.zero)) := rfl

theorem C19_src_initSigma_leaves :
    Gen.StudentSrc.initSigmaKLeaves = ["L0 = np.cov(a0)", "L1 = np.diag(np.var(a0, axis=1))"] ∧
    Gen.StudentSrc.initMuLeaves = ["L0 = np.array([np.median(a0, 1)]).T"] := ⟨rfl, rfl⟩

/-- `nu = 20; last_nu = 0; i = 0` and `fuel = max_iter - i` (tape-driven loop) -/
theorem C19_src_fit (tol : α) (maxIter n : Nat) (X : Mat α) (tape : List (NuEv α)) :
    fit tol maxIter n X tape =
      (init n X).map fun st =>
        loop tol n X (maxIter - Gen.StudentSrc.iterInit) st (Sc.ofNat Gen.StudentSrc.nuInit)
          (Sc.ofNat Gen.StudentSrc.lastNuInit) tape := rfl

/-- the same initial values in the loop driven by the modelled `opt_nu` (what `fitF` runs) -/
theorem C19_src_fitWith (optNu : List α → NuOut α) (tol : α) (maxIter n : Nat) (X : Mat α) :
    fitWith optNu tol maxIter n X =
      (init n X).map fun st =>
        loopF optNu tol n X (maxIter - Gen.StudentSrc.iterInit) st (Sc.ofNat Gen.StudentSrc.nuInit)
          (Sc.ofNat Gen.StudentSrc.lastNuInit) := rfl

/-- `while np.abs(last_nu - nu) > tolerance and i < max_iter` is the conjunction of its two comparisons -/
theorem C19_src_whileTest (lastNu nu tol : α) (i maxIter : Nat) :
    Gen.StudentSrc.whileTest lastNu nu tol i maxIter =
      (Gen.StudentSrc.whileNuTest lastNu nu tol && Gen.StudentSrc.whileIterTest i maxIter) := rfl

/-- the model's convergence test is the source's first comparison -/
theorem C19_src_whileNuTest (lastNu nu tol : α) :
    Gen.StudentSrc.whileNuTest lastNu nu tol = Sc.lt tol (Sc.abs (Sc.sub lastNu nu)) := rfl

/-- `fuel = max_iter - i`: the second comparison holds iff fuel is left -/
theorem C19_src_whileIterTest (i maxIter : Nat) :
    Gen.StudentSrc.whileIterTest i maxIter = decide (0 < maxIter - i) := by
  simp [Gen.StudentSrc.whileIterTest]; omega

/-- `i += 1` costs one unit of fuel -/
theorem C19_src_iterStep (i maxIter : Nat) :
    maxIter - Gen.StudentSrc.iterStep i = (maxIter - i) - 1 := rfl

/-- `if i == max_iter` (the warning) while `i ≤ max_iter`: no fuel left -/
theorem C19_src_warnTest (i fuel : Nat) :
    Gen.StudentSrc.warnTest i (i + fuel) = (fuel == 0) := by
  cases fuel <;> simp [Gen.StudentSrc.warnTest]

theorem whileTest_fuel (lastNu nu tol : α) (i fuel : Nat) :
    Gen.StudentSrc.whileTest lastNu nu tol i (i + (fuel+1)) = Sc.lt tol (Sc.abs (Sc.sub lastNu nu)) := by
  rw [C19_src_whileTest, C19_src_whileIterTest, C19_src_whileNuTest]
  have : decide (0 < i + (fuel + 1) - i) = true := by simp
  rw [this, Bool.and_true]

theorem warnTest_step (i fuel : Nat) :
    Gen.StudentSrc.warnTest (Gen.StudentSrc.iterStep i) (i + (fuel+1)) = (fuel == 0) := by
  have := C19_src_warnTest (i+1) fuel
  rw [show i + 1 + fuel = i + (fuel + 1) by omega] at this
  exact this

theorem warnTest_fuel (i fuel : Nat) : Gen.StudentSrc.warnTest i (i + (fuel+1)) = false := by
  rw [C19_src_warnTest]; rfl

/-- the loop: test, `i += 1` BEFORE the two `break`s (so the warning flag of an aborted last iteration is the source's
    `i == max_iter` at the incremented counter), exits as in the skeleton rows 8.* -/
theorem C19_src_loop_succ (tol : α) (n : Nat) (X : Mat α) (fuel : Nat) (st : State α) (nu lastNu : α)
    (tape : List (NuEv α)) (i : Nat) :
    loop tol n X (fuel+1) st nu lastNu tape =
      if Gen.StudentSrc.whileTest lastNu nu tol i (i + (fuel+1)) then
        (let w := Gen.StudentSrc.warnTest (Gen.StudentSrc.iterStep i) (i + (fuel+1))
         match stateDeltas n X st with
         | none => ⟨[st], .notPD, some nu, w⟩
         | some dl =>
           match tape with
           | [] => ⟨[st], .tapeEnd, some nu, w⟩
           | .fail :: _ => ⟨[st], .nuFail, some nu, w⟩
           | .inf :: _ => ⟨[st], .infNu, none, false⟩
           | .val nu' :: rest =>
             let st' := update n X (diffs X st.mu) (weights X.length nu' dl)
             match inv st'.sigma with
             | none => ⟨[st], .sigmaNotPD, some nu, w⟩
             | some _ =>
               let r := loop tol n X fuel st' nu' nu rest
               ⟨st :: r.iterates, r.stop, r.nu, r.warned⟩)
      else ⟨[st], .converged, some nu, Gen.StudentSrc.warnTest i (i + (fuel+1))⟩ := by
  rw [whileTest_fuel, warnTest_step, warnTest_fuel]; rfl

/-- no fuel: `i == max_iter`, the loop test fails on its second comparison whatever the first says; the warning is printed -/
theorem C19_src_loop_zero (tol : α) (n : Nat) (X : Mat α) (st : State α) (nu lastNu : α) (tape : List (NuEv α)) (i : Nat) :
    Gen.StudentSrc.whileTest lastNu nu tol i i = false ∧
    loop tol n X 0 st nu lastNu tape = ⟨[st], .maxIter, some nu, Gen.StudentSrc.warnTest i i⟩ := by
  refine ⟨?_, ?_⟩
  · rw [C19_src_whileTest, C19_src_whileIterTest]; simp
  · have := C19_src_warnTest i 0
    rw [Nat.add_zero] at this
    rw [this]; rfl

/-- the same for the loop driven by the modelled `opt_nu` -/
theorem C19_src_loopF_succ (optNu : List α → NuOut α) (tol : α) (n : Nat) (X : Mat α) (fuel : Nat) (st : State α)
    (nu lastNu : α) (i : Nat) :
    loopF optNu tol n X (fuel+1) st nu lastNu =
      if Gen.StudentSrc.whileTest lastNu nu tol i (i + (fuel+1)) then
        (let w := Gen.StudentSrc.warnTest (Gen.StudentSrc.iterStep i) (i + (fuel+1))
         match stateDeltas n X st with
         | none => some ⟨[st], .notPD, some nu, w⟩
         | some dl =>
           match optNu dl with
           | .raise => none
           | .fail => some ⟨[st], .nuFail, some nu, w⟩
           | .inf => some ⟨[st], .infNu, none, false⟩
           | .val nu' =>
             let st' := update n X (diffs X st.mu) (weights X.length nu' dl)
             match inv st'.sigma with
             | none => some ⟨[st], .sigmaNotPD, some nu, w⟩
             | some _ =>
               (loopF optNu tol n X fuel st' nu' nu).map fun r => ⟨st :: r.iterates, r.stop, r.nu, r.warned⟩)
      else some ⟨[st], .converged, some nu, Gen.StudentSrc.warnTest i (i + (fuel+1))⟩ := by
  rw [whileTest_fuel, warnTest_step, warnTest_fuel]; rfl

/-- "return the last valid estimate" (commit 3acbd02): the loop is left in exactly three places — `break` when the first
    `try` (solve, `opt_nu`) raised, BEFORE any of `last_nu, nu, Sigma, mu` is written in this pass (`notPD` / `nuFail`: the
    state and `nu` of the previous pass come back); `return` of the current `(mu, Sigma)` with the new `nu` when it is `inf`
    (`infNu`); `break` after `nu = last_nu` when the Cholesky test of `new_Sigma` raised, before `Sigma` and `mu` are
    written (`sigmaNotPD`: previous `nu`, previous state) — and `Sigma`, `mu` are written only after that test
    (rows 8.9–8.11 of `stateWrites` follow 8.8x0) -/
theorem C19_src_lastValidEstimate :
    Gen.StudentSrc.loopExits =
      ["break | except (np.linalg.LinAlgError, ValueError) guarding [v8 = np.sum(v7 * np.linalg.solve(v3, v7), 0); v9 = f0(v8, v4)] | after: ",
       "return (v2.T[0], v3, v4) | if v4 == np.inf | after: ",
       "break | except np.linalg.LinAlgError guarding [np.linalg.cholesky(v11)] | after: v4 = v5"] ∧
    Gen.StudentSrc.stateWrites =
      ["3: v2 = np.array([np.median(a0, 1)]).T",
       "4: v3 = np.cov(a0) * (v1 - 1) / v1 + 1 / v1 * np.diag(np.var(a0, axis=1))",
       "5: v4 = 20",
       "6: v5 = 0",
       "8.3: v5 = v4",
       "8.4: v4 = v9",
       "8.8x0.0: v4 = v5",
       "8.9: v3 = v11",
       "8.10: v2 = np.sum(v10 * a0, 1) / sum(v10)",
       "8.11: v2 = np.array([v2]).T"] := ⟨rfl, rfl⟩

/-- `diffs = data - mu` (row `a` of `data` minus `mu[a]`: the broadcast of a `(dim, 1)` column) -/
theorem C19_src_diffs (X : Mat α) (mu : List α) :
    diffs X mu = List.zipWith (fun col m => col.map fun x => Gen.StudentSrc.diffsK x m) X mu := rfl

/-- `delta_iobs = np.sum(diffs * np.linalg.solve(Sigma, diffs), 0)`: element-wise product, summed over axis 0, nothing else -/
theorem C19_src_deltas (n : Nat) (D Sinv : Mat α) :
    deltas n D Sinv =
      (List.zipWith (List.zipWith Gen.StudentSrc.deltaK_L0A0) D (Sinv.map fun row => lincomb n row D)).foldl vadd
        (List.replicate n Sc.zero) ∧
    (∀ x : α, Gen.StudentSrc.deltaK x = x) := ⟨rfl, fun _ => rfl⟩

theorem C19_src_deltas_leaves :
    Gen.StudentSrc.deltaKLeaves = ["L0 = np.sum(v7 * np.linalg.solve(v3, v7), 0)"] ∧
    Gen.StudentSrc.deltaK_L0A0Leaves = ["L0 = np.linalg.solve(v3, v7)"] := ⟨rfl, rfl⟩

/-- `w_iobs = (nu + dim) / (nu + delta_iobs)` -/
theorem C19_src_weights (dim : Nat) (nu : α) (dl : List α) :
    weights dim nu dl = dl.map fun δ => Gen.StudentSrc.weightsK nu dim δ := rfl

/-- `new_Sigma = np.dot(w_iobs * diffs, diffs.T) / n` and `mu = np.sum(w_iobs * data, 1) / sum(w_iobs)` -/
theorem C19_src_update (n : Nat) (X D : Mat α) (w : List α) :
    update n X D w =
      ⟨X.map fun col => Gen.StudentSrc.muK (Sc.sum (List.zipWith Gen.StudentSrc.muK_L0A0 w col)) (Sc.sum w),
       D.map fun da => D.map fun db =>
         Gen.StudentSrc.sigmaK (dot (List.zipWith Gen.StudentSrc.sigmaK_L0A0 w da) db) n⟩ := rfl

theorem C19_src_update_leaves :
    Gen.StudentSrc.sigmaKLeaves = ["L0 = np.dot(v10 * v7, v7.T)"] ∧
    Gen.StudentSrc.muKLeaves = ["L0 = np.sum(v10 * a0, 1)", "L1 = sum(v10)"] := ⟨rfl, rfl⟩

/-! ### `opt_nu` -/

/-- `nu_max = 1e6`, `optimize.bisect(func0, 1e-300, nu_max)` -/
theorem C19_src_bracket :
    (nuLo : α) = Gen.StudentSrc.bisectLo ∧ (nuMax : α) = Gen.StudentSrc.nuMax := ⟨rfl, rfl⟩

/-- `bisect` gets the score function, the two ends of the bracket and nothing else (scipy's default tolerances) -/
theorem C19_src_bisectArgs : Gen.StudentSrc.bisectArgs = ["f0f0", "1e-300", "f0v0"] := rfl

/-- `if func0(nu_max) >= 0: nu = np.inf  else: nu = optimize.bisect(func0, 1e-300, nu_max)` -/
theorem C19_src_optNuWith (f : α → α) :
    optNuWith f =
      if Gen.StudentSrc.optNuInfTest f Gen.StudentSrc.nuMax then (.inf, [Gen.StudentSrc.nuMax])
      else
        let r := bisect f Gen.StudentSrc.bisectLo Gen.StudentSrc.nuMax bisXtol bisRtol bisIter
        (match r.res with
         | .root x => .val x
         | .signErr => .fail
         | .nanErr _ => .fail
         | .convErr => .raise, Gen.StudentSrc.nuMax :: r.evals) := rfl

/-- the same as ONE source-derived term: which branch answers `inf` and which calls `bisect`, and with which arguments
    (`R` = the model's outcome-with-evaluation-trace; the hand-written part is what `np.inf` and a `bisect` call MEAN:
    `.inf` after one evaluation at `nu_max`; scipy's defaults `xtol, rtol, maxiter` and the mapping of its errors) -/
theorem C19_src_optNuBody (f : α → α) :
    optNuWith f =
      Gen.StudentSrc.optNuBody (.inf, [Gen.StudentSrc.nuMax])
        (fun g a b =>
          let r := bisect g a b bisXtol bisRtol bisIter
          (match r.res with
           | .root x => .val x
           | .signErr => .fail
           | .nanErr _ => .fail
           | .convErr => .raise, Gen.StudentSrc.nuMax :: r.evals))
        f Gen.StudentSrc.nuMax := rfl

end Fit

section Func0
variable [ScT α]

/-- `func0`: `w_iobs = (nu + dim) / (nu + delta_iobs)` and the seven-term score `f`, evaluated left to right -/
theorem C19_src_func0 (psi : α → α) (dim n : Nat) (dl : List α) (nu : α) :
    func0 psi dim n dl nu =
      (let w := dl.map fun δ => Gen.StudentSrc.func0W nu dim δ
       Gen.StudentSrc.func0F psi nu (Sc.sum (w.map Gen.StudentSrc.func0F_L0A0)) n (Sc.sum w) dim) := rfl

theorem C19_src_func0_leaves :
    Gen.StudentSrc.func0FLeaves = ["L0 = np.sum(np.log(f0f0v0))", "L1 = np.sum(f0f0v0)"] := rfl

/-- the weights inside `func0` and the weights of the `Sigma` / `mu` update are the same expression -/
theorem C19_src_func0W (nu : α) (dim : Nat) (δ : α) :
    Gen.StudentSrc.func0W nu dim δ = Gen.StudentSrc.weightsK nu dim δ := rfl

end Func0

/-! ## `ModeStatistics.from_particles` / `from_global` (tempest/modes.py) -/
section Modes
variable [Sc α]

/-- `weights = weights / np.sum(weights)` (both constructors) and `weights_cluster = weights_cluster / np.sum(weights_cluster)` -/
theorem C19_src_normalise (w : List α) :
    normalise w = w.map (fun x => Gen.StudentSrc.fpNorm0K x (Model.Resample.npSum w)) ∧
    normalise w = w.map (fun x => Gen.StudentSrc.fpNorm1K x (Model.Resample.npSum w)) ∧
    normalise w = w.map (fun x => Gen.StudentSrc.fgNorm0K x (Model.Resample.npSum w)) := ⟨rfl, rfl, rfl⟩

theorem C19_src_normalise_leaves :
    Gen.StudentSrc.fpNorm0KLeaves = ["L0 = np.sum(a2)"] ∧ Gen.StudentSrc.fpNorm1KLeaves = ["L0 = np.sum(v7)"] ∧
    Gen.StudentSrc.fgNorm0KLeaves = ["L0 = np.sum(a2)"] := ⟨rfl, rfl, rfl⟩

omit [Sc α] in
/-- `if ~np.isfinite(dof): dof = dof_fallback` (both constructors) -/
theorem C19_src_applyFallback (fb : α) (t : Dof α) :
    applyFallback fb t = Gen.StudentSrc.fpDofFallback Dof.isFinite t (.fin fb) ∧
    applyFallback fb t = Gen.StudentSrc.fgDofFallback Dof.isFinite t (.fin fb) := ⟨rfl, rfl⟩

/-- resample–fit–fallback as `from_particles` writes it: `n_resample = n_cluster * resample_factor` draws -/
theorem C19_src_fitOne_fp (fitFn : Mat α → Option (FitOut α)) (fb : α) (rf : Nat) (uc : Mat α) (p us : List α) :
    fitOne fitFn fb rf uc p us = (do
      let nres := Gen.StudentSrc.fpNResample uc.length rf
      let idx ← Model.Resample.multinomial p (us.take nres)
      let ur ← gather uc idx
      let o ← fitFn ur
      some (⟨o.mu, o.sigma, Gen.StudentSrc.fpDofFallback Dof.isFinite o.dof (.fin fb)⟩, us.drop nres)) := rfl

/-- … and as `from_global` writes it: `n_resample = n_particles * resample_factor` -/
theorem C19_src_fitOne_fg (fitFn : Mat α → Option (FitOut α)) (fb : α) (rf : Nat) (uc : Mat α) (p us : List α) :
    fitOne fitFn fb rf uc p us = (do
      let nres := Gen.StudentSrc.fgNResample uc.length rf
      let idx ← Model.Resample.multinomial p (us.take nres)
      let ur ← gather uc idx
      let o ← fitFn ur
      some (⟨o.mu, o.sigma, Gen.StudentSrc.fgDofFallback Dof.isFinite o.dof (.fin fb)⟩, us.drop nres)) := rfl

/-- `np.random.choice(n, size=n_resample, replace=True, p=<normalised weights>)`, `fit_mvstud(u_resampled)` with the defaults -/
theorem C19_src_callArgs :
    Gen.StudentSrc.fpChoiceArgs = ["v8", "p=v7", "replace=True", "size=v9"] ∧
    Gen.StudentSrc.fgChoiceArgs = ["v0", "p=a2", "replace=True", "size=v1"] ∧
    Gen.StudentSrc.fpFitArgs = ["v11"] ∧ Gen.StudentSrc.fgFitArgs = ["v3"] := ⟨rfl, rfl, rfl, rfl⟩

/-- `from_global`: the shape test and the normalisation handed to the resampling -/
theorem C19_src_fromGlobal (fitFn : Mat α → Option (FitOut α)) (u : Mat α) (w : List α) (fb : α) (rf : Nat) (us : List α) :
    fromGlobal fitFn u w fb rf us =
      if Gen.StudentSrc.fgShapeTest u.length w.length then .valueError
      else match fitOne fitFn fb rf u (w.map fun x => Gen.StudentSrc.fgNorm0K x (Model.Resample.npSum w)) us with
        | none => .raised
        | some (o, _) => .ok ⟨[o.mu], [o.sigma], [o.dof], none⟩ := rfl

/-- `from_particles`: the shape test and the global normalisation -/
theorem C19_src_fromParticles (fitFns : List (Mat α → Option (FitOut α))) (u : Mat α) (w : List α) (labels : List Nat)
    (fb : α) (rf : Nat) (us : List α) :
    fromParticles fitFns u w labels fb rf us =
      if Gen.StudentSrc.fpShapeTest u.length w.length labels.length then .valueError
      else
        let uniq := Model.Modes.uniqueSorted labels
        match clusterLoop u (w.map fun x => Gen.StudentSrc.fpNorm0K x (Model.Resample.npSum w)) labels fb rf uniq fitFns us with
        | none => .raised
        | some os => .ok ⟨os.map (·.mu), os.map (·.sigma), os.map (·.dof), some uniq⟩ := rfl

theorem C19_src_shapeTest_leaves :
    Gen.StudentSrc.fpShapeTestLeaves = ["L0 = a1.shape[0]", "L1 = a2.shape[0]", "L2 = a3.shape[0]"] ∧
    Gen.StudentSrc.fgShapeTestLeaves = ["L0 = a1.shape[0]", "L1 = a2.shape[0]"] := ⟨rfl, rfl⟩

/-- one pass of `for label in unique_labels`: the per-cluster renormalisation -/
theorem C19_src_clusterLoop_cons (u : Mat α) (wn : List α) (labels : List Nat) (fb : α) (rf : Nat) (lab : Nat)
    (rest : List Nat) (fitFn : Mat α → Option (FitOut α)) (fits : List (Mat α → Option (FitOut α))) (us : List α) :
    clusterLoop u wn labels fb rf (lab :: rest) (fitFn :: fits) us = (do
      let ic := Model.Modes.indicesOf labels lab
      let uc ← gather u ic
      let wc ← gather wn ic
      let (o, us') ← fitOne fitFn fb rf uc (wc.map fun x => Gen.StudentSrc.fpNorm1K x (Model.Resample.npSum wc)) us
      let os ← clusterLoop u wn labels fb rf rest fits us'
      some (o :: os)) := rfl

/-- `resample_factor: int = 4` in both constructors is what `Trainer.run` (which does not pass it) gets -/
theorem C19_src_resampleDefault (fitFns : List (Mat α → Option (FitOut α))) (fitFn : Mat α → Option (FitOut α))
    (d : Nat) (u : Mat α) (w : List α) (labels : List Nat) (cfgFb : α) (us : List α) :
    trainerRun .fitPredict fitFns d u w labels cfgFb us = fromParticles fitFns u w labels cfgFb Gen.StudentSrc.fpResampleDefault us ∧
    trainerRun .predictOnly fitFns d u w labels cfgFb us = fromParticles fitFns u w labels cfgFb Gen.StudentSrc.fpResampleDefault us ∧
    trainerRun .global (fitFn :: fitFns) d u w labels cfgFb us = fromGlobal fitFn u w cfgFb Gen.StudentSrc.fgResampleDefault us :=
  ⟨rfl, rfl, rfl⟩

end Modes

/-! ## the statement skeletons the model was written against

  One row per statement, `path: statement` (`t` / `e` = then / else block, `x0` = first `except` clause), docstrings dropped,
  `print` arguments elided.  What the model takes from each: `fit_mvstud` — the order `i += 1; diffs; try(delta, opt_nu) →
  break; last_nu = nu; nu = new_nu; if nu == inf → return; w; new_Sigma; try(cholesky) → nu = last_nu; break; Sigma; mu`
  (the exits of `Model.Student.loop`: `notPD`/`nuFail` keep `(mu, Sigma, nu)`, `infNu` returns at once, `sigmaNotPD` restores
  the previous `nu`), that `opt_nu` ignores its second argument and returns `inf` or the bisect root, the returned triple;
  the constructors — shape check before anything else, global normalisation, per-label gather → renormalise → resample
  `n·resample_factor` with `p=` the renormalised weights → gather → `fit_mvstud` with its defaults → fallback → collect. -/

def expected_fitSkeleton : List String :=
  ["0: def f0(f0a0, f0a1)",
   "0.0: def f0f0(f0f0a0)",
   "0.0.0: f0f0v0 = (f0f0a0 + v0) / (f0f0a0 + f0a0)",
   "0.0.1: f0f0v1 = -special.psi(f0f0a0 / 2) + np.log(f0f0a0 / 2) + np.sum(np.log(f0f0v0)) / v1 - np.sum(f0f0v0) / v1 + 1 + special.psi((f0f0a0 + v0) / 2) - np.log((f0f0a0 + v0) / 2)",
   "0.0.2: return f0f0v1",
   "0.1: f0v0 = 1000000.0",
   "0.2: if f0f0(f0v0) >= 0",
   "0.2t.0: f0a1 = np.inf",
   "0.2e.0: f0a1 = optimize.bisect(f0f0, 1e-300, f0v0)",
   "0.3: return f0a1",
   "1: a0 = a0.T",
   "2: v0, v1 = a0.shape",
   "3: v2 = np.array([np.median(a0, 1)]).T",
   "4: v3 = np.cov(a0) * (v1 - 1) / v1 + 1 / v1 * np.diag(np.var(a0, axis=1))",
   "5: v4 = 20",
   "6: v5 = 0",
   "7: v6 = 0",
   "8: while np.abs(v5 - v4) > a1 and v6 < a2",
   "8.0: v6 += 1",
   "8.1: v7 = a0 - v2",
   "8.2: try",
   "8.2.0: v8 = np.sum(v7 * np.linalg.solve(v3, v7), 0)",
   "8.2.1: v9 = f0(v8, v4)",
   "8.2x0: except (np.linalg.LinAlgError, ValueError)",
   "8.2x0.0: break",
   "8.3: v5 = v4",
   "8.4: v4 = v9",
   "8.5: if v4 == np.inf",
   "8.5t.0: return (v2.T[0], v3, v4)",
   "8.6: v10 = (v4 + v0) / (v4 + v8)",
   "8.7: v11 = np.dot(v10 * v7, v7.T) / v1",
   "8.8: try",
   "8.8.0: np.linalg.cholesky(v11)",
   "8.8x0: except np.linalg.LinAlgError",
   "8.8x0.0: v4 = v5",
   "8.8x0.1: break",
   "8.9: v3 = v11",
   "8.10: v2 = np.sum(v10 * a0, 1) / sum(v10)",
   "8.11: v2 = np.array([v2]).T",
   "9: if v6 == a2",
   "9t.0: print(...)",
   "9t.1: print(...)",
   "9t.2: print(...)",
   "10: return (v2.T[0], v3, v4)"]

theorem C19_src_fitSkeleton : Gen.StudentSrc.fitSkeleton = expected_fitSkeleton := rfl

def expected_fpSkeleton : List String :=
  ["0: a1 = np.asarray(a1)",
   "1: a2 = np.asarray(a2)",
   "2: a3 = np.asarray(a3)",
   "3: if a1.shape[0] != a2.shape[0] or a1.shape[0] != a3.shape[0]",
   "3t.0: raise ValueError",
   "4: a2 = a2 / np.sum(a2)",
   "5: v0 = []",
   "6: v1 = []",
   "7: v2 = []",
   "8: v3 = np.unique(a3)",
   "9: for v4 in v3",
   "9.0: v5 = np.where(a3 == v4)[0]",
   "9.1: v6 = a1[v5]",
   "9.2: v7 = a2[v5]",
   "9.3: v7 = v7 / np.sum(v7)",
   "9.4: v8 = len(v6)",
   "9.5: v9 = v8 * a5",
   "9.6: v10 = np.random.choice(v8, size=v9, replace=True, p=v7)",
   "9.7: v11 = v6[v10]",
   "9.8: v12, v13, v14 = fit_mvstud(v11)",
   "9.9: if ~np.isfinite(v14)",
   "9.9t.0: v14 = a4",
   "9.10: v0.append(v12)",
   "9.11: v1.append(v13)",
   "9.12: v2.append(v14)",
   "10: return a0(means=np.array(v0), covariances=np.array(v1), degrees_of_freedom=np.array(v2), labels=v3)"]

theorem C19_src_fpSkeleton : Gen.StudentSrc.fpSkeleton = expected_fpSkeleton := rfl

def expected_fgSkeleton : List String :=
  ["0: a1 = np.asarray(a1)",
   "1: a2 = np.asarray(a2)",
   "2: if a1.shape[0] != a2.shape[0]",
   "2t.0: raise ValueError",
   "3: a2 = a2 / np.sum(a2)",
   "4: v0 = a1.shape[0]",
   "5: v1 = v0 * a4",
   "6: v2 = np.random.choice(v0, size=v1, replace=True, p=a2)",
   "7: v3 = a1[v2]",
   "8: v4, v5, v6 = fit_mvstud(v3)",
   "9: if ~np.isfinite(v6)",
   "9t.0: v6 = a3",
   "10: return a0(means=v4.reshape(1, -1), covariances=v5.reshape(1, *v5.shape), degrees_of_freedom=np.array([v6]))"]

theorem C19_src_fgSkeleton : Gen.StudentSrc.fgSkeleton = expected_fgSkeleton := rfl

end Props.C19.Src
