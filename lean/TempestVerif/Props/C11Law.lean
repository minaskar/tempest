import TempestVerif.Props.C11Stat
import TempestVerif.Lemmas.MIS
/-
  C11 — what `C11_final` takes as given at β = 0 (clauses/C11.md: H_nominal): "the warm-up batches are draws from the prior RESTRICTED to the supported
  region", as a theorem about the replacement rule of `Mutator.run`: a stored particle is its own draw when that is finite,
  otherwise a copy of a draw picked uniformly among the finite draws of the batch.  Idea: which draws are copied depends only on
  the finiteness PATTERN of the batch, and given the pattern the value of a finite draw has law p(·|A)
  (`C11_value_indep_of_pattern`: exchanging a finite draw with another independent finite draw changes neither law nor pattern); so every stored particle has marginal law p(·|A) = `piB p' L' 0` on storable batches.
  The joint law of a batch is NOT i.i.d. (copies: observation B of clauses/C11.md); `Lemmas.MIS.mis_core` needs only the marginals.
-/
namespace Props.C11
open Finset

section law
variable {Ω : Type} [Fintype Ω]

def pat (A : Ω → Prop) [DecidablePred A] {n : ℕ} (ω : Fin n → Ω) : Fin n → Bool := fun i => decide (A (ω i))

def swapDraw {n : ℕ} (j : Fin n) : (Fin n → Ω) × Ω ≃ (Fin n → Ω) × Ω where
  toFun z := (Function.update z.1 j z.2, z.1 j)
  invFun z := (Function.update z.1 j z.2, z.1 j)
  left_inv z := by simp
  right_inv z := by simp

/-- C11 (value ⟂ pattern): for ANY real function `φ` of the finiteness pattern of the batch — in particular any
    replacement rule that looks only at which draws are finite — the value of a finite draw is distributed as `p(·|A)`:
    `E[1_A(ω_j) g(ω_j) φ(pattern)] · p(A) = E[g; A] · E[1_A(ω_j) φ(pattern)]` -/
theorem C11_value_indep_of_pattern (p : Ω → ℝ) (A : Ω → Prop) [DecidablePred A] (g : Ω → ℝ) (n : ℕ) (j : Fin n)
    (φ : (Fin n → Bool) → ℝ) :
    (∑ ω : Fin n → Ω, (∏ i, p (ω i)) * ((if A (ω j) then g (ω j) else 0) * φ (pat A ω))) * mass p A
      = (∑ x, if A x then p x * g x else 0) *
        ∑ ω : Fin n → Ω, (∏ i, p (ω i)) * ((if A (ω j) then 1 else 0) * φ (pat A ω)) := by
  -- both sides are sums over the batch AND one more independent draw `y`; exchanging `ω j` with `y` maps one onto the other
  rw [mass, Finset.sum_mul_sum, Finset.sum_mul_sum, Finset.sum_comm (γ := Ω), ← Fintype.sum_prod_type', ← Fintype.sum_prod_type',
    ← (swapDraw j).sum_comp]
  refine Finset.sum_congr rfl fun z _ => ?_
  obtain ⟨ω, y⟩ := z
  -- the weight of the exchanged pair is the same …
  have hw : (∏ i, p (Function.update ω j y i)) * p (ω j) = (∏ i, p (ω i)) * p y := by
    rw [← Finset.mul_prod_erase univ _ (mem_univ j), ← Finset.mul_prod_erase univ (fun i => p (ω i)) (mem_univ j),
      Function.update_self, Finset.prod_congr rfl fun i hi => by rw [Function.update_of_ne (Finset.ne_of_mem_erase hi)]]
    ring
  -- … and so is the pattern when both draws are finite
  by_cases h1 : A (ω j) <;> by_cases h2 : A y
  · have hp : pat A (Function.update ω j y) = pat A ω := by
      funext i
      by_cases hi : i = j
      · rw [hi]; simp only [pat, Function.update_self, h1, h2]
      · simp only [pat, Function.update_of_ne hi]
    simp only [swapDraw, Equiv.coe_fn_mk, Function.update_self, h1, h2, if_true, hp]
    linear_combination (g y * φ (pat A ω)) * hw
  all_goals
    simp only [swapDraw, Equiv.coe_fn_mk, Function.update_self, h1, h2, if_true, if_false, mul_zero, zero_mul]

/-! ### the replacement rule of `Mutator.run` -/

def nfin (A : Ω → Prop) [DecidablePred A] {n : ℕ} (ω : Fin n → Ω) : ℕ := (univ.filter fun i => A (ω i)).card

/-- expectation over the pick (uniform on `finite_idx`) of `g` at the particle stored at position `i`: its own draw if that is
    finite, otherwise the MEAN of `g` over the finite draws of the batch -/
noncomputable def storedMean (A : Ω → Prop) [DecidablePred A] (g : Ω → ℝ) {n : ℕ} (ω : Fin n → Ω) (i : Fin n) : ℝ :=
  if A (ω i) then g (ω i) else (∑ j ∈ univ.filter (fun j => A (ω j)), g (ω j)) / (nfin A ω : ℝ)

/-- the weights with which position `i` of the stored batch draws on the draws `j`: a function of the pattern only -/
noncomputable def coef {n : ℕ} (i j : Fin n) (b : Fin n → Bool) : ℝ :=
  (if i = j then 1 else 0) + (if b i then 0 else 1) / ((univ.filter fun k => b k = true).card : ℝ)

omit [Fintype Ω] in
theorem nfin_pat (A : Ω → Prop) [DecidablePred A] {n : ℕ} (ω : Fin n → Ω) :
    (univ.filter fun k => pat A ω k = true).card = nfin A ω := by
  unfold nfin pat
  congr 1
  ext k; simp only [Finset.mem_filter, decide_eq_true_eq]

omit [Fintype Ω] in
theorem storedMean_eq (A : Ω → Prop) [DecidablePred A] (g : Ω → ℝ) {n : ℕ} (ω : Fin n → Ω) (i : Fin n) :
    (if 0 < nfin A ω then storedMean A g ω i else 0)
      = ∑ j, (if A (ω j) then g (ω j) else 0) * coef i j (pat A ω) := by
  -- the combination is the own draw (if finite) plus, for a −inf own draw, the mean over the finite draws
  have hR : ∑ j, (if A (ω j) then g (ω j) else 0) * coef i j (pat A ω)
      = (if A (ω i) then g (ω i) else 0)
        + (∑ j ∈ univ.filter (fun j => A (ω j)), g (ω j)) * ((if A (ω i) then 0 else 1) / (nfin A ω : ℝ)) := by
    simp only [coef, nfin_pat, mul_add, Finset.sum_add_distrib, ← Finset.sum_mul, Finset.sum_filter]
    simp only [pat, decide_eq_true_eq, mul_ite, mul_one, mul_zero, Finset.sum_ite_eq, Finset.mem_univ, if_true]
  rw [hR]
  by_cases hi : A (ω i)
  · have hpos : 0 < nfin A ω := Finset.card_pos.mpr ⟨i, Finset.mem_filter.mpr ⟨Finset.mem_univ i, hi⟩⟩
    simp only [hpos, hi, if_true, storedMean, zero_div, mul_zero, add_zero]
  · by_cases hpos : 0 < nfin A ω
    · simp only [hpos, hi, if_true, if_false, storedMean, zero_add, mul_one_div]
    · have h0 : nfin A ω = 0 := by omega
      simp only [hi, if_false, h0, lt_irrefl, Nat.cast_zero, div_zero, mul_zero, add_zero]

omit [Fintype Ω] in
theorem storedMean_one (A : Ω → Prop) [DecidablePred A] {n : ℕ} (ω : Fin n → Ω) (i : Fin n) (hpos : 0 < nfin A ω) :
    storedMean A (fun _ => (1 : ℝ)) ω i = 1 := by
  unfold storedMean
  split
  · rfl
  · rw [Finset.sum_const, nsmul_eq_mul, mul_one]
    exact div_self (Nat.cast_ne_zero.mpr hpos.ne')

/-- C11 (the law of a β = 0 batch): over `n` independent prior draws and the uniform replacement picks, for EVERY
    position `i` of the stored batch and every test function `g`:
      `E[g(stored_i); the batch has a finite draw] · p(A) = E[g; A] · P(the batch has a finite draw)`.
    Conditional on the batch being storable, each stored particle is distributed EXACTLY as the prior restricted to the
    supported region — for every batch size `n`, also `n = 1`. -/
theorem C11_stored_particle_law (p : Ω → ℝ) (A : Ω → Prop) [DecidablePred A] (g : Ω → ℝ) (n : ℕ) (i : Fin n) :
    (∑ ω : Fin n → Ω, (∏ k, p (ω k)) * (if 0 < nfin A ω then storedMean A g ω i else 0)) * mass p A
      = (∑ x, if A x then p x * g x else 0) *
        ∑ ω : Fin n → Ω, (∏ k, p (ω k)) * (if 0 < nfin A ω then 1 else 0) := by
  -- the stored particle is a pattern-weighted combination of the draws; so is the indicator of "storable" (`g = 1`)
  have key : ∀ g' : Ω → ℝ, ∑ ω : Fin n → Ω, (∏ k, p (ω k)) * (if 0 < nfin A ω then storedMean A g' ω i else 0)
      = ∑ j, ∑ ω : Fin n → Ω, (∏ k, p (ω k)) * ((if A (ω j) then g' (ω j) else 0) * coef i j (pat A ω)) := by
    intro g'
    simp_rw [storedMean_eq A g' _ i, Finset.mul_sum]
    exact Finset.sum_comm
  have h1 : ∀ ω : Fin n → Ω, (if 0 < nfin A ω then (1 : ℝ) else 0)
      = if 0 < nfin A ω then storedMean A (fun _ => 1) ω i else 0 := by
    intro ω
    split
    · exact (storedMean_one A ω i ‹_›).symm
    · rfl
  simp_rw [h1]
  rw [key g, key fun _ => 1, Finset.sum_mul, Finset.mul_sum]
  exact Finset.sum_congr rfl fun j _ => C11_value_indep_of_pattern p A g n j (coef i j)

/-- … in the vocabulary of `C11_final`: with `A = {L > 0}` the conditional law is `piB p' L' 0`, the nominal law of a
    β = 0 batch on the supported region `S = {x // 0 < L x}` -/
theorem C11_stored_law_is_piB0 (p L : Ω → ℝ) (hmass : 0 < mass p (fun x => 0 < L x)) (g : Ω → ℝ) (n : ℕ) (i : Fin n) :
    ∑ ω : Fin n → Ω, (∏ k, p (ω k)) * (if 0 < nfin (fun x => 0 < L x) ω then storedMean (fun x => 0 < L x) g ω i else 0)
      = (∑ x : {x : Ω // 0 < L x}, Lemmas.MIS.piB (fun y : {x : Ω // 0 < L x} => p y.1) (fun y => L y.1) 0 x * g x.1) *
        ∑ ω : Fin n → Ω, (∏ k, p (ω k)) * (if 0 < nfin (fun x => 0 < L x) ω then 1 else 0) := by
  have h := C11_stored_particle_law p (fun x => 0 < L x) g n i
  have hZ : Lemmas.MIS.Zf (fun y : {x : Ω // 0 < L x} => p y.1) (fun y => L y.1) 0 = mass p (fun x => 0 < L x) := by
    rw [Lemmas.MIS.Zf_zero]; exact sum_supported L p
  have hG : (∑ x : {x : Ω // 0 < L x}, Lemmas.MIS.piB (fun y : {x : Ω // 0 < L x} => p y.1) (fun y => L y.1) 0 x * g x.1)
      = (∑ x, if 0 < L x then p x * g x else 0) / mass p (fun x => 0 < L x) := by
    simp only [Lemmas.MIS.piB, Lemmas.MIS.gam, Real.rpow_zero, mul_one, hZ]
    refine (sum_supported L fun y => p y / mass p (fun x => 0 < L x) * g y).trans ?_
    rw [Finset.sum_div]
    refine Finset.sum_congr rfl fun x _ => ?_
    split <;> ring
  rw [hG, div_mul_eq_mul_div, eq_div_iff hmass.ne', h]

end law

/-! ### non-vacuity: a fair coin, two draws, `A` = heads; `g` = identity on {0, 1} -/
example : (∑ ω : Fin 2 → Fin 2, (∏ k, (fun _ : Fin 2 => (1 / 2 : ℝ)) (ω k)) *
      (if 0 < nfin (fun x : Fin 2 => x = 1) ω then storedMean (fun x : Fin 2 => x = 1) (fun x => (x.1 : ℝ)) ω 0 else 0))
      * mass (fun _ : Fin 2 => (1 / 2 : ℝ)) (fun x => x = 1)
    = (∑ x : Fin 2, if x = 1 then (1 / 2 : ℝ) * (x.1 : ℝ) else 0) *
      ∑ ω : Fin 2 → Fin 2, (∏ k, (fun _ : Fin 2 => (1 / 2 : ℝ)) (ω k)) * (if 0 < nfin (fun x : Fin 2 => x = 1) ω then 1 else 0) :=
  C11_stored_particle_law (fun _ : Fin 2 => (1 / 2 : ℝ)) (fun x => x = 1) (fun x => (x.1 : ℝ)) 2 0

end Props.C11
