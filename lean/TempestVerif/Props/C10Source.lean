import TempestVerif.Gen.Shift
import TempestVerif.Gen.Tables
/-
  C10 — the places where an ABSOLUTE log-likelihood value could enter a run, read from the source.

  `Gen/Shift.lean` and `Gen/Tables.lean` are regenerated from /repo on every run of the check (translators G9, G5).  The
  closed-loop model (`Model/ClosedLoop.lean`) treats the trainer, the stop rule of the mutation loop, the step-size
  adaptation, `volume_variation` and `_not_termination` as functions of shift-invariant data only, and takes every
  log-weight array in its NORMALISED, max-shifted form.  The theorems below say that the source agrees; an edit of
  the source that makes one of them false makes this module fail to build.
-/
namespace Props.C10Source

/-- every call of `compute_logw_and_logz` in core.py / steps/reweight.py leaves `normalize` at its default (True): the
    log-weights read by the ESS, the metric, the guard and `posterior()` are the normalised ones (`C04_shift`, 2nd clause) -/
theorem C10_src_logw_normalised : ∀ c ∈ Gen.Shift.logwCalls, c.2.2 = "default" := by decide

/-- … and every exponential of a log-weight array is taken after subtracting its maximum -/
theorem C10_src_weight_exps : ∀ e ∈ Gen.Shift.weightExps, e.2 = "logw - np.max(logw)" := by decide

/-- the functions the model treats as functions of shift-invariant data read neither `logl` nor `logz` from the state -/
theorem C10_src_no_likelihood_reads :
    (∀ r ∈ Gen.Shift.stateReads, r.2 ≠ "logl" ∧ r.2 ≠ "logz" ∧ r.2 ≠ "*") ∧
    (∀ r ∈ Gen.Tables.trainerReads, r ≠ "logl" ∧ r ≠ "logz" ∧ r ≠ "*") := by decide

/-- the stop rule of the mutation loop and the step-size adaptation read no log-likelihood attribute, and not `beta` -/
theorem C10_src_stop_rule_reads : ∀ r ∈ Gen.Shift.attrReads, r.2 ≠ "logl" ∧ r.2 ≠ "logl_prime" ∧ r.2 ≠ "beta" := by decide

/-- `volume_variation` is called with the pool's `u` and the max-shifted weights renormalised to sum one -/
theorem C10_src_vv_args :
    Gen.Shift.vvArgs = [("u", "self.state.get_history('u', flat=True)"), ("weights_norm", "weights / np.sum(weights)")] ∧
    ("weights", "np.exp(logw - np.max(logw))") ∈ Gen.Shift.metricLocals ∧
    ("logw", "self.state.compute_logw_and_logz(beta)[0]") ∈ Gen.Shift.metricLocals := ⟨rfl, by decide, by decide⟩

/-- inside one accept/reject step the log-likelihood arrays are used in exactly one arithmetic expression, the
    difference `logl_prime - self.logl`; they are also handed to `_compute_acceptance_factor`, whose two implementations
    do not read them -/
theorem C10_src_mcmc_logl_uses :
    Gen.Shift.mcmcLoglUses = ["logl_prime - self.logl", "self._compute_acceptance_factor(u_prime, logl_prime)"] ∧
    Gen.Shift.factorReadsLogl = [] := ⟨rfl, rfl⟩

/-- the proposal generators mention no log-likelihood -/
theorem C10_src_propose_reads : Gen.Shift.proposeReadsLogl = [] := rfl

/-- `Mutator.run` inspects the log-likelihoods only through `np.isinf` (the redraw test `np.all(np.isinf(logl))` and the
    masks derived from it); everything else is storing them.  The table holds each expression cut at 80 characters:
    calls of `update_current` that agree up to there are one entry -/
theorem C10_src_mutator_logl_uses :
    Gen.Shift.mutatorLoglUses = ["np.any(inf_logl_mask)", "np.isinf(logl)", "self.state.set_current('logl', logl)",
      "self.state.update_current({'u': u, 'x': x, 'logl': logl, 'blobs': blobs, 'ass...",
      "self.state.update_current({'u': u, 'x': x, 'logl': logl, 'efficiency': effici...", "~inf_logl_mask"] := rfl

end Props.C10Source
