import TempestVerif.Model.TrainStep
import TempestVerif.Props.C14Valid
import TempestVerif.Props.C15Hier
import TempestVerif.Props.C20Sites
/-
  C14 — the statement over ONE WHOLE annealing iteration (`Model.TrainStep.annealIter`: Trainer.run →
  Resampler.run → head of Mutator.run), first for arbitrary components under their contracts (`C14_iteration_generic`),
  then with the components instantiated by the executable models of the other properties, where every contract is a theorem
  (`C14_iteration_model`):

      trimming            `Model.TrimSites.trainerRun`          C20  `C20_trainer_site`      (the training pool is NON-EMPTY)
      clusterer.fit       `Model.HFit.hfit`                      C15  `C15_hfit_cap`          (1 ≤ K_fit ≤ max_iterations + 1)
      clusterer.predict   `Model.HFit.hpredict`                  C15  `C15_hfit_predict_range` (one label < K_fit per point)
      from_particles      `Model.StudentModes.fromParticles`     C19/C14 `C14_object_valid`
      constructor         `Model.ModeGate.construct`             C14  (gate = positive definiteness on PSD input)
      mode_index          `Model.Modes.modeIndexD` on squared distances   C14 `C14_labels_full_argmin`

  This discharges the hypothesis "non-empty training pool" of the label theorems of `Props/C14.lean` and the bound hypothesis of the
  cap theorem: `K_modes ≤ K_fit ≤ n_max_clusters` for every value of the cap.
-/
namespace Props.C14
open Model.Modes Model.TrainStep

/-! ### generic components -/

section Generic
variable {P W F O D : Type} [Sc D]

theorem mapIndex_spec (stored : List Nat) (dist : P → List D) :
    ∀ (us : List P) (as : List Nat) (act : List (Active P)), mapIndex stored dist us as = some act →
      act.map (·.u) = us ∧ act.map (·.raw) = as ∧
      ∀ x ∈ act, modeIndexD stored (dist x.u) x.raw = some x.index ∧ stored[x.index]? = some x.label := by
  intro us as
  fun_induction mapIndex stored dist us as with
  | case1 u us a as i r h2 h1 ih =>
    intro act h
    obtain ⟨l, h3, rfl⟩ := Option.map_eq_some_iff.1 h
    obtain ⟨e2, e3, e4⟩ := ih r h2
    exact ⟨congrArg (u :: ·) e2, congrArg (a :: ·) e3, List.forall_mem_cons.2 ⟨⟨h1, h3⟩, e4⟩⟩
  | case2 u us a as h => intro act h'; cases h'
  | case3 => intro act h; cases h; exact ⟨rfl, rfl, nofun⟩
  | case4 us as h1 h2 => intro act h; cases h

theorem annealIter_some (pt : Parts P W F O D) (prev : Option F) (mustFit : Bool) (hist : List P) (w : List W)
    (idx : List Nat) (out : Out P W F O) (h : annealIter pt prev mustFit hist w idx = some out) :
    pt.trim hist w = some (out.trainU, out.trainW) ∧
    (if mustFit then pt.cfit out.trainU out.trainW else prev) = some out.clf ∧
    pt.cpredict out.clf out.trainU = some out.trainLabels ∧
    pt.build out.trainU out.trainW out.trainLabels = some out.obj ∧
    ∃ ures raw, Model.Records.gather? hist idx = some ures ∧ pt.cpredict out.clf ures = some raw ∧
      mapIndex (pt.stored out.obj) (pt.dist out.obj) ures raw = some out.active := by
  unfold annealIter at h
  split at h
  · cases h
  · rename_i u wt h1
    unfold annealCore at h
    -- every `match` of `annealCore` either raises or binds the next value
    split at h <;> [cases h; rename_i f h2]
    split at h <;> [cases h; rename_i labels h3]
    split at h <;> [cases h; rename_i o h4]
    split at h <;> [cases h; rename_i ures h5]
    split at h <;> [cases h; rename_i raw h6]
    obtain ⟨act, h7, rfl⟩ := Option.map_eq_some_iff.1 h
    exact ⟨h1, h2, h3, h4, ures, raw, h5, h6, h7⟩

theorem numModes_le_of_lt (labels : List Nat) (K : Nat) (h : ∀ l ∈ labels, l < K) : numModes labels ≤ K := by
  rw [numModes_eq]
  have hp := pairwise_uniqueSorted labels
  have hsub : ∀ x ∈ uniqueSorted labels, x ∈ List.range K := fun x hx =>
    List.mem_range.2 (h x ((mem_uniqueSorted labels x).1 hx))
  have hnd : (uniqueSorted labels).Nodup := hp.imp (fun h => Nat.ne_of_lt h)
  have := List.Nodup.length_le_of_subset hnd (fun x hx => hsub x hx)
  simpa using this

/-- **C14 over one iteration, for any components honouring their contracts.**  `Good f` = "`f` is a fit of this clusterer"
    (what `cfit` returns, and what the object held before); `Kfit f` = its number of clusters.  If the iteration completes then
    the training pool and its label vector are non-empty; the training labels and the raw assignments of the active particles
    are predictions of the SAME fitted clusterer `out.clf`, all `< Kfit`; `K_modes ≤ Kfit`; and for every active particle the
    index handed to the kernel is `< K_modes`, its (re)label is carried by a training particle, the mode at that index was built
    from exactly the training particles carrying that label, and a raw label that has a mode is kept. -/
theorem C14_iteration_generic (pt : Parts P W F O D) (Good : F → Prop) (Kfit : F → Nat)
    (prev : Option F) (mustFit : Bool) (hist : List P) (w : List W)
    (idx : List Nat) (out : Out P W F O)
    (hTrim : ∀ u wt, pt.trim hist w = some (u, wt) → u ≠ [])
    (hFit : ∀ u wt f, pt.cfit u wt = some f → Good f) (hPrev : ∀ f, prev = some f → Good f)
    (hPred : ∀ f X l, Good f → pt.cpredict f X = some l → l.length = X.length ∧ ∀ x ∈ l, x < Kfit f)
    (hBuild : ∀ u wt labels o, pt.build u wt labels = some o →
      pt.stored o = labelsOf labels ∧ ∀ p, (pt.dist o p).length = (pt.stored o).length)
    (h : annealIter pt prev mustFit hist w idx = some out) :
    Good out.clf ∧ out.trainU ≠ [] ∧ out.trainLabels.length = out.trainU.length ∧ out.trainLabels ≠ [] ∧
    pt.cpredict out.clf out.trainU = some out.trainLabels ∧
    pt.cpredict out.clf (out.active.map (·.u)) = some (out.active.map (·.raw)) ∧
    Model.Records.gather? hist idx = some (out.active.map (·.u)) ∧
    numModes out.trainLabels ≤ Kfit out.clf ∧
    ∀ x ∈ out.active,
      x.raw < Kfit out.clf ∧
      x.index < numModes out.trainLabels ∧ (labelsOf out.trainLabels)[x.index]? = some x.label ∧
      x.label ∈ out.trainLabels ∧
      modeOfRaw (fromParticles out.trainLabels) x.index = some (indicesOf out.trainLabels x.label) ∧
      indicesOf out.trainLabels x.label ≠ [] ∧ (x.raw ∈ out.trainLabels → x.label = x.raw) := by
  obtain ⟨h1, h2, h3, h4, ures, raw, h5, h6, h7⟩ := annealIter_some pt prev mustFit hist w idx out h
  have hgood : Good out.clf := by
    cases mustFit with
    | true => exact hFit _ _ _ (by simpa using h2)
    | false => exact hPrev _ (by simpa using h2)
  have hu := hTrim _ _ h1
  obtain ⟨hl, hrange⟩ := hPred _ _ _ hgood h3
  have hne : out.trainLabels ≠ [] := by
    intro h0; rw [h0] at hl; exact hu (List.length_eq_zero_iff.1 hl.symm)
  obtain ⟨hst, hDist⟩ := hBuild _ _ _ _ h4
  obtain ⟨e2, e3, e4⟩ := mapIndex_spec _ _ ures raw out.active h7
  obtain ⟨_, hrawrange⟩ := hPred _ _ _ hgood h6
  refine ⟨hgood, hu, hl, hne, h3, by rw [e2, e3]; exact h6, by rw [e2]; exact h5,
    numModes_le_of_lt _ _ hrange, ?_⟩
  intro x hx
  obtain ⟨hi, hlab⟩ := e4 x hx
  rw [hst] at hi hlab
  obtain ⟨i, l, hD, hlt, hl', hmem, hmode, _, hne', hkeep⟩ :=
    C14_labels_full_argmin out.trainLabels hne (pt.dist out.obj x.u)
      (by rw [hDist, hst, numModes_eq]; rfl) x.raw
  rw [hD] at hi
  have hix : i = x.index := Option.some.inj hi
  subst hix
  rw [hl'] at hlab
  have hlx : l = x.label := Option.some.inj hlab
  subst hlx
  refine ⟨hrawrange _ ?_, hlt, hl', hmem, hmode, hne', hkeep⟩
  rw [← e3]
  exact List.mem_map.2 ⟨x, hx, rfl⟩

/-- **particle by particle** (seeded change C14f): if the clusterer labels every point by itself — `predict` is a map over the rows
    of its argument, H_pointwise, checked on the real `HierarchicalGaussianMixture.predict` by suite `predict-batch-independence`
    every run — then an active particle that is also the `j`-th training particle carries, as raw label, the very label the
    Trainer gave it; that label has a mode, is kept, and the particle itself is one of the particles its mode was built from. -/
theorem C14_particlewise_coherent (pt : Parts P W F O D) (Good : F → Prop) (Kfit : F → Nat)
    (prev : Option F) (mustFit : Bool) (hist : List P) (w : List W) (idx : List Nat) (out : Out P W F O)
    (hTrim : ∀ u wt, pt.trim hist w = some (u, wt) → u ≠ [])
    (hFit : ∀ u wt f, pt.cfit u wt = some f → Good f) (hPrev : ∀ f, prev = some f → Good f)
    (hPred : ∀ f X l, Good f → pt.cpredict f X = some l → l.length = X.length ∧ ∀ x ∈ l, x < Kfit f)
    (hPoint : ∀ f, ∃ lab : P → Nat, ∀ X l, pt.cpredict f X = some l → l = X.map lab)
    (hBuild : ∀ u wt labels o, pt.build u wt labels = some o →
      pt.stored o = labelsOf labels ∧ ∀ p, (pt.dist o p).length = (pt.stored o).length)
    (h : annealIter pt prev mustFit hist w idx = some out) :
    ∀ x ∈ out.active, ∀ j, out.trainU[j]? = some x.u →
      out.trainLabels[j]? = some x.raw ∧ x.label = x.raw ∧ j ∈ indicesOf out.trainLabels x.label ∧
      modeOfRaw (fromParticles out.trainLabels) x.index = some (indicesOf out.trainLabels x.label) := by
  obtain ⟨_, _, _, _, h5, h6, _, _, hact⟩ :=
    C14_iteration_generic pt Good Kfit prev mustFit hist w idx out hTrim hFit hPrev hPred hBuild h
  obtain ⟨lab, hlab⟩ := hPoint out.clf
  have e1 := hlab _ _ h5
  have e2 := hlab _ _ h6
  intro x hx j hj
  have hraw : x.raw = lab x.u := by
    obtain ⟨k, hk, rfl⟩ := List.mem_iff_getElem.1 hx
    have := congrArg (fun l => l[k]?) e2
    simp only [List.getElem?_map, List.map_map] at this
    simpa [List.getElem?_eq_getElem hk] using this
  have htl : out.trainLabels[j]? = some x.raw := by
    rw [e1, List.getElem?_map, hj, hraw]; rfl
  obtain ⟨_, _, _, _, hmode, _, hkeep⟩ := hact x hx
  have hkept : x.label = x.raw := hkeep (List.mem_of_getElem? htl)
  exact ⟨htl, hkept, by rw [hkept]; exact (mem_indicesOf _ _ _).2 htl, hmode⟩

/-! ### every iteration of a run (the flag and the clusterer carried along) -/

/-- the conclusion of `C14_iteration_generic` for one completed iteration -/
def Coherent (pt : Parts P W F O D) (Good : F → Prop) (Kfit : F → Nat) (hist : List P) (idx : List Nat)
    (out : Out P W F O) : Prop :=
  Good out.clf ∧ out.trainU ≠ [] ∧ out.trainLabels.length = out.trainU.length ∧ out.trainLabels ≠ [] ∧
  pt.cpredict out.clf out.trainU = some out.trainLabels ∧
  pt.cpredict out.clf (out.active.map (·.u)) = some (out.active.map (·.raw)) ∧
  Model.Records.gather? hist idx = some (out.active.map (·.u)) ∧
  numModes out.trainLabels ≤ Kfit out.clf ∧
  ∀ x ∈ out.active,
    x.raw < Kfit out.clf ∧
    x.index < numModes out.trainLabels ∧ (labelsOf out.trainLabels)[x.index]? = some x.label ∧
    x.label ∈ out.trainLabels ∧
    modeOfRaw (fromParticles out.trainLabels) x.index = some (indicesOf out.trainLabels x.label) ∧
    indicesOf out.trainLabels x.label ≠ [] ∧ (x.raw ∈ out.trainLabels → x.label = x.raw)

/-- the components carried between iterations are sound: a set flag means a fitted clusterer, and whatever fit the clusterer
    holds was made by this clusterer's `fit` -/
def CompOK (Good : F → Prop) (c : Comp F) : Prop :=
  (c.flag = true → c.clf.isSome = true) ∧ ∀ f, c.clf = some f → Good f

theorem runAnneal_steps (pt : Parts P W F O D) (Good : F → Prop) (ce : Nat)
    (hFit : ∀ u wt f, pt.cfit u wt = some f → Good f) :
    ∀ (ins : List (IterIn P W)) (c : Comp F), (∀ f, c.clf = some f → Good f) →
      ∀ io ∈ runAnneal pt ce c ins, io.1 ∈ ins ∧ ∃ prev mf, (∀ f, prev = some f → Good f) ∧
        annealIter pt prev mf io.1.hist io.1.w io.1.idx = some io.2 := by
  intro ins
  induction ins with
  | nil => intro c _ io hio; cases hio
  | cons i is ih =>
    intro c hc io hio
    rw [runAnneal] at hio
    split at hio
    · cases hio
    · rename_i c' o hit
      obtain ⟨o', ha, he⟩ := Option.map_eq_some_iff.1 hit
      obtain ⟨rfl, rfl⟩ := Prod.mk.inj he
      rcases List.mem_cons.1 hio with rfl | hio
      · exact ⟨List.mem_cons_self, c.clf, _, hc, ha⟩
      · -- the clusterer carried on is the one this iteration used: the fit just made, or the sound previous one
        have hgood : ∀ f, some o'.clf = some f → Good f := by
          rintro _ ⟨⟩
          have h2 := (annealIter_some pt c.clf _ i.hist i.w i.idx o' ha).2.1
          split at h2
          · exact hFit _ _ _ h2
          · exact hc _ h2
        obtain ⟨h1, h2⟩ := ih _ hgood io hio
        exact ⟨List.mem_cons_of_mem _ h1, h2⟩

/-- **C14 over a whole run of annealing iterations, nothing assumed about the previous fit.**  Starting from components that
    are sound (in particular from a fresh Trainer and an unfitted clusterer: `⟨false, none⟩`), with ANY `cluster_every`, any
    `iter` values and any pools / weights / resampling draws iteration after iteration: every iteration that completes is
    coherent in the sense of `C14_iteration_generic`; and at the FIRST iteration of the list, when no fit is due the clusterer
    holds one (for the later ones this is `runAnneal_steps`: the components carried on are sound again). -/
theorem C14_run_generic (pt : Parts P W F O D) (Good : F → Prop) (Kfit : F → Nat) (ce : Nat)
    (hTrim : ∀ hist w u wt, pt.trim hist w = some (u, wt) → u ≠ [])
    (hFit : ∀ u wt f, pt.cfit u wt = some f → Good f)
    (hPred : ∀ f X l, Good f → pt.cpredict f X = some l → l.length = X.length ∧ ∀ x ∈ l, x < Kfit f)
    (hBuild : ∀ u wt labels o, pt.build u wt labels = some o →
      pt.stored o = labelsOf labels ∧ ∀ p, (pt.dist o p).length = (pt.stored o).length) :
    ∀ (ins : List (IterIn P W)) (c : Comp F), CompOK Good c →
      (∀ io ∈ runAnneal pt ce c ins, Coherent pt Good Kfit io.1.hist io.1.idx io.2) ∧
      (∀ i ∈ ins.head?, mustFit ce c.flag i.iter = false → c.clf.isSome = true) := by
  intro ins c hc
  refine ⟨fun io hio => ?_, fun i _ hmf => hc.1 ?_⟩
  · obtain ⟨-, prev, mf, hprev, hstep⟩ := runAnneal_steps pt Good ce hFit ins c hc.2 io hio
    exact C14_iteration_generic pt Good Kfit prev mf _ _ _ _ (hTrim _ _) hFit hprev hPred hBuild hstep
  · simp only [mustFit, Bool.or_eq_false_iff, Bool.not_eq_false'] at hmf
    exact hmf.2

theorem compOK_fresh (Good : F → Prop) : CompOK Good (⟨false, none⟩ : Comp F) := by
  refine ⟨?_, ?_⟩
  · intro h; simp at h
  · intro f h; simp at h

end Generic

/-! ### a label without a mode goes to the NEAREST mode (first minimum of the distance row) -/

section Nearest
open Model.HGMM

/-- **a raw label without a mode is sent to the nearest mode**: the index `mode_index` answers points at a minimum of the
    particle's distance row (squared distances: the same minimiser as for the Euclidean norms) -/
theorem C14_missing_label_nearest (stored : List ℕ) (drow : List ℝ) (a i : ℕ) (hmiss : a ∉ stored)
    (h : modeIndexD stored drow a = some i) : ∃ v, drow[i]? = some v ∧ ∀ y ∈ drow, v ≤ y ∧ Real.sqrt v ≤ Real.sqrt y := by
  rcases ite_eq_iff.1 h with ⟨hc, -⟩ | ⟨-, h⟩
  · exact absurd (List.mem_of_getElem? (beq_iff_eq.1 hc)) hmiss
  · obtain ⟨v, hv, hmin, -⟩ := Props.C15.argmin_is_first_min drow i h
    exact ⟨v, hv, fun y hy => ⟨hmin y hy, Real.sqrt_le_sqrt (hmin y hy)⟩⟩

example : modeIndexD (α := ℝ) [0, 2] [4, 1] 1 = some 1 := by
  simp [modeIndexD, searchsorted, argmin, argminFrom]

end Nearest

/-! ### the components instantiated with the executable models of C20, C15, C19 and C14 -/

section Real
open Model.HFit Model.StudentModes Model.ModeGate Model.Student Props.C19 Matrix

/-- the components (trimming, fit, predict, mode construction, stored labels, distance rows) as the other properties model
    them, at `ℝ` -/
noncomputable def realParts (psi : ℝ → ℝ) (d : ℕ) (hc : HCfg ℝ) (ready : Bool) (e : ℝ) (bins : ℕ) (fb : ℝ) (us : List ℝ)
    (Kf : ℕ) : Parts (List ℝ) ℝ (HFitOut ℝ) (Obj ℝ) ℝ where
  trim := fun u w => match Model.TrimSites.trainerRun false u w e bins with
    | some (some r, _) => some r
    | _ => none
  cfit := fun u wt => hfit hc u wt
  cpredict := fun f X => mapOpt id (hpredict hc f ready X)
  build := fun u wt labels => trainerObject (Model.StudentModes.fromParticles (List.replicate Kf (fitRowsF psi d)) u wt labels fb 4 us)
  stored := fun o => o.ms.labels.getD []
  dist := fun o p => sqDistRow o.ms.means p

variable {d : ℕ}

/-- **C14 over one whole iteration of the executable models.**  History particles `Uh` with a valid weight vector (non-negative,
    positive sum, one weight per particle), the sampler's trimming constants (`e ≤ 1`, `bins ≥ 1`), any clusterer configuration
    `hc`, any `special.psi`, positive dof fallback, any previous fit of this clusterer, any resampled indices.  If the iteration
    completes (nothing raised) then:
      * the trimmed training pool is a NON-EMPTY selection of history particles;
      * the clusterer used for the training labels and for the assignments of the active particles is one fit of `hfit hc`,
        with `1 ≤ K_fit ≤ max_iterations + 1`; the mode object has `K_modes = #distinct training labels ≤ K_fit` modes;
      * every active particle: raw label `< K_fit`; index handed to the kernel `< K_modes`; relabel carried by a training
        particle and equal to the raw label whenever that has a mode; the mode at the index has its mean inside the bounding box
        of the training particles carrying the relabel, a symmetric positive-definite scale matrix, positive degrees of freedom. -/
theorem C14_iteration_model (psi : ℝ → ℝ) (hc : HCfg ℝ) (ready : Bool) (e : ℝ) (he : e ≤ 1) (bins : ℕ) (hb : 0 < bins)
    (fb : ℝ) (hfb : 0 < fb) (us : List ℝ) (Kf : ℕ) {N : ℕ} (Uh : Fin N → Fin d → ℝ) (w : List ℝ)
    (hw0 : ∀ x ∈ w, 0 ≤ x) (hws : 0 < w.sum) (hlen : w.length = N)
    (prev : Option (HFitOut ℝ)) (hprev : ∀ f, prev = some f → ∃ X w', hfit hc X w' = some f)
    (mustFit : Bool) (idx : List ℕ) (out : Out (List ℝ) ℝ (HFitOut ℝ) (Obj ℝ))
    (h : annealIter (realParts psi d hc ready e bins fb us Kf) prev mustFit (rowsOf Uh) w idx = some out) :
    out.trainU ≠ [] ∧ out.trainU.Sublist (rowsOf Uh) ∧ out.trainLabels.length = out.trainU.length ∧
    1 ≤ out.clf.clusters.length ∧ out.clf.clusters.length ≤ hc.maxIterations + 1 ∧
    out.obj.K = numModes out.trainLabels ∧ out.obj.K ≤ out.clf.clusters.length ∧
    ∃ (n : ℕ) (y : Fin n → Fin d → ℝ), out.trainU = rowsOf y ∧
    ∀ x ∈ out.active,
      x.raw < out.clf.clusters.length ∧ x.index < out.obj.K ∧ x.label ∈ out.trainLabels ∧
      (x.raw ∈ out.trainLabels → x.label = x.raw) ∧
      ∃ (μ : Fin d → ℝ) (S : Matrix (Fin d) (Fin d) ℝ) (ν : ℝ),
        out.obj.ms.means[x.index]? = some (vecOf μ) ∧ out.obj.ms.covs[x.index]? = some (matOf S) ∧
        out.obj.ms.dofs[x.index]? = some (Dof.fin ν) ∧
        InClusterBox y out.trainLabels x.label μ ∧ S.IsSymm ∧ S.PosDef ∧ 0 < ν := by
  set pt := realParts psi d hc ready e bins fb us Kf with hpt
  have hl : (rowsOf Uh).length = w.length := by rw [rowsOf_length, hlen]
  have hTrimFull : ∀ u wt, pt.trim (rowsOf Uh) w = some (u, wt) → u ≠ [] ∧ u.Sublist (rowsOf Uh) := by
    intro u wt ht
    obtain ⟨uk, wt', θ, hrun, _, _, _, hne, hsub, _⟩ := Props.C20.C20_trainer_site (rowsOf Uh) w e bins hw0 hws hl hb he
    have : pt.trim (rowsOf Uh) w = some (uk, wt') := by
      simp only [hpt, realParts, hrun]
    rw [this] at ht
    obtain ⟨rfl, rfl⟩ := Prod.mk.inj (Option.some.inj ht)
    exact ⟨hne, hsub⟩
  have hGood : ∀ f, (∃ X w', hfit hc X w' = some f) →
      ∀ X l, pt.cpredict f X = some l → l.length = X.length ∧ ∀ x ∈ l, x < f.clusters.length := by
    rintro f ⟨X0, w0, hf⟩ X l hp
    obtain ⟨p1, p2⟩ := Props.C15.C15_hfit_predict_range hc X0 w0 f hf ready X
    replace hp := Lemmas.OptionList.of_modes (l := hpredict hc f ready X) hp
    refine ⟨by rw [Lemmas.OptionList.mapM_length hp, p1], fun x hx => ?_⟩
    obtain ⟨y, hy, rfl⟩ := Lemmas.OptionList.mapM_mem hp hx
    obtain ⟨k, hk1, hk2⟩ := p2 _ hy
    rw [Option.some.inj hk1]; exact hk2
  have hBuild : ∀ u wt labels o, pt.build u wt labels = some o →
      pt.stored o = labelsOf labels ∧ ∀ p, (pt.dist o p).length = (pt.stored o).length := by
    intro u wt labels o hbuild
    obtain ⟨ms, hbm, hc⟩ := trainerObject_some hbuild
    obtain ⟨s1, s2⟩ := Lemmas.StudentModes.fromParticles_shape _ u wt labels fb 4 us ms hbm
    simp only [hpt, realParts, (construct_some ms o hc).1, s1]
    exact ⟨rfl, fun p => by simp [sqDistRow, s2]⟩
  obtain ⟨hgood, hu, hll, hne, _, _, _, hKle, hact⟩ :=
    C14_iteration_generic pt (fun f => ∃ X w', hfit hc X w' = some f) (fun f => f.clusters.length) prev mustFit
      (rowsOf Uh) w idx out (fun u wt ht => (hTrimFull u wt ht).1)
      (fun u wt f hf => ⟨u, wt, hf⟩) hprev (fun f X l hg hp => hGood f hg X l hp) hBuild h
  obtain ⟨h1, _, _, h4, _⟩ := annealIter_some pt prev mustFit (rowsOf Uh) w idx out h
  have hsub := (hTrimFull _ _ h1).2
  obtain ⟨X0, w0, hf0⟩ := hgood
  obtain ⟨c1, c2⟩ := Props.C15.C15_hfit_cap hc X0 w0 out.clf hf0
  obtain ⟨y, hy⟩ := rows_of_mem_rowsOf Uh out.trainU (fun r hr => hsub.subset hr)
  have hobj : trainerObject (Model.StudentModes.fromParticles (List.replicate Kf (fitRowsF psi d)) (rowsOf y) out.trainW out.trainLabels fb 4 us)
      = some out.obj := by
    rw [← hy]; simpa only [hpt, realParts] using h4
  obtain ⟨_, _, hK, _, _, _, heach⟩ := C14_object_valid psi y out.trainW out.trainLabels fb hfb 4 us Kf out.obj hobj
  refine ⟨hu, hsub, hll, c1, c2, hK, by rw [hK]; exact hKle, _, y, hy, ?_⟩
  intro x hx
  obtain ⟨a1, a2, a3, a4, _, _, a7⟩ := hact x hx
  obtain ⟨μ, S, ν, m1, m2, m3, m4, m5, m6, m7, _⟩ := heach x.index x.label a3
  exact ⟨a1, by rw [hK]; exact a2, a4, a7, μ, S, ν, m1, m2, m3, m4, m5, m6, m7⟩

/-- **C14 over a whole run of the executable models**: from a fresh Trainer and an unfitted clusterer (or any components whose
    clusterer holds a fit of `hfit hc`), any `cluster_every`, any sequence of annealing iterations whose pools are families of
    `d`-vectors with valid weight vectors: every iteration that completes satisfies the conclusion of `C14_iteration_model` —
    non-empty training pool, `K_modes ≤ K_fit ≤ max_iterations + 1`, every active particle mapped to an existing mode with mean
    in its cluster's bounding box, symmetric positive-definite scale and positive degrees of freedom.  No hypothesis on the
    previous fit: it is an invariant of the run. -/
theorem C14_run_model (psi : ℝ → ℝ) (hc : HCfg ℝ) (ready : Bool) (e : ℝ) (he : e ≤ 1) (bins : ℕ) (hb : 0 < bins)
    (fb : ℝ) (hfb : 0 < fb) (us : List ℝ) (Kf : ℕ) (ce : ℕ)
    (c : Comp (HFitOut ℝ)) (hcomp : ∀ f, c.clf = some f → ∃ X w', hfit hc X w' = some f)
    (ins : List (IterIn (List ℝ) ℝ))
    (hin : ∀ i ∈ ins, ∃ (N : ℕ) (Uh : Fin N → Fin d → ℝ), i.hist = rowsOf Uh ∧ (∀ x ∈ i.w, 0 ≤ x) ∧ 0 < i.w.sum ∧ i.w.length = N) :
    ∀ io ∈ runAnneal (realParts psi d hc ready e bins fb us Kf) ce c ins,
      io.2.trainU ≠ [] ∧ io.2.trainU.Sublist io.1.hist ∧
      1 ≤ io.2.clf.clusters.length ∧ io.2.clf.clusters.length ≤ hc.maxIterations + 1 ∧
      io.2.obj.K = numModes io.2.trainLabels ∧ io.2.obj.K ≤ io.2.clf.clusters.length ∧
      ∃ (n : ℕ) (y : Fin n → Fin d → ℝ), io.2.trainU = rowsOf y ∧
      ∀ x ∈ io.2.active,
        x.raw < io.2.clf.clusters.length ∧ x.index < io.2.obj.K ∧ x.label ∈ io.2.trainLabels ∧
        (x.raw ∈ io.2.trainLabels → x.label = x.raw) ∧
        ∃ (μ : Fin d → ℝ) (S : Matrix (Fin d) (Fin d) ℝ) (ν : ℝ),
          io.2.obj.ms.means[x.index]? = some (vecOf μ) ∧ io.2.obj.ms.covs[x.index]? = some (matOf S) ∧
          io.2.obj.ms.dofs[x.index]? = some (Dof.fin ν) ∧
          InClusterBox y io.2.trainLabels x.label μ ∧ S.IsSymm ∧ S.PosDef ∧ 0 < ν := by
  intro io hio
  obtain ⟨hmem, prev, mf, hprev, hstep⟩ :=
    runAnneal_steps (realParts psi d hc ready e bins fb us Kf) (fun f => ∃ X w', hfit hc X w' = some f) ce
      (fun u wt f hf => ⟨u, wt, hf⟩) ins c hcomp io hio
  obtain ⟨N, Uh, hh, hw0, hws, hlen⟩ := hin io.1 hmem
  rw [hh] at hstep ⊢
  obtain ⟨a1, a2, _, a4, a5, a6, a7, n, y, a8, a9⟩ :=
    C14_iteration_model psi hc ready e he bins hb fb hfb us Kf Uh io.1.w hw0 hws hlen prev hprev mf io.1.idx io.2 hstep
  exact ⟨a1, a2, a4, a5, a6, a7, n, y, a8, a9⟩

/-- **every cluster cap**: with the core's wiring `max_iterations = n_max_clusters − 1` (`wiredMaxIterations`) and
    `n_max_clusters = nMax ≥ 1`, a completed iteration has `K_modes ≤ K_fit ≤ nMax`; with `n_max_clusters = None`, `≤ 1001` -/
theorem C14_iteration_cap (psi : ℝ → ℝ) (hc : HCfg ℝ) (ready : Bool) (e : ℝ) (he : e ≤ 1) (bins : ℕ) (hb : 0 < bins)
    (fb : ℝ) (hfb : 0 < fb) (us : List ℝ) (Kf : ℕ) {N : ℕ} (Uh : Fin N → Fin d → ℝ) (w : List ℝ)
    (hw0 : ∀ x ∈ w, 0 ≤ x) (hws : 0 < w.sum) (hlen : w.length = N)
    (prev : Option (HFitOut ℝ)) (hprev : ∀ f, prev = some f → ∃ X w', hfit hc X w' = some f)
    (mustFit : Bool) (idx : List ℕ) (out : Out (List ℝ) ℝ (HFitOut ℝ) (Obj ℝ))
    (h : annealIter (realParts psi d hc ready e bins fb us Kf) prev mustFit (rowsOf Uh) w idx = some out)
    (cap : Option ℕ) (hwire : hc.maxIterations = wiredMaxIterations cap) (hcap : ∀ n, cap = some n → 1 ≤ n) :
    out.obj.K ≤ out.clf.clusters.length ∧
    (∀ n, cap = some n → out.clf.clusters.length ≤ n) ∧ (cap = none → out.clf.clusters.length ≤ 1001) := by
  obtain ⟨_, _, _, _, c2, _, c4, _⟩ :=
    C14_iteration_model psi hc ready e he bins hb fb hfb us Kf Uh w hw0 hws hlen prev hprev mustFit idx out h
  refine ⟨c4, fun n hn => ?_, fun hn => ?_⟩
  · have := hcap n hn
    rw [hwire, hn] at c2
    simp only [wiredMaxIterations] at c2
    omega
  · rw [hwire, hn] at c2
    simpa [wiredMaxIterations] using c2

end Real

/-! ### non-vacuity of the generic theorem: a run of `annealIter` on tagging components -/

/-- tagging components: particles are ids, the "fit" remembers how many points it saw, `predict` labels id `p` with `p % 3`
    except that it never answers `1` for ids below 4; `build` stores the sorted distinct labels -/
def exParts : Parts ℕ ℕ ℕ (List ℕ) Rat where
  trim := fun u w => some (u.take 4, w.take 4)
  cfit := fun u _ => some u.length
  cpredict := fun _ X => some (X.map fun p => if p < 4 ∧ p % 3 = 1 then 2 else p % 3)
  build := fun _ _ labels => some (labelsOf labels)
  stored := fun o => o
  dist := fun o p => o.map fun l => ((l : Rat) - (p % 3 : ℕ)) * ((l : Rat) - (p % 3 : ℕ))

/-- history ids 0..5, the trimmed pool is ids 0..3 with labels `[0, 2, 2, 0]` (label 1 has no mode); the resampled particles
    4 (raw label 1: no mode, reassigned to the nearest) and 5 (raw label 2: keeps its mode) -/
example : (annealIter exParts none true [0, 1, 2, 3, 4, 5] [1, 1, 1, 1, 1, 1] [4, 5]).map
      (fun o => (o.trainLabels, o.obj, o.active.map fun x => (x.raw, x.index, x.label)))
    = some ([0, 2, 2, 0], [0, 2], [(1, 0, 0), (2, 1, 2)]) := by decide +kernel

/-- two annealing iterations (`iter` 4 and 5, `cluster_every = 3`) from a fresh Trainer: the first fits although off the
    cadence (flag unset), the second reuses that fit -/
example : (runAnneal exParts 3 ⟨false, none⟩
      [⟨4, [0, 1, 2, 3, 4, 5], [1, 1, 1, 1, 1, 1], [4, 5]⟩, ⟨5, [0, 1, 2, 3, 4, 5, 6, 7], [1, 1, 1, 1, 1, 1, 1, 1], [7]⟩]).map
      (fun io => (io.2.didFit, io.2.trainLabels, io.2.active.map fun x => (x.raw, x.index, x.label)))
    = [(true, [0, 2, 2, 0], [(1, 0, 0), (2, 1, 2)]), (false, [0, 2, 2, 0], [(1, 0, 0)])] := by decide +kernel

/-- the tagging clusterer labels every point by itself (H_pointwise of `C14_particlewise_coherent` is satisfiable) -/
example : ∀ f : ℕ, ∃ lab : ℕ → ℕ, ∀ X l, exParts.cpredict f X = some l → l = X.map lab :=
  fun _ => ⟨fun p => if p < 4 ∧ p % 3 = 1 then 2 else p % 3, fun X l h => by simpa [exParts] using h.symm⟩

end Props.C14
