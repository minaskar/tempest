import TempestVerif.Model.HFit
import TempestVerif.Props.C15
import TempestVerif.Props.C15Fit
/-
  C15 for the whole model `Model.HFit.hfit`, with no oracle hypothesis.  The oracle of the split loop is
  `Model.HFit.entryD` (two real mixture fits and `predict`); its labels are `LabelsOK`, so the oracle-level theorems
  of `Props/C15.lean` apply to the clusters `hfit` returns.  Everything before the section at `ℝ` is about list
  lengths and index ranges only and holds for every scalar instance, the `Float` instance the driver executes
  included (NaN and infinities too); that `predict_proba` and `cluster_weights_` are probability vectors is at `ℝ`.
-/
namespace Props.C15
open Model.EM Model.GMM Model.HFit Lemmas.CholList Lemmas.OptionList
open Model.HGMM (Entry fitClusters assemble)

section Generic
variable {α : Type} [ScT α]

/-! ## `GaussianMixture.predict` and the oracle -/

theorem npArgmaxFrom_lt {β : Type} (le : β → β → Bool) (nan : β → Bool) (xs : List β) :
    ∀ (i bi : Nat) (bv : β), bi < i → npArgmaxFrom le nan i bi bv xs < i + xs.length := by
  induction xs with
  | nil =>
    intro i bi bv h
    exact h
  | cons x xs ih =>
    intro i bi bv h
    simp only [npArgmaxFrom, List.length_cons]
    rw [← Nat.add_assoc, Nat.add_right_comm]
    split
    · split
      · exact Nat.lt_add_right _ (Nat.lt_succ_self i)
      · exact ih (i + 1) i x (Nat.lt_succ_self i)
    · exact ih (i + 1) bi bv (Nat.lt_succ_of_lt h)

theorem npArgmax_lt {β : Type} (le : β → β → Bool) (nan : β → Bool) (row : List β) (k : Nat)
    (h : npArgmax le nan row = some k) : k < row.length := by
  cases row with
  | nil => cases h
  | cons x xs =>
    cases h
    show (if nan x then 0 else npArgmaxFrom le nan 1 0 x xs) < xs.length + 1
    split
    · exact Nat.succ_pos _
    · rw [Nat.add_comm]
      exact npArgmaxFrom_lt le nan xs 1 0 x Nat.one_pos

theorem npArgmax_some {β : Type} (le : β → β → Bool) (nan : β → Bool) (row : List β) (h : row ≠ []) :
    ∃ k, npArgmax le nan row = some k ∧ k < row.length := by
  cases row with
  | nil => exact absurd rfl h
  | cons x xs => exact ⟨_, rfl, npArgmax_lt le nan (x :: xs) _ rfl⟩

theorem npArgmin_eq_npArgmax {β : Type} (le : β → β → Bool) (nan : β → Bool) (row : List β) :
    npArgmin le nan row = npArgmax (fun a b => le b a) nan row := by
  have hfrom : ∀ (xs : List β) (i bi : Nat) (bv : β),
      npArgminFrom le nan i bi bv xs = npArgmaxFrom (fun a b => le b a) nan i bi bv xs := by
    intro xs i bi bv
    induction xs generalizing i bi bv with
    | nil => rfl
    | cons x xs ih => simp only [npArgminFrom, npArgmaxFrom, ih]
  cases row with
  | nil => rfl
  | cons x xs => simp only [npArgmin, npArgmax, hfrom]

theorem predict_labels (c : Cfg α) (p : MStep α) (X : Mat α) (labels : List Nat)
    (h : mapOpt id (Model.GMM.predict c p X) = some labels) :
    labels.length = X.length ∧ ∀ l ∈ labels, l < p.weights.length := by
  constructor
  · rw [mapM_length (of_gmm h)]
    simp [Model.GMM.predict]
  · intro l hl
    obtain ⟨x, hx, hxl⟩ := mapM_mem (of_gmm h) hl
    obtain ⟨i, _, hi⟩ := List.mem_map.mp hx
    -- the label is an index into row `i` of the column list, which has at most one entry per component
    refine lt_of_lt_of_le (npArgmax_lt _ _ _ _ (hi.trans hxl)) ((List.length_filterMap_le _ _).trans ?_)
    rw [List.length_map, List.length_zip]
    exact Nat.min_le_left _ _

/-- **the oracle of the whole model hands the split loop one label in {0, 1} per member** — the hypothesis
    `hlab` of the oracle-level theorems (`C15_partition`, `C15_cap`, …) holds for `entryD`, unconditionally -/
theorem C15_entryD_labelsOK (c : HCfg α) (X : Mat α) (w : List α) :
    ∀ (it idx : Nat) (m : List Nat), LabelsOK m (entryD c X w it idx m).childLabels := by
  intro it idx m
  unfold entryD
  cases he : entry? c X w m with
  | none =>
    refine ⟨List.length_map _, fun l hl => ?_⟩
    obtain ⟨_, _, rfl⟩ := List.mem_map.mp hl
    exact Nat.zero_lt_two
  | some e =>
    simp only
    unfold entry? at he
    split at he
    · rename_i data wts hd hw
      split at he
      · rename_i par chi hp hc
        split at he
        · rename_i labels hl
          cases he
          obtain ⟨h1, h2⟩ := predict_labels _ _ _ _ hl
          exact ⟨h1.trans (mapM_length (of_gmm hd)),
            fun l hl' => lt_of_lt_of_eq (h2 l hl') (fit_shape _ _ _ _ _ hc).1⟩
        · cases he
      · cases he
    · cases he

theorem entryD_childLabels (c : HCfg α) (X : Mat α) (w : List α) (it idx : Nat) (m labels : List Nat)
    (h : (entry? c X w m).map (fun e => e.childLabels) = some labels) :
    (entryD c X w it idx m).childLabels = labels := by
  obtain ⟨e, he, rfl⟩ := Option.map_eq_some_iff.mp h
  unfold entryD
  rw [he]

/-! ## the hierarchical fit -/

/-- the `bounds` of `hfit`: `_data_min`, `_data_max` when normalisation is on.  `hbounds`, `workOf`, `perCluster` name
    `let`-bodies of `Model.HFit.hfit` so that statements can speak of them; `hfit_some` ties them to `hfit` by `rfl`. -/
def hbounds (c : HCfg α) (X : Mat α) : Option (List α × List α) :=
  if c.normalize then
    match colExt Sc.min c.d X, colExt Sc.max c.d X with
    | some mn, some mx => some (mn, mx)
    | _, _ => none
  else some ([], [])

/-- the working coordinates (`Xw` of `hfit`) for given bounds -/
def workOf (c : HCfg α) (X : Mat α) (mn mx : List α) : Mat α :=
  if c.normalize then X.map (normRow c.eps mn mx) else X

/-- the data the split loop and the per-cluster fits of `hfit` actually see -/
def workData (c : HCfg α) (X : Mat α) : Option (Mat α) := (hbounds c X).map fun b => workOf c X b.1 b.2

/-- the function `hfit` maps over the final clusters: `(center, cov, Σ weights)` of one cluster -/
def perCluster (c : HCfg α) (Xw : Mat α) (w mn mx : List α) (m : List Nat) : Option (List α × Mat α × α) :=
  match gather Xw m, gather w m with
  | some data, some wts =>
    match clusterParams c data wts with
    | none => none
    | some (ctr, cov) =>
      if c.normalize then (denormCov c.d mn mx cov).map fun cv => (denormRow mn mx ctr, cv, Sc.sum wts)
      else some (ctr, cov, Sc.sum wts)
  | _, _ => none

structure HFitSome (c : HCfg α) (X : Mat α) (w : List α) (f : HFitOut α) (mn mx : List α)
    (ps : List (List α × Mat α × α)) : Prop where
  bounds : hbounds c X = some (mn, mx)
  ok : loopOK c (workOf c X mn mx) w (minPts c) c.maxIterations 0 [List.range X.length] = true
  clusters : f.clusters = fitClusters (entryD c (workOf c X mn mx) w) X.length (minPts c) c.maxIterations
  labels : f.labels = assemble X.length f.clusters
  params : mapOpt (perCluster c (workOf c X mn mx) w mn mx) f.clusters = some ps
  centers : f.centers = ps.map (·.1)
  covs : f.covs = ps.map (·.2.1)
  weights : f.weights = ps.map fun p => Sc.div p.2.2 (Sc.sum w)
  dataMin : f.dataMin = mn
  dataMax : f.dataMax = mx

theorem hfit_some (c : HCfg α) (X : Mat α) (w : List α) (f : HFitOut α) (h : hfit c X w = some f) :
    ∃ mn mx ps, HFitSome c X w f mn mx ps := by
  unfold hfit at h
  dsimp only at h
  split at h
  · cases h
  · rename_i mn mx hb
    generalize hok : loopOK c _ w (minPts c) c.maxIterations 0 [List.range X.length] = ok at h
    cases ok with
    | false => cases h
    | true =>
      obtain ⟨ps, hps, rfl⟩ := Option.map_eq_some_iff.mp h
      -- `hb`, `hok`, `hps` speak of the bodies of `hbounds`, `workOf`, `perCluster`, as `hfit` writes them out
      exact ⟨mn, mx, ps, hb, hok, rfl, rfl, hps, rfl, rfl, rfl, rfl, rfl⟩

/-- **the clusters of the whole fit are those of the split loop run with the oracle `entryD`** on the working
    data, the labels are their assembly, and no examined cluster made the Python raise -/
theorem C15_hfit_clusters (c : HCfg α) (X : Mat α) (w : List α) (f : HFitOut α) (h : hfit c X w = some f) :
    ∃ Xw, workData c X = some Xw ∧
      f.clusters = fitClusters (entryD c Xw w) X.length (minPts c) c.maxIterations ∧
      f.labels = assemble X.length f.clusters ∧
      loopOK c Xw w (minPts c) c.maxIterations 0 [List.range X.length] = true := by
  obtain ⟨mn, mx, _, hf⟩ := hfit_some c X w f h
  exact ⟨workOf c X mn mx, by simp [workData, hf.bounds], hf.clusters, hf.labels, hf.ok⟩

theorem hfit_inv (c : HCfg α) (X : Mat α) (w : List α) (f : HFitOut α) (h : hfit c X w = some f) :
    IsPartition X.length f.clusters ∧ f.clusters.length ≤ 1 + c.maxIterations ∧ 1 ≤ f.clusters.length ∧
      (f.clusters = [List.range X.length] ∨ ∀ m ∈ f.clusters, minPts c ≤ m.length) := by
  obtain ⟨Xw, _, hcl, _, _⟩ := C15_hfit_clusters c X w f h
  rw [hcl]
  exact fitClusters_inv _ _ _ _ fun it idx m _ => C15_entryD_labelsOK c Xw w it idx m

/-- **the final clusters partition the training indices** (no oracle hypothesis) -/
theorem C15_hfit_partition (c : HCfg α) (X : Mat α) (w : List α) (f : HFitOut α) (h : hfit c X w = some f) :
    IsPartition X.length f.clusters :=
  (hfit_inv c X w f h).1

/-- **`1 ≤ n_clusters_ ≤ max_iterations + 1`** -/
theorem C15_hfit_cap (c : HCfg α) (X : Mat α) (w : List α) (f : HFitOut α) (h : hfit c X w = some f) :
    1 ≤ f.clusters.length ∧ f.clusters.length ≤ c.maxIterations + 1 := by
  obtain ⟨_, h2, h3, _⟩ := hfit_inv c X w f h
  exact ⟨h3, by omega⟩

/-- **nothing was split, or every final cluster has at least `min_points` members** -/
theorem C15_hfit_min_points (c : HCfg α) (X : Mat α) (w : List α) (f : HFitOut α) (h : hfit c X w = some f) :
    f.clusters = [List.range X.length] ∨ ∀ m ∈ f.clusters, minPts c ≤ m.length :=
  (hfit_inv c X w f h).2.2.2

/-- **every training point gets exactly one label, below `n_clusters_`**: the index of the one cluster holding it -/
theorem C15_hfit_labels_total (c : HCfg α) (X : Mat α) (w : List α) (f : HFitOut α) (h : hfit c X w = some f)
    (i : Nat) (hi : i < X.length) :
    f.labels.length = X.length ∧
    ∃ k cl, k < f.clusters.length ∧ f.labels[i]? = some (some k) ∧ f.clusters[k]? = some cl ∧ i ∈ cl ∧
      ∀ k' c', f.clusters[k']? = some c' → i ∈ c' → k' = k := by
  obtain ⟨_, _, _, hlab, _⟩ := C15_hfit_clusters c X w f h
  rw [hlab]
  exact ⟨by simp [assemble, assignFrom_length], labels_total_of_partition _ _ (hfit_inv c X w f h).1 i hi⟩

/-- **one centre, one covariance array and one weight per cluster** -/
theorem C15_hfit_shapes (c : HCfg α) (X : Mat α) (w : List α) (f : HFitOut α) (h : hfit c X w = some f) :
    f.centers.length = f.clusters.length ∧ f.covs.length = f.clusters.length ∧
    f.weights.length = f.clusters.length := by
  obtain ⟨_, _, ps, hf⟩ := hfit_some c X w f h
  simp only [hf.centers, hf.covs, hf.weights, List.length_map, mapM_length (of_gmm hf.params), and_self]

/-! ### `predict` / `predict_proba` of the hierarchical model -/

theorem probCol_length (c : HCfg α) (mean : List α) (cov : Mat α) (Xq : Mat α) (l : List α)
    (h : probCol c mean cov Xq = some l) : l.length = Xq.length := by
  unfold probCol at h
  simp only at h
  split at h
  · rename_i l' hl
    cases h
    exact logpdfCol_length _ _ _ _ _ _ hl
  · exact logpdfCol_length _ _ _ _ _ _ h

theorem softmaxRow_length (row : List α) : (softmaxRow row).length = row.length := by
  cases row <;> simp [softmaxRow]

theorem gaussProbs_rows (c : HCfg α) (f : HFitOut α) (Xq : Mat α) (P : Mat α) (K : Nat)
    (hc : f.centers.length = K) (hv : f.covs.length = K) (hw : f.weights.length = K)
    (h : gaussProbs c f Xq = some P) :
    P.length = Xq.length ∧ ∀ row ∈ P, ∃ r, r.length = K ∧ row = softmaxRow r := by
  unfold gaussProbs at h
  simp only [Option.map_eq_some_iff] at h
  obtain ⟨cs, hcs, rfl⟩ := h
  have hlen : cs.length = K := by
    rw [mapM_length (of_gmm hcs), List.length_zip, List.length_zip, hc, hv, hw, Nat.min_self, Nat.min_self]
  have hcol : ∀ col' ∈ cs, col'.length = Xq.length := by
    intro col' hcol'
    obtain ⟨t, _, ht⟩ := mapM_mem (of_gmm hcs) hcol'
    split at ht
    · cases ht
    · simp only [Option.map_eq_some_iff] at ht
      obtain ⟨l, hl, rfl⟩ := ht
      simp [probCol_length _ _ _ _ _ hl]
  refine ⟨by rw [List.length_map, rowsOfCols_length], ?_⟩
  intro row hrow
  obtain ⟨r, hr, rfl⟩ := List.mem_map.mp hrow
  obtain ⟨i, hi, rfl⟩ := mem_rowsOfCols.mp hr
  exact ⟨col cs i, by rw [col_length cs i (by intro r hr; rw [hcol r hr]; exact hi), hlen], rfl⟩

theorem distRows_rows (centers Xq : Mat α) :
    (distRows centers Xq).length = Xq.length ∧
    ∀ row ∈ distRows centers Xq,
      row.length = centers.length ∧ ∀ dd ∈ row, ∃ x y, dd = ScT.sqrt (sqdist x y) := by
  refine ⟨List.length_map _, ?_⟩
  intro row hrow
  obtain ⟨x, _, rfl⟩ := List.mem_map.mp hrow
  refine ⟨List.length_map _, ?_⟩
  intro dd hdd
  obtain ⟨ctr, _, rfl⟩ := List.mem_map.mp hdd
  exact ⟨x, ctr, rfl⟩

/-- `M` in the working coordinates of the fitted model (`Xn` and `ctrs` of `hpredict`) -/
def normRows (c : HCfg α) (f : HFitOut α) (M : Mat α) : Mat α :=
  if c.normalize then M.map (normRow c.eps f.dataMin f.dataMax) else M

theorem normRows_length (c : HCfg α) (f : HFitOut α) (M : Mat α) : (normRows c f M).length = M.length := by
  unfold normRows
  split <;> simp

/-- the two paths of `predict` / `predict_proba`.  Both read a matrix `M` with one row per query point: on the mixture path
    `softmaxRow`s of `K` log-densities (label `np.argmax`, probabilities the rows), on the nearest-centre fall-back the `K`
    distances to the centres (label `np.argmin`, probabilities the normalised `1 / (dist + epsD)`). -/
theorem hpredict_paths (c : HCfg α) (f : HFitOut α) (ready : Bool) (Xq : Mat α) (K : Nat)
    (hc : f.centers.length = K) (hv : f.covs.length = K) (hw : f.weights.length = K) :
    ∃ M : Mat α, M.length = Xq.length ∧
      ((hpredict c f ready Xq = M.map (npArgmax Sc.le isNaN) ∧ hpredictProba c f ready Xq = M ∧
          ∀ row ∈ M, ∃ r, r.length = K ∧ row = softmaxRow r) ∨
       (hpredict c f ready Xq = M.map (npArgmin Sc.le isNaN) ∧
          (hpredictProba c f ready Xq = M.map fun row =>
            normalise (row.map fun dd => Sc.div Sc.one (Sc.add dd c.epsD))) ∧
          ∀ row ∈ M, row.length = K ∧ ∀ dd ∈ row, ∃ x y, dd = ScT.sqrt (sqdist x y))) := by
  unfold hpredict hpredictProba
  dsimp only
  generalize hg : (if ready then gaussProbs c f _ else none) = o
  cases o with
  | some P =>
    obtain ⟨h1, h2⟩ := gaussProbs_rows c f _ P K hc hv hw (Option.ite_none_right_eq_some.mp hg).2
    exact ⟨P, h1.trans (normRows_length c f Xq), Or.inl ⟨rfl, rfl, h2⟩⟩
  | none =>
    obtain ⟨h1, h2⟩ := distRows_rows (normRows c f f.centers) (normRows c f Xq)
    rw [normRows_length, hc] at h2
    exact ⟨_, h1.trans (normRows_length c f Xq), Or.inr ⟨rfl, rfl, h2⟩⟩

/-- **`predict` returns one label per query point, each in `[0, K)`** — for ANY query matrix, on the mixture
    path and on the nearest-centre fall-back, NaN or not -/
theorem C15_hpredict_range (c : HCfg α) (f : HFitOut α) (ready : Bool) (Xq : Mat α) (K : Nat)
    (hc : f.centers.length = K) (hv : f.covs.length = K) (hw : f.weights.length = K) (hK : 1 ≤ K) :
    (hpredict c f ready Xq).length = Xq.length ∧
    ∀ l ∈ hpredict c f ready Xq, ∃ k, l = some k ∧ k < K := by
  obtain ⟨M, hM, ⟨h1, _, hr⟩ | ⟨h1, _, hr⟩⟩ := hpredict_paths c f ready Xq K hc hv hw
  · rw [h1]
    refine ⟨(List.length_map _).trans hM, map_index_range _ (npArgmax_some _ _) K hK M fun row hrow => ?_⟩
    obtain ⟨r, hlen, rfl⟩ := hr row hrow
    exact (softmaxRow_length r).trans hlen
  · rw [h1]
    refine ⟨(List.length_map _).trans hM, map_index_range _ (fun row => ?_) K hK M fun row hrow => (hr row hrow).1⟩
    rw [npArgmin_eq_npArgmax]
    exact npArgmax_some _ _ row

/-- **predicted labels of a fitted model lie below `n_clusters_`** -/
theorem C15_hfit_predict_range (c : HCfg α) (X : Mat α) (w : List α) (f : HFitOut α) (h : hfit c X w = some f)
    (ready : Bool) (Xq : Mat α) :
    (hpredict c f ready Xq).length = Xq.length ∧
    ∀ l ∈ hpredict c f ready Xq, ∃ k, l = some k ∧ k < f.clusters.length := by
  obtain ⟨h1, h2, h3⟩ := C15_hfit_shapes c X w f h
  exact C15_hpredict_range c f ready Xq _ h1 h2 h3 (C15_hfit_cap c X w f h).1

/-- **`predict_proba` returns an `n_query × K` matrix** on both paths -/
theorem C15_hpredictProba_shape (c : HCfg α) (f : HFitOut α) (ready : Bool) (Xq : Mat α) (K : Nat)
    (hc : f.centers.length = K) (hv : f.covs.length = K) (hw : f.weights.length = K) :
    (hpredictProba c f ready Xq).length = Xq.length ∧
    ∀ row ∈ hpredictProba c f ready Xq, row.length = K := by
  obtain ⟨M, hM, ⟨_, h2, hr⟩ | ⟨_, h2, hr⟩⟩ := hpredict_paths c f ready Xq K hc hv hw
  · rw [h2]
    refine ⟨hM, fun row hrow => ?_⟩
    obtain ⟨r, hlen, rfl⟩ := hr row hrow
    exact (softmaxRow_length r).trans hlen
  · rw [h2]
    refine ⟨(List.length_map _).trans hM, fun row hrow => ?_⟩
    obtain ⟨r, hr', rfl⟩ := List.mem_map.mp hrow
    rw [normalise_length, List.length_map]
    exact (hr r hr').1

end Generic

/-! ## at `ℝ`: probability vectors -/

/-- the shift `logsumexp` pulls out (the row maximum; at `ℝ` it is always finite) -/
noncomputable def lseShift (x : ℝ) (xs : List ℝ) : ℝ := if isFinite (rowMax x xs) then rowMax x xs else Sc.zero

theorem softmaxRow_cons (x : ℝ) (xs : List ℝ) :
    softmaxRow (x :: xs) = (x :: xs).map fun t =>
      Real.exp (t - (Real.log (Sc.sum ((x :: xs).map fun u => Real.exp (u - lseShift x xs))) + lseShift x xs)) := rfl

theorem lseShift_eq (x : ℝ) (xs : List ℝ) : lseShift x xs = rowMax x xs := by
  simp [lseShift, isFinite]

theorem exp_shift_pos (l : List ℝ) (m : ℝ) : ∀ e ∈ l.map fun u => Real.exp (u - m), 0 < e := by
  intro e he
  obtain ⟨u, _, rfl⟩ := List.mem_map.mp he
  exact Real.exp_pos _

/-- `exp (t − (log S + m)) = exp (t − m) / S` for `S = Σ exp (u − m) > 0`: the row is `exp (t − m)` normalised -/
theorem softmaxRow_eq_normalise (x : ℝ) (xs : List ℝ) :
    softmaxRow (x :: xs) = normalise ((x :: xs).map fun u => Real.exp (u - lseShift x xs)) := by
  have hS : 0 < ((x :: xs).map fun u => Real.exp (u - lseShift x xs)).sum :=
    List.sum_pos _ (exp_shift_pos _ _) (List.cons_ne_nil _ _)
  rw [softmaxRow_cons]
  simp only [normalise, List.map_map, ScReal.sum_def]
  apply List.map_congr_left
  intro t _
  simp only [Function.comp, ScReal.div_def]
  rw [sub_add_eq_sub_sub_swap, Real.exp_sub, Real.exp_log hS]

/-- **a row of the mixture-path `predict_proba` is a probability vector**: `exp(row − logsumexp(row))` has
    non-negative entries that sum to exactly 1 -/
theorem C15_softmaxRow_simplex (row : List ℝ) (h : row ≠ []) :
    (∀ p ∈ softmaxRow row, 0 ≤ p) ∧ Sc.sum (softmaxRow row) = 1 := by
  cases row with
  | nil => exact absurd rfl h
  | cons x xs =>
    rw [softmaxRow_eq_normalise]
    exact normalise_simplex _ (fun e he => (exp_shift_pos _ _ e he).le)
      (List.sum_pos _ (exp_shift_pos _ _) (List.cons_ne_nil _ _))

/-- **every row of `predict_proba` is a probability vector**, on the mixture path and on the distance fall-back
    (`1 / (dist + 1e-8)` is positive because a distance is a square root) -/
theorem C15_hpredictProba_simplex (c : HCfg ℝ) (f : HFitOut ℝ) (ready : Bool) (Xq : Mat ℝ) (K : Nat)
    (hc : f.centers.length = K) (hv : f.covs.length = K) (hw : f.weights.length = K) (hK : 1 ≤ K)
    (heps : 0 < c.epsD) :
    ∀ row ∈ hpredictProba c f ready Xq, (∀ p ∈ row, 0 ≤ p) ∧ Sc.sum row = 1 := by
  intro row hrow
  obtain ⟨M, _, ⟨_, h2, hr⟩ | ⟨_, h2, hr⟩⟩ := hpredict_paths c f ready Xq K hc hv hw
  · rw [h2] at hrow
    obtain ⟨r, hlen, rfl⟩ := hr row hrow
    exact C15_softmaxRow_simplex r (List.ne_nil_of_length_pos (hlen ▸ hK))
  · rw [h2] at hrow
    obtain ⟨r, hr', rfl⟩ := List.mem_map.mp hrow
    obtain ⟨hlen, hsq⟩ := hr r hr'
    have hpos : ∀ v ∈ r.map fun dd => Sc.div Sc.one (Sc.add dd c.epsD), 0 < v := by
      intro v hv'
      obtain ⟨dd, hdd, rfl⟩ := List.mem_map.mp hv'
      obtain ⟨x, y, rfl⟩ := hsq dd hdd
      rw [ScReal.div_def, ScReal.one_def]
      exact div_pos one_pos (add_pos_of_nonneg_of_pos (Real.sqrt_nonneg _) heps)
    have hne : r.map (fun dd => Sc.div Sc.one (Sc.add dd c.epsD)) ≠ [] :=
      List.ne_nil_of_length_pos (by rw [List.length_map, hlen]; exact hK)
    exact normalise_simplex _ (fun v hv' => (hpos v hv').le) (List.sum_pos _ hpos hne)

/-! ### `cluster_weights_` -/

theorem gather_eq_map {β : Type} (X : List β) (idx : List Nat) (ys : List β) (d : β)
    (h : gather X idx = some ys) : ys = idx.map fun i => X.getD i d := by
  refine (List.map_id ys).symm.trans (mapM_map_eq (of_gmm h) (p := id) (k := fun i => X.getD i d) ?_)
  intro i _ y hy
  rw [List.getD_eq_getElem?_getD, hy]
  rfl

theorem perCluster_weight (c : HCfg ℝ) (Xw : Mat ℝ) (w mn mx : List ℝ) (m : List Nat) (y : List ℝ × Mat ℝ × ℝ)
    (h : perCluster c Xw w mn mx m = some y) : y.2.2 = (m.map fun i => w.getD i 0).sum := by
  unfold perCluster at h
  split at h
  · rename_i data wts hd hwt
    rw [← gather_eq_map w m wts 0 hwt, ← ScReal.sum_def]
    split at h
    · cases h
    · split at h
      · simp only [Option.map_eq_some_iff] at h
        obtain ⟨cv, _, rfl⟩ := h
        rfl
      · cases h
        rfl
  · cases h

theorem partition_sum {n : Nat} {clusters : List (List Nat)} (h : IsPartition n clusters) (g : ℕ → ℝ) :
    (clusters.map fun m => (m.map g).sum).sum = ((List.range n).map g).sum := by
  rw [← (h.map g).sum_eq, List.map_flatten, List.sum_flatten, List.map_map]
  rfl

/-- **`cluster_weights_` is a probability vector**: the clusters partition the training indices, so the
    per-cluster weight sums add up to the total weight -/
theorem C15_hfit_cluster_weights_simplex (c : HCfg ℝ) (X : Mat ℝ) (w : List ℝ) (f : HFitOut ℝ)
    (h : hfit c X w = some f) (hw0 : ∀ x ∈ w, 0 ≤ x) (hpos : 0 < Sc.sum w) (hlen : w.length = X.length) :
    (∀ p ∈ f.weights, 0 ≤ p) ∧ Sc.sum f.weights = 1 := by
  have hpart := C15_hfit_partition c X w f h
  obtain ⟨mn, mx, ps, hf⟩ := hfit_some c X w f h
  have hS := mapM_map_eq (of_gmm hf.params) (p := (·.2.2)) fun m _ y hy => perCluster_weight c _ w mn mx m y hy
  have hsum : (ps.map (·.2.2)).sum = w.sum := by
    rw [hS, partition_sum hpart, ← hlen, sum_range_getD]
  have key : f.weights = normalise (ps.map (·.2.2)) := by
    simp only [hf.weights, normalise, ScReal.sum_def, hsum, List.map_map]
    rfl
  rw [key]
  refine normalise_simplex _ ?_ (by rw [hsum, ← ScReal.sum_def]; exact hpos)
  rw [hS]
  intro x hx
  obtain ⟨m, _, rfl⟩ := List.mem_map.mp hx
  refine List.sum_nonneg fun y hy => ?_
  obtain ⟨i, _, rfl⟩ := List.mem_map.mp hy
  rw [List.getD_eq_getElem?_getD]
  cases hi : w[i]? with
  | none => exact le_rfl
  | some y => exact hw0 y (List.mem_of_getElem? hi)

/-! ## examples -/

/-- `np.argmax`/`np.argmin` on a concrete row: first maximum / first minimum -/
example : npArgmax (fun a b : Nat => decide (a ≤ b)) (fun _ => false) [3, 7, 7, 1] = some 1 := by decide
example : npArgmin (fun a b : Nat => decide (a ≤ b)) (fun _ => false) [3, 7, 1, 1] = some 2 := by decide
/-- the first NaN (here `none`) wins outright, as in numpy -/
example : npArgmax (fun a b : Option Nat => match a, b with | some x, some y => decide (x ≤ y) | _, _ => false)
    (fun a => a.isNone) [some 3, none, some 9, none] = some 1 := by decide
example : npArgmax (fun a b : Nat => decide (a ≤ b)) (fun _ => false) ([] : List Nat) = none := by decide

/-- numpy broadcasting of a `1 × 2` array against `2 × 2`, the diagonal of a `2 × 2`, a failing shape -/
example : bcast 2 [[1, 2]] = some [[1, 2], [1, 2]] := by decide
example : bcast 2 [[1], [2]] = some [[1, 1], [2, 2]] := by decide
example : bcast 2 [[1, 2, 3]] = (none : Option (Mat Nat)) := by decide
example : diag2 [[1, 2], [3, 4]] = [1, 4] := by decide
example : diag2 [[1, 2]] = [1] := by decide
example : vecPlusEye (1 : ℝ) [2, 3] = [[3, 3], [2, 4]] := by
  show [[(2 : ℝ) + 1, 3], [2, 3 + 1]] = _
  norm_num

example : softmaxRow ([0, 0] : List ℝ) = [1 / 2, 1 / 2] := by
  rw [softmaxRow_cons, lseShift_eq]
  simp [rowMax, Sc.sum, ScReal.max_def]
  norm_num [Real.exp_neg, Real.exp_log]

/-- a concrete configuration at `ℝ` (three features, `min_points = 5`, one pass allowed) -/
noncomputable def cEx : HCfg ℝ :=
  { sing := fun _ => false, diagT := false, normalize := false, tiny := 0, eps := 1 / 10 ^ 10, reg := 1 / 10 ^ 6,
    tol := 1 / 10 ^ 3, gmmMaxIter := 10, nInit := 1, maxIterations := 1, minPoints := some 5, modifier := 1, d := 3,
    tape := [], regP := 1 / 10 ^ 6, epsD := 1 / 10 ^ 8 }

/-- the oracle on a cluster whose indices are out of range (the Python raises): the default labels, which are `LabelsOK` -/
example : (entryD cEx [] [] 1 0 [4, 7]).childLabels = [0, 0] := rfl
example : LabelsOK [4, 7] (entryD cEx [] [] 1 0 [4, 7]).childLabels := C15_entryD_labelsOK cEx [] [] 1 0 [4, 7]

/-- a fitted object with two clusters: the hypotheses of `C15_hpredict_range` / `C15_hpredictProba_simplex` hold -/
noncomputable def fEx : HFitOut ℝ :=
  { clusters := [[0, 2], [1]], labels := [some 0, some 1, some 0], centers := [[0, 0, 0], [3, 4, 0]],
    covs := [scaledEye 3 1, scaledEye 3 1], weights := [2 / 3, 1 / 3], dataMin := [], dataMax := [] }

example (ready : Bool) (Xq : Mat ℝ) :
    (hpredict cEx fEx ready Xq).length = Xq.length ∧ ∀ l ∈ hpredict cEx fEx ready Xq, ∃ k, l = some k ∧ k < 2 :=
  C15_hpredict_range cEx fEx ready Xq 2 rfl rfl rfl (Nat.le_succ 1)

example (ready : Bool) (Xq : Mat ℝ) :
    ∀ row ∈ hpredictProba cEx fEx ready Xq, (∀ p ∈ row, 0 ≤ p) ∧ Sc.sum row = 1 := by
  have heps : (0 : ℝ) < 1 / 10 ^ 8 := by norm_num
  exact C15_hpredictProba_simplex cEx fEx ready Xq 2 rfl rfl rfl (Nat.le_succ 1) heps

/-- `hfit` at `ℝ` on two points in three dimensions (fewer points than `min_points`: no split; fewer than features:
    the `np.mean` / `np.eye` branch): it succeeds, so the hypotheses of `C15_hfit_cluster_weights_simplex` are met -/
example : ∃ f, hfit cEx [[0, 0, 0], [3, 4, 0]] [1, 1] = some f ∧ f.clusters = [[0, 1]] ∧
    ((∀ p ∈ f.weights, 0 ≤ p) ∧ Sc.sum f.weights = 1) := by
  refine ⟨_, rfl, rfl, ?_⟩
  exact C15_hfit_cluster_weights_simplex cEx [[0, 0, 0], [3, 4, 0]] [1, 1] _ rfl (by simp)
    (by norm_num [ScReal.sum_def]) rfl

/-! ### the whole pipeline evaluated on a toy scalar instance
  The theorems of `section Generic` hold for every `ScT` instance.  To show that their hypotheses (`fit … = some o`,
  `hfit … = some f`) are met by a run that really splits, the kernel evaluates the model on `Rat` with crude stand-ins for
  `exp`/`log`/`sqrt` (a test fixture, not a claim about reals). -/

@[reducible] def toyScT : ScT Rat where
  exp := fun x => if x < -1 then 1 / 4 else if x < 0 then 1 / 2 else 1
  log := fun x => x - 1
  sqrt := fun x => (x + 1) / 2

attribute [local instance] toyScT

def cQ : HCfg Rat :=
  { sing := fun _ => false, diagT := true, normalize := false, tiny := 0, eps := 1 / 1024, reg := 1 / 64,
    tol := 1 / 8, gmmMaxIter := 2, nInit := 1, maxIterations := 2, minPoints := some 1, modifier := -100, d := 1,
    tape := [1 / 4, 3 / 4, 1 / 2, 1 / 2], regP := 1 / 64, epsD := 1 / 256 }
def XQ : Mat Rat := [[0], [1], [8], [9]]
def wQ : List Rat := [1, 1, 1, 1]

theorem exQ_fit : (fit (gmmCfg cQ 2) XQ wQ cQ.tape).map (fun o => (o.params.weights, o.nIter, o.converged))
    = some ([1 / 2, 1 / 2], 2, false) := by decide +kernel

theorem exQ_entry : (entry? cQ XQ wQ [0, 1, 2, 3]).map (fun e => e.childLabels) = some [0, 0, 1, 1] := by
  decide +kernel

theorem exQ_hfit : (hfit cQ XQ wQ).map (fun f => (f.clusters, f.labels, f.weights))
    = some ([[2, 3], [0], [1]], [some 1, some 2, some 0, some 0], [1 / 2, 1 / 4, 1 / 4]) := by decide +kernel

/-- a two-component fit that succeeds: `fit_shape` / `C15_fit_iter_bounds` apply (`n_iter_ = max_iter = 2`, not converged) -/
example : ∃ o, fit (gmmCfg cQ 2) XQ wQ cQ.tape = some o ∧ o.params.weights.length = 2 ∧ o.nIter = 2 ∧
    (1 ≤ o.nIter ∧ o.nIter ≤ (gmmCfg cQ 2).maxIter ∧ o.converged = decide (o.nIter < (gmmCfg cQ 2).maxIter)) := by
  obtain ⟨o, ho, h⟩ := Option.map_eq_some_iff.mp exQ_fit
  exact ⟨o, ho, (fit_shape _ _ _ _ o ho).1, congrArg (·.2.1) h, C15_fit_iter_bounds _ _ _ _ o ho⟩

/-- the oracle on the root cluster of that run: real labels from the child mixture's `predict` -/
example : (entryD cQ XQ wQ 1 0 [0, 1, 2, 3]).childLabels = [0, 0, 1, 1] ∧
    LabelsOK [0, 1, 2, 3] (entryD cQ XQ wQ 1 0 [0, 1, 2, 3]).childLabels :=
  ⟨entryD_childLabels cQ XQ wQ 1 0 _ _ exQ_entry, C15_entryD_labelsOK cQ XQ wQ 1 0 [0, 1, 2, 3]⟩

/-- a whole hierarchical fit that splits twice (three clusters): every clause about `hfit` applies to it -/
example : ∃ f, hfit cQ XQ wQ = some f ∧ f.clusters = [[2, 3], [0], [1]] ∧
    f.labels = [some 1, some 2, some 0, some 0] ∧ IsPartition XQ.length f.clusters ∧
    (1 ≤ f.clusters.length ∧ f.clusters.length ≤ cQ.maxIterations + 1) ∧
    (f.centers.length = f.clusters.length ∧ f.covs.length = f.clusters.length ∧
      f.weights.length = f.clusters.length) ∧
    (∀ Xq : Mat Rat, ∀ l ∈ hpredict cQ f true Xq, ∃ k, l = some k ∧ k < f.clusters.length) := by
  obtain ⟨f, hf, h⟩ := Option.map_eq_some_iff.mp exQ_hfit
  exact ⟨f, hf, congrArg (·.1) h, congrArg (·.2.1) h, C15_hfit_partition _ _ _ f hf, C15_hfit_cap _ _ _ f hf,
    C15_hfit_shapes _ _ _ f hf, fun Xq => (C15_hfit_predict_range _ _ _ f hf true Xq).2⟩

end Props.C15
