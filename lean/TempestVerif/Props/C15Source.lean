import TempestVerif.Model.HFit
import TempestVerif.Model.ClusterLits
import TempestVerif.Gen.ClusterSrc
/-
  C15 — the executable models `Model.EM`, `Model.GMM`, `Model.HGMM`, `Model.HFit` are built from the expressions that are in
  the `tempest/cluster.py` of the checked-out /repo.

  `Gen/ClusterSrc.lean` is regenerated from the source on every run of the check (translator G18): the numerical kernels of
  `_m_step`, `_compute_covariances`, `_e_step`, `_initialize_parameters`, `_compute_lower_bound`, `predict`, `bic`, `fit`, and of
  `HierarchicalGaussianMixture.fit` / `_compute_bic_tolerance` / `_compute_effective_sample_size`, compiled to terms over
  `Sc α` / `ScT α` and the numpy vocabulary `Model/NpSrc.lean` — every operator, operand order, comparison and literal
  (`1e-10`, `-0.5`, `1e-3`, `1e-6`, `1000`, `2 * n_features`, `D + D * (D + 1) / 2 + 1`, `iteration + 1` …) — plus the statement
  skeletons.  The theorems hold for EVERY scalar type, `Float` (what the driver executes) included, by `rfl` or by unfolding
  plus a case split on a list / an option (never by an arithmetic law); the one exception, `C15_src_softRow_finite`, states its
  assumption (associativity of `max`).  A change of a literal, an operator, an operand order or a test in the source changes
  the generated term and breaks the corresponding theorem; a change of control flow changes a skeleton table.

  The literal parameters of the models (`eps`, `reg`, `tol`, `maxIter`) are instantiated with `Model.ClusterLits`, which the
  driver prints (`lits.F`) and suite lits-X compares with what `harness/c15.py` sends.
-/
namespace Props.C15.Src
open Model.EM Model.GMM Model.HGMM Model.HFit
namespace L
export Model.ClusterLits (eps regCovar tol maxIter nInit)
end L

section sc
variable {α : Type} [Sc α]

theorem C15_src_weightedResp (R : List (List α)) (s : List α) :
    weightedResp R s = Gen.ClusterSrc.mstep_weighted_resp R s := rfl

theorem C15_src_mstepWeights (K : Nat) (R : List (List α)) (s : List α) :
    mstepWeights K R s = Gen.ClusterSrc.mstep_weights R s K := rfl

theorem C15_src_mstepMeans (tiny : α) (d K : Nat) (X R : List (List α)) (s : List α) :
    mstepMeans tiny d K X R s = Gen.ClusterSrc.mstep_means X R s d tiny K := rfl

theorem C15_src_covFull (d : Nat) (X W : List (List α)) (m : List α) (k : Nat) :
    covFull L.eps d (col W k) (diffRows X m) = Gen.ClusterSrc.cov_full_k X W d k m := rfl

theorem C15_src_covDiag (d : Nat) (X W : List (List α)) (m : List α) (k : Nat) :
    covDiag L.eps d (col W k) (diffRows X m) = Gen.ClusterSrc.cov_diag_k X W d k m := rfl

theorem C15_src_mstep (tiny : α) (d K : Nat) (X R : List (List α)) (s : List α) :
    mstep tiny L.eps d K X R s =
      (let W := Gen.ClusterSrc.mstep_weighted_resp R s
       { weights := Gen.ClusterSrc.mstep_weights R s K
         means := Gen.ClusterSrc.mstep_means X R s d tiny K
         covFull := (List.range K).map fun k => Gen.ClusterSrc.cov_full_k X W d k (meanVec tiny d (col W k) X)
         covDiag := (List.range K).map fun k => Gen.ClusterSrc.cov_diag_k X W d k (meanVec tiny d (col W k) X) }) := rfl

theorem C15_src_means_row (tiny : α) (d K : Nat) (X R : List (List α)) (s : List α) (k : Nat) (hk : k < K) :
    (Gen.ClusterSrc.mstep_means X R s d tiny K)[k]? = some (meanVec tiny d (col (weightedResp R s) k) X) := by
  simp [Gen.ClusterSrc.mstep_means, Np.tab2, meanVec, wmean, weightedResp, hk]

end sc

section sct
variable {α : Type} [ScT α]

theorem C15_src_initNormalise (Lr : List (List α)) : initNormalise Lr = Gen.ClusterSrc.init_normalise Lr := by
  unfold initNormalise Gen.ClusterSrc.init_normalise
  congr 1; funext row; cases row <;> rfl

theorem C15_src_logResp (X cs : Mat α) :
    logResp X cs = X.map fun x => cs.map fun c => Gen.ClusterSrc.init_logresp_entry c x := rfl

theorem C15_src_pickIdx (p : List α) (u : α) :
    pickIdx p u = Gen.ClusterSrc.init_draw_first p u ∧ pickIdx p u = Gen.ClusterSrc.init_draw_next p u := ⟨rfl, rfl⟩

theorem C15_src_centres_succ (X : Mat α) (s : List α) (K : Nat) (u : α) (tape : List α) :
    centres X s (K + 1) (u :: tape) =
      match Gen.ClusterSrc.init_draw_first s u with
      | none => none
      | some i =>
        match X[i]? with
        | none => none
        | some c0 => (moreCentres X s c0 K tape [] [i]).map fun r => (c0 :: r.1, r.2.1, r.2.2) := rfl

theorem C15_src_moreCentres_succ (X : Mat α) (s c0 : List α) (k : Nat) (u : α) (tape : List α) (cs : Mat α) (picks : List Nat) :
    moreCentres X s c0 (k + 1) (u :: tape) cs picks =
      match Gen.ClusterSrc.init_draw_next (Gen.ClusterSrc.init_next_mass X s c0 cs) u with
      | none => none
      | some i =>
        match X[i]? with
        | none => none
        | some c => moreCentres X s c0 k tape (cs ++ [c]) (picks ++ [i]) := rfl

theorem C15_src_initFit (c : Cfg α) (X : Mat α) (s tape : List α) :
    initFit c X s tape = (centres X s c.K tape).map fun r =>
      (mstep c.tiny c.eps c.d c.K X
         (Gen.ClusterSrc.init_normalise (X.map fun x => r.1.map fun ctr => Gen.ClusterSrc.init_logresp_entry ctr x)) s, r.2.1, r.2.2) := by
  simp only [initFit, initParams, C15_src_initNormalise, C15_src_logResp]

theorem C15_src_estep_entry (w t : α) :
    (logW w).map (fun lw => Sc.add lw t) = if Sc.lt Sc.zero w then some (Gen.ClusterSrc.estep_logresp t w) else none := by
  unfold logW; split <;> rfl

theorem C15_src_estepCol (sing : Mat α → Bool) (reg : α) (w : α) (m : List α) (C X : Mat α) :
    estepCol sing reg m.length w m C X =
      (Np.tryExcept (logpdfCol sing m.length (Gen.ClusterSrc.estep_cov_try C reg) m X)
                    (logpdfCol sing m.length (Gen.ClusterSrc.estep_cov_except reg m) m X)).map
        fun l => l.map fun t => if Sc.lt Sc.zero w then some (Gen.ClusterSrc.estep_logresp t w) else none := by
  simp only [estepCol, Np.tryExcept, Gen.ClusterSrc.estep_cov_try, Gen.ClusterSrc.estep_cov_except, Np.addScaledEye, Np.scaledEye,
    C15_src_estep_entry]
  cases logpdfCol sing m.length (addDiag reg C) m X <;> rfl


/-! ### `_e_step`: the normalisation of one row -/

theorem max_foldl_assoc (hassoc : ∀ a b c : α, Sc.max (Sc.max a b) c = Sc.max a (Sc.max b c)) (x : α) :
    ∀ (ys : List α) (y : α), Sc.max x (ys.foldl Sc.max y) = ys.foldl Sc.max (Sc.max x y)
  | [], _ => rfl
  | z :: zs, y => by
    simp only [List.foldl_cons]
    rw [max_foldl_assoc hassoc x zs (Sc.max y z), hassoc]

theorem rowMaxO_some (hassoc : ∀ a b c : α, Sc.max (Sc.max a b) c = Sc.max a (Sc.max b c)) :
    ∀ (xs : List α) (x : α), rowMaxO ((x :: xs).map some) = some (Np.max1 (x :: xs))
  | [], _ => rfl
  | y :: ys, x => by
    have ih := rowMaxO_some hassoc ys y
    have step : rowMaxO ((x :: y :: ys).map some) =
        match rowMaxO ((y :: ys).map some) with | none => some x | some m => some (Sc.max x m) := rfl
    rw [step, ih]
    show some (Sc.max x (ys.foldl Sc.max y)) = some (ys.foldl Sc.max (Sc.max x y))
    rw [max_foldl_assoc hassoc]

/-- a row of finite log-responsibilities: the model's `softRow` is the source's three statements, provided `max` is
    associative on the scalar type (true of `ℝ`, `ℚ`; of IEEE doubles up to the sign of a zero, NaN-free) -/
theorem C15_src_softRow_finite (hassoc : ∀ a b c : α, Sc.max (Sc.max a b) c = Sc.max a (Sc.max b c)) (x : α) (xs : List α) :
    (softRow ((x :: xs).map some)).map (fun r => [r]) = some (Gen.ClusterSrc.estep_normalise [x :: xs]) := by
  unfold softRow
  rw [rowMaxO_some hassoc]
  simp [Gen.ClusterSrc.estep_normalise, List.map_map, Function.comp_def]


/-! ### `_compute_lower_bound`, `predict`, `bic` -/

theorem C15_src_lbCols (sing : Mat α → Bool) (reg : α) (d : Nat) (ws : List α) (ms : Mat α) (Cs : List (Mat α)) (X : Mat α) :
    lbCols sing reg d ws ms Cs X = (List.zip ws (List.zip ms Cs)).filterMap fun t =>
      (logpdfCol sing d (Gen.ClusterSrc.lb_cov t.2.2 reg) t.2.1 X).map fun l => l.map fun u => Gen.ClusterSrc.lb_term u t.1 := rfl

theorem C15_src_lowerBound (sing : Mat α → Bool) (reg : α) (d : Nat) (ws : List α) (ms : Mat α) (Cs : List (Mat α)) (X : Mat α)
    (s : List α) :
    lowerBound sing reg L.eps d ws ms Cs X s =
      Gen.ClusterSrc.lb_total s ((List.range X.length).map fun i =>
        Gen.ClusterSrc.lb_log (Sc.sum (col (lbCols sing reg d ws ms Cs X) i))) := rfl

theorem C15_src_predictCol (sing : Mat α → Bool) (reg : α) (d n : Nat) (w : α) (m : List α) (C X : Mat α) :
    predictCol sing reg L.eps d n w m C X =
      match logpdfCol sing d (Gen.ClusterSrc.predict_cov C reg) m X with
      | some l => l.map fun t => some (Gen.ClusterSrc.predict_entry t w)
      | none => List.replicate n none := by
  simp only [predictCol, Gen.ClusterSrc.predict_cov, Np.addScaledEye]
  cases logpdfCol sing d (addDiag reg C) m X <;> rfl

theorem C15_src_nParameters_full (K d : Nat) :
    (nParameters false K d : α) = Gen.ClusterSrc.bic_n_parameters d (Gen.ClusterSrc.bic_cov_params_full d K) K := rfl

theorem C15_src_bic (c : Cfg α) (p : MStep α) (X : Mat α) :
    bic c p X =
      Gen.ClusterSrc.bic_value X.length (nParameters c.diagT c.K c.d)
        (Gen.ClusterSrc.bic_log_likelihood X.length
          (lowerBound c.sing c.reg c.eps c.d p.weights p.means (covMats c.diagT p) X
            (List.replicate X.length (Sc.div Sc.one (Sc.ofNat X.length))))) := rfl

/-! ### `fit`: EM loop, restarts, result -/

theorem C15_src_normWeights (w : List α) : normWeights w = Gen.ClusterSrc.fit_norm_weights w := rfl

theorem C15_src_converged (tol new l : α) :
    converged tol new (some l) = Gen.ClusterSrc.fit_conv_test l new tol ∧ converged tol new none = false := ⟨rfl, rfl⟩

theorem C15_src_better (l b : α) : better (some l) (some b) = Gen.ClusterSrc.fit_best_test b l := rfl

theorem C15_src_emLoop_succ (c : Cfg α) (X : Mat α) (s : List α) (fuel it : Nat) (lb : Option α) (p : MStep α) :
    emLoop c X s (fuel + 1) it lb p =
      match emIter c X s p with
      | none => none
      | some (p', new) =>
        if (match lb with | none => false | some l => Gen.ClusterSrc.fit_conv_test l new c.tol) then some ⟨p', lb, it⟩
        else if fuel = 0 then some ⟨p', some new, it⟩
        else emLoop c X s fuel (it + 1) (some new) p' := by
  cases lb <;> rfl

theorem C15_src_fitInits_succ (c : Cfg α) (X : Mat α) (s : List α) (n : Nat) (tape : List α) (best : Option (Model.GMM.Best α))
    (picks : List (List Nat)) :
    fitInits c X s (n + 1) tape best picks =
      match initFit c X s tape with
      | none => none
      | some (p0, pk, tape') =>
        match emLoop c X s c.maxIter 0 none p0 with
        | none => none
        | some o =>
          let best' := if better o.lb (best.map (·.lb)) then
              (match o.lb with | some l => some ⟨o.params, Gen.ClusterSrc.fit_n_iter o.iter, l⟩ | none => best) else best
          fitInits c X s n tape' best' (picks ++ [pk]) := rfl

theorem C15_src_fit (c : Cfg α) (X : Mat α) (w tape : List α) :
    fit c X w tape =
      match fitInits c X (Gen.ClusterSrc.fit_norm_weights w) c.nInit tape none [] with
      | none => none
      | some (none, _) => none
      | some (some b, picks) => some ⟨b.params, b.nIter, Gen.ClusterSrc.fit_converged c.maxIter b.nIter, b.lb, picks⟩ := rfl

theorem C15_src_defaults :
    (L.tol : α) = Gen.ClusterSrc.default_tol ∧ (L.regCovar : α) = Gen.ClusterSrc.default_reg_covar ∧
    L.maxIter = Gen.ClusterSrc.default_max_iter ∧ L.nInit = Gen.ClusterSrc.default_n_init := ⟨rfl, rfl, rfl, rfl⟩

end sct

section hsc
variable {α : Type} [Sc α]

theorem C15_src_beats (imp thr : α) (b : Model.HGMM.Best α) :
    (Sc.lt thr imp && beats imp (some b)) = Gen.ClusterSrc.hfit_accept_test b.improvement thr imp ∧
    (Sc.lt thr imp && beats imp (none : Option (Model.HGMM.Best α))) = (Sc.gt imp thr && true) := ⟨rfl, rfl⟩

theorem C15_src_pick (members labels : List Nat) :
    pick members labels 0 = Gen.ClusterSrc.hfit_child1 members labels ∧
    pick members labels 1 = Gen.ClusterSrc.hfit_child2 members labels := ⟨rfl, rfl⟩

theorem C15_src_examine (oracle : Nat → List Nat → Entry α) (minPts idx : Nat) (c : List Nat) (best : Option (Model.HGMM.Best α)) :
    examine oracle minPts idx c best =
      if Gen.ClusterSrc.hfit_skip_test minPts c.length then best else
      let e := oracle idx c
      if Sc.lt e.threshold e.improvement && beats e.improvement best then
        let c1 := Gen.ClusterSrc.hfit_child1 c e.childLabels
        let c2 := Gen.ClusterSrc.hfit_child2 c e.childLabels
        if Gen.ClusterSrc.hfit_size_test minPts c1.length c2.length then some ⟨e.improvement, c1, c2, idx⟩ else best
      else best := by
  unfold examine Gen.ClusterSrc.hfit_skip_test
  by_cases h1 : c.length < minPts
  · simp only [h1, decide_true, if_true]
  · simp only [h1, decide_false, if_false, Bool.false_eq_true]
    rfl

omit [Sc α] in
theorem C15_src_applySplit (clusters : List (List Nat)) (b : Model.HGMM.Best α) :
    applySplit clusters b = Gen.ClusterSrc.hfit_apply_split clusters b.parentIdx b.child1 b.child2 := rfl

/-- `while iteration < self.max_iterations: iteration += 1; …` — the fuel of the model's loop is `max_iterations - iteration` -/
theorem C15_src_loop (oracle : Nat → Nat → List Nat → Entry α) (minPts maxIt it : Nat) (cl : List (List Nat)) :
    loop oracle minPts (maxIt - it) it cl =
      if Gen.ClusterSrc.hfit_while_test it maxIt then
        match scan (oracle (Gen.ClusterSrc.hfit_iter_next it)) minPts 0 cl none with
        | none => cl
        | some b => loop oracle minPts (maxIt - Gen.ClusterSrc.hfit_iter_next it) (Gen.ClusterSrc.hfit_iter_next it) (applySplit cl b)
      else cl := by
  unfold Gen.ClusterSrc.hfit_while_test Gen.ClusterSrc.hfit_iter_next
  by_cases h : it < maxIt
  · obtain ⟨f, hf⟩ := Nat.exists_eq_succ_of_ne_zero (Nat.sub_ne_zero_of_lt h)
    have hf' : maxIt - (it + 1) = f := by rw [Nat.sub_succ, hf]; rfl
    simp only [h, decide_true, if_true, hf, hf']
    rfl
  · have : maxIt - it = 0 := Nat.sub_eq_zero_of_le (Nat.le_of_not_lt h)
    simp only [h, decide_false, this]
    rfl

theorem C15_src_fitClusters (oracle : Nat → Nat → List Nat → Entry α) (n minPts maxIt : Nat) :
    fitClusters oracle n minPts maxIt = loop oracle minPts (maxIt - 0) 0 (Gen.ClusterSrc.hfit_initial_clusters n) := rfl
end hsc

section hsct
variable {α : Type} [ScT α]

theorem C15_src_essOf (w : List α) : essOf w = Gen.ClusterSrc.hess w := by
  simp only [essOf, Gen.ClusterSrc.hess, List.map_map, Function.comp_def]
  rfl

theorem C15_src_threshold (modifier : α) (d : Nat) (w : List α) :
    threshold modifier d w = Gen.ClusterSrc.hfit_threshold (Gen.ClusterSrc.hbic_tolerance d (Gen.ClusterSrc.hess w)) modifier := by
  rw [← C15_src_essOf]; rfl

omit [ScT α] in
theorem C15_src_minPts (c : HCfg α) : minPts c = Gen.ClusterSrc.hfit_min_points c.d c.minPoints := by
  unfold minPts Gen.ClusterSrc.hfit_min_points; cases c.minPoints <;> rfl

theorem C15_src_entry (c : HCfg α) (X : Mat α) (w : List α) (members : List Nat) :
    entry? c X w members =
      match gather X members, gather w members with
      | some data, some wts =>
        match fit (gmmCfg c 1) data wts c.tape, fit (gmmCfg c 2) data wts c.tape with
        | some par, some chi =>
          match mapOpt id (predict (gmmCfg c 2) chi.params data) with
          | some labels =>
            some ⟨Gen.ClusterSrc.hfit_improvement (bic (gmmCfg c 1) par.params data) (bic (gmmCfg c 2) chi.params data),
                  threshold c.modifier c.d wts, labels⟩
          | none => none
        | _, _ => none
      | _, _ => none := rfl

theorem C15_src_clusterParams (c : HCfg α) (data : Mat α) (wts : List α) :
    clusterParams c data wts =
      if Gen.ClusterSrc.hfit_final_test c.d data.length then
        match fit (gmmCfg c 1) data wts c.tape with
        | none => none
        | some g =>
          match g.params.means with
          | [] => none
          | m0 :: _ =>
            if c.diagT then some (m0, g.params.covDiag)
            else match g.params.covFull with
              | [] => none
              | c0 :: _ => some (m0, c0)
      else some (colMean c.d data, scaledEye c.d Sc.one) := by
  unfold clusterParams Gen.ClusterSrc.hfit_final_test
  by_cases h1 : c.d ≤ data.length
  · simp only [h1, decide_true, if_true]
    rfl
  · simp only [h1, decide_false, if_false, Bool.false_eq_true]
end hsct

/-! ### the statement skeletons the models were written against

  `path: statement` in program order (`t`/`e` = then/else block, `x0` = first except clause); locals are renamed `v0, v1, …` in order
  of first binding (parameters keep their names), docstrings, imports and `if self.verbose:` blocks are dropped. -/

/-- `_m_step`: the three computed arrays, the call `self._compute_covariances(X, means, weighted_resp)` (the model's `mstep` hands the covariance kernels the NEW means and the weighted responsibilities), and the order of the returned triple -/
def expected_mstepSkeleton : List String :=
  ["0: v0, v1 = X.shape",
   "1: v2 = responsibilities * sample_weight[:, np.newaxis]",
   "2: v3 = np.sum(v2, axis=0)",
   "3: v3 /= np.sum(v3)",
   "4: v4 = np.dot(v2.T, X) / np.maximum(np.sum(v2, axis=0)[:, np.newaxis], np.finfo(float).tiny)",
   "5: v5 = self._compute_covariances(X, v4, v2)",
   "6: return (v3, v4, v5)"]

theorem C15_src_mstepSkeleton : Gen.ClusterSrc.mstepSkeleton = expected_mstepSkeleton := rfl

/-- the 'full' branch of `_compute_covariances`: one slot per component, `range(self.n_components)` -/
def expected_covFullSkeleton : List String :=
  ["0: v2 = np.zeros((self.n_components, v1, v1))",
   "1: for v3 in range(self.n_components)",
   "1.0: v4 = X - means[v3]",
   "1.1: v2[v3] = np.dot(weighted_resp[:, v3] * v4.T, v4)",
   "1.2: v2[v3] /= np.sum(weighted_resp[:, v3]) + 1e-10"]

theorem C15_src_covFullSkeleton : Gen.ClusterSrc.covFullSkeleton = expected_covFullSkeleton := rfl

/-- the 'diag' branch -/
def expected_covDiagSkeleton : List String :=
  ["0: v2 = np.zeros((self.n_components, v1))",
   "1: for v3 in range(self.n_components)",
   "1.0: v4 = X - means[v3]",
   "1.1: v2[v3] = np.sum(weighted_resp[:, v3, np.newaxis] * v4 ** 2, axis=0)",
   "1.2: v2[v3] /= np.sum(weighted_resp[:, v3]) + 1e-10"]

theorem C15_src_covDiagSkeleton : Gen.ClusterSrc.covDiagSkeleton = expected_covDiagSkeleton := rfl

/-- `_get_covariance`: `covariances[k]` ('full') / `np.diag(covariances[k])` ('diag') = `Model.GMM.covMats` -/
def expected_getCovarianceSkeleton : List String :=
  ["0: if self.covariance_type == 'full'",
   "0t.0: return covariances[k]",
   "0e.0: if self.covariance_type == 'tied'",
   "0e.0t.0: return covariances",
   "0e.0e.0: if self.covariance_type == 'diag'",
   "0e.0e.0t.0: return np.diag(covariances[k])",
   "0e.0e.0e.0: if self.covariance_type == 'spherical'",
   "0e.0e.0e.0t.0: v0 = self.means_.shape[1]",
   "0e.0e.0e.0t.1: return np.eye(v0) * covariances[k]"]

theorem C15_src_getCovarianceSkeleton : Gen.ClusterSrc.getCovarianceSkeleton = expected_getCovarianceSkeleton := rfl

/-- `_e_step`: which covariance each `logpdf` call gets, the `except` clause, the column written, the normalisation after the loop -/
def expected_estepSkeleton : List String :=
  ["0: v0 = X.shape[0]",
   "1: v1 = np.zeros((v0, self.n_components))",
   "2: for v2 in range(self.n_components)",
   "2.0: v3 = self._get_covariance(covariances, v2)",
   "2.1: try",
   "2.1.0: v4 = multivariate_normal.logpdf(X, mean=means[v2], cov=v3 + np.eye(v3.shape[0]) * self.reg_covar)",
   "2.1x0: except (np.linalg.LinAlgError, ValueError)",
   "2.1x0.0: v4 = multivariate_normal.logpdf(X, mean=means[v2], cov=np.eye(len(means[v2])) * self.reg_covar)",
   "2.2: with np.errstate(divide='ignore')",
   "2.2.0: v1[:, v2] = np.log(weights[v2]) + v4",
   "3: v1 -= np.max(v1, axis=1, keepdims=True)",
   "4: v5 = np.exp(v1)",
   "5: v5 /= np.sum(v5, axis=1, keepdims=True)",
   "6: return v5"]

theorem C15_src_estepSkeleton : Gen.ClusterSrc.estepSkeleton = expected_estepSkeleton := rfl

/-- `_initialize_parameters`: first centre from `sample_weight`, later centres from the nearest-centre distances (`range(1, K)`, `range(k)`), the soft assignment and the final `_m_step` call -/
def expected_initSkeleton : List String :=
  ["0: v0, v1 = X.shape",
   "1: v2 = np.zeros((self.n_components, v1))",
   "2: v3 = np.cumsum(sample_weight)",
   "3: v4 = self._rng.rand() * v3[-1]",
   "4: v2[0] = X[np.searchsorted(v3, v4)]",
   "5: for v5 in range(1, self.n_components)",
   "5.0: v6 = np.min([np.sum((X - v2[v7]) ** 2, axis=1) for v7 in range(v5)], axis=0)",
   "5.1: v8 = v6 * sample_weight",
   "5.2: v8 /= np.sum(v8)",
   "5.3: v3 = np.cumsum(v8)",
   "5.4: v4 = self._rng.rand() * v3[-1]",
   "5.5: v2[v5] = X[np.searchsorted(v3, v4)]",
   "6: v9 = np.zeros((v0, self.n_components))",
   "7: for v5 in range(self.n_components)",
   "7.0: v6 = np.sum((X - v2[v5]) ** 2, axis=1)",
   "7.1: v9[:, v5] = -0.5 * v6",
   "8: v9 -= np.max(v9, axis=1, keepdims=True)",
   "9: v10 = np.exp(v9)",
   "10: v10 /= np.sum(v10, axis=1, keepdims=True)",
   "11: v11, v2, v12 = self._m_step(X, v10, sample_weight)",
   "12: return (v11, v2, v12)"]

theorem C15_src_initSkeleton : Gen.ClusterSrc.initSkeleton = expected_initSkeleton := rfl

/-- `_compute_lower_bound`: a refused component is skipped (`pass`), accumulation from zeros -/
def expected_lowerBoundSkeleton : List String :=
  ["0: v0 = X.shape[0]",
   "1: v1 = np.zeros(v0)",
   "2: for v2 in range(self.n_components)",
   "2.0: v3 = self._get_covariance(covariances, v2)",
   "2.1: try",
   "2.1.0: v4 = multivariate_normal.logpdf(X, mean=means[v2], cov=v3 + np.eye(v3.shape[0]) * self.reg_covar)",
   "2.1.1: v1 += weights[v2] * np.exp(v4)",
   "2.1x0: except (np.linalg.LinAlgError, ValueError)",
   "2.1x0.0: pass",
   "3: v1 = np.log(v1 + 1e-10)",
   "4: return np.sum(sample_weight * v1)"]

theorem C15_src_lowerBoundSkeleton : Gen.ClusterSrc.lowerBoundSkeleton = expected_lowerBoundSkeleton := rfl

/-- `GaussianMixture.predict`: a refused component gets the column `-inf`, `np.argmax(…, axis=1)` -/
def expected_predictSkeleton : List String :=
  ["0: if not isinstance(X, np.ndarray)",
   "0t.0: X = np.array(X)",
   "1: v0 = X.shape[0]",
   "2: v1 = np.zeros((v0, self.n_components))",
   "3: for v2 in range(self.n_components)",
   "3.0: v3 = self._get_covariance(self.covariances_, v2)",
   "3.1: try",
   "3.1.0: v1[:, v2] = np.log(self.weights_[v2] + 1e-10) + multivariate_normal.logpdf(X, mean=self.means_[v2], cov=v3 + np.eye(v3.shape[0]) * self.reg_covar)",
   "3.1x0: except (np.linalg.LinAlgError, ValueError)",
   "3.1x0.0: v1[:, v2] = -np.inf",
   "4: return np.argmax(v1, axis=1)"]

theorem C15_src_predictSkeleton : Gen.ClusterSrc.predictSkeleton = expected_predictSkeleton := rfl

/-- `bic`: the four parameter counts and the uniform weights `np.ones(n_samples) / n_samples` -/
def expected_bicSkeleton : List String :=
  ["0: v0, v1 = X.shape",
   "1: if self.covariance_type == 'full'",
   "1t.0: v2 = self.n_components * v1 * (v1 + 1) / 2",
   "1e.0: if self.covariance_type == 'tied'",
   "1e.0t.0: v2 = v1 * (v1 + 1) / 2",
   "1e.0e.0: if self.covariance_type == 'diag'",
   "1e.0e.0t.0: v2 = self.n_components * v1",
   "1e.0e.0e.0: if self.covariance_type == 'spherical'",
   "1e.0e.0e.0t.0: v2 = self.n_components",
   "2: v3 = self.n_components - 1 + self.n_components * v1 + v2",
   "3: v4 = self._compute_lower_bound(X, self.weights_, self.means_, self.covariances_, np.ones(v0) / v0) * v0",
   "4: return -2 * v4 + v3 * np.log(v0)"]

theorem C15_src_bicSkeleton : Gen.ClusterSrc.bicSkeleton = expected_bicSkeleton := rfl

/-- `GaussianMixture.fit`: `-np.inf` starts (`none` in the model), E-step / M-step / lower-bound order, `break` before `lower_bound = new_lower_bound`, what is kept of the best restart -/
def expected_fitSkeleton : List String :=
  ["0: if not isinstance(X, np.ndarray)",
   "0t.0: X = np.array(X)",
   "1: v0, v1 = X.shape",
   "2: if sample_weight is None",
   "2t.0: sample_weight = np.ones(v0)",
   "2e.0: sample_weight = np.asarray(sample_weight)",
   "2e.1: if sample_weight.shape[0] != v0",
   "2e.1t.0: raise ValueError('sample_weight must have the same length as X')",
   "3: sample_weight = sample_weight / np.sum(sample_weight)",
   "4: v2 = None",
   "5: v3 = -np.inf",
   "6: if self.random_state is not None",
   "6t.0: self._rng = np.random.RandomState(self.random_state)",
   "7: for v4 in range(self.n_init)",
   "7.0: v5, v6, v7 = self._initialize_parameters(X, sample_weight)",
   "7.1: v8 = -np.inf",
   "7.2: for v9 in range(self.max_iter)",
   "7.2.0: v10 = self._e_step(X, v5, v6, v7)",
   "7.2.1: v5, v6, v7 = self._m_step(X, v10, sample_weight)",
   "7.2.2: v11 = self._compute_lower_bound(X, v5, v6, v7, sample_weight)",
   "7.2.3: if v11 - v8 < self.tol",
   "7.2.3t.0: break",
   "7.2.4: v8 = v11",
   "7.3: if v8 > v3",
   "7.3t.0: v3 = v8",
   "7.3t.1: v2 = (v5, v6, v7, v9 + 1)",
   "8: self.weights_, self.means_, self.covariances_, self.n_iter_ = v2",
   "9: self.converged_ = self.n_iter_ < self.max_iter",
   "10: self.lower_bound_ = v3",
   "11: return self"]

theorem C15_src_fitSkeleton : Gen.ClusterSrc.fitSkeleton = expected_fitSkeleton := rfl

/-- `_compute_effective_sample_size` -/
def expected_essSkeleton : List String :=
  ["0: weights = np.asarray(weights)",
   "1: v0 = weights / np.sum(weights)",
   "2: return 1.0 / np.sum(v0 ** 2)"]

theorem C15_src_essSkeleton : Gen.ClusterSrc.essSkeleton = expected_essSkeleton := rfl

/-- `_compute_bic_tolerance` -/
def expected_bicToleranceSkeleton : List String :=
  ["0: v0 = n_features",
   "1: v1 = self._compute_effective_sample_size(weights)",
   "2: v2 = v0 + v0 * (v0 + 1) / 2 + 1",
   "3: return v2 * np.log(v1)"]

theorem C15_src_bicToleranceSkeleton : Gen.ClusterSrc.bicToleranceSkeleton = expected_bicToleranceSkeleton := rfl

/-- the base threshold is computed from the dimension and the cluster's OWN weights -/
def expected_hfitThresholdCall : List String :=
  ["v14 = self._compute_bic_tolerance(v1, v13)"]

theorem C15_src_hfitThresholdCall : Gen.ClusterSrc.hfitThresholdCall = expected_hfitThresholdCall := rfl

/-- keyword arguments of the three inner mixtures (parent: 1 component, child: 2, final: 1; all `random_state=42`, `n_init=self.n_init`) -/
def expected_hfitMixtures : List String :=
  ["n_components=1, covariance_type=self.covariance_type, n_init=self.n_init, random_state=42",
   "n_components=2, covariance_type=self.covariance_type, n_init=self.n_init, random_state=42",
   "n_components=1, covariance_type=self.covariance_type, n_init=self.n_init, random_state=42"]

theorem C15_src_hfitMixtures : Gen.ClusterSrc.hfitMixtures = expected_hfitMixtures := rfl

/-- `HierarchicalGaussianMixture.fit`: `-np.inf` / `None` starts of a pass, what an accepted split records, `break` when none was accepted, `pop` then `extend`, the final per-cluster fits and the label assembly -/
def expected_hfitSkeleton : List String :=
  ["0: if not isinstance(X, np.ndarray)",
   "0t.0: X = np.array(X)",
   "1: v0, v1 = X.shape",
   "2: if sample_weight is None",
   "2t.0: sample_weight = np.ones(v0)",
   "2e.0: sample_weight = np.asarray(sample_weight)",
   "2e.1: if sample_weight.shape[0] != v0",
   "2e.1t.0: raise ValueError('sample_weight must have the same length as X')",
   "3: if self.normalize",
   "3t.0: self._data_min = np.min(X, axis=0)",
   "3t.1: self._data_max = np.max(X, axis=0)",
   "3t.2: X = self._normalize_data(X)",
   "4: v2 = self.min_points if self.min_points is not None else 2 * v1",
   "5: v3 = [[v4 for v4 in range(v0)]]",
   "6: v5 = 0",
   "7: while v5 < self.max_iterations",
   "7.0: v5 += 1",
   "7.1: v6 = -np.inf",
   "7.2: v7 = None",
   "7.3: v8 = None",
   "7.4: v9 = None",
   "7.5: for (v10, v11) in enumerate(v3)",
   "7.5.0: if len(v11) < v2",
   "7.5.0t.0: continue",
   "7.5.1: v12 = X[v11]",
   "7.5.2: v13 = sample_weight[v11]",
   "7.5.3: v14 = self._compute_bic_tolerance(v1, v13)",
   "7.5.4: v15 = self.threshold_modifier * v14",
   "7.5.5: v16 = GaussianMixture(n_components=1, covariance_type=self.covariance_type, n_init=self.n_init, random_state=42)",
   "7.5.6: v16.fit(v12, sample_weight=v13)",
   "7.5.7: v17 = v16.bic(v12)",
   "7.5.8: v18 = GaussianMixture(n_components=2, covariance_type=self.covariance_type, n_init=self.n_init, random_state=42)",
   "7.5.9: v18.fit(v12, sample_weight=v13)",
   "7.5.10: v19 = v18.bic(v12)",
   "7.5.11: v20 = v17 - v19",
   "7.5.12: if v20 > v15 and v20 > v6",
   "7.5.12t.0: v21 = v18.predict(v12)",
   "7.5.12t.1: v22 = [v11[v4] for v4 in range(len(v11)) if v21[v4] == 0]",
   "7.5.12t.2: v23 = [v11[v4] for v4 in range(len(v11)) if v21[v4] == 1]",
   "7.5.12t.3: if len(v22) >= v2 and len(v23) >= v2",
   "7.5.12t.3t.0: v6 = v20",
   "7.5.12t.3t.1: v7 = (v22, v23)",
   "7.5.12t.3t.2: v8 = v10",
   "7.5.12t.3t.3: v9 = v15",
   "7.6: if v7 is None",
   "7.6t.0: break",
   "7.7: v3.pop(v8)",
   "7.8: v3.extend(v7)",
   "8: v21 = np.full(v0, -1, dtype=int)",
   "9: v24 = []",
   "10: v25 = []",
   "11: for (v26, v11) in enumerate(v3)",
   "11.0: v12 = X[v11]",
   "11.1: v13 = sample_weight[v11]",
   "11.2: if len(v12) >= v1",
   "11.2t.0: v27 = GaussianMixture(n_components=1, covariance_type=self.covariance_type, n_init=self.n_init, random_state=42)",
   "11.2t.1: v27.fit(v12, sample_weight=v13)",
   "11.2t.2: v28 = v27.means_[0]",
   "11.2t.3: v29 = v27.covariances_[0] if self.covariance_type == 'full' else v27.covariances_",
   "11.2e.0: v28 = np.mean(v12, axis=0)",
   "11.2e.1: v29 = np.eye(v1)",
   "11.3: if self.normalize",
   "11.3t.0: v28 = self._denormalize_data(v28)",
   "11.3t.1: v29 = self._denormalize_covariance(v29)",
   "11.4: v24.append(v28)",
   "11.5: v25.append(v29)",
   "11.6: v21[v11] = v26",
   "12: self.labels_ = v21",
   "13: self.cluster_centers_ = v24",
   "14: self.cluster_covariances_ = v25",
   "15: self.n_clusters_ = len(v3)",
   "16: v30 = np.sum(sample_weight)",
   "17: self.cluster_weights_ = np.array([np.sum(sample_weight[v21 == v4]) / v30 for v4 in range(self.n_clusters_)])",
   "18: self._gmm_ready = self.n_clusters_ > 0 and len(self.cluster_centers_) > 0",
   "19: return self"]

theorem C15_src_hfitSkeleton : Gen.ClusterSrc.hfitSkeleton = expected_hfitSkeleton := rfl

end Props.C15.Src
