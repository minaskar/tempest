import TempestVerif.Gen.Kernel
import TempestVerif.Model.Kernel
import TempestVerif.Lemmas.ScReal
import TempestVerif.Lemmas.KernelSimp
import TempestVerif.Lemmas.Kernel
import TempestVerif.Props.C16Fold
import TempestVerif.Lemmas.KernelGeom
import TempestVerif.Lemmas.MHKernel
import Mathlib.Analysis.SpecialFunctions.Pow.Real
import Mathlib.MeasureTheory.Integral.Bochner.Set
import Mathlib.MeasureTheory.Measure.Lebesgue.Basic
/-
  C03 — mutation kernels satisfy detailed balance.

  Exact real arithmetic, about the expressions REGENERATED from tempest/mcmc.py (`Gen.Kernel`): in the interior tpCN and RWM satisfy
  detailed balance with respect to pi(x) = exp(beta * logL(x)) for every pair of states and all parameters; RWM with periodic or
  reflective coordinates through the symmetric folded proposal of C16; with hard boundaries (out-of-cube proposals are rejected:
  tempest from commit 9001dc4) with respect to pi·1_cube for every pair of points.  Counter-examples say why the rest is not
  provable: "redraw until inside" (tempest before 9001dc4, finding F16); the Student-t ratio at a folded point is not the Hastings
  ratio of the folded proposal (the recorded defect F17); reflective coordinates with a correlated proposal covariance (F21).
  The states enter only through the three scalars  dx = |x-mu|^2_Sigma, dy = |y-mu|^2_Sigma, dxy = <x-mu,y-mu>_Sigma,
  so the statements are dimension-free.  Here the scale `s = 1/g` of the gamma draw `g` is the variable (inverse-gamma density
  `igDens`); `Props/C03Inv*.lean` pass from density identities to the invariance of the law under the Markov kernel on R^d and keep
  `g` itself (the same symmetry at `s = g⁻¹`: `cn_weight_symm`), integrating it out by Tonelli.
-/
namespace Props.C03
open Real MeasureTheory
open Model.Kernel (gen_npMinimum gen_nanToZero model_npMinimum model_nanToZero model_gammaShape model_gammaScale)

/-! ## 1. bridging obligations: generated expression = canonical expression -/

attribute [kernel_real] Gen.Kernel.gammaShape Gen.Kernel.gammaScale Gen.Kernel.sFromGamma Gen.Kernel.tpcnMuCoef
  Gen.Kernel.tpcnDiffCoef Gen.Kernel.tpcnNoiseScale Gen.Kernel.tpcnLogFactor Gen.Kernel.rwmUCoef
  Gen.Kernel.rwmNoiseScale Gen.Kernel.rwmLogFactor Gen.Kernel.acceptProb Gen.Kernel.acceptDecision
  Gen.Kernel.tpcnAdapt Gen.Kernel.rwmAdapt Gen.Kernel.alphaOutOfBounds Model.Kernel.alphaOutOfBounds
  Model.Kernel.gammaShape Model.Kernel.gammaScale Model.Kernel.sFromGamma Model.Kernel.diffCoef
  Model.Kernel.noiseScale Model.Kernel.logT Model.Kernel.tpcnLogFactor Model.Kernel.rwmLogFactor
  Model.Kernel.acceptProb Model.Kernel.acceptDecision Model.Kernel.adaptRaw Model.Kernel.tpcnAdapt
  Model.Kernel.rwmAdapt
  gen_npMinimum gen_nanToZero model_npMinimum model_nanToZero
  Nat.cast_ofNat Nat.cast_one Nat.cast_zero Nat.cast_add Nat.cast_mul

/-- The one script of all bridging obligations `gen_eq_canon_*`: unfold both sides and the scalar interface at ℝ (the simp sets
    `kernel_real`, `sc_real`); what that alone does not close is field arithmetic.  On the expressions of the repository the first
    step closes every instance; the rest (and the `≠ 0` facts the statements carry for it) keeps an algebraically equivalent rewrite
    of the Python passing (`2.0/(nu+dot)` ↔ `1.0/((nu+dot)/2.0)`); a changed shape, scale, sign or a dropped `sqrt` does not pass. -/
macro "kernel_bridge" : tactic =>
  `(tactic| (simp only [kernel_real, sc_real] <;> (try push_cast) <;> (try field_simp) <;> (try ring_nf)))

theorem gen_eq_canon_gammaShape (d nu : ℝ) :
    Gen.Kernel.gammaShape d nu = Model.Kernel.gammaShape d nu := by
  kernel_bridge

theorem gen_eq_canon_gammaScale (nu dot : ℝ) (hnu : 0 < nu) (hdot : 0 ≤ dot) :
    Gen.Kernel.gammaScale nu dot = Model.Kernel.gammaScale nu dot := by
  have h : nu + dot ≠ 0 := by positivity
  kernel_bridge

theorem gen_eq_canon_sFromGamma (g : ℝ) (hg : 0 < g) :
    Gen.Kernel.sFromGamma g = Model.Kernel.sFromGamma g := by
  have h : g ≠ 0 := hg.ne'
  kernel_bridge

theorem gen_eq_canon_tpcnMuCoef (sigma s : ℝ) : Gen.Kernel.tpcnMuCoef sigma s = 1 := by
  kernel_bridge

theorem gen_eq_canon_tpcnDiffCoef (sigma s : ℝ) :
    Gen.Kernel.tpcnDiffCoef sigma s = Model.Kernel.diffCoef sigma := by
  kernel_bridge

theorem gen_eq_canon_tpcnNoiseScale (sigma s : ℝ) :
    Gen.Kernel.tpcnNoiseScale sigma s = Model.Kernel.noiseScale sigma s := by
  kernel_bridge

theorem gen_eq_canon_tpcnLogFactor (d nu dot dotp : ℝ) (hnu : 0 < nu) :
    Gen.Kernel.tpcnLogFactor d nu dot dotp = Model.Kernel.tpcnLogFactor d nu dot dotp := by
  have h : nu ≠ 0 := hnu.ne'
  kernel_bridge

theorem gen_eq_canon_rwmUCoef (sigma : ℝ) : Gen.Kernel.rwmUCoef sigma = 1 := by
  kernel_bridge

theorem gen_eq_canon_rwmNoiseScale (sigma : ℝ) : Gen.Kernel.rwmNoiseScale sigma = sigma := by
  kernel_bridge

theorem gen_eq_canon_rwmLogFactor : (Gen.Kernel.rwmLogFactor : ℝ) = Model.Kernel.rwmLogFactor := by
  kernel_bridge

theorem gen_eq_canon_acceptProb (beta l lp factor : ℝ) :
    Gen.Kernel.acceptProb beta l lp factor = Model.Kernel.acceptProb beta l lp factor := by
  kernel_bridge

theorem gen_eq_canon_alphaOutOfBounds (alpha : ℝ) :
    Gen.Kernel.alphaOutOfBounds alpha = Model.Kernel.alphaOutOfBounds alpha := by
  kernel_bridge

theorem gen_eq_canon_acceptDecision (r alpha : ℝ) :
    Gen.Kernel.acceptDecision r alpha = Model.Kernel.acceptDecision r alpha := by
  kernel_bridge

theorem gen_eq_canon_tpcnAdapt (sigma iter acc sigma0 : ℝ) (hit : 0 ≤ iter) :
    Gen.Kernel.tpcnAdapt sigma iter acc sigma0 = Model.Kernel.tpcnAdapt sigma iter acc sigma0 := by
  have h : iter + 1 ≠ 0 := by positivity
  kernel_bridge

theorem gen_eq_canon_rwmAdapt (sigma iter acc sigma0 : ℝ) (hit : 0 ≤ iter) :
    Gen.Kernel.rwmAdapt sigma iter acc sigma0 = Model.Kernel.rwmAdapt sigma iter acc sigma0 := by
  have h : iter + 1 ≠ 0 := by positivity
  kernel_bridge

/-! ## 2. what the generated coefficients are -/

/-- the tpCN proposal is Crank–Nicolson: `a² + σ² = 1` for the generated coefficient -/
theorem C03_tpcn_coef_sq (sigma s : ℝ) (h : sigma ^ 2 ≤ 1) :
    (Gen.Kernel.tpcnDiffCoef sigma s) ^ 2 + sigma ^ 2 = 1 := by
  rw [gen_eq_canon_tpcnDiffCoef, Model.Kernel.model_diffCoef, ← sq, sq_sqrt (sub_nonneg.mpr h), sub_add_cancel]

/-- the generated noise term `c · L z` has covariance `σ² s Σ` -/
theorem C03_tpcn_noise_sq (sigma s : ℝ) (hs : 0 ≤ s) :
    (Gen.Kernel.tpcnNoiseScale sigma s) ^ 2 = sigma ^ 2 * s := by
  rw [gen_eq_canon_tpcnNoiseScale, Model.Kernel.model_noiseScale, mul_pow, sq_sqrt hs]

/-! ## 3. densities (up to factors that do not depend on the states) -/

/-- Student-t kernel of the mode -/
noncomputable def tker (d ν δ : ℝ) : ℝ := (1 + δ / ν) ^ (-((d + ν) / 2))

/-- density of `s = 1/g`, `g ~ Gamma(shape, scale)`, without `1/Γ(shape)` -/
noncomputable def igDens (shape scale s : ℝ) : ℝ :=
  (1 / scale) ^ shape * s ^ (-shape - 1) * exp (-(1 / scale) / s)

/-- Gaussian transition density `N(y; μ + a(x-μ), c Σ)` without `(2π)^(-d/2) |Σ|^(-1/2)` (first δ-argument: start point, second:
    end point) -/
noncomputable def cnDens (d a c δx δy δxy : ℝ) : ℝ :=
  c ^ (-(d / 2)) * exp (-(δy - 2 * a * δxy + a ^ 2 * δx) / (2 * c))

theorem tker_pos (d ν δ : ℝ) (hν : 0 < ν) (hδ : 0 ≤ δ) : 0 < tker d ν δ := by
  unfold tker; apply rpow_pos_of_pos; positivity

/-- the code's log-density `-0.5 (d+ν) log(1 + δ/ν)` is the log of the Student-t kernel -/
theorem exp_logT (d ν δ : ℝ) (hν : 0 < ν) (hδ : 0 ≤ δ) : exp (Model.Kernel.logT d ν δ) = tker d ν δ := by
  have h1 : (0:ℝ) < 1 + δ / ν := by positivity
  unfold tker
  rw [rpow_def_of_pos h1]
  congr 1
  rw [Model.Kernel.model_logT]
  ring

/-- the Student-t kernel `(1 + δ/ν)^(-α)` times the rate `(ν + δ)/2` of the scale draw to the power `α` does not depend on the
    state -/
theorem key (ν δ α : ℝ) (hν : 0 < ν) (hδ : 0 ≤ δ) :
    (1 + δ / ν) ^ (-α) * ((ν + δ) / 2) ^ α = (ν / 2) ^ α := by
  have h1 : (0:ℝ) < 1 + δ / ν := by positivity
  have h2 : (ν + δ) / 2 = (1 + δ / ν) * (ν / 2) := by field_simp
  rw [h2, mul_rpow h1.le (by positivity), ← mul_assoc, ← rpow_add h1]; simp

/-- the joint exponent — Student-t scalar of the start point plus the Crank–Nicolson exponent over `σ²` — is symmetric in the two
    states when `a² + σ² = 1` -/
theorem pcn_sym (a σ dx dy dxy : ℝ) (h : a ^ 2 + σ ^ 2 = 1) (hσ : σ ≠ 0) :
    dx + (dy - 2 * a * dxy + a ^ 2 * dx) / σ ^ 2 = dy + (dx - 2 * a * dxy + a ^ 2 * dy) / σ ^ 2 := by
  have hs : σ ^ 2 ≠ 0 := pow_ne_zero 2 hσ
  have : a ^ 2 = 1 - σ ^ 2 := by linarith
  field_simp; rw [this]; ring

/-- Student-t × inverse-gamma = (state-free constant) × Gaussian weight `exp(−(ν + δ)/(2s))` -/
theorem t_ig (d ν δ s : ℝ) (hν : 0 < ν) (hδ : 0 ≤ δ) :
    tker d ν δ * igDens ((d + ν) / 2) (2 / (ν + δ)) s
      = (ν / 2) ^ ((d + ν) / 2) * s ^ (-((d + ν) / 2) - 1) * exp (-(ν + δ) / (2 * s)) := by
  unfold tker igDens
  have h0 : ν + δ ≠ 0 := by positivity
  have e1 : 1 / (2 / (ν + δ)) = (ν + δ) / 2 := by field_simp
  rw [e1, ← key ν δ ((d + ν) / 2) hν hδ]
  have e2 : -((ν + δ) / 2) / s = -(ν + δ) / (2 * s) := by
    by_cases hs : s = 0
    · subst hs; simp
    · field_simp
  rw [e2]; ring

/-- the state-free factors `K`, `C` are variables so that the same lemma serves at `s = g⁻¹`, with the gamma density of
    `Props/C03Inv.lean` -/
theorem cn_weight_symm (ν σ a s K C u v w : ℝ) (ha : a ^ 2 + σ ^ 2 = 1) (hσ : σ ≠ 0) :
    K * exp (-(ν + u) / (2 * s)) * (C * exp (-(v - 2 * a * w + a ^ 2 * u) / (2 * (σ ^ 2 * s))))
      = K * exp (-(ν + v) / (2 * s)) * (C * exp (-(u - 2 * a * w + a ^ 2 * v) / (2 * (σ ^ 2 * s)))) := by
  rw [mul_mul_mul_comm, mul_mul_mul_comm K (exp _), ← exp_add, ← exp_add]
  congr 2
  linear_combination (-(1 / (2 * s))) * pcn_sym a σ u v w ha hσ

-- `hs` (the integration variable of `tpcnQ` is positive) is not needed: the identity holds for every `s`
set_option linter.unusedVariables false in
/-- **Pointwise in the scale variable `s`**: Student-t weight × density of `s` given the start point (shape and
    scale AS GENERATED FROM THE CODE) × Gaussian CN transition given `s` is symmetric in the two states. -/
theorem C03_tpcn_integrand_symmetric (d ν σ a s δx δy δxy : ℝ) (hν : 0 < ν) (hs : 0 < s)
    (ha : a ^ 2 + σ ^ 2 = 1) (hσ : σ ≠ 0) (hx : 0 ≤ δx) (hy : 0 ≤ δy) :
    tker d ν δx * igDens (Gen.Kernel.gammaShape d ν) (Gen.Kernel.gammaScale ν δx) s * cnDens d a (σ ^ 2 * s) δx δy δxy
      = tker d ν δy * igDens (Gen.Kernel.gammaShape d ν) (Gen.Kernel.gammaScale ν δy) s * cnDens d a (σ ^ 2 * s) δy δx δxy := by
  -- both sides: (state-free factors) × exp(−(ν + δ)/(2s)) × the CN Gaussian weight
  rw [gen_eq_canon_gammaShape, gen_eq_canon_gammaScale ν δx hν hx, gen_eq_canon_gammaScale ν δy hν hy,
    model_gammaShape, model_gammaScale, model_gammaScale, t_ig d ν δx s hν hx, t_ig d ν δy s hν hy]
  exact cn_weight_symm ν σ a s _ _ δx δy δxy ha hσ

/-- tpCN proposal density (up to state-free factors): the scale mixture over `s` of the CN Gaussian, with the
    coefficient `a`, the noise scale and the gamma parameters taken from the generated expressions -/
noncomputable def tpcnQ (d ν σ δx δy δxy : ℝ) : ℝ :=
  ∫ s in Set.Ioi (0:ℝ), igDens (Gen.Kernel.gammaShape d ν) (Gen.Kernel.gammaScale ν δx) s
    * cnDens d (Gen.Kernel.tpcnDiffCoef σ s) ((Gen.Kernel.tpcnNoiseScale σ s) ^ 2) δx δy δxy

theorem C03_tpcn_reversible_wrt_t (d ν σ δx δy δxy : ℝ) (hν : 0 < ν) (hσ0 : 0 < σ) (hσ1 : σ < 1)
    (hx : 0 ≤ δx) (hy : 0 ≤ δy) :
    tker d ν δx * tpcnQ d ν σ δx δy δxy = tker d ν δy * tpcnQ d ν σ δy δx δxy := by
  unfold tpcnQ
  rw [← integral_const_mul, ← integral_const_mul]
  apply setIntegral_congr_fun measurableSet_Ioi
  intro s hs
  have hs' : (0:ℝ) < s := hs
  beta_reduce
  rw [C03_tpcn_noise_sq σ s hs'.le, ← mul_assoc, ← mul_assoc]
  exact C03_tpcn_integrand_symmetric d ν σ (Gen.Kernel.tpcnDiffCoef σ s) s δx δy δxy hν hs'
    (C03_tpcn_coef_sq σ s (pow_le_one₀ hσ0.le hσ1.le)) hσ0.ne' hx hy

/-! ## 4. Metropolis–Hastings -/

/-- if `g(x) q(x,y) = g(y) q(y,x)` and the acceptance is `min 1 (π(y) g(x) / (π(x) g(y)))`, the flow is symmetric: both sides are
    `min (π(x)/g(x)) (π(y)/g(y))` times the reference flow (`Lemmas.MHKernel.mh_weight`) -/
theorem C03_mh_detailed_balance (px py gx gy qxy qyx : ℝ) (hpx : 0 < px) (hpy : 0 < py) (hgx : 0 < gx)
    (hgy : 0 < gy) (hrev : gx * qxy = gy * qyx) :
    px * qxy * min 1 (py * gx / (px * gy)) = py * qyx * min 1 (px * gy / (py * gx)) := by
  rw [mul_right_comm, Lemmas.MHKernel.mh_weight px py gx gy hpx hgx, mul_right_comm py,
    Lemmas.MHKernel.mh_weight py px gy gx hpy hgy, min_comm, mul_right_comm, hrev, mul_right_comm]

/-- the GENERATED acceptance with a factor `-a + b` is the Metropolis–Hastings ratio for target `π = exp(β·logL)` and a
    reference with `g(x) = exp b`, `g(y) = exp a` -/
theorem accept_is_mh (β lx ly a b : ℝ) :
    Gen.Kernel.acceptProb β lx ly (-a + b) = min 1 (exp (β * ly) * exp b / (exp (β * lx) * exp a)) := by
  rw [Model.Kernel.gen_acceptProb, ← exp_add, ← exp_add, ← exp_sub]
  congr 2; ring

/-- the GENERATED tpCN acceptance is the Metropolis–Hastings ratio for target `π = exp(β·logL)` and reference `g = t`
    (`δx`: current state, `δy`: proposed state) -/
theorem C03_accept_is_mh_tpcn (d ν β lx ly δx δy : ℝ) (hν : 0 < ν) (hx : 0 ≤ δx) (hy : 0 ≤ δy) :
    Gen.Kernel.acceptProb β lx ly (Gen.Kernel.tpcnLogFactor d ν δx δy)
      = min 1 (exp (β * ly) * tker d ν δx / (exp (β * lx) * tker d ν δy)) := by
  rw [gen_eq_canon_tpcnLogFactor d ν δx δy hν, Model.Kernel.model_tpcnLogFactor, accept_is_mh,
    exp_logT d ν δx hν hx, exp_logT d ν δy hν hy]

theorem C03_accept_is_mh_rwm (β lx ly : ℝ) :
    Gen.Kernel.acceptProb β lx ly Gen.Kernel.rwmLogFactor
      = min 1 (exp (β * ly) * 1 / (exp (β * lx) * 1)) := by
  have h := accept_is_mh β lx ly 0 0
  rwa [neg_zero, add_zero, exp_zero, ← ScReal.zero_def, ← Model.Kernel.rwmLogFactor, ← gen_eq_canon_rwmLogFactor] at h

theorem rwm_flow_symmetric (β lx ly qxy qyx : ℝ) (hq : qxy = qyx) :
    exp (β * lx) * qxy * Gen.Kernel.acceptProb β lx ly Gen.Kernel.rwmLogFactor
      = exp (β * ly) * qyx * Gen.Kernel.acceptProb β ly lx Gen.Kernel.rwmLogFactor := by
  rw [C03_accept_is_mh_rwm, C03_accept_is_mh_rwm]
  exact C03_mh_detailed_balance _ _ 1 1 qxy qyx (exp_pos _) (exp_pos _) one_pos one_pos (by rw [hq])

/-- **tpCN, interior**: detailed balance `π(x) q(x,y) α(x,y) = π(y) q(y,x) α(y,x)` with `π = exp(β·logL)` for every
    pair of states (through `δx, δy, δxy`), every mode (μ, Σ enter through the δ's; ν > 0), dimension `d`,
    step size σ ∈ (0,1) and β, when no boundary intervenes. -/
theorem C03_tpcn_interior (d ν σ β lx ly δx δy δxy : ℝ) (hν : 0 < ν) (hσ0 : 0 < σ) (hσ1 : σ < 1)
    (hx : 0 ≤ δx) (hy : 0 ≤ δy) :
    exp (β * lx) * tpcnQ d ν σ δx δy δxy * Gen.Kernel.acceptProb β lx ly (Gen.Kernel.tpcnLogFactor d ν δx δy)
      = exp (β * ly) * tpcnQ d ν σ δy δx δxy * Gen.Kernel.acceptProb β ly lx (Gen.Kernel.tpcnLogFactor d ν δy δx) := by
  rw [C03_accept_is_mh_tpcn d ν β lx ly δx δy hν hx hy, C03_accept_is_mh_tpcn d ν β ly lx δy δx hν hy hx]
  exact C03_mh_detailed_balance _ _ _ _ _ _ (exp_pos _) (exp_pos _) (tker_pos d ν δx hν hx) (tker_pos d ν δy hν hy)
    (C03_tpcn_reversible_wrt_t d ν σ δx δy δxy hν hσ0 hσ1 hx hy)

/-- **RWM, interior**: the proposal `u + σ L z` has an even increment density `k` (any dimension: `E` is any additive
    group), the generated factor is 0, hence detailed balance for every pair of states. -/
theorem C03_rwm_interior {E : Type} [AddGroup E] (k : E → ℝ) (hk : ∀ z, k (-z) = k z) (x y : E) (β lx ly : ℝ) :
    exp (β * lx) * k (y - x) * Gen.Kernel.acceptProb β lx ly Gen.Kernel.rwmLogFactor
      = exp (β * ly) * k (x - y) * Gen.Kernel.acceptProb β ly lx Gen.Kernel.rwmLogFactor := by
  apply rwm_flow_symmetric
  rw [← neg_sub x y]; exact hk _

/-- the centred Gaussian increment density of RWM, `exp(-|z|²_Σ / (2σ²))` as a function of the increment, is even
    (one coordinate shown; `|−z|_Σ = |z|_Σ` in any dimension) -/
theorem gauss_even (σ : ℝ) (z : ℝ) : exp (-((-z) ^ 2) / (2 * σ ^ 2)) = exp (-(z ^ 2) / (2 * σ ^ 2)) := by
  rw [neg_sq]

/-! ## 5. RWM with a periodic / reflective coordinate (folded proposals of C16) -/

/-- **RWM, periodic coordinate**: proposal density after `x % 1` is `Σ_m k(m + y - x)`; with the Metropolis
    acceptance detailed balance holds for every pair of states. -/
theorem C03_rwm_periodic (k : ℝ → ℝ) (hk : ∀ z, k (-z) = k z) (x y β lx ly : ℝ) :
    exp (β * lx) * Props.C16.Kper k x y * Gen.Kernel.acceptProb β lx ly Gen.Kernel.rwmLogFactor
      = exp (β * ly) * Props.C16.Kper k y x * Gen.Kernel.acceptProb β ly lx Gen.Kernel.rwmLogFactor :=
  rwm_flow_symmetric β lx ly _ _ (Props.C16.C16_fold_periodic_symmetric k hk x y)

/-- **RWM, reflective coordinate**: proposal density after the triangle fold is `Σ_{m,±} k(2m ± y - x)`. -/
theorem C03_rwm_reflective (k : ℝ → ℝ) (hk : ∀ z, k (-z) = k z) (x y β lx ly : ℝ) :
    exp (β * lx) * Props.C16.Krefl k x y * Gen.Kernel.acceptProb β lx ly Gen.Kernel.rwmLogFactor
      = exp (β * ly) * Props.C16.Krefl k y x * Gen.Kernel.acceptProb β ly lx Gen.Kernel.rwmLogFactor :=
  rwm_flow_symmetric β lx ly _ _ (Props.C16.C16_fold_reflective_symmetric k hk x y)

/-! ### any number of coordinates, any boundary type per coordinate (hard / periodic / reflective mixed in one vector) -/

inductive BT
  | hard | per | refl
  deriving DecidableEq

/-- index set of the preimages of a folded coordinate: one point (hard: no fold), `ℤ` (periodic), `ℤ × Bool` (reflective) -/
abbrev BIdx : BT → Type
  | .hard => Unit
  | .per => ℤ
  | .refl => ℤ × Bool

def preB : (b : BT) → BIdx b → ℝ → ℝ
  | .hard, _, y => y
  | .per, m, y => ((m : ℤ) : ℝ) + y
  | .refl, p, y => Props.C16.reflPre p y

def flipB : (b : BT) → BIdx b ≃ BIdx b
  | .hard => Equiv.refl _
  | .per => Equiv.neg ℤ
  | .refl => Props.C16.flipE

/-- the reflective preimages `2m - y` are the ones whose displacement is NOT negated by the re-indexing -/
def keepsSign : (b : BT) → BIdx b → Bool
  | .hard, _ => false
  | .per, _ => false
  | .refl, p => !p.2

theorem preB_flip (b : BT) (q : BIdx b) (x y : ℝ) :
    preB b (flipB b q) y - x = -(if keepsSign b q then -(preB b q x - y) else (preB b q x - y)) := by
  cases b with
  | hard => exact (neg_sub _ _).symm
  | per => simp only [preB, flipB, keepsSign, Equiv.neg_apply, Int.cast_neg, Bool.false_eq_true, if_false]; ring
  | refl =>
    obtain ⟨m, _ | _⟩ := q
    · exact (Props.C16.reflPre_flipE _ x y).trans (neg_neg _).symm
    · exact Props.C16.reflPre_flipE _ x y

theorem keepsSign_refl (b : BT) (q : BIdx b) (h : keepsSign b q = true) : b = .refl := by
  cases b <;> simp_all [keepsSign]

/-- **Any mix of boundary types**: the proposal density after applying every coordinate's boundary map,
    `Σ_p k(pre_p(y) - x)`, is symmetric in `(x, y)` when the increment density `k` is even and, in addition, even in each
    REFLECTIVE coordinate separately (no condition on hard and periodic coordinates: full correlation allowed there). -/
theorem fold_mixed_symmetric {ι : Type} (bt : ι → BT) (k : (ι → ℝ) → ℝ) (hk0 : ∀ z, k (-z) = k z)
    (hk : ∀ (s : ι → Bool) (z : ι → ℝ), (∀ i, s i = true → bt i = .refl) →
      k (fun i => if s i then -z i else z i) = k z) (x y : ι → ℝ) :
    (∑' p : (i : ι) → BIdx (bt i), k (fun i => preB (bt i) (p i) (y i) - x i))
      = ∑' p : (i : ι) → BIdx (bt i), k (fun i => preB (bt i) (p i) (x i) - y i) := by
  rw [← (Equiv.piCongrRight fun i => flipB (bt i)).tsum_eq]
  exact tsum_congr fun p => (congrArg k (funext fun i => preB_flip (bt i) (p i) (x i) (y i))).trans
    ((hk0 _).trans (hk (fun i => keepsSign (bt i) (p i)) _ fun i => keepsSign_refl _ _))

/-- every coordinate periodic: the condition on reflective coordinates is empty, any (correlated) even increment density will do -/
theorem fold_periodic_symmetric_nd {ι : Type} (k : (ι → ℝ) → ℝ) (hk : ∀ z, k (-z) = k z) (x y : ι → ℝ) :
    (∑' m : ι → ℤ, k (fun i => (m i : ℝ) + y i - x i)) = ∑' m : ι → ℤ, k (fun i => (m i : ℝ) + x i - y i) :=
  fold_mixed_symmetric (fun _ => BT.per) k hk
    (fun _ _ hs => congrArg k (funext fun i => if_neg fun h => nomatch hs i h)) x y

theorem C03_rwm_periodic_nd {ι : Type} (k : (ι → ℝ) → ℝ) (hk : ∀ z, k (-z) = k z) (x y : ι → ℝ) (β lx ly : ℝ) :
    exp (β * lx) * (∑' m : ι → ℤ, k (fun i => (m i : ℝ) + y i - x i))
        * Gen.Kernel.acceptProb β lx ly Gen.Kernel.rwmLogFactor
      = exp (β * ly) * (∑' m : ι → ℤ, k (fun i => (m i : ℝ) + x i - y i))
        * Gen.Kernel.acceptProb β ly lx Gen.Kernel.rwmLogFactor :=
  rwm_flow_symmetric β lx ly _ _ (fold_periodic_symmetric_nd k hk x y)

/-- reflective coordinates in any number of dimensions: the folded density `Σ_p k(pre_p(y) - x)` is symmetric PROVIDED
    the increment density is even in each reflective coordinate separately (diagonal Σ in those coordinates, product
    kernels).  For a CORRELATED increment this hypothesis fails and so does the conclusion: see
    `C03_reflect_correlated_asymmetric` below. -/
theorem fold_reflective_symmetric_nd {ι : Type} (k : (ι → ℝ) → ℝ)
    (hk : ∀ (s : ι → Bool) (z : ι → ℝ), k (fun i => if s i then -z i else z i) = k z) (x y : ι → ℝ) :
    (∑' p : ι → ℤ × Bool, k (fun i => Props.C16.reflPre (p i) (y i) - x i))
      = ∑' p : ι → ℤ × Bool, k (fun i => Props.C16.reflPre (p i) (x i) - y i) :=
  fold_mixed_symmetric (fun _ => BT.refl) k (fun z => hk (fun _ => true) z) (fun s z _ => hk s z) x y

theorem C03_rwm_reflective_nd {ι : Type} (k : (ι → ℝ) → ℝ)
    (hk : ∀ (s : ι → Bool) (z : ι → ℝ), k (fun i => if s i then -z i else z i) = k z) (x y : ι → ℝ) (β lx ly : ℝ) :
    exp (β * lx) * (∑' p : ι → ℤ × Bool, k (fun i => Props.C16.reflPre (p i) (y i) - x i))
        * Gen.Kernel.acceptProb β lx ly Gen.Kernel.rwmLogFactor
      = exp (β * ly) * (∑' p : ι → ℤ × Bool, k (fun i => Props.C16.reflPre (p i) (x i) - y i))
        * Gen.Kernel.acceptProb β ly lx Gen.Kernel.rwmLogFactor :=
  rwm_flow_symmetric β lx ly _ _ (fold_reflective_symmetric_nd k hk x y)

/-! ### … but NOT for a correlated increment (finding F21)

  Mirroring a path at a reflective wall mirrors the increment in that coordinate only; the reverse move needs the
  un-mirrored increment.  An even density `k(-ξ) = k(ξ)` is invariant under the JOINT sign flip, not under the flip of one
  coordinate, unless Σ is diagonal there.  Toy: 2 × 2 cells, both coordinates reflective, increments `±(1,1)`. -/

/-- cell index fold of a reflective coordinate with two cells per unit: … 1 0 | 0 1 | 1 0 | 0 1 … -/
def cellFold (i : ℤ) : ℤ := if i % 4 < 2 then i % 4 else 3 - i % 4
/-- perfectly correlated even increment law on ℤ²: `(1,1)` or `(-1,-1)`, each with probability 1/2 -/
def diagK (ξ : ℤ × ℤ) : ℚ := if ξ = (1, 1) ∨ ξ = (-1, -1) then 1 / 2 else 0
/-- transition probability of `fold (x + ξ)` on the 2 × 2 cells (uniform target: every proposal is accepted) -/
def diagFolded (x y : ℤ × ℤ) : ℚ :=
  (if (cellFold (x.1 + 1), cellFold (x.2 + 1)) = y then diagK (1, 1) else 0)
  + (if (cellFold (x.1 - 1), cellFold (x.2 - 1)) = y then diagK (-1, -1) else 0)

theorem diagK_even (ξ : ℤ × ℤ) : diagK (-ξ) = diagK ξ := by
  rw [diagK, diagK]
  exact if_congr (by rw [neg_eq_iff_eq_neg, neg_eq_iff_eq_neg, or_comm]; rfl) rfl rfl

/-- **F21**: with an even but correlated increment the reflective fold is not symmetric (`(0,1) → (1,1)` has probability
    1/2, the reverse move 0), and the uniform law is not invariant: the four transition probabilities INTO the diagonal
    corner `(1,1)` add up to 2, not 1. -/
theorem C03_reflect_correlated_asymmetric :
    diagFolded (0, 1) (1, 1) = 1 / 2 ∧ diagFolded (1, 1) (0, 1) = 0 ∧
    diagFolded (0, 0) (1, 1) + diagFolded (0, 1) (1, 1) + diagFolded (1, 0) (1, 1) + diagFolded (1, 1) (1, 1) = 2 := by
  simp only [diagFolded, diagK, cellFold]
  norm_num

/-! ## 6. hard boundaries: out-of-cube proposals are rejected (tempest from commit 9001dc4, the repair of F16) -/

/-- the code's acceptance for a move whose proposal passed (`inb = true`) or failed `check_bounds`:
    `alpha[~in_bounds] = …` as GENERATED (`Gen.Kernel.alphaOutOfBounds`) -/
noncomputable def boundedAccept (inb : Bool) (a : ℝ) : ℝ := if inb then a else Gen.Kernel.alphaOutOfBounds a

/-- target restricted to the cube: `π` inside, 0 outside -/
noncomputable def cubeWeight (inside : Bool) (p : ℝ) : ℝ := if inside then p else 0

theorem boundedAccept_outside (a : ℝ) : boundedAccept false a = 0 := Model.Kernel.gen_alphaOutOfBounds a

theorem cubeWeight_outside (p : ℝ) : cubeWeight false p = 0 := rfl

theorem boundedAccept_eq_boundedAlpha (inb : Bool) (a : ℝ) : boundedAccept inb a = Model.Kernel.boundedAlpha inb a := by
  cases inb
  · exact (boundedAccept_outside a).trans (Model.Kernel.boundedAlpha_false a).symm
  · rfl

/-- rejecting outside the cube turns ANY flow identity `π(x) q(x,y) α(x,y) = π(y) q(y,x) α(y,x)` into the one w.r.t. `π·1_cube` for
    every pair of points: inside–inside it is the given identity, every flow that involves a point outside is 0 in both directions -/
theorem reject_outside (inX inY : Bool) {px py qxy qyx axy ayx : ℝ} (h : px * qxy * axy = py * qyx * ayx) :
    cubeWeight inX px * qxy * boundedAccept inY axy = cubeWeight inY py * qyx * boundedAccept inX ayx := by
  cases inX <;> cases inY
  · rw [cubeWeight_outside, cubeWeight_outside, zero_mul, zero_mul, zero_mul, zero_mul]
  · rw [cubeWeight_outside, boundedAccept_outside, zero_mul, zero_mul, mul_zero]
  · rw [cubeWeight_outside, boundedAccept_outside, zero_mul, zero_mul, mul_zero]
  · exact h

/-- **Rejection instead of truncation**: let `q` be the UNTRUNCATED proposal density on all of ℝ^d (or its periodic /
    reflective fold in the designated coordinates), reversible w.r.t. the reference `g` as proved in the interior, and let the
    acceptance be the MH ratio for proposals inside the cube and the generated out-of-bounds value (0) outside.  Then detailed
    balance holds w.r.t. `π·1_cube` for EVERY pair of points of ℝ^d. -/
theorem C03_hard_boundary_reject (inX inY : Bool) (px py gx gy qxy qyx : ℝ) (hpx : 0 < px) (hpy : 0 < py)
    (hgx : 0 < gx) (hgy : 0 < gy) (hrev : gx * qxy = gy * qyx) :
    cubeWeight inX px * qxy * boundedAccept inY (min 1 (py * gx / (px * gy)))
      = cubeWeight inY py * qyx * boundedAccept inX (min 1 (px * gy / (py * gx))) :=
  reject_outside inX inY (C03_mh_detailed_balance px py gx gy qxy qyx hpx hpy hgx hgy hrev)

/-- `inX`, `inY`: whether x, y lie in the cube -/
theorem C03_tpcn_hard_reject (inX inY : Bool) (d ν σ β lx ly δx δy δxy : ℝ) (hν : 0 < ν) (hσ0 : 0 < σ) (hσ1 : σ < 1)
    (hx : 0 ≤ δx) (hy : 0 ≤ δy) :
    cubeWeight inX (exp (β * lx)) * tpcnQ d ν σ δx δy δxy
        * boundedAccept inY (Gen.Kernel.acceptProb β lx ly (Gen.Kernel.tpcnLogFactor d ν δx δy))
      = cubeWeight inY (exp (β * ly)) * tpcnQ d ν σ δy δx δxy
        * boundedAccept inX (Gen.Kernel.acceptProb β ly lx (Gen.Kernel.tpcnLogFactor d ν δy δx)) :=
  reject_outside inX inY (C03_tpcn_interior d ν σ β lx ly δx δy δxy hν hσ0 hσ1 hx hy)

/-- RWM with hard boundaries (in the non-designated coordinates): any symmetric proposal density — the
    even increment density itself, or its periodic / reflective fold of §5 — gives detailed balance w.r.t.
    `exp(β·logL)·1_cube` for every pair of points -/
theorem C03_rwm_hard_reject (inX inY : Bool) (β lx ly qxy qyx : ℝ) (hq : qxy = qyx) :
    cubeWeight inX (exp (β * lx)) * qxy * boundedAccept inY (Gen.Kernel.acceptProb β lx ly Gen.Kernel.rwmLogFactor)
      = cubeWeight inY (exp (β * ly)) * qyx * boundedAccept inX (Gen.Kernel.acceptProb β ly lx Gen.Kernel.rwmLogFactor) := by
  exact reject_outside inX inY (rwm_flow_symmetric β lx ly qxy qyx hq)

/-- RWM with an arbitrary boundary type per coordinate (fold, then reject outside the cube in the hard
    coordinates): detailed balance w.r.t. `exp(β·logL)·1_cube` for every pair of points, under the per-reflective-coordinate
    evenness that F21 shows to be necessary -/
theorem C03_rwm_mixed_boundaries {ι : Type} (bt : ι → BT) (k : (ι → ℝ) → ℝ) (hk0 : ∀ z, k (-z) = k z)
    (hk : ∀ (s : ι → Bool) (z : ι → ℝ), (∀ i, s i = true → bt i = .refl) →
      k (fun i => if s i then -z i else z i) = k z) (x y : ι → ℝ) (inX inY : Bool) (β lx ly : ℝ) :
    cubeWeight inX (exp (β * lx)) * (∑' p : (i : ι) → BIdx (bt i), k (fun i => preB (bt i) (p i) (y i) - x i))
        * boundedAccept inY (Gen.Kernel.acceptProb β lx ly Gen.Kernel.rwmLogFactor)
      = cubeWeight inY (exp (β * ly)) * (∑' p : (i : ι) → BIdx (bt i), k (fun i => preB (bt i) (p i) (x i) - y i))
        * boundedAccept inX (Gen.Kernel.acceptProb β ly lx Gen.Kernel.rwmLogFactor) :=
  C03_rwm_hard_reject inX inY β lx ly _ _ (fold_mixed_symmetric bt k hk0 hk x y)

/-- non-vacuity: two coordinates, the first periodic, the second hard, fully correlated-looking even density
    `k z = exp(-(z₀ - z₁)²)` (not even in each coordinate separately): the hypotheses hold since no coordinate is reflective -/
example (x y : Fin 2 → ℝ) :
    (∑' p : (i : Fin 2) → BIdx (![BT.per, BT.hard] i), (fun z : Fin 2 → ℝ => exp (-(z 0 - z 1) ^ 2))
        (fun i => preB (![BT.per, BT.hard] i) (p i) (y i) - x i))
      = ∑' p : (i : Fin 2) → BIdx (![BT.per, BT.hard] i), (fun z : Fin 2 → ℝ => exp (-(z 0 - z 1) ^ 2))
        (fun i => preB (![BT.per, BT.hard] i) (p i) (x i) - y i) := by
  refine fold_mixed_symmetric (![BT.per, BT.hard]) (fun z : Fin 2 → ℝ => exp (-(z 0 - z 1) ^ 2)) ?_ ?_ x y
  · intro z; simp only [Pi.neg_apply]; congr 1; ring
  · intro s z hs
    have h0 : s 0 = false := by
      by_contra h; have := hs 0 (by simpa using h); simp at this
    have h1 : s 1 = false := by
      by_contra h; have := hs 1 (by simpa using h); simp at this
    simp [h0, h1]

/-! ### "redraw until inside" (tempest before 9001dc4, finding F16): why it does not satisfy detailed balance -/

/-- "Redraw until inside": the proposal from `x` is `k(x,·)/C(x)` on the cube, `C(x)` the inside mass.  With a
    symmetric part `S(x,y) = S(y,x) ≠ 0` (for RWM `S = k·min(π(x),π(y))`, for tpCN `S = t(x)q(x,y)·min(π/t)`) the flow
    `S/C(x)` is symmetric exactly when the inside masses agree. -/
theorem C03_truncation_symmetric_iff (S Cx Cy : ℝ) (hS : S ≠ 0) (hx : Cx ≠ 0) (hy : Cy ≠ 0) :
    S / Cx = S / Cy ↔ Cx = Cy := by
  constructor
  · intro h; field_simp at h; exact h.symm
  · intro h; rw [h]

/-- toy walk on ℤ: uniform on `{x-1, x, x+1}` (symmetric) -/
def toyK (x y : ℤ) : ℚ := if (x - y).natAbs ≤ 1 then 1 / 3 else 0
/-- the "cube" is `{0, 1, 2}`; inside mass of the untruncated proposal from `x` -/
def toyC (x : ℤ) : ℚ := toyK x 0 + toyK x 1 + toyK x 2
/-- uniform target on the three inside states -/
def toyPi (_ : ℤ) : ℚ := 1 / 3
/-- flow of the kernel of tempest before 9001dc4: redraw until inside, Metropolis acceptance without a correction -/
def toyFlow (x y : ℤ) : ℚ := toyPi x * (toyK x y / toyC x) * min 1 (toyPi y / toyPi x)

theorem toyK_symm (x y : ℤ) : toyK x y = toyK y x := by
  unfold toyK
  have : (x - y).natAbs = (y - x).natAbs := by omega
  rw [this]

theorem toyC_values : toyC 0 = 2 / 3 ∧ toyC 1 = 1 := by
  simp only [toyC, toyK]; norm_num

/-- **F16 (old code)**: symmetric proposal, uniform target, inside masses `C(0) = 2/3 ≠ 1 = C(1)` ⇒ the flows differ
    (`1/6` from the edge state, `1/9` into it): detailed balance fails at a hard boundary. -/
theorem C03_truncation_flow_asymmetric :
    toyC 0 = 2 / 3 ∧ toyC 1 = 1 ∧ toyFlow 0 1 = 1 / 6 ∧ toyFlow 1 0 = 1 / 9 ∧ toyFlow 0 1 ≠ toyFlow 1 0 := by
  obtain ⟨c0, c1⟩ := toyC_values
  have k01 : toyK 0 1 = 1 / 3 := by simp only [toyK]; norm_num
  simp only [toyFlow, toyPi, c0, c1, toyK_symm 1 0, k01]
  norm_num

/-- … and the law that the truncated chain does leave invariant is `π·C`, not `π` -/
theorem toy_invariant_is_pi_times_C :
    (toyPi 0 * toyC 0) * (toyK 0 1 / toyC 0) = (toyPi 1 * toyC 1) * (toyK 1 0 / toyC 1) := by
  rw [toyC_values.1, toyC_values.2, toyK_symm 1 0, toyPi, toyPi]; ring

/-! ## 7. why tpCN with a folded coordinate fails (F17) -/

/-- Student-t weights (ν = 1, d = 1, μ = 0, Σ = 1) on the grid `z = i/2` (grid step 1/2, so one period of a periodic
    coordinate is two grid steps; `i = 0..3` are two periods): `t = (1 + z²)^(-1)`, i.e. `1, 4/5, 1/2, 4/13` -/
def foldT (i : ℕ) : ℚ := (1 + ((i : ℚ) / 2) ^ 2)⁻¹

theorem foldT_values : foldT 0 = 1 ∧ foldT 1 = 4 / 5 ∧ foldT 2 = 1 / 2 ∧ foldT 3 = 4 / 13 := by
  refine ⟨?_, ?_, ?_, ?_⟩ <;> norm_num [foldT]

/-- a base proposal on the unfolded grid `{0,1,2,3}` that IS reversible w.r.t. `t` (as tpCN is): the independence
    draw from `t` -/
def foldQ (_x y' : ℕ) : ℚ := foldT y' / (foldT 0 + foldT 1 + foldT 2 + foldT 3)

theorem foldQ_reversible (x y : ℕ) : foldT x * foldQ x y = foldT y * foldQ y x := by
  unfold foldQ; ring

/-- proposal density after folding `z ↦ z mod 1` (grid index mod 2): both preimages `y`, `y + 2` contribute -/
def foldedQ (x y : ℕ) : ℚ := foldQ x y + foldQ x (y + 2)

/-- flow between the folded states `x, y ∈ {0, 1}` of the kernel AS THE CODE BUILDS IT (uniform target): folded
    proposal, acceptance `min 1 (t(x)/t(y))` with the Student-t ratio evaluated at the FOLDED point -/
def foldFlow (x y : ℕ) : ℚ := (1 / 2) * foldedQ x y * min 1 (foldT x / foldT y)

/-- **F17**: the Hastings ratio of the folded proposal is `Q(y,x)/Q(x,y) = 65/48`, the code uses `t(x)/t(y) = 5/4`;
    the resulting flows differ, so detailed balance fails for tpCN on a periodic (likewise reflective) coordinate. -/
theorem C03_tpcn_fold_not_hastings :
    foldedQ 1 0 / foldedQ 0 1 = 65 / 48 ∧ foldT 0 / foldT 1 = 5 / 4 ∧
    foldedQ 1 0 / foldedQ 0 1 ≠ foldT 0 / foldT 1 ∧ foldFlow 0 1 ≠ foldFlow 1 0 := by
  obtain ⟨h0, h1, h2, h3⟩ := foldT_values
  have hq10 : foldedQ 1 0 = 195 / 339 := by
    simp only [foldedQ, foldQ, Nat.reduceAdd, h0, h1, h2, h3]; norm_num
  have hq01 : foldedQ 0 1 = 144 / 339 := by
    simp only [foldedQ, foldQ, Nat.reduceAdd, h0, h1, h2, h3]; norm_num
  simp only [foldFlow, hq10, hq01, h0, h1]
  norm_num

/-! ## 8. structure of one step (from the regenerated statement tables) -/

/-- order of one step: proposals, then the bounds check (out-of-cube walkers keep their current point), factor, alpha,
    out-of-bounds alpha overwritten, only then the uniform draw / accept / update; `_adapt_sigma` is applied once per step
    after all of that: one step uses one fixed σ per cluster. -/
theorem C03_sigma_fixed_within_step :
    Gen.Kernel.stepOrder.count .adapt = 1 ∧ Gen.Kernel.stepOrder.count .propose = 1 ∧
    Gen.Kernel.stepOrder.idxOf .propose < Gen.Kernel.stepOrder.idxOf .boundsCheck ∧
    Gen.Kernel.stepOrder.idxOf .boundsCheck < Gen.Kernel.stepOrder.idxOf .keepCurrent ∧
    Gen.Kernel.stepOrder.idxOf .keepCurrent < Gen.Kernel.stepOrder.idxOf .transform ∧
    Gen.Kernel.stepOrder.idxOf .transform < Gen.Kernel.stepOrder.idxOf .factor ∧
    Gen.Kernel.stepOrder.idxOf .factor < Gen.Kernel.stepOrder.idxOf .alpha ∧
    Gen.Kernel.stepOrder.idxOf .alpha < Gen.Kernel.stepOrder.idxOf .zeroOutOfBounds ∧
    Gen.Kernel.stepOrder.idxOf .zeroOutOfBounds < Gen.Kernel.stepOrder.idxOf .accept ∧
    Gen.Kernel.stepOrder.idxOf .accept < Gen.Kernel.stepOrder.idxOf .update ∧
    Gen.Kernel.stepOrder.idxOf .update < Gen.Kernel.stepOrder.idxOf .adapt ∧
    Gen.Kernel.stepOrder.idxOf .adapt < Gen.Kernel.stepOrder.length := by
  decide

/-- shape of the two `_propose` bodies: ONE normal draw (tpCN: after one gamma draw), fold, return — no redraw loop and no
    bounds check inside `_propose` (the caller rejects) -/
theorem C03_propose_shape :
    Gen.Kernel.tpcnProposeShape = [.gamma, .draw, .fold, .ret] ∧
    Gen.Kernel.rwmProposeShape = [.draw, .fold, .ret] := by
  decide

/-! ## 9. from vectors to the three scalars: the `ModeStatistics` hypotheses (`L Lᵀ = Σ`, `inv_covariances = Σ⁻¹`)

  The theorems above speak about `δx, δy, δxy`.  Here the d-dimensional states are put back: with `Σ = L Lᵀ`, `L` invertible
  (what `ModeStatistics.__init__` precomputes; proved of the constructor model in `Props/C03Modes.lean`; checked on the real
  class by suite `mode-stats-consistency`), the proposal
  `y = μ + a (x - μ) + c L z` has `δy - 2a δxy + a² δx = c² zᵀz`, so the standard-normal density `exp(-zᵀz/2)` of the tape IS the
  Gaussian factor `cnDens` (up to the state-free Jacobian `c^(-d) |L|^(-1)`), and the `δ`'s are non-negative. -/

section Geometry
open Matrix Lemmas.Maha Lemmas.KernelGeom
variable {d : Type} [Fintype d] [DecidableEq d]

/-- the hypotheses `0 ≤ δx`, `0 ≤ δy` of the interior theorems hold for the code's `dot_product` -/
theorem C03_dot_nonneg (L : Matrix d d ℝ) (hL : IsUnit L.det) (v : d → ℝ) : 0 ≤ maha (L * Lᵀ) v :=
  maha_chol_nonneg L hL v

theorem C03_cn_exponent_is_noise_norm (L : Matrix d d ℝ) (hL : IsUnit L.det) (μ x z : d → ℝ) (a c : ℝ) :
    maha (L * Lᵀ) ((μ + a • (x - μ) + c • (L *ᵥ z)) - μ)
        - 2 * a * mahaCross (L * Lᵀ) (x - μ) ((μ + a • (x - μ) + c • (L *ᵥ z)) - μ)
        + a ^ 2 * maha (L * Lᵀ) (x - μ)
      = c ^ 2 * (z ⬝ᵥ z) := by
  rw [← maha_cn_expand (L * Lᵀ) (Matrix.isSymm_mul_transpose_self L) a (x - μ), ← maha_chol_noise L hL c z]
  congr 1; abel

/-- hence the density `exp(-zᵀz/2)` of the normal tape equals the Gaussian factor of `cnDens` (exponent part) with
    `δx, δy, δxy` the Mahalanobis scalars of the actual states and noise variance `c²` -/
theorem C03_tape_density_is_cnDens (L : Matrix d d ℝ) (hL : IsUnit L.det) (μ x z : d → ℝ) (a c : ℝ) (hc : c ≠ 0) :
    Real.exp (-(z ⬝ᵥ z) / 2)
      = Real.exp (-(maha (L * Lᵀ) ((μ + a • (x - μ) + c • (L *ᵥ z)) - μ)
          - 2 * a * mahaCross (L * Lᵀ) (x - μ) ((μ + a • (x - μ) + c • (L *ᵥ z)) - μ)
          + a ^ 2 * maha (L * Lᵀ) (x - μ)) / (2 * c ^ 2)) := by
  rw [C03_cn_exponent_is_noise_norm L hL, mul_comm (c ^ 2), neg_div, neg_div, mul_div_mul_right _ _ (pow_ne_zero 2 hc)]

/-- RWM: the increment density `exp(-|ξ|²_Σ/(2σ²))` is even — the hypothesis `hk` of `C03_rwm_interior` / `C03_rwm_periodic_nd`
    for the actual d-dimensional correlated Gaussian -/
theorem C03_rwm_increment_even (S : Matrix d d ℝ) (σ : ℝ) (ξ : d → ℝ) :
    Real.exp (-(maha S (-ξ)) / (2 * σ ^ 2)) = Real.exp (-(maha S ξ) / (2 * σ ^ 2)) := by
  rw [maha, maha, Matrix.mulVec_neg, neg_dotProduct_neg]

theorem C03_rwm_increment_norm (L : Matrix d d ℝ) (hL : IsUnit L.det) (x z : d → ℝ) (σ : ℝ) :
    maha (L * Lᵀ) ((x + σ • (L *ᵥ z)) - x) = σ ^ 2 * (z ⬝ᵥ z) := by
  rw [← maha_chol_noise L hL σ z]; congr 1; abel

end Geometry

/-! ## 10. several modes: every walker uses the statistics of ITS mode, in the proposal and in the factor -/

section MultiMode
open Model.Kernel

/-- static tie (G4): every per-mode array in `_propose` is subscripted with `self.assignments[k]`, in
    `_compute_acceptance_factor` with `self.assignments` — no other index expression occurs -/
theorem C03_mode_index_coherent :
    Gen.Kernel.modeIndexTable ≠ [] ∧ ∀ e ∈ Gen.Kernel.modeIndexTable, e.2.2 = e.1 := by
  decide

/-- the ensemble model hands walker `w` exactly the statistics of mode `w.assign` (and that mode's step size); an invalid
    index is an error, never a default -/
theorem C03_walker_uses_own_mode {α : Type} [ScT α] (i : RunIn α) (w : Walker α) (o : StepOut α)
    (h : walkerStep i w = some o) :
    ∃ m sg, i.modes[w.assign]? = some m ∧ i.sigmas[w.assign]? = some sg ∧
      o = step { kind := i.kind, u := w.u, mu := m.mu, chol := m.chol, invcov := m.invcov, nu := m.nu, sigma := sg,
                 beta := i.beta, l := w.l, lp := w.lp, g := w.g, r := w.r, z := w.z, per := i.per, refl := i.refl } := by
  obtain ⟨si, hsi, rfl⟩ := Option.map_eq_some_iff.mp h
  obtain ⟨m, sg, hm, hs, rfl⟩ := (walkerInput_eq_some i w si).mp hsi
  exact ⟨m, sg, hm, hs, rfl⟩

/-- for a tpCN walker the gamma parameters, both quadratic forms, the factor and alpha are all built from the SAME mode
    `m = modes[assign]` (mean, inverse covariance, dof) — the pairing the balance equation needs -/
theorem C03_multimode_factor_same_mode {α : Type} [ScT α] (i : RunIn α) (w : Walker α) (o : StepOut α)
    (hk : i.kind = .tpcn) (h : walkerStep i w = some o) :
    ∃ m, i.modes[w.assign]? = some m ∧
      o.dot = qform (vsub w.u m.mu) m.invcov ∧
      o.shape = gammaShape (Sc.ofNat w.u.length) m.nu ∧
      o.scale = gammaScale m.nu o.dot ∧
      o.dotp = qform (vsub o.prop m.mu) m.invcov ∧
      o.factor = tpcnLogFactor (Sc.ofNat w.u.length) m.nu o.dot o.dotp ∧
      o.alpha = boundedAlpha o.inb (acceptProb i.beta w.l w.lp o.factor) := by
  obtain ⟨m, sg, hm, -, rfl⟩ := C03_walker_uses_own_mode i w o h
  obtain ⟨-, hdot, hshape, hscale, hdotp, hfac⟩ := step_tpcn
    ⟨i.kind, w.u, m.mu, m.chol, m.invcov, m.nu, sg, i.beta, w.l, w.lp, w.g, w.r, w.z, i.per, i.refl⟩ hk
  exact ⟨m, hm, hdot, hshape, hscale, hdotp, hfac, (step_fields _).1⟩

/-- clusters without a walker keep their step size; the others get `_adapt_sigma` of the mean alpha of THEIR walkers -/
theorem C03_adapt_per_cluster {α : Type} [ScT α] (i : RunIn α) (alphas : List α) (c : Nat) (sg : α)
    (hc : i.sigmas[c]? = some sg) :
    (adaptAll i alphas)[c]? = some
      (if (clusterAlphas (i.walkers.map (·.assign)) alphas c).isEmpty then sg
       else adaptOne i.kind sg i.iter (mean (clusterAlphas (i.walkers.map (·.assign)) alphas c)) i.sigma0) := by
  rw [getElem?_adaptAll, hc]; rfl

theorem C03_adapt_length {α : Type} [ScT α] (i : RunIn α) (alphas : List α) :
    (adaptAll i alphas).length = i.sigmas.length :=
  length_adaptAll i alphas

/-- **the ensemble**: if the flows of every walker agree (`flowF k` = π(x_k) P_k(x_k, y_k), `flowB k` = π(y_k) P_k(y_k, x_k)), so do
    their products.  That the ensemble's flow IS this product — the assignment is a function of the walker index, fixed during
    the step, and the walkers use independent draws — is read off the model (`walkerStep`), not part of the statement. -/
theorem C03_ensemble_detailed_balance {ι : Type} [Fintype ι] (flowF flowB : ι → ℝ) (h : ∀ k, flowF k = flowB k) :
    ∏ k, flowF k = ∏ k, flowB k :=
  Finset.prod_congr rfl fun k _ => h k

/-- the states never leave the cube: a step started inside `check_bounds` ends inside (accepted points passed the check,
    rejected walkers stay) — the invariant the hard-boundary theorem assumes of the current state -/
theorem C03_step_stays_in_cube {α : Type} [ScT α] (i : StepIn α)
    (h : Model.Boundary.checkBounds i.per i.refl i.u = true) :
    Model.Boundary.checkBounds i.per i.refl (step i).newU = true := by
  -- the new point is the candidate only if it passed `check_bounds` and was accepted; otherwise it is the current point
  rw [(step_fields i).2.2, (step_inb_prop i).2]
  cases (step i).accept
  · exact h
  · cases hb : (step i).inb
    · exact h
    · exact (step_inb_prop i).1.symm.trans hb

end MultiMode

/-! ## 11. step-size range and the degenerate step -/

/-- after any adaptation the tpCN step size lies in `[0, 0.99]` (for `sigma_0 ≥ 0`): the hypothesis `σ < 1` of
    `C03_tpcn_interior` is maintained by the code itself -/
theorem C03_tpcn_adapt_range (sigma iter acc sigma0 : ℝ) (h0 : 0 ≤ sigma0) (hit : 0 ≤ iter) :
    0 ≤ Gen.Kernel.tpcnAdapt sigma iter acc sigma0 ∧ Gen.Kernel.tpcnAdapt sigma iter acc sigma0 ≤ 99 / 100 := by
  rw [gen_eq_canon_tpcnAdapt sigma iter acc sigma0 hit]
  exact (Model.Kernel.tpcnAdapt_mem sigma iter acc sigma0 h0).imp id (·.trans (min_le_right _ _))

/-- `σ = 0` (the lower clip): coefficient 1 and no noise — the proposal is the current point and the step is the identity -/
theorem C03_tpcn_sigma_zero (s : ℝ) :
    Gen.Kernel.tpcnDiffCoef 0 s = 1 ∧ Gen.Kernel.tpcnNoiseScale 0 s = 0 := by
  rw [gen_eq_canon_tpcnDiffCoef, gen_eq_canon_tpcnNoiseScale]
  rw [Model.Kernel.model_diffCoef, Model.Kernel.model_noiseScale, mul_zero, sub_zero, Real.sqrt_one, zero_mul]
  exact ⟨rfl, rfl⟩

/-! ## 12. non-vacuity -/

example : exp ((1/2) * (-1)) * tpcnQ 2 3 (1/2) 1 4 (3/2) *
      Gen.Kernel.acceptProb (1/2) (-1) (-2) (Gen.Kernel.tpcnLogFactor 2 3 1 4)
    = exp ((1/2) * (-2)) * tpcnQ 2 3 (1/2) 4 1 (3/2) *
      Gen.Kernel.acceptProb (1/2) (-2) (-1) (Gen.Kernel.tpcnLogFactor 2 3 4 1) :=
  C03_tpcn_interior 2 3 (1/2) (1/2) (-1) (-2) 1 4 (3/2) (by norm_num) (by norm_num) (by norm_num) (by norm_num)
    (by norm_num)

/-- the acceptance is not trivially constant: moving to a point of higher Student-t weight and equal likelihood is
    accepted with probability `t(x)/t(y) < 1` -/
example : Gen.Kernel.acceptProb (1:ℝ) 0 0 (Gen.Kernel.tpcnLogFactor 1 1 1 0) = 1 / 2 := by
  rw [C03_accept_is_mh_tpcn 1 1 1 0 0 1 0 (by norm_num) (by norm_num) (by norm_num)]
  have h1 : tker 1 1 1 = 1 / 2 := by
    unfold tker; norm_num [rpow_neg_one]
  have h0 : tker 1 1 0 = 1 := by unfold tker; norm_num
  rw [h1, h0]; norm_num

example : (Gen.Kernel.tpcnDiffCoef (3/5 : ℝ) 1) ^ 2 + (3/5 : ℝ) ^ 2 = 1 :=
  C03_tpcn_coef_sq (3/5) 1 (by norm_num)

example (x y : ℝ) : exp (1 * 0) * exp (-((y - x) ^ 2) / (2 * (1/2) ^ 2)) *
      Gen.Kernel.acceptProb 1 0 3 Gen.Kernel.rwmLogFactor
    = exp (1 * 3) * exp (-((x - y) ^ 2) / (2 * (1/2) ^ 2)) * Gen.Kernel.acceptProb 1 3 0 Gen.Kernel.rwmLogFactor :=
  C03_rwm_interior (fun z => exp (-(z ^ 2) / (2 * (1/2) ^ 2))) (fun z => gauss_even (1/2) z) x y 1 0 3

/-- inside → outside is never accepted, outside carries no mass: both flows vanish; inside ↔ inside is the interior flow -/
example (x y : ℝ) : cubeWeight true (exp (1 * 0)) * exp (-((y - x) ^ 2) / 2)
      * boundedAccept false (Gen.Kernel.acceptProb 1 0 3 Gen.Kernel.rwmLogFactor)
    = cubeWeight false (exp (1 * 3)) * exp (-((x - y) ^ 2) / 2)
      * boundedAccept true (Gen.Kernel.acceptProb 1 3 0 Gen.Kernel.rwmLogFactor) :=
  C03_rwm_hard_reject true false 1 0 3 _ _ (by rw [← neg_sub x y, neg_sq])

example : boundedAccept false (7 : ℝ) = 0 ∧ boundedAccept true (7 : ℝ) = 7 :=
  ⟨boundedAccept_outside 7, by simp [boundedAccept]⟩

example : ((1:ℝ) / (2/3) = 1 / 1 ↔ (2/3 : ℝ) = 1) :=
  C03_truncation_symmetric_iff 1 (2/3) 1 one_ne_zero (by norm_num) one_ne_zero

section Examples
open Matrix Lemmas.Maha Lemmas.KernelGeom Model.Kernel

/-- identity factor, d = 2: the exponent identity with concrete vectors -/
example : maha ((1 : Matrix (Fin 2) (Fin 2) ℝ) * (1 : Matrix (Fin 2) (Fin 2) ℝ)ᵀ)
      ((![1/2, 1/2] + (4/5 : ℝ) • (![1/4, 1] - ![1/2, 1/2]) + (3/5 : ℝ) • ((1 : Matrix (Fin 2) (Fin 2) ℝ) *ᵥ ![1, -2]))
        - ![1/2, 1/2])
    - 2 * (4/5) * mahaCross ((1 : Matrix (Fin 2) (Fin 2) ℝ) * (1 : Matrix (Fin 2) (Fin 2) ℝ)ᵀ) (![1/4, 1] - ![1/2, 1/2])
      ((![1/2, 1/2] + (4/5 : ℝ) • (![1/4, 1] - ![1/2, 1/2]) + (3/5 : ℝ) • ((1 : Matrix (Fin 2) (Fin 2) ℝ) *ᵥ ![1, -2]))
        - ![1/2, 1/2])
    + (4/5) ^ 2 * maha ((1 : Matrix (Fin 2) (Fin 2) ℝ) * (1 : Matrix (Fin 2) (Fin 2) ℝ)ᵀ) (![1/4, 1] - ![1/2, 1/2])
    = (3/5) ^ 2 * (![1, -2] ⬝ᵥ ![1, -2]) :=
  C03_cn_exponent_is_noise_norm 1 (by rw [Matrix.det_one]; exact isUnit_one) ![1/2, 1/2] ![1/4, 1] ![1, -2] (4/5) (3/5)

noncomputable def exModes : List (Mode ℝ) :=
  [{ mu := [3/10], chol := [[1/10]], invcov := [[100]], nu := 5/2 }, { mu := [7/10], chol := [[1/4]], invcov := [[16]], nu := 60 }]
noncomputable def exRun : RunIn ℝ :=
  { kind := .tpcn, modes := exModes, sigmas := [1/2, 4/5], beta := 1, per := [], refl := [], iter := 1, sigma0 := 238/100,
    walkers := [] }
noncomputable def exWalker (a : Nat) : Walker ℝ := { u := [2/5], assign := a, l := 0, lp := 0, g := 1, r := 1/2, z := [1] }

/-- a walker assigned to mode 1 is stepped; index 5 is an error -/
example : (walkerStep exRun (exWalker 1)).isSome = true ∧ walkerStep exRun (exWalker 5) = none := by
  constructor <;> simp [walkerStep, walkerInput, exRun, exModes, exWalker]

/-- the walker assigned to mode 1 gets mode 1's dof 60 (not mode 0's 5/2) in the gamma shape -/
example : ∃ o, walkerStep exRun (exWalker 1) = some o ∧ o.shape = gammaShape (Sc.ofNat 1) (60 : ℝ) := by
  obtain ⟨o, ho⟩ := Option.isSome_iff_exists.mp
    (show (walkerStep exRun (exWalker 1)).isSome = true by simp [walkerStep, walkerInput, exRun, exModes, exWalker])
  refine ⟨o, ho, ?_⟩
  obtain ⟨m, hm, -, hshape, -⟩ := C03_multimode_factor_same_mode exRun (exWalker 1) o rfl ho
  have : m.nu = 60 := by
    simp [exRun, exModes, exWalker] at hm; rw [← hm]
  rw [hshape, this]; rfl

example : (0 : ℝ) ≤ Gen.Kernel.tpcnAdapt (1/2 : ℝ) 1 1 (238/100) ∧ Gen.Kernel.tpcnAdapt (1/2 : ℝ) 1 1 (238/100) ≤ 99 / 100 :=
  C03_tpcn_adapt_range (1/2) 1 1 (238/100) (by norm_num) (by norm_num)

example : (2 : ℝ) * 3 * 5 = 5 * 3 * 2 := by
  have := C03_ensemble_detailed_balance (ι := Fin 3) ![2, 3, 5] ![2, 3, 5] (fun _ => rfl)
  norm_num

end Examples

end Props.C03
