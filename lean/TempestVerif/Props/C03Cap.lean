import TempestVerif.Props.C03InvP
import TempestVerif.Props.C03Modes
/-
  C03 capstone: the invariance theorems with the hypothesis H_modes DISCHARGED by the model of `ModeStatistics.__init__`, and the
  per-walker statement for the ensemble model (any cluster assignment).
-/
namespace Props.C03
open MeasureTheory Model.Kernel Matrix
open Lemmas.GaussJordan (matOf)

variable {d : ℕ}

/-- **no H_modes left**: for a symmetric positive definite covariance `Σ` the executable `ModeStatistics` model
    (`Model.ModeStatsNum.chol`, `Model.Student.inv`) answers with a factor `L` and the inverse `Σ⁻¹`, and with THESE statistics the
    law of one step of the kernel model leaves the tempered target invariant — tpCN for `0 < σ < 1`, `ν > 0`; RWM for `σ ≠ 0`;
    RWM with periodic coordinates `per`; every measurable log-likelihood, every mean `μ`, every β. -/
theorem C03_step_law_invariant_model_modes (Sg : Matrix (Fin d) (Fin d) ℝ) (hS : Sg.PosDef) :
    ∃ L : Matrix (Fin d) (Fin d) ℝ,
      Model.ModeStatsNum.chol (matOf Sg) = some (matOf L) ∧ Model.Student.inv (matOf Sg) = some (matOf Sg⁻¹) ∧
      (∀ (ℓ : V d → ℝ), Measurable ℓ → ∀ (μ : V d) (ν σ β : ℝ), 0 < ν → 0 < σ → σ < 1 →
        (targetV ℓ β).bind (tpcnLawV ℓ μ L Sg⁻¹ ν σ β) = targetV ℓ β) ∧
      (∀ (ℓ : V d → ℝ), Measurable ℓ → ∀ (μ : V d) (ν σ β : ℝ), σ ≠ 0 →
        (targetV ℓ β).bind (rwmLawV ℓ μ L Sg⁻¹ ν σ β) = targetV ℓ β) ∧
      (∀ (ℓ : V d → ℝ), Measurable ℓ → ∀ (per : List Nat) (μ : V d) (ν σ β : ℝ), σ ≠ 0 →
        (targetV ℓ β).bind (rwmLawVP ℓ per μ L Sg⁻¹ ν σ β) = targetV ℓ β) := by
  obtain ⟨L, hc, hi, -, -, hu, -, hinv⟩ := C03_model_modes_hypotheses Sg hS
  have hL : L.det ≠ 0 := isUnit_iff_ne_zero.1 hu
  refine ⟨L, hc, hi, ?_, ?_, ?_⟩
  · intro ℓ hℓ μ ν σ β hν h0 h1
    exact C03_tpcn_step_law_invariant hℓ μ L Sg⁻¹ ν σ β hν h0 h1 hL hinv
  · intro ℓ hℓ μ ν σ β hσ
    exact C03_rwm_step_law_invariant hℓ μ L Sg⁻¹ ν σ β hL hσ
  · intro ℓ hℓ per μ ν σ β hσ
    exact C03_rwm_periodic_step_law_invariant hℓ per μ L Sg⁻¹ ν σ β hL hσ

/-- non-vacuity: the correlated 3 × 3 covariance of `Props/C03Modes.lean` -/
example : ∃ L : Matrix (Fin 3) (Fin 3) ℝ, Model.ModeStatsNum.chol (matOf exS) = some (matOf L) ∧
    ∀ (ℓ : V 3 → ℝ), Measurable ℓ → ∀ (μ : V 3) (ν σ β : ℝ), 0 < ν → 0 < σ → σ < 1 →
      (targetV ℓ β).bind (tpcnLawV ℓ μ L exS⁻¹ ν σ β) = targetV ℓ β := by
  obtain ⟨L, hc, -, h, -⟩ := C03_step_law_invariant_model_modes exS exS_posDef
  exact ⟨L, hc, h⟩

/-- **any cluster assignment**: in the ensemble model a walker assigned to mode `a` is stepped with the statistics and the step
    size of mode `a` (`C03_walker_uses_own_mode`); if that mode is `(μ, L, S, ν)` in vector form, the walker sits at `x` and no
    coordinate is periodic or reflective (`hper`, `hrefl`), its result is `Model.Kernel.step` of the single-walker input `inD` with
    the walker's own `l`, `lp` — whatever `a` is.  (`closedStep`, whose law the theorems above are about, is this `step` when `l`,
    `lp` are the log-likelihood at the current point and at the point passed on: `closedStep_eq_step`; that the runner supplies
    exactly these values is the closure the law theorems assume, it is not part of this statement.) -/
theorem C03_walker_step_is_closed_step (i : RunIn ℝ) (w : Walker ℝ) (o : StepOut ℝ) (h : walkerStep i w = some o)
    (μ : V d) (L S : Matrix (Fin d) (Fin d) ℝ) (ν σ : ℝ) (x z : V d)
    (hmode : i.modes[w.assign]? = some { mu := List.ofFn μ, chol := matOf L, invcov := matOf S, nu := ν })
    (hsig : i.sigmas[w.assign]? = some σ) (hu : w.u = List.ofFn x) (hz : w.z = List.ofFn z)
    (hper : i.per = []) (hrefl : i.refl = []) :
    o = step { inD i.kind μ L S ν σ i.beta w.l w.lp x w.g z w.r with } := by
  obtain ⟨m, sg, hm, hs, ho⟩ := C03_walker_uses_own_mode i w o h
  rw [hmode] at hm
  rw [hsig] at hs
  simp only [Option.some.injEq] at hm hs
  subst hm hs
  rw [ho, hu, hz, hper, hrefl]
  rfl

end Props.C03
