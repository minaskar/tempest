import TempestVerif.Props.C04Round
/-
  C04 — the side conditions of `C04_rounded_finite` discharged from the
  statement's own quantifier, at the binary64 parameters.

  `C04_rounded_finite` has magnitude hypotheses (`|ℓ β_t| ≤ L`, `|z_t| ≤ Z`, `log N ≤ G`, `N·u ≤ 1/2`,
  `40(L+Z+G+N+1) ≤ Ω`).  Here they are derived from what the statement quantifies over — temperatures in [0, 1],
  log-likelihoods and evidence values of ANY magnitude up to 10^300, up to 10^15 stored particles — for the constants of
  IEEE binary64 (u = 2^-52, η = 2^-1074, Ω = 2^1023).  What is left is H-IEEE alone: that the hardware's `+ − ×` and
  numpy's `exp`/`log` round within `u|x| + η` (suite `ieee-H` samples this on every run).
-/
namespace Props.C04Round
open Model.Weights
-- lets `norm_num` evaluate `2 ^ 1023` and `2 ^ 1074` (the default stops at exponent 256)
set_option exponentiation.threshold 2000

variable {rnd : ℝ → ℝ}

/-- **finiteness for the whole quantifier domain (and far beyond), binary64 constants.** -/
theorem C04_rounded_finite_binary64 (rm : RoundModel rnd (1 / 2 ^ 52) (1 / 2 ^ 1074) (2 ^ 1023))
    (h : List (Batch (Rd rnd))) (β : Rd rnd) (nrm : Bool) (Lm Z : ℝ)
    (hne : h ≠ []) (hn : ∀ b ∈ h, 1 ≤ b.logl.length)
    (hl : ∀ l ∈ flatLogl h, |l.v| ≤ Lm) (hLm : Lm ≤ 10 ^ 300)
    (hb : ∀ b ∈ h, 0 ≤ b.beta.v ∧ b.beta.v ≤ 1) (hβ : 0 ≤ β.v ∧ β.v ≤ 1)
    (hZ : ∀ b ∈ h, |b.logz.v| ≤ Z) (hZm : Z ≤ 10 ^ 300)
    (hN : nTotal h ≤ 10 ^ 15) :
    (∀ x ∈ (logw h β nrm).1, |x.v| ≤ 30 * (Lm + Z + 2 * (nTotal h : ℝ) + 1)) ∧
    (∃ z, (logw h β nrm).2 = some z ∧ |z.v| ≤ 30 * (Lm + Z + 2 * (nTotal h : ℝ) + 1)) := by
  have hN0 : (0 : ℝ) < nTotal h := Nat.cast_pos.mpr (one_le_nTotal hne hn)
  have hNr : (nTotal h : ℝ) ≤ 10 ^ 15 := by exact_mod_cast hN
  have hG : Real.log (nTotal h : ℝ) ≤ (nTotal h : ℝ) :=
    (Real.log_le_sub_one_of_pos hN0).trans (sub_le_self _ zero_le_one)
  have hΩ : (40 : ℝ) * (10 ^ 300 + 10 ^ 300 + 10 ^ 15 + 10 ^ 15 + 1) ≤ 2 ^ 1023 := by norm_num
  have key := C04_rounded_finite rm h β nrm Lm Z (nTotal h : ℝ) hne hn
    (fun b hb' l hl' => mul_comm l.v _ ▸ abs_mul_le_of_le_one (hb b hb').1 (hb b hb').2 (hl l hl'))
    (fun l hl' => mul_comm l.v _ ▸ abs_mul_le_of_le_one hβ.1 hβ.2 (hl l hl'))
    hZ hG
    ((mul_le_mul_of_nonneg_right hNr (by positivity)).trans (by norm_num))
    ((mul_le_mul_of_nonneg_left (add_le_add (add_le_add (add_le_add (add_le_add hLm hZm) hNr) hNr) le_rfl)
      (by norm_num)).trans hΩ)
  have e : 30 * (Lm + Z + (nTotal h : ℝ) + (nTotal h : ℝ) + 1) = 30 * (Lm + Z + 2 * (nTotal h : ℝ) + 1) := by ring
  rwa [e] at key

/-! ### non-vacuity: a non-identity rounding function at the binary64 constants, a history at |ℓ| = 10^300 -/

noncomputable def rnd64 (x : ℝ) : ℝ := if |x| ≤ 2 ^ 1023 then x * (1 + 1 / 2 ^ 53) else 0

theorem rm_rnd64 : RoundModel rnd64 (1 / 2 ^ 52) (1 / 2 ^ 1074) (2 ^ 1023) :=
  RoundModel.inflate (δ := 1 / 2 ^ 53) (by positivity) (by norm_num) (by norm_num) (by positivity)
    (one_div_le_one_div_of_le (by norm_num) (pow_le_pow_right₀ (by norm_num) (by norm_num) : (2 : ℝ) ^ 3 ≤ 2 ^ 1074)
      |>.trans_eq (by norm_num))

noncomputable def hHuge : List (Batch (Rd rnd64)) :=
  [⟨⟨0⟩, ⟨0⟩, [⟨10 ^ 300⟩, ⟨-10 ^ 300⟩]⟩, ⟨⟨1⟩, ⟨-10 ^ 299⟩, [⟨3 * 10 ^ 299⟩]⟩]

example : (∀ x ∈ (logw hHuge (⟨1⟩ : Rd rnd64) true).1, |x.v| ≤ 30 * (10 ^ 300 + 10 ^ 299 + 2 * 3 + 1)) ∧
    ∃ z, (logw hHuge (⟨1⟩ : Rd rnd64) true).2 = some z := by
  have hN : nTotal hHuge = 3 := rfl
  have hfl : ∀ l ∈ flatLogl hHuge, |l.v| ≤ 10 ^ 300 := by
    intro l hl
    simp only [hHuge, flatLogl, List.flatMap_cons, List.flatMap_nil, List.append_nil, List.cons_append, List.nil_append,
      List.mem_cons, List.not_mem_nil, or_false] at hl
    rcases hl with rfl | rfl | rfl <;> norm_num [abs_le]
  have hb : ∀ b ∈ hHuge, (0 ≤ b.beta.v ∧ b.beta.v ≤ 1) ∧ |b.logz.v| ≤ 10 ^ 299 ∧ 1 ≤ b.logl.length := by
    intro b hb
    simp only [hHuge, List.mem_cons, List.not_mem_nil, or_false] at hb
    rcases hb with rfl | rfl <;> norm_num
  have := C04_rounded_finite_binary64 rm_rnd64 hHuge ⟨1⟩ true (10 ^ 300) (10 ^ 299) (List.cons_ne_nil _ _)
    (fun b hb' => (hb b hb').2.2) hfl (le_refl _) (fun b hb' => (hb b hb').1) (by norm_num)
    (fun b hb' => (hb b hb').2.1) (by norm_num) (by rw [hN]; norm_num)
  rw [hN] at this
  obtain ⟨h1, z, hz, _⟩ := this
  exact ⟨by exact_mod_cast h1, z, hz⟩

end Props.C04Round
