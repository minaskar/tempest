import TempestVerif.Lemmas.Resample
import TempestVerif.Lemmas.CeilComb
/-
  C06 — what holds for EVERY scalar type, so verbatim for the `Float` the driver executes (no ordering axiom is used): each returned
  index is fixed by the comparisons the loop makes against ITS OWN running sums `cum` (`LoopSpec`, `C06_syst_loop_spec`).  Exactly `n`
  valid, non-decreasing indices are read off from that; so is, wherever the comparisons are exact through a map into `ℝ` (`id` at `ℝ`,
  `toR` in rounded arithmetic), that each index is the first whose running sum exceeds its position (`LoopSpec.cover`).  Last: what the
  multinomial scheme and the callers `Resampler.run`, `compute_posterior(resample=True)` return as far as no real number is needed.
-/
namespace Props.C06
open Model.Resample Lemmas.CeilComb

section generic
variable {α : Type} [Sc α]

/-! ### the loop: indices are decided by comparisons with the loop's own running sums -/

/-- the value of `cumulative_sum` while the loop stands at index `j` (`c0 = weights[0]`) -/
def cum (v : List α) (c0 : α) : Nat → α
  | 0 => c0
  | j + 1 => match v[j + 1]? with
    | some x => Sc.add (cum v c0 j) x
    | none => cum v c0 j

theorem cum_succ (v : List α) (c0 : α) (k : Nat) (hk : k + 1 < v.length) :
    cum v c0 (k + 1) = Sc.add (cum v c0 k) v[k + 1] := by
  rw [cum, List.getElem?_eq_getElem hk]

theorem cum_succ_of_le (v : List α) (c0 : α) (k : Nat) (hk : v.length ≤ k + 1) : cum v c0 (k + 1) = cum v c0 k := by
  rw [cum, List.getElem?_eq_none hk]

theorem advance_loop (v : List α) (c0 : α) (jmax : Nat) (pos : α) (fuel j : Nat)
    (hjm : jmax < v.length) (hj : j ≤ jmax) (hf : jmax - j ≤ fuel) :
    ∃ r, advance v jmax pos fuel j (cum v c0 j) = (r, cum v c0 r) ∧ j ≤ r ∧ r ≤ jmax ∧
      (∀ k, j ≤ k → k < r → Sc.ge pos (cum v c0 k) = true) ∧ (r < jmax → Sc.ge pos (cum v c0 r) = false) := by
  induction fuel generalizing j with
  | zero =>
    obtain rfl : j = jmax := by omega
    exact ⟨j, rfl, le_refl _, le_refl _, fun k h1 h2 => by omega, fun h => by omega⟩
  | succ fuel ih =>
    unfold advance
    by_cases hcond : (decide (j < jmax) && Sc.ge pos (cum v c0 j)) = true
    · rw [if_pos hcond]
      simp only [Bool.and_eq_true, decide_eq_true_eq] at hcond
      have hj1 : j + 1 < v.length := by omega
      simp only [List.getElem?_eq_getElem hj1, ← cum_succ v c0 j hj1]
      obtain ⟨r, hr, h2, h3, h4, h5⟩ := ih (j + 1) (by omega) (by omega)
      refine ⟨r, hr, by omega, h3, fun k hk1 hk2 => ?_, h5⟩
      rcases Nat.eq_or_lt_of_le hk1 with rfl | hk3
      · exact hcond.2
      · exact h4 k hk3 hk2
    · rw [if_neg hcond]
      refine ⟨j, rfl, le_refl _, hj, fun k h1 h2 => by omega, fun hlt => ?_⟩
      simpa [hlt] using hcond

/-- what the loop guarantees about the list of returned indices `rs` for the positions `is`, starting at index `j`:
    each index is at least the previous one and at most `jmax`; every running sum it stepped over was `≤` the position;
    and unless it stopped at the cap `jmax`, the position is NOT `≥` the running sum it stopped at. -/
def LoopSpec (c : Nat → α) (jmax : Nat) (pos : Nat → α) : List Nat → Nat → List Nat → Prop
  | [], _, [] => True
  | i :: is, j, r :: rs =>
    j ≤ r ∧ r ≤ jmax ∧ (∀ k, j ≤ k → k < r → Sc.ge (pos i) (c k) = true) ∧
    (r < jmax → Sc.ge (pos i) (c r) = false) ∧ LoopSpec c jmax pos is r rs
  | _, _, _ => False

theorem run_loop_spec (v : List α) (c0 : α) (jmax : Nat) (pos : Nat → α) (is : List Nat) (j : Nat)
    (hjm : jmax < v.length) (hj : j ≤ jmax) :
    LoopSpec (cum v c0) jmax pos is j (run v jmax pos is j (cum v c0 j)) := by
  induction is generalizing j with
  | nil => simp [run, LoopSpec]
  | cons i is ih =>
    simp only [run, LoopSpec]
    obtain ⟨r, hr, h2, h3, h4, h5⟩ := advance_loop v c0 jmax (pos i) v.length j hjm hj (by omega)
    rw [hr]
    exact ⟨h2, h3, h4, h5, ih r h3⟩

/-- **loop specification, every scalar type** (also the `Float` the driver executes): the index vector returned for the
    effective weights `c0 :: t = renorm s w` satisfies `LoopSpec` with respect to the loop's own running sums, with the cap
    `j_max = lastPositive` (the last index whose weight compares `> 0`; /repo 5a51476). -/
theorem C06_syst_loop_spec (s : α) (n : Nat) (w : List α) (u0 : α) (idx : List Nat)
    (h : systematicWith s n w u0 = some idx) :
    ∃ c0 t, renorm s w = c0 :: t ∧
      LoopSpec (cum (c0 :: t) c0) (lastPositive (c0 :: t)) (position n u0) (List.range n) 0 idx := by
  obtain ⟨c0, t, h1, h2⟩ := systematicWith_some s n w u0 fun e => by
    rw [(systematicWith_none_iff s n w u0).mpr e] at h; cases h
  rw [h2] at h; injection h with h; subst h
  exact ⟨c0, t, h1, run_loop_spec (c0 :: t) c0 (lastPositive (c0 :: t)) (position n u0) (List.range n) 0
    (lastPositive_lt _ (by simp)) (Nat.zero_le _)⟩

/-! ### what the specification says about the index vector -/

theorem LoopSpec.shape {c : Nat → α} {jmax : Nat} {pos : Nat → α} {is : List Nat} {j : Nat} {rs : List Nat}
    (h : LoopSpec c jmax pos is j rs) :
    rs.length = is.length ∧ (∀ r ∈ rs, j ≤ r ∧ r ≤ jmax) ∧ rs.Pairwise (· ≤ ·) := by
  induction is generalizing j rs with
  | nil =>
    cases rs with
    | nil => simp
    | cons r rs => simp [LoopSpec] at h
  | cons i is ih =>
    cases rs with
    | nil => simp [LoopSpec] at h
    | cons r rs =>
      simp only [LoopSpec] at h
      obtain ⟨h1, h2, _, _, h5⟩ := h
      obtain ⟨hl, hb, hp⟩ := ih h5
      refine ⟨by simp [hl], ?_, List.pairwise_cons.mpr ⟨fun r' hr' => (hb r' hr').1, hp⟩⟩
      intro r' hr'
      rcases List.mem_cons.mp hr' with rfl | hr'
      · exact ⟨h1, h2⟩
      · exact ⟨h1.trans (hb r' hr').1, (hb r' hr').2⟩

theorem LoopSpec.cover {c : Nat → α} {jmax : Nat} {pos : Nat → α} (f : α → ℝ)
    (hf : ∀ a b, Sc.ge a b = true ↔ f b ≤ f a) {is : List Nat} {j : Nat} {rs : List Nat}
    (hpos : is.Pairwise (fun a b => f (pos a) ≤ f (pos b)))
    (hinv : ∀ i ∈ is, ∀ k < j, f (c k) ≤ f (pos i))
    (h : LoopSpec c jmax pos is j rs) :
    List.Forall₂ (fun i r => FirstAbove (fun k => f (c k)) jmax (f (pos i)) r) is rs := by
  induction is generalizing j rs with
  | nil =>
    cases rs with
    | nil => exact .nil
    | cons r rs => simp [LoopSpec] at h
  | cons i is ih =>
    cases rs with
    | nil => simp [LoopSpec] at h
    | cons r rs =>
      simp only [LoopSpec] at h
      obtain ⟨_, h2, h3, h4, h5⟩ := h
      rw [List.pairwise_cons] at hpos
      have hall : ∀ k < r, f (c k) ≤ f (pos i) := by
        intro k hk
        by_cases hkj : k < j
        · exact hinv i (by simp) k hkj
        · exact (hf _ _).mp (h3 k (by omega) hk)
      refine .cons ⟨h2, fun hr => ?_, hall⟩ (ih hpos.2 ?_ h5)
      · exact not_le.mp fun hle => by simpa [(hf _ _).mpr hle] using h4 hr
      · intro i' hi' k hk
        exact le_trans (hall k hk) (hpos.1 i' hi')

theorem LoopSpec.cover_range {c : Nat → α} {jmax : Nat} {pos : Nat → α} (f : α → ℝ)
    (hf : ∀ a b, Sc.ge a b = true ↔ f b ≤ f a) (hpos : ∀ a b, a ≤ b → f (pos a) ≤ f (pos b)) {n : Nat} {rs : List Nat}
    (h : LoopSpec c jmax pos (List.range n) 0 rs) :
    List.Forall₂ (fun i r => FirstAbove (fun k => f (c k)) jmax (f (pos i)) r) (List.range n) rs :=
  h.cover f hf (List.Pairwise.imp (fun {a b} hab => hpos a b (le_of_lt hab)) List.pairwise_lt_range)
    (fun _ _ k hk => absurd hk (Nat.not_lt_zero k))

/-! ### exactly `n` valid indices in non-decreasing order -/

theorem C06_syst_length (s : α) (n : Nat) (w : List α) (u0 : α) (idx : List Nat)
    (h : systematicWith s n w u0 = some idx) : idx.length = n := by
  obtain ⟨c0, t, _, hL⟩ := C06_syst_loop_spec s n w u0 idx h
  rw [hL.shape.1, List.length_range]

theorem C06_syst_range (s : α) (n : Nat) (w : List α) (u0 : α) (idx : List Nat)
    (h : systematicWith s n w u0 = some idx) : ∀ r ∈ idx, r < w.length := by
  obtain ⟨c0, t, hv, hL⟩ := C06_syst_loop_spec s n w u0 idx h
  intro r hr
  have hlen : (c0 :: t).length = w.length := by rw [← hv, renorm_length]
  exact Nat.lt_of_le_of_lt (hL.shape.2.1 r hr).2 (hlen ▸ lastPositive_lt (c0 :: t) (List.cons_ne_nil _ _))

theorem C06_syst_monotone (s : α) (n : Nat) (w : List α) (u0 : α) (idx : List Nat)
    (h : systematicWith s n w u0 = some idx) : idx.Pairwise (· ≤ ·) := by
  obtain ⟨c0, t, _, hL⟩ := C06_syst_loop_spec s n w u0 idx h
  exact hL.shape.2.2

end generic

/-! ### the multinomial scheme returns one index per draw; the callers `Resampler.run` and `compute_posterior(resample=True)` -/

theorem C06_mult_length {α : Type} [Sc α] (w us : List α) (idx : List ℕ)
    (h : multinomial w us = some idx) : idx.length = us.length := by
  unfold multinomial at h
  cases hc : normCdf w with
  | none => rw [hc] at h; cases h
  | some cdf => rw [hc] at h; simp at h; subst h; simp

/-- `Resampler.run`, systematic scheme: whatever the weights, `np.sum` and offset -/
theorem C06_run_syst {α : Type} [Sc α] (n : ℕ) (w : List α) (u0 : α) (us : List α) (idx : List ℕ)
    (h : resamplerRun false Scheme.syst n w u0 us = RunResult.indices idx) :
    idx.length = n ∧ (∀ r ∈ idx, r < w.length) ∧ idx.Pairwise (· ≤ ·) := by
  rw [resamplerRun_syst_iff] at h
  exact ⟨C06_syst_length _ n w u0 _ h, C06_syst_range _ n w u0 _ h, C06_syst_monotone _ n w u0 _ h⟩

/-- `Resampler.run`, multinomial scheme: one index per uniform the generator supplied (`size = n_particles` of them) -/
theorem C06_run_mult_length {α : Type} [Sc α] (n : ℕ) (w : List α) (u0 : α) (us : List α) (idx : List ℕ)
    (hn : us.length = n) (h : resamplerRun false Scheme.mult n w u0 us = RunResult.indices idx) :
    idx.length = n := by
  rw [resamplerRun_mult_iff] at h
  rw [C06_mult_length w us _ h, hn]

/-- `Resampler.run` with the systematic scheme never fails on a non-empty weight vector, and resamples iff `beta ≠ 0` -/
theorem C06_run_total {α : Type} [Sc α] (b : Bool) (n : ℕ) (w : List α) (u0 : α) (us : List α) (hw : w ≠ []) :
    (resamplerRun b Scheme.syst n w u0 us = RunResult.skipped ↔ b = true) ∧
    (b = false → ∃ idx, resamplerRun b Scheme.syst n w u0 us = RunResult.indices idx) := by
  obtain ⟨c0, t, _, h2⟩ := systematicWith_some (npSum w) n w u0 hw
  have hrun := (resamplerRun_syst_iff n w u0 us _).mpr h2
  refine ⟨⟨fun h => ?_, fun hb => by rw [hb]; rfl⟩, fun hb => ⟨_, by rw [hb]; exact hrun⟩⟩
  cases b with
  | true => rfl
  | false => rw [hrun] at h; cases h

/-- `compute_posterior(resample=True)`: as many indices as there are weights, all valid, non-decreasing -/
theorem C06_posterior_resample {α : Type} [Sc α] (w : List α) (u0 : α) (idx : List ℕ)
    (h : posteriorResample w u0 = some idx) :
    idx.length = w.length ∧ (∀ r ∈ idx, r < w.length) ∧ idx.Pairwise (· ≤ ·) :=
  ⟨C06_syst_length _ _ w u0 _ h, C06_syst_range _ _ w u0 _ h, C06_syst_monotone _ _ w u0 _ h⟩

end Props.C06
