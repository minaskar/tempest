import TempestVerif.Props.C06
import TempestVerif.Model.ResampleX
/-
  C06 — zero weights are never selected, the laws of the index and of the number of copies under a uniform draw, numpy's
  validation of `p` in `choice`, and the call sites (`Model/ResampleX.lean`).  The callers normalise by the sum first, so their
  laws quote the ones for a total of exactly 1 (`iterationResample_syst`, `floor_ceil_normalised`).
-/
namespace Props.C06
open Model.Resample Model.ResampleX MeasureTheory Lemmas.CeilComb
open ScReal (sum_map_div_self div_sum_nonneg ne_nil_of_sum_pos)

/-! ### zero-weight particles are never selected -/

theorem zero_weight_eff {s : ℝ} {n : ℕ} {w v : List ℝ} {u0 : ℝ} {idx : List ℕ} (hre : renorm s w = v) (hn : 1 ≤ n)
    (hv0 : ∀ x ∈ v, 0 ≤ x) (hpos : 0 < v.sum) (h0 : 0 ≤ u0) (h1 : u0 < 1)
    (h : systematicWith s n w u0 = some idx) (j : ℕ) (hj : j < v.length) (hz : v[j] = 0) : idx.count j = 0 := by
  subst hre
  obtain ⟨hL, hLpos⟩ := lastPositive_pos _ hv0 hpos
  have hjL : j ≠ lastPositive (renorm s w) := by
    rintro rfl
    rw [hz] at hLpos; exact lt_irrefl _ hLpos
  have hc := C06_syst_count_below_last s n w u0 idx hn hv0 h0 h1 h j hjL
  rw [P_succ _ j hj, hz, add_zero, sub_self] at hc
  exact_mod_cast hc

/-- **systematic scheme, EVERY index, EVERY sum** (since /repo 5a51476 the comb stops at the last index of positive
    weight): an index whose effective weight is 0 receives no copy, for every offset in `[0,1)` — also inside the tolerance
    band, where the effective weights are the un-normalised ones. -/
theorem C06_syst_zero_weight_never (s : ℝ) (n : ℕ) (w : List ℝ) (u0 : ℝ) (idx : List ℕ) (hn : 1 ≤ n)
    (hv0 : ∀ x ∈ renorm s w, 0 ≤ x) (hpos : 0 < (renorm s w).sum) (h0 : 0 ≤ u0) (h1 : u0 < 1)
    (h : systematicWith s n w u0 = some idx) (j : ℕ) (hj : j < (renorm s w).length)
    (hz : (renorm s w)[j] = 0) : idx.count j = 0 :=
  zero_weight_eff rfl hn hv0 hpos h0 h1 h j hj hz

/-- the same for `systematic` on weights that sum to exactly 1 -/
theorem C06_syst_zero_weight_sum_one (n : ℕ) (w : List ℝ) (u0 : ℝ) (idx : List ℕ) (hn : 1 ≤ n)
    (hw0 : ∀ x ∈ w, 0 ≤ x) (hw1 : w.sum = 1) (h0 : 0 ≤ u0) (h1 : u0 < 1)
    (h : systematic n w u0 = some idx) (j : ℕ) (hj : j < w.length) (hz : w[j] = 0) : idx.count j = 0 := by
  rw [systematic_real] at h
  exact zero_weight_eff (renorm_of_sum_one hw1) hn hw0 (by rw [hw1]; exact one_pos) h0 h1 h j hj hz

theorem example_zero_last_hyp : (∀ x ∈ ([1 / 2, 1 / 2 - 1 / 2 ^ 30, 0] : List ℝ), 0 ≤ x) ∧
    |([1 / 2, 1 / 2 - 1 / 2 ^ 30, 0] : List ℝ).sum - 1| ≤ 1 / 2 ^ 26 := by
  constructor
  · intro x hx; simp at hx; rcases hx with rfl | rfl | rfl <;> norm_num
  · norm_num [abs_le]

/-- inside the tolerance band too: weights used un-normalised, sum `1 − 2^-30`, trailing zero weight, offset next to 1 -/
theorem example_zero_last_run :
    systematic 1 ([1 / 2, 1 / 2 - 1 / 2 ^ 30, 0] : List ℝ) (1 - 1 / 2 ^ 31) = some [1] := by
  rw [systematic, ScReal.sum_def, systematicWith, renorm_id _ _ example_zero_last_hyp.2]
  norm_num [List.range_succ, run, position, advance.eq_def, Sc.ge, Sc.gt]

theorem example_zero_last_run_old :
    systematicOld 1 ([1 / 2, 1 / 2 - 1 / 2 ^ 30, 0] : List ℝ) (1 - 1 / 2 ^ 31) = some [2] := by
  rw [systematicOld, ScReal.sum_def, systematicWithOld, renorm_id _ _ example_zero_last_hyp.2]
  norm_num [List.range_succ, run, position, advance.eq_def, Sc.ge]

/-- **the defect repaired by /repo 5a51476** (witness on the OLD rule `j_max = len(weights) − 1`): inside the tolerance band,
    with a deficit, the last index was selected although its weight is 0 (`w = [1/2, 1/2 − 2^-30, 0]`, `n = 1`,
    `u0 = 1 − 2^-31` → `[2]`); under the current rule the same input gives `[1]` (`example_zero_last_run`). -/
theorem C06_syst_zero_weight_last_deficit :
    ∃ (n : ℕ) (w : List ℝ) (u0 : ℝ) (idx : List ℕ), 1 ≤ n ∧ (∀ x ∈ w, 0 ≤ x) ∧ |w.sum - 1| ≤ 1 / 2 ^ 26 ∧
      0 ≤ u0 ∧ u0 < 1 ∧ systematicOld n w u0 = some idx ∧
      ∃ (j : ℕ) (hj : j < w.length), w[j] = 0 ∧ idx.count j ≠ 0 :=
  ⟨1, [1 / 2, 1 / 2 - 1 / 2 ^ 30, 0], 1 - 1 / 2 ^ 31, [2], le_refl _, example_zero_last_hyp.1, example_zero_last_hyp.2,
    by norm_num, by norm_num, example_zero_last_run_old, 2, by simp, by simp, by simp⟩

/-- … and the current rule on that input: the zero-weight index 2 is not selected -/
example : ([1] : List ℕ).count 2 = 0 :=
  zero_weight_eff (renorm_id _ _ (by rw [ScReal.sum_def]; exact example_zero_last_hyp.2)) (le_refl _) example_zero_last_hyp.1
    (by norm_num) (by norm_num) (by norm_num) example_zero_last_run 2 (by simp) (by simp)

/-- **multinomial scheme**: an index of weight 0 is never drawn, whatever the uniforms in `[0,1)` -/
theorem C06_mult_zero_weight_never (w us : List ℝ) (idx : List ℕ) (hw0 : ∀ x ∈ w, 0 ≤ x) (hpos : 0 < w.sum)
    (hus : ∀ u ∈ us, 0 ≤ u) (h : multinomial w us = some idx) (i : ℕ) (hi : i < w.length) (hz : w[i] = 0) :
    idx.count i = 0 := by
  rw [C06_mult_count w us idx hw0 hpos hus h i hi, List.countP_eq_zero]
  intro u _
  simp only [decide_eq_true_eq, not_and, not_lt]
  intro hlo
  rw [P_succ w i hi, hz, add_zero]
  exact hlo

theorem example_zero_mid_run : systematic 2 ([1 / 2, 0, 1 / 2] : List ℝ) (1 / 2) = some [0, 2] := by
  have hr : List.range 2 = [0, 1] := by decide
  norm_num [systematic, systematicWith, renorm, Sc.sum, ScReal.abs_def, hr, run, position, advance.eq_def, Sc.ge,
    sqrtEps_real]

example : ([0, 2] : List ℕ).count 1 = 0 :=
  C06_syst_zero_weight_sum_one 2 [1 / 2, 0, 1 / 2] (1 / 2) [0, 2] (by norm_num)
    (by intro x hx; simp at hx; rcases hx with rfl | rfl | rfl <;> norm_num) (by norm_num) (by norm_num) (by norm_num)
    example_zero_mid_run 1 (by simp) (by simp)

example : ([0, 2, 2] : List ℕ).count 1 = 0 :=
  C06_mult_zero_weight_never [1 / 2, 0, 1 / 2] [0, 1 / 2, 3 / 4] [0, 2, 2]
    (by intro x hx; simp at hx; rcases hx with rfl | rfl | rfl <;> norm_num) (by norm_num)
    (by intro u hu; simp at hu; rcases hu with rfl | rfl | rfl <;> norm_num)
    (by norm_num [multinomial, normCdf, cumsum, cumsumFrom, searchsortedRight, List.countP_cons]) 1 (by simp) (by simp)

/-! ### the laws of the index (multinomial) and of the number of copies (systematic) under a uniform draw -/

/-- **multinomial, law of one draw**: the set of uniforms in `[0,1)` that yield index `i` has Lebesgue measure `w_i/Σw` -/
theorem C06_mult_index_law (w : List ℝ) (hw0 : ∀ x ∈ w, 0 ≤ x) (hpos : 0 < w.sum) (i : ℕ) (hi : i < w.length) :
    volume {u : ℝ | u ∈ Set.Ico (0:ℝ) 1 ∧ multinomial w [u] = some [i]} = ENNReal.ofReal (w[i] / w.sum) := by
  obtain ⟨hlo, _, hhi⟩ := mult_cell_bounds w hw0 hpos i
  have hset : {u : ℝ | u ∈ Set.Ico (0:ℝ) 1 ∧ multinomial w [u] = some [i]}
      = Set.Ico (P w i / w.sum) (P w (i + 1) / w.sum) := by
    ext u
    constructor
    · rintro ⟨⟨hu0, _⟩, hm⟩
      exact (mult_draw_iff w hw0 hpos i hi u hu0).mp hm
    · intro hu
      have hu0 : 0 ≤ u := hlo.trans hu.1
      exact ⟨⟨hu0, hu.2.trans_le hhi⟩, (mult_draw_iff w hw0 hpos i hi u hu0).mpr hu⟩
  rw [hset, Real.volume_Ico, C06_mult_cell_length w i hi]

example : volume {u : ℝ | u ∈ Set.Ico (0:ℝ) 1 ∧ multinomial ([1/2, 1/4, 1/4] : List ℝ) [u] = some [1]}
    = ENNReal.ofReal ((1/4) / (1/2 + (1/4 + (1/4 + 0)))) :=
  C06_mult_index_law [1/2, 1/4, 1/4]
    example_nonneg (by norm_num) 1 (by simp)

theorem copies_law_eff {s : ℝ} {n : ℕ} {w v : List ℝ} (hre : renorm s w = v) (hn : 1 ≤ n) (hne : w ≠ [])
    (hv0 : ∀ x ∈ v, 0 ≤ x) (j : ℕ) :
    (volume {u : ℝ | u ∈ Set.Ico (0:ℝ) 1 ∧
      copiesWith s n w j u = (⌊n * edge v (j + 1) - n * edge v j⌋ : ℝ) + 1}).toReal
        = Int.fract (n * edge v (j + 1) - n * edge v j) ∧
    (volume {u : ℝ | u ∈ Set.Ico (0:ℝ) 1 ∧
      copiesWith s n w j u = (⌊n * edge v (j + 1) - n * edge v j⌋ : ℝ)}).toReal
        = 1 - Int.fract (n * edge v (j + 1) - n * edge v j) := by
  have hset : ∀ c : ℝ, {u : ℝ | u ∈ Set.Ico (0:ℝ) 1 ∧ copiesWith s n w j u = c}
      = {u : ℝ | u ∈ Set.Ico (0:ℝ) 1 ∧ ((⌈n * edge v (j + 1) - u⌉ - ⌈n * edge v j - u⌉ : ℤ) : ℝ) = c} := fun c =>
    Set.ext fun u => and_congr_right fun hu => by rw [copiesWith_eqOn hre hn hne hv0 j hu]
  rw [hset, hset]
  exact ceil_diff_law (n * edge v j) (n * edge v (j + 1))

/-- **systematic, law of the number of copies** (`Σw = 1`, offset uniform on `[0,1)`): index `j` is copied `⌊n·w_j⌋ + 1`
    times on a set of offsets of measure `frac(n·w_j)` and `⌊n·w_j⌋` times on the rest (measure `1 − frac(n·w_j)`). -/
theorem C06_syst_copies_law (n : ℕ) (w : List ℝ) (hn : 1 ≤ n) (hw0 : ∀ x ∈ w, 0 ≤ x) (hw1 : w.sum = 1) (j : ℕ)
    (hj : j < w.length) :
    (volume {u : ℝ | u ∈ Set.Ico (0:ℝ) 1 ∧ copies n w j u = (⌊n * w[j]⌋ : ℝ) + 1}).toReal = Int.fract (n * w[j]) ∧
    (volume {u : ℝ | u ∈ Set.Ico (0:ℝ) 1 ∧ copies n w j u = (⌊n * w[j]⌋ : ℝ)}).toReal = 1 - Int.fract (n * w[j]) := by
  have h := copies_law_eff (renorm_of_sum_one hw1) hn
    (List.ne_nil_of_length_pos (Nat.zero_lt_of_lt hj)) hw0 j
  rw [edge_succ w hw0 hw1.le hj (Or.inr hw1), mul_add, add_sub_cancel_left] at h
  simpa only [copies_eq_copiesWith, ScReal.sum_def] using h

example : (volume {u : ℝ | u ∈ Set.Ico (0:ℝ) 1 ∧
      copies 2 ([1/2, 1/4, 1/4] : List ℝ) 1 u = (⌊((2:ℕ):ℝ) * ([1/2, 1/4, 1/4] : List ℝ)[1]⌋ : ℝ) + 1}).toReal
    = Int.fract (((2:ℕ):ℝ) * ([1/2, 1/4, 1/4] : List ℝ)[1]) :=
  (C06_syst_copies_law 2 [1/2, 1/4, 1/4] (by norm_num)
    example_nonneg (by norm_num) 1 (by simp)).1

/-! ### numpy's validation of `p` (the tolerance the multinomial scheme itself accepts) -/

theorem kahanLoop_real (xs : List ℝ) (s : ℝ) : kahanLoop xs s 0 = s + xs.sum := by
  induction xs generalizing s with
  | nil => simp [kahanLoop]
  | cons x xs ih =>
    have hc : Sc.sub (Sc.sub (Sc.add s (Sc.sub x 0)) s) (Sc.sub x 0) = (0 : ℝ) := by simp
    simp only [kahanLoop]
    rw [hc, ih]
    simp [add_assoc]

/-- over `ℝ` the compensation term stays 0 and Kahan's sum is the sum -/
theorem kahanSum_real (w : List ℝ) (hne : w ≠ []) : kahanSum w = some w.sum := by
  cases w with
  | nil => exact absurd rfl hne
  | cons x xs => simp [kahanSum, kahanLoop_real]

/-- **what `choice(p=w)` accepts**: exactly the non-empty, entrywise non-negative vectors with `|Σw − 1| ≤ 2^-26` -/
theorem C06_choice_accepts_iff (size : ℕ) (w : List ℝ) :
    choiceCheck size w = ChoiceCheck.ok ↔ w ≠ [] ∧ (∀ x ∈ w, 0 ≤ x) ∧ |w.sum - 1| ≤ 1 / 2 ^ 26 := by
  by_cases hne : w = []
  · subst hne
    by_cases hz : size = 0 <;> simp [choiceCheck, kahanSum, hz]
  · -- over `ℝ` the sum is never NaN, so what is left are the sign test and the tolerance test
    have hneg : (w.any fun x => Sc.lt x Sc.zero) = true ↔ ¬ ∀ x ∈ w, 0 ≤ x := by simp
    have hfar : Sc.gt (Sc.abs (Sc.sub w.sum Sc.one)) (sqrtEps : ℝ) = true ↔ ¬ |w.sum - 1| ≤ 1 / 2 ^ 26 := by
      simp [ScReal.abs_def, sqrtEps_real]
    have hle : Sc.le w.sum w.sum = true := by simp
    simp only [choiceCheck, kahanSum_real w hne, hle, Bool.not_true, Bool.false_eq_true, if_false]
    split_ifs with h1 h2
    · exact ⟨(fun h => nomatch h), fun ⟨_, h0, _⟩ => absurd h0 (hneg.mp h1)⟩
    · exact ⟨(fun h => nomatch h), fun ⟨_, _, hb⟩ => absurd hb (hfar.mp h2)⟩
    · simp only [true_iff]
      exact ⟨hne, not_not.mp (mt hneg.mpr h1), not_not.mp (mt hfar.mpr h2)⟩

theorem sum_pos_of_near_one {S ε : ℝ} (hε : ε < 1) (hb : |S - 1| ≤ ε) : 0 < S := by
  linarith [(abs_le.mp hb).1]

theorem choice_ok_iff (w us : List ℝ) (idx : List ℕ) :
    choice w us = Except.ok idx ↔ choiceCheck us.length w = ChoiceCheck.ok ∧ multinomial w us = some idx := by
  unfold choice
  cases hc : choiceCheck us.length w <;> simp
  cases hm : multinomial w us <;> simp

/-- **multinomial scheme with numpy's validation inside — NO hypothesis on the weights**: whenever
    `np.random.choice(np.arange(len w), size=n, replace=True, p=w)` returns, it returns one valid index per uniform;
    non-negativity and a positive sum are what the validation itself establishes. -/
theorem C06_choice_valid (w us : List ℝ) (idx : List ℕ) (hus : ∀ u ∈ us, 0 ≤ u ∧ u < 1)
    (h : choice w us = Except.ok idx) :
    idx.length = us.length ∧ (∀ r ∈ idx, r < w.length) ∧ (∀ x ∈ w, 0 ≤ x) ∧ |w.sum - 1| ≤ 1 / 2 ^ 26 := by
  obtain ⟨hc, hm⟩ := (choice_ok_iff w us idx).mp h
  obtain ⟨_, h0, hb⟩ := (C06_choice_accepts_iff us.length w).mp hc
  exact ⟨C06_mult_length w us idx hm, C06_mult_range w us idx h0 (sum_pos_of_near_one (by norm_num) hb) hus hm, h0, hb⟩

/-- … and it raises `ValueError` on every other weight vector: a negative entry, or a sum off by more than `2^-26` -/
theorem C06_choice_rejects (w us : List ℝ) (hbad : (∃ x ∈ w, x < 0) ∨ 1 / 2 ^ 26 < |w.sum - 1| ∨ w = []) :
    ∃ e, choice w us = Except.error e := by
  have hnot : choiceCheck us.length w ≠ ChoiceCheck.ok := by
    intro hok
    obtain ⟨hne, h0, hb⟩ := (C06_choice_accepts_iff us.length w).mp hok
    rcases hbad with ⟨x, hx, hlt⟩ | hfar | hemp
    · linarith [h0 x hx]
    · linarith
    · exact hne hemp
  unfold choice
  cases hc : choiceCheck us.length w
  · exact absurd hc hnot
  all_goals exact ⟨_, rfl⟩

theorem div_sub_self_le {x S ε : ℝ} (hx : 0 ≤ x) (hε : ε < 1) (hb : |S - 1| ≤ ε) : |x / S - x| ≤ x * (ε / (1 - ε)) := by
  have hlow : 1 - ε ≤ S := by linarith [(abs_le.mp hb).1]
  have hpos : 0 < S := (sub_pos.mpr hε).trans_le hlow
  have e : x / S - x = x * ((1 - S) / S) := by
    rw [mul_div_assoc', mul_sub, mul_one, sub_div, mul_div_assoc, div_self hpos.ne', mul_one]
  rw [e, abs_mul, abs_of_nonneg hx, abs_div, abs_of_pos hpos, abs_sub_comm]
  exact mul_le_mul_of_nonneg_left (div_le_div₀ ((abs_nonneg _).trans hb) hb (sub_pos.mpr hε) hlow) hx

/-- expected copies under acceptance are `n·w_i/Σw`; that differs from the statement's `n·w_i` by at most the relative
    amount `1/(2^26 − 1)` — the price of the accepted tolerance (the multinomial analogue of finding F20) -/
theorem C06_choice_bias_bound (w : List ℝ) (h0 : ∀ x ∈ w, 0 ≤ x) (hb : |w.sum - 1| ≤ 1 / 2 ^ 26) (i : ℕ)
    (hi : i < w.length) : |w[i] / w.sum - w[i]| ≤ w[i] / (2 ^ 26 - 1) := by
  have := div_sub_self_le (h0 _ (List.getElem_mem hi)) (by norm_num) hb
  rwa [show (1 : ℝ) / 2 ^ 26 / (1 - 1 / 2 ^ 26) = (2 ^ 26 - 1)⁻¹ by norm_num, ← div_eq_mul_inv] at this

theorem resamplerRunX_eq {α : Type} [Sc α] (b : Bool) (sch : Scheme) (n : ℕ) (w : List α) (u0 : α) (us : List α)
    (hok : sch = Scheme.mult → choiceCheck us.length w = ChoiceCheck.ok) :
    resamplerRunX b sch n w u0 us = resamplerRun b sch n w u0 us := by
  unfold resamplerRunX resamplerRun
  cases b <;> simp only [Bool.false_eq_true, if_false, if_true]
  cases sch with
  | mult =>
    have hc := hok rfl
    unfold choice
    simp only [hc]
    cases multinomial w us <;> simp
  | syst => rfl
  | other => rfl

example : choiceCheck 3 ([1/2, 1/4, 1/4] : List ℝ) = ChoiceCheck.ok :=
  (C06_choice_accepts_iff 3 _).mpr ⟨by simp,
    example_nonneg, by norm_num⟩

example : ∃ e, choice ([1, 1] : List ℝ) [1/2] = Except.error e :=
  C06_choice_rejects _ _ (Or.inr (Or.inl (by norm_num)))

/-! ### the call sites: what reaches the resampling routines inside a run always sums to 1 -/

theorem normaliseNp_real (w : List ℝ) : normaliseNp w = w.map (fun x => x / w.sum) := by
  simp [normaliseNp, npSum_real]

theorem normaliseNp_sum (w : List ℝ) (hs : w.sum ≠ 0) : (normaliseNp w).sum = 1 := by
  rw [normaliseNp_real, sum_map_div_self hs]

theorem normaliseNp_nonneg (w : List ℝ) (hw0 : ∀ x ∈ w, 0 ≤ x) (hs : 0 < w.sum) : ∀ x ∈ normaliseNp w, 0 ≤ x := by
  rw [normaliseNp_real]
  exact div_sum_nonneg hw0 hs.le

/-- normalising an already normalised vector changes nothing (the Trainer's second, in-place, normalisation) -/
theorem normaliseNp_idem (w : List ℝ) (hs : w.sum ≠ 0) : normaliseNp (normaliseNp w) = normaliseNp w := by
  have h1 := normaliseNp_sum w hs
  conv_lhs => rw [normaliseNp_real (normaliseNp w), h1]
  simp

theorem normaliseNp_length (w : List ℝ) : (normaliseNp w).length = w.length := by
  simp [normaliseNp]

/-- **the array `Resampler.run` receives in `execute_iteration`** is `w/Σw` in both branches (`beta == 0` or not): non-negative,
    and its sum is exactly 1 — so inside a run the tolerance band of finding F20 is never entered at exact arithmetic. -/
theorem weightsAtResampler_real (b : Bool) (w : List ℝ) (hw0 : ∀ x ∈ w, 0 ≤ x) (hs : 0 < w.sum) :
    weightsAtResampler b w = w.map (fun x => x / w.sum) ∧ (weightsAtResampler b w).sum = 1 ∧
      (∀ x ∈ weightsAtResampler b w, 0 ≤ x) ∧ (weightsAtResampler b w).length = w.length := by
  have e : weightsAtResampler b w = normaliseNp w := by
    unfold weightsAtResampler
    cases b
    · simp only [Bool.false_eq_true, if_false]; exact normaliseNp_idem w hs.ne'
    · simp
  rw [e]
  exact ⟨normaliseNp_real w, normaliseNp_sum w hs.ne', normaliseNp_nonneg w hw0 hs, normaliseNp_length w⟩

/-- warm-up: nothing is resampled -/
theorem C06_iteration_skip {α : Type} [Sc α] (sch : Scheme) (n : ℕ) (w : List α) (u0 : α) (us : List α) :
    iterationResample true sch n w u0 us = RunResult.skipped := by
  simp [iterationResample, resamplerRunX]

theorem iterationResample_real (sch : Scheme) (n : ℕ) (w : List ℝ) (hw0 : ∀ x ∈ w, 0 ≤ x) (hs : 0 < w.sum) (u0 : ℝ)
    (us : List ℝ) :
    iterationResample false sch n w u0 us = resamplerRunX false sch n (w.map (fun x => x / w.sum)) u0 us := by
  rw [iterationResample, (weightsAtResampler_real false w hw0 hs).1]

theorem iterationResample_syst (n : ℕ) (w : List ℝ) (hw0 : ∀ x ∈ w, 0 ≤ x) (hs : 0 < w.sum) (u0 : ℝ) (us : List ℝ) :
    iterationResample false Scheme.syst n w u0 us =
      match systematic n (w.map (fun x => x / w.sum)) u0 with
      | some idx => RunResult.indices idx
      | none => RunResult.indexError := by
  simp only [iterationResample_real _ n w hw0 hs, resamplerRunX, Bool.false_eq_true, if_false, systematicNp_real]
  rfl

theorem iterationResample_syst_iff (n : ℕ) (w : List ℝ) (hw0 : ∀ x ∈ w, 0 ≤ x) (hs : 0 < w.sum) (u0 : ℝ) (us : List ℝ)
    (idx : List ℕ) :
    iterationResample false Scheme.syst n w u0 us = RunResult.indices idx ↔
      systematic n (w.map (fun x => x / w.sum)) u0 = some idx := by
  rw [iterationResample_syst n w hw0 hs]
  cases systematic n (w.map (fun x => x / w.sum)) u0 <;> simp

/-- **one iteration of a run, systematic scheme**: for ANY non-negative unnormalised weights with a positive sum (what
    `exp(logw − max)` always is: C20_expShift_valid) and every offset in `[0,1)`, the resampler gathers with exactly
    `n_particles` valid non-decreasing indices and index `j` is copied `⌊n·w_j/Σw⌋` or `⌈n·w_j/Σw⌉` times; a particle of
    weight 0 is never selected.  The literal floor/ceil clause of the statement, with no side condition on the sum. -/
theorem C06_iteration_syst_law (n : ℕ) (w : List ℝ) (u0 : ℝ) (us : List ℝ) (idx : List ℕ) (hn : 1 ≤ n)
    (hw0 : ∀ x ∈ w, 0 ≤ x) (hs : 0 < w.sum) (h0 : 0 ≤ u0) (h1 : u0 < 1)
    (h : iterationResample false Scheme.syst n w u0 us = RunResult.indices idx) :
    idx.length = n ∧ (∀ r ∈ idx, r < w.length) ∧ idx.Pairwise (· ≤ ·) ∧
    ∀ (j : ℕ) (hj : j < w.length),
      ((idx.count j : ℤ) = ⌊n * (w[j] / w.sum)⌋ ∨ (idx.count j : ℤ) = ⌈n * (w[j] / w.sum)⌉) ∧
      (w[j] = 0 → idx.count j = 0) := by
  have hsys := (iterationResample_syst_iff n w hw0 hs u0 us idx).mp h
  refine ⟨C06_syst_length _ n _ u0 idx hsys, ?_, C06_syst_monotone _ n _ u0 idx hsys, fun j hj => ⟨?_, fun hz => ?_⟩⟩
  · simpa using C06_syst_range _ n _ u0 idx hsys
  · exact floor_ceil_normalised n w u0 idx hn hw0 hs h0 h1 hsys j hj
  · exact C06_syst_zero_weight_sum_one n _ u0 idx hn (div_sum_nonneg hw0 hs.le) (sum_map_div_self hs.ne')
      h0 h1 hsys j (by rw [List.length_map]; exact hj) (by rw [List.getElem_map, hz, zero_div])

/-- copies of `j` in one iteration, as a function of the resampler's offset -/
noncomputable def iterCopies (n : ℕ) (w : List ℝ) (j : ℕ) (u : ℝ) : ℝ :=
  match iterationResample false Scheme.syst n w u [] with
  | RunResult.indices idx => (idx.count j : ℝ)
  | _ => 0

/-- **one iteration of a run is exactly unbiased**: mean copies of `j` over the offset = `n·w_j/Σw` -/
theorem C06_iteration_syst_unbiased (n : ℕ) (w : List ℝ) (hn : 1 ≤ n) (hw0 : ∀ x ∈ w, 0 ≤ x) (hs : 0 < w.sum)
    (j : ℕ) (hj : j < w.length) :
    ∫ u in Set.Ico (0:ℝ) 1, iterCopies n w j u = n * (w[j] / w.sum) := by
  have hcongr : Set.EqOn (iterCopies n w j) (copies n (w.map (fun x => x / w.sum)) j) (Set.Ico (0:ℝ) 1) := by
    intro u _
    simp only [iterCopies, iterationResample_syst n w hw0 hs, copies]
    cases systematic n (w.map (fun x => x / w.sum)) u <;> rfl
  rw [setIntegral_congr_fun measurableSet_Ico hcongr,
    C06_syst_unbiased_integral n _ hn (div_sum_nonneg hw0 hs.le) (sum_map_div_self hs.ne') j
      (by rw [List.length_map]; exact hj), List.getElem_map]

/-- **one iteration, multinomial scheme**: numpy's validation always passes on the array the run hands over (its sum is
    exactly 1), so `Resampler.run` never raises there and returns one valid index per uniform; zero weights are never drawn -/
theorem C06_iteration_mult_valid (n : ℕ) (w : List ℝ) (u0 : ℝ) (us : List ℝ) (hw0 : ∀ x ∈ w, 0 ≤ x) (hs : 0 < w.sum)
    (hus : ∀ u ∈ us, 0 ≤ u ∧ u < 1) :
    ∃ idx, iterationResample false Scheme.mult n w u0 us = RunResult.indices idx ∧
      idx.length = us.length ∧ (∀ r ∈ idx, r < w.length) ∧
      ∀ (i : ℕ) (hi : i < w.length), w[i] = 0 → idx.count i = 0 := by
  -- the array handed over is `v = w/Σw`: non-negative with sum exactly 1, so the validation passes
  have hv0 : ∀ x ∈ w.map (fun x => x / w.sum), 0 ≤ x := div_sum_nonneg hw0 hs.le
  have hv1 : (w.map (fun x => x / w.sum)).sum = 1 := sum_map_div_self hs.ne'
  have hvpos : 0 < (w.map (fun x => x / w.sum)).sum := by rw [hv1]; exact one_pos
  have hne := ne_nil_of_sum_pos hvpos
  have hok : choiceCheck us.length (w.map (fun x => x / w.sum)) = ChoiceCheck.ok :=
    (C06_choice_accepts_iff us.length _).mpr ⟨hne, hv0, by rw [hv1]; norm_num⟩
  have hm := multinomial_eq _ hne us
  refine ⟨_, ?_, C06_mult_length _ us _ hm, ?_, fun i hi hz => ?_⟩
  · rw [iterationResample_real _ n w hw0 hs, resamplerRunX_eq false Scheme.mult n _ u0 us fun _ => hok, resamplerRun_mult_iff]
    exact hm
  · simpa using C06_mult_range _ us _ hv0 hvpos hus hm
  · exact C06_mult_zero_weight_never _ us _ hv0 hvpos (fun u hu => (hus u hu).1) hm i
      (by rw [List.length_map]; exact hi) (by rw [List.getElem_map, hz, zero_div])

/-- **`posterior(resample=True)` without trimming**: for any non-negative unnormalised weights with positive sum the
    `len(w)` returned indices obey the literal floor/ceil law for `w/Σw`, for every offset in `[0,1)` -/
theorem C06_posterior_law_notrim (w : List ℝ) (u0 : ℝ) (idx : List ℕ)
    (hw0 : ∀ x ∈ w, 0 ≤ x) (hs : 0 < w.sum) (h0 : 0 ≤ u0) (h1 : u0 < 1)
    (h : posteriorResampleNoTrim w u0 = some idx) :
    idx.length = w.length ∧ (∀ r ∈ idx, r < w.length) ∧ idx.Pairwise (· ≤ ·) ∧
    ∀ (j : ℕ) (hj : j < w.length),
      (idx.count j : ℤ) = ⌊w.length * (w[j] / w.sum)⌋ ∨ (idx.count j : ℤ) = ⌈w.length * (w[j] / w.sum)⌉ := by
  rw [posteriorResampleNoTrim, posteriorResample_real, normaliseNp_real, List.length_map] at h
  refine ⟨C06_syst_length _ _ _ u0 idx h, ?_, C06_syst_monotone _ _ _ u0 idx h, fun j hj => ?_⟩
  · simpa using C06_syst_range _ _ _ u0 idx h
  · exact floor_ceil_normalised w.length w u0 idx (List.length_pos_iff.mpr (ne_nil_of_sum_pos hs)) hw0 hs h0 h1 h j hj

/-- the weights kept by a trimming mask -/
def keptOf (w : List ℝ) (keep : List Bool) : List ℝ :=
  (w.zip keep).filterMap fun q => if q.2 then some q.1 else none

theorem keptOf_nonneg (w : List ℝ) (keep : List Bool) (hw0 : ∀ x ∈ w, 0 ≤ x) : ∀ x ∈ keptOf w keep, 0 ≤ x := by
  intro x hx
  simp only [keptOf, List.mem_filterMap] at hx
  obtain ⟨q, hq, hq2⟩ := hx
  split at hq2
  · injection hq2 with hq2; subst hq2
    exact hw0 _ (List.of_mem_zip hq).1
  · cases hq2

/-- **`posterior(resample=True)` with trimming**: whatever mask the trimming pass stopped at, as long as the kept weights
    have a positive sum, the resampled indices (into the kept vector `k`) obey the literal law for `k/Σk` -/
theorem C06_posterior_law_trim (w : List ℝ) (keep : List Bool) (u0 : ℝ) (idx : List ℕ)
    (hw0 : ∀ x ∈ w, 0 ≤ x) (hs : 0 < w.sum) (hk : 0 < (keptOf (normaliseNp w) keep).sum) (h0 : 0 ≤ u0) (h1 : u0 < 1)
    (h : posteriorResampleTrim w keep u0 = some idx) :
    let k := keptOf (normaliseNp w) keep
    idx.length = k.length ∧ (∀ r ∈ idx, r < k.length) ∧ idx.Pairwise (· ≤ ·) ∧
    ∀ (j : ℕ) (hj : j < k.length),
      (idx.count j : ℤ) = ⌊k.length * (k[j] / k.sum)⌋ ∨ (idx.count j : ℤ) = ⌈k.length * (k[j] / k.sum)⌉ := by
  intro k
  have hk0 : ∀ x ∈ k, 0 ≤ x := keptOf_nonneg _ keep (normaliseNp_nonneg w hw0 hs)
  have hnt : posteriorResampleNoTrim k u0 = some idx := by
    unfold posteriorResampleTrim at h
    rw [normaliseNp_idem w hs.ne'] at h
    exact h
  exact C06_posterior_law_notrim k u0 idx hk0 hk h0 h1 hnt

theorem example_nonneg_211 : ∀ x ∈ ([2, 1, 1] : List ℝ), 0 ≤ x := by
  intro x hx; simp at hx; rcases hx with rfl | rfl <;> norm_num

theorem example_iteration_run :
    iterationResample false Scheme.syst 4 ([2, 1, 1] : List ℝ) (1/2) [] = RunResult.indices [0, 0, 1, 2] := by
  have hw : ([2, 1, 1] : List ℝ).map (fun x => x / ([2, 1, 1] : List ℝ).sum) = [1/2, 1/4, 1/4] := by norm_num
  rw [iterationResample_real _ _ _ example_nonneg_211 (by norm_num), hw,
    resamplerRunX_eq false Scheme.syst 4 _ _ _ (by intro h; cases h)]
  exact example_resampler_run

/-- unnormalised weights `[2, 1, 1]` (sum 4, far outside any tolerance): one iteration still copies index 0 exactly
    `4·(2/4) = 2` times -/
example : ((([0, 0, 1, 2] : List ℕ).count 0 : ℕ) : ℤ) = ⌊((4:ℕ):ℝ) * (([2, 1, 1] : List ℝ)[0] / ([2, 1, 1] : List ℝ).sum)⌋ ∨
    ((([0, 0, 1, 2] : List ℕ).count 0 : ℕ) : ℤ) = ⌈((4:ℕ):ℝ) * (([2, 1, 1] : List ℝ)[0] / ([2, 1, 1] : List ℝ).sum)⌉ :=
  ((C06_iteration_syst_law 4 [2, 1, 1] (1/2) [] [0, 0, 1, 2] (by norm_num)
    example_nonneg_211 (by norm_num) (by norm_num) (by norm_num)
    example_iteration_run).2.2.2 0 (by simp)).1

example : ∫ u in Set.Ico (0:ℝ) 1, iterCopies 4 ([2, 1, 1] : List ℝ) 1 u
    = ((4:ℕ):ℝ) * (([2, 1, 1] : List ℝ)[1] / ([2, 1, 1] : List ℝ).sum) :=
  C06_iteration_syst_unbiased 4 [2, 1, 1] (by norm_num)
    example_nonneg_211 (by norm_num) 1 (by simp)

/-! ### non-vacuity: the validation and the posterior on concrete inputs -/

theorem example_choice_run : choice ([1/2, 1/4, 1/4] : List ℝ) [0, 1/2, 3/4] = Except.ok [0, 1, 2] := by
  rw [choice_ok_iff]
  refine ⟨(C06_choice_accepts_iff 3 _).mpr ⟨by simp,
    example_nonneg, by norm_num⟩, ?_⟩
  norm_num [multinomial, normCdf, cumsum, cumsumFrom, searchsortedRight, List.countP_cons]

example : ([0, 1, 2] : List ℕ).length = 3 ∧ (∀ r ∈ ([0, 1, 2] : List ℕ), r < 3) := by
  have := C06_choice_valid [1/2, 1/4, 1/4] [0, 1/2, 3/4] [0, 1, 2]
    (by intro u hu; simp at hu; rcases hu with rfl | rfl | rfl <;> norm_num) example_choice_run
  exact ⟨by simp, by simp⟩

example : |([1/2, 1/2 + 1/2^27] : List ℝ)[1] / ([1/2, 1/2 + 1/2^27] : List ℝ).sum - ([1/2, 1/2 + 1/2^27] : List ℝ)[1]|
    ≤ ([1/2, 1/2 + 1/2^27] : List ℝ)[1] / (2 ^ 26 - 1) :=
  C06_choice_bias_bound [1/2, 1/2 + 1/2^27]
    (by intro x hx; simp at hx; rcases hx with rfl | rfl <;> norm_num) (by norm_num [abs_le]) 1 (by simp)

example : ∃ idx, iterationResample false Scheme.mult 3 ([2, 0, 2] : List ℝ) 0 [0, 1/2, 3/4] = RunResult.indices idx ∧
    idx.length = 3 ∧ (∀ r ∈ idx, r < 3) ∧ idx.count 1 = 0 := by
  obtain ⟨idx, h1, h2, h3, h4⟩ := C06_iteration_mult_valid 3 [2, 0, 2] 0 [0, 1/2, 3/4]
    (by intro x hx; simp only [List.mem_cons, List.mem_nil_iff, or_false] at hx; rcases hx with rfl | rfl | rfl <;> norm_num)
    (by norm_num)
    (by intro u hu; simp at hu; rcases hu with rfl | rfl | rfl <;> norm_num)
  exact ⟨idx, h1, by simpa using h2, by simpa using h3, h4 1 (by simp) (by simp)⟩

theorem example_posterior_run : posteriorResampleNoTrim ([4, 2, 2] : List ℝ) (1/2) = some [0, 1, 2] := by
  have hw : normaliseNp ([4, 2, 2] : List ℝ) = [1/2, 1/4, 1/4] := by
    rw [normaliseNp_real]; norm_num
  have hr : List.range 3 = [0, 1, 2] := by decide
  simp only [posteriorResampleNoTrim, hw, posteriorResample_real]
  norm_num [systematic, systematicWith, renorm, Sc.sum, ScReal.abs_def, hr, run, position, advance.eq_def, Sc.ge,
    sqrtEps_real]

example : ((([0, 1, 2] : List ℕ).count 0 : ℕ) : ℤ) = ⌊(([4, 2, 2] : List ℝ).length : ℝ) * (([4, 2, 2] : List ℝ)[0] / ([4, 2, 2] : List ℝ).sum)⌋ ∨
    ((([0, 1, 2] : List ℕ).count 0 : ℕ) : ℤ) = ⌈(([4, 2, 2] : List ℝ).length : ℝ) * (([4, 2, 2] : List ℝ)[0] / ([4, 2, 2] : List ℝ).sum)⌉ :=
  (C06_posterior_law_notrim [4, 2, 2] (1/2) [0, 1, 2]
    (by intro x hx; simp at hx; rcases hx with rfl | rfl <;> norm_num) (by norm_num) (by norm_num) (by norm_num)
    example_posterior_run).2.2.2 0 (by simp)

end Props.C06
