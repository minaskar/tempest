import TempestVerif.Model.ResampleX
import TempestVerif.Gen.ResampleSrc
/-
  C06 — the executable model `Model.Resample` is built from the expressions that are in /repo's `tempest/tools.py`
  (`systematic_resample`) and `tempest/steps/resample.py` (`Resampler.run`).

  `Gen/ResampleSrc.lean` is regenerated from the source on every run of the check (translator G14): every arithmetic
  expression, comparison, literal and index expression of the two functions compiled to a term over `Sc α` (scalars) / `Nat`
  (indices), plus tables of the side effects (seeding, the single uniform draw, every state write with its path condition),
  the scheme dispatch, the arguments of the two sampling calls and the call sites.  The theorems below say that the model's
  definitions UNFOLD TO those generated terms.  They hold for EVERY scalar type — so also at `Float`, which is what the driver
  executes, at `Rat` (regime Q) and at `ℝ` (the proofs of `Props/C06*.lean`).  Most are closed by `rfl`, the rest
  by a structural case split (on a list, an option, the scheme) followed by `rfl` — no arithmetic fact about the scalars is used
  anywhere in this file.

  A change of a literal (`1.0`, `0`, `SQRTEPS`), of a comparison (`>`, `>=`, `<`), of an operator or operand order, of an index
  (`weights[j]` read before/after `j += 1`, `positions[i]`), of the scheme strings or of the routine a scheme calls changes a
  generated term and breaks the theorem named after it; a dropped, duplicated or re-guarded side effect changes a table.
-/
namespace Props.C06.Src
open Model.Resample
variable {α : Type} [Sc α]

/-! ### `systematic_resample` -/

/-- `SQRTEPS`: the module constant of tools.py, evaluated by the translator (`math.sqrt(float(np.finfo(np.float64).eps))` with
    `eps = 2^-52`), is the model's `2^-26` -/
theorem C06_src_sqrtEps : (sqrtEps : α) = Gen.ResampleSrc.sqrtEps := rfl

/-- `if abs(np.sum(weights) - 1.0) > SQRTEPS: weights = np.array(weights) / np.sum(weights)` — test, literal, divisor -/
theorem C06_src_renorm (s : α) (w : List α) : renorm s w = Gen.ResampleSrc.normalise s w := rfl

/-- the same, with the two source terms visible: the test on the sum and the elementwise division -/
theorem C06_src_renorm_terms (s : α) (w : List α) :
    renorm s w = if Gen.ResampleSrc.normTest s then w.map (fun x => Gen.ResampleSrc.normElem x s) else w := rfl

/-- `positions = (np.random.random() + np.arange(size)) / size` -/
theorem C06_src_position (n : Nat) (u0 : α) (i : Nat) : position n u0 i = Gen.ResampleSrc.position n u0 i := rfl

/-- `np.asarray(weights) > 0`: the comparison and its literal, one step of the scan for the last positive weight -/
theorem C06_src_lastPos_cons (x : α) (xs : List α) :
    lastPos? (x :: xs) = match lastPos? xs with
      | some k => some (k + 1)
      | none => if Gen.ResampleSrc.posTest x then some 0 else none := rfl

/-- `np.flatnonzero(np.asarray(weights) > 0)[-1]` (when there is one) is the model's scan -/
theorem C06_src_lastPos (v : List α) : lastPos? v = Gen.ResampleSrc.lastWhere? Gen.ResampleSrc.posTest v := by
  induction v with
  | nil => rfl
  | cons x xs ih =>
    show (match lastPos? xs with
          | some k => some (k + 1)
          | none => if Gen.ResampleSrc.posTest x then some 0 else none) = _
    rw [ih]
    rfl

/-- `j_max = positive[-1] if len(positive) else len(weights) - 1` -/
theorem C06_src_lastPositive (v : List α) : lastPositive v = Gen.ResampleSrc.jMax v := by
  show (lastPos? v).getD (v.length - 1) = _
  rw [C06_src_lastPos]
  unfold Gen.ResampleSrc.jMax
  cases Gen.ResampleSrc.lastWhere? Gen.ResampleSrc.posTest v <;> rfl

theorem C06_src_advance_zero (w : List α) (jmax : Nat) (pos : α) (j : Nat) (c : α) :
    advance w jmax pos 0 j c = (j, c) := rfl

/-- one pass of `while j < j_max and positions[i] >= cumulative_sum: j += 1; cumulative_sum += weights[j]`:
    the test (both comparisons and their order), the increment, WHICH weight is added (the one at the incremented index) and
    how it is added -/
theorem C06_src_advance_succ (w : List α) (jmax : Nat) (pos : α) (fuel j : Nat) (c : α) :
    advance w jmax pos (fuel + 1) j c =
      if Gen.ResampleSrc.whileTest j jmax pos c then
        match w[Gen.ResampleSrc.bodyIdx j]? with
        | some x => advance w jmax pos fuel (Gen.ResampleSrc.bodyJ j) (Gen.ResampleSrc.bodyC c x)
        | none => (j, c)
      else (j, c) := rfl

theorem C06_src_run_nil (w : List α) (jmax : Nat) (pos : Nat → α) (j : Nat) (c : α) : run w jmax pos [] j c = [] := rfl

/-- one pass of `for i in range(size)`: the position tested is `positions[i]`, the value stored is the index reached, and the
    state `(j, cumulative_sum)` is carried to the next pass -/
theorem C06_src_run_cons (w : List α) (jmax : Nat) (pos : Nat → α) (i : Nat) (is : List Nat) (j : Nat) (c : α) :
    run w jmax pos (i :: is) j c =
      (let st := advance w jmax (pos (Gen.ResampleSrc.posIdx i)) w.length j c
       Gen.ResampleSrc.storeVal st.1 :: run w jmax pos is st.1 st.2) := rfl

/-- shape of the outer loop: `size` passes, a buffer of `size` entries, pass `i` writes entry `i`, one position per pass, and
    exactly one uniform is drawn -/
theorem C06_src_loop_shape :
    (∀ n, Gen.ResampleSrc.loopCount n = n ∧ Gen.ResampleSrc.outLen n = n ∧ Gen.ResampleSrc.positionsLen n = n) ∧
    (∀ i, Gen.ResampleSrc.storeIdx i = i) ∧ Gen.ResampleSrc.uniformDraws = 1 :=
  ⟨fun _ => ⟨rfl, rfl, rfl⟩, fun _ => rfl, rfl⟩

/-- the whole function: renormalise, `IndexError` on the empty vector (`weights[0]`), else the comb from state
    `(j, cumulative_sum) = (0, weights[0])` capped at the last positive weight -/
theorem C06_src_systematicWith (s : α) (n : Nat) (w : List α) (u0 : α) :
    systematicWith s n w u0 =
      (let v := Gen.ResampleSrc.normalise s w
       match v[Gen.ResampleSrc.c0Idx]? with
       | none => none
       | some c0 => some (run v (Gen.ResampleSrc.jMax v) (Gen.ResampleSrc.position n u0)
                            (List.range (Gen.ResampleSrc.loopCount n)) Gen.ResampleSrc.j0 (Gen.ResampleSrc.c0Of c0))) := by
  show (match renorm s w with
        | [] => none
        | c0 :: _ => some (run (renorm s w) (lastPositive (renorm s w)) (position n u0) (List.range n) 0 c0)) = _
  rw [C06_src_lastPositive, C06_src_renorm]
  cases Gen.ResampleSrc.normalise s w <;> rfl

/-- seeding and the draw, in program order: `np.random.seed(random_state)` only under `random_state is not None`, then ONE
    `np.random.random()` (the model's `u0`: the offset is the first uniform after seeding), the filled buffer is returned -/
def expected_systEffects : List String :=
  ["C0 := random_state is not None",
   "[C0] np.random.seed(random_state)",
   "u0 = np.random.random()",
   "return out"]

theorem C06_src_systEffects : Gen.ResampleSrc.systEffects = expected_systEffects := rfl

/-! ### `Resampler.run` -/

/-- `if beta == 0.0: …; return` with `beta = self.state.get_current("beta")`, as a term (`C06_src_resamplerRun` ties the model's
    flag `betaIsZero` to it) -/
theorem C06_src_betaSkip (beta : α) :
    Gen.ResampleSrc.betaSkipTest beta = (Sc.le beta Sc.zero && Sc.le Sc.zero beta) := rfl

/-- which routine of /repo a scheme of the model stands for -/
def routine : Scheme → String
  | .mult => "np.random.choice"
  | .syst => "systematic_resample"
  | .other => "unbound"

/-- the scheme dispatch: `self.resample == "mult"` → `np.random.choice`, `== "syst"` → `systematic_resample`, anything else
    leaves the index variable unbound; `Scheme.ofString` is how the driver decodes its `scheme=` argument -/
theorem C06_src_dispatch (r : String) : routine (Scheme.ofString r) = Gen.ResampleSrc.dispatch r := by
  unfold Scheme.ofString Gen.ResampleSrc.dispatch
  by_cases h1 : (r == "mult") = true
  · simp only [h1, if_true]; rfl
  · by_cases h2 : (r == "syst") = true
    · simp only [h1, h2, if_true]; rfl
    · simp only [h1, h2]; rfl

/-- what the model does for a routine of /repo: `np.random.choice(…, p=w)` is `multinomial w us` (`ValueError` on the empty
    vector), `systematic_resample(n, w)` is `systematicNp n w u0` (`IndexError` on the empty vector) -/
def callRoutine (name : String) (n : Nat) (w : List α) (u0 : α) (us : List α) : RunResult :=
  if name == "np.random.choice" then
    match multinomial w us with
    | some idx => .indices idx
    | none => .valueError
  else if name == "systematic_resample" then
    match systematicNp n w u0 with
    | some idx => .indices idx
    | none => .indexError
  else .unbound

/-- `Resampler.run` end to end: skipped exactly when the source's test on `beta` holds, otherwise the routine the source's
    dispatch selects for the scheme string -/
theorem C06_src_resamplerRun (beta : α) (r : String) (n : Nat) (w : List α) (u0 : α) (us : List α) :
    resamplerRun (Gen.ResampleSrc.betaSkipTest beta) (Scheme.ofString r) n w u0 us =
      if Gen.ResampleSrc.betaSkipTest beta then .skipped
      else callRoutine (Gen.ResampleSrc.dispatch r) n w u0 us := by
  rw [← C06_src_dispatch]
  cases Scheme.ofString r <;> rfl

/-- the dispatch read scheme by scheme: the decoded scheme is `mult` / `syst` / `other` exactly when the source's dispatch selects
    `np.random.choice` / `systematic_resample` / nothing (what `Model.ResampleX.resamplerRunX`, the model suite RR executes,
    branches on) -/
theorem C06_src_resamplerRunX_dispatch (r : String) :
    (Scheme.ofString r = .mult ↔ Gen.ResampleSrc.dispatch r = "np.random.choice") ∧
    (Scheme.ofString r = .syst ↔ Gen.ResampleSrc.dispatch r = "systematic_resample") ∧
    (Scheme.ofString r = .other ↔ Gen.ResampleSrc.dispatch r = "unbound") := by
  rw [← C06_src_dispatch]
  cases Scheme.ofString r <;> simp [routine]

/-- arguments of `np.random.choice`, bound to numpy's parameter names: the population is `0 … len(weights)-1` (indices, the
    model's output), `self.n_particles` draws (the length of the tape `us`), WITH replacement, probabilities = the weights -/
def expected_choiceArgs : List String :=
  ["a=np.arange(len(weights))",
   "size=self.n_particles",
   "replace=True",
   "p=weights"]

theorem C06_src_choiceArgs : Gen.ResampleSrc.choiceArgs = expected_choiceArgs := rfl

/-- arguments of `systematic_resample`, bound to the parameter names of its definition in tools.py: `self.n_particles` indices
    from the weights handed to `run`, no reseeding (`systematicNp nParticles w u0`) -/
def expected_systArgs : List String :=
  ["size=self.n_particles",
   "weights=weights",
   "random_state=None"]

theorem C06_src_systArgs : Gen.ResampleSrc.systArgs = expected_systArgs := rfl

/-- every state write of `Resampler.run` with its path condition (`C0` = the skip test), every local name substituted by what
    it holds: under `beta == 0` ONLY the labels are reset (nothing is resampled: `RunResult.skipped`); otherwise `u`, `x`, `logl`
    are gathered from the flat history with the SAME index vector `idx` (the one the dispatch above produced), the labels are
    predicted from the gathered `u`, and the blobs are gathered with `idx` when `have_blobs` -/
def expected_runEffects : List String :=
  ["C0 := self.state.get_current('beta') == 0.0",
   "C1 := self.have_blobs",
   "[C0] current['assignments'] := np.zeros(self.n_particles, dtype=int)",
   "[!C0] current['u'] := self.state.get_history('u', flat=True)[idx]",
   "[!C0] current['x'] := self.state.get_history('x', flat=True)[idx]",
   "[!C0] current['logl'] := self.state.get_history('logl', flat=True)[idx]",
   "[!C0] current['assignments'] := self.clusterer.predict(self.state.get_history('u', flat=True)[idx]) if self.clustering else np.zeros(self.n_particles, dtype=int)",
   "[!C0 C1] current['blobs'] := (self.state.get_history('blobs', flat=True) if self.have_blobs else None)[idx]"]

theorem C06_src_runEffects : Gen.ResampleSrc.runEffects = expected_runEffects := rfl

/-- every call of `systematic_resample` in the package (W = the expression passed as the weights): `compute_posterior` asks for
    as many indices as there are weights (`posteriorResample w u0 = systematicNp w.length w u0`), `Resampler.run` for
    `n_particles`; neither reseeds -/
def expected_callSites : List String :=
  ["tempest/core.py: size=len(W) weights=W random_state=None",
   "tempest/steps/resample.py: size=self.n_particles weights=W random_state=None"]

theorem C06_src_callSites : Gen.ResampleSrc.callSites = expected_callSites := rfl

/-! ### the generated terms compute (non-vacuity) -/

example : Gen.ResampleSrc.jMax ([3, 0, 2, 0, 0] : List Rat) = 2 := by decide
example : Gen.ResampleSrc.jMax ([0, 0, 0] : List Rat) = 2 := by decide
example : Gen.ResampleSrc.whileTest 0 2 (1/2 : Rat) (1/4) = true ∧ Gen.ResampleSrc.whileTest 2 2 (1/2 : Rat) (1/4) = false ∧
    Gen.ResampleSrc.whileTest 0 2 (1/8 : Rat) (1/4) = false := by decide +kernel
example : Gen.ResampleSrc.normTest (2 : Rat) = true ∧ Gen.ResampleSrc.normTest (1 : Rat) = false := by decide +kernel
example : Gen.ResampleSrc.dispatch "mult" = "np.random.choice" ∧ Gen.ResampleSrc.dispatch "syst" = "systematic_resample" ∧
    Gen.ResampleSrc.dispatch "other" = "unbound" := by decide

end Props.C06.Src
