import TempestVerif.Model.Trim
import TempestVerif.Lemmas.ScReal
import TempestVerif.Props.C20
/-
  C01 — what the default weight trimming of `posterior()` (`trim_weights`, C20's `Model.Trim`) does to an expectation: the particles it
  returns carry normalised mass `K ≥ ess_trim`, a bounded test function moves by at most `2(1−K)B`, and the estimator it yields is the
  self-normalised one restricted to the weights above the threshold.
-/
namespace Props.C01
open Model.Trim Model.Ess

theorem dot_abs_le (B : ℝ) (hB : 0 ≤ B) : ∀ (w f : List ℝ), (∀ x ∈ w, 0 ≤ x) → (∀ y ∈ f, |y| ≤ B) →
    |(List.zipWith (· * ·) w f).sum| ≤ w.sum * B
  | [], _, _, _ => by simp
  | x :: xs, [], hw, _ => by
    rw [List.zipWith_nil_right, List.sum_nil, abs_zero]
    exact mul_nonneg (List.sum_nonneg hw) hB
  | x :: xs, y :: ys, hw, hf => by
    rw [List.forall_mem_cons] at hw hf
    rw [List.zipWith_cons_cons, List.sum_cons, List.sum_cons, add_mul]
    refine (abs_add_le _ _).trans (add_le_add ?_ (dot_abs_le B hB xs ys hw.2 hf.2))
    rw [abs_mul, abs_of_nonneg hw.1]
    exact mul_le_mul_of_nonneg_left hf.1 hw.1

/-- the arithmetic of the bound: `A`, `D` the kept and the dropped part of the untrimmed estimate, `K` the kept mass;
    the estimate moves by `D − (1 − K)·A/K` -/
theorem trim_bias_real (A D K B : ℝ) (hK : 0 < K) (hK1 : K ≤ 1) (hA : |A| ≤ K * B) (hD : |D| ≤ (1 - K) * B) :
    |A + D - A / K| ≤ 2 * (1 - K) * B := by
  have h1K : 0 ≤ 1 - K := sub_nonneg.mpr hK1
  have hA' : |A / K| ≤ B := by
    rw [abs_div, abs_of_pos hK, div_le_iff₀ hK, mul_comm]
    exact hA
  have e : A + D - A / K = D - (1 - K) * (A / K) := by
    rw [sub_mul, one_mul, mul_div_cancel₀ _ hK.ne', sub_sub_eq_add_sub, add_comm]
  rw [e, two_mul, add_mul]
  exact (abs_sub _ _).trans (add_le_add hD (by rw [abs_mul, abs_of_nonneg h1K]; exact mul_le_mul_of_nonneg_left hA' h1K))

theorem trim_bias_core (wn fs : List ℝ) (m : List Bool) (B : ℝ) (hB : 0 ≤ B) (h0 : ∀ x ∈ wn, 0 ≤ x) (h1 : wn.sum = 1)
    (hf : ∀ y ∈ fs, |y| ≤ B) (hl : wn.length = m.length) (hlf : fs.length = m.length)
    (hK : 0 < (filterMask wn m).sum) :
    (filterMask wn m).sum ≤ 1 ∧
    |(List.zipWith (· * ·) wn fs).sum
        - (List.zipWith (· * ·) (normalise (filterMask wn m)) (filterMask fs m)).sum|
      ≤ 2 * (1 - (filterMask wn m).sum) * B := by
  obtain ⟨s1, s2⟩ := dot_split wn fs m hl hlf
  have hAle := dot_abs_le B hB _ _ (filterMask_forall _ wn m h0) (filterMask_forall _ fs m hf)
  have hDle := dot_abs_le B hB _ _ (filterMask_forall _ wn (m.map (!·)) h0) (filterMask_forall _ fs (m.map (!·)) hf)
  have hdrop : (filterMask wn (m.map (!·))).sum = 1 - (filterMask wn m).sum := by rw [← h1, s2, add_sub_cancel_left]
  have hK1 : (filterMask wn m).sum ≤ 1 :=
    sub_nonneg.mp (hdrop ▸ List.sum_nonneg (filterMask_forall _ wn _ h0))
  rw [hdrop] at hDle
  rw [Model.Ess.normalise_def, zipWith_div_sum, s1]
  exact ⟨hK1, trim_bias_real _ _ _ B hK hK1 hAle hDle⟩

theorem bound_nonneg {σ : Type} (samples : List σ) (w : List ℝ) (hs : 0 < w.sum) (hl : samples.length = w.length)
    (f : σ → ℝ) (B : ℝ) (hB : ∀ x ∈ samples, |f x| ≤ B) : 0 ≤ B := by
  cases samples with
  | nil => cases w with
    | nil => exact absurd hs (lt_irrefl 0)
    | cons _ _ => cases hl
  | cons x _ => exact (abs_nonneg _).trans (hB x List.mem_cons_self)

theorem trim_bias {σ : Type} (samples : List σ) (w : List ℝ) (e : ℝ) (bins : Nat)
    (h0 : ∀ x ∈ w, 0 ≤ x) (hs : 0 < w.sum) (hl : samples.length = w.length)
    (s' : List σ) (w' : List ℝ) (h : trim samples w e bins = some (s', w')) (f : σ → ℝ) (B : ℝ)
    (hB : ∀ x ∈ samples, |f x| ≤ B) :
    ∃ K : ℝ, 0 < K ∧ K ≤ 1 ∧ (e ≤ 1 → e ≤ K) ∧
      |(List.zipWith (· * ·) (normalise w) (samples.map f)).sum - (List.zipWith (· * ·) w' (s'.map f)).sum|
        ≤ 2 * (1 - K) * B := by
  obtain ⟨h1, hnn, -⟩ := Model.Ess.wn_facts w h0 hs
  obtain ⟨j, st, -, rfl, rfl, ⟨-, hm, hkept, hKpos, hwt, -, -⟩, -⟩ := trim_spec_valid samples w e bins h0 hs s' w' h
  have hlen : (normalise w).length = st.mask.length := by rw [hm, List.length_map]
  obtain ⟨hK1, hb⟩ := trim_bias_core (normalise w) (samples.map f) st.mask B (bound_nonneg samples w hs hl f B hB) hnn h1
    (List.forall_mem_map.mpr hB) hlen
    (by rw [List.length_map, hl, ← hlen, Model.Ess.normalise_def, List.length_map]) (hkept ▸ hKpos)
  refine ⟨_, hKpos, hkept ▸ hK1, fun he => ?_, by rw [hwt, ← hkept, ← filterMask_map]; exact hb⟩
  -- `e·ESS(w) ≤ ESS(w')` is the guarantee of the search (C20); the kept weights are an upper set, so `ESS(w') ≤ K·ESS(w)`
  have hess := Props.C20.C20_trim_ess samples w e bins h0 hs he _ _ h
  have hup := upper_set_ess_mass (normalise w) hnn st.thr hKpos
  rw [hwt, ess_normalise _ hKpos.ne', ← ess_normalise w hs.ne'] at hess
  rw [h1, mul_one] at hup
  exact le_of_mul_le_mul_right (hess.trans hup) (ess_pos _ (h1 ▸ one_pos))

/-- **how far `trim_weights` can move an expectation**: by at most `2·(1 − K)·B` for `|f| ≤ B` on the pool, `K ∈ (0, 1]` the
    normalised weight mass of the particles that were kept -/
theorem C01_trim_bias_bound {σ : Type} (samples : List σ) (w : List ℝ) (e : ℝ) (bins : Nat)
    (h0 : ∀ x ∈ w, 0 ≤ x) (hs : 0 < w.sum) (hl : samples.length = w.length)
    (s' : List σ) (w' : List ℝ) (h : trim samples w e bins = some (s', w')) (f : σ → ℝ) (B : ℝ)
    (hB : ∀ x ∈ samples, |f x| ≤ B) :
    ∃ K : ℝ, 0 < K ∧ K ≤ 1 ∧
      |(List.zipWith (· * ·) (Model.Ess.normalise w) (samples.map f)).sum
          - (List.zipWith (· * ·) w' (s'.map f)).sum| ≤ 2 * (1 - K) * B := by
  obtain ⟨K, hK, hK1, -, hb⟩ := trim_bias samples w e bins h0 hs hl s' w' h f B hB
  exact ⟨K, hK, hK1, hb⟩

/-- with `ess_trim ≤ 1`: the default `posterior()` (ess_trim = 0.99) moves the estimate of any test function bounded by
    `B` by at most `2·(1−0.99)·B` -/
theorem C01_trim_bias_le_ess {σ : Type} (samples : List σ) (w : List ℝ) (e : ℝ) (bins : Nat) (he : e ≤ 1)
    (h0 : ∀ x ∈ w, 0 ≤ x) (hs : 0 < w.sum) (hl : samples.length = w.length)
    (s' : List σ) (w' : List ℝ) (h : trim samples w e bins = some (s', w')) (f : σ → ℝ) (B : ℝ)
    (hB : ∀ x ∈ samples, |f x| ≤ B) :
    |(List.zipWith (· * ·) (normalise w) (samples.map f)).sum - (List.zipWith (· * ·) w' (s'.map f)).sum|
      ≤ 2 * (1 - e) * B := by
  obtain ⟨K, -, -, hKe, hb⟩ := trim_bias samples w e bins h0 hs hl s' w' h f B hB
  exact hb.trans (mul_le_mul_of_nonneg_right (mul_le_mul_of_nonneg_left (sub_le_sub_left (hKe he) 1) zero_le_two)
    (bound_nonneg samples w hs hl f B hB))

/-- **the estimator the default `posterior()` returns**: whatever `trim_weights` returns, the weighted average over the
    returned samples is the SELF-NORMALISED ESTIMATOR RESTRICTED to the particles whose normalised weight is at least the
    threshold θ (a percentile of the weights): `Σ_j w'_j f(s'_j) = (Σ_{s : wn_s ≥ θ} wn_s f_s) / (Σ_{s : wn_s ≥ θ} wn_s)`.
    By `C01_trimmed_estimator_targets_restriction` (Props/C01Stat.lean) its target is `E_π[f | w ≥ θ]`, not `E_π[f]`. -/
theorem C01_trimmed_estimate_is_restricted_ratio {σ : Type} (samples : List σ) (w : List ℝ) (e : ℝ) (bins : Nat)
    (s' : List σ) (w' : List ℝ) (h : Model.Trim.trim samples w e bins = some (s', w')) (f : σ → ℝ) :
    ∃ θ : ℝ,
      let m := (Model.Ess.normalise w).map (fun x => Sc.le θ x)
      Model.Trim.filterMask (Model.Ess.normalise w) m = (Model.Ess.normalise w).filter (fun x => decide (θ ≤ x)) ∧
      (List.zipWith (· * ·) w' (s'.map f)).sum
        = (List.zipWith (· * ·) (Model.Trim.filterMask (Model.Ess.normalise w) m)
            (Model.Trim.filterMask (samples.map f) m)).sum / (Model.Trim.filterMask (Model.Ess.normalise w) m).sum := by
  obtain ⟨θ, j, -, -, rfl, rfl, hfil⟩ := Props.C20.C20_trim_upper_set samples w e bins s' w' h
  refine ⟨θ, hfil, ?_⟩
  rw [Model.Ess.normalise_def (Model.Trim.filterMask _ _), zipWith_div_sum, filterMask_map]

/-! non-vacuity of the trimming bounds: pool weights (1, 2, 5), the default call `ess = 0.99`, `bins = 1000`, the test
    function `f = identity` on the values 0, 1, 2 (bounded by 2): a result exists and the bounds apply to it -/

theorem trimEx_nonneg : ∀ x ∈ ([1, 2, 5] : List ℝ), 0 ≤ x := by norm_num

theorem trimEx_bound : ∀ x ∈ ([0, 1, 2] : List ℝ), |id x| ≤ 2 := by norm_num

theorem trimEx_some : ∃ r, Model.Trim.trim [(0:ℝ), 1, 2] ([1, 2, 5] : List ℝ) (99/100) 1000 = some r :=
  Props.C20.C20_trim_terminates_any [(0:ℝ), 1, 2] [1, 2, 5] (99/100) 1000 trimEx_nonneg (by norm_num) (by norm_num)

example : ∃ s' w' K, Model.Trim.trim [(0:ℝ), 1, 2] [1, 2, 5] (99/100) 1000 = some (s', w') ∧ 0 < K ∧ K ≤ 1 ∧
    |(List.zipWith (· * ·) (Model.Ess.normalise [1, 2, 5]) ([(0:ℝ), 1, 2].map id)).sum
        - (List.zipWith (· * ·) w' (s'.map id)).sum| ≤ 2 * (1 - K) * 2 := by
  obtain ⟨⟨s', w'⟩, hr⟩ := trimEx_some
  obtain ⟨K, hK⟩ := C01_trim_bias_bound [(0:ℝ), 1, 2] [1, 2, 5] (99/100) 1000 trimEx_nonneg (by norm_num) rfl s' w' hr id 2 trimEx_bound
  exact ⟨s', w', K, hr, hK⟩

example : ∃ s' w', Model.Trim.trim [(0:ℝ), 1, 2] [1, 2, 5] (99/100) 1000 = some (s', w') ∧
    |(List.zipWith (· * ·) (Model.Ess.normalise [1, 2, 5]) ([(0:ℝ), 1, 2].map id)).sum
        - (List.zipWith (· * ·) w' (s'.map id)).sum| ≤ 2 * (1 - 99/100) * 2 := by
  obtain ⟨⟨s', w'⟩, hr⟩ := trimEx_some
  exact ⟨s', w', hr, C01_trim_bias_le_ess [(0:ℝ), 1, 2] [1, 2, 5] (99/100) 1000 (by norm_num) trimEx_nonneg (by norm_num) rfl s' w' hr id 2 trimEx_bound⟩

example : ∃ (s' w' : List ℝ) (θ : ℝ), Model.Trim.trim [(0:ℝ), 1, 2] [1, 2, 5] (99/100) 1000 = some (s', w') ∧
    (List.zipWith (· * ·) w' (s'.map id)).sum
      = (List.zipWith (· * ·)
          (Model.Trim.filterMask (Model.Ess.normalise ([1, 2, 5] : List ℝ)) ((Model.Ess.normalise ([1, 2, 5] : List ℝ)).map fun x => Sc.le θ x))
          (Model.Trim.filterMask ([(0:ℝ), 1, 2].map id) ((Model.Ess.normalise ([1, 2, 5] : List ℝ)).map fun x => Sc.le θ x))).sum
        / (Model.Trim.filterMask (Model.Ess.normalise ([1, 2, 5] : List ℝ)) ((Model.Ess.normalise ([1, 2, 5] : List ℝ)).map fun x => Sc.le θ x)).sum := by
  obtain ⟨⟨s', w'⟩, hr⟩ := trimEx_some
  obtain ⟨θ, hθ⟩ := C01_trimmed_estimate_is_restricted_ratio [(0:ℝ), 1, 2] [1, 2, 5] (99/100) 1000 s' w' hr id
  exact ⟨s', w', θ, hr, hθ.2⟩

end Props.C01
