import TempestVerif.Model.StateMgr
import TempestVerif.Model.StateMgrX
import TempestVerif.Gen.Tables
import TempestVerif.Gen.SMSites
/-
  C17 — static ties regenerated from /repo's source on every run (translators G5-tables, G5-smsites).
  Each theorem below is an evaluation of a GENERATED table: when the source changes so that the table changes, the
  theorem no longer checks, the obligation is reported broken, and the failing-input search runs on the real code.

  They discharge, on the real code, the hypotheses under which the reference model is a model: the key sets, the rules of
  `_ensure_copy`, what every `return` of a public method hands out, what every write to `_current`, `_history`, `_results_dict` stores,
  and who touches the manager from outside `state_manager.py`.
-/
namespace Props.C17
open Model.StateMgr

/-- the model's key lists are exactly the module's frozensets (no key missing, none invented, no duplicates) -/
theorem C17_keysets_match_source :
    (currentKeys.all fun k => Gen.Tables.currentKeys.contains k) = true ∧
    (Gen.Tables.currentKeys.all fun k => currentKeys.contains k) = true ∧ currentKeys.Nodup ∧
    (historyKeys.all fun k => Gen.Tables.historyKeys.contains k) = true ∧
    (Gen.Tables.historyKeys.all fun k => historyKeys.contains k) = true ∧ historyKeys.Nodup ∧
    Gen.Tables.requiredCommitKeys = ["beta", "logl"] := by decide +kernel

/-- every public method of `StateManager` is an operation of the model (`save_state` / `load_state` = dill round trip of
    the dictionaries + `update_from_dict`, C08; `from_dict` = constructor + `update_from_dict`; `get_history_length` returns an int) -/
theorem C17_alphabet_complete :
    Gen.SMSites.publicMethods =
      ["commit_current_to_history", "compute_logw_and_logz", "compute_results", "from_dict", "get_current", "get_history",
       "get_history_length", "get_last_history", "load_state", "save_state", "set_current", "to_dict", "update_current",
       "update_from_dict"] := rfl

/-- `_ensure_copy`, rule by rule (what `copyVal true` of the nested model implements) -/
theorem C17_ensure_copy_rules :
    Gen.SMSites.ensureCopyRules =
      [("value is None", "None"),
       ("isinstance(value, np.ndarray)", "_deepcopy_array(value) if value.dtype.hasobject else value.copy()"),
       ("isinstance(value, (list, tuple, dict))", "copy.deepcopy(value)"),
       ("otherwise", "value")] := rfl

/-- the deep-copy walker `_deepcopy_array` (F41 repair), statement by statement: a buffer copy, then every reference reachable
    through record fields (so also through SUB-ARRAY fields, which `copy.deepcopy(ndarray)` skips) is replaced by its deep copy.
    `Model.StateMgrPy.N.deepCopy` (the nested model's; the flat model has no containers, its `deepCopy` is a buffer copy) is what
    this text is taken to mean (trusted base: the reading of these six statements); that the
    copies are in fact deep for every blob kind incl. sub-array-of-objects records is checked against the real code every run. -/
theorem C17_deepcopy_array_def :
    Gen.SMSites.deepcopyArrayDef =
      ["(a)", "out = a.copy(order='K')", "memo = {}",
       "def walk(view):     if view.dtype.names:         for name in view.dtype.names:             if view.dtype[name].hasobject:                 walk(view[name])     else:         for idx in np.ndindex(view.shape):             view[idx] = copy.deepcopy(view[idx], memo)",
       "walk(out)", "return out"] := rfl

/-- what every public method returns: a copy, a freshly built (and, for object dtype, deep-copied) stack, the export made of
    copies, a freshly computed value, the caller's own `default`, an int, a new manager, or nothing.  No `raw:` row:
    no internal object is handed out. -/
theorem C17_accessor_returns :
    Gen.SMSites.accessorReturns =
      [("get_current", "dictcopy"), ("get_current", "copy"), ("set_current", "none"), ("update_current", "none"),
       ("get_history", "stack"), ("get_history", "copy"), ("get_last_history", "param"), ("get_last_history", "copy"),
       ("get_history_length", "int"), ("commit_current_to_history", "none"), ("compute_logw_and_logz", "computed"),
       ("compute_logw_and_logz", "computed"), ("compute_results", "dictcopy"), ("to_dict", "export"), ("from_dict", "new"),
       ("update_from_dict", "none"), ("save_state", "none"), ("load_state", "none")] := rfl

/-- every write to the three dictionaries, in the whole class: copies everywhere; the caller's own object only under
    `copy=False`; the cache is filled from `get_history` / `compute_logw_and_logz` results (new arrays) -/
theorem C17_stores :
    Gen.SMSites.stores =
      [("__init__", "init"), ("__init__", "init"), ("__init__", "reset"), ("set_current", "copy_unless_copy_false"),
       ("update_current", "copy_unless_copy_false"), ("commit_current_to_history", "append_copy"),
       ("compute_results", "reset"), ("compute_results", "cache_get_history"), ("compute_results", "cache_logw"),
       ("update_from_dict", "update_dictcopy"), ("update_from_dict", "update_histcopy"), ("_invalidate_cache", "reset")] := rfl

/-- outside the class: no direct access to the dictionaries, no `copy=` argument at all (so never `copy=False`) -/
theorem C17_sites_no_opt_in :
    Gen.SMSites.privateAccess = [] ∧ (Gen.SMSites.pipelineCalls.all fun c => c.2.2.2 == "default") = true := by decide +kernel

/-- exactly one commit site (the iteration), one import site (resume), one export site (checkpoint), one results site -/
theorem C17_sites_commit_import :
    (Gen.SMSites.pipelineCalls.filter fun c => c.2.2.1 == "commit_current_to_history").map (fun c => (c.1, c.2.1)) =
      [("tempest/core.py", "SamplerCore.execute_iteration")] ∧
    (Gen.SMSites.pipelineCalls.filter fun c => c.2.2.1 == "update_from_dict").map (fun c => (c.1, c.2.1)) =
      [("tempest/core.py", "SamplerCore.load_sampler_state")] ∧
    (Gen.SMSites.pipelineCalls.filter fun c => c.2.2.1 == "to_dict").map (fun c => (c.1, c.2.1)) =
      [("tempest/core.py", "SamplerCore.save_sampler_state")] ∧
    (Gen.SMSites.pipelineCalls.filter fun c => c.2.2.1 == "compute_results").map (fun c => (c.1, c.2.1)) =
      [("tempest/sampler.py", "Sampler.results")] ∧
    (Gen.SMSites.pipelineCalls.filter fun c => c.2.2.1 == "from_dict" || c.2.2.1 == "load_state" || c.2.2.1 == "save_state") = [] := by
  decide +kernel

/-- the four pipeline steps (everything of `execute_iteration` but its own commit and `get_current`) call only methods
    that are body operations of the iteration model (`Op.isBody`): set / update / getters / `compute_logw_and_logz` -/
theorem C17_step_calls_are_body_ops :
    (Gen.SMSites.stepMethods.all fun m =>
      ["set_current", "update_current", "get_current", "get_history", "get_last_history", "get_history_length",
       "compute_logw_and_logz"].contains m) = true := by decide +kernel

/-- `execute_iteration`: the commit is the last step call, and the only one (G5 order table) -/
theorem C17_iteration_commit_last :
    Gen.Tables.iterationOrder.getLast? = some "state.commit_current_to_history" ∧
    (Gen.Tables.iterationOrder.filter fun c => c == "state.commit_current_to_history").length = 1 := by decide +kernel

/-- the tuples `compute_posterior` returns are the four the model's `postTuple` builds -/
theorem C17_posterior_returns_match :
    Gen.Tables.posteriorReturns =
      [(postTuple ⟨false, true, false, true, false⟩ ⟨.none, .none, .none, .none, .scalar 0⟩ .none).map Prod.fst,
       (postTuple ⟨false, true, false, false, false⟩ ⟨.none, .none, .none, .none, .scalar 0⟩ .none).map Prod.fst,
       (postTuple ⟨false, false, false, true, false⟩ ⟨.none, .none, .none, .none, .scalar 0⟩ .none).map Prod.fst,
       (postTuple ⟨false, false, false, false, false⟩ ⟨.none, .none, .none, .none, .scalar 0⟩ .none).map Prod.fst] := rfl

end Props.C17
