import TempestVerif.Model.ConfigSpec
/-
  C18 — what happens to the constructor options AFTER validation: every place where the code downstream of
  `SamplerConfig(...)` consumes an option (component constructors, per-iteration glue, dispatch on the kernel / resampler
  names, index arrays of the boundary maps, pool dispatch, seeding, progress bar, FunctionWrapper).

  The TABLE of those places is not written here: it is regenerated from /repo's source on every run
  (translate/g8_ctorpath.py → Gen/CtorPath.lean: `uses`, `resampleLits`, `kernelBranches`, …).  This file fixes
    * the syntactic CONTEXTS a value can be consumed in (`Ctx`) and Python's / numpy's behaviour of each on the value
      universe `V` of Model/ConfigSpec.lean (`sem`: defined / raises which exception / not modelled),
    * the guard language under which a use is reached (`G`, three-valued evaluation),
    * an abstract domain of value SHAPES (`Shape`) with which "every use is defined for every value of the documented
      type" becomes a closed Boolean check on the generated table (`useSafe`), sound by the lemmas in Lemmas/CtorPath.lean,
    * the two name dispatches (`resampleBound`, `kernelRunner`).
  Core Lean only.
-/
namespace Model.CtorPath
open Model.ConfigSpec

inductive PyErr where
  | typeError | valueError | zeroDivision | attributeError | overflowError | indexError | unboundLocal
  deriving DecidableEq, Repr

def PyErr.name : PyErr → String
  | .typeError => "TypeError"
  | .valueError => "ValueError"
  | .zeroDivision => "ZeroDivisionError"
  | .attributeError => "AttributeError"
  | .overflowError => "OverflowError"
  | .indexError => "IndexError"
  | .unboundLocal => "UnboundLocalError"

/-- result of consuming a value in a context -/
inductive R where
  | ok
  | err (e : PyErr)
  | unmodelled          -- the universe / the model does not say (never counted as "defined")
  deriving DecidableEq, Repr

/-! ### guards -/

inductive G where
  | tt
  | unknown                          -- a test on run-time state the model does not follow
  | fact (name : String)             -- a test on run-time state whose course the model knows (`Ext.fact`)
  | truthy (f : Field)
  | isNone (f : Field)
  | isInt (f : Field)
  | cmpK (op : Cmp) (f : Field) (k : Int)      -- `self.f <op> k`
  | eqStr (f : Field) (s : String)             -- `self.f == "s"`
  | not (g : G)
  | and (a b : G)
  | or (a b : G)

/-- one downstream consumption of an option -/
structure Use where
  site : String
  opt : Field
  ctx : String
  guard : G

inductive Fact3 where
  | always | never | both | unknown

/-- what the model is told about the run besides the configuration -/
structure Ext where
  otherHasMap : Bool      -- the `object()` of the universe is a pool-like object (has a usable `.map`)
  blobs : Bool            -- the user's likelihood returns `(logl, blob, …)` tuples

def Ext.fact (e : Ext) (n : String) : Fact3 :=
  if n == "pbar" then .always            -- `self.pbar is not None`: run_sampling installs a ProgressBar before the loop
  else if n == "warmup" then .both       -- `beta == 0.0`: true in the first iterations of a run, false later
  else if n == "firstIter" then .both    -- history empty
  else if n == "blobs" then (if e.blobs then .always else .never)
  else .unknown

def and3 : Option Bool → Option Bool → Option Bool
  | some false, _ => some false
  | _, some false => some false
  | some true, some true => some true
  | _, _ => none

def or3 : Option Bool → Option Bool → Option Bool
  | some true, _ => some true
  | _, some true => some true
  | some false, some false => some false
  | _, _ => none

def factVal : Fact3 → Option Bool
  | .always => some true
  | .never => some false
  | .both => some true
  | .unknown => none

/-- a fact that takes both values during a run is "sometimes true" and so is its negation -/
def factNeg : Fact3 → Option Bool
  | .always => some false
  | .never => some true
  | .both => some true
  | .unknown => none

/-- three-valued evaluation: `some true` = the use is reached (in every complete run), `some false` = never, `none` = the
    model cannot tell -/
def G.eval (e : Ext) (c : Cfg) : G → Option Bool
  | .tt => some true
  | .unknown => none
  | .fact n => factVal (e.fact n)
  | .truthy f => some (c f).truthy
  | .isNone f => some (c f).isNone
  | .isInt f => some (c f).isInt
  | .cmpK op f k =>
    match (c f).cmpNum op (.int k) with
    | .ok b => some b
    | .error _ => none
  | .eqStr f s => some (match c f with
    | .str t => t == s
    | _ => false)
  | .not (.fact n) => factNeg (e.fact n)
  | .not g => (g.eval e c).map (!·)
  | .and a b => and3 (a.eval e c) (b.eval e c)
  | .or a b => or3 (a.eval e c) (b.eval e c)

/-! ### contexts -/

inductive Ctx where
  | safe                      -- stored, passed on, tested for None / truth / equality, formatted: cannot raise on `V`
  | call                      -- `x(…)`
  | num                       -- operand of arithmetic with a number / ordered against a number
  | numStrict                 -- … where a `str` / `list` operand is a TypeError too (`+`, `-`, ordering against a number)
  | numOrNone                 -- the same after `None` has been replaced by a numeric default
  | modRight                  -- `<int> % x`
  | intOfMul (other : Field)  -- `int(x * other)` / `int(other * x)`
  | intOfDerived              -- `int(<value computed from x through locals: products, min, max>)`
  | shape                     -- a dimension handed to numpy (`np.zeros(x)`, `np.random.rand(x, …)`, `size=x`, `reshape(…, x)`)
  | range                     -- `range(x)`
  | arange                    -- `np.arange(x)`
  | seed                      -- `np.random.seed(x)`
  | iter                      -- `for i in x`
  | elemIndex                 -- `u[..., i]` for every element `i` of `x`
  | setUpdate                 -- `set().update(x)`
  | attrMap                   -- `x.map`
  | poolCount                 -- `Pool(x)`
  | dtype                     -- `np.array(…, dtype=x)`
  | pathDiv                   -- `x / "<file name>"`
  | star                      -- `f(…, *x)` after `None → []`
  | dstar                     -- `f(…, **x)` after `None → {}`
  | toFloat                   -- `float(x)`
  | unknown                   -- a context this model has no semantics for
  deriving DecidableEq, Repr

/-- the context tags the translator can emit today and what they mean; anything else is `unknown` -/
def ctxTable : List (String × Ctx) :=
  [("store", .safe), ("isNone", .safe), ("truthy", .safe), ("eq:str", .safe), ("fmt", .safe), ("arg:str:0", .safe),
   ("arg:isinstance:0", .safe), ("arg:object.__setattr__:2", .safe), ("pass:SamplerConfig", .safe),
   ("wrapped|call", .safe), ("wrapped|arg:map:0", .safe), ("wrapped|arg:self._get_distribute_func():0", .safe),
   ("orDefault|isNone", .safe), ("orDefault|store", .safe),
   ("call", .call),
   ("add:right:expr", .numStrict), ("cmp:ge:expr", .numStrict), ("cmp:le:expr", .numStrict), ("cmp:rlt:expr", .numStrict),
   ("cmp:gt:expr", .numStrict), ("cmp:lt:expr", .numStrict), ("cmp:rgt:expr", .numStrict), ("cmp:rge:expr", .numStrict),
   ("cmp:rle:expr", .numStrict), ("add:left:expr", .numStrict),
   ("cmp:gt:k", .numStrict), ("cmp:le:k", .numStrict), ("cmp:lt:k", .numStrict), ("cmp:ge:k", .numStrict), ("sub:left:k", .numStrict), ("sub:right:expr", .numStrict),
   ("div:right:expr", .num), ("mul:left:expr", .num), ("mul:right:expr", .num), ("mul:right:k", .num),
   ("mul:left:opt:n_particles", .num), ("mul:right:opt:ess_ratio", .num),
   ("orDefault|cmp:rlt:expr", .numOrNone), ("orDefault|cmp:rge:expr", .numOrNone),
   ("mod:right:expr", .modRight),
   ("mul:left:opt:n_particles|arg:int:0", .intOfMul .n_particles), ("mul:right:opt:ess_ratio|arg:int:0", .intOfMul .ess_ratio),
   ("derived|arg:int:0", .intOfDerived),
   ("arg:np.zeros:0", .shape), ("arg:np.zeros:0:tuple", .shape), ("arg:np.ones:0", .shape), ("arg:np.empty:0", .shape),
   ("arg:np.eye:0", .shape), ("arg:np.eye().reshape:1", .shape), ("arg:np.eye().reshape:2", .shape),
   ("arg:np.random.rand:0", .shape), ("arg:np.random.rand:1", .shape), ("kw:np.random.choice:size", .shape),
   ("arg:range:0", .range), ("arg:np.arange:0", .arange), ("arg:np.random.seed:0", .seed),
   ("iter", .iter), ("elem|index", .elemIndex), ("arg:special_indices.update:0", .setUpdate),
   ("attr:map", .attrMap), ("arg:Pool:0", .poolCount),
   ("kw:np.array:dtype", .dtype), ("kw:np.empty:dtype", .dtype),
   ("div:left:fstr", .pathDiv),
   ("orDefault|star", .star), ("orDefault|dstar", .dstar),
   ("arg:float:0", .toFloat)]

def ctxOf (tag : String) : Ctx :=
  match ctxTable.find? (·.1 == tag) with
  | some (_, c) => c
  | none => .unknown

/-! ### Python / numpy semantics of the contexts on the universe -/

def isNumV : V → Bool
  | .int _ | .bool _ | .float _ => true
  | _ => false

/-- `str` and `list` support some arithmetic (`"ab" * 3`): left to `unmodelled` where the answer depends on the other
    operand -/
def isSeqV : V → Bool
  | .str _ | .list _ => true
  | _ => false

def FV.isFinite : FV → Bool
  | .fin _ => true
  | _ => false

def FV.mul : FV → FV → FV
  | .fin a, .fin b => .fin (a * b)
  | .nan, _ => .nan
  | _, .nan => .nan
  | .inf n, .fin b => if b = 0 then .nan else .inf (if b < 0 then !n else n)
  | .fin a, .inf n => if a = 0 then .nan else .inf (if a < 0 then !n else n)
  | .inf n, .inf m => .inf (n != m)

/-- dtype strings numpy accepts (a finite list: an arbitrary other string is `unmodelled`) / rejects -/
def goodDtypes : List String := ["f8", "f4", "i8", "i4", "float", "int", "float64", "int64", "object", "O", "bool"]
def badDtypes : List String := ["", "1", "0", "a", "ab", "tpcn", "rwm", "mult", "syst", "x"]

/-- `u[..., i]` for one element of an index list, `u` having `d` columns -/
def elemSem (d : Int) : V → R
  | .int i => if decide (-d ≤ i) && decide (i < d) then .ok else .err .indexError
  | .bool _ => .ok            -- numpy reads a Python bool as a MASK, not as the integer 0/1: no exception (see `boolIndexMisread`)
  | .none => .ok              -- `np.newaxis`
  | .list _ => .unmodelled    -- fancy index
  | _ => .err .indexError

def firstBad (f : V → R) : List V → R
  | [] => .ok
  | x :: xs =>
    match f x with
    | .ok => firstBad f xs
    | r => r

/-- a Python bool among the items of an index list: accepted by `isinstance(i, int)`, but numpy does not read it as an
    integer coordinate -/
def boolIndexMisread : V → Bool
  | .list l => l.any fun x => match x with
    | .bool _ => true
    | _ => false
  | _ => false

def sem (e : Ext) (c : Cfg) : Ctx → V → R
  | .safe, _ => .ok
  | .call, v => if v.isCallable then .ok else .err .typeError
  | .num, v => if isNumV v then .ok else if isSeqV v then .unmodelled else .err .typeError
  | .numStrict, v => if isNumV v then .ok else .err .typeError
  | .numOrNone, v => if isNumV v || v.isNone then .ok else if isSeqV v then .unmodelled else .err .typeError
  | .modRight, v =>
    match v with
    | .int n => if n = 0 then .err .zeroDivision else .ok
    | .bool b => if b then .ok else .err .zeroDivision
    | .float (.fin q) => if q = 0 then .err .zeroDivision else .ok
    | .float _ => .ok
    | _ => .err .typeError
  | .intOfMul other, v =>
    match v.toFV?, (c other).toFV? with
    | some a, some b =>
      match FV.mul a b with
      | .fin _ => .ok
      | .inf _ => .err .overflowError
      | .nan => .err .valueError
    | _, _ =>
      if isSeqV v || isSeqV (c other) then .unmodelled else .err .typeError
  | .intOfDerived, v =>
    -- finite numbers: the result is finite (the other factors are finite positive floats); what `min` / `max` do with a
    -- nan or an infinity depends on the argument position: not modelled here (C13 models `_calculate_adaptive_steps`)
    match v with
    | .int _ | .bool _ => .ok
    | .float (.fin _) => .ok
    | .float _ => .unmodelled
    | .str _ | .list _ => .unmodelled
    | _ => .err .typeError
  | .shape, v =>
    match v with
    | .int n => if n < 0 then .err .valueError else .ok
    | .bool _ => .err .typeError          -- numpy: "expected a sequence of integers or a single integer, got 'True'"
    | .float _ => .err .typeError
    | .callable | .path | .other => .err .typeError
    | _ => .unmodelled                     -- None means "scalar" for `size=`, strings / lists can be shapes
  | .range, v =>
    match v with
    | .int _ | .bool _ => .ok
    | _ => .err .typeError
  | .arange, v =>
    match v with
    | .int _ | .bool _ => .ok
    | .float (.fin _) => .ok
    | .float _ => .err .valueError
    | .list _ => .unmodelled
    | _ => .err .typeError
  | .seed, v =>
    match v with
    | .int n => if decide (0 ≤ n) && decide (n < 4294967296) then .ok else .err .valueError
    | .bool _ => .ok
    | .none => .ok
    | .list _ => .unmodelled
    | _ => .err .typeError
  | .iter, v => if v.iter?.isSome then .ok else .err .typeError
  | .elemIndex, v =>
    match v.iter?, (c .n_dim).intVal? with
    | some l, some d => firstBad (elemSem d) l
    | none, _ => .err .typeError
    | _, none => .unmodelled
  | .setUpdate, v =>
    match v.toSet with
    | .ok _ => .ok
    | .error _ => .err .typeError
  | .attrMap, v =>
    match v with
    | .other => if e.otherHasMap then .ok else .err .attributeError
    | _ => .err .attributeError
  | .poolCount, v =>
    match v with
    | .int n => if n < 1 then .err .valueError else .ok
    | _ => .unmodelled
  | .dtype, v =>
    match v with
    | .none => .ok
    | .str s => if goodDtypes.contains s then .ok else if badDtypes.contains s then .err .typeError else .unmodelled
    | .list _ => .unmodelled
    | _ => .err .typeError
  | .pathDiv, v => if v.isPath then .ok else .err .typeError
  | .star, v => if v.isNone || v.iter?.isSome then .ok else .err .typeError
  | .dstar, v => if v.isNone then .ok else .err .typeError          -- the universe has no mapping type
  | .toFloat, v =>
    match v.toFloat with
    | .ok _ => .ok
    | .error .valueError => .err .valueError
    | .error .typeError => .err .typeError
  | .unknown, _ => .unmodelled

def useSem (e : Ext) (c : Cfg) (u : Use) : R := sem e c (ctxOf u.ctx) (c u.opt)

/-- every use that is not definitely unreachable is defined -/
def useOK (e : Ext) (c : Cfg) (u : Use) : Bool :=
  u.guard.eval e c == some false || useSem e c u == .ok

def glueTotal (e : Ext) (uses : List Use) (c : Cfg) : Bool := uses.all (useOK e c)

/-- prediction for a complete run: exceptions of uses that are certainly reached / possibly reached, and the number of
    reachable uses the model has no answer for -/
structure Pred where
  definite : List PyErr
  possible : List PyErr
  unmodelled : Nat
  deriving DecidableEq, Repr

def predict (e : Ext) (uses : List Use) (c : Cfg) : Pred :=
  uses.foldl (fun p u =>
    match u.guard.eval e c, useSem e c u with
    | some false, _ => p
    | _, .ok => p
    | some true, .err k => { p with definite := if p.definite.contains k then p.definite else p.definite ++ [k] }
    | none, .err k => { p with possible := if p.possible.contains k then p.possible else p.possible ++ [k] }
    | _, .unmodelled => { p with unmodelled := p.unmodelled + 1 }) ⟨[], [], 0⟩

/-! ### shapes: an abstract domain for "the documented type of an option" -/

inductive Shape where
  | none
  | int (lo hi : Option Int)      -- a genuine Python int (not a bool) with lo ≤ n ≤ hi
  | boolTrue                      -- `True`
  | boolAny
  | floatPosFin                   -- a finite float > 0
  | floatNotLe0                   -- a float that is not `<= 0`: > 0, +inf or nan
  | floatAny
  | strIn (l : List String)
  | strAny
  | idxList                       -- a list of genuine ints `i` with `0 ≤ i < n_dim`
  | idxIter                       -- an iterable (list or str) whose items are ints or bools with `0 ≤ i < n_dim`
  | listAny
  | path
  | callable
  | otherMap                      -- the pool-like `object()` (only when `Ext.otherHasMap`)
  | any
  deriving DecidableEq, Repr

def inBounds (lo hi : Option Int) (n : Int) : Bool :=
  (match lo with
   | some l => decide (l ≤ n)
   | Option.none => true) &&
  (match hi with
   | some h => decide (n ≤ h)
   | Option.none => true)

def idxItem (d : Int) : V → Bool
  | .int i => decide (0 ≤ i) && decide (i < d)
  | _ => false

def idxItemB (d : Int) (x : V) : Bool :=
  match x.intVal? with
  | some i => decide (0 ≤ i) && decide (i < d)
  | Option.none => false

/-- every item passes the test for the integer value `d` of `n_dim` -/
def idxAll (c : Cfg) (p : Int → V → Bool) (l : List V) : Bool :=
  match (c .n_dim).intVal? with
  | some d => l.all (p d)
  | Option.none => false

def Shape.has (e : Ext) (c : Cfg) : Shape → V → Bool
  | .none, v => v.isNone
  | .int lo hi, .int n => inBounds lo hi n
  | .int _ _, _ => false
  | .boolTrue, .bool b => b
  | .boolTrue, _ => false
  | .boolAny, .bool _ => true
  | .boolAny, _ => false
  | .floatPosFin, .float (.fin q) => decide (0 < q)
  | .floatPosFin, _ => false
  | .floatNotLe0, .float f => !(f.le (.fin 0))
  | .floatNotLe0, _ => false
  | .floatAny, .float _ => true
  | .floatAny, _ => false
  | .strIn l, .str s => l.contains s
  | .strIn _, _ => false
  | .strAny, .str _ => true
  | .strAny, _ => false
  | .idxList, .list l => idxAll c idxItem l
  | .idxList, _ => false
  | .idxIter, v =>
    (match v.iter? with
     | some l => idxAll c idxItemB l
     | Option.none => false)
  | .listAny, .list _ => true
  | .listAny, _ => false
  | .path, v => v.isPath
  | .callable, v => v.isCallable
  | .otherMap, .other => e.otherHasMap
  | .otherMap, _ => false
  | .any, _ => true

/-- a type = the shapes a value may have -/
abbrev Ty := List Shape

def Ty.has (e : Ext) (c : Cfg) (t : Ty) (v : V) : Bool := t.any fun s => s.has e c v

/-- is every value of the shape a finite number whose product with every value of `t` is finite? (for `int(a * b)`) -/
def Shape.finiteNum : Shape → Bool
  | .int _ _ | .boolTrue | .boolAny | .floatPosFin => true
  | _ => false

def geOpt (lo : Option Int) (k : Int) : Bool :=
  match lo with
  | some l => decide (k ≤ l)
  | Option.none => false

def leOpt (hi : Option Int) (k : Int) : Bool :=
  match hi with
  | some h => decide (h ≤ k)
  | Option.none => false

/-- `sem ctx v = ok` for EVERY value of the shape (a sufficient syntactic condition) -/
def ctxSafe (tyOf : Field → Ty) : Ctx → Shape → Bool
  | .safe, _ => true
  | .call, .callable => true
  | .num, s => (match s with
    | .int _ _ | .boolTrue | .boolAny | .floatPosFin | .floatNotLe0 | .floatAny => true
    | _ => false)
  | .numStrict, s => (match s with
    | .int _ _ | .boolTrue | .boolAny | .floatPosFin | .floatNotLe0 | .floatAny => true
    | _ => false)
  | .numOrNone, s => (match s with
    | .none | .int _ _ | .boolTrue | .boolAny | .floatPosFin | .floatNotLe0 | .floatAny => true
    | _ => false)
  | .modRight, s => (match s with
    | .int lo hi => geOpt lo 1 || leOpt hi (-1)
    | .boolTrue | .floatPosFin | .floatNotLe0 => true
    | _ => false)
  | .intOfMul other, s => s.finiteNum && (tyOf other).all Shape.finiteNum
  | .intOfDerived, s => s.finiteNum
  | .shape, .int lo _ => geOpt lo 0
  | .range, s => (match s with
    | .int _ _ | .boolTrue | .boolAny => true
    | _ => false)
  | .arange, s => (match s with
    | .int _ _ | .boolTrue | .boolAny | .floatPosFin => true
    | _ => false)
  | .seed, s => (match s with
    | .none | .boolTrue | .boolAny => true
    | .int lo hi => geOpt lo 0 && leOpt hi 4294967295
    | _ => false)
  | .iter, s => (match s with
    | .idxList | .idxIter | .listAny | .strAny | .strIn _ => true
    | _ => false)
  | .elemIndex, s => (match s with
    | .idxList | .idxIter => true
    | _ => false)
  | .setUpdate, s => (match s with
    | .idxList | .idxIter | .strAny | .strIn _ => true
    | _ => false)
  | .attrMap, .otherMap => true
  | .poolCount, .int lo _ => geOpt lo 1
  | .dtype, s => (match s with
    | .none => true
    | .strIn l => l.all goodDtypes.contains
    | _ => false)
  | .pathDiv, .path => true
  | .star, s => (match s with
    | .none | .listAny | .idxList | .idxIter | .strAny | .strIn _ => true
    | _ => false)
  | .dstar, .none => true
  | .toFloat, s => (match s with
    | .int _ _ | .boolTrue | .boolAny | .floatPosFin | .floatNotLe0 | .floatAny => true
    | _ => false)
  | _, _ => false

/-- `n <op> k` for every `n` with `lo ≤ n ≤ hi`, when the interval decides it -/
def cmpAbs (op : Cmp) (lo hi : Option Int) (k : Int) : Option Bool :=
  match op with
  | .le => if leOpt hi k then some true else if geOpt lo (k + 1) then some false else Option.none
  | .lt => if leOpt hi (k - 1) then some true else if geOpt lo k then some false else Option.none
  | .gt => if geOpt lo (k + 1) then some true else if leOpt hi k then some false else Option.none
  | .ge => if geOpt lo k then some true else if leOpt hi (k - 1) then some false else Option.none

/-- abstract value of a guard when option `f` has shape `s` (atoms on other options, on run-time state and facts: unknown;
    a guard that is `some false` here is false for every value of the shape) -/
def G.aeval (f : Field) (s : Shape) : G → Option Bool
  | .tt => some true
  | .unknown => Option.none
  | .fact _ => Option.none
  | .truthy _ => Option.none
  | .isNone g => if g = f then (match s with
      | .none => some true
      | .any => Option.none
      | _ => some false) else Option.none
  | .isInt g => if g = f then (match s with
      | .int _ _ | .boolTrue | .boolAny => some true
      | .any => Option.none
      | _ => some false) else Option.none
  | .cmpK op g k => if g = f then (match s with
      | .int lo hi => cmpAbs op lo hi k
      | _ => Option.none) else Option.none
  | .eqStr g t => if g = f then (match s with
      | .strIn l => if l.contains t then Option.none else some false
      | .strAny | .any | .idxIter => Option.none
      | _ => some false) else Option.none
  | .not g => (g.aeval f s).map (!·)
  | .and a b => and3 (a.aeval f s) (b.aeval f s)
  | .or a b => or3 (a.aeval f s) (b.aeval f s)

/-- for an interval shape, the guard may also tell the two halves of `cmpK` apart: refine `int lo hi` by the comparisons
    with constants that occur in guards (only `≤ 1` / `> 1` today) so that each piece is decided -/
def splitInt (lo hi : Option Int) (k : Int) : List Shape :=
  [.int lo (some (match hi with
    | some h => min h k
    | Option.none => k)),
   .int (some (match lo with
    | some l => max l (k + 1)
    | Option.none => k + 1)) hi]

def cmpConsts : G → List Int
  | .cmpK _ _ k => [k]
  | .not g => cmpConsts g
  | .and a b => cmpConsts a ++ cmpConsts b
  | .or a b => cmpConsts a ++ cmpConsts b
  | _ => []

def refineShape (g : G) : Shape → List Shape
  | .int lo hi =>
    match cmpConsts g with
    | [] => [.int lo hi]
    | k :: _ => splitInt lo hi k
  | s => [s]

def emptyInt : Shape → Bool
  | .int (some l) (some h) => decide (h < l)
  | _ => false

/-- the closed check on one entry of the generated table: for every shape of the option's type (refined by the constants
    the guard compares with) the guard is certainly false or the context is defined -/
def useSafe (tyOf : Field → Ty) (u : Use) : Bool :=
  (tyOf u.opt).all fun s => (refineShape u.guard s).all fun s' =>
    emptyInt s' || u.guard.aeval u.opt s' == some false || ctxSafe tyOf (ctxOf u.ctx) s'

/-! ### the two name dispatches -/

/-- `Resampler.run`: after `if r == l₁: … elif r == l₂: …` the names `needed` are bound iff some branch matched and bound
    them, or a final `else` did -/
def resampleBound (lits : List String) (binds : List (List String)) (hasElse : Bool) (needed : List String) (v : V) : Bool :=
  match v with
  | .str s =>
    match lits.findIdx? (· == s) with
    | some i => needed.all fun n => (binds.getD i []).contains n
    | Option.none => hasElse && needed.all fun n => (binds.getD lits.length []).contains n
  | _ => hasElse && needed.all fun n => (binds.getD lits.length []).contains n

/-- `mcmc.parallel_mcmc`: the function a kernel name is dispatched to -/
def kernelFn (branches : List (String × String)) (other : Option String) (v : V) : Option String :=
  match v with
  | .str s =>
    match branches.find? (·.1 == s) with
    | some (_, f) => some f
    | Option.none => other
  | _ => other

/-- … and the runner class that function instantiates, provided the class defines every abstract method -/
def kernelRunner (branches : List (String × String)) (other : Option String) (runners : List (String × String))
    (abstract : List String) (methods : List (String × List String)) (v : V) : Option String :=
  match kernelFn branches other v with
  | Option.none => Option.none
  | some f =>
    match runners.find? (·.1 == f) with
    | Option.none => Option.none
    | some (_, cls) =>
      match methods.find? (·.1 == cls) with
      | Option.none => Option.none
      | some (_, ms) => if abstract.all ms.contains then some cls else Option.none

/-- the literal list of the `x not in [...]` rule of `validate()` for option `f` (read off the generated rule table) -/
def acceptedNames (rules : List Rule) (f : Field) : Option (List String) :=
  rules.findSome? fun r =>
    match r.cond with
    | .notIn g lits => if g = f then some lits else Option.none
    | _ => Option.none

end Model.CtorPath
