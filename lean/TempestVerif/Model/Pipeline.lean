import TempestVerif.Model.Weights
import TempestVerif.Model.Ess
import TempestVerif.Model.Reweight
import TempestVerif.Model.Resample
import TempestVerif.Model.Records
import TempestVerif.Gen.Kernel
/-
  Model of one whole iteration of the sampler (`SamplerCore.execute_iteration`) as the COMPOSITION of
  the per-step models (C01, C02, C10):

      weights    = reweighter.run()          Model.Reweight.run over the oracles induced by the pool
                                             (Model.Weights.logw → exp(logw − max) → Model.Ess.ess)
      mode_stats = trainer.run(weights)      opaque: proposals / Hastings factors arrive on the tape
      resampler.run(weights)                 Model.Resample.{systematic, multinomial} + gather of whole records
      mutator.run(mode_stats)                beta = 0: prior draws, −inf replacement, logz := log(n_fin/n)
                                             beta > 0: accept/reject steps with the acceptance of Gen.Kernel
      state.commit_current_to_history()      append (beta, logz, logl, tags)

  Everything random or user-supplied is on the `Tape`: uniforms, proposal records (tag + log-likelihood,
  `none` = −inf), Hastings log-factors.  ESS mode only (the volume metric needs matrix algebra); clustering
  and the Student-t fit enter only through the tape.  A particle is a tag (its (u, x) record) plus its logl.
-/
namespace Model.Pipeline
open Model.Weights Model.Reweight Model.Resample Model.Ess Model.Records
variable {α : Type} [ScT α]

structure PBatch (α : Type) where
  b : Batch α            -- (beta_t, logz_t, logl of the batch) as compute_logw_and_logz sees it
  tags : List Nat        -- which (u, x) records these are

structure PState (α : Type) where
  hist : List (PBatch α)
  beta : α
  logz : α
  curTags : List Nat
  curL : List α

structure Step (α : Type) where
  propTags : List Nat
  propL : List (Option α)     -- log-likelihood of each proposal (`none` = −inf)
  factor : List α             -- Hastings log-factor of each proposal (0 for RWM)
  r : List α                  -- the uniforms of the Metropolis test

structure Tape (α : Type) where
  drawTags : List Nat         -- warm-up: fresh prior draws …
  drawL : List (Option α)     -- … and their log-likelihoods
  picks : List Nat            -- warm-up: positions chosen by np.random.choice(finite_idx, …)
  resU : List α               -- resampling uniforms: one offset (systematic) or n draws (multinomial)
  steps : List (Step α)       -- annealing: the accept/reject steps that were run

structure PCfg (α : Type) where
  rw : Reweight.Cfg α
  syst : Bool                 -- resample == "syst"

structure IterOut (α : Type) where
  beta : α
  ess : α
  logzRw : α                  -- evidence written by the reweighting step
  logz : α                    -- evidence committed with the batch
  idx : List Nat              -- resampled pool indices ([] during warm-up)
  masks : List (List Bool)    -- accept masks of the steps
  branch : Reweight.Branch

def batches (h : List (PBatch α)) : List (Batch α) := h.map (·.b)
def poolTags (h : List (PBatch α)) : List Nat := h.flatMap (·.tags)

/-- `x` is finite  (x − x == 0 fails for NaN and ±inf) -/
def isFin (x : α) : Bool := Reweight.eqv (Sc.sub x x) Sc.zero

/-- `_compute_metric_and_weights(beta)` in ESS mode: weights = exp(logw − max logw) for the NORMALISED logw -/
def oracleM (h : List (Batch α)) (beta : α) : List α × α × α :=
  let lw := (logw h beta true).1
  let w := match lw with
    | [] => []
    | x :: xs => let m := maxOf x xs; lw.map fun v => ScT.exp (Sc.sub v m)
  let e := ess w
  (w, e, e)

/-- `compute_logw_and_logz(beta)[1]`; only evaluated on a non-empty history, where it is `some` -/
def oracleZ (h : List (Batch α)) (beta : α) : α := ((logw h beta true).2).getD Sc.zero

/-- the weights `Reweighter.run` returns: `np.ones(n)/n` or `w / np.sum(w)` -/
def returnedWeights : WTag (List α) → List α
  | .uniform n => List.replicate n (Sc.div Sc.one (Sc.ofNat n))
  | .of w => normalise w

def countSome (l : List (Option α)) : Nat := l.countP Option.isSome

/-- warm-up mutation: −inf draws are overwritten by whole copies of the picked finite ones -/
def warmup (t : Tape α) (logzRw : α) : List Nat × List (Option α) × α :=
  let n := t.drawL.length
  let nfin := countSome t.drawL
  if nfin < n then
    let infIdx := (List.range n).filter fun i => !((t.drawL[i]?).join.isSome)
    let tags := if nfin > 0 then scatterFrom t.drawTags infIdx t.picks else t.drawTags
    let ls := if nfin > 0 then scatterFrom t.drawL infIdx t.picks else t.drawL
    (tags, ls, ScT.log (Sc.div (Sc.ofNat nfin) (Sc.ofNat n)))
  else (t.drawTags, t.drawL, logzRw)

/-- one accept/reject step on (tags, logl) -/
def mcmcStep (beta : α) : List Nat → List α → List Nat → List (Option α) → List α → List α →
    List Nat × List α × List Bool
  | tg :: tgs, l :: ls, pt :: pts, pl :: pls, f :: fs, r :: rs =>
    let acc := match pl with
      | none => false                                   -- exp(−inf) = 0: never accepted
      | some lp => Gen.Kernel.acceptDecision r (Gen.Kernel.acceptProb beta l lp f)
    let (a, b, c) := mcmcStep beta tgs ls pts pls fs rs
    ((if acc then pt else tg) :: a,
     (if acc then (match pl with | some lp => lp | none => l) else l) :: b, acc :: c)
  | tgs, ls, _, _, _, _ => (tgs, ls, [])

def mcmcSteps (beta : α) : List (Step α) → List Nat → List α → List Nat × List α × List (List Bool)
  | [], tg, l => (tg, l, [])
  | s :: ss, tg, l =>
    let (tg', l', m) := mcmcStep beta tg l s.propTags s.propL s.factor s.r
    let (tg'', l'', ms) := mcmcSteps beta ss tg' l'
    (tg'', l'', m :: ms)

def allSome : List (Option α) → Option (List α)
  | [] => some []
  | none :: _ => none
  | some x :: xs => (allSome xs).map (x :: ·)

/-- one iteration; `none` = an outcome outside the model (index error, a batch with no finite draw) -/
def iterate (c : PCfg α) (s : PState α) (t : Tape α) : Option (PState α × IterOut α) :=
  let hb := batches s.hist
  let r := Reweight.run c.rw hb.isEmpty (oracleM hb) (oracleZ hb) isFin s.beta
  let w := returnedWeights r.weightsTag
  if Reweight.eqv r.beta Sc.zero then
    -- warm-up: resampling is skipped, fresh prior draws
    let (tags, ls, lz) := warmup t r.logz
    (allSome ls).map fun l =>
      ({ hist := s.hist ++ [⟨⟨r.beta, lz, l⟩, tags⟩], beta := r.beta, logz := lz, curTags := tags, curL := l },
       ⟨r.beta, r.ess, r.logz, lz, [], [], r.branch⟩)
  else
    let idx? := if c.syst then
        (match t.resU with | [u0] => systematic c.rw.nPart w u0 | _ => none)
      else multinomial w t.resU
    idx?.bind fun idx =>
      (gather? (poolTags s.hist) idx).bind fun tg =>
        (gather? (flatLogl hb) idx).map fun l =>
          let (tg', l', ms) := mcmcSteps r.beta t.steps tg l
          ({ hist := s.hist ++ [⟨⟨r.beta, r.logz, l'⟩, tg'⟩], beta := r.beta, logz := r.logz, curTags := tg', curL := l' },
           ⟨r.beta, r.ess, r.logz, r.logz, idx, ms, r.branch⟩)

def init : PState α := ⟨[], Sc.zero, Sc.zero, [], []⟩

def runIters (c : PCfg α) : PState α → List (Tape α) → Option (PState α × List (IterOut α))
  | s, [] => some (s, [])
  | s, t :: ts => (iterate c s t).bind fun (s', o) => (runIters c s' ts).map fun (sf, os) => (sf, o :: os)

/-- `run_sampling`'s epilogue: evidence at beta = 1 over the final history -/
def finalEvidence (s : PState α) : Option α := (logw (batches s.hist) Sc.one true).2

/-! ### warm-up after the repair of F8 (commit 959029e) — ADDED; nothing above is changed

  `Mutator.run` at beta = 0 now draws the whole batch AGAIN while no draw has a finite likelihood:

      u = rand(n, d); x = …; logl = L(x);  n_drawn = n
      while np.all(np.isinf(logl)):   (cap 1000·n draws: ValueError)
          u = rand(n, d); x = …; logl = L(x);  n_drawn += n
      …
      if np.any(inf_mask) or n_drawn > n:
          if len(infinite_idx) > 0: idx = choice(finite_idx, size=len(infinite_idx)); copy whole records
          logz = np.log(n_finite / n_drawn)

  The tape keeps its shape: `drawTags / drawL` are the LAST block (the one that is stored); `disc = n_drawn − n` is the number of
  discarded draws.  With `disc = 0` this is `warmup` / `iterate` (`warmupR_zero` in Lemmas/Pipeline.lean, `iterateW_warmup` in Props/C01X.lean). -/

/-- warm-up mutation when `disc` prior draws (whole batches without a finite likelihood) were discarded first -/
def warmupR (t : Tape α) (disc : Nat) (logzRw : α) : List Nat × List (Option α) × α :=
  let n := t.drawL.length
  let nfin := countSome t.drawL
  if nfin < n || 0 < disc then
    let infIdx := (List.range n).filter fun i => !((t.drawL[i]?).join.isSome)
    let tags := if nfin > 0 then scatterFrom t.drawTags infIdx t.picks else t.drawTags
    let ls := if nfin > 0 then scatterFrom t.drawL infIdx t.picks else t.drawL
    (tags, ls, ScT.log (Sc.div (Sc.ofNat nfin) (Sc.ofNat (n + disc))))
  else (t.drawTags, t.drawL, logzRw)

/-- `iterate` with the warm-up mutation as a parameter (`iterateW warmup = iterate` by definition) -/
def iterateW (wu : Tape α → α → List Nat × List (Option α) × α) (c : PCfg α) (s : PState α) (t : Tape α) :
    Option (PState α × IterOut α) :=
  let hb := batches s.hist
  let r := Reweight.run c.rw hb.isEmpty (oracleM hb) (oracleZ hb) isFin s.beta
  let w := returnedWeights r.weightsTag
  if Reweight.eqv r.beta Sc.zero then
    let (tags, ls, lz) := wu t r.logz
    (allSome ls).map fun l =>
      ({ hist := s.hist ++ [⟨⟨r.beta, lz, l⟩, tags⟩], beta := r.beta, logz := lz, curTags := tags, curL := l },
       ⟨r.beta, r.ess, r.logz, lz, [], [], r.branch⟩)
  else
    let idx? := if c.syst then
        (match t.resU with | [u0] => systematic c.rw.nPart w u0 | _ => none)
      else multinomial w t.resU
    idx?.bind fun idx =>
      (gather? (poolTags s.hist) idx).bind fun tg =>
        (gather? (flatLogl hb) idx).map fun l =>
          let (tg', l', ms) := mcmcSteps r.beta t.steps tg l
          ({ hist := s.hist ++ [⟨⟨r.beta, r.logz, l'⟩, tg'⟩], beta := r.beta, logz := r.logz, curTags := tg', curL := l' },
           ⟨r.beta, r.ess, r.logz, r.logz, idx, ms, r.branch⟩)

/-- one iteration of the sampler as it is now: `disc` discarded prior draws before the stored block -/
def iterateR (c : PCfg α) (s : PState α) (t : Tape α) (disc : Nat) : Option (PState α × IterOut α) :=
  iterateW (fun t z => warmupR t disc z) c s t

def runItersR (c : PCfg α) : PState α → List (Tape α × Nat) → Option (PState α × List (IterOut α))
  | s, [] => some (s, [])
  | s, (t, d) :: ts => (iterateR c s t d).bind fun (s', o) => (runItersR c s' ts).map fun (sf, os) => (sf, o :: os)

end Model.Pipeline
