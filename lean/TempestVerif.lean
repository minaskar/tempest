-- Root of the `TempestVerif` library: everything that `lake build` must check.
import TempestVerif.Sc
import TempestVerif.Lemmas.Boundary
import TempestVerif.Lemmas.VecOfFn
import TempestVerif.Lemmas.StudentModes
import TempestVerif.Lemmas.SortReal
import TempestVerif.Lemmas.Scatter
import TempestVerif.Lemmas.Ess
import TempestVerif.Lemmas.Resample
import TempestVerif.Lemmas.CeilOffset
import TempestVerif.Lemmas.Posterior
import TempestVerif.Lemmas.Trim
import TempestVerif.Lemmas.Reweight
import TempestVerif.Props.C16
import TempestVerif.Props.C16Fold
import TempestVerif.Props.C07
import TempestVerif.Props.C04
import TempestVerif.Props.C12
import TempestVerif.Props.C09
import TempestVerif.Props.C06
import TempestVerif.Props.C20
import TempestVerif.Props.C05
import TempestVerif.Props.C13
import TempestVerif.Props.C03
import TempestVerif.Props.C19
import TempestVerif.Props.C11
import TempestVerif.Props.C01
import TempestVerif.Props.C15
import TempestVerif.Props.C15EM
import TempestVerif.Props.C08
import TempestVerif.Props.C02
import TempestVerif.Props.C10
import TempestVerif.Props.C14
import TempestVerif.Props.C17
import TempestVerif.Props.C18
import TempestVerif.Props.C05Warmup
import TempestVerif.Props.C04Round
import TempestVerif.Props.C05Pipeline
import TempestVerif.Props.C11Pipeline
import TempestVerif.Props.C07SM
import TempestVerif.Props.C07Cube
import TempestVerif.Props.C07LogLike
import TempestVerif.Props.C07Sites
import TempestVerif.Props.C13LogLike
import TempestVerif.Props.C13Run
import TempestVerif.Props.C13Pipeline
import TempestVerif.Props.C19Nu
import TempestVerif.Props.C19Twin
import TempestVerif.Props.C19Modes
import TempestVerif.Props.C20Audit
import TempestVerif.Props.C20Sites
import TempestVerif.Props.C20VolVar
import TempestVerif.Props.C20Round
import TempestVerif.Props.C20RelRound
import TempestVerif.Props.C10World
import TempestVerif.Props.C10Closed
import TempestVerif.Props.C10Round
import TempestVerif.Props.C10Source
import TempestVerif.Props.C08Resume
import TempestVerif.Props.C08Post
import TempestVerif.Props.C16Vec
import TempestVerif.Props.C16Py
import TempestVerif.Props.C16Acc
import TempestVerif.Props.C15Fit
import TempestVerif.Props.C15FitTotal
import TempestVerif.Props.C15Hier
import TempestVerif.Props.C15Replicate
import TempestVerif.Props.C04Keys
import TempestVerif.Props.C04Merge
import TempestVerif.Props.C04Post
import TempestVerif.Props.C04RoundQ
import TempestVerif.Props.C04Sites
import TempestVerif.Props.C06Loop
import TempestVerif.Props.C06X
import TempestVerif.Props.C06Sites
import TempestVerif.Props.C06Fp
import TempestVerif.Props.C06Pipeline
import TempestVerif.Props.C09Run
import TempestVerif.Props.C09Sites
import TempestVerif.Props.C09Graph
import TempestVerif.Props.C01Stat
import TempestVerif.Props.C01Meas
import TempestVerif.Props.C01Trim
import TempestVerif.Props.C01X
import TempestVerif.Props.C02Stat
import TempestVerif.Props.C02X
import TempestVerif.Props.C11SM
import TempestVerif.Props.C11Redraw
import TempestVerif.Props.C11Stat
import TempestVerif.Props.C11Law
import TempestVerif.Props.C11Final
import TempestVerif.Props.C12Run
import TempestVerif.Props.C12PostX
import TempestVerif.Props.C12Bridge
import TempestVerif.Props.C17Run
import TempestVerif.Props.C17Nested
import TempestVerif.Props.C17Sites
import TempestVerif.Props.C18Path
import TempestVerif.Props.C03Run
import TempestVerif.Props.C03Modes
import TempestVerif.Props.C03Inv
import TempestVerif.Props.C03InvD
import TempestVerif.Props.C03InvP
import TempestVerif.Props.C03InvR
import TempestVerif.Props.C03Cap
import TempestVerif.Props.C05Closed
import TempestVerif.Props.C05Resume
import TempestVerif.Props.C05ClosedEx
import TempestVerif.Props.C05Source
import TempestVerif.Props.C05Robust
import TempestVerif.Props.C05Ieee
import TempestVerif.Props.C14Valid
import TempestVerif.Props.C14Resume
import TempestVerif.Props.C14Step
import TempestVerif.Props.C06Source
import TempestVerif.Props.C04Source
import TempestVerif.Props.C19Source
import TempestVerif.Props.C20Source
import TempestVerif.Props.C16Source
import TempestVerif.Props.C15Source
import TempestVerif.Props.C11Source
import TempestVerif.Props.C13Source
import TempestVerif.Props.C13SourceTie
import TempestVerif.Props.C14Source
import TempestVerif.Props.C12Source
import TempestVerif.Props.C17Source
